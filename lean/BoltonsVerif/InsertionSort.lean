/-
Insertion sort by a Boolean order, for the directories whose models sort that way (C01 `sortBy`, C20 `sortDesc` / `canon`): the
result is a permutation of the input, and sorted when the order is total and transitive.  Core Lean only.
-/
namespace InsSort

def insBy {α : Type} (le : α → α → Bool) (x : α) : List α → List α
  | [] => [x]
  | y :: ys => if le x y then x :: y :: ys else y :: insBy le x ys

variable {α : Type} (le : α → α → Bool)

theorem insBy_perm (x : α) (l : List α) : (insBy le x l).Perm (x :: l) := by
  induction l with
  | nil => exact List.Perm.refl _
  | cons y ys ih =>
    simp only [insBy]
    split
    · exact List.Perm.refl _
    · exact (List.Perm.cons y ih).trans (List.Perm.swap x y ys)

theorem foldr_insBy_perm (l : List α) : (l.foldr (insBy le) []).Perm l := by
  induction l with
  | nil => exact List.Perm.refl _
  | cons x xs ih => exact (insBy_perm le x _).trans (List.Perm.cons x ih)

theorem insBy_sorted (htot : ∀ a b, le a b = true ∨ le b a = true)
    (htr : ∀ a b c, le a b = true → le b c = true → le a c = true) (x : α) (l : List α)
    (h : l.Pairwise (fun a b => le a b = true)) : (insBy le x l).Pairwise (fun a b => le a b = true) := by
  induction l with
  | nil => simp [insBy]
  | cons y ys ih =>
    simp only [List.pairwise_cons] at h
    simp only [insBy]
    split
    · rename_i hle
      refine List.pairwise_cons.mpr ⟨fun b hb => ?_, List.pairwise_cons.mpr h⟩
      rcases List.mem_cons.mp hb with rfl | hb
      · exact hle
      · exact htr _ _ _ hle (h.1 b hb)
    · rename_i hnle
      refine List.pairwise_cons.mpr ⟨fun b hb => ?_, ih h.2⟩
      rcases List.mem_cons.mp ((insBy_perm le x ys).mem_iff.mp hb) with rfl | hb'
      · exact (htot y b).resolve_right hnle
      · exact h.1 b hb'

theorem foldr_insBy_sorted (htot : ∀ a b, le a b = true ∨ le b a = true)
    (htr : ∀ a b c, le a b = true → le b c = true → le a c = true) (l : List α) :
    (l.foldr (insBy le) []).Pairwise (fun a b => le a b = true) := by
  induction l with
  | nil => exact List.Pairwise.nil
  | cons x xs ih => exact insBy_sorted le htot htr x _ ih

end InsSort
