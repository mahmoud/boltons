import BoltonsVerif.C02.Proofs
/-
C02 — the model cache (dict + ring) simulates the timestamp reference cache `Ref`:
same contents in the same dict order, same results, same counters, and the ring is the
contents sorted by stamp, so the head of the ring is the reference's `oldest` key.
-/
namespace C02
variable {K V : Type} [DecidableEq K]

theorem oldest_eq_none {stamp : K → Nat} {l : List K} (h : oldest stamp l = none) : l = [] := by
  cases l with
  | nil => rfl
  | cons x xs => simp only [oldest] at h; split at h <;> (try split at h) <;> cases h

theorem oldest_spec (stamp : K → Nat) (l : List K) (m : K) (h : oldest stamp l = some m) :
    m ∈ l ∧ ∀ k ∈ l, stamp m ≤ stamp k := by
  induction l generalizing m with
  | nil => cases h
  | cons x xs ih =>
    simp only [oldest] at h
    split at h
    · rename_i hn
      cases h; rw [oldest_eq_none hn]; simp
    · rename_i m' hm'
      have := ih m' hm'
      split at h <;> rename_i hle <;> cases h
      · exact ⟨by simp, fun k hk =>
          (List.mem_cons.1 hk).elim (fun e => e ▸ Nat.le_refl _) (fun hk => Nat.le_trans hle (this.2 k hk))⟩
      · exact ⟨List.mem_cons_of_mem _ this.1, fun k hk =>
          (List.mem_cons.1 hk).elim (fun e => e ▸ by omega) (this.2 k)⟩

theorem oldest_eq (stamp : K → Nat) (l : List K) (k : K) (hk : k ∈ l)
    (hmin : ∀ k' ∈ l, k' ≠ k → stamp k < stamp k') : oldest stamp l = some k := by
  induction l with
  | nil => simp at hk
  | cons x xs ih =>
    simp only [oldest]
    by_cases hx : x = k
    · subst hx
      split
      · rfl
      · rename_i m hm
        by_cases e : m = x
        · subst e; simp
        · have := hmin m (List.mem_cons_of_mem _ (oldest_spec _ _ _ hm).1) e
          simp [Nat.le_of_lt this]
    · have hk' : k ∈ xs := by simpa [Ne.symm hx] using hk
      have := ih hk' (fun k' h' => hmin k' (List.mem_cons_of_mem _ h'))
      rw [this]
      have hlt := hmin x (by simp) hx
      simp only []
      have : ¬ stamp x ≤ stamp k := by omega
      simp [this]

/-- ring order = stamp order -/
def Sorted (stamp : K → Nat) (l : List (K × V)) : Prop := l.Pairwise (fun a b => stamp a.1 < stamp b.1)

theorem sorted_snoc {stamp : K → Nat} {now : Nat} {l : List (K × V)} (hs : Sorted stamp l)
    (hb : ∀ k' ∈ keys l, stamp k' < now) {k : K} (hk : k ∉ keys l) (v : V) :
    Sorted (setStamp stamp k now) (l ++ [(k, v)]) ∧
    ∀ k' ∈ keys (l ++ [(k, v)]), setStamp stamp k now k' < now + 1 := by
  have hne : ∀ a ∈ l, a.1 ≠ k := fun a ha e => hk (e ▸ mem_keys_of_mem ha)
  constructor
  · unfold Sorted
    rw [List.pairwise_append]
    refine ⟨?_, by simp, ?_⟩
    · refine hs.imp_of_mem ?_
      intro a b ha hb' hab
      simp only [setStamp, hne a ha, hne b hb', if_false]; exact hab
    · intro a ha b hb'
      simp at hb'; subst hb'
      simp only [setStamp, hne a ha, if_false, if_true]
      exact hb _ (mem_keys_of_mem ha)
  · intro k' hk'
    simp only [keys_append, keys_cons, keys_nil, List.mem_append, List.mem_singleton] at hk'
    unfold setStamp
    split
    · omega
    · rcases hk' with h | h
      · exact Nat.lt_succ_of_lt (hb _ h)
      · contradiction


/-- the model cache simulates the reference cache; `bound` (every stamp is in the past) is what lets a newly
    stamped key go to the recent end of the ring (`sorted_snoc`) -/
structure Sim (c : Cache K V) (s : Ref K V) : Prop where
  lru : c.lru = s.lru
  max : c.max = s.max
  om : c.onMiss = s.onMiss
  d : c.d = s.ents
  hit : c.hit = s.hit
  miss : c.miss = s.miss
  soft : c.soft = s.soft
  log : c.omLog = s.omLog
  inv : Inv c
  sorted : Sorted s.stamp c.ring
  bound : ∀ k ∈ keys c.ring, s.stamp k < s.now

theorem Sim.initP (lru : Bool) (max : Nat) (om : Option (K → OmRes V)) (h : 1 ≤ max) :
    Sim (Cache.initP lru max om) (Ref.initP lru max om) :=
  ⟨rfl, rfl, rfl, rfl, rfl, rfl, rfl, rfl, Inv.initP lru max om h, List.Pairwise.nil, by simp [Cache.initP]⟩

theorem Sim.init (lru : Bool) (max : Nat) (om : Option (K → V)) (h : 1 ≤ max) :
    Sim (Cache.init lru max om) (Ref.init lru max om) := Sim.initP lru max _ h

theorem Sim.oldest_head {c : Cache K V} {s : Ref K V} (h : Sim c s) {e : K × V} {rest : List (K × V)}
    (hr : c.ring = e :: rest) : oldest s.stamp (keys s.ents) = some e.1 := by
  have hs := h.sorted
  rw [hr] at hs
  unfold Sorted at hs
  rw [List.pairwise_cons] at hs
  have hmem : ∀ k', k' ∈ keys c.d ↔ k' ∈ keys c.ring := by
    intro k'
    rw [← lookup_isSome_iff, ← lookup_isSome_iff, h.inv.sync.agree]
  apply oldest_eq
  · rw [← h.d, hmem, hr]; simp
  · intro k' hk' hne
    rw [← h.d, hmem, hr] at hk'
    simp only [keys_cons, List.mem_cons] at hk'
    rcases hk' with e' | hk'
    · exact absurd e' hne
    · obtain ⟨p, hp, rfl⟩ := List.mem_map.1 hk'
      exact hs.1 p hp

theorem Sim.lookup_eq {c : Cache K V} {s : Ref K V} (h : Sim c s) (k : K) :
    lookup k c.ring = lookup k s.ents := by rw [← h.d, h.inv.sync.agree]

theorem Sim.toFront_sorted {c : Cache K V} {s : Ref K V} (h : Sim c s) (k : K) (v : V) :
    Sorted (setStamp s.stamp k s.now) (toFront k v c.ring) ∧
    ∀ k' ∈ keys (toFront k v c.ring), setStamp s.stamp k s.now k' < s.now + 1 :=
  sorted_snoc (h.sorted.sublist (eraseKey_sublist k c.ring))
    (fun k' hk' => h.bound k' (mem_keys_eraseKey hk')) (not_mem_keys_eraseKey k c.ring h.inv.sync.nr) v

theorem Ref.makeRoom_room {s : Ref K V} {k : K} (h : (C02.lookup k s.ents).isSome ∨ s.ents.length < s.max) :
    s.makeRoom k = s.ents := by rw [Ref.makeRoom, if_pos h]

theorem Ref.makeRoom_full {s : Ref K V} {k m : K} (hk : C02.lookup k s.ents = none) (hfull : ¬ s.ents.length < s.max)
    (ho : oldest s.stamp (keys s.ents) = some m) : s.makeRoom k = eraseKey m s.ents := by
  rw [Ref.makeRoom, if_neg (by rw [hk]; simp [hfull]), ho]

theorem Sim.setitem {c : Cache K V} {s : Ref K V} (h : Sim c s) (k : K) (v : V) :
    Sim (c.setitem k v) (s.assign k v) := by
  have hinv := Cache.setitem_inv h.inv k v
  rcases Cache.setitem_cases h.inv k v with ⟨v0, hk, he⟩ | ⟨hk, hlt, he⟩ | ⟨e, rest, hk, hfull, hr, he⟩
  · -- re-assignment: nothing is evicted, the link moves to the recent end
    have hroom : s.makeRoom k = s.ents := Ref.makeRoom_room (Or.inl (by rw [← h.lookup_eq, hk]; rfl))
    have hsn := h.toFront_sorted k v
    rw [he] at hinv ⊢
    exact { h with
      d := by show dset k v c.d = dset k v (s.makeRoom k); rw [hroom, h.d]
      inv := hinv, sorted := hsn.1, bound := hsn.2 }
  · -- room left
    have hroom : s.makeRoom k = s.ents := Ref.makeRoom_room (Or.inr (by rw [← h.d, ← h.max]; exact hlt))
    have hsn := sorted_snoc h.sorted h.bound ((lookup_none_iff _ _).1 hk) v
    rw [he] at hinv ⊢
    exact { h with
      d := by show dset k v c.d = dset k v (s.makeRoom k); rw [hroom, h.d]
      inv := hinv, sorted := hsn.1, bound := hsn.2 }
  · -- full: the head of the ring is the reference's oldest key
    have hroom : s.makeRoom k = eraseKey e.1 s.ents :=
      Ref.makeRoom_full (by rw [← h.lookup_eq, hk]) (by rw [← h.d, ← h.max]; exact hfull) (h.oldest_head hr)
    have hs := h.sorted; rw [hr] at hs
    have hb := h.bound; rw [hr] at hb
    have hk' : k ∉ keys rest := by
      have := (lookup_none_iff _ _).1 hk; rw [hr] at this; simp at this; exact this.2
    have hsn := sorted_snoc (List.Pairwise.of_cons hs) (fun k' hk'' => hb k' (by simp [hk''])) hk' v
    rw [he] at hinv ⊢
    exact { h with
      d := by show dset k v (eraseKey e.1 c.d) = dset k v (s.makeRoom k); rw [hroom, h.d]
      inv := hinv, sorted := hsn.1, bound := hsn.2 }

theorem Sim.counters {c : Cache K V} {s : Ref K V} (h : Sim c s) (a b e : Nat) (l : List K) (hsm : e ≤ b) :
    Sim { c with hit := a, miss := b, soft := e, omLog := l }
        { s with hit := a, miss := b, soft := e, omLog := l } :=
  { h with hit := rfl, miss := rfl, soft := rfl, log := rfl, inv := { h.inv with soft_le := hsm } }

theorem Sim.remove {c : Cache K V} {s : Ref K V} (h : Sim c s) (k : K) : Sim (c.remove k) (s.remove k) :=
  { h with
    d := congrArg (eraseKey k) h.d
    inv := Cache.remove_inv h.inv k
    sorted := h.sorted.sublist (eraseKey_sublist k c.ring)
    bound := fun k' hk' => h.bound k' (mem_keys_eraseKey hk') }

theorem Ref.lookup_hit {s : Ref K V} {k : K} {v : V} (hk : C02.lookup k s.ents = some v) :
    s.lookup k = (if s.lru then { s with hit := s.hit + 1, stamp := setStamp s.stamp k s.now, now := s.now + 1 }
     else { s with hit := s.hit + 1 }, .val v) := by
  unfold Ref.lookup; rw [hk]

theorem Ref.lookup_miss {s : Ref K V} {k : K} (hk : C02.lookup k s.ents = none) (hom : s.onMiss = none) :
    s.lookup k = ({ s with miss := s.miss + 1 }, .keyError) := by
  unfold Ref.lookup; rw [hk, hom]

theorem Ref.lookup_onMiss {s : Ref K V} {k : K} {f : K → OmRes V} {v : V} (hk : C02.lookup k s.ents = none)
    (hom : s.onMiss = some f) (hf : f k = .ret v) :
    s.lookup k = (({ s with miss := s.miss + 1, omLog := s.omLog ++ [k] } : Ref K V).assign k v, .val v) := by
  unfold Ref.lookup; rw [hk, hom]; simp only [hf]

theorem Ref.lookup_onMiss_keyError {s : Ref K V} {k : K} {f : K → OmRes V} (hk : C02.lookup k s.ents = none)
    (hom : s.onMiss = some f) (hf : f k = .keyError) :
    s.lookup k = ({ s with miss := s.miss + 1, omLog := s.omLog ++ [k] }, .keyError) := by
  unfold Ref.lookup; rw [hk, hom]; simp only [hf]

theorem Ref.lookup_onMiss_error {s : Ref K V} {k : K} {f : K → OmRes V} (hk : C02.lookup k s.ents = none)
    (hom : s.onMiss = some f) (hf : f k = .error) :
    s.lookup k = ({ s with miss := s.miss + 1, omLog := s.omLog ++ [k] }, .raised) := by
  unfold Ref.lookup; rw [hk, hom]; simp only [hf]

theorem Sim.missed {c : Cache K V} {s : Ref K V} (h : Sim c s) (k : K) :
    Sim ({ c with miss := c.miss + 1, omLog := c.omLog ++ [k] } : Cache K V)
        ({ s with miss := s.miss + 1, omLog := s.omLog ++ [k] } : Ref K V) :=
  { h with miss := congrArg (· + 1) h.miss, log := congrArg (· ++ [k]) h.log, inv := h.inv.missed _ }

theorem Sim.getitem {c : Cache K V} {s : Ref K V} (h : Sim c s) (k : K) :
    Sim (c.getitem k).1 (s.lookup k).1 ∧ OutRel Sim (c.getitem k).2 (s.lookup k).2 := by
  have hl := h.lookup_eq k
  cases hk : lookup k c.ring with
  | some v =>
    rw [Cache.getitem_hit hk, Ref.lookup_hit (hl ▸ hk)]
    refine ⟨?_, OutRel.val v⟩
    by_cases hlru : c.lru = true
    · have hlru' : s.lru = true := h.lru ▸ hlru
      rw [if_pos hlru, if_pos hlru']
      have hsn := h.toFront_sorted k v
      exact { h with
        hit := congrArg (· + 1) h.hit
        inv := { h.inv with sync := h.inv.sync.touch hk }, sorted := hsn.1, bound := hsn.2 }
    · have hlru' : ¬ s.lru = true := h.lru ▸ hlru
      rw [if_neg hlru, if_neg hlru']
      exact { h with hit := congrArg (· + 1) h.hit, inv := { h.inv with } }
  | none =>
    cases hom : c.onMiss with
    | none =>
      rw [Cache.getitem_miss hk hom, Ref.lookup_miss (hl ▸ hk) (h.om ▸ hom)]
      exact ⟨{ h with miss := congrArg (· + 1) h.miss, inv := h.inv.missed _ }, OutRel.keyError⟩
    | some f =>
      cases hf : f k with
      | ret v =>
        rw [Cache.getitem_onMiss hk hom hf, Ref.lookup_onMiss (hl ▸ hk) (h.om ▸ hom) hf]
        exact ⟨(h.missed k).setitem k v, OutRel.val _⟩
      | keyError =>
        rw [Cache.getitem_onMiss_keyError hk hom hf, Ref.lookup_onMiss_keyError (hl ▸ hk) (h.om ▸ hom) hf]
        exact ⟨h.missed k, OutRel.keyError⟩
      | error =>
        rw [Cache.getitem_onMiss_error hk hom hf, Ref.lookup_onMiss_error (hl ▸ hk) (h.om ▸ hom) hf]
        exact ⟨h.missed k, OutRel.raised⟩

theorem Sim.copied {c : Cache K V} {s : Ref K V} (h : Sim c s) : Sim c.copied s.copied :=
  h.counters 0 0 0 [] (Nat.le_refl _)

theorem Sim.prims : PSim (K := K) (V := V) Cache.prim Ref.prim Sim Sim where
  items h := h.d
  setitem k v h := h.setitem k v
  remove h _ := h.remove _
  popLast {c s p} h hp := by
    have hp' : c.d.getLast? = some p := by rw [h.d]; exact hp
    show Sim { c with d := c.d.dropLast, ring := eraseKey p.1 c.ring } (s.remove p.1)
    rw [dropLast_eq_eraseKey h.inv.sync.nd hp']
    exact h.remove p.1
  clear h := { h with
    d := rfl, inv := { h.inv with sync := Sync.nil, cap := Nat.zero_le _ }
    sorted := List.Pairwise.nil, bound := fun _ hk => nomatch hk }
  copied h := h.copied

theorem Sim.update {c : Cache K V} {s : Ref K V} (h : Sim c s) (e : Arg K V) (kw : List (K × V)) :
    Sim (c.update e kw) (s.update e kw) := by
  exact Sim.prims.update h e kw


variable [DecidableEq V]

/-- ring model ~ reference cache, with `n` misses not yet matched by soft misses -/
def RSim (n : Nat) (c : Cache K V) (s : Ref K V) : Prop := Sim c s ∧ c.soft + n ≤ c.miss

theorem RSim.zero_iff {c : Cache K V} {s : Ref K V} : RSim 0 c s ↔ Sim c s :=
  ⟨fun h => h.1, fun h => ⟨h, h.inv.soft_le⟩⟩

/-- the second half of `RSim` is the miss budget that `Cache.machInv` carries -/
theorem RSim.invN {n : Nat} {c : Cache K V} {s : Ref K V} (h : RSim n c s) : InvN n c := ⟨h.1.inv, h.2⟩

theorem Sim.mach : MSim (Cache.mach (K := K) (V := V)) Ref.mach RSim Sim where
  weaken := fun h => ⟨h.1, (Cache.machInv.weaken h.invN).budget⟩
  log := fun h => h.1.log
  find := fun {n c s} k h => by
    show (lookup k c.ring).isSome = (lookup k s.ents).isSome
    rw [h.1.lookup_eq k]
  hit := fun {n c s} k h hf => by
    obtain ⟨v, hk, ho⟩ := Cache.getitem_found hf
    have hk' : lookup k s.ents = some v := by rw [← h.1.lookup_eq k]; exact hk
    exact ⟨⟨(h.1.getitem k).1, (Cache.machInv.hit k h.invN hf).1.budget⟩, v, ho,
      congrArg Prod.snd (Ref.lookup_hit hk')⟩
  missed := fun k h => ⟨h.1.missed k, (Cache.machInv.missed k h.invN).budget⟩
  setitem := fun k v h => ⟨h.1.setitem k v, (Cache.machInv.setitem k v h.invN).budget⟩
  soft := fun h =>
    have g := h.1
    have hb := Cache.machInv.soft h.invN
    ⟨{ g with soft := congrArg (· + 1) g.soft, inv := hb.inv }, hb.budget⟩
  step := fun op h hop => by
    have hs := Sim.prims.call h.1 op
    rw [← step_eq_call hop, ← Ref.step_eq_call hop] at hs
    exact ⟨⟨hs.1, (Cache.machInv.step op h.invN hop).1.budget⟩, hs.2⟩

theorem Sim.gsim : GSim (K := K) (V := V) RSim Sim Cache.getitem Ref.lookup := by
  intro n c s k h
  have hg := h.1.getitem k
  have hb := Cache.getitem_invN k h.invN
  exact ⟨⟨hg.1, hb.1.budget⟩, hg.2, fun e => ⟨hg.1, (hb.2 e).budget⟩⟩

theorem Sim.step {c : Cache K V} {s : Ref K V} (h : Sim c s) (op : Op K V) :
    Sim (step c op).1 (Ref.step s op).1 ∧ OutRel Sim (step c op).2 (Ref.step s op).2 := by
  have := Sim.mach.stepWith Sim.gsim (RSim.zero_iff.2 h) op
  rw [step_eq_stepWith, Ref.step_eq_stepWith] at this
  exact ⟨this.1.1, this.2⟩

omit [DecidableEq V] in
theorem Sim.updFrom {c o : Cache K V} {s t : Ref K V} (hc : Sim c s) (ho : Sim o t) (ks : List K) :
    Sim (updFrom c o ks).1 (Ref.updFrom s t ks).1 ∧ Sim (updFrom c o ks).2.1 (Ref.updFrom s t ks).2.1 ∧
    (updFrom c o ks).2.2 = (Ref.updFrom s t ks).2.2 := by
  induction ks generalizing c o s t with
  | nil => exact ⟨hc, ho, rfl⟩
  | cons k ks ih =>
    have hg := ho.getitem k
    rw [C02.updFrom, Ref.updFrom]
    generalize o.getitem k = r at hg ⊢
    generalize t.lookup k = r' at hg ⊢
    obtain ⟨o', out⟩ := r
    obtain ⟨t', out'⟩ := r'
    obtain ⟨hs, hout⟩ := hg
    cases hout with
    | val v => exact ih (hc.setitem k v) hs
    | _ => exact ⟨hc, hs, rfl⟩


/-- `WRel Sim`, written out -/
def WSim (w : List (Cache K V)) (ws : List (Ref K V)) : Prop :=
  w.length = ws.length ∧ ∀ (i : Nat) c s, w[i]? = some c → ws[i]? = some s → Sim c s

theorem WSim.single {c : Cache K V} {s : Ref K V} (h : Sim c s) : WSim [c] [s] := WRel.single h

theorem WSim.argOf {w : List (Cache K V)} {ws : List (Ref K V)} (h : WSim w ws) (i j : Nat) :
    C02.argOf w i j = Ref.argOf ws i j := by
  unfold C02.argOf Ref.argOf
  split
  · rfl
  · rcases WRel.get h j with ⟨h1, h2⟩ | ⟨c, s, h1, h2, hs⟩
    · rw [h1, h2]
    · rw [h1, h2]; simp [hs.d]

theorem wstep_on (w : List (Cache K V)) (i : Nat) (op : Op K V) :
    wstep w (.on i op) = rwstepG step wstep w (.on i op) := by
  rw [wstep, rwstepG]
  cases w[i]? with
  | none => rfl
  | some c => simp only []; cases step c op with | mk c' o => cases o <;> rfl

theorem Ref.wstep_on (w : List (Ref K V)) (i : Nat) (op : Op K V) :
    Ref.wstep w (.on i op) = rwstepG Ref.step Ref.wstep w (.on i op) := by
  rw [Ref.wstep, rwstepG]
  cases w[i]? with
  | none => rfl
  | some c => simp only []; cases Ref.step c op with | mk c' o => cases o <;> rfl

theorem WSim.step {w : List (Cache K V)} {ws : List (Ref K V)} (h : WSim w ws) (op : WOp K V) :
    WSim (wstep w op).1 (Ref.wstep ws op).1 ∧ OutRel Sim (wstep w op).2 (Ref.wstep ws op).2 := by
  cases op with
  | on i op => rw [wstep_on, Ref.wstep_on]; exact WRel.on (fun _ _ op hs => hs.step op) h i op
  | eqc i j =>
    rcases WRel.get h i with ⟨h1, h2⟩ | ⟨c, s, h1, h2, hs⟩
    · simp only [wstep, Ref.wstep, h1, h2]; exact ⟨h, OutRel.none⟩
    · simp only [wstep, Ref.wstep, h1, h2, h.argOf i j]
      exact ⟨h, (hs.step _).2⟩
  | nec i j =>
    rcases WRel.get h i with ⟨h1, h2⟩ | ⟨c, s, h1, h2, hs⟩
    · simp only [wstep, Ref.wstep, h1, h2]; exact ⟨h, OutRel.none⟩
    · simp only [wstep, Ref.wstep, h1, h2, h.argOf i j]
      exact ⟨h, (hs.step _).2⟩
  | updc i j kw =>
    rcases WRel.get h i with ⟨h1, h2⟩ | ⟨c, s, h1, h2, hs⟩
    · simp only [wstep, Ref.wstep, h1, h2]; exact ⟨h, OutRel.none⟩
    · rcases WRel.get h j with ⟨g1, g2⟩ | ⟨o, t, g1, g2, ht⟩
      · simp only [wstep, Ref.wstep, h1, h2, g1, g2]; exact ⟨h, OutRel.none⟩
      · simp only [wstep, Ref.wstep, h1, h2, g1, g2]
        by_cases e : i = j
        · simp only [e, if_true]; exact ⟨h, OutRel.none⟩
        · simp only [e, if_false]
          have hu := hs.updFrom ht (keys o.d)
          rw [ht.d] at hu ⊢
          generalize C02.updFrom c o (keys t.ents) = r at hu ⊢
          generalize Ref.updFrom s t (keys t.ents) = r' at hu ⊢
          obtain ⟨c', o', b⟩ := r
          obtain ⟨s', t', b'⟩ := r'
          obtain ⟨u1, u2, u3⟩ := hu
          have hb : b = b' := u3
          subst hb
          cases b with
          | true => exact ⟨(WRel.set (WRel.set h i (Sim.prims.setAll u1 kw)) j u2 : WSim _ _), OutRel.none⟩
          | false => exact ⟨(WRel.set (WRel.set h i u1) j u2 : WSim _ _), OutRel.keyError⟩

theorem WSim.run {w : List (Cache K V)} {ws : List (Ref K V)} (h : WSim w ws) (ops : List (WOp K V)) :
    WSim (wrun w ops) (Ref.wrun ws ops) ∧ (wouts w ops).map Out.shape = (Ref.wouts ws ops).map Out.shape := by
  unfold wrun Ref.wrun
  induction ops generalizing w ws with
  | nil => exact ⟨h, rfl⟩
  | cons op ops ih =>
    have hs := h.step op
    have := ih hs.1
    exact ⟨this.1, by simp only [wouts, Ref.wouts, List.map_cons, hs.2.shape_eq, this.2]⟩

theorem WSim.rwstep (P : List K → K → OmProg K V) (fuel : Nat) {w : List (Cache K V)} {ws : List (Ref K V)}
    (h : WSim w ws) (op : WOp K V) :
    WSim (rwstep P fuel w op).1 (Ref.rwstep P fuel ws op).1 ∧
    OutRel Sim (rwstep P fuel w op).2 (Ref.rwstep P fuel ws op).2 :=
  WRel.rwstepG
    (fun _ _ op hr =>
      have hst := Sim.mach.rstep P fuel (RSim.zero_iff.2 hr) op
      ⟨hst.1.1, hst.2⟩)
    (fun _ _ op hw => WSim.step hw op) h op

end C02
