import BoltonsVerif.C02.Facts
/-
C02 — `dict.__eq__` decides equality of mappings; caches that agree on class, capacity,
on_miss, dict and ring behave alike for ever (used for copy()).
-/
namespace C02
variable {K V : Type} [DecidableEq K]

variable [DecidableEq V]

theorem dictEq_iff {a b : List (K × V)} (ha : (keys a).Nodup) (hb : (keys b).Nodup) :
    dictEq a b = true ↔ ∀ k, lookup k a = lookup k b := by
  unfold dictEq
  simp only [Bool.and_eq_true, beq_iff_eq, List.all_eq_true]
  constructor
  · rintro ⟨hl, h⟩; exact agree_of_sub ha hb hl h
  · intro h
    refine ⟨length_eq_of_agree ha hb h, fun p hp => ?_⟩
    rw [← h]; exact lookup_of_mem ha hp


/-! two caches with the same class, capacity, on_miss, dict and ring (counters may differ)
    behave alike for ever: this is what "copy() has the same eviction order" means observably -/
omit [DecidableEq V] in
structure SameCore (a b : Cache K V) : Prop where
  lru : a.lru = b.lru
  max : a.max = b.max
  om : a.onMiss = b.onMiss
  d : a.d = b.d
  ring : a.ring = b.ring

omit [DecidableEq V] in
theorem SameCore.refl (a : Cache K V) : SameCore a a := ⟨rfl, rfl, rfl, rfl, rfl⟩

omit [DecidableEq V] in
theorem SameCore.copied (c : Cache K V) : SameCore c.copied c := ⟨rfl, rfl, rfl, rfl, rfl⟩

omit [DecidableEq V] in
theorem SameCore.setitem {a b : Cache K V} (h : SameCore a b) (k : K) (v : V) :
    SameCore (a.setitem k v) (b.setitem k v) := by
  unfold Cache.setitem
  rw [h.ring, h.d, h.max]
  cases lookup k b.ring with
  | some _ => exact { h with max := rfl, d := rfl, ring := rfl }
  | none =>
    simp only []
    split
    · exact { h with max := rfl, d := rfl, ring := rfl }
    · cases b.ring with
      | nil => exact h
      | cons e rest => exact { h with max := rfl, d := rfl, ring := rfl }

omit [DecidableEq V] in
theorem SameCore.getitem {a b : Cache K V} (h : SameCore a b) (k : K) :
    SameCore (a.getitem k).1 (b.getitem k).1 ∧ (a.getitem k).2 = (b.getitem k).2 := by
  unfold Cache.getitem
  rw [h.ring, h.om, h.lru]
  cases lookup k b.ring with
  | some v => exact ⟨{ h with lru := rfl, om := rfl, ring := rfl }, rfl⟩
  | none =>
    cases b.onMiss with
    | none => exact ⟨{ h with lru := rfl, om := rfl, ring := rfl }, rfl⟩
    | some f =>
      simp only []
      cases f k with
      | ret v =>
        refine ⟨?_, rfl⟩
        apply SameCore.setitem
        exact { h with lru := rfl, om := rfl, ring := rfl }
      | _ => exact ⟨{ h with lru := rfl, om := rfl, ring := rfl }, rfl⟩

omit [DecidableEq V] in
theorem SameCore.prims : PSim (K := K) (V := V) Cache.prim Cache.prim SameCore SameCore where
  items h := h.d
  setitem k v h := h.setitem k v
  remove {a b k _} h _ := { h with d := congrArg (eraseKey k) h.d, ring := congrArg (eraseKey k) h.ring }
  popLast {a b p} h _ := { h with d := congrArg List.dropLast h.d, ring := congrArg (eraseKey p.1) h.ring }
  clear h := { h with d := rfl, ring := rfl }
  copied h := { h with }

/-- the ring-model machine with the callback's history hidden (`SameCore` does not relate the logs) -/
def Cache.machNoLog : Mach K V (Cache K V) := { (Cache.mach (K := K) (V := V)) with log := fun _ => [] }

theorem SameCore.mach : MSim (Cache.machNoLog (K := K) (V := V)) Cache.machNoLog (fun _ => SameCore) SameCore where
  weaken := fun h => h
  log := fun _ => rfl
  find := fun {n a b} k h => by
    show (lookup k a.ring).isSome = (lookup k b.ring).isSome
    rw [h.ring]
  hit := fun {n a b} k h hf => by
    obtain ⟨v, _, ha⟩ := Cache.getitem_found hf
    have hg := h.getitem k
    exact ⟨hg.1, v, ha, hg.2 ▸ ha⟩
  missed := fun k h => { h with }
  setitem := fun k v h => h.setitem k v
  soft := fun h => { h with }
  step := fun {n a b} op h hop => by
    have hs := SameCore.prims.call h op
    rwa [← step_eq_call hop, ← step_eq_call hop] at hs

theorem SameCore.gsim : GSim (K := K) (V := V) (fun _ => SameCore) SameCore Cache.getitem Cache.getitem :=
  fun _ a b k h => ⟨(h.getitem k).1, (h.getitem k).2 ▸ OutRel.refl_of _ (fun m _ => SameCore.refl m), fun _ => (h.getitem k).1⟩

theorem Cache.stepWith_noLog (g : Cache K V → K → Cache K V × Out K V (Cache K V)) (c : Cache K V) (op : Op K V) :
    Cache.machNoLog.stepWith g c op = Cache.mach.stepWith g c op := by
  cases op <;> rfl

theorem SameCore.step {a b : Cache K V} (h : SameCore a b) (op : Op K V) :
    SameCore (step a op).1 (step b op).1 ∧ OutRel SameCore (step a op).2 (step b op).2 := by
  have := SameCore.mach.stepWith SameCore.gsim (n := 0) h op
  simp only [Cache.stepWith_noLog, step_eq_stepWith] at this
  exact this

theorem SameCore.run {a b : Cache K V} (h : SameCore a b) (ops : List (Op K V)) :
    SameCore (run a ops) (run b ops) ∧ (outs a ops).map Out.shape = (outs b ops).map Out.shape := by
  unfold C02.run
  induction ops generalizing a b with
  | nil => exact ⟨h, rfl⟩
  | cons op ops ih =>
    have hs := h.step op
    have := ih hs.1
    exact ⟨this.1, by simp only [outs, List.map_cons, hs.2.shape_eq, this.2]⟩

end C02
