import BoltonsVerif.C02.LLFrameCalls
/-
C02 — property theorems for the LRI / LRU model, with non-vacuity examples.

Histories are lists of world operations `WOp` (a dict-API call on cache number i, `==` / `!=`
between two caches, or `update` / `|=` of one cache from another); cache 0 is the freshly constructed cache (a constructor
call with `values=…` is the history that starts with `update`), every `copy()` adds a
cache.  `reach … ops` is the world after the history, so "for all ops" is "after every
step of every history".  `max ≥ 1` is what the constructor enforces.
-/
namespace C02
variable {K V : Type} [DecidableEq K] [DecidableEq V]

/-- the caches that exist after history `ops` on a fresh `LRI`/`LRU(max_size=max, on_miss=om)` -/
abbrev reach (lru : Bool) (max : Nat) (om : Option (K → OmRes V)) (ops : List (WOp K V)) : List (Cache K V) :=
  wrun [Cache.initP lru max om] ops

/-- the same history on the reference cache of the statement (`Spec.lean`) -/
abbrev refReach (lru : Bool) (max : Nat) (om : Option (K → OmRes V)) (ops : List (WOp K V)) : List (Ref K V) :=
  Ref.wrun [Ref.initP lru max om] ops

/-- after every history the caches simulate the reference caches (same contents in the same
    dict order, same counters, ring = contents in stamp order) -/
theorem refines_ref (lru : Bool) (max : Nat) (hmax : 1 ≤ max) (om : Option (K → OmRes V)) (ops : List (WOp K V)) :
    WSim (reach lru max om ops) (refReach lru max om ops) :=
  ((WSim.single (Sim.initP lru max om hmax)).run ops).1

/-- contents (and iteration order) of every cache equal those of the reference cache, in which a
    new key entering a full cache evicts exactly the key whose latest insertion-or-assignment
    (LRI) / insertion, assignment or successful lookup (LRU) is oldest -/
theorem contents_eq_ref (lru : Bool) (max : Nat) (hmax : 1 ≤ max) (om : Option (K → OmRes V)) (ops : List (WOp K V)) :
    (reach lru max om ops).map (·.d) = (refReach lru max om ops).map (·.ents) :=
  (refines_ref lru max hmax om ops).contents

/-- every call returns what the reference cache returns (value, KeyError, item, bool, length,
    iteration order; for copy(): "a new cache") -/
theorem results_eq_ref (lru : Bool) (max : Nat) (hmax : 1 ≤ max) (om : Option (K → OmRes V)) (ops : List (WOp K V)) :
    (wouts [Cache.initP lru max om] ops).map Out.shape =
    (Ref.wouts [Ref.initP lru max om] ops).map Out.shape :=
  ((WSim.single (Sim.initP lru max om hmax)).run ops).2

/-- hit / miss / soft-miss counters and the record of on_miss calls equal the reference's -/
theorem counters_eq_ref (lru : Bool) (max : Nat) (hmax : 1 ≤ max) (om : Option (K → OmRes V)) (ops : List (WOp K V)) :
    (reach lru max om ops).map (fun c => (c.hit, c.miss, c.soft, c.omLog)) =
    (refReach lru max om ops).map (fun s => (s.hit, s.miss, s.soft, s.omLog)) :=
  (refines_ref lru max hmax om ops).counters

/-- the reference's eviction victim really is a stored key with the smallest stamp -/
theorem ref_victim_is_oldest (stamp : K → Nat) (l : List K) (m : K) (h : oldest stamp l = some m) :
    m ∈ l ∧ ∀ k ∈ l, stamp m ≤ stamp k :=
  oldest_spec stamp l m h

/-- the ring of every cache is its contents in the order of the reference's stamps (oldest
    first): the ring head is the key whose latest insertion / assignment / (LRU) lookup is oldest -/
theorem ring_is_recency_order (lru : Bool) (max : Nat) (hmax : 1 ≤ max) (om : Option (K → OmRes V))
    (ops : List (WOp K V)) (c : Cache K V) (hc : c ∈ reach lru max om ops) :
    ∃ s ∈ refReach lru max om ops, c.d = s.ents ∧ c.ring.Perm s.ents ∧
      c.ring.Pairwise (fun a b => s.stamp a.1 < s.stamp b.1) := by
  obtain ⟨s, hs, h⟩ := WRel.of_mem (refines_ref lru max hmax om ops) hc
  exact ⟨s, hs, h.d, h.d ▸ h.inv.sync.perm.symm, h.sorted⟩

/-- the reference cache by itself: assigning to a present key, or while there is room, touches
    no other key; a new key entering a full cache removes exactly the key with the oldest stamp;
    the assigned key gets the current time as its stamp, no other stamp changes -/
theorem ref_assign_evicts_oldest (s : Ref K V) (hn : (keys s.ents).Nodup) (hmax : 1 ≤ s.max) (k : K) (v : V) :
    lookup k (s.assign k v).ents = some v ∧
    (s.assign k v).stamp k = s.now ∧ (∀ k', k' ≠ k → (s.assign k v).stamp k' = s.stamp k') ∧
    s.now < (s.assign k v).now ∧
    ((lookup k s.ents).isSome ∨ s.ents.length < s.max →
      ∀ k', k' ≠ k → lookup k' (s.assign k v).ents = lookup k' s.ents) ∧
    (lookup k s.ents = none → ¬ s.ents.length < s.max →
      ∃ m, oldest s.stamp (keys s.ents) = some m ∧ (∀ k' ∈ keys s.ents, s.stamp m ≤ s.stamp k') ∧
        lookup m (s.assign k v).ents = none ∧
        ∀ k', k' ≠ m → k' ≠ k → lookup k' (s.assign k v).ents = lookup k' s.ents) := by
  refine ⟨lookup_dset_self _ _ _, by simp [Ref.assign, setStamp], ?_, by simp [Ref.assign], ?_, ?_⟩
  · intro k' h; simp [Ref.assign, setStamp, h]
  · intro h k' hne
    show lookup k' (dset k v (s.makeRoom k)) = _
    rw [lookup_dset_ne hne, Ref.makeRoom_room h]
  · intro hk hfull
    cases ho : oldest s.stamp (keys s.ents) with
    | none =>
      have : s.ents = [] := List.map_eq_nil_iff.1 (oldest_eq_none ho)
      rw [this] at hfull; simp at hfull; omega
    | some m =>
      have hm := oldest_spec s.stamp _ m ho
      have hd : (s.assign k v).ents = dset k v (eraseKey m s.ents) :=
        congrArg (dset k v) (Ref.makeRoom_full hk hfull ho)
      have hmk : m ≠ k := by
        intro e; rw [e] at hm; exact (lookup_none_iff _ _).1 hk hm.1
      refine ⟨m, rfl, hm.2, ?_, ?_⟩
      · rw [hd, lookup_dset_ne hmk, lookup_eraseKey_self _ _ hn]
      · intro k' h1 h2; rw [hd, lookup_dset_ne h2, lookup_eraseKey_ne h1]

theorem reachable_inv (lru : Bool) (max : Nat) (hmax : 1 ≤ max) (om : Option (K → OmRes V))
    (ops : List (WOp K V)) (c : Cache K V) (hc : c ∈ reach lru max om ops) : Inv c := by
  obtain ⟨s, _, h⟩ := WRel.of_mem (refines_ref lru max hmax om ops) hc
  exact h.inv

/-- class, capacity and on_miss of every cache of the world (copies included) are the
    constructor's -/
theorem config_constant (lru : Bool) (max : Nat) (om : Option (K → OmRes V)) (ops : List (WOp K V))
    (c : Cache K V) (hc : c ∈ reach lru max om ops) : c.lru = lru ∧ c.max = max ∧ c.onMiss = om := by
  have := wrun_config (w := [Cache.initP lru max om]) (cfg := (lru, max, om))
    (by intro c hc; simp at hc; subst hc; rfl) ops c hc
  simp only [Cache.config, Prod.mk.injEq] at this
  exact this

/-- an LRI / LRU never holds more than max_size items -/
theorem size_le_max (lru : Bool) (max : Nat) (hmax : 1 ≤ max) (om : Option (K → OmRes V))
    (ops : List (WOp K V)) (c : Cache K V) (hc : c ∈ reach lru max om ops) : c.d.length ≤ max := by
  have h := (reachable_inv lru max hmax om ops c hc).cap
  rwa [(config_constant lru max om ops c hc).2.1] at h

/-- dict, key->link table and ring describe the same mapping: same keys without duplicates,
    same values, and the ring is a permutation of the dict items -/
theorem ring_perm_keys (lru : Bool) (max : Nat) (hmax : 1 ≤ max) (om : Option (K → OmRes V))
    (ops : List (WOp K V)) (c : Cache K V) (hc : c ∈ reach lru max om ops) :
    c.ring.Perm c.d ∧ (keys c.ring).Nodup ∧ (keys c.d).Nodup ∧ ∀ k, lookup k c.d = lookup k c.ring := by
  have h := (reachable_inv lru max hmax om ops c hc).sync
  exact ⟨h.perm.symm, h.nr, h.nd, h.agree⟩

/-! ### lookups: results, counters, on_miss  (`c` is any cache satisfying the invariant, e.g.
    any reachable one by `reachable_inv`) -/

/-- a key that is not in the cache (never inserted, evicted or removed) is never returned:
    without on_miss, `c[k]` raises KeyError and get / setdefault answer with the caller's
    default; that is one miss and, for get / setdefault, one soft miss -/
theorem absent_not_returned {c : Cache K V} (hi : Inv c) {op : Op K V} {k : K}
    (hop : op.lookupKey = some k) (hk : lookup k c.d = none) (hom : c.onMiss = none) :
    (step c op).2 = (match op.dflt with | some d => .val d | none => .keyError) ∧
    (step c op).1.hit = c.hit ∧ (step c op).1.miss = c.miss + 1 ∧
    (step c op).1.soft = c.soft + (if op.dflt.isSome then 1 else 0) ∧ (step c op).1.omLog = c.omLog :=
  step_lookup_keyError hop (Cache.getitem_miss (hi.sync.agree k ▸ hk) hom)

/-- … and `in`, `pop` do not find it either -/
theorem absent_not_found (c : Cache K V) {k : K} (hk : lookup k c.d = none) (d : Option V) :
    (step c (.contains k)).2 = .bool false ∧
    (step c (.pop k d)).2 = (match d with | some v => .val v | none => .keyError) ∧
    (step c (.delitem k)).2 = .keyError := by
  simp only [step, hk]
  cases d <;> simp

/-- removed keys are gone: after `del c[k]` / `c.pop(k)` the key is absent, other keys are untouched -/
theorem removed_is_absent {c : Cache K V} (hi : Inv c) (k : K) (d : Option V) :
    lookup k (step c (.delitem k)).1.d = none ∧ lookup k (step c (.pop k d)).1.d = none ∧
    ∀ k', k' ≠ k → lookup k' (step c (.delitem k)).1.d = lookup k' c.d ∧
                   lookup k' (step c (.pop k d)).1.d = lookup k' c.d := by
  simp only [step]
  cases hk : lookup k c.d with
  | none => cases d <;> simp [hk]
  | some v =>
    simp only []
    exact ⟨lookup_eraseKey_self k c.d hi.sync.nd, lookup_eraseKey_self k c.d hi.sync.nd,
      fun k' h => ⟨lookup_eraseKey_ne h c.d, lookup_eraseKey_ne h c.d⟩⟩

/-- `popitem()` returns an item of the cache and removes exactly that key -/
theorem popitem_removes {c : Cache K V} (hi : Inv c) {k : K} {v : V}
    (h : (step c .popitem).2 = .item k v) :
    lookup k c.d = some v ∧ lookup k (step c .popitem).1.d = none ∧
    (∀ k', k' ≠ k → lookup k' (step c .popitem).1.d = lookup k' c.d) := by
  simp only [step] at h ⊢
  cases hp : c.d.getLast? with
  | none => rw [hp] at h; simp at h
  | some p =>
    rw [hp] at h; simp at h
    obtain ⟨rfl, rfl⟩ := h
    simp only []
    rw [dropLast_eq_eraseKey hi.sync.nd hp]
    exact ⟨lookup_of_mem hi.sync.nd (List.mem_of_getLast? hp), lookup_eraseKey_self _ _ hi.sync.nd,
      fun k' h' => lookup_eraseKey_ne h' _⟩

/-- `popitem()` on an empty cache raises KeyError; `clear()` empties the cache -/
theorem popitem_empty_clear (c : Cache K V) :
    (c.d = [] → (step c .popitem).2 = .keyError) ∧ (step c .clear).1.d = [] ∧ (step c .clear).1.ring = [] := by
  refine ⟨fun h => ?_, rfl, rfl⟩
  simp [step, h]

/-- inserting a NEW key into a FULL cache evicts the head of the ring — by
    `ring_is_recency_order` the key whose latest insertion / assignment / (LRU) lookup is oldest
    — and only it; the size stays max_size -/
theorem full_insert_evicts_ring_head {c : Cache K V} (hi : Inv c) (k : K) (v : V)
    (hk : lookup k c.d = none) (hfull : ¬ c.d.length < c.max) :
    ∃ e rest, c.ring = e :: rest ∧ lookup e.1 (c.setitem k v).d = none ∧
      (∀ k', k' ≠ e.1 → k' ≠ k → lookup k' (c.setitem k v).d = lookup k' c.d) ∧
      lookup k (c.setitem k v).d = some v ∧ (c.setitem k v).d.length = c.d.length := by
  rcases Cache.setitem_cases hi k v with ⟨_, h0, _⟩ | ⟨_, hlt, _⟩ | ⟨e, rest, hkr, _, hr, he⟩
  · rw [← hi.sync.agree, hk] at h0; cases h0
  · exact absurd hlt hfull
  · have hne : e.1 ≠ k := by
      intro e'
      rw [hr] at hkr; simp [lookup, e'] at hkr
    have hed : (lookup e.1 c.d).isSome := by rw [hi.sync.agree, hr]; simp [lookup]
    have hd : (c.setitem k v).d = dset k v (eraseKey e.1 c.d) := by rw [he]
    refine ⟨e, rest, hr, ?_, ?_, setitem_lookup_self hi k v, ?_⟩
    · rw [hd, lookup_dset_ne hne, lookup_eraseKey_self _ _ hi.sync.nd]
    · intro k' h1 h2
      rw [hd, lookup_dset_ne h2, lookup_eraseKey_ne h1]
    · rw [hd, length_dset, lookup_eraseKey_ne (Ne.symm hne), hk, length_eraseKey]
      simp only [Option.isSome_none, Bool.false_eq_true, if_false, hed, if_true]
      have : c.d.length ≠ 0 := by
        intro h0; rw [List.length_eq_zero_iff.1 h0] at hed; simp [lookup] at hed
      omega

/-- assigning to a present key, or inserting while there is room, evicts nothing -/
theorem other_insert_evicts_nothing {c : Cache K V} (hi : Inv c) (k : K) (v : V)
    (h : (lookup k c.d).isSome ∨ c.d.length < c.max) :
    lookup k (c.setitem k v).d = some v ∧ ∀ k', k' ≠ k → lookup k' (c.setitem k v).d = lookup k' c.d := by
  refine ⟨setitem_lookup_self hi k v, fun k' hne => ?_⟩
  rcases Cache.setitem_cases hi k v with ⟨_, _, he⟩ | ⟨_, _, he⟩ | ⟨_, _, hk, hfull, _, _⟩
  · rw [he]; exact lookup_dset_ne hne v c.d
  · rw [he]; exact lookup_dset_ne hne v c.d
  · rw [← hi.sync.agree] at hk
    rcases h with h | h
    · rw [hk] at h; cases h
    · exact absurd h hfull

/-- a lookup that finds the key returns the stored value, counts one hit, calls nothing -/
theorem found_is_hit {c : Cache K V} (hi : Inv c) {op : Op K V} {k : K} {v : V}
    (hop : op.lookupKey = some k) (hk : lookup k c.d = some v) :
    (step c op).2 = .val v ∧ (step c op).1.hit = c.hit + 1 ∧ (step c op).1.miss = c.miss ∧
    (step c op).1.soft = c.soft ∧ (step c op).1.omLog = c.omLog ∧ (step c op).1.d = c.d := by
  rw [step_lookup_pass hop (Cache.getitem_hit (hi.sync.agree k ▸ hk)) nofun]
  exact ⟨rfl, rfl, rfl, rfl, rfl, rfl⟩

/-- when on_miss returns, its result is returned and cached (one miss, no soft miss) -/
theorem on_miss_result_cached {c : Cache K V} (hi : Inv c) {op : Op K V} {k : K} {f : K → OmRes V} {v : V}
    (hop : op.lookupKey = some k) (hk : lookup k c.d = none) (hom : c.onMiss = some f) (hf : f k = .ret v) :
    (step c op).2 = .val v ∧ lookup k (step c op).1.d = some v ∧
    (step c op).1.hit = c.hit ∧ (step c op).1.miss = c.miss + 1 ∧ (step c op).1.soft = c.soft := by
  have hi' : Inv ({ c with miss := c.miss + 1, omLog := c.omLog ++ [k] } : Cache K V) :=
    hi.missed _
  rw [step_lookup_pass hop (Cache.getitem_onMiss (hi.sync.agree k ▸ hk) hom hf) nofun]
  exact ⟨rfl, setitem_lookup_self hi' k v, setitem_hit .., setitem_miss .., setitem_soft ..⟩

/-- when on_miss raises KeyError the lookup is still a miss (counted before on_miss is called):
    `c[k]` raises KeyError, get / setdefault answer with the caller's default and count a soft
    miss on top of the miss — so soft_miss_count cannot overtake miss_count -/
theorem on_miss_keyError_is_a_miss {c : Cache K V} (hi : Inv c) {op : Op K V} {k : K} {f : K → OmRes V}
    (hop : op.lookupKey = some k) (hk : lookup k c.d = none) (hom : c.onMiss = some f) (hf : f k = .keyError) :
    (step c op).2 = (match op.dflt with | some d => .val d | none => .keyError) ∧
    (step c op).1.hit = c.hit ∧ (step c op).1.miss = c.miss + 1 ∧
    (step c op).1.soft = c.soft + (if op.dflt.isSome then 1 else 0) ∧
    (step c op).1.omLog = c.omLog ++ [k] :=
  step_lookup_keyError hop (Cache.getitem_onMiss_keyError (hi.sync.agree k ▸ hk) hom hf)

/-- when on_miss raises any other exception it propagates (also out of get / setdefault); the
    lookup is a miss, not a soft miss, and nothing is cached -/
theorem on_miss_error_propagates {c : Cache K V} (hi : Inv c) {op : Op K V} {k : K} {f : K → OmRes V}
    (hop : op.lookupKey = some k) (hk : lookup k c.d = none) (hom : c.onMiss = some f) (hf : f k = .error) :
    (step c op).2 = .raised ∧ (step c op).1.hit = c.hit ∧ (step c op).1.miss = c.miss + 1 ∧
    (step c op).1.soft = c.soft ∧ (step c op).1.omLog = c.omLog ++ [k] ∧ (step c op).1.d = c.d := by
  rw [step_lookup_pass hop (Cache.getitem_onMiss_error (hi.sync.agree k ▸ hk) hom hf) nofun]
  exact ⟨rfl, rfl, rfl, rfl, rfl, rfl⟩

/-- on_miss is called exactly for lookups of absent keys: `omLog` grows by `[k]` iff the
    operation is a lookup of a key that is absent and on_miss is configured -/
theorem on_miss_called_iff_absent {c : Cache K V} (hi : Inv c) (op : Op K V) :
    (step c op).1.omLog = c.omLog ++
      (match op.lookupKey with
       | some k => if (lookup k c.d).isNone ∧ c.onMiss.isSome then [k] else []
       | none => []) := by
  cases hop : op.lookupKey with
  | none => simp [(step_nonlookup_counters c op hop).log]
  | some k =>
    cases hk : lookup k c.d with
    | some v => simp [(found_is_hit hi hop hk).2.2.2.2.1, hk]
    | none =>
      cases hom : c.onMiss with
      | none => simp [(absent_not_returned hi hop hk hom).2.2.2.2, hk]
      | some f =>
        cases hf : f k with
        | ret v =>
          rw [step_lookup_pass hop (Cache.getitem_onMiss (hi.sync.agree k ▸ hk) hom hf) nofun]
          simp [hk, hom]
        | keyError => simp [(on_miss_keyError_is_a_miss hi hop hk hom hf).2.2.2.2, hk]
        | error => simp [(on_miss_error_propagates hi hop hk hom hf).2.2.2.2.1, hk]

/-- LRI: a successful lookup does not change the eviction order; LRU: it moves the key to the
    most-recent end of the ring (and nothing else) -/
theorem lookup_refreshes_only_lru {c : Cache K V} (hi : Inv c) {op : Op K V} {k : K} {v : V}
    (hop : op.lookupKey = some k) (hk : lookup k c.d = some v) :
    (step c op).1.ring = if c.lru then toFront k v c.ring else c.ring := by
  rw [step_lookup_pass hop (Cache.getitem_hit (hi.sync.agree k ▸ hk)) nofun]

/-- insertion or assignment always makes the key the most recent one (LRI and LRU alike) -/
theorem assignment_refreshes {c : Cache K V} (hi : Inv c) (k : K) (v : V) :
    (c.setitem k v).ring.getLast? = some (k, v) := by
  obtain ⟨r, d', he⟩ := Cache.setitem_shape hi k v
  rw [he]; simp

/-- on_miss does not supply a value for `k`: there is none, or it raises KeyError -/
def Cache.unanswered (c : Cache K V) (k : K) : Bool :=
  match c.onMiss with
  | none => true
  | some f => match f k with
    | .keyError => true
    | _ => false

/-- what one call adds to (hit, miss, soft_miss) according to the statement: a lookup that finds
    the key is a hit, one that does not is a miss — whatever on_miss then does —, and a miss
    answered by the caller's default (get / setdefault when on_miss supplies no value) is also a
    soft miss -/
def delta (c : Cache K V) (op : Op K V) : Nat × Nat × Nat :=
  match op.lookupKey with
  | none => (0, 0, 0)
  | some k =>
    if (lookup k c.d).isSome then (1, 0, 0)
    else (0, 1, if c.unanswered k ∧ op.dflt.isSome then 1 else 0)

/-- the lookups of a whole history on one cache, counted as the statement counts them -/
def tally (c : Cache K V) : List (Op K V) → Nat × Nat × Nat
  | [] => (0, 0, 0)
  | op :: ops =>
    ((delta c op).1 + (tally (step c op).1 ops).1,
     (delta c op).2.1 + (tally (step c op).1 ops).2.1,
     (delta c op).2.2 + (tally (step c op).1 ops).2.2)

theorem counters_step {c : Cache K V} (hi : Inv c) (op : Op K V) :
    (step c op).1.hit = c.hit + (delta c op).1 ∧ (step c op).1.miss = c.miss + (delta c op).2.1 ∧
    (step c op).1.soft = c.soft + (delta c op).2.2 := by
  unfold delta
  cases hop : op.lookupKey with
  | none => have := step_nonlookup_counters c op hop; simp [this.hit, this.miss, this.soft]
  | some k =>
    cases hk : lookup k c.d with
    | some v => have := found_is_hit hi hop hk; simp [this.2.1, this.2.2.1, this.2.2.2.1, hk]
    | none =>
      cases hom : c.onMiss with
      | none =>
        have := absent_not_returned hi hop hk hom
        simp [this.2.1, this.2.2.1, this.2.2.2.1, hk, hom, Cache.unanswered]
      | some f =>
        cases hf : f k with
        | ret v =>
          have := on_miss_result_cached hi hop hk hom hf
          simp [this.2.2.1, this.2.2.2.1, this.2.2.2.2, hk, hom, hf, Cache.unanswered]
        | keyError =>
          have := on_miss_keyError_is_a_miss hi hop hk hom hf
          simp [this.2.1, this.2.2.1, this.2.2.2.1, hk, hom, hf, Cache.unanswered]
        | error =>
          have := on_miss_error_propagates hi hop hk hom hf
          simp [this.2.1, this.2.2.1, this.2.2.2.1, hk, hom, hf, Cache.unanswered]

/-- hit_count, miss_count and soft_miss_count equal the numbers of lookups that found the key,
    that did not, and not-found lookups answered by a caller default — over every history -/
theorem counters_count_lookups {c : Cache K V} (hi : Inv c) (ops : List (Op K V)) :
    (run c ops).hit = c.hit + (tally c ops).1 ∧ (run c ops).miss = c.miss + (tally c ops).2.1 ∧
    (run c ops).soft = c.soft + (tally c ops).2.2 := by
  unfold run
  induction ops generalizing c with
  | nil => simp [tally]
  | cons op ops ih =>
    have h1 := counters_step hi op
    have h2 := ih (step_inv hi op)
    simp only [List.foldl_cons, tally]
    refine ⟨?_, ?_, ?_⟩
    · rw [h2.1, h1.1, Nat.add_assoc]
    · rw [h2.2.1, h1.2.1, Nat.add_assoc]
    · rw [h2.2.2, h1.2.2, Nat.add_assoc]

/-- soft_miss_count ≤ miss_count always -/
theorem soft_le_miss (lru : Bool) (max : Nat) (hmax : 1 ≤ max) (om : Option (K → OmRes V))
    (ops : List (WOp K V)) (c : Cache K V) (hc : c ∈ reach lru max om ops) : c.soft ≤ c.miss :=
  (reachable_inv lru max hmax om ops c hc).soft_le

/-- copy() yields a cache with the same class, capacity, on_miss, contents (in the same dict
    order) and eviction order, with fresh counters … -/
theorem copy_same_contents_and_order (c : Cache K V) :
    ∃ n, (step c .copy).2 = .cache n ∧ n.d = c.d ∧ n.ring = c.ring ∧ n.max = c.max ∧ n.lru = c.lru ∧
      n.onMiss = c.onMiss ∧ (n.hit, n.miss, n.soft) = (0, 0, 0) :=
  ⟨c.copied, rfl, rfl, rfl, rfl, rfl, rfl, rfl⟩

/-- … and leaves the original — contents, eviction order, counters — unchanged -/
theorem copy_leaves_source (c : Cache K V) : (step c .copy).1 = c := rfl

/-- the copy is independent: a call on one cache of the world changes no other cache -/
theorem copy_independent (w : List (Cache K V)) (i j : Nat) (op : Op K V) (hj : j < w.length) (hne : j ≠ i) :
    (wstep w (.on i op)).1[j]? = w[j]? := by
  rw [wstep_on]; exact rwstepG_others _ _ w i op j hj hne

/-- `c |= E` is `c.update(E)` (so it obeys max_size and the eviction order) -/
theorem ior_is_update (c : Cache K V) (e : Arg K V) : step c (.ior e) = step c (.update e []) := rfl

/-- the read-only calls (in, len, iteration, ==, !=, copy) change nothing -/
theorem readers_pure (c : Cache K V) (k : K) (o : Arg K V) :
    (step c (.contains k)).1 = c ∧ (step c .len).1 = c ∧ (step c .items).1 = c ∧
    (step c (.eq o)).1 = c ∧ (step c (.ne o)).1 = c ∧ (step c .copy).1 = c :=
  ⟨rfl, rfl, rfl, rfl, rfl, rfl⟩

/-- `!=` is the negation of `==`; a cache equals itself -/
theorem ne_is_not_eq (c : Cache K V) (o : Arg K V) :
    (step c (.ne o)).2 = .bool (!c.eqArg o) ∧ (step c (.eq o)).2 = .bool (c.eqArg o) ∧
    c.eqArg .self = true := ⟨rfl, rfl, rfl⟩

/-- `==` against a mapping answers whether the two mappings are equal (same keys, same values) -/
theorem eq_decides_mapping_equality {c : Cache K V} (hi : Inv c) (o : List (K × V)) (ho : (keys o).Nodup) :
    (step c (.eq (.pairs o))).2 = .bool true ↔ ∀ k, lookup k c.d = lookup k o := by
  simp only [step, Cache.eqArg, Out.bool.injEq]
  exact dictEq_iff hi.sync.nd ho

/-- same eviction order, observably: whatever is done to the copy and to the original from now
    on, both return the same results and hold the same contents in the same orders -/
theorem copy_behaves_like_source (c : Cache K V) (ops : List (Op K V)) :
    (outs c.copied ops).map Out.shape = (outs c ops).map Out.shape ∧
    (run c.copied ops).d = (run c ops).d ∧ (run c.copied ops).ring = (run c ops).ring := by
  have := (SameCore.copied c).run ops
  exact ⟨this.2, this.1.d, this.1.ring⟩

/-- `c.update(E)` / `c |= E` where iterating `E` yields the pairs `l` and then raises (an exhausted
    generator that throws, a malformed element): the exception propagates, the pairs received so
    far have been assigned exactly as `update(l)` assigns them — so the cache still obeys max_size
    and the eviction order (`reachable_inv`, `refines_ref` cover this call like any other) -/
theorem update_failing_keeps_prefix (c : Cache K V) (l : List (K × V)) :
    (step c (.updateFail l)).2 = .raised ∧ (step c (.updateFail l)).1 = (step c (.update (.pairs l) [])).1 :=
  ⟨rfl, rfl⟩

/-- `c == x` is False and `c != x` is True for an `x` that is not a mapping; nothing changes -/
theorem eq_other_is_false (c : Cache K V) :
    step c .eqOther = (c, .bool false) ∧ step c .neOther = (c, .bool true) := ⟨rfl, rfl⟩

/-- `c.update(c, **kw)` / `c |= c` do nothing (`if E is self: return`) -/
theorem update_from_self (w : List (Cache K V)) (i : Nat) (kw : List (K × V)) :
    wstep w (.updc i i kw) = (w, .none) := by
  simp only [wstep]
  cases w[i]? <;> simp

/-- `a.update(b, **kw)` / `a |= b` with another cache `b` (dict and ring of `b` in step, e.g. `b`
    reachable): `a` is updated with the items of `b` in `b`'s iteration order, then with `kw`,
    exactly as by `a.update(dict(b), **kw)`; `b` keeps its contents, every `E[k]` the update
    evaluates is a found lookup on `b` (one hit per item, no miss, on_miss never called); an LRI `b`
    keeps its eviction order, an LRU `b` ends up with its dict order as eviction order -/
theorem update_from_cache (w : List (Cache K V)) (i j : Nat) (kw : List (K × V)) {a b : Cache K V}
    (ha : w[i]? = some a) (hb : w[j]? = some b) (hne : i ≠ j) (hi : Inv b) :
    ∃ b', wstep w (.updc i j kw) = ((w.set i (a.update (.pairs b.d) kw)).set j b', .none) ∧
      b'.d = b.d ∧ b'.hit = b.hit + b.d.length ∧ b'.miss = b.miss ∧ b'.soft = b.soft ∧
      b'.omLog = b.omLog ∧ b'.ring = (if b.lru then b.d else b.ring) ∧ Inv b' := by
  obtain ⟨h1, h2⟩ := updFrom_hits (c := a) hi b.d (fun p hp => lookup_of_mem hi.sync.nd hp)
  refine ⟨b.readAll b.d, ?_, rfl, rfl, rfl, rfl, rfl, ?_, h2⟩
  · simp only [wstep, ha, hb, hne, if_false, h1, Cache.update]
  · show (if b.lru then b.d.foldl (fun r p => toFront p.1 p.2 r) b.ring else b.ring) = _
    rw [foldl_toFront _ _ hi.sync.nd, eraseKeys_all _ _ hi.sync.nr, List.nil_append]
    intro k hk
    rw [← lookup_isSome_iff] at hk ⊢
    rwa [hi.sync.agree]

/-! ### the linked list itself: links, PREV / NEXT pointers, the rotating anchor (`LL.lean`)

`HCache` transliterates `_init_ll`, `_get_link_and_move_to_front_of_ll`, `_set_key_and_add_to_front_of_ll`,
`_set_key_and_evict_last_in_ll`, `_remove_from_ll` and the traversal in `copy()` statement by statement
on a memory of links; `reach` above is the ring model.  The theorems below show that the pointer code
implements the ring operations, so everything proved above holds for the pointer-level cache. -/

/-- the pointer-level caches after history `ops` -/
abbrev hreach (lru : Bool) (max : Nat) (om : Option (K → OmRes V)) (ops : List (WOp K V)) : List (HCache K V) :=
  hwrun [HCache.initP lru max om] ops

/-- after every history the pointer-level caches simulate the ring-level caches (same dict, same
    counters, the links reachable from the anchor are the ring, oldest first) and every call returned
    the same result -/
theorem linked_list_refines_ring (lru : Bool) (max : Nat) (hmax : 1 ≤ max) (om : Option (K → OmRes V))
    (ops : List (WOp K V)) :
    HWSim (hreach lru max om ops) (reach lru max om ops) ∧
    (hwouts [HCache.initP lru max om] ops).map Out.shape = (wouts [Cache.initP lru max om] ops).map Out.shape :=
  (HWSim.single (HSim.initP lru max om hmax)).run ops

/-- every pointer-level cache simulates a ring-level cache of the same history -/
theorem linked_list_cache_of_mem (lru : Bool) (max : Nat) (hmax : 1 ≤ max) (om : Option (K → OmRes V))
    (ops : List (WOp K V)) (h : HCache K V) (hh : h ∈ hreach lru max om ops) :
    ∃ c ∈ reach lru max om ops, HSim h c :=
  WRel.of_mem (linked_list_refines_ring lru max hmax om ops).1 hh

/-- capacity, contents and counters of the pointer-level caches: never more than max_size items;
    dict contents (in order), hit / miss / soft-miss counters and on_miss calls equal the reference
    cache's — the statement of the property, for the code with the real linked list -/
theorem linked_list_contents_eq_ref (lru : Bool) (max : Nat) (hmax : 1 ≤ max) (om : Option (K → OmRes V))
    (ops : List (WOp K V)) :
    (hreach lru max om ops).map (fun h => (h.d, h.hit, h.miss, h.soft, h.omLog)) =
      (refReach lru max om ops).map (fun s => (s.ents, s.hit, s.miss, s.soft, s.omLog)) ∧
    (hwouts [HCache.initP lru max om] ops).map Out.shape = (Ref.wouts [Ref.initP lru max om] ops).map Out.shape ∧
    ∀ h ∈ hreach lru max om ops, h.d.length ≤ max := by
  have hw := linked_list_refines_ring lru max hmax om ops
  have hr := refines_ref lru max hmax om ops
  refine ⟨?_, hw.2.trans (results_eq_ref lru max hmax om ops), ?_⟩
  · exact (WRel.map_eq (g := fun c : Cache K V => (c.d, c.hit, c.miss, c.soft, c.omLog))
      (fun _ _ hs => by rw [hs.d, hs.hit, hs.miss, hs.soft, hs.log]) hw.1).trans
      (WRel.map_eq (fun _ _ hcs => by rw [hcs.d, hcs.hit, hcs.miss, hcs.soft, hcs.log]) hr)
  · intro h hh
    obtain ⟨c, hc, hs⟩ := linked_list_cache_of_mem lru max hmax om ops h hh
    rw [hs.d]; exact size_le_max lru max hmax om ops c hc

/-- the links of every reachable cache form a well-formed circular doubly linked list (`Rep`: NEXT /
    PREV consistent, no link twice, every link but the anchor holds a key and a value, `_link_lookup` maps
    each key to its link), and walking it from the anchor as `copy()` does yields the items in
    eviction order: first the key whose latest insertion / assignment / (LRU) lookup is oldest -/
theorem linked_list_wellformed (lru : Bool) (max : Nat) (hmax : 1 ≤ max) (om : Option (K → OmRes V))
    (ops : List (WOp K V)) (h : HCache K V) (hh : h ∈ hreach lru max om ops) :
    ∃ c ∈ reach lru max om ops, ∃ cells, Rep h.ll cells ∧ ringOf cells = c.ring ∧ h.d = c.d ∧
      h.ll.flatten = c.ring.map (fun p => (some p.1, some p.2)) := by
  obtain ⟨c, hc, hs⟩ := linked_list_cache_of_mem lru max hmax om ops h hh
  obtain ⟨cells, hrep, hring⟩ := hs.rep
  exact ⟨c, hc, cells, hrep, hring, hs.d, by rw [hrep.flatten, hring]⟩

/-- the four `_ll` helpers on a well-formed list `l` representing the ring `cells` (key ↦ (address of
    its link, value), oldest first):
    move-to-front splices the link out and back in before the anchor; add-to-front allocates one
    link before the anchor; evict-last moves NO link — the old anchor becomes the newest link, the
    oldest link becomes the anchor and its key is the one reported as evicted; remove splices out -/
theorem ll_helpers_implement_ring_ops {l : LL K V} {cells : Cells K V} (h : Rep l cells) (k : K) (v : V) :
    (∀ n v0, lookup k cells = some (n, v0) →
      ∃ l', l.moveToFront k = some (l', n) ∧ Rep l' (eraseKey k cells ++ [(k, (n, v0))]) ∧
            Rep { l' with val := upd l'.val n (some v) } (eraseKey k cells ++ [(k, (n, v))]) ∧
      ∃ l'', l.remove k = some l'' ∧ Rep l'' (eraseKey k cells)) ∧
    (lookup k cells = none →
      l.moveToFront k = none ∧ l.remove k = none ∧ Rep (l.addFront k v) (cells ++ [(k, (l.fresh, v))]) ∧
      ∀ e ae ve rest, cells = (e, (ae, ve)) :: rest →
        ∃ l', l.evictLast k v = (l', some e) ∧ Rep l' (rest ++ [(k, (l.anchor, v))]) ∧
              l'.anchor = ae ∧ l'.next = l.next ∧ l'.prev = l.prev) := by
  refine ⟨fun n v0 hk => ?_, fun hk => ⟨h.moveToFront_none hk, h.remove_none hk, h.addFront v hk, ?_⟩⟩
  · obtain ⟨xs, ys, hsplit, _, herase⟩ := lookup_split hk
    subst hsplit
    obtain ⟨l', hm, hr', _⟩ := h.moveToFront
    obtain ⟨l'', hrm, hr''⟩ := h.remove
    rw [herase]
    exact ⟨l', hm, hr', hr'.setVal v, l'', hrm, hr''⟩
  · intro e ae ve rest hc
    subst hc
    obtain ⟨l', he, hr'⟩ := h.evictLast v hk
    refine ⟨l', he, hr', ?_⟩
    have hnx : rd l.next l.anchor = ae := h.chain.1
    have : l' = (l.evictLast k v).1 := by rw [he]
    subst this
    simp [LL.evictLast, hnx]

/-- the hypothesis of `ll_helpers_implement_ring_ops` is satisfiable by a non-empty list: two links added to
    a new list -/
example : ∃ cells : Cells Nat Nat, Rep (((LL.new : LL Nat Nat).addFront 1 5).addFront 2 6) cells ∧
    ringOf cells = [(1, 5), (2, 6)] :=
  ⟨_, (Rep.new.addFront 5 rfl).addFront 6 (by decide), rfl⟩

/-- `copy()` at pointer level: walking the source's links from its anchor and adding a fresh link per
    item to a new list gives a well-formed list with the same items in the same (eviction) order; the
    source's memory is not written -/
theorem ll_copy_rebuilds_ring {l : LL K V} {cells : Cells K V} (h : Rep l cells) :
    ∃ cells', Rep ((LL.new : LL K V).addAll l.flatten) cells' ∧ ringOf cells' = ringOf cells :=
  Rep.new.copy h

/-! ### several lists in ONE memory (`LLFrame.lean`)

`HCache` gives each cache a memory of its own; in CPython all links live in one heap.  What keeps a cache
and its copy() independent there is proved here: every `_ll` helper writes only links of the list it is
called on — its anchor and the links reachable from it (`footprint`) — or links it allocates. -/

/-- on a well-formed list, `_get_link_and_move_to_front_of_ll`, `_set_key_and_add_to_front_of_ll`,
    `_set_key_and_evict_last_in_ll`, `_remove_from_ll`, `_init_ll` (clear) and `link[VALUE] = value` leave the
    PREV / NEXT / KEY / VALUE fields of every link that existed before and is not a link of this list untouched -/
theorem ll_ops_write_only_own_links {l : LL K V} {cells : Cells K V} (h : Rep l cells) (k : K) (v : V) :
    (∀ l' n, l.moveToFront k = some (l', n) → Touches l l' (footprint l cells) ∧
        Touches l { l' with val := upd l'.val n (some v) } (footprint l cells)) ∧
    Touches l (l.addFront k v) (footprint l cells) ∧
    Touches l (l.evictLast k v).1 (footprint l cells) ∧
    (∀ l', l.remove k = some l' → Touches l l' (footprint l cells)) ∧
    Touches l l.reinit (footprint l cells) := by
  refine ⟨fun l' n hm => ?_, h.touches_addFront k v, h.touches_evictLast k v, fun l' hm => (h.touches_remove hm).1,
    Rep.touches_reinit l _⟩
  obtain ⟨t, hn, _⟩ := h.touches_moveToFront hm
  exact ⟨t, t.trans (Rep.touches_setVal l' hn (some v)) (fun a ha => Or.inl ha)⟩

/-- two well-formed lists that occupy disjoint links of one memory (a cache and its copy in the
    CPython heap): a step on the first that writes only its own or new links — by `ll_ops_write_only_own_links`: any helper —
    leaves the second list well formed with exactly the same cells, i.e. the same keys, values and eviction order -/
theorem ll_disjoint_lists_independent {l1 l1' l2 : LL K V} {c1 c2 : Cells K V} (h2 : Rep l2 c2)
    (hmem : l2.prev = l1.prev ∧ l2.next = l1.next ∧ l2.key = l1.key ∧ l2.val = l1.val ∧ l2.fresh = l1.fresh)
    (hdis : ∀ a ∈ footprint l2 c2, a ∉ footprint l1 c1) (ht : Touches l1 l1' (footprint l1 c1)) :
    Rep { l2 with prev := l1'.prev, next := l1'.next, key := l1'.key, val := l1'.val, fresh := l1'.fresh } c2 ∧
    ({ l2 with prev := l1'.prev, next := l1'.next, key := l1'.key, val := l1'.val, fresh := l1'.fresh } : LL K V).flatten
      = (ringOf c2).map (fun p => (some p.1, some p.2)) := by
  have hr := h2.separate hmem hdis ht
  exact ⟨hr, hr.flatten⟩

/-- the hypotheses of `ll_disjoint_lists_independent` are satisfiable (there the list that is stepped is `l1`, here
    it is the second one): a list with one link (anchor 0, link 1) and a second, empty list whose
    anchor (link 2) was allocated after it in the same memory; a link is added to the second list -/
example : ∃ (l1 l2 : LL Nat Nat) (c1 c2 : Cells Nat Nat), Rep l1 c1 ∧ Rep l2 c2 ∧
    (l1.prev = l2.prev ∧ l1.next = l2.next ∧ l1.key = l2.key ∧ l1.val = l2.val ∧ l1.fresh = l2.fresh) ∧
    (∀ a ∈ footprint l1 c1, a ∉ footprint l2 c2) ∧ c1 = [(1, (1, 5))] ∧ Touches l2 (l2.addFront 7 8) (footprint l2 c2) := by
  have ha : Rep ((LL.new : LL Nat Nat).addFront 1 5) [(1, (1, 5))] := Rep.new.addFront 5 rfl
  have hb : Rep ((LL.new : LL Nat Nat).addFront 1 5).reinit [] := Rep.reinit _
  refine ⟨{ ((LL.new : LL Nat Nat).addFront 1 5).reinit with anchor := 0, table := [(1, 1)] },
    ((LL.new : LL Nat Nat).addFront 1 5).reinit, [(1, (1, 5))], [], ?_, hb, ⟨rfl, rfl, rfl, rfl, rfl⟩, ?_, rfl,
    hb.touches_addFront 7 8⟩
  · refine ha.frame rfl rfl (by decide) (fun a ha' => ?_)
    simp only [footprint, addrsOf, List.map_cons, List.map_nil, List.mem_cons, List.not_mem_nil, or_false] at ha'
    rcases ha' with rfl | rfl <;> decide
  · intro a ha'
    simp only [footprint, addrsOf, List.map_cons, List.map_nil, List.mem_cons, List.not_mem_nil, or_false] at ha'
    rcases ha' with rfl | rfl <;> decide

/-- WHOLE public method calls on the pointer-level cache — any history of them, with a re-entrant on_miss of any
    kind and depth: relative to the list before the history (links `footprint h.ll cells`) only links the list owned
    then or allocated since are written (`Track.touches`), and its anchor and link table point only to such links -/
theorem linked_list_calls_write_only_own_links {h : HCache K V} {c : Cache K V} (hs : HSim h c) {cells : Cells K V}
    (hrep : Rep h.ll cells) (P : List K → K → OmProg K V) (fuel : Nat) (ops : List (Op K V)) :
    Track h.ll (footprint h.ll cells) (HCache.mach.rrun P fuel h ops).ll ∧
    ∃ c', HSim (HCache.mach.rrun P fuel h ops) c' := by
  obtain ⟨c', hr, t⟩ := (HCache.machTrack h.ll (footprint h.ll cells)).rrun P fuel (n := 0)
    (⟨c, RHSim.zero_iff.2 hs, Track.start hrep⟩ : QT h.ll (footprint h.ll cells) 0 h) ops
  exact ⟨t, c', hr.1⟩

/-- … hence a cache whose list lives in the same memory on disjoint links (its copy in the CPython heap) is not
    disturbed by ANY history of calls on this cache: its list stays well formed with the same cells (keys, values,
    eviction order), and the two lists stay disjoint -/
theorem linked_list_calls_do_not_disturb_other_lists {h : HCache K V} {c : Cache K V} (hs : HSim h c)
    {cells c2 : Cells K V} (hrep : Rep h.ll cells) {l2 : LL K V} (h2 : Rep l2 c2)
    (hmem : l2.prev = h.ll.prev ∧ l2.next = h.ll.next ∧ l2.key = h.ll.key ∧ l2.val = h.ll.val ∧ l2.fresh = h.ll.fresh)
    (hdis : ∀ a ∈ footprint l2 c2, a ∉ footprint h.ll cells)
    (P : List K → K → OmProg K V) (fuel : Nat) (ops : List (Op K V)) :
    Rep { l2 with prev := (HCache.mach.rrun P fuel h ops).ll.prev, next := (HCache.mach.rrun P fuel h ops).ll.next,
                  key := (HCache.mach.rrun P fuel h ops).ll.key, val := (HCache.mach.rrun P fuel h ops).ll.val,
                  fresh := (HCache.mach.rrun P fuel h ops).ll.fresh } c2 ∧
    ∀ cells', Rep (HCache.mach.rrun P fuel h ops).ll cells' →
      ∀ a ∈ footprint (HCache.mach.rrun P fuel h ops).ll cells', a ∉ footprint l2 c2 := by
  obtain ⟨t, _⟩ := linked_list_calls_write_only_own_links hs hrep P fuel ops
  refine ⟨h2.separate hmem hdis t.touches, fun cells' hr' a ha ha2 => ?_⟩
  rcases t.owns hr' a ha with h1 | h1
  · exact hdis a ha2 h1
  · have := h2.bound a ha2
    rw [hmem.2.2.2.2] at this
    omega

/-- copy() in ONE memory (`ret = self.__class__(…)`: a new anchor; then one `_set_key_and_add_to_front_of_ll` per
    link met on the walk of the source): the new list holds the same items in the same eviction order, consists of
    NEW links only (disjoint from the source's links), and the source list is still well formed, with the same
    cells, in the memory that now also holds the copy — the copy shares no link with the original -/
theorem ll_copy_in_one_memory {l : LL K V} {cells : Cells K V} (h : Rep l cells) :
    ∃ cells', Rep (l.reinit.addAll l.flatten) cells' ∧ ringOf cells' = ringOf cells ∧
      (∀ a ∈ footprint (l.reinit.addAll l.flatten) cells', a ∉ footprint l cells) ∧
      Rep (l.inMemoryOf (l.reinit.addAll l.flatten)) cells ∧
      (l.inMemoryOf (l.reinit.addAll l.flatten)).flatten = l.flatten := by
  obtain ⟨cells', h1, h2, h3, h4⟩ := h.copy_in_same_memory
  exact ⟨cells', h1, h2, h3, h4, by rw [h4.flatten, h.flatten]⟩

/-- a source list with two links (the hypothesis `Rep l cells` is satisfiable) -/
example : ∃ cells : Cells Nat Nat, Rep (((LL.new : LL Nat Nat).addFront 1 5).addFront 2 6) cells ∧
    ((((LL.new : LL Nat Nat).addFront 1 5).addFront 2 6).reinit.addAll
      (((LL.new : LL Nat Nat).addFront 1 5).addFront 2 6).flatten).flatten = [(some 1, some 5), (some 2, some 6)] :=
  ⟨_, (Rep.new.addFront 5 rfl).addFront 6 (by decide), by decide⟩

/-- the hypotheses of `linked_list_calls_do_not_disturb_other_lists` are satisfiable: an empty cache whose anchor
    (link 2) lies in a memory that already holds another list (anchor 0, link 1 with key 1) -/
example : ∃ (h : HCache Nat Nat) (c : Cache Nat Nat) (cells c2 : Cells Nat Nat) (l2 : LL Nat Nat),
    HSim h c ∧ Rep h.ll cells ∧ Rep l2 c2 ∧
    (l2.prev = h.ll.prev ∧ l2.next = h.ll.next ∧ l2.key = h.ll.key ∧ l2.val = h.ll.val ∧ l2.fresh = h.ll.fresh) ∧
    (∀ a ∈ footprint l2 c2, a ∉ footprint h.ll cells) ∧ c2 = [(1, (1, 5))] := by
  have ha : Rep ((LL.new : LL Nat Nat).addFront 1 5) [(1, (1, 5))] := Rep.new.addFront 5 rfl
  have hb : Rep ((LL.new : LL Nat Nat).addFront 1 5).reinit [] := Rep.reinit _
  refine ⟨⟨false, 2, none, [], ((LL.new : LL Nat Nat).addFront 1 5).reinit, 0, 0, 0, []⟩, Cache.initP false 2 none, [],
    [(1, (1, 5))], { ((LL.new : LL Nat Nat).addFront 1 5).reinit with anchor := 0, table := [(1, 1)] },
    ⟨rfl, rfl, rfl, rfl, rfl, rfl, rfl, rfl, Inv.initP false 2 none (by decide), [], hb, rfl⟩, hb, ?_,
    ⟨rfl, rfl, rfl, rfl, rfl⟩, ?_, rfl⟩
  · refine ha.frame rfl rfl (by decide) (fun a ha' => ?_)
    simp only [footprint, addrsOf, List.map_cons, List.map_nil, List.mem_cons, List.not_mem_nil, or_false] at ha'
    rcases ha' with rfl | rfl <;> decide
  · intro a ha'
    simp only [footprint, addrsOf, List.map_cons, List.map_nil, List.mem_cons, List.not_mem_nil, or_false] at ha'
    rcases ha' with rfl | rfl <;> decide

/-! ### non-vacuity: concrete histories with evictions (keys, values : Nat) -/

/-- LRU, max_size 2: set 1, set 2, look 1 up, set 3 -> 2 (not 1) is evicted -/
example : (reach true 2 (none : Option (Nat → OmRes Nat))
    [.on 0 (.setitem 1 5), .on 0 (.setitem 2 6), .on 0 (.getitem 1), .on 0 (.setitem 3 7)]).map (·.d)
    = [[(1, 5), (3, 7)]] := by decide

/-- LRI, the same history: the lookup does not count, 1 is evicted -/
example : (reach false 2 (none : Option (Nat → OmRes Nat))
    [.on 0 (.setitem 1 5), .on 0 (.setitem 2 6), .on 0 (.getitem 1), .on 0 (.setitem 3 7)]).map (·.d)
    = [[(2, 6), (3, 7)]] := by decide

/-- copy keeps the eviction order: after the same insert both caches evict the same key, and the
    source's counters are untouched by the copy -/
example : (reach true 2 (none : Option (Nat → OmRes Nat))
    [.on 0 (.setitem 1 5), .on 0 (.setitem 2 6), .on 0 (.setitem 1 9), .on 0 .copy,
     .on 1 (.setitem 3 7), .on 0 (.setitem 3 7)]).map (fun c => (c.d, c.hit, c.miss))
    = [([(1, 9), (3, 7)], 0, 0), ([(1, 9), (3, 7)], 0, 0)] := by decide

/-- on_miss (k ↦ 2k+1), counters: miss, hit, soft miss is only for caller defaults -/
example : (reach false 2 (some (totalOm fun k : Nat => 2 * k + 1))
    [.on 0 (.getitem 4), .on 0 (.get 4 0), .on 0 (.get 5 0)]).map (fun c => (c.d, c.hit, c.miss, c.soft, c.omLog))
    = [([(4, 9), (5, 11)], 1, 2, 0, [4, 5])] := by decide

example : (reach true 1 (none : Option (Nat → OmRes Nat))
    [.on 0 (.get 4 0), .on 0 (.setdefault 4 3), .on 0 (.ior (.pairs [(7, 1), (8, 2)]))]).map
      (fun c => (c.d, c.hit, c.miss, c.soft))
    = [([(8, 2)], 0, 2, 2)] := by decide

/-- on_miss raising KeyError for key 4 and ValueError for key 5 (k ↦ 2k+1 otherwise): every such
    lookup is a miss; get's default counts a soft miss only for the KeyError; nothing is cached -/
example : (reach true 2 (some fun k : Nat => if k = 4 then OmRes.keyError else if k = 5 then .error else .ret (2 * k + 1))
    [.on 0 (.getitem 4), .on 0 (.get 4 0), .on 0 (.get 5 0), .on 0 (.setdefault 4 3), .on 0 (.getitem 6)]).map
      (fun c => (c.d, c.hit, c.miss, c.soft, c.omLog))
    = [([(4, 3), (6, 13)], 0, 5, 2, [4, 4, 5, 4, 6])] := by decide

/-- `b |= a` between two caches (an LRU and its copy): the source counts two hits and its eviction
    order becomes its dict order (1 before 2), so the next insert evicts 1 -/
example : (reach true 2 (none : Option (Nat → OmRes Nat))
    [.on 0 (.setitem 1 5), .on 0 (.setitem 2 6), .on 0 (.getitem 1), .on 0 .copy, .on 1 .clear,
     .updc 1 0 [], .on 0 (.setitem 3 7)]).map (fun c => (c.d, c.hit))
    = [([(2, 6), (3, 7)], 3), ([(1, 5), (2, 6)], 0)] := by decide

/-- a failing update keeps the prefix and obeys max_size; `== None` is False -/
example : (reach false 2 (none : Option (Nat → OmRes Nat))
    [.on 0 (.updateFail [(1, 5), (2, 6), (3, 7)]), .on 0 .eqOther]).map (fun c => (c.d, c.ring))
    = [([(2, 6), (3, 7)], [(2, 6), (3, 7)])] := by decide

/-- pointer level: LRU, max_size 2: set 1, set 2, look 1 up, set 3: the link of key 2 (address 2) has
    become the anchor, the old anchor (address 0) holds key 3; walking from the anchor gives 1, 3 -/
example : (hreach true 2 (none : Option (Nat → OmRes Nat))
    [.on 0 (.setitem 1 5), .on 0 (.setitem 2 6), .on 0 (.getitem 1), .on 0 (.setitem 3 7)]).map
      (fun h => (h.d, h.ll.flatten, h.ll.anchor))
    = [([(1, 5), (3, 7)], [(some 1, some 5), (some 3, some 7)], 2)] := by decide

example : (hreach true 2 (none : Option (Nat → OmRes Nat))
    [.on 0 (.setitem 1 5), .on 0 (.setitem 2 6), .on 0 (.getitem 1), .on 0 (.setitem 3 7)]).map
      (fun h => (h.ll.fresh, h.ll.table)) = [(3, [(1, 1), (3, 0)])] := by decide

/-- pointer level: three evictions rotate the anchor once around a ring of three links (no pointer is
    rewritten: NEXT = [1, 2, 0], PREV = [2, 0, 1]); copy() builds an equal list in its own memory -/
example : (hreach false 2 (none : Option (Nat → OmRes Nat))
    [.on 0 (.setitem 1 5), .on 0 (.setitem 2 6), .on 0 (.setitem 3 7), .on 0 (.setitem 4 8),
     .on 0 (.setitem 5 9), .on 0 .copy]).map
      (fun h => (h.ll.flatten, h.ll.anchor, h.ll.next, h.ll.prev))
    = [([(some 4, some 8), (some 5, some 9)], 0, [1, 2, 0], [2, 0, 1]),
       ([(some 4, some 8), (some 5, some 9)], 0, [1, 2, 0], [2, 0, 1])] := by decide

/-- hypotheses of `full_insert_evicts_ring_head` are satisfiable: a full reachable cache -/
example : let c := run (Cache.initP true 2 (none : Option (Nat → OmRes Nat))) [.setitem 1 5, .setitem 2 6, .getitem 1]
    lookup 3 c.d = none ∧ ¬ c.d.length < c.max ∧ c.ring = [(2, 6), (1, 5)] := by decide

/-! ### a re-entrant on_miss (`Reent.lean`)

`on_miss` is a strategy table `P`: `P log k` — what the callback does when called with `k` after having been
called with the keys `log` — is a tree of dict-API calls on the cache that is waiting for its result (the
RLock allows them), each chosen according to what the previous ones returned or raised (so: any branching,
any `try … except`), ending in return / raise (`OmProg`).  `fuel` is the nesting depth at which the callback
raises instead of running (CPython: RecursionError); every theorem holds for EVERY strategy table and EVERY
depth.  The reference cache runs the same program against itself (`Ref.mach`): nested lookups are
lookups, nested assignments are assignments, and the value on_miss finally returns is assigned. -/

/-- the caches after history `ops` on a fresh `LRI`/`LRU(max_size=max, on_miss=P)`; `om` is the value of the
    `on_miss` attribute (only ever tested against None; the callback itself is `P`) -/
abbrev rreach (lru : Bool) (max : Nat) (om : K → OmRes V) (P : List K → K → OmProg K V) (fuel : Nat) (ops : List (WOp K V)) : List (Cache K V) :=
  wrunG (rwstep P fuel) [Cache.initP lru max (some om)] ops

/-- the same history on the reference cache -/
abbrev rrefReach (lru : Bool) (max : Nat) (om : K → OmRes V) (P : List K → K → OmProg K V) (fuel : Nat) (ops : List (WOp K V)) : List (Ref K V) :=
  wrunG (Ref.rwstep P fuel) [Ref.initP lru max (some om)] ops

/-- … and on the pointer-level caches -/
abbrev rhreach (lru : Bool) (max : Nat) (om : K → OmRes V) (P : List K → K → OmProg K V) (fuel : Nat) (ops : List (WOp K V)) : List (HCache K V) :=
  wrunG (rhwstep P fuel) [HCache.initP lru max (some om)] ops

/-- with a re-entrant on_miss the caches still simulate the reference caches after every history, and
    every call returns what the reference returns -/
theorem reentrant_refines_ref (lru : Bool) (max : Nat) (hmax : 1 ≤ max) (om : K → OmRes V) (P : List K → K → OmProg K V) (fuel : Nat)
    (ops : List (WOp K V)) :
    WSim (rreach lru max om P fuel ops) (rrefReach lru max om P fuel ops) ∧
    (woutsG (rwstep P fuel) [Cache.initP lru max (some om)] ops).map Out.shape =
      (woutsG (Ref.rwstep P fuel) [Ref.initP lru max (some om)] ops).map Out.shape :=
  WRel.run (fun _ _ op hw => WSim.rwstep P fuel hw op) (WSim.single (Sim.initP lru max (some om) hmax)) ops

/-- contents (in dict order), the three counters and the sequence of on_miss calls (nested calls included,
    in call order) equal the reference cache's -/
theorem reentrant_contents_eq_ref (lru : Bool) (max : Nat) (hmax : 1 ≤ max) (om : K → OmRes V) (P : List K → K → OmProg K V) (fuel : Nat)
    (ops : List (WOp K V)) :
    (rreach lru max om P fuel ops).map (·.d) = (rrefReach lru max om P fuel ops).map (·.ents) ∧
    (rreach lru max om P fuel ops).map (fun c => (c.hit, c.miss, c.soft, c.omLog)) =
      (rrefReach lru max om P fuel ops).map (fun s => (s.hit, s.miss, s.soft, s.omLog)) :=
  ⟨(reentrant_refines_ref lru max hmax om P fuel ops).1.contents, (reentrant_refines_ref lru max hmax om P fuel ops).1.counters⟩

/-- dict, key->link table and ring stay in step, the size never exceeds max_size, soft_miss_count <=
    miss_count, and the ring is the contents in the order of the reference's stamps — whatever on_miss
    does to the cache while a lookup is waiting for it -/
theorem reentrant_structures_in_step (lru : Bool) (max : Nat) (hmax : 1 ≤ max) (om : K → OmRes V) (P : List K → K → OmProg K V) (fuel : Nat)
    (ops : List (WOp K V)) (c : Cache K V) (hc : c ∈ rreach lru max om P fuel ops) :
    c.ring.Perm c.d ∧ (keys c.ring).Nodup ∧ (keys c.d).Nodup ∧ (∀ k, lookup k c.d = lookup k c.ring) ∧
    c.d.length ≤ max ∧ c.max = max ∧ c.lru = lru ∧ c.soft ≤ c.miss ∧
    ∃ s ∈ rrefReach lru max om P fuel ops, c.d = s.ents ∧ c.ring.Pairwise (fun a b => s.stamp a.1 < s.stamp b.1) := by
  obtain ⟨s, hs, h⟩ := WRel.of_mem (reentrant_refines_ref lru max hmax om P fuel ops).1 hc
  have hcfg := rwrun_config P fuel (w := [Cache.initP lru max (some om)]) (cfg := (lru, max, some om))
    (by intro c hc; simp at hc; subst hc; rfl) ops c hc
  have hi := h.inv
  exact ⟨hi.sync.perm.symm, hi.sync.nr, hi.sync.nd, hi.sync.agree, Cache.max_of_config hcfg ▸ hi.cap,
    Cache.max_of_config hcfg, Cache.lru_of_config hcfg, hi.soft_le, s, hs, h.d, h.sorted⟩

/-- the copy stays independent under a re-entrant on_miss: a call on one cache of the world — whatever its
    callback does to THAT cache meanwhile — changes no other cache (ring model and pointer-level model) -/
theorem reentrant_copy_independent (P : List K → K → OmProg K V) (fuel : Nat) (i j : Nat) (op : Op K V) (hne : j ≠ i) :
    (∀ (w : List (Cache K V)), j < w.length → (rwstep P fuel w (.on i op)).1[j]? = w[j]?) ∧
    (∀ (w : List (HCache K V)), j < w.length → (rhwstep P fuel w (.on i op)).1[j]? = w[j]?) :=
  ⟨fun w hj => rwstepG_others _ _ w i op j hj hne, fun w hj => rwstepG_others _ _ w i op j hj hne⟩

/-- "same eviction order", observably, under a re-entrant on_miss that keeps no state of its own: whatever is
    done to the copy and to the original from now on — the callback working on whichever cache called it —, both
    hold the same contents in the same orders after every history and every further call returns the same result
    (a callback WITH state may of course tell the two apart: the copy starts with an empty call history) -/
theorem reentrant_copy_behaves_like_source (c : Cache K V) (P0 : K → OmProg K V) (fuel : Nat) (ops : List (Op K V)) :
    (Cache.mach.rrun (fun _ => P0) fuel c.copied ops).d = (Cache.mach.rrun (fun _ => P0) fuel c ops).d ∧
    (Cache.mach.rrun (fun _ => P0) fuel c.copied ops).ring = (Cache.mach.rrun (fun _ => P0) fuel c ops).ring ∧
    ∀ op, (Cache.mach.rstep (fun _ => P0) fuel (Cache.mach.rrun (fun _ => P0) fuel c.copied ops) op).2.shape =
          (Cache.mach.rstep (fun _ => P0) fuel (Cache.mach.rrun (fun _ => P0) fuel c ops) op).2.shape := by
  have h := (SameCore.copied c).rrun P0 fuel ops
  refine ⟨h.d, h.ring, fun op => ?_⟩
  rw [Cache.rstep_noLog]
  exact (SameCore.mach.rstep (fun _ => P0) fuel (n := 0) h op).2.shape_eq

/-- one public call with a re-entrant on_miss keeps the representation invariant (so: size bound, no
    duplicate link, dict = ring as mappings), at any depth, also when the callback raises half-way -/
theorem reentrant_step_inv {c : Cache K V} (hi : Inv c) (P : List K → K → OmProg K V) (fuel : Nat) (op : Op K V) :
    Inv (Cache.mach.rstep P fuel c op).1 ∧ (Cache.mach.rstep P fuel c op).1.max = c.max :=
  ⟨(Cache.machInv.rstep P fuel (InvN.zero_iff.2 hi) op).1.inv,
   Cache.max_of_config ((Cache.machConfig c.config).rstep P fuel (n := 0) rfl op).1⟩

/-- a lookup that finds the key does not call on_miss -/
theorem reentrant_found_is_hit {c : Cache K V} (hi : Inv c) (P : List K → K → OmProg K V) (fuel : Nat) {k : K} {v : V}
    (hk : lookup k c.d = some v) :
    Cache.mach.rget P fuel c k = c.getitem k ∧ (c.getitem k).2 = .val v ∧ (c.getitem k).1.omLog = c.omLog ∧
    (c.getitem k).1.hit = c.hit + 1 ∧ (c.getitem k).1.miss = c.miss := by
  have hr : lookup k c.ring = some v := by rw [← hi.sync.agree]; exact hk
  refine ⟨Cache.rget_found P fuel hr, ?_⟩
  rw [Cache.getitem_hit hr]
  exact ⟨rfl, rfl, rfl, rfl⟩

/-- every call that is not a lookup (item set / del, update, |=, pop, popitem, clear, copy, in, len, iteration,
    ==, !=) is literally the call of the plain model, on all three machines: all theorems about `step` for these calls
    (removed keys are gone, a full insert evicts the ring head, copy / == / update …) hold verbatim for a cache whose
    on_miss is re-entrant; only item get / get / setdefault go through the callback interpreter -/
theorem reentrant_nonlookup_is_plain (P : List K → K → OmProg K V) (fuel : Nat) (op : Op K V) (hop : op.isLookup = false) :
    (∀ c : Cache K V, Cache.mach.rstep P fuel c op = step c op) ∧
    (∀ h : HCache K V, HCache.mach.rstep P fuel h op = hstep h op) ∧
    (∀ s : Ref K V, Ref.mach.rstep P fuel s op = Ref.step s op) :=
  ⟨fun c => (Cache.mach.stepWith_nonlookup _ _ c hop).trans (step_eq_stepWith c op),
   fun h => (HCache.mach.stepWith_nonlookup _ _ h hop).trans (hstep_eq_stepWith h op),
   fun s => (Ref.mach.stepWith_nonlookup _ _ s hop).trans (Ref.step_eq_stepWith s op)⟩

/-- with a re-entrant on_miss, too, on_miss is called exactly for lookups of absent keys: a call that is not
    a lookup and a lookup that finds its key add nothing to the log of on_miss calls (the latter is one hit, no
    miss); a lookup of an absent key enters on_miss with THAT key first — whatever the callback does then
    (nested lookups included) only extends the log — and counts at least the one miss -/
theorem reentrant_on_miss_called_iff_absent {c : Cache K V} (hi : Inv c) (P : List K → K → OmProg K V) (fuel : Nat) (op : Op K V) :
    match op.lookupKey with
    | none => (Cache.mach.rstep P fuel c op).1.omLog = c.omLog ∧ (Cache.mach.rstep P fuel c op).1.miss = c.miss ∧
              (Cache.mach.rstep P fuel c op).1.hit = c.hit
    | some k =>
      ((lookup k c.d).isSome → (Cache.mach.rstep P fuel c op).1.omLog = c.omLog ∧
          (Cache.mach.rstep P fuel c op).1.hit = c.hit + 1 ∧ (Cache.mach.rstep P fuel c op).1.miss = c.miss) ∧
      (lookup k c.d = none → (∃ l, (Cache.mach.rstep P fuel c op).1.omLog = c.omLog ++ k :: l) ∧
          c.miss + 1 ≤ (Cache.mach.rstep P fuel c op).1.miss ∧ c.hit ≤ (Cache.mach.rstep P fuel c op).1.hit) := by
  cases hop : op.lookupKey with
  | none =>
    have hs : Cache.mach.rstep P fuel c op = step c op :=
      (reentrant_nonlookup_is_plain P fuel op (Op.lookupKey_eq_none_iff.1 hop)).1 c
    have := step_nonlookup_counters c op hop
    simp only [hs]
    exact ⟨this.log, this.miss, this.hit⟩
  | some k =>
    obtain ⟨h1, h2, h3⟩ := Cache.rstep_lookup_eq_rget P fuel c hop
    simp only [h1, h2, h3]
    refine ⟨fun hs => ?_, fun hk => ?_⟩
    · obtain ⟨v, hv⟩ := Option.isSome_iff_exists.1 hs
      have hr : lookup k c.ring = some v := by rw [← hi.sync.agree]; exact hv
      rw [Cache.rget_found P fuel hr, Cache.getitem_hit hr]
      exact ⟨rfl, rfl, rfl⟩
    · have hr : lookup k c.ring = none := by rw [← hi.sync.agree]; exact hk
      have hm := Cache.rget_absent_mono P fuel hr
      obtain ⟨l, hl⟩ := hm.log
      exact ⟨⟨l, by rw [hl]; exact List.append_assoc ..⟩, hm.miss, hm.hit⟩

/-- the value finally cached is the one on_miss RETURNED: when the run of on_miss(k) ends
    (state `body`) by returning `v`, the lookup answers `v` and `body[k] = v` is executed by the full
    `__setitem__` — whether the program stored `k` itself (re-assignment of the present key: one link,
    moved to the newest position), dropped it again, or filled the cache (insertion, evicting the oldest
    key): afterwards `k ↦ v` is in the cache, it is the most recent key, and the invariant holds -/
theorem reentrant_on_miss_result_cached {c : Cache K V} (hi : Inv c) (P : List K → K → OmProg K V) (n : Nat) {k : K} {v : V}
    {body : Cache K V} (hk : lookup k c.d = none)
    (hbody : runProg (Cache.mach.rstep P n) (Cache.mach.missed c k) (P c.omLog k) = (body, .ret v)) :
    Cache.mach.rget P (n + 1) c k = (body.setitem k v, .val v) ∧
    lookup k (body.setitem k v).d = some v ∧ (body.setitem k v).ring.getLast? = some (k, v) ∧
    Inv (body.setitem k v) ∧ (body.setitem k v).d.length ≤ c.max ∧ body.soft + 1 ≤ body.miss := by
  have hr : lookup k c.ring = none := by rw [← hi.sync.agree]; exact hk
  obtain ⟨hbi, hbs, hbm⟩ := Cache.body_inv hi P n hbody
  have hset := Cache.setitem_inv hbi k v
  refine ⟨?_, setitem_lookup_self hbi k v, assignment_refreshes hbi k v, hset, ?_, hbs⟩
  · rw [Cache.rget_absent P n hr hbody]; rfl
  · have := hset.cap; rw [setitem_max, hbm] at this; exact this

/-- an on_miss that raises AFTER mutating the cache (its own `raise`, an exception of one of its calls that it
    does not catch — e.g. `del` of an absent key —, or the depth guard): the exception propagates out of `c[k]`
    (KeyError is swallowed by get / setdefault as usual), the lookup is a miss, nothing is stored on top of
    what the program did itself, and the cache is left in a state that satisfies the invariant -/
theorem reentrant_on_miss_raises_after_mutating {c : Cache K V} (hi : Inv c) (P : List K → K → OmProg K V) (n : Nat) {k : K}
    {body : Cache K V} {r : OmRes V} (hk : lookup k c.d = none)
    (hbody : runProg (Cache.mach.rstep P n) (Cache.mach.missed c k) (P c.omLog k) = (body, r)) :
    (r = .keyError → Cache.mach.rget P (n + 1) c k = (body, .keyError)) ∧
    (r = .error → Cache.mach.rget P (n + 1) c k = (body, .raised)) ∧
    Cache.mach.rget P 0 c k = ({ c with miss := c.miss + 1, omLog := c.omLog ++ [k] }, .raised) ∧
    Inv body ∧ body.soft + 1 ≤ body.miss ∧ body.max = c.max := by
  have hr : lookup k c.ring = none := by rw [← hi.sync.agree]; exact hk
  obtain ⟨hbi, hbs, hbm⟩ := Cache.body_inv hi P n hbody
  refine ⟨fun he => ?_, fun he => ?_, Cache.rget_absent_zero P hr, hbi, hbs, hbm⟩
  · subst he; rw [Cache.rget_absent P n hr hbody]; rfl
  · subst he; rw [Cache.rget_absent P n hr hbody]; rfl

/-- a callback that makes no calls is the on_miss of the theorems about `step`: the two models agree call by
    call (depth >= 1) -/
theorem reentrant_pure_is_plain (P : List K → K → OmProg K V) (f : K → OmRes V) (hP : ∀ lg k, P lg k = .done (f k))
    (n : Nat) (c : Cache K V) (hom : c.onMiss = some f) (op : Op K V) : Cache.mach.rstep P (n + 1) c op = step c op :=
  (Cache.mach.stepWith_congr _ _ c op (fun k _ => Cache.rget_pure P f hP n c hom k)).trans (step_eq_stepWith c op)

/-- the nesting depth `fuel` only matters for callbacks that look keys up themselves: a callback none of whose
    calls is an item get / get / setdefault — whatever its other calls answer; e.g. the self-priming loader —
    never re-enters on_miss, and every depth >= 1 gives the same calls, on all three machines -/
theorem reentrant_depth_irrelevant_without_lookups (P : List K → K → OmProg K V) (hP : ∀ lg k, (P lg k).NoLookup) (n : Nat) :
    Cache.mach.rstep P (n + 1) = Cache.mach.rstep P 1 ∧ HCache.mach.rstep P (n + 1) = HCache.mach.rstep P 1 ∧
    Ref.mach.rstep P (n + 1) = Ref.mach.rstep P 1 := by
  unfold Mach.rstep
  exact ⟨by rw [Mach.rget_depth_irrelevant _ P hP], by rw [Mach.rget_depth_irrelevant _ P hP],
    by rw [Mach.rget_depth_irrelevant _ P hP]⟩

/-- … and in general the depth beyond what a run needs is irrelevant: if `c[k]`, run at depth `n`, never reaches
    the depth guard (`safeGet`: every lookup the callbacks make, at every level, either finds its key or still has
    depth left), then at every greater depth it is exactly the same run with the same result — the guard is only
    an artefact for callbacks that recurse for ever; for all three machines -/
theorem reentrant_depth_beyond_need_irrelevant (P : List K → K → OmProg K V) (n m : Nat) (k : K) :
    (∀ c : Cache K V, Cache.mach.safeGet P n c k → Cache.mach.rget P (n + m) c k = Cache.mach.rget P n c k) ∧
    (∀ h : HCache K V, HCache.mach.safeGet P n h k → HCache.mach.rget P (n + m) h k = HCache.mach.rget P n h k) ∧
    (∀ s : Ref K V, Ref.mach.safeGet P n s k → Ref.mach.rget P (n + m) s k = Ref.mach.rget P n s k) :=
  ⟨fun c h => (Cache.mach.rget_stable_all P n c k h m).1, fun c h => (HCache.mach.rget_stable_all P n c k h m).1,
   fun c h => (Ref.mach.rget_stable_all P n c k h m).1⟩

/-- the pointer-level caches (real links, PREV / NEXT, rotating anchor) simulate the ring-level caches under a
    re-entrant on_miss too, with equal results: a program that stores the key itself leaves ONE link for it -/
theorem reentrant_linked_list_refines_ring (lru : Bool) (max : Nat) (hmax : 1 ≤ max) (om : K → OmRes V) (P : List K → K → OmProg K V) (fuel : Nat)
    (ops : List (WOp K V)) :
    HWSim (rhreach lru max om P fuel ops) (rreach lru max om P fuel ops) ∧
    (woutsG (rhwstep P fuel) [HCache.initP lru max (some om)] ops).map Out.shape =
      (woutsG (rwstep P fuel) [Cache.initP lru max (some om)] ops).map Out.shape :=
  WRel.run (fun _ _ op hw => HWSim.rwstep P fuel hw op) (HWSim.single (HSim.initP lru max (some om) hmax)) ops

/-- … hence: never more than max_size items, a well-formed circular list whose walk from the anchor is the
    ring, and the results of the reference cache -/
theorem reentrant_linked_list_wellformed (lru : Bool) (max : Nat) (hmax : 1 ≤ max) (om : K → OmRes V) (P : List K → K → OmProg K V) (fuel : Nat)
    (ops : List (WOp K V)) :
    (∀ h ∈ rhreach lru max om P fuel ops, ∃ c ∈ rreach lru max om P fuel ops, ∃ cells, Rep h.ll cells ∧
      ringOf cells = c.ring ∧ h.d = c.d ∧ h.d.length ≤ max ∧
      h.ll.flatten = c.ring.map (fun p => (some p.1, some p.2))) ∧
    (woutsG (rhwstep P fuel) [HCache.initP lru max (some om)] ops).map Out.shape =
      (woutsG (Ref.rwstep P fuel) [Ref.initP lru max (some om)] ops).map Out.shape := by
  have hw := reentrant_linked_list_refines_ring lru max hmax om P fuel ops
  refine ⟨fun h hh => ?_, hw.2.trans (reentrant_refines_ref lru max hmax om P fuel ops).2⟩
  obtain ⟨c, hc, hs⟩ := WRel.of_mem hw.1 hh
  obtain ⟨cells, hrep, hring⟩ := hs.rep
  have hsz := (reentrant_structures_in_step lru max hmax om P fuel ops c hc).2.2.2.2.1
  exact ⟨c, hc, cells, hrep, hring, hs.d, hs.d ▸ hsz, by rw [hrep.flatten, hring]⟩

/-! non-vacuity: re-entrant on_miss programs (keys, values : Nat) -/

/-- a self-priming loader: on_miss(k) stores `k ↦ 9` itself and returns 2k+1 -/
def selfPriming : List Nat → Nat → OmProg Nat Nat := fun _ k => .ofList [(false, .setitem k 9)] (.ret (2 * k + 1))

/-- it makes no lookups (the hypothesis of `reentrant_depth_irrelevant_without_lookups` is satisfiable) -/
example : ∀ lg k, (selfPriming lg k).NoLookup := by
  intro lg k
  refine .call _ _ rfl (fun o => ?_)
  cases o <;> exact .done _

/-- … so depth 1 is enough for it, on any cache and key (hypothesis of `reentrant_depth_beyond_need_irrelevant`) -/
example (c : Cache Nat Nat) (k : Nat) : Cache.mach.safeGet selfPriming 1 c k := by
  cases hf : (Cache.mach (K := Nat) (V := Nat)).find c k with
  | true => exact Or.inl hf
  | false => exact Or.inr ⟨trivial, by cases ((Cache.mach (K := Nat) (V := Nat)).stepWith _ _ _).2 <;> trivial⟩

/-- LRU, max_size 3: load 1, 2, 3 through the self-priming loader — three entries, one link each, the returned
    values cached; look 1 up, insert 4: 2 (the oldest) is evicted -/
example : (rreach true 3 (fun _ => .keyError) selfPriming 3
    [.on 0 (.getitem 1), .on 0 (.getitem 2), .on 0 (.getitem 3), .on 0 (.getitem 1), .on 0 (.setitem 4 0)]).map
      (fun c => (c.d, c.ring, c.hit, c.miss, c.omLog))
    = [([(1, 3), (3, 7), (4, 0)], [(3, 7), (1, 3), (4, 0)], 1, 3, [1, 2, 3])] := by decide

/-- the same on the pointer-level model: three links besides the anchor -/
example : (rhreach true 3 (fun _ => .keyError) selfPriming 3
    [.on 0 (.getitem 1), .on 0 (.getitem 2), .on 0 (.getitem 3)]).map (fun h => (h.d, h.ll.flatten, h.ll.fresh))
    = [([(1, 3), (2, 5), (3, 7)], [(some 1, some 3), (some 2, some 5), (some 3, some 7)], 4)] := by decide

/-- a loader that looks the next key up (nested misses) until the depth guard (fuel 2) raises: three misses, no
    hit, nothing cached, the exception propagates; with `get` the same (ValueError is not swallowed) -/
example : (rreach false 2 (fun _ => .keyError) (fun _ (k : Nat) => .ofList [(false, .getitem (k + 1))] (.ret 5)) 2 [.on 0 (.get 0 7)]).map
      (fun c => (c.d, c.miss, c.soft, c.omLog)) = [([], 3, 0, [0, 1, 2])] := by decide

/-- a loader that fills the cache beyond capacity and then raises KeyError (`del` of an absent key): `get`
    answers the default, one miss and one soft miss, the mutations stay, the size bound holds -/
example : (rreach false 2 (fun _ => .keyError) (fun _ (_ : Nat) => .ofList [(false, .update (.pairs [(1, 1), (2, 2), (3, 3)]) []), (false, .delitem 9)] (.ret 5)) 3
    [.on 0 (.get 0 7)]).map (fun c => (c.d, c.ring, c.miss, c.soft)) = [([(2, 2), (3, 3)], [(2, 2), (3, 3)], 1, 1)] := by decide

/-- a callback that catches the KeyError of its own `del` (`try: del c[9] except KeyError: pass`) and a stateful
    one (returns 100 + the number of earlier calls): both are strategies; nothing propagates, the values returned
    are cached -/
example : (rreach true 2 (fun _ => .keyError)
      (fun (lg : List Nat) (k : Nat) => .ofList [(true, .delitem 9), (false, .setitem (k + 10) 1)] (.ret (100 + lg.length))) 3
    [.on 0 (.getitem 1), .on 0 (.getitem 2)]).map (fun c => (c.d, c.miss, c.omLog))
    = [([(12, 1), (2, 101)], 2, [1, 2])] := by decide

/-- a callback that BRANCHES on what it sees: it looks whether key 1 is in the cache and stores 7 under key 5 only
    if it is not -/
example : (rreach false 3 (fun _ => .keyError)
      (fun _ (_ : Nat) => .call (.contains 1) fun o =>
        match o with
        | .bool true => .done (.ret 0)
        | _ => .call (.setitem 5 7) fun _ => .done (.ret 0)) 3
    [.on 0 (.getitem 2), .on 0 (.setitem 1 1), .on 0 (.delitem 5), .on 0 (.getitem 3)]).map (fun c => c.d)
    = [[(2, 0), (1, 1), (3, 0)]] := by decide

/-- what the example below shows of a callback's final state -/
def bodySummary (r : Cache Nat Nat × OmRes Nat) : List (Nat × Nat) × List (Nat × Nat) × OmRes Nat × List (Nat × Nat) :=
  (r.1.d, r.1.ring, r.2, (r.1.setitem 4 1).ring)

/-- hypotheses of `reentrant_on_miss_result_cached`: the callback stores the key and fills the cache; the
    returned value replaces the stored one and the key is the most recent -/
example : bodySummary
    (runProg (Cache.mach.rstep (fun _ (k : Nat) => OmProg.ofList [(false, .setitem k 9), (false, .setitem 7 7)] (.ret 1)) 1)
      (Cache.mach.missed (Cache.initP true 2 (none : Option (Nat → OmRes Nat))) 4)
      (OmProg.ofList [(false, .setitem 4 9), (false, .setitem 7 7)] (.ret 1)))
    = ([(4, 9), (7, 7)], [(4, 9), (7, 7)], .ret 1, [(7, 7), (4, 1)]) := by decide

end C02
