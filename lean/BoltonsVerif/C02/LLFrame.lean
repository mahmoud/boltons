import BoltonsVerif.C02.HRefine
/-
C02 — the linked lists of SEVERAL caches in one memory.

`HCache` gives every cache its own memory of links.  In CPython all links live in one heap; what keeps
two caches (a cache and its `copy()`) independent is that every `_ll` helper writes only links of the
list it is called on (its anchor and the links reachable from it) or freshly allocated links.  This file
proves exactly that (`Touches`, one lemma per helper) and the frame property of the representation
predicate (`Rep.frame`): a well-formed list is not disturbed by writes outside its own links.
-/
set_option linter.unusedSectionVars false
namespace C02
variable {K V : Type} [DecidableEq K]

def Closed (m : List Nat) (F : List Nat) : Prop := ∀ a ∈ F, rd m a ∈ F

theorem Closed.upd {m F : List Nat} (h : Closed m F) (a : Nat) {x : Nat} (hx : x ∈ F) : Closed (upd m a x) F := by
  intro b hb
  rw [rd_upd]
  split
  · exact hx
  · exact h b hb

def Same {α : Type} [Inhabited α] (fr : Nat) (F : List Nat) (m m' : List α) : Prop :=
  ∀ b, b ∉ F → b < fr → rd m' b = rd m b

theorem Same.refl {α : Type} [Inhabited α] (fr : Nat) (F : List Nat) (m : List α) : Same fr F m m :=
  fun _ _ _ => rfl

theorem Same.own {α : Type} [Inhabited α] {fr : Nat} {F : List Nat} {m m' : List α} {a : Nat} (ha : a ∈ F) (x : α)
    (h : Same fr F m m') : Same fr F m (upd m' a x) := by
  intro b hb hlt
  rw [rd_upd_ne _ _ (by rintro rfl; exact hb ha)]
  exact h b hb hlt

theorem Same.new {α : Type} [Inhabited α] {fr : Nat} {F : List Nat} {m m' : List α} {a : Nat} (ha : fr ≤ a) (x : α)
    (h : Same fr F m m') : Same fr F m (upd m' a x) := by
  intro b hb hlt
  rw [rd_upd_ne _ _ (by omega)]
  exact h b hb hlt

/-- `l'` differs from `l` at most in the links `F` and in links that were not allocated in `l` -/
structure Touches (l l' : LL K V) (F : List Nat) : Prop where
  fresh : l.fresh ≤ l'.fresh
  prev : Same l.fresh F l.prev l'.prev
  next : Same l.fresh F l.next l'.next
  key : Same l.fresh F l.key l'.key
  val : Same l.fresh F l.val l'.val

theorem Touches.refl (l : LL K V) (F : List Nat) : Touches l l F :=
  ⟨Nat.le_refl _, Same.refl _ _ _, Same.refl _ _ _, Same.refl _ _ _, Same.refl _ _ _⟩

theorem Chain.nx_mem {nx pv : Nat → Nat} {a z : Nat} {xs : List Nat} (h : Chain nx pv a xs z) :
    ∀ b ∈ a :: xs, nx b ∈ xs ++ [z] := by
  induction xs generalizing a with
  | nil => intro b hb; simp at hb; subst hb; simp [h.1]
  | cons x xs ih =>
    intro b hb
    simp only [List.mem_cons] at hb
    rcases hb with rfl | hb
    · simp [h.1]
    · have := ih h.2.2 b (by simpa using hb)
      simp only [List.cons_append, List.mem_cons]; exact Or.inr this

theorem Chain.pv_mem {nx pv : Nat → Nat} {a z : Nat} {xs : List Nat} (h : Chain nx pv a xs z) :
    ∀ b ∈ xs ++ [z], pv b ∈ a :: xs := by
  induction xs generalizing a with
  | nil => intro b hb; simp at hb; subst hb; simp [h.2]
  | cons x xs ih =>
    intro b hb
    simp only [List.cons_append, List.mem_cons] at hb
    rcases hb with rfl | hb
    · simp [h.2.1]
    · have := ih h.2.2 b hb
      exact List.mem_cons_of_mem _ this

def footprint (l : LL K V) (cells : Cells K V) : List Nat := l.anchor :: addrsOf cells

/-- the ring read from the anchor round to the anchor: the two ways `Chain` lists its links -/
theorem mem_snoc_anchor {l : LL K V} {cells : Cells K V} {a : Nat} :
    a ∈ addrsOf cells ++ [l.anchor] ↔ a ∈ footprint l cells := by
  rw [List.mem_append, List.mem_singleton, or_comm]; exact List.mem_cons.symm

theorem Rep.closed_next {l : LL K V} {cells : Cells K V} (h : Rep l cells) : Closed l.next (footprint l cells) :=
  fun a ha => mem_snoc_anchor.1 (h.chain.nx_mem a ha)

theorem Rep.closed_prev {l : LL K V} {cells : Cells K V} (h : Rep l cells) : Closed l.prev (footprint l cells) :=
  fun a ha => h.chain.pv_mem a (mem_snoc_anchor.2 ha)

theorem Rep.cell_of_table {l : LL K V} {cells : Cells K V} (h : Rep l cells) {k : K} {n : Nat}
    (ht : lookup k l.table = some n) : ∃ v, (k, (n, v)) ∈ cells := by
  rw [h.tbl] at ht
  cases hc : lookup k cells with
  | none => rw [hc] at ht; cases ht
  | some nv =>
    rw [hc] at ht
    cases ht
    exact ⟨nv.2, lookup_mem hc⟩

theorem Rep.addr_of_table {l : LL K V} {cells : Cells K V} (h : Rep l cells) {k : K} {n : Nat}
    (ht : lookup k l.table = some n) : n ∈ footprint l cells := by
  obtain ⟨v, hm⟩ := h.cell_of_table ht
  exact List.mem_cons_of_mem _ (mem_addrsOf hm)

theorem anchor_mem_footprint (l : LL K V) (cells : Cells K V) : l.anchor ∈ footprint l cells := by simp [footprint]

theorem Rep.touches_moveToFront {l l' : LL K V} {cells : Cells K V} (h : Rep l cells) {k : K} {n : Nat}
    (hm : l.moveToFront k = some (l', n)) :
    Touches l l' (footprint l cells) ∧ n ∈ footprint l cells ∧ l'.anchor = l.anchor ∧ l'.table = l.table := by
  unfold LL.moveToFront at hm
  split at hm
  · cases hm
  · rename_i n' ht
    have hn := h.addr_of_table ht
    simp only [Option.some.injEq, Prod.mk.injEq] at hm
    obtain ⟨rfl, rfl⟩ := hm
    have cn := h.closed_next
    have cp := h.closed_prev
    have cn1 := cn.upd (rd l.prev n') (cn n' hn)
    have cp1 := cp.upd (rd (upd l.next (rd l.prev n') (rd l.next n')) n') (cp n' hn)
    have hA := anchor_mem_footprint l cells
    refine ⟨⟨Nat.le_refl _, ?_, ?_, Same.refl _ _ _, Same.refl _ _ _⟩, hn, rfl, rfl⟩
    · apply Same.own hn
      apply Same.own hA
      apply Same.own (cn1 n' hn)
      exact Same.refl _ _ _
    · apply Same.own hn
      apply Same.own (cp1 _ hA)
      apply Same.own (cp n' hn)
      exact Same.refl _ _ _

theorem Rep.touches_addFront {l : LL K V} {cells : Cells K V} (h : Rep l cells) (k : K) (v : V) :
    Touches l (l.addFront k v) (footprint l cells) := by
  have hA := anchor_mem_footprint l cells
  refine ⟨Nat.le_succ _, ?_, ?_, ?_, ?_⟩
  · apply Same.own hA
    apply Same.new (Nat.le_refl _)
    exact Same.refl _ _ _
  · apply Same.own (h.closed_prev _ hA)
    apply Same.new (Nat.le_refl _)
    exact Same.refl _ _ _
  · apply Same.new (Nat.le_refl _)
    exact Same.refl _ _ _
  · apply Same.new (Nat.le_refl _)
    exact Same.refl _ _ _

theorem Rep.touches_evictLast {l : LL K V} {cells : Cells K V} (h : Rep l cells) (k : K) (v : V) :
    Touches l (l.evictLast k v).1 (footprint l cells) := by
  have hA := anchor_mem_footprint l cells
  refine ⟨Nat.le_refl _, Same.refl _ _ _, Same.refl _ _ _, ?_, ?_⟩
  · apply Same.own (h.closed_next _ hA)
    apply Same.own hA
    exact Same.refl _ _ _
  · apply Same.own (h.closed_next _ hA)
    apply Same.own hA
    exact Same.refl _ _ _

theorem Rep.touches_remove {l l' : LL K V} {cells : Cells K V} (h : Rep l cells) {k : K}
    (hm : l.remove k = some l') :
    Touches l l' (footprint l cells) ∧ l'.anchor = l.anchor ∧ l'.table = eraseKey k l.table := by
  unfold LL.remove at hm
  split at hm
  · cases hm
  · rename_i n ht
    have hn := h.addr_of_table ht
    simp only [Option.some.injEq] at hm
    subst hm
    have cn := h.closed_next
    have cp := h.closed_prev
    have cn1 := cn.upd (rd l.prev n) (cn n hn)
    refine ⟨⟨Nat.le_refl _, ?_, ?_, Same.refl _ _ _, Same.refl _ _ _⟩, rfl, rfl⟩
    · exact Same.own (cn1 n hn) _ (Same.refl _ _ _)
    · exact Same.own (cp n hn) _ (Same.refl _ _ _)

theorem Rep.touches_reinit (l : LL K V) (F : List Nat) : Touches l l.reinit F :=
  ⟨Nat.le_succ _, Same.new (Nat.le_refl _) _ (Same.refl _ _ _), Same.new (Nat.le_refl _) _ (Same.refl _ _ _),
   Same.new (Nat.le_refl _) _ (Same.refl _ _ _), Same.new (Nat.le_refl _) _ (Same.refl _ _ _)⟩

/-- `link[VALUE] = value` on a link of the list -/
theorem Rep.touches_setVal (l : LL K V) {F : List Nat} {n : Nat} (hn : n ∈ F) (x : Option V) :
    Touches l { l with val := upd l.val n x } F :=
  ⟨Nat.le_refl _, Same.refl _ _ _, Same.refl _ _ _, Same.refl _ _ _, Same.own hn _ (Same.refl _ _ _)⟩

theorem Rep.frame {l l2 : LL K V} {cells : Cells K V} (h : Rep l cells) (ha : l2.anchor = l.anchor)
    (ht : l2.table = l.table) (hf : l.fresh ≤ l2.fresh)
    (hs : ∀ a ∈ footprint l cells, rd l2.prev a = rd l.prev a ∧ rd l2.next a = rd l.next a ∧
      rd l2.key a = rd l.key a ∧ rd l2.val a = rd l.val a) : Rep l2 cells := by
  refine ⟨?_, by rw [ha]; exact h.nodup, ?_, Nat.lt_of_lt_of_le h.cnt hf, ?_, h.nk, by rw [ht]; exact h.tn,
    by rw [ht]; exact h.tbl⟩
  · rw [ha]
    exact h.chain.congr (fun b hb => (hs b hb).2.1) (fun b hb => (hs b (mem_snoc_anchor.1 hb)).1)
  · intro a ha'; rw [ha] at ha'; exact Nat.lt_of_lt_of_le (h.bound a ha') hf
  · intro c hc
    have hm : c.2.1 ∈ footprint l cells :=
      List.mem_cons_of_mem _ (mem_addrsOf hc)
    have := hs c.2.1 hm
    rw [this.2.2.1, this.2.2.2]
    exact h.kv c hc

/-- two well-formed lists in one memory with disjoint links; whatever is done to the first
    by a step that writes only its own (or new) links leaves the second well formed, with the same cells -/
theorem Rep.separate {l1 l1' l2 : LL K V} {c1 c2 : Cells K V} (h2 : Rep l2 c2)
    (hmem : l2.prev = l1.prev ∧ l2.next = l1.next ∧ l2.key = l1.key ∧ l2.val = l1.val ∧ l2.fresh = l1.fresh)
    (hdis : ∀ a ∈ footprint l2 c2, a ∉ footprint l1 c1) (ht : Touches l1 l1' (footprint l1 c1)) :
    Rep { l2 with prev := l1'.prev, next := l1'.next, key := l1'.key, val := l1'.val, fresh := l1'.fresh } c2 := by
  obtain ⟨e1, e2, e3, e4, e5⟩ := hmem
  refine h2.frame rfl rfl (by show l2.fresh ≤ l1'.fresh; rw [e5]; exact ht.fresh) (fun a ha => ?_)
  have hlt : a < l1.fresh := e5 ▸ h2.bound a ha
  have hn := hdis a ha
  exact ⟨by rw [e1]; exact ht.prev a hn hlt, by rw [e2]; exact ht.next a hn hlt,
    by rw [e3]; exact ht.key a hn hlt, by rw [e4]; exact ht.val a hn hlt⟩

/-- composition: a second step that writes only links of the (possibly grown) list -/
theorem Touches.trans {l l' l'' : LL K V} {F F' : List Nat} (h1 : Touches l l' F) (h2 : Touches l' l'' F')
    (hF : ∀ a ∈ F', a ∈ F ∨ l.fresh ≤ a) : Touches l l'' F := by
  have key : ∀ b, b ∉ F → b < l.fresh → b ∉ F' ∧ b < l'.fresh := fun b hb hlt =>
    ⟨fun hm => by rcases hF b hm with h | h; exact hb h; omega, Nat.lt_of_lt_of_le hlt h1.fresh⟩
  exact ⟨Nat.le_trans h1.fresh h2.fresh,
    fun b hb hlt => (h2.prev b (key b hb hlt).1 (key b hb hlt).2).trans (h1.prev b hb hlt),
    fun b hb hlt => (h2.next b (key b hb hlt).1 (key b hb hlt).2).trans (h1.next b hb hlt),
    fun b hb hlt => (h2.key b (key b hb hlt).1 (key b hb hlt).2).trans (h1.key b hb hlt),
    fun b hb hlt => (h2.val b (key b hb hlt).1 (key b hb hlt).2).trans (h1.val b hb hlt)⟩

/-! tracking a list through a sequence of steps: relative to its state `base` (own links `F0`) at some earlier
    time it has written only links it owned then or allocated since, and it uses only such links -/

def Owned (base : LL K V) (F0 : List Nat) (a : Nat) : Prop := a ∈ F0 ∨ base.fresh ≤ a

structure Track (base : LL K V) (F0 : List Nat) (l : LL K V) : Prop where
  touches : Touches base l F0
  anchor : Owned base F0 l.anchor
  table : ∀ k n, lookup k l.table = some n → Owned base F0 n

theorem Track.owns {base l : LL K V} {F0 : List Nat} {cells : Cells K V} (t : Track base F0 l) (h : Rep l cells) :
    ∀ a ∈ footprint l cells, a ∈ F0 ∨ base.fresh ≤ a := by
  intro a ha
  simp only [C02.footprint, List.mem_cons] at ha
  rcases ha with rfl | ha
  · exact t.anchor
  · obtain ⟨c, hc, rfl⟩ := List.mem_map.1 ha
    have hl := lookup_of_mem h.nk hc
    have ht : lookup c.1 l.table = some c.2.1 := by rw [h.tbl, hl]; rfl
    exact t.table _ _ ht

theorem Track.start {l : LL K V} {cells : Cells K V} (h : Rep l cells) : Track l (footprint l cells) l :=
  ⟨Touches.refl _ _, Or.inl (anchor_mem_footprint l cells), fun _ _ ht => Or.inl (h.addr_of_table ht)⟩

theorem Track.step {base l l' : LL K V} {F0 : List Nat} {cells : Cells K V} (t : Track base F0 l) (h : Rep l cells)
    (ht : Touches l l' (footprint l cells)) (ha : Owned base F0 l'.anchor)
    (htb : ∀ k n, lookup k l'.table = some n → Owned base F0 n) : Track base F0 l' :=
  ⟨t.touches.trans ht (t.owns h), ha, htb⟩

theorem Track.moveToFront {base l l' : LL K V} {F0 : List Nat} {cells : Cells K V} (t : Track base F0 l)
    (h : Rep l cells) {k : K} {n : Nat} (hm : l.moveToFront k = some (l', n)) (x : Option V) :
    Track base F0 l' ∧ Track base F0 { l' with val := upd l'.val n x } := by
  obtain ⟨ht, hn, ha, htb⟩ := h.touches_moveToFront hm
  have t1 : Track base F0 l' := t.step h ht (ha ▸ t.anchor) (by rw [htb]; exact t.table)
  refine ⟨t1, t.step h (ht.trans (Rep.touches_setVal l' hn x) (fun a ha => Or.inl ha)) t1.anchor t1.table⟩

theorem Track.addFront {base l : LL K V} {F0 : List Nat} {cells : Cells K V} (t : Track base F0 l)
    (h : Rep l cells) (k : K) (v : V) : Track base F0 (l.addFront k v) := by
  refine t.step h (h.touches_addFront k v) t.anchor (fun k' n hl => ?_)
  have hl' : lookup k' (dset k l.fresh l.table) = some n := hl
  by_cases e : k' = k
  · subst e; rw [lookup_dset_self] at hl'; cases hl'; exact Or.inr t.touches.fresh
  · rw [lookup_dset_ne e] at hl'; exact t.table _ _ hl'

theorem Track.evictLast {base l : LL K V} {F0 : List Nat} {cells : Cells K V} (t : Track base F0 l)
    (h : Rep l cells) (k : K) (v : V) : Track base F0 (l.evictLast k v).1 := by
  refine t.step h (h.touches_evictLast k v) ?_ (fun k' n hl => ?_)
  · exact t.owns h _ (h.closed_next _ (anchor_mem_footprint l cells))
  · have hl' : lookup k' (dset k l.anchor (match rd (upd l.key l.anchor (some k)) (rd l.next l.anchor) with
        | some e => eraseKey e l.table
        | none => l.table)) = some n := hl
    by_cases e : k' = k
    · subst e; rw [lookup_dset_self] at hl'; cases hl'; exact t.anchor
    · rw [lookup_dset_ne e] at hl'
      split at hl'
      · exact t.table _ _ (lookup_eraseKey_some h.tn hl')
      · exact t.table _ _ hl'

theorem Track.remove {base l l' : LL K V} {F0 : List Nat} {cells : Cells K V} (t : Track base F0 l)
    (h : Rep l cells) {k : K} (hm : l.remove k = some l') : Track base F0 l' := by
  obtain ⟨ht, ha, htb⟩ := h.touches_remove hm
  exact t.step h ht (ha ▸ t.anchor) (fun k' n hl => t.table _ _ (lookup_eraseKey_some h.tn (htb ▸ hl)))

theorem Track.reinit {base l : LL K V} {F0 : List Nat} {cells : Cells K V} (t : Track base F0 l)
    (h : Rep l cells) : Track base F0 l.reinit :=
  t.step h (Rep.touches_reinit l _) (Or.inr t.touches.fresh) (fun _ _ hl => by simp [LL.reinit, lookup] at hl)

/-! copy() in ONE memory: `ret = self.__class__(…)` allocates a new anchor (`_init_ll`), then
    `ret._set_key_and_add_to_front_of_ll(link[KEY], link[VALUE])` for every link met on the walk of the source -/

/-- the source list `l` seen in a later memory `m` (same anchor and table) -/
def LL.inMemoryOf (l m : LL K V) : LL K V :=
  { l with prev := m.prev, next := m.next, key := m.key, val := m.val, fresh := m.fresh }

/-- the list built by copy() from a fresh anchor holds the same items in the same (eviction)
    order, consists of new links only — disjoint from the source's — and the source list is still well formed,
    with the same cells, in the memory that now also holds the copy -/
theorem Rep.copy_in_same_memory {l : LL K V} {cells : Cells K V} (h : Rep l cells) :
    ∃ cells', Rep (l.reinit.addAll l.flatten) cells' ∧ ringOf cells' = ringOf cells ∧
      (∀ a ∈ footprint (l.reinit.addAll l.flatten) cells', a ∉ footprint l cells) ∧
      Rep (l.inMemoryOf (l.reinit.addAll l.flatten)) cells := by
  have h0 : Rep l.reinit [] := Rep.reinit l
  obtain ⟨c1, g1, g2, g3⟩ := h0.copy_keeps (fun k v hr t => Track.addFront t hr k v) (Track.start h0) h
  have hfp : footprint l.reinit ([] : Cells K V) = [l.fresh] := rfl
  refine ⟨c1, g1, g2, fun a ha ha2 => ?_, ?_⟩
  · have hlt : a < l.fresh := h.bound a ha2
    rcases g3.owns g1 a ha with h1 | h1
    · rw [hfp] at h1; simp at h1; omega
    · have : l.reinit.fresh = l.fresh + 1 := rfl
      omega
  · -- the source in the memory right after the new anchor was allocated …
    have hs : Rep (l.inMemoryOf l.reinit) cells := by
      refine h.frame rfl rfl (Nat.le_succ _) (fun a ha => ?_)
      have hlt : a < l.fresh := h.bound a ha
      have hne : a ≠ l.fresh := Nat.ne_of_lt hlt
      exact ⟨rd_upd_ne _ _ hne, rd_upd_ne _ _ hne, rd_upd_ne _ _ hne, rd_upd_ne _ _ hne⟩
    -- … is not disturbed by the additions to the new list
    have := hs.separate (l1 := l.reinit) (c1 := []) ⟨rfl, rfl, rfl, rfl, rfl⟩
      (fun a ha ha2 => by
        have hlt : a < l.fresh := h.bound a ha
        rw [hfp] at ha2; simp at ha2; omega) g3.touches
    exact this

end C02
