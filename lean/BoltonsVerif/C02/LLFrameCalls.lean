import BoltonsVerif.C02.LLFrame
import BoltonsVerif.C02.ReentFacts
/-
C02 — whole public method calls on the pointer-level cache, a re-entrant on_miss included, write only
links the cache's list owned before the call or allocated during it (`Track`), and the list uses only
such links afterwards.  Together with `Rep.separate` (LLFrame.lean): no call on one cache can disturb the
list of another cache that lives in the same memory.
-/
set_option linter.unusedSectionVars false
namespace C02
variable {K V : Type} [DecidableEq K] [DecidableEq V]

/-- the pointer-level cache simulates a ring-level cache (with `n` misses not yet matched by soft misses) and
    its list is tracked relative to `base` -/
def QT (base : LL K V) (F0 : List Nat) (n : Nat) (h : HCache K V) : Prop :=
  ∃ c, RHSim n h c ∧ Track base F0 h.ll

theorem LL.remove_cases (l : LL K V) (k : K) :
    (l.remove k = none) ∨ ∃ l', l.remove k = some l' := by
  cases l.remove k with
  | none => exact Or.inl rfl
  | some l' => exact Or.inr ⟨l', rfl⟩

/-- a property of the list that every `_ll` helper, `_init_ll` and `link[VALUE] = value` keep when they run
    on a well-formed list -/
structure LLInv (P : LL K V → Prop) : Prop where
  moveToFront : ∀ {l l' : LL K V} {cells : Cells K V} {k : K} {n : Nat}, Rep l cells → P l →
    l.moveToFront k = some (l', n) → ∀ x : Option V, P l' ∧ P { l' with val := upd l'.val n x }
  addFront : ∀ {l : LL K V} {cells : Cells K V} (k : K) (v : V), Rep l cells → P l → P (l.addFront k v)
  evictLast : ∀ {l : LL K V} {cells : Cells K V} (k : K) (v : V), Rep l cells → P l → P (l.evictLast k v).1
  remove : ∀ {l l' : LL K V} {cells : Cells K V} {k : K}, Rep l cells → P l → l.remove k = some l' → P l'
  reinit : ∀ {l : LL K V} {cells : Cells K V}, Rep l cells → P l → P l.reinit

section LLInv
variable {P : LL K V → Prop} (hP : LLInv P)
include hP

theorem LLInv.unlink {h : HCache K V} {cells : Cells K V} (hrep : Rep h.ll cells) (p : P h.ll) (k : K) :
    P (h.unlink k).ll := by
  unfold HCache.unlink
  cases hm : h.ll.remove k with
  | none => exact p
  | some l' => exact hP.remove hrep p hm

theorem LLInv.setitem {h : HCache K V} {cells : Cells K V} (hrep : Rep h.ll cells) (p : P h.ll) (k : K) (v : V) :
    P (h.setitem k v).ll := by
  unfold HCache.setitem
  cases hm : h.ll.moveToFront k with
  | some r => exact (hP.moveToFront hrep p hm (some v)).2
  | none =>
    simp only []
    split
    · exact hP.addFront k v hrep p
    · have := hP.evictLast k v hrep p
      cases he : h.ll.evictLast k v with
      | mk l' e =>
        rw [he] at this
        cases e <;> exact this

theorem LLInv.getitem {h : HCache K V} {cells : Cells K V} (hrep : Rep h.ll cells) (p : P h.ll) (k : K) :
    P (h.getitem k).1.ll := by
  unfold HCache.getitem
  have hfound : ∀ r, (if h.lru = true then h.ll.moveToFront k else (lookup k h.ll.table).map fun n => (h.ll, n)) = some r →
      P r.1 := by
    intro r hr
    split at hr
    · exact (hP.moveToFront (n := r.2) hrep p hr none).1
    · cases hl : lookup k h.ll.table with
      | none => simp [hl] at hr
      | some n => simp only [hl, Option.map_some, Option.some.injEq] at hr; rw [← hr]; exact p
  generalize (if h.lru = true then h.ll.moveToFront k else (lookup k h.ll.table).map fun n => (h.ll, n)) = found
    at hfound
  cases found with
  | some r =>
    have := hfound r rfl
    simp only
    split <;> exact this
  | none =>
    simp only
    split
    · exact p
    · split
      · exact hP.setitem (h := { h with miss := h.miss + 1, omLog := h.omLog ++ [k] }) hrep p k _
      · exact p
      · exact p

theorem LLInv.prims : PInv (K := K) (V := V) HCache.prim (fun h => (∃ c, HSim h c) ∧ P h.ll) (fun _ => True) where
  setitem k v := fun ⟨⟨c, hs⟩, p⟩ => ⟨⟨_, hs.setitem k v⟩, hs.rep.elim fun _ hr => hP.setitem hr.1 p k v⟩
  remove := fun {h k v} ⟨⟨c, hs⟩, p⟩ hk =>
    ⟨⟨_, HSim.prims.remove hs (HSim.prims.items hs ▸ hk)⟩, hs.rep.elim fun _ hr => hP.unlink (h := { h with d := eraseKey k h.d }) hr.1 p k⟩
  popLast := fun {h q} ⟨⟨c, hs⟩, p⟩ hp =>
    ⟨⟨_, HSim.prims.popLast hs (HSim.prims.items hs ▸ hp)⟩, hs.rep.elim fun _ hr => hP.unlink (h := { h with d := h.d.dropLast }) hr.1 p q.1⟩
  clear := fun ⟨⟨c, hs⟩, p⟩ => ⟨⟨_, HSim.prims.clear hs⟩, hs.rep.elim fun _ hr => hP.reinit hr.1 p⟩
  copied _ := trivial

/-- the property rides through the re-entrant interpreter of the pointer-level machine beside the simulation -/
theorem LLInv.mach : MInv (HCache.mach (K := K) (V := V)) (fun n h => ∃ c, RHSim n h c ∧ P h.ll) (fun _ => True) where
  weaken := fun ⟨c, hr, p⟩ => ⟨c, HSim.mach.weaken hr, p⟩
  hit := fun k ⟨c, hr, p⟩ hf =>
    have ⟨hr', v, hv, _⟩ := HSim.mach.hit k hr hf
    hr.1.rep.elim fun _ hrep => ⟨⟨_, hr', hP.getitem hrep.1 p k⟩, v, hv⟩
  missed := fun k ⟨c, hr, p⟩ => ⟨_, HSim.mach.missed k hr, p⟩
  setitem := fun k v ⟨c, hr, p⟩ => hr.1.rep.elim fun _ hrep => ⟨_, HSim.mach.setitem k v hr, hP.setitem hrep.1 p k v⟩
  soft := fun ⟨c, hr, p⟩ => ⟨_, HSim.mach.soft hr, p⟩
  step := fun op ⟨c, hr, p⟩ hop =>
    ⟨⟨_, (HSim.mach.step op hr hop).1, by
      have := ((LLInv.prims hP).call ⟨⟨c, hr.1⟩, p⟩ op).1.2
      rwa [← hstep_eq_call hop] at this⟩, fun _ _ => trivial⟩

theorem LLInv.hstep {h : HCache K V} {c : Cache K V} (hs : HSim h c) (p : P h.ll) (op : Op K V) :
    P (hstep h op).1.ll := by
  rw [← hstep_eq_stepWith]
  refine ((LLInv.mach hP).stepWith (g := HCache.getitem) (n := 0) (fun k ⟨c, hr, p⟩ => ?_) ⟨c, RHSim.zero_iff.2 hs, p⟩ op).elim
    fun _ x => x.2
  have hg := HSim.gsim _ _ _ k hr
  exact hr.1.rep.elim fun _ hrep => ⟨⟨_, hg.1, hP.getitem hrep.1 p k⟩, fun e => ⟨_, hg.2.2 e, hP.getitem hrep.1 p k⟩⟩

end LLInv

theorem Track.llInv (base : LL K V) (F0 : List Nat) : LLInv (Track base F0) where
  moveToFront := fun hrep t hm x => t.moveToFront hrep hm x
  addFront := fun k v hrep t => t.addFront hrep k v
  evictLast := fun k v hrep t => t.evictLast hrep k v
  remove := fun hrep t hm => t.remove hrep hm
  reinit := fun hrep t => t.reinit hrep

-- `QT base F0` unfolds to the predicate `LLInv.mach` carries for `Track base F0`
theorem HCache.machTrack (base : LL K V) (F0 : List Nat) :
    MInv (HCache.mach (K := K) (V := V)) (QT base F0) (fun _ => True) :=
  (Track.llInv base F0).mach

theorem QT.setitem {base : LL K V} {F0 : List Nat} {n : Nat} {h : HCache K V} (q : QT base F0 n h) (k : K) (v : V) :
    QT base F0 n (h.setitem k v) :=
  (HCache.machTrack base F0).setitem k v q

end C02
