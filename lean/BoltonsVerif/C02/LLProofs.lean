import BoltonsVerif.C02.Facts
/-
C02 — the pointer-level linked list implements the ring: representation predicate `Rep` and the
effect of `_init_ll` and the four `_ll` helpers on it.
-/
set_option linter.unusedSectionVars false
namespace C02
variable {K V : Type} [DecidableEq K]

theorem rd_upd {α : Type} [Inhabited α] (m : List α) (a b : Nat) (x : α) :
    rd (upd m a x) b = if b = a then x else rd m b := by
  unfold rd upd
  by_cases h : a < m.length
  · simp only [h, if_true, List.getD_eq_getElem?_getD, List.getElem?_set]
    by_cases e : b = a
    · subst e; simp
    · simp [e, Ne.symm e]
  · simp only [h, if_false, List.getD_eq_getElem?_getD]
    have hle : m.length ≤ a := Nat.le_of_not_lt h
    by_cases e : b = a
    · subst e
      rw [if_pos rfl, List.getElem?_append_right (by simp; omega)]
      have : b - (m ++ List.replicate (b - m.length) default).length = 0 := by simp; omega
      rw [this]; rfl
    · rw [if_neg e]
      by_cases hb : b < m.length
      · rw [List.append_assoc, List.getElem?_append_left hb]
      · have hb' : m.length ≤ b := Nat.le_of_not_lt hb
        rw [List.getElem?_eq_none hb']
        by_cases hb2 : b < a
        · rw [List.getElem?_append_left (by simp; omega), List.getElem?_append_right hb']
          simp only [List.getElem?_replicate]; split <;> rfl
        · rw [List.getElem?_eq_none (by simp; omega)]

theorem rd_upd_self {α : Type} [Inhabited α] (m : List α) (a : Nat) (x : α) : rd (upd m a x) a = x := by
  rw [rd_upd, if_pos rfl]

theorem rd_upd_ne {α : Type} [Inhabited α] (m : List α) {a b : Nat} (x : α) (h : b ≠ a) :
    rd (upd m a x) b = rd m b := by
  rw [rd_upd, if_neg h]

/-- from link `a` through the links `xs` to link `z`, following NEXT; PREV points back; the whole ring is the
    segment from the anchor to the anchor -/
def Chain (nx pv : Nat → Nat) : Nat → List Nat → Nat → Prop
  | a, [], z => nx a = z ∧ pv z = a
  | a, x :: xs, z => nx a = x ∧ pv x = a ∧ Chain nx pv x xs z

def lastOf : Nat → List Nat → Nat
  | a, [] => a
  | _, x :: xs => lastOf x xs

theorem lastOf_mem (a : Nat) (xs : List Nat) : lastOf a xs ∈ a :: xs := by
  induction xs generalizing a with
  | nil => simp [lastOf]
  | cons x xs ih => simp only [lastOf]; exact List.mem_cons_of_mem _ (ih x)

theorem lastOf_append (a : Nat) (xs : List Nat) (n : Nat) : lastOf a (xs ++ [n]) = n := by
  induction xs generalizing a with
  | nil => rfl
  | cons x xs ih => simp only [List.cons_append, lastOf]; exact ih x

theorem Chain.pv_end {nx pv : Nat → Nat} {a z : Nat} {xs : List Nat} (h : Chain nx pv a xs z) :
    pv z = lastOf a xs := by
  induction xs generalizing a with
  | nil => exact h.2
  | cons x xs ih => exact ih h.2.2

theorem Chain.nx_start {nx pv : Nat → Nat} {a z : Nat} {xs : List Nat} (h : Chain nx pv a xs z) :
    nx a = xs.headD z := by
  cases xs with
  | nil => exact h.1
  | cons x xs => exact h.1

theorem chain_append {nx pv : Nat → Nat} {a z m : Nat} {xs ys : List Nat} :
    Chain nx pv a (xs ++ m :: ys) z ↔ Chain nx pv a xs m ∧ Chain nx pv m ys z := by
  induction xs generalizing a with
  | nil =>
    simp only [List.nil_append, Chain]
    constructor
    · rintro ⟨h1, h2, h3⟩; exact ⟨⟨h1, h2⟩, h3⟩
    · rintro ⟨⟨h1, h2⟩, h3⟩; exact ⟨h1, h2, h3⟩
  | cons x xs ih =>
    simp only [List.cons_append, Chain, ih]
    constructor
    · rintro ⟨h1, h2, h3, h4⟩; exact ⟨⟨h1, h2, h3⟩, h4⟩
    · rintro ⟨⟨h1, h2, h3⟩, h4⟩; exact ⟨h1, h2, h3, h4⟩

/-- frame: a segment only depends on NEXT of its start and inner links, PREV of its inner links and end -/
theorem Chain.congr {nx pv nx' pv' : Nat → Nat} {a z : Nat} {xs : List Nat} (h : Chain nx pv a xs z)
    (hn : ∀ b ∈ a :: xs, nx' b = nx b) (hp : ∀ b ∈ xs ++ [z], pv' b = pv b) : Chain nx' pv' a xs z := by
  induction xs generalizing a with
  | nil =>
    exact ⟨(hn a (by simp)).trans h.1, (hp z (by simp)).trans h.2⟩
  | cons x xs ih =>
    refine ⟨(hn a (by simp)).trans h.1, (hp x (by simp)).trans h.2.1, ?_⟩
    exact ih h.2.2 (fun b hb => hn b (List.mem_cons_of_mem _ hb)) (fun b hb => hp b (by simp only [List.cons_append]; exact List.mem_cons_of_mem _ hb))

/-- the segment `a … xs` made to end in `z'` instead: only NEXT of its last link and PREV of `z'` change -/
theorem Chain.retarget {nx pv nx' pv' : Nat → Nat} {a m z' : Nat} {xs : List Nat} (h : Chain nx pv a xs m)
    (hnd : (a :: xs).Nodup) (hz : z' ∉ xs)
    (hn1 : nx' (lastOf a xs) = z') (hn : ∀ b ∈ a :: xs, b ≠ lastOf a xs → nx' b = nx b)
    (hp1 : pv' z' = lastOf a xs) (hp : ∀ b ∈ xs, pv' b = pv b) : Chain nx' pv' a xs z' := by
  induction xs generalizing a with
  | nil => exact ⟨hn1, hp1⟩
  | cons x xs ih =>
    simp only [lastOf] at hn1 hp1 hn
    have hax : a ≠ lastOf x xs := by
      intro e
      have := lastOf_mem x xs
      rw [← e] at this
      exact (List.nodup_cons.1 hnd).1 this
    refine ⟨(hn a (by simp) hax).trans h.1, (hp x (by simp)).trans h.2.1, ?_⟩
    apply ih h.2.2 (List.nodup_cons.1 hnd).2 (fun hm => hz (List.mem_cons_of_mem _ hm)) hn1
    · intro b hb hne; exact hn b (List.mem_cons_of_mem _ hb) hne
    · exact hp1
    · intro b hb; exact hp b (List.mem_cons_of_mem _ hb)

theorem nodup_mid {A n : Nat} {xs ys : List Nat} (h : (A :: (xs ++ n :: ys)).Nodup) :
    (A :: (xs ++ ys)).Nodup ∧ n ∉ A :: (xs ++ ys) ∧ A ∉ xs ++ n :: ys := by
  have hp : (A :: (xs ++ n :: ys)).Perm (n :: A :: (xs ++ ys)) :=
    ((List.perm_middle).cons A).trans (List.Perm.swap _ _ _)
  have := hp.nodup_iff.1 h
  rw [List.nodup_cons] at this
  exact ⟨this.2, this.1, (List.nodup_cons.1 h).1⟩

/-- splicing the link `m` out: `m[PREV][NEXT] = m[NEXT]; m[NEXT][PREV] = m[PREV]` -/
theorem Chain.splice {nx pv nx' pv' : Nat → Nat} {a z m : Nat} {xs ys : List Nat}
    (h : Chain nx pv a (xs ++ m :: ys) z) (hnd : (a :: (xs ++ m :: ys)).Nodup) (hz : z ∉ xs ++ m :: ys)
    (hn1 : nx' (pv m) = nx m) (hn : ∀ b, b ≠ pv m → nx' b = nx b)
    (hp1 : pv' (nx m) = pv m) (hp : ∀ b, b ≠ nx m → pv' b = pv b) : Chain nx' pv' a (xs ++ ys) z := by
  obtain ⟨h1, h2⟩ := chain_append.1 h
  have hpm : pv m = lastOf a xs := h1.pv_end
  have hnm : nx m = ys.headD z := h2.nx_start
  obtain ⟨hnd', hm', _⟩ := nodup_mid hnd
  rw [← List.cons_append] at hnd'
  obtain ⟨hnd1, hnd2, hsep⟩ := List.nodup_append.1 hnd'
  have hlast : lastOf a xs ∈ a :: xs := lastOf_mem a xs
  have hdis : ∀ b ∈ a :: xs, b ≠ m ∧ b ∉ ys := fun b hb =>
    ⟨fun e => hm' (e ▸ List.mem_append_left ys hb), fun hy => hsep b hb b hy rfl⟩
  cases ys with
  | nil =>
    simp only [List.append_nil]
    simp only [List.headD_nil] at hnm
    apply h1.retarget hnd1 (fun hm => hz (by simp [hm]))
    · rw [← hpm, hn1, hnm]
    · intro b _ hne; exact hn b (hpm ▸ hne)
    · rw [← hpm, ← hnm]; exact hp1
    · intro b hb
      apply hp
      rw [hnm]; intro e; exact hz (by simp [← e, hb])
  | cons y ys =>
    simp only [List.headD_cons] at hnm
    obtain ⟨g1, g2, g3⟩ := h2
    have hyx : y ∉ xs := fun hy => (hdis y (List.mem_cons_of_mem _ hy)).2 (by simp)
    refine chain_append.2 ⟨?_, ?_⟩
    · apply h1.retarget hnd1 hyx
      · rw [← hpm, hn1, hnm]
      · intro b _ hne; exact hn b (hpm ▸ hne)
      · rw [← hpm, ← hnm]; exact hp1
      · intro b hb
        apply hp
        rw [hnm]; intro e; exact hyx (e ▸ hb)
    · apply g3.congr
      · intro b hb
        apply hn
        rw [hpm]; intro e
        exact (hdis _ hlast).2 (e ▸ hb)
      · intro b hb
        apply hp
        rw [hnm]
        simp only [List.mem_append, List.mem_singleton] at hb
        rcases hb with hb | hb
        · intro e; exact (List.nodup_cons.1 hnd2).1 (e ▸ hb)
        · intro e; exact hz (by simp [hb ▸ e])

/-- linking `n` in before `z`: `s = z[PREV]; s[NEXT] = z[PREV] = n; n[PREV] = s; n[NEXT] = z` -/
theorem Chain.snoc {nx pv nx' pv' : Nat → Nat} {a z n : Nat} {xs : List Nat}
    (h : Chain nx pv a xs z) (hnd : (a :: xs).Nodup) (hz : z ∉ xs) (hna : n ∉ a :: xs)
    (hn1 : nx' (pv z) = n) (hn2 : nx' n = z) (hn : ∀ b, b ≠ pv z → b ≠ n → nx' b = nx b)
    (hp1 : pv' z = n) (hp2 : pv' n = pv z) (hp : ∀ b, b ≠ z → b ≠ n → pv' b = pv b) :
    Chain nx' pv' a (xs ++ [n]) z := by
  have hpz : pv z = lastOf a xs := h.pv_end
  refine chain_append.2 ⟨?_, hn2, hp1⟩
  apply h.retarget hnd (fun hm => hna (List.mem_cons_of_mem _ hm))
  · rw [← hpz]; exact hn1
  · intro b hb hne
    exact hn b (hpz ▸ hne) (fun e => hna (e ▸ hb))
  · rw [← hpz]; exact hp2
  · intro b hb
    exact hp b (fun e => hz (e ▸ hb)) (fun e => hna (e ▸ List.mem_cons_of_mem _ hb))

/-- the anchor rotation of `_set_key_and_evict_last_in_ll`: no pointer changes, the oldest link `e`
    becomes the anchor and the old anchor the newest link -/
theorem Chain.rotate {nx pv : Nat → Nat} {a e : Nat} {rest : List Nat} (h : Chain nx pv a (e :: rest) a) :
    Chain nx pv e (rest ++ [a]) e :=
  chain_append.2 ⟨h.2.2, h.1, h.2.1⟩

def mapVal {A B : Type} (f : A → B) (l : List (K × A)) : List (K × B) := l.map fun c => (c.1, f c.2)

section mapVal
variable {A B : Type} (f : A → B)

@[simp] theorem mapVal_nil : mapVal f ([] : List (K × A)) = [] := rfl
@[simp] theorem mapVal_cons (c : K × A) (l : List (K × A)) : mapVal f (c :: l) = (c.1, f c.2) :: mapVal f l := rfl
@[simp] theorem mapVal_append (l m : List (K × A)) : mapVal f (l ++ m) = mapVal f l ++ mapVal f m := by
  simp [mapVal]

theorem keys_mapVal (l : List (K × A)) : keys (mapVal f l) = keys l := by
  simp [keys, mapVal, List.map_map, Function.comp_def]

theorem lookup_mapVal (k : K) (l : List (K × A)) : lookup k (mapVal f l) = (lookup k l).map f := by
  induction l with
  | nil => rfl
  | cons c l ih => simp only [mapVal_cons, lookup]; split <;> simp [ih]

theorem eraseKey_mapVal (k : K) (l : List (K × A)) : eraseKey k (mapVal f l) = mapVal f (eraseKey k l) := by
  induction l with
  | nil => rfl
  | cons c l ih => simp only [mapVal_cons, eraseKey]; split <;> simp [ih]

theorem length_mapVal (l : List (K × A)) : (mapVal f l).length = l.length := by simp [mapVal]
end mapVal

theorem mapVal_split {A B : Type} (f : A → B) {xs ys : List (K × A)} {k : K} (x : A) (hkx : lookup k xs = none) :
    lookup k (mapVal f (xs ++ (k, x) :: ys)) = some (f x) ∧
    eraseKey k (mapVal f (xs ++ (k, x) :: ys)) = mapVal f (xs ++ ys) := by
  have hx : lookup k (mapVal f xs) = none := by rw [lookup_mapVal, hkx]; rfl
  simp only [mapVal_append, mapVal_cons, lookup_append, hx, lookup, eraseKey_append_of_none hx, eraseKey, if_true, and_self]

/-- cell = key ↦ (address of its link, value); oldest first -/
abbrev Cells (K V : Type) := List (K × (Nat × V))

def addrsOf (cells : Cells K V) : List Nat := cells.map (·.2.1)
def ringOf (cells : Cells K V) : List (K × V) := mapVal (·.2) cells

@[simp] theorem addrsOf_nil : addrsOf ([] : Cells K V) = [] := rfl
@[simp] theorem addrsOf_cons (c : K × (Nat × V)) (l : Cells K V) : addrsOf (c :: l) = c.2.1 :: addrsOf l := rfl
theorem mem_addrsOf {c : K × (Nat × V)} {cells : Cells K V} (h : c ∈ cells) : c.2.1 ∈ addrsOf cells :=
  List.mem_map_of_mem h

@[simp] theorem addrsOf_append (l m : Cells K V) : addrsOf (l ++ m) = addrsOf l ++ addrsOf m := by
  simp [addrsOf]

/-- `cnt` is there for `LL.walk`, whose fuel is `fresh`; `nk` / `tn`: no key twice in the cells / in `_link_lookup` -/
structure Rep (l : LL K V) (cells : Cells K V) : Prop where
  chain : Chain (rd l.next) (rd l.prev) l.anchor (addrsOf cells) l.anchor
  nodup : (l.anchor :: addrsOf cells).Nodup
  bound : ∀ a ∈ l.anchor :: addrsOf cells, a < l.fresh
  cnt : cells.length < l.fresh
  kv : ∀ c ∈ cells, rd l.key c.2.1 = some c.1 ∧ rd l.val c.2.1 = some c.2.2
  nk : (keys cells).Nodup
  tn : (keys l.table).Nodup
  tbl : ∀ k, lookup k l.table = (lookup k cells).map (·.1)

/-- the link table and the cells are in step exactly as the dict and the ring are: the helpers change them by
    `Sync.touch` (move to front), `Sync.add` (a new link), `Sync.remove` (a link goes) -/
theorem Rep.sync {l : LL K V} {cells : Cells K V} (h : Rep l cells) : Sync l.table (mapVal (·.1) cells) := by
  have nr : (keys (mapVal (·.1) cells)).Nodup := by rw [keys_mapVal]; exact h.nk
  have ag : ∀ k, lookup k l.table = lookup k (mapVal (·.1) cells) := fun k => by rw [h.tbl, lookup_mapVal]
  exact ⟨h.tn, nr, ag, length_eq_of_agree h.tn nr ag⟩

theorem Rep.of_sync {l : LL K V} {cells : Cells K V}
    (chain : Chain (rd l.next) (rd l.prev) l.anchor (addrsOf cells) l.anchor)
    (nodup : (l.anchor :: addrsOf cells).Nodup) (bound : ∀ a ∈ l.anchor :: addrsOf cells, a < l.fresh)
    (cnt : cells.length < l.fresh) (kv : ∀ c ∈ cells, rd l.key c.2.1 = some c.1 ∧ rd l.val c.2.1 = some c.2.2)
    (s : Sync l.table (mapVal (·.1) cells)) : Rep l cells :=
  ⟨chain, nodup, bound, cnt, kv, by have := s.nr; rwa [keys_mapVal] at this, s.nd,
    fun k => by rw [s.agree, lookup_mapVal]⟩

theorem Rep.reinit (l : LL K V) : Rep l.reinit [] := by
  refine ⟨?_, by simp, by simp [LL.reinit], by simp [LL.reinit], by simp, by simp, by simp [LL.reinit],
    by simp [LL.reinit, lookup]⟩
  simp only [LL.reinit, addrsOf_nil, Chain, rd_upd_self, and_self]

-- `LL.new` is `reinit` of the memory in which nothing is allocated, by `rfl`
theorem Rep.new : Rep (LL.new : LL K V) [] := Rep.reinit ⟨[], [], [], [], 0, 0, []⟩

/-- `n[PREV][NEXT] = n[NEXT]; n[NEXT][PREV] = n[PREV]`, the two writes with which `_get_link_and_move_to_front_of_ll`
    begins and the only ones `_remove_from_ll` makes, leave a ring of the other links (`Chain.splice`); the last conjunct:
    the first write has not touched `n[NEXT]`, which the second one reads -/
theorem Rep.spliceOut {l : LL K V} {xs ys : Cells K V} {k : K} {n : Nat} {v : V}
    (h : Rep l (xs ++ (k, (n, v)) :: ys)) :
    lookup k l.table = some n ∧ lookup k xs = none ∧
    (l.anchor :: (addrsOf xs ++ addrsOf ys)).Nodup ∧ n ∉ l.anchor :: (addrsOf xs ++ addrsOf ys) ∧
    Chain (rd (upd l.next (rd l.prev n) (rd l.next n))) (rd (upd l.prev (rd l.next n) (rd l.prev n)))
      l.anchor (addrsOf xs ++ addrsOf ys) l.anchor ∧
    rd (upd l.next (rd l.prev n) (rd l.next n)) n = rd l.next n := by
  have hnk := h.nk
  simp only [keys_append, keys_cons] at hnk
  have hkx : lookup k xs = none := by
    rw [lookup_none_iff]
    intro hm
    exact (List.nodup_append.1 hnk).2.2 k hm k (by simp) rfl
  have ht : lookup k l.table = some n := by
    rw [h.tbl, lookup_append, hkx]; simp [lookup]
  have hch := h.chain
  have hnd := h.nodup
  simp only [addrsOf_append, addrsOf_cons] at hch hnd
  obtain ⟨hnd', hn', hA⟩ := nodup_mid hnd
  have hpn : rd l.prev n ≠ n := by
    rw [(chain_append.1 hch).1.pv_end]
    intro e
    have hm := lastOf_mem l.anchor (addrsOf xs)
    rw [e] at hm
    apply hn'
    simp only [List.mem_cons, List.mem_append] at hm ⊢
    rcases hm with hm | hm
    · exact Or.inl hm
    · exact Or.inr (Or.inl hm)
  exact ⟨ht, hkx, hnd', hn', hch.splice hnd hA (rd_upd_self _ _ _) (fun b hb => rd_upd_ne _ _ hb)
    (rd_upd_self _ _ _) (fun b hb => rd_upd_ne _ _ hb), rd_upd_ne _ _ (Ne.symm hpn)⟩

theorem Rep.moveToFront {l : LL K V} {xs ys : Cells K V} {k : K} {n : Nat} {v : V}
    (h : Rep l (xs ++ (k, (n, v)) :: ys)) :
    ∃ l', l.moveToFront k = some (l', n) ∧ Rep l' (xs ++ ys ++ [(k, (n, v))]) ∧ l'.val = l.val := by
  obtain ⟨ht, hkx, hnd', hn', hA1, hnx1⟩ := h.spliceOut
  -- the link is spliced out; now link it in before the anchor
  have hs := lastOf_mem l.anchor (addrsOf xs ++ addrsOf ys)
  have hsn : lastOf l.anchor (addrsOf xs ++ addrsOf ys) ≠ n := fun e => hn' (e ▸ hs)
  have hAn : l.anchor ≠ n := fun e => hn' (by simp [e])
  have hs1 := hA1.pv_end
  refine ⟨{ l with
      prev := upd (upd (upd l.prev (rd l.next n) (rd l.prev n)) l.anchor n) n
        (rd (upd l.prev (rd l.next n) (rd l.prev n)) l.anchor),
      next := upd (upd (upd l.next (rd l.prev n) (rd l.next n))
        (rd (upd l.prev (rd l.next n) (rd l.prev n)) l.anchor) n) n l.anchor }, ?_, ?_, rfl⟩
  · simp only [LL.moveToFront, ht, hnx1]
  · have hperm : (xs ++ ys ++ [(k, (n, v))]).Perm (xs ++ (k, (n, v)) :: ys) := by
      rw [List.append_assoc]
      exact (List.perm_append_left_iff xs).2 (List.perm_append_singleton _ _)
    have hpa : (l.anchor :: addrsOf (xs ++ ys ++ [(k, (n, v))])).Perm (l.anchor :: addrsOf (xs ++ (k, (n, v)) :: ys)) :=
      (hperm.map _).cons _
    have hs := h.sync.touch (mapVal_split (·.1) (n, v) hkx).1
    rw [toFront, (mapVal_split (·.1) (n, v) hkx).2] at hs
    refine Rep.of_sync ?_ ?_ ?_ ?_ ?_ (by simpa only [mapVal_append, mapVal_cons, mapVal_nil] using hs)
    · simp only [addrsOf_append, addrsOf_cons, addrsOf_nil]
      exact hA1.snoc hnd' (fun hm => (List.nodup_cons.1 hnd').1 hm) hn'
        (by rw [rd_upd_ne _ _ (by rw [hs1]; exact hsn), rd_upd_self])
        (rd_upd_self _ _ _)
        (fun b h1 h2 => by rw [rd_upd_ne _ _ h2, rd_upd_ne _ _ h1])
        (by rw [rd_upd_ne _ _ hAn, rd_upd_self])
        (rd_upd_self _ _ _)
        (fun b h1 h2 => by rw [rd_upd_ne _ _ h2, rd_upd_ne _ _ h1])
    · exact hpa.nodup_iff.2 h.nodup
    · exact fun a ha => h.bound a (hpa.subset ha)
    · have := h.cnt; simp only [List.length_append, List.length_cons, List.length_nil] at this ⊢; omega
    · intro c hc; exact h.kv c (hperm.mem_iff.1 hc)

theorem Rep.table_none {l : LL K V} {cells : Cells K V} (h : Rep l cells) {k : K} (hk : lookup k cells = none) :
    lookup k l.table = none := by rw [h.tbl, hk]; rfl

theorem Rep.moveToFront_none {l : LL K V} {cells : Cells K V} (h : Rep l cells) {k : K}
    (hk : lookup k cells = none) : l.moveToFront k = none := by
  simp only [LL.moveToFront, h.table_none hk]

/-- `link[VALUE] = value` on the newest link -/
theorem Rep.setVal {l : LL K V} {cs : Cells K V} {k : K} {n : Nat} {v : V} (h : Rep l (cs ++ [(k, (n, v))])) (v' : V) :
    Rep { l with val := upd l.val n (some v') } (cs ++ [(k, (n, v'))]) := by
  have hnd := h.nodup
  have haddr : addrsOf (cs ++ [(k, (n, v'))]) = addrsOf (cs ++ [(k, (n, v))]) := by
    simp only [addrsOf_append, addrsOf_cons, addrsOf_nil]
  refine Rep.of_sync (haddr ▸ h.chain) (haddr ▸ h.nodup) (haddr ▸ h.bound) ?_ ?_
    (by simpa only [mapVal_append, mapVal_cons, mapVal_nil] using h.sync)
  · simpa only [List.length_append, List.length_cons, List.length_nil] using h.cnt
  · intro c hc
    simp only [List.mem_append, List.mem_singleton] at hc
    rcases hc with hc | hc
    · have := h.kv c (by simp [hc])
      refine ⟨this.1, ?_⟩
      show rd (upd l.val n (some v')) c.2.1 = _
      rw [rd_upd_ne, this.2]
      intro e
      simp only [addrsOf_append, addrsOf_cons, addrsOf_nil] at hnd
      have hn2 := (List.nodup_cons.1 hnd).2
      have : c.2.1 ∈ addrsOf cs := mem_addrsOf hc
      exact (List.nodup_append.1 hn2).2.2 _ this n (by simp) e
    · subst hc
      have := h.kv (k, (n, v)) (by simp)
      exact ⟨this.1, rd_upd_self _ _ _⟩

theorem Rep.addFront {l : LL K V} {cells : Cells K V} (h : Rep l cells) {k : K} (v : V)
    (hk : lookup k cells = none) : Rep (l.addFront k v) (cells ++ [(k, (l.fresh, v))]) := by
  have hfr : l.fresh ∉ l.anchor :: addrsOf cells := fun hm => Nat.lt_irrefl _ (h.bound _ hm)
  have hAf : l.anchor ≠ l.fresh := fun e => hfr (by simp [e])
  have hs := lastOf_mem l.anchor (addrsOf cells)
  have hs1 := h.chain.pv_end
  have hsf : rd l.prev l.anchor ≠ l.fresh := by rw [hs1]; intro e; exact hfr (e ▸ hs)
  have hc := h.chain.snoc (n := l.fresh)
    (nx' := rd (upd (upd l.next l.fresh l.anchor) (rd l.prev l.anchor) l.fresh))
    (pv' := rd (upd (upd l.prev l.fresh (rd l.prev l.anchor)) l.anchor l.fresh))
    h.nodup (List.nodup_cons.1 h.nodup).1 hfr
    (rd_upd_self _ _ _)
    (by rw [rd_upd_ne _ _ (Ne.symm hsf), rd_upd_self])
    (fun b h1 h2 => by rw [rd_upd_ne _ _ h1, rd_upd_ne _ _ h2])
    (rd_upd_self _ _ _)
    (by rw [rd_upd_ne _ _ (Ne.symm hAf), rd_upd_self])
    (fun b h1 h2 => by rw [rd_upd_ne _ _ h1, rd_upd_ne _ _ h2])
  have hs := h.sync.add l.fresh (by rw [lookup_mapVal, hk]; rfl : lookup k (mapVal (·.1) cells) = none)
  refine Rep.of_sync (by simpa [LL.addFront, addrsOf] using hc) ?_ ?_ ?_ ?_
    (by show Sync (dset k l.fresh l.table) _; simpa only [mapVal_append, mapVal_cons, mapVal_nil] using hs)
  · show (l.anchor :: addrsOf (cells ++ [(k, (l.fresh, v))])).Nodup
    simp only [addrsOf_append, addrsOf_cons, addrsOf_nil, ← List.cons_append]
    refine List.nodup_append.2 ⟨h.nodup, by simp, ?_⟩
    intro a ha b hb
    simp at hb; subst hb
    intro e; exact hfr (e ▸ ha)
  · intro a ha
    show a < l.fresh + 1
    simp only [addrsOf_append, addrsOf_cons, addrsOf_nil, ← List.cons_append, List.mem_append, List.mem_singleton] at ha
    rcases ha with ha | ha
    · exact Nat.lt_succ_of_lt (h.bound a ha)
    · show a < l.fresh + 1; rw [ha]; exact Nat.lt_succ_self _
  · show (cells ++ [(k, (l.fresh, v))]).length < l.fresh + 1
    have := h.cnt; simp only [List.length_append, List.length_cons, List.length_nil]; omega
  · intro c hc
    simp only [List.mem_append, List.mem_singleton] at hc
    have hne : ∀ c ∈ cells, c.2.1 ≠ l.fresh := by
      intro c hc e
      have : c.2.1 ∈ addrsOf cells := mem_addrsOf hc
      exact hfr (by rw [← e]; exact List.mem_cons_of_mem _ this)
    rcases hc with hc | hc
    · have := h.kv c hc
      exact ⟨by show rd (upd l.key l.fresh (some k)) c.2.1 = _; rw [rd_upd_ne _ _ (hne c hc), this.1],
        by show rd (upd l.val l.fresh (some v)) c.2.1 = _; rw [rd_upd_ne _ _ (hne c hc), this.2]⟩
    · subst hc; exact ⟨rd_upd_self _ _ _, rd_upd_self _ _ _⟩

theorem Rep.evictLast {l : LL K V} {e : K} {ae : Nat} {ve : V} {rest : Cells K V} (h : Rep l ((e, (ae, ve)) :: rest))
    {k : K} (v : V) (hk : lookup k ((e, (ae, ve)) :: rest) = none) :
    ∃ l', l.evictLast k v = (l', some e) ∧ Rep l' (rest ++ [(k, (l.anchor, v))]) := by
  have hch := h.chain
  have hnd := h.nodup
  simp only [addrsOf_cons] at hch hnd
  have hnx : rd l.next l.anchor = ae := hch.1
  have hAe : l.anchor ≠ ae := fun e' => (List.nodup_cons.1 hnd).1 (by simp [e'])
  have hke : rd l.key ae = some e := (h.kv (e, (ae, ve)) (by simp)).1
  have hek : e ≠ k := by
    intro e'; simp [lookup, e'] at hk
  have hkr : lookup k rest = none := by
    simp only [lookup, if_neg hek] at hk; exact hk
  have hev : rd (upd l.key l.anchor (some k)) (rd l.next l.anchor) = some e := by
    rw [hnx, rd_upd_ne _ _ (Ne.symm hAe), hke]
  have hs := h.sync.remove e
  simp only [mapVal_cons, eraseKey, if_true] at hs
  have hs := hs.add l.anchor (by rw [lookup_mapVal, hkr]; rfl : lookup k (mapVal (·.1) rest) = none)
  refine ⟨{ l with
      key := upd (upd l.key l.anchor (some k)) ae none
      val := upd (upd l.val l.anchor (some v)) ae none
      anchor := ae
      table := dset k l.anchor (eraseKey e l.table) }, ?_, ?_⟩
  · rw [hnx] at hev
    simp only [LL.evictLast, hnx, hev]
  · have hperm : (ae :: (addrsOf rest ++ [l.anchor])).Perm (l.anchor :: ae :: addrsOf rest) := by
      refine (List.Perm.cons _ (List.perm_append_singleton _ _)).trans (List.Perm.swap _ _ _)
    have hmem : ∀ c ∈ rest, c.2.1 ≠ l.anchor ∧ c.2.1 ≠ ae := by
      intro c hc
      have hm : c.2.1 ∈ addrsOf rest := mem_addrsOf hc
      have h1 := List.nodup_cons.1 hnd
      have h2 := List.nodup_cons.1 h1.2
      exact ⟨fun e' => h1.1 (by rw [← e']; exact List.mem_cons_of_mem _ hm), fun e' => h2.1 (e' ▸ hm)⟩
    refine Rep.of_sync ?_ ?_ ?_ ?_ ?_ (by simpa only [mapVal_append, mapVal_cons, mapVal_nil] using hs)
    · simpa only [addrsOf_append, addrsOf_cons, addrsOf_nil] using hch.rotate
    · simpa only [addrsOf_append, addrsOf_cons, addrsOf_nil] using hperm.nodup_iff.2 hnd
    · intro a ha
      apply h.bound a
      have : a ∈ ae :: (addrsOf rest ++ [l.anchor]) := by
        simpa only [addrsOf_append, addrsOf_cons, addrsOf_nil] using ha
      simpa using hperm.mem_iff.1 this
    · have := h.cnt; simp only [List.length_append, List.length_cons, List.length_nil] at this ⊢; omega
    · intro c hc
      simp only [List.mem_append, List.mem_singleton] at hc
      rcases hc with hc | hc
      · have := h.kv c (List.mem_cons_of_mem _ hc)
        have hne := hmem c hc
        exact ⟨by show rd (upd (upd l.key l.anchor (some k)) ae none) c.2.1 = _
                  rw [rd_upd_ne _ _ hne.2, rd_upd_ne _ _ hne.1, this.1],
               by show rd (upd (upd l.val l.anchor (some v)) ae none) c.2.1 = _
                  rw [rd_upd_ne _ _ hne.2, rd_upd_ne _ _ hne.1, this.2]⟩
      · subst hc
        exact ⟨by show rd (upd (upd l.key l.anchor (some k)) ae none) l.anchor = _
                  rw [rd_upd_ne _ _ hAe, rd_upd_self],
               by show rd (upd (upd l.val l.anchor (some v)) ae none) l.anchor = _
                  rw [rd_upd_ne _ _ hAe, rd_upd_self]⟩

theorem Rep.remove {l : LL K V} {xs ys : Cells K V} {k : K} {n : Nat} {v : V}
    (h : Rep l (xs ++ (k, (n, v)) :: ys)) : ∃ l', l.remove k = some l' ∧ Rep l' (xs ++ ys) := by
  obtain ⟨ht, hkx, hnd', hn', hA1, hnx1⟩ := h.spliceOut
  refine ⟨{ l with
      prev := upd l.prev (rd l.next n) (rd l.prev n)
      next := upd l.next (rd l.prev n) (rd l.next n)
      table := eraseKey k l.table }, ?_, ?_⟩
  · simp only [LL.remove, ht, hnx1]
  · have hsub : ∀ c ∈ xs ++ ys, c ∈ xs ++ (k, (n, v)) :: ys := by
      intro c hc; simp only [List.mem_append, List.mem_cons] at hc ⊢; rcases hc with hc | hc
      · exact Or.inl hc
      · exact Or.inr (Or.inr hc)
    refine Rep.of_sync ?_ ?_ ?_ ?_ ?_ ((mapVal_split (·.1) (n, v) hkx).2 ▸ h.sync.remove k)
    · simpa only [addrsOf_append, addrsOf_cons, addrsOf_nil] using hA1
    · simpa only [addrsOf_append, addrsOf_cons, addrsOf_nil] using hnd'
    · intro a ha
      refine h.bound a (List.mem_cons.2 ((List.mem_cons.1 ha).imp_right fun hm => ?_))
      exact List.mem_map.2 ((List.mem_map.1 hm).imp fun c hc => ⟨hsub c hc.1, hc.2⟩)
    · have := h.cnt; simp only [List.length_append, List.length_cons] at this ⊢; omega
    · intro c hc; exact h.kv c (hsub c hc)

theorem Rep.remove_none {l : LL K V} {cells : Cells K V} (h : Rep l cells) {k : K}
    (hk : lookup k cells = none) : l.remove k = none := by
  simp only [LL.remove, h.table_none hk]

theorem walk_chain (l : LL K V) {a : Nat} {xs : List Nat} (h : Chain (rd l.next) (rd l.prev) a xs l.anchor)
    (hA : l.anchor ∉ xs) (fuel : Nat) (hf : xs.length ≤ fuel) :
    l.walk fuel (rd l.next a) = xs.map (fun x => (rd l.key x, rd l.val x)) := by
  induction xs generalizing a fuel with
  | nil =>
    rw [h.1]
    cases fuel with
    | zero => rfl
    | succ f => simp [LL.walk]
  | cons x xs ih =>
    cases fuel with
    | zero => simp at hf
    | succ f =>
      rw [h.1]
      have hx : x ≠ l.anchor := fun e => hA (by simp [e])
      simp only [LL.walk, if_neg hx, List.map_cons]
      rw [ih h.2.2 (fun hm => hA (List.mem_cons_of_mem _ hm)) f (by simpa using hf)]

theorem Rep.flatten {l : LL K V} {cells : Cells K V} (h : Rep l cells) :
    l.flatten = (ringOf cells).map (fun p => (some p.1, some p.2)) := by
  unfold LL.flatten
  rw [walk_chain l h.chain (List.nodup_cons.1 h.nodup).1 l.fresh (by simp [addrsOf]; exact Nat.le_of_lt h.cnt)]
  simp only [addrsOf, ringOf, mapVal, List.map_map]
  apply List.map_congr_left
  intro c hc
  have := h.kv c hc
  simp [this.1, this.2]

theorem ringOf_snoc (cells : Cells K V) (k : K) (n : Nat) (v : V) :
    ringOf (cells ++ [(k, (n, v))]) = ringOf cells ++ [(k, v)] := by simp [ringOf]

theorem lookup_ringOf (k : K) (cells : Cells K V) : lookup k (ringOf cells) = (lookup k cells).map (·.2) :=
  lookup_mapVal _ k cells

theorem ringOf_cons_inv {cells : Cells K V} {e : K × V} {rest : List (K × V)} (h : ringOf cells = e :: rest) :
    ∃ ae cs, cells = (e.1, (ae, e.2)) :: cs ∧ ringOf cs = rest := by
  cases cells with
  | nil => simp [ringOf] at h
  | cons c cs =>
    simp only [ringOf, mapVal_cons, List.cons.injEq] at h
    obtain ⟨h1, h2⟩ := h
    refine ⟨c.2.1, cs, ?_, h2⟩
    rw [← h1]

/-- the list `l` is well formed and its links, oldest first, hold the ring `r` -/
def RingRep (l : LL K V) (r : List (K × V)) : Prop := ∃ cells, Rep l cells ∧ ringOf cells = r

theorem lookup_ringOf_none {k : K} {cells : Cells K V} (h : lookup k (ringOf cells) = none) : lookup k cells = none :=
  Option.map_eq_none_iff.1 (lookup_ringOf k cells ▸ h)

section RingRep
variable {l : LL K V} {r : List (K × V)} (h : RingRep l r) {k : K}
include h

theorem RingRep.absent (hk : lookup k r = none) : lookup k l.table = none := by
  obtain ⟨cells, hrep, rfl⟩ := h
  exact hrep.table_none (lookup_ringOf_none hk)

theorem RingRep.moveToFront_none (hk : lookup k r = none) : l.moveToFront k = none := by
  simp only [LL.moveToFront, h.absent hk]

theorem RingRep.link {v : V} (hk : lookup k r = some v) : ∃ n, lookup k l.table = some n ∧ rd l.val n = some v := by
  obtain ⟨cells, hrep, rfl⟩ := h
  rw [lookup_ringOf] at hk
  cases hc : lookup k cells with
  | none => rw [hc] at hk; cases hk
  | some nv =>
    rw [hc] at hk; cases hk
    exact ⟨nv.1, by rw [hrep.tbl, hc]; rfl, (hrep.kv _ (lookup_mem hc)).2⟩

theorem RingRep.present {v : V} (hk : lookup k r = some v) :
    ∃ n xs ys, Rep l (xs ++ (k, (n, v)) :: ys) ∧ ringOf (xs ++ ys) = eraseKey k r := by
  obtain ⟨cells, hrep, rfl⟩ := h
  rw [lookup_ringOf] at hk
  cases hc : lookup k cells with
  | none => rw [hc] at hk; cases hk
  | some nv =>
    obtain ⟨n, v0⟩ := nv
    rw [hc] at hk; cases hk
    obtain ⟨xs, ys, rfl, _, herase⟩ := lookup_split hc
    exact ⟨n, xs, ys, hrep, by rw [← herase]; exact (eraseKey_mapVal _ k _).symm⟩

theorem RingRep.moveToFront {v : V} (hk : lookup k r = some v) :
    ∃ l' n, l.moveToFront k = some (l', n) ∧ rd l'.val n = some v ∧ RingRep l' (toFront k v r) ∧
      ∀ v', RingRep { l' with val := upd l'.val n (some v') } (toFront k v' r) := by
  obtain ⟨n, xs, ys, hrep, he⟩ := h.present hk
  obtain ⟨l', hm, hr', hval⟩ := hrep.moveToFront
  exact ⟨l', n, hm, hval ▸ (hrep.kv (k, (n, v)) (by simp)).2, ⟨_, hr', by rw [ringOf_snoc, he]; rfl⟩,
    fun v' => ⟨_, hr'.setVal v', by rw [ringOf_snoc, he]; rfl⟩⟩

theorem RingRep.remove {v : V} (hk : lookup k r = some v) : ∃ l', l.remove k = some l' ∧ RingRep l' (eraseKey k r) := by
  obtain ⟨n, xs, ys, hrep, he⟩ := h.present hk
  obtain ⟨l', hrm, hr'⟩ := hrep.remove
  exact ⟨l', hrm, _, hr', he⟩

theorem RingRep.addFront (hk : lookup k r = none) (v : V) : RingRep (l.addFront k v) (r ++ [(k, v)]) := by
  obtain ⟨cells, hrep, rfl⟩ := h
  exact ⟨_, hrep.addFront v (lookup_ringOf_none hk), ringOf_snoc ..⟩

end RingRep

theorem RingRep.evictLast {l : LL K V} {e : K × V} {rest : List (K × V)} (h : RingRep l (e :: rest)) {k : K}
    (hk : lookup k (e :: rest) = none) (v : V) :
    ∃ l', l.evictLast k v = (l', some e.1) ∧ RingRep l' (rest ++ [(k, v)]) := by
  obtain ⟨cells, hrep, hring⟩ := h
  obtain ⟨ae, cs, rfl, hrest⟩ := ringOf_cons_inv hring
  obtain ⟨l', he, hr'⟩ := hrep.evictLast v (lookup_ringOf_none (hring ▸ hk))
  exact ⟨l', he, _, hr', by rw [ringOf_snoc, hrest]⟩

/-- the walk of copy(): one new link per item; `P` is any property of the list that adding a link to a well-formed
    list keeps (`LLFrame`: the links written so far) -/
theorem Rep.addAll_keeps {P : LL K V → Prop}
    (hP : ∀ {l : LL K V} {cells : Cells K V} (k : K) (v : V), Rep l cells → P l → P (l.addFront k v))
    {l0 : LL K V} {c0 : Cells K V} (h : Rep l0 c0) (p0 : P l0) (r : List (K × V)) (hr : (keys (ringOf c0 ++ r)).Nodup) :
    ∃ c1, Rep (l0.addAll (r.map fun p => (some p.1, some p.2))) c1 ∧ ringOf c1 = ringOf c0 ++ r ∧
      P (l0.addAll (r.map fun p => (some p.1, some p.2))) := by
  induction r generalizing l0 c0 with
  | nil => exact ⟨c0, h, by simp, p0⟩
  | cons p r ih =>
    have hp : lookup p.1 c0 = none := by
      rw [lookup_none_iff, ← keys_mapVal (·.2)]
      simp only [keys_append, keys_cons] at hr
      intro hm
      exact (List.nodup_append.1 hr).2.2 p.1 hm p.1 (by simp) rfl
    have hr' : (keys (ringOf (c0 ++ [(p.1, (l0.fresh, p.2))]) ++ r)).Nodup := by
      rw [ringOf_snoc]; simpa using hr
    obtain ⟨c1, g1, g2, g3⟩ := ih (h.addFront p.2 hp) (hP p.1 p.2 h p0) hr'
    refine ⟨c1, by simpa [LL.addAll] using g1, ?_, by simpa [LL.addAll] using g3⟩
    rw [g2, ringOf_snoc]; simp

/-- copy(): the items met on the walk of the well-formed list `l` are added, one link each, to the empty list `l0` -/
theorem Rep.copy_keeps {P : LL K V → Prop}
    (hP : ∀ {l : LL K V} {cells : Cells K V} (k : K) (v : V), Rep l cells → P l → P (l.addFront k v))
    {l0 l : LL K V} {cells : Cells K V} (h0 : Rep l0 []) (p0 : P l0) (h : Rep l cells) :
    ∃ c1, Rep (l0.addAll l.flatten) c1 ∧ ringOf c1 = ringOf cells ∧ P (l0.addAll l.flatten) := by
  have hn : (keys (ringOf ([] : Cells K V) ++ ringOf cells)).Nodup := by
    simpa [ringOf, keys_mapVal] using h.nk
  obtain ⟨c1, g1, g2, g3⟩ := h0.addAll_keeps hP p0 (ringOf cells) hn
  rw [← h.flatten] at g1 g3
  exact ⟨c1, g1, by simpa [ringOf] using g2, g3⟩

theorem Rep.copy {l0 l : LL K V} {cells : Cells K V} (h0 : Rep l0 []) (h : Rep l cells) :
    ∃ c1, Rep (l0.addAll l.flatten) c1 ∧ ringOf c1 = ringOf cells :=
  (h0.copy_keeps (P := fun _ => True) (fun _ _ _ _ => trivial) trivial h).imp fun _ g => ⟨g.1, g.2.1⟩

end C02
