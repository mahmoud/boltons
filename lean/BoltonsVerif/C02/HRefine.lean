import BoltonsVerif.C02.LLProofs
/-
C02 — the cache built on the pointer-level linked list (`HCache`, `LL.lean`) behaves exactly like
the cache built on the ring (`Cache`, `Model.lean`): simulation `HSim`, preserved by every public
method and by the world operations, with equal results.
-/
set_option linter.unusedSectionVars false
namespace C02
variable {K V : Type} [DecidableEq K]

/-- `rep` is `RingRep h.ll c.ring` (LLProofs.lean) written out -/
structure HSim (h : HCache K V) (c : Cache K V) : Prop where
  lru : h.lru = c.lru
  max : h.max = c.max
  om : h.onMiss = c.onMiss
  d : h.d = c.d
  hit : h.hit = c.hit
  miss : h.miss = c.miss
  soft : h.soft = c.soft
  log : h.omLog = c.omLog
  inv : Inv c
  rep : ∃ cells, Rep h.ll cells ∧ ringOf cells = c.ring

theorem HSim.initP (lru : Bool) (max : Nat) (om : Option (K → OmRes V)) (hmax : 1 ≤ max) :
    HSim (HCache.initP lru max om) (Cache.initP lru max om) :=
  ⟨rfl, rfl, rfl, rfl, rfl, rfl, rfl, rfl, Inv.initP lru max om hmax, [], Rep.new, rfl⟩

theorem HSim.setitem {h : HCache K V} {c : Cache K V} (hs : HSim h c) (k : K) (v : V) :
    HSim (h.setitem k v) (c.setitem k v) := by
  have hinv := Cache.setitem_inv hs.inv k v
  rcases Cache.setitem_cases hs.inv k v with ⟨v0, hk, he⟩ | ⟨hk, hlt, he⟩ | ⟨e, rest, hk, hfull, hr, he⟩
  · obtain ⟨l', n, hm, _, _, hr'⟩ := RingRep.moveToFront hs.rep hk
    rw [he] at hinv ⊢
    simp only [HCache.setitem, hm, hs.d]
    exact { hs with d := rfl, inv := hinv, rep := hr' v }
  · have hm := RingRep.moveToFront_none hs.rep hk
    rw [he] at hinv ⊢
    simp only [HCache.setitem, hm, hs.d, hs.max, hlt, if_true]
    exact { hs with max := rfl, d := rfl, inv := hinv, rep := RingRep.addFront hs.rep hk v }
  · have hm := RingRep.moveToFront_none hs.rep hk
    obtain ⟨l', hev, hr'⟩ := RingRep.evictLast (hr ▸ hs.rep) (hr ▸ hk) v
    rw [he] at hinv ⊢
    simp only [HCache.setitem, hm, hs.d, hs.max, hfull, if_false, hev]
    exact { hs with max := rfl, d := rfl, inv := hinv, rep := hr' }

/-- `lg` is `[k]` when on_miss is then called with `k`, `[]` when there is none -/
theorem HSim.missed {h : HCache K V} {c : Cache K V} (hs : HSim h c) (lg : List K) :
    HSim ({ h with miss := h.miss + 1, omLog := h.omLog ++ lg } : HCache K V)
         ({ c with miss := c.miss + 1, omLog := c.omLog ++ lg } : Cache K V) :=
  { hs with miss := congrArg (· + 1) hs.miss, log := congrArg (· ++ lg) hs.log, inv := hs.inv.missed _ }

section getitem
variable {h : HCache K V} {k : K}

theorem HCache.getitem_hit_lru {l' : LL K V} {n : Nat} {v : V} (hl : h.lru = true)
    (hm : h.ll.moveToFront k = some (l', n)) (hv : rd l'.val n = some v) :
    h.getitem k = ({ h with hit := h.hit + 1, ll := l' }, .val v) := by
  simp only [HCache.getitem, hl, if_true, hm, hv]

theorem HCache.getitem_hit_lri {n : Nat} {v : V} (hl : h.lru = false) (ht : lookup k h.ll.table = some n)
    (hv : rd h.ll.val n = some v) : h.getitem k = ({ h with hit := h.hit + 1 }, .val v) := by
  simp only [HCache.getitem, hl, Bool.false_eq_true, if_false, ht, Option.map_some, hv]

variable (ht : lookup k h.ll.table = none)
include ht

theorem HCache.getitem_miss (hom : h.onMiss = none) : h.getitem k = ({ h with miss := h.miss + 1 }, .keyError) := by
  simp only [HCache.getitem, LL.moveToFront, ht, Option.map_none, ite_self, hom]

theorem HCache.getitem_onMiss {f : K → OmRes V} {v : V} (hom : h.onMiss = some f) (hf : f k = .ret v) :
    h.getitem k = (({ h with miss := h.miss + 1, omLog := h.omLog ++ [k] } : HCache K V).setitem k v, .val v) := by
  simp only [HCache.getitem, LL.moveToFront, ht, Option.map_none, ite_self, hom, hf]

theorem HCache.getitem_onMiss_keyError {f : K → OmRes V} (hom : h.onMiss = some f) (hf : f k = .keyError) :
    h.getitem k = ({ h with miss := h.miss + 1, omLog := h.omLog ++ [k] }, .keyError) := by
  simp only [HCache.getitem, LL.moveToFront, ht, Option.map_none, ite_self, hom, hf]

theorem HCache.getitem_onMiss_error {f : K → OmRes V} (hom : h.onMiss = some f) (hf : f k = .error) :
    h.getitem k = ({ h with miss := h.miss + 1, omLog := h.omLog ++ [k] }, .raised) := by
  simp only [HCache.getitem, LL.moveToFront, ht, Option.map_none, ite_self, hom, hf]

end getitem

theorem HSim.getitem {h : HCache K V} {c : Cache K V} (hs : HSim h c) (k : K) :
    HSim (h.getitem k).1 (c.getitem k).1 ∧ OutRel HSim (h.getitem k).2 (c.getitem k).2 := by
  have hinv := Cache.getitem_inv hs.inv k
  cases hlr : lookup k c.ring with
  | some v0 =>
    rw [Cache.getitem_hit hlr] at hinv ⊢
    cases hl : c.lru with
    | true =>
      obtain ⟨l', n, hm, hv, hr', _⟩ := RingRep.moveToFront hs.rep hlr
      rw [HCache.getitem_hit_lru (hs.lru.trans hl) hm hv]
      rw [hl] at hinv
      exact ⟨{ hs with lru := hs.lru.trans hl, hit := congrArg (· + 1) hs.hit, inv := hinv, rep := hr' }, OutRel.val v0⟩
    | false =>
      obtain ⟨n, ht, hv⟩ := RingRep.link hs.rep hlr
      rw [HCache.getitem_hit_lri (hs.lru.trans hl) ht hv]
      rw [hl] at hinv
      exact ⟨{ hs with lru := hs.lru.trans hl, hit := congrArg (· + 1) hs.hit, inv := hinv }, OutRel.val v0⟩
  | none =>
    have ht := RingRep.absent hs.rep hlr
    rcases Option.eq_none_or_eq_some c.onMiss with hom | ⟨f, hom⟩
    · rw [HCache.getitem_miss ht (hs.om.trans hom), Cache.getitem_miss hlr hom]
      have := hs.missed []
      simp only [List.append_nil] at this
      exact ⟨this, OutRel.keyError⟩
    · cases hf : f k with
      | ret v =>
        rw [HCache.getitem_onMiss ht (hs.om.trans hom) hf, Cache.getitem_onMiss hlr hom hf]
        exact ⟨(hs.missed [k]).setitem k v, OutRel.val v⟩
      | keyError =>
        rw [HCache.getitem_onMiss_keyError ht (hs.om.trans hom) hf, Cache.getitem_onMiss_keyError hlr hom hf]
        exact ⟨hs.missed [k], OutRel.keyError⟩
      | error =>
        rw [HCache.getitem_onMiss_error ht (hs.om.trans hom) hf, Cache.getitem_onMiss_error hlr hom hf]
        exact ⟨hs.missed [k], OutRel.raised⟩

/-- `_remove_from_ll(key)` after the dict part of a removal -/
theorem HSim.unlink {h : HCache K V} {c : Cache K V} (hs : HSim h c) (k : K) {v : V}
    (hk : lookup k c.ring = some v) (d' : List (K × V))
    (hinv' : Inv ({ c with d := d', ring := eraseKey k c.ring } : Cache K V)) :
    HSim (({ h with d := d' } : HCache K V).unlink k) ({ c with d := d', ring := eraseKey k c.ring } : Cache K V) := by
  obtain ⟨l', hrm, hr'⟩ := RingRep.remove hs.rep hk
  have : ({ h with d := d' } : HCache K V).unlink k = { h with d := d', ll := l' } := by
    simp only [HCache.unlink, hrm]
  rw [this]
  exact { hs with d := rfl, inv := hinv', rep := hr' }

theorem HSim.remove {h : HCache K V} {c : Cache K V} (hs : HSim h c) (k : K) {v : V}
    (hk : lookup k c.d = some v) : HSim (h.remove k) (c.remove k) := by
  have hr : lookup k c.ring = some v := by rw [← hs.inv.sync.agree, hk]
  have := hs.unlink k hr (eraseKey k c.d) (Cache.remove_inv hs.inv k)
  unfold HCache.remove
  rw [hs.d]
  exact this

theorem rebuild_dict (acc l : List (K × V)) (hn : (keys (acc ++ l)).Nodup) :
    l.foldl (fun d p => dset p.1 p.2 d) acc = acc ++ l := by
  induction l generalizing acc with
  | nil => simp
  | cons p l ih =>
    have hp : lookup p.1 acc = none := by
      rw [lookup_none_iff]
      simp only [keys_append, keys_cons] at hn
      intro hm
      exact (List.nodup_append.1 hn).2.2 p.1 hm p.1 (by simp) rfl
    simp only [List.foldl_cons]
    have : (p.1, p.2) = p := rfl
    rw [dset_absent hp, this, ih _ (by simpa using hn)]
    simp

theorem HSim.copied {h : HCache K V} {c : Cache K V} (hs : HSim h c) : HSim h.copied c.copied := by
  obtain ⟨cells, hrep, hring⟩ := hs.rep
  obtain ⟨c1, g1, g2⟩ := (Rep.new : Rep (LL.new : LL K V) []).copy hrep
  refine { hs with
    d := ?_, hit := rfl, miss := rfl, soft := rfl, log := rfl
    inv := { hs.inv with soft_le := Nat.le_refl _ }, rep := ⟨c1, g1, g2.trans hring⟩ }
  show h.d.foldl (fun d p => dset p.1 p.2 d) [] = c.d
  rw [hs.d, rebuild_dict [] c.d (by simpa using hs.inv.sync.nd)]; simp

theorem HSim.prims : PSim (K := K) (V := V) HCache.prim Cache.prim HSim HSim where
  items hs := hs.d
  setitem k v hs := hs.setitem k v
  remove hs hk := hs.remove _ hk
  popLast {h c p} hs hp := by
    have hpm : lookup p.1 c.d = some p.2 := lookup_of_mem hs.inv.sync.nd (List.mem_of_getLast? hp)
    show HSim (({ h with d := h.d.dropLast } : HCache K V).unlink p.1) _
    rw [hs.d]
    exact hs.unlink p.1 (hs.inv.sync.agree _ ▸ hpm) c.d.dropLast (hs.inv.popLast hp)
  clear hs := { hs with
    d := rfl, inv := { hs.inv with sync := Sync.nil, cap := Nat.zero_le _ }, rep := ⟨[], Rep.reinit _, rfl⟩ }
  copied hs := hs.copied

theorem HSim.update {h : HCache K V} {c : Cache K V} (hs : HSim h c) (e : Arg K V) (kw : List (K × V)) :
    HSim (h.update e kw) (c.update e kw) := by
  exact HSim.prims.update hs e kw

variable [DecidableEq V]

def RHSim (n : Nat) (h : HCache K V) (c : Cache K V) : Prop := HSim h c ∧ c.soft + n ≤ c.miss

theorem RHSim.zero_iff {h : HCache K V} {c : Cache K V} : RHSim 0 h c ↔ HSim h c :=
  ⟨fun x => x.1, fun x => ⟨x, x.inv.soft_le⟩⟩

omit [DecidableEq V] in
theorem HSim.find_eq {h : HCache K V} {c : Cache K V} (hs : HSim h c) (k : K) :
    (lookup k h.ll.table).isSome = (lookup k c.ring).isSome := by
  obtain ⟨cells, hrep, hring⟩ := hs.rep
  rw [hrep.tbl, ← hring, lookup_ringOf]
  cases lookup k cells <;> rfl

/-- the second half of `RHSim` is the miss budget that `Cache.machInv` carries -/
theorem RHSim.invN {n : Nat} {h : HCache K V} {c : Cache K V} (x : RHSim n h c) : InvN n c := ⟨x.1.inv, x.2⟩

theorem HSim.mach : MSim (HCache.mach (K := K) (V := V)) Cache.mach RHSim HSim where
  weaken := fun hs => ⟨hs.1, (Cache.machInv.weaken hs.invN).budget⟩
  log := fun hs => hs.1.log
  find := fun {n h c} k hs => hs.1.find_eq k
  hit := fun {n h c} k hs hf => by
    have hf' : (Cache.mach (V := V)).find c k = true := (hs.1.find_eq k).symm.trans hf
    obtain ⟨v, _, ho⟩ := Cache.getitem_found hf'
    have hg := hs.1.getitem k
    exact ⟨⟨hg.1, (Cache.machInv.hit k hs.invN hf').1.budget⟩, v, hg.2.val_left ho, ho⟩
  missed := fun k hs => ⟨hs.1.missed [k], (Cache.machInv.missed k hs.invN).budget⟩
  setitem := fun k v hs => ⟨hs.1.setitem k v, (Cache.machInv.setitem k v hs.invN).budget⟩
  soft := fun hs =>
    have g := hs.1
    have hb := Cache.machInv.soft hs.invN
    ⟨{ g with soft := congrArg (· + 1) g.soft, inv := hb.inv }, hb.budget⟩
  step := fun op hs hop => by
    have hst := HSim.prims.call hs.1 op
    rw [← hstep_eq_call hop, ← step_eq_call hop] at hst
    exact ⟨⟨hst.1, (Cache.machInv.step op hs.invN hop).1.budget⟩, hst.2⟩

theorem HSim.gsim : GSim (K := K) (V := V) RHSim HSim HCache.getitem Cache.getitem := by
  intro n h c k hs
  have hg := hs.1.getitem k
  have hb := Cache.getitem_invN k hs.invN
  exact ⟨⟨hg.1, hb.1.budget⟩, hg.2, fun e => ⟨hg.1, (hb.2 (hg.2.keyError_right e)).budget⟩⟩

theorem HSim.step {h : HCache K V} {c : Cache K V} (hs : HSim h c) (op : Op K V) :
    HSim (hstep h op).1 (step c op).1 ∧ OutRel HSim (hstep h op).2 (step c op).2 := by
  have := HSim.mach.stepWith HSim.gsim (RHSim.zero_iff.2 hs) op
  rw [hstep_eq_stepWith, step_eq_stepWith] at this
  exact ⟨this.1.1, this.2⟩

omit [DecidableEq V] in
theorem HSim.updFrom {a b : HCache K V} {c o : Cache K V} (ha : HSim a c) (hb : HSim b o) (ks : List K) :
    HSim (hUpdFrom a b ks).1 (updFrom c o ks).1 ∧ HSim (hUpdFrom a b ks).2.1 (updFrom c o ks).2.1 ∧
    (hUpdFrom a b ks).2.2 = (updFrom c o ks).2.2 := by
  induction ks generalizing a b c o with
  | nil => exact ⟨ha, hb, rfl⟩
  | cons k ks ih =>
    have hg := hb.getitem k
    rw [hUpdFrom, C02.updFrom]
    generalize b.getitem k = r at hg ⊢
    generalize o.getitem k = r' at hg ⊢
    obtain ⟨b', oh⟩ := r
    obtain ⟨o', oc⟩ := r'
    obtain ⟨g1, g2⟩ := hg
    cases g2 with
    | val v => exact ih (ha.setitem k v) g1
    | _ => exact ⟨ha, g1, rfl⟩

/-- `WRel HSim`, written out -/
def HWSim (w : List (HCache K V)) (ws : List (Cache K V)) : Prop :=
  w.length = ws.length ∧ ∀ (i : Nat) h c, w[i]? = some h → ws[i]? = some c → HSim h c

omit [DecidableEq V] in
theorem HWSim.single {h : HCache K V} {c : Cache K V} (hs : HSim h c) : HWSim [h] [c] := WRel.single hs

omit [DecidableEq V] in
theorem HWSim.argOf {w : List (HCache K V)} {ws : List (Cache K V)} (h : HWSim w ws) (i j : Nat) :
    hArgOf w i j = C02.argOf ws i j := by
  unfold hArgOf C02.argOf
  split
  · rfl
  · rcases WRel.get h j with ⟨h1, h2⟩ | ⟨a, c, h1, h2, hs⟩
    · rw [h1, h2]
    · rw [h1, h2]; simp [hs.d]

theorem hwstep_on (w : List (HCache K V)) (i : Nat) (op : Op K V) :
    hwstep w (.on i op) = rwstepG hstep hwstep w (.on i op) := by
  rw [hwstep, rwstepG]
  cases w[i]? with
  | none => rfl
  | some c => simp only []; cases hstep c op with | mk c' o => cases o <;> rfl

theorem HWSim.step {w : List (HCache K V)} {ws : List (Cache K V)} (h : HWSim w ws) (op : WOp K V) :
    HWSim (hwstep w op).1 (wstep ws op).1 ∧ OutRel HSim (hwstep w op).2 (wstep ws op).2 := by
  cases op with
  | on i op => rw [hwstep_on, wstep_on]; exact WRel.on (fun _ _ op hs => hs.step op) h i op
  | eqc i j =>
    rcases WRel.get h i with ⟨h1, h2⟩ | ⟨a, c, h1, h2, hs⟩
    · simp only [hwstep, wstep, h1, h2]; exact ⟨h, OutRel.none⟩
    · simp only [hwstep, wstep, h1, h2, h.argOf i j]
      exact ⟨h, (hs.step _).2⟩
  | nec i j =>
    rcases WRel.get h i with ⟨h1, h2⟩ | ⟨a, c, h1, h2, hs⟩
    · simp only [hwstep, wstep, h1, h2]; exact ⟨h, OutRel.none⟩
    · simp only [hwstep, wstep, h1, h2, h.argOf i j]
      exact ⟨h, (hs.step _).2⟩
  | updc i j kw =>
    rcases WRel.get h i with ⟨h1, h2⟩ | ⟨a, c, h1, h2, hs⟩
    · simp only [hwstep, wstep, h1, h2]; exact ⟨h, OutRel.none⟩
    · rcases WRel.get h j with ⟨g1, g2⟩ | ⟨b, o, g1, g2, ht⟩
      · simp only [hwstep, wstep, h1, h2, g1, g2]; exact ⟨h, OutRel.none⟩
      · simp only [hwstep, wstep, h1, h2, g1, g2]
        by_cases e : i = j
        · simp only [e, if_true]; exact ⟨h, OutRel.none⟩
        · simp only [e, if_false]
          have hu := hs.updFrom ht (keys b.d)
          rw [ht.d] at hu ⊢
          generalize hUpdFrom a b (keys o.d) = r at hu ⊢
          generalize C02.updFrom c o (keys o.d) = r' at hu ⊢
          obtain ⟨a', b', fl⟩ := r
          obtain ⟨c', o', fl'⟩ := r'
          obtain ⟨u1, u2, u3⟩ := hu
          have hfl : fl = fl' := u3
          subst hfl
          cases fl with
          | true => exact ⟨(WRel.set (WRel.set h i (HSim.prims.setAll u1 kw)) j u2 : HWSim _ _), OutRel.none⟩
          | false => exact ⟨(WRel.set (WRel.set h i u1) j u2 : HWSim _ _), OutRel.keyError⟩

theorem HWSim.run {w : List (HCache K V)} {ws : List (Cache K V)} (h : HWSim w ws) (ops : List (WOp K V)) :
    HWSim (hwrun w ops) (wrun ws ops) ∧ (hwouts w ops).map Out.shape = (wouts ws ops).map Out.shape := by
  unfold hwrun wrun
  induction ops generalizing w ws with
  | nil => exact ⟨h, rfl⟩
  | cons op ops ih =>
    have hs := h.step op
    have := ih hs.1
    exact ⟨this.1, by simp only [hwouts, wouts, List.map_cons, hs.2.shape_eq, this.2]⟩

theorem HWSim.rwstep (P : List K → K → OmProg K V) (fuel : Nat) {w : List (HCache K V)} {ws : List (Cache K V)}
    (h : HWSim w ws) (op : WOp K V) :
    HWSim (rhwstep P fuel w op).1 (C02.rwstep P fuel ws op).1 ∧
    OutRel HSim (rhwstep P fuel w op).2 (C02.rwstep P fuel ws op).2 :=
  WRel.rwstepG
    (fun _ _ op hr =>
      have hst := HSim.mach.rstep P fuel (RHSim.zero_iff.2 hr) op
      ⟨hst.1.1, hst.2⟩)
    (fun _ _ op hw => HWSim.step hw op) h op

end C02
