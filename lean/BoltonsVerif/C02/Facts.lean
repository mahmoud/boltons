import BoltonsVerif.C02.Refine
/-
C02 — facts used by the property theorems: ring ~ dict as permutations, what the three lookup
methods make of the outcome of `__getitem__`, the shape `__setitem__` leaves, constancy of
class / capacity / on_miss, `update` from another cache.
-/
namespace C02
variable {K V : Type} [DecidableEq K]

theorem perm_cons_eraseKey {k : K} {v : V} {r : List (K × V)} (h : lookup k r = some v) :
    r.Perm ((k, v) :: eraseKey k r) := by
  induction r with
  | nil => simp [lookup] at h
  | cons p r ih =>
    simp only [lookup] at h
    simp only [eraseKey]
    split at h
    · rename_i e; simp at h; rw [if_pos e]
      have : p = (k, v) := by cases p; simp_all
      rw [this]
    · rename_i e; rw [if_neg e]
      exact ((ih h).cons p).trans (List.Perm.swap _ _ _)

theorem Sync.perm {d r : List (K × V)} (h : Sync d r) : d.Perm r := by
  induction d generalizing r with
  | nil =>
    have := h.len
    simp at this
    rw [List.length_eq_zero_iff.1 this.symm]
  | cons p d ih =>
    have hp : lookup p.1 r = some p.2 := by rw [← h.agree]; simp [lookup]
    have h1 := h.remove p.1
    rw [eraseKey_head] at h1
    exact ((ih h1).cons p).trans (perm_cons_eraseKey hp).symm

variable [DecidableEq V]

theorem step_lookup_pass {op : Op K V} {k : K} (hop : op.lookupKey = some k) {c c' : Cache K V}
    {o : Out K V (Cache K V)} (hg : c.getitem k = (c', o)) (ho : o ≠ .keyError) : step c op = (c', o) := by
  cases op with
  | getitem k' => cases hop; exact hg
  | get k' d => cases hop; simp only [step, hg]; cases o <;> first | rfl | exact absurd rfl ho
  | setdefault k' d => cases hop; simp only [step, hg]; cases o <;> first | rfl | exact absurd rfl ho
  | _ => cases hop

theorem step_lookup_keyError {op : Op K V} {k : K} (hop : op.lookupKey = some k) {c c' : Cache K V}
    (hg : c.getitem k = (c', .keyError)) :
    (step c op).2 = (match op.dflt with | some d => .val d | none => .keyError) ∧
    (step c op).1.hit = c'.hit ∧ (step c op).1.miss = c'.miss ∧
    (step c op).1.soft = c'.soft + (if op.dflt.isSome then 1 else 0) ∧ (step c op).1.omLog = c'.omLog := by
  cases op with
  | getitem k' => cases hop; simp [step, hg, Op.dflt]
  | get k' d => cases hop; simp [step, hg, Op.dflt]
  | setdefault k' d => cases hop; simp [step, hg, Op.dflt]
  | _ => cases hop

omit [DecidableEq V] in
theorem Cache.setitem_shape {c : Cache K V} (hi : Inv c) (k : K) (v : V) :
    ∃ r d', c.setitem k v = { c with ring := r ++ [(k, v)], d := dset k v d' } := by
  rcases Cache.setitem_cases hi k v with ⟨_, _, he⟩ | ⟨_, _, he⟩ | ⟨_, _, _, _, _, he⟩ <;> exact ⟨_, _, he⟩

omit [DecidableEq V] in
theorem setitem_lookup_self {c : Cache K V} (hi : Inv c) (k : K) (v : V) :
    lookup k (c.setitem k v).d = some v := by
  obtain ⟨r, d', he⟩ := Cache.setitem_shape hi k v
  rw [he]; exact lookup_dset_self _ _ _

theorem WSim.contents {w : List (Cache K V)} {ws : List (Ref K V)} (h : WSim w ws) :
    w.map (·.d) = ws.map (·.ents) :=
  WRel.map_eq (fun _ _ hs => hs.d) h

theorem WSim.counters {w : List (Cache K V)} {ws : List (Ref K V)} (h : WSim w ws) :
    w.map (fun c => (c.hit, c.miss, c.soft, c.omLog)) = ws.map (fun s => (s.hit, s.miss, s.soft, s.omLog)) :=
  WRel.map_eq (fun _ _ hs => by rw [hs.hit, hs.miss, hs.soft, hs.log]) h

theorem step_copy (c : Cache K V) : step c .copy = (c, .cache c.copied) := rfl

def Cache.config (c : Cache K V) : Bool × Nat × Option (K → OmRes V) := (c.lru, c.max, c.onMiss)

omit [DecidableEq V] in
theorem Cache.lru_of_config {c : Cache K V} {l : Bool} {m : Nat} {o : Option (K → OmRes V)} (h : c.config = (l, m, o)) :
    c.lru = l := congrArg (·.1) h

omit [DecidableEq V] in
theorem Cache.max_of_config {c : Cache K V} {l : Bool} {m : Nat} {o : Option (K → OmRes V)} (h : c.config = (l, m, o)) :
    c.max = m := congrArg (·.2.1) h

omit [DecidableEq V] in
@[simp] theorem setitem_config (c : Cache K V) (k : K) (v : V) : (c.setitem k v).config = c.config := by
  simp [Cache.config]

omit [DecidableEq V] in
theorem getitem_config (c : Cache K V) (k : K) : (c.getitem k).1.config = c.config := by
  rcases Cache.getitem_cases c k with ⟨v, _, he⟩ | ⟨_, lg, he | he | ⟨v, he⟩⟩ <;> rw [he]
  · rfl
  · rfl
  · rfl
  · exact setitem_config _ k v

omit [DecidableEq V] in
theorem config_prims (cfg : Bool × Nat × Option (K → OmRes V)) :
    PInv (K := K) (V := V) Cache.prim (fun c => c.config = cfg) (fun c => c.config = cfg) where
  setitem k v h := (setitem_config _ k v).trans h
  remove h _ := h
  popLast h _ := h
  clear h := h
  copied h := h

theorem Cache.machConfig (cfg : Bool × Nat × Option (K → OmRes V)) :
    MInv (Cache.mach (K := K) (V := V)) (fun _ c => c.config = cfg) (fun c => c.config = cfg) where
  weaken := fun h => h
  hit := fun {n c} k h hf => by
    obtain ⟨v, _, ho⟩ := Cache.getitem_found hf
    exact ⟨(getitem_config c k).trans h, v, ho⟩
  missed := fun k h => h
  setitem := fun {n c} k v h => (setitem_config c k v).trans h
  soft := fun h => h
  step := fun {n c} op h hop => by
    have := (config_prims cfg).call h op
    rwa [← step_eq_call hop] at this

theorem step_config (c : Cache K V) (op : Op K V) : (step c op).1.config = c.config := by
  rw [← step_eq_stepWith]
  exact (Cache.machConfig c.config).stepWith (n := 0)
    (fun k h => ⟨(getitem_config _ k).trans h, fun _ => (getitem_config _ k).trans h⟩) rfl op

omit [DecidableEq V] in
theorem Cache.getitem_not_cache (c : Cache K V) (k : K) (m : Cache K V) : (c.getitem k).2 ≠ .cache m := by
  rcases Cache.getitem_cases c k with ⟨v, _, he⟩ | ⟨_, lg, he | he | ⟨v, he⟩⟩ <;> rw [he] <;> nofun

theorem step_cache_out {c m : Cache K V} {op : Op K V} (hm : (step c op).2 = .cache m) :
    op = .copy ∧ m = c.copied := by
  cases op with
  | copy => cases hm; exact ⟨rfl, rfl⟩
  | getitem k => exact absurd hm (Cache.getitem_not_cache c k m)
  | get k d =>
    simp only [step] at hm
    split at hm
    · cases hm
    · exact absurd hm (Cache.getitem_not_cache c k m)
  | setdefault k d =>
    simp only [step] at hm
    split at hm
    · cases hm
    · exact absurd hm (Cache.getitem_not_cache c k m)
  | delitem k => simp only [step] at hm; split at hm <;> cases hm
  | pop k d =>
    simp only [step] at hm
    split at hm
    · cases hm
    · split at hm <;> cases hm
  | popitem => simp only [step] at hm; split at hm <;> cases hm
  | _ => cases hm

omit [DecidableEq V] in
theorem updFrom_config (c o : Cache K V) (ks : List K) :
    (updFrom c o ks).1.config = c.config ∧ (updFrom c o ks).2.1.config = o.config := by
  induction ks generalizing c o with
  | nil => exact ⟨rfl, rfl⟩
  | cons k ks ih =>
    have hg := getitem_config o k
    cases hco : o.getitem k with
    | mk o' out =>
      rw [hco] at hg
      simp only [updFrom, hco]
      cases out with
      | val v =>
        have := ih (c.setitem k v) o'
        exact ⟨this.1.trans (setitem_config c k v), this.2.trans hg⟩
      | _ => exact ⟨rfl, hg⟩

theorem wstep_config {w : List (Cache K V)} {cfg : Bool × Nat × Option (K → OmRes V)}
    (h : ∀ c ∈ w, c.config = cfg) (op : WOp K V) : ∀ c ∈ (wstep w op).1, c.config = cfg := by
  cases op with
  | on i op =>
    rw [wstep_on]
    exact rwstepG_on_forall (fun c op hc => ⟨(step_config c op).trans hc, fun m hm => (step_cache_out hm).2 ▸ hc⟩) h i op
  | eqc i j => simp only [wstep]; split <;> exact h
  | nec i j => simp only [wstep]; split <;> exact h
  | updc i j kw =>
    simp only [wstep]
    split
    · rename_i c o hc ho
      have hcfg := updFrom_config c o (keys o.d)
      have hcw := h c (List.mem_of_getElem? hc)
      have how := h o (List.mem_of_getElem? ho)
      split
      · exact h
      · split
        · rename_i c' o' hu
          rw [hu] at hcfg
          exact forall_mem_set (forall_mem_set h i ((config_prims cfg).setAll (hcfg.1.trans hcw) kw)) j (hcfg.2.trans how)
        · rename_i c' o' hu
          rw [hu] at hcfg
          exact forall_mem_set (forall_mem_set h i (hcfg.1.trans hcw)) j (hcfg.2.trans how)
    · exact h

theorem wrun_config {w : List (Cache K V)} {cfg : Bool × Nat × Option (K → OmRes V)}
    (h : ∀ c ∈ w, c.config = cfg) (ops : List (WOp K V)) : ∀ c ∈ wrun w ops, c.config = cfg :=
  ops.foldlRecOn (motive := fun w : List (Cache K V) => ∀ c ∈ w, c.config = cfg) _ h fun _ hw op _ => wstep_config hw op

/-- the source cache after `E[k]` has found every item of `l`, in turn: one hit each, and an LRU has refreshed each -/
def Cache.readAll (o : Cache K V) (l : List (K × V)) : Cache K V :=
  { o with hit := o.hit + l.length,
           ring := if o.lru then l.foldl (fun r p => toFront p.1 p.2 r) o.ring else o.ring }

omit [DecidableEq V] in
/-- while dict and ring of the source are in step every `E[k]` is a hit -/
theorem updFrom_hits {c o : Cache K V} (ho : Inv o) (l : List (K × V))
    (hl : ∀ p ∈ l, lookup p.1 o.d = some p.2) :
    updFrom c o (keys l) = (c.setAll l, o.readAll l, true) ∧ Inv (o.readAll l) := by
  induction l generalizing c o with
  | nil => simpa [updFrom, Cache.setAll, Cache.readAll] using ho
  | cons p l ih =>
    have hr : lookup p.1 o.ring = some p.2 := by rw [← ho.sync.agree]; exact hl p (by simp)
    have hg := Cache.getitem_hit hr
    have hinv := Cache.getitem_inv ho p.1
    rw [hg] at hinv
    have := ih (c := c.setitem p.1 p.2) hinv (fun q hq => hl q (List.mem_cons_of_mem _ hq))
    have he : ({ o with hit := o.hit + 1, ring := if o.lru then toFront p.1 p.2 o.ring else o.ring } : Cache K V).readAll l
        = o.readAll (p :: l) := by
      cases hlru : o.lru <;> simp [Cache.readAll, hlru, Nat.add_assoc, Nat.add_comm 1]
    rw [he] at this
    simpa only [keys_cons, updFrom, hg, Cache.setAll, List.foldl_cons] using this

def eraseKeys (ks : List K) (r : List (K × V)) : List (K × V) := ks.foldl (fun r k => eraseKey k r) r

omit [DecidableEq V] in
theorem eraseKeys_snoc (ks : List K) (x : List (K × V)) (p : K × V) (h : p.1 ∉ ks) :
    eraseKeys ks (x ++ [p]) = eraseKeys ks x ++ [p] := by
  induction ks generalizing x with
  | nil => rfl
  | cons k ks ih =>
    simp only [List.mem_cons, not_or] at h
    simp only [eraseKeys, List.foldl_cons] at ih ⊢
    rw [eraseKey_snoc_ne x p h.1, ih _ h.2]

omit [DecidableEq V] in
theorem foldl_toFront (l r : List (K × V)) (hn : (keys l).Nodup) :
    l.foldl (fun r p => toFront p.1 p.2 r) r = eraseKeys (keys l) r ++ l := by
  induction l generalizing r with
  | nil => simp [eraseKeys]
  | cons p l ih =>
    simp only [keys_cons, List.nodup_cons] at hn
    simp only [List.foldl_cons, keys_cons]
    rw [ih _ hn.2]
    unfold toFront
    have : (p.1, p.2) = p := rfl
    rw [this, eraseKeys_snoc _ _ _ hn.1]
    simp [eraseKeys]

omit [DecidableEq V] in
theorem eraseKeys_all (ks : List K) (r : List (K × V)) (hn : (keys r).Nodup) (h : ∀ k ∈ keys r, k ∈ ks) :
    eraseKeys ks r = [] := by
  induction ks generalizing r with
  | nil =>
    cases r with
    | nil => rfl
    | cons q r => have := h q.1 (by simp); simp at this
  | cons k ks ih =>
    simp only [eraseKeys, List.foldl_cons]
    apply ih _ (nodup_eraseKey k r hn)
    intro k' hk'
    have h1 : k' ∈ keys r := mem_keys_eraseKey hk'
    have h2 : k' ≠ k := fun e => not_mem_keys_eraseKey k r hn (e ▸ hk')
    have := h k' h1
    simp only [List.mem_cons] at this
    rcases this with e | this
    · exact absurd e h2
    · exact this

end C02
