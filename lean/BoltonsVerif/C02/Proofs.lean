import BoltonsVerif.C02.Simulation
/-
C02 — the ring model by itself: association lists, the dict/ring synchronisation invariant `Sync`,
the cache invariant `Inv` and its preservation by every operation, the equations of `__getitem__`,
which calls touch the counters.  `Inv` is carried through `get` / `setdefault` as `InvN`, indexed like `MSim`
(Simulation.lean), so that the same instance `Cache.machInv` serves the plain and the re-entrant `__getitem__`.
-/
namespace C02
variable {K V : Type} [DecidableEq K]

@[simp] theorem keys_nil : keys ([] : List (K × V)) = [] := rfl
@[simp] theorem keys_cons (p : K × V) (l : List (K × V)) : keys (p :: l) = p.1 :: keys l := rfl
@[simp] theorem keys_append (l m : List (K × V)) : keys (l ++ m) = keys l ++ keys m := by simp [keys]

theorem mem_keys_of_mem {p : K × V} {l : List (K × V)} (h : p ∈ l) : p.1 ∈ keys l :=
  List.mem_map_of_mem h

theorem lookup_none_iff (k : K) (l : List (K × V)) : lookup k l = none ↔ k ∉ keys l := by
  induction l with
  | nil => simp [lookup]
  | cons p l ih =>
    by_cases h : p.1 = k
    · simp [lookup, h]
    · have h' : ¬ k = p.1 := fun e => h e.symm
      simp [lookup, h, h', ih]

theorem lookup_isSome_iff (k : K) (l : List (K × V)) : (lookup k l).isSome ↔ k ∈ keys l := by
  have := lookup_none_iff k l
  cases h : lookup k l <;> simp_all

theorem lookup_append (k : K) (l m : List (K × V)) :
    lookup k (l ++ m) = match lookup k l with | some v => some v | none => lookup k m := by
  induction l with
  | nil => simp [lookup]
  | cons p l ih => simp only [List.cons_append, lookup]; split <;> simp_all

theorem lookup_of_mem {l : List (K × V)} (hnd : (keys l).Nodup) {p : K × V} (hm : p ∈ l) :
    lookup p.1 l = some p.2 := by
  induction l with
  | nil => cases hm
  | cons q l ih =>
    simp only [keys_cons, List.nodup_cons] at hnd
    simp only [lookup]
    rcases List.mem_cons.1 hm with rfl | hm
    · simp
    · have : q.1 ≠ p.1 := fun e => hnd.1 (e ▸ mem_keys_of_mem hm)
      rw [if_neg this]; exact ih hnd.2 hm

theorem lookup_mem {k : K} {v : V} {l : List (K × V)} (h : lookup k l = some v) : (k, v) ∈ l := by
  induction l with
  | nil => simp [lookup] at h
  | cons p l ih =>
    simp only [lookup] at h
    split at h
    · rename_i e; simp at h; cases p; simp_all
    · exact List.mem_cons_of_mem _ (ih h)

theorem eraseKey_head (e : K × V) (rest : List (K × V)) : eraseKey e.1 (e :: rest) = rest := by
  simp [eraseKey]

theorem eraseKey_sublist (k : K) (l : List (K × V)) : (eraseKey k l).Sublist l := by
  induction l with
  | nil => simp [eraseKey]
  | cons p l ih => simp only [eraseKey]; split; simp; exact ih.cons_cons _

theorem keys_eraseKey_sublist (k : K) (l : List (K × V)) : (keys (eraseKey k l)).Sublist (keys l) :=
  (eraseKey_sublist k l).map Prod.fst

theorem mem_keys_eraseKey {k k' : K} {l : List (K × V)} (h : k' ∈ keys (eraseKey k l)) : k' ∈ keys l :=
  (keys_eraseKey_sublist k l).subset h

theorem nodup_eraseKey (k : K) (l : List (K × V)) (h : (keys l).Nodup) : (keys (eraseKey k l)).Nodup :=
  h.sublist (keys_eraseKey_sublist k l)

theorem lookup_eraseKey_ne {k k' : K} (h : k' ≠ k) (l : List (K × V)) :
    lookup k' (eraseKey k l) = lookup k' l := by
  induction l with
  | nil => rfl
  | cons p l ih => grind [lookup, eraseKey]

theorem lookup_eraseKey_self (k : K) (l : List (K × V)) (hn : (keys l).Nodup) :
    lookup k (eraseKey k l) = none := by
  induction l with
  | nil => rfl
  | cons p l ih =>
    simp only [keys, List.map_cons, List.nodup_cons] at hn
    simp only [eraseKey]
    split
    · rename_i h; subst h; exact (lookup_none_iff _ _).2 hn.1
    · simp only [lookup]; simp_all [keys]

theorem not_mem_keys_eraseKey (k : K) (l : List (K × V)) (hn : (keys l).Nodup) : k ∉ keys (eraseKey k l) :=
  (lookup_none_iff _ _).1 (lookup_eraseKey_self k l hn)

theorem lookup_eraseKey_some {A : Type} {k k' : K} {x : A} {l : List (K × A)} (hn : (keys l).Nodup)
    (h : lookup k' (eraseKey k l) = some x) : lookup k' l = some x := by
  by_cases e : k' = k
  · subst e; rw [lookup_eraseKey_self _ _ hn] at h; cases h
  · rwa [lookup_eraseKey_ne e] at h

theorem length_eraseKey (k : K) (l : List (K × V)) :
    (eraseKey k l).length = if (lookup k l).isSome then l.length - 1 else l.length := by
  induction l with
  | nil => rfl
  | cons p l ih => 
    simp only [eraseKey, lookup]; split
    · simp
    · simp only [List.length_cons, ih]; split
      · have : l.length ≠ 0 := by intro h; simp [List.length_eq_zero_iff.1 h, lookup] at *
        omega
      · rfl

theorem eraseKey_append_of_none {A : Type} {k : K} {xs : List (K × A)} (h : lookup k xs = none) (m : List (K × A)) :
    eraseKey k (xs ++ m) = xs ++ eraseKey k m := by
  induction xs with
  | nil => rfl
  | cons p xs ih =>
    simp only [lookup] at h
    split at h
    · cases h
    · rename_i hne; simp only [List.cons_append, eraseKey, if_neg hne, ih h]

theorem eraseKey_snoc_ne {k : K} (x : List (K × V)) (p : K × V) (h : p.1 ≠ k) :
    eraseKey k (x ++ [p]) = eraseKey k x ++ [p] := by
  induction x with
  | nil => simp [eraseKey, h]
  | cons q x ih => simp only [List.cons_append, eraseKey]; split <;> simp [ih]

theorem lookup_split {A : Type} {k : K} {x : A} {l : List (K × A)} (h : lookup k l = some x) :
    ∃ xs ys, l = xs ++ (k, x) :: ys ∧ lookup k xs = none ∧ eraseKey k l = xs ++ ys := by
  induction l with
  | nil => simp [lookup] at h
  | cons c l ih =>
    simp only [lookup] at h
    by_cases e : c.1 = k
    · rw [if_pos e] at h
      refine ⟨[], l, ?_, rfl, ?_⟩
      · cases c; simp_all
      · simp [eraseKey, e]
    · rw [if_neg e] at h
      obtain ⟨xs, ys, h1, h2, h3⟩ := ih h
      refine ⟨c :: xs, ys, by simp [h1], by simp [lookup, e, h2], ?_⟩
      simp only [eraseKey, e, if_false, h3, List.cons_append]

theorem dropLast_eq_eraseKey {l : List (K × V)} (hn : (keys l).Nodup) {p : K × V}
    (hp : l.getLast? = some p) : l.dropLast = eraseKey p.1 l := by
  induction l with
  | nil => simp at hp
  | cons q l ih =>
    cases l with
    | nil => simp at hp; subst hp; simp [eraseKey]
    | cons q' l' =>
      have hp' : (q' :: l').getLast? = some p := by simpa [List.getLast?_cons_cons] using hp
      have hmem : p ∈ q' :: l' := List.mem_of_getLast? hp'
      simp only [keys_cons, List.nodup_cons] at hn
      have hne : ¬ q.1 = p.1 := by
        intro e
        apply hn.1
        rw [e]
        have : p.1 ∈ keys (q' :: l') := List.mem_map_of_mem hmem
        simpa using this
      rw [List.dropLast_cons_cons, eraseKey, if_neg hne, ih (by simpa using hn.2) hp']

theorem lookup_dset_self (k : K) (v : V) (l : List (K × V)) : lookup k (dset k v l) = some v := by
  induction l with
  | nil => simp [dset, lookup]
  | cons p l ih => grind [lookup, dset]

theorem lookup_dset_ne {k k' : K} (h : k' ≠ k) (v : V) (l : List (K × V)) :
    lookup k' (dset k v l) = lookup k' l := by
  induction l with
  | nil => simp [dset, lookup]; exact fun h' => h h'.symm
  | cons p l ih => grind [lookup, dset]

theorem keys_dset (k : K) (v : V) (l : List (K × V)) :
    keys (dset k v l) = if (lookup k l).isSome then keys l else keys l ++ [k] := by
  induction l with
  | nil => simp [dset, lookup, keys]
  | cons p l ih => 
    simp only [dset, lookup]
    split
    · simp [keys]
    · simp only [keys, List.map_cons] at *; rw [ih]; split <;> simp

theorem length_dset (k : K) (v : V) (l : List (K × V)) :
    (dset k v l).length = if (lookup k l).isSome then l.length else l.length + 1 := by
  induction l with
  | nil => rfl
  | cons p l ih => simp only [dset, lookup]; split <;> simp [ih]; split <;> rfl

theorem dset_absent {k : K} {v : V} {l : List (K × V)} (h : lookup k l = none) : dset k v l = l ++ [(k, v)] := by
  induction l with
  | nil => rfl
  | cons p l ih =>
    simp only [lookup] at h
    split at h
    · simp at h
    · rename_i hne; simp only [dset, if_neg hne, ih h, List.cons_append]

theorem dset_same {k : K} {v : V} {l : List (K × V)} (h : lookup k l = some v) : dset k v l = l := by
  induction l with
  | nil => cases h
  | cons p l ih =>
    simp only [lookup] at h
    simp only [dset]
    split at h
    · rename_i e; cases h; rw [if_pos e]
    · rename_i e; rw [if_neg e, ih h]

theorem nodup_snoc {l : List (K × V)} (h : (keys l).Nodup) {k : K} (v : V) (hk : lookup k l = none) :
    (keys (l ++ [(k, v)])).Nodup := by
  rw [lookup_none_iff] at hk
  simp only [keys_append, keys_cons, keys_nil]
  exact List.nodup_append.2 ⟨h, by simp, by intro a ha b hb; simp at hb; subst hb; intro e; exact hk (e ▸ ha)⟩

theorem length_eq_of_agree {a b : List (K × V)} (ha : (keys a).Nodup) (hb : (keys b).Nodup)
    (h : ∀ k, lookup k a = lookup k b) : a.length = b.length := by
  induction a generalizing b with
  | nil =>
    cases b with
    | nil => rfl
    | cons q b => have := h q.1; simp [lookup] at this
  | cons p a ih =>
    have hp : lookup p.1 b = some p.2 := by rw [← h]; simp [lookup]
    simp only [keys_cons, List.nodup_cons] at ha
    have hag : ∀ k, lookup k a = lookup k (eraseKey p.1 b) := by
      intro k
      by_cases e : k = p.1
      · subst e; rw [lookup_eraseKey_self _ _ hb]; exact (lookup_none_iff _ _).2 ha.1
      · rw [lookup_eraseKey_ne e, ← h]; simp [lookup, Ne.symm e]
    have := ih ha.2 (nodup_eraseKey p.1 b hb) hag
    rw [length_eraseKey, hp] at this
    have hne : b.length ≠ 0 := by intro h0; rw [List.length_eq_zero_iff.1 h0] at hp; simp [lookup] at hp
    simp at this ⊢; omega

theorem agree_of_sub {a b : List (K × V)} (ha : (keys a).Nodup) (hb : (keys b).Nodup)
    (hl : a.length = b.length) (h : ∀ p ∈ a, lookup p.1 b = some p.2) : ∀ k, lookup k a = lookup k b := by
  induction a generalizing b with
  | nil =>
    intro k
    have : b = [] := List.length_eq_zero_iff.1 hl.symm
    rw [this]
  | cons p a ih =>
    have hp : lookup p.1 b = some p.2 := h p (by simp)
    simp only [keys_cons, List.nodup_cons] at ha
    have hne : b.length ≠ 0 := by intro h0; rw [List.length_eq_zero_iff.1 h0] at hp; simp [lookup] at hp
    have hl' : a.length = (eraseKey p.1 b).length := by
      rw [length_eraseKey, hp]; simp at hl ⊢; omega
    have hsub : ∀ q ∈ a, lookup q.1 (eraseKey p.1 b) = some q.2 := by
      intro q hq
      have : q.1 ≠ p.1 := fun e => ha.1 (e ▸ mem_keys_of_mem hq)
      rw [lookup_eraseKey_ne this]; exact h q (List.mem_cons_of_mem _ hq)
    have := ih ha.2 (nodup_eraseKey p.1 b hb) hl' hsub
    intro k
    by_cases e : k = p.1
    · subst e; rw [hp]; simp [lookup]
    · rw [← lookup_eraseKey_ne e b, ← this]; simp [lookup, Ne.symm e]

/-- dict storage and ring describe the same mapping, without duplicate keys -/
structure Sync (d r : List (K × V)) : Prop where
  nd : (keys d).Nodup
  nr : (keys r).Nodup
  agree : ∀ k, lookup k d = lookup k r
  len : d.length = r.length

theorem Sync.nil : Sync ([] : List (K × V)) [] := ⟨by simp, by simp, fun _ => rfl, rfl⟩

theorem Sync.remove {d r : List (K × V)} (h : Sync d r) (k : K) : Sync (eraseKey k d) (eraseKey k r) := by
  refine ⟨nodup_eraseKey k d h.nd, nodup_eraseKey k r h.nr, fun k' => ?_, ?_⟩
  · by_cases e : k' = k
    · subst e; rw [lookup_eraseKey_self _ _ h.nd, lookup_eraseKey_self _ _ h.nr]
    · rw [lookup_eraseKey_ne e, lookup_eraseKey_ne e, h.agree]
  · rw [length_eraseKey, length_eraseKey, h.agree k, h.len]

theorem Sync.add {d r : List (K × V)} (h : Sync d r) {k : K} (v : V) (hk : lookup k r = none) :
    Sync (dset k v d) (r ++ [(k, v)]) := by
  have hkd : lookup k d = none := by rw [h.agree, hk]
  refine ⟨?_, nodup_snoc h.nr v hk, fun k' => ?_, ?_⟩
  · rw [keys_dset, hkd]; simpa using nodup_snoc h.nd v hkd
  · by_cases e : k' = k
    · subst e; rw [lookup_dset_self, lookup_append, hk]; simp [lookup]
    · rw [lookup_dset_ne e, lookup_append, h.agree]
      cases lookup k' r with
      | some _ => rfl
      | none => simp [lookup]; exact fun e' => e e'.symm
  · rw [length_dset, hkd]; simp [h.len]

theorem Sync.front {d r : List (K × V)} (h : Sync d r) {k : K} (v : V) {v0 : V} (hk : lookup k r = some v0) :
    Sync (dset k v d) (toFront k v r) := by
  have h1 := h.remove k
  have h2 := h1.add v (lookup_eraseKey_self k r h.nr)
  have hkd : lookup k d = some v0 := by rw [h.agree, hk]
  refine ⟨?_, h2.nr, fun k' => ?_, ?_⟩
  · rw [keys_dset, hkd]; exact h.nd
  · show _ = lookup k' (eraseKey k r ++ [(k, v)])
    rw [← h2.agree]
    by_cases e : k' = k
    · subst e; rw [lookup_dset_self, lookup_dset_self]
    · rw [lookup_dset_ne e, lookup_dset_ne e, lookup_eraseKey_ne e]
  · unfold toFront
    rw [length_dset, hkd, List.length_append, length_eraseKey, hk, h.len]
    have : r.length ≠ 0 := by intro h0; simp [List.length_eq_zero_iff.1 h0, lookup] at hk
    simp; omega

/-- moving a found key to the front is assigning it the value it has: `Sync.front` with the dict unchanged -/
theorem Sync.touch {d r : List (K × V)} (h : Sync d r) {k : K} {v : V} (hk : lookup k r = some v) :
    Sync d (toFront k v r) := by
  have := h.front v hk
  rwa [dset_same (h.agree k ▸ hk)] at this

structure Inv (c : Cache K V) : Prop where
  sync : Sync c.d c.ring
  cap : c.d.length ≤ c.max
  pos : 1 ≤ c.max
  soft_le : c.soft ≤ c.miss

theorem Inv.initP (lru : Bool) (max : Nat) (om : Option (K → OmRes V)) (h : 1 ≤ max) :
    Inv (Cache.initP lru max om) := ⟨Sync.nil, Nat.zero_le _, h, Nat.le_refl _⟩

theorem Inv.init (lru : Bool) (max : Nat) (om : Option (K → V)) (h : 1 ≤ max) :
    Inv (Cache.init lru max om) := Inv.initP lru max _ h

/-- the eviction branch of `__setitem__` always finds a link to evict -/
theorem evict_ring_nonempty {c : Cache K V} (h : Inv c) (hfull : ¬ c.d.length < c.max) : c.ring ≠ [] := by
  intro e
  have h1 := h.sync.len
  have h2 := h.pos
  rw [e, List.length_nil] at h1
  omega

/-- under the invariant the fourth branch of `__setitem__` (eviction from an empty ring) is gone -/
theorem Cache.setitem_cases {c : Cache K V} (hi : Inv c) (k : K) (v : V) :
    (∃ v0, lookup k c.ring = some v0 ∧
      c.setitem k v = { c with ring := toFront k v c.ring, d := dset k v c.d }) ∨
    (lookup k c.ring = none ∧ c.d.length < c.max ∧
      c.setitem k v = { c with ring := c.ring ++ [(k, v)], d := dset k v c.d }) ∨
    (∃ e rest, lookup k c.ring = none ∧ ¬ c.d.length < c.max ∧ c.ring = e :: rest ∧
      c.setitem k v = { c with ring := rest ++ [(k, v)], d := dset k v (eraseKey e.1 c.d) }) := by
  unfold Cache.setitem
  cases hk : lookup k c.ring with
  | some v0 => exact Or.inl ⟨v0, rfl, rfl⟩
  | none =>
    by_cases hlt : c.d.length < c.max
    · exact Or.inr (Or.inl ⟨rfl, hlt, by simp only [hlt, if_true]⟩)
    · cases hr : c.ring with
      | nil => exact absurd hr (evict_ring_nonempty hi hlt)
      | cons e rest => exact Or.inr (Or.inr ⟨e, rest, rfl, hlt, rfl, by simp only [hlt, if_false]⟩)

theorem Cache.setitem_frame (c : Cache K V) (k : K) (v : V) :
    c.setitem k v = { c with ring := (c.setitem k v).ring, d := (c.setitem k v).d } := by
  unfold Cache.setitem; split <;> (try split) <;> (try split) <;> rfl

section proj
variable (c : Cache K V) (k : K) (v : V)
@[simp] theorem setitem_lru : (c.setitem k v).lru = c.lru := by rw [Cache.setitem_frame]
@[simp] theorem setitem_max : (c.setitem k v).max = c.max := by rw [Cache.setitem_frame]
@[simp] theorem setitem_onMiss : (c.setitem k v).onMiss = c.onMiss := by rw [Cache.setitem_frame]
@[simp] theorem setitem_hit : (c.setitem k v).hit = c.hit := by rw [Cache.setitem_frame]
@[simp] theorem setitem_miss : (c.setitem k v).miss = c.miss := by rw [Cache.setitem_frame]
@[simp] theorem setitem_soft : (c.setitem k v).soft = c.soft := by rw [Cache.setitem_frame]
@[simp] theorem setitem_omLog : (c.setitem k v).omLog = c.omLog := by rw [Cache.setitem_frame]
end proj

theorem Cache.getitem_hit {c : Cache K V} {k : K} {v : V} (hk : lookup k c.ring = some v) :
    c.getitem k = ({ c with hit := c.hit + 1, ring := if c.lru then toFront k v c.ring else c.ring }, .val v) := by
  unfold Cache.getitem; rw [hk]

theorem Cache.getitem_miss {c : Cache K V} {k : K} (hk : lookup k c.ring = none) (hom : c.onMiss = none) :
    c.getitem k = ({ c with miss := c.miss + 1 }, .keyError) := by
  unfold Cache.getitem; rw [hk, hom]

theorem Cache.getitem_onMiss {c : Cache K V} {k : K} {f : K → OmRes V} {v : V} (hk : lookup k c.ring = none)
    (hom : c.onMiss = some f) (hf : f k = .ret v) :
    c.getitem k = (({ c with miss := c.miss + 1, omLog := c.omLog ++ [k] } : Cache K V).setitem k v, .val v) := by
  unfold Cache.getitem; rw [hk, hom]; simp only [hf]

theorem Cache.getitem_onMiss_keyError {c : Cache K V} {k : K} {f : K → OmRes V} (hk : lookup k c.ring = none)
    (hom : c.onMiss = some f) (hf : f k = .keyError) :
    c.getitem k = ({ c with miss := c.miss + 1, omLog := c.omLog ++ [k] }, .keyError) := by
  unfold Cache.getitem; rw [hk, hom]; simp only [hf]

theorem Cache.getitem_onMiss_error {c : Cache K V} {k : K} {f : K → OmRes V} (hk : lookup k c.ring = none)
    (hom : c.onMiss = some f) (hf : f k = .error) :
    c.getitem k = ({ c with miss := c.miss + 1, omLog := c.omLog ++ [k] }, .raised) := by
  unfold Cache.getitem; rw [hk, hom]; simp only [hf]

theorem Cache.getitem_found {c : Cache K V} {k : K} (hf : (lookup k c.ring).isSome = true) :
    ∃ v, lookup k c.ring = some v ∧ (c.getitem k).2 = .val v :=
  (Option.isSome_iff_exists.1 hf).imp fun _ hk => ⟨hk, congrArg Prod.snd (Cache.getitem_hit hk)⟩

/-- the five branches of `__getitem__` as a hit and three ways a miss ends; `lg` is the log after the miss (`k` appended
    when there is an on_miss to call) -/
theorem Cache.getitem_cases (c : Cache K V) (k : K) :
    (∃ v, lookup k c.ring = some v ∧ c.getitem k =
      ({ c with hit := c.hit + 1, ring := if c.lru then toFront k v c.ring else c.ring }, .val v)) ∨
    (lookup k c.ring = none ∧ ∃ lg,
      c.getitem k = ({ c with miss := c.miss + 1, omLog := lg }, .keyError) ∨
      c.getitem k = ({ c with miss := c.miss + 1, omLog := lg }, .raised) ∨
      ∃ v, c.getitem k = (({ c with miss := c.miss + 1, omLog := lg } : Cache K V).setitem k v, .val v)) := by
  cases hk : lookup k c.ring with
  | some v => exact Or.inl ⟨v, rfl, Cache.getitem_hit hk⟩
  | none =>
    refine Or.inr ⟨rfl, ?_⟩
    rcases Option.eq_none_or_eq_some c.onMiss with hom | ⟨f, hom⟩
    · exact ⟨c.omLog, Or.inl (Cache.getitem_miss hk hom)⟩
    · refine ⟨c.omLog ++ [k], ?_⟩
      cases hf : f k with
      | ret v => exact Or.inr (Or.inr ⟨v, Cache.getitem_onMiss hk hom hf⟩)
      | keyError => exact Or.inl (Cache.getitem_onMiss_keyError hk hom hf)
      | error => exact Or.inr (Or.inl (Cache.getitem_onMiss_error hk hom hf))

theorem Cache.getitem_counters (c : Cache K V) (k : K) :
    (c.getitem k).1.soft = c.soft ∧ c.miss ≤ (c.getitem k).1.miss ∧
    ((c.getitem k).2 = .keyError → (c.getitem k).1.miss = c.miss + 1) := by
  rcases Cache.getitem_cases c k with ⟨v, _, he⟩ | ⟨_, lg, he | he | ⟨v, he⟩⟩ <;> rw [he]
  · exact ⟨rfl, Nat.le_refl _, nofun⟩
  · exact ⟨rfl, Nat.le_succ _, fun _ => rfl⟩
  · exact ⟨rfl, Nat.le_succ _, nofun⟩
  · exact ⟨by simp, by simp, nofun⟩

theorem Cache.setitem_inv {c : Cache K V} (h : Inv c) (k : K) (v : V) : Inv (c.setitem k v) := by
  rcases Cache.setitem_cases h k v with ⟨v0, hk, he⟩ | ⟨hk, hlt, he⟩ | ⟨e, rest, hk, hfull, hr, he⟩
  · rw [he]
    refine ⟨h.sync.front v hk, ?_, h.pos, h.soft_le⟩
    show (dset k v c.d).length ≤ c.max
    rw [length_dset, h.sync.agree, hk]; exact h.cap
  · rw [he]
    refine ⟨h.sync.add v hk, ?_, h.pos, h.soft_le⟩
    show (dset k v c.d).length ≤ c.max
    rw [length_dset, h.sync.agree, hk]; simp; omega
  · rw [he]
    have h1 := h.sync.remove e.1
    rw [hr, eraseKey_head] at h1
    have hkrest : lookup k rest = none := by
      rw [hr] at hk; simp only [lookup] at hk; split at hk <;> simp_all
    have hke : lookup k (eraseKey e.1 c.d) = none := by rw [h1.agree, hkrest]
    refine ⟨h1.add v hkrest, ?_, h.pos, h.soft_le⟩
    show (dset k v (eraseKey e.1 c.d)).length ≤ c.max
    have hl := h1.len
    have hl0 := h.sync.len
    rw [hr] at hl0
    rw [length_dset, hke]
    simp only [Option.isSome_none, Bool.false_eq_true, if_false]
    have := h.cap
    simp at hl0; omega

theorem Inv.missed {c : Cache K V} (h : Inv c) (lg : List K) :
    Inv ({ c with miss := c.miss + 1, omLog := lg } : Cache K V) :=
  { h with soft_le := Nat.le_succ_of_le h.soft_le }

theorem Cache.getitem_inv {c : Cache K V} (h : Inv c) (k : K) : Inv (c.getitem k).1 := by
  rcases Cache.getitem_cases c k with ⟨v, hk, he⟩ | ⟨_, lg, he | he | ⟨v, he⟩⟩ <;> rw [he]
  · refine ⟨?_, h.cap, h.pos, h.soft_le⟩
    show Sync c.d (if c.lru then toFront k v c.ring else c.ring)
    split
    · exact h.sync.touch hk
    · exact h.sync
  · exact h.missed _
  · exact h.missed _
  · exact Cache.setitem_inv (h.missed _) k v

theorem Cache.remove_inv {c : Cache K V} (h : Inv c) (k : K) : Inv (c.remove k) := by
  refine ⟨h.sync.remove k, ?_, h.pos, h.soft_le⟩
  show (eraseKey k c.d).length ≤ c.max
  rw [length_eraseKey]; have := h.cap; split <;> omega

theorem Inv.popLast {c : Cache K V} (h : Inv c) {p : K × V} (hp : c.d.getLast? = some p) :
    Inv (Cache.prim.popLast c p.1) := by
  show Inv { c with d := c.d.dropLast, ring := eraseKey p.1 c.ring }
  rw [dropLast_eq_eraseKey h.sync.nd hp]
  exact Cache.remove_inv h p.1

theorem Inv.prims : PInv (K := K) (V := V) Cache.prim Inv Inv where
  setitem k v h := Cache.setitem_inv h k v
  remove h _ := Cache.remove_inv h _
  popLast h hp := h.popLast hp
  clear h := { h with sync := Sync.nil, cap := Nat.zero_le _ }
  copied h := { h with soft_le := Nat.le_refl _ }

def Op.lookupKey : Op K V → Option K
  | .getitem k => some k
  | .get k _ => some k
  | .setdefault k _ => some k
  | _ => none

def Op.dflt : Op K V → Option V
  | .get _ d => some d
  | .setdefault _ d => some d
  | _ => none

variable [DecidableEq V]

theorem Op.lookupKey_eq_none_iff {op : Op K V} : op.lookupKey = none ↔ op.isLookup = false := by
  cases op <;> simp [Op.isLookup, Op.lookupKey]

structure SameCounters (b c : Cache K V) : Prop where
  hit : c.hit = b.hit
  miss : c.miss = b.miss
  soft : c.soft = b.soft
  log : c.omLog = b.omLog

theorem counters_prims (b : Cache K V) : PInv (K := K) (V := V) Cache.prim (SameCounters b) (fun _ => True) where
  setitem {c} k v h := ⟨(setitem_hit c k v).trans h.hit, (setitem_miss c k v).trans h.miss,
    (setitem_soft c k v).trans h.soft, (setitem_omLog c k v).trans h.log⟩
  remove h _ := { h with }
  popLast h _ := { h with }
  clear h := { h with }
  copied _ := trivial

theorem step_nonlookup_counters (c : Cache K V) (op : Op K V) (h : op.lookupKey = none) :
    SameCounters c (step c op).1 := by
  have := ((counters_prims c).call (c := c) ⟨rfl, rfl, rfl, rfl⟩ op).1
  rwa [← step_eq_call (Op.lookupKey_eq_none_iff.1 h) c] at this

/-- `budget`: `n` misses not yet matched by soft misses -/
structure InvN (n : Nat) (c : Cache K V) : Prop where
  inv : Inv c
  budget : c.soft + n ≤ c.miss

theorem InvN.zero_iff {c : Cache K V} : InvN 0 c ↔ Inv c := ⟨fun h => h.inv, fun h => ⟨h, h.soft_le⟩⟩

/-- a KeyError outcome has counted a miss and no soft miss yet: that miss is what `get` / `setdefault` then spend -/
theorem Cache.getitem_invN {n : Nat} {c : Cache K V} (k : K) (h : InvN n c) :
    InvN n (c.getitem k).1 ∧ ((c.getitem k).2 = .keyError → InvN (n + 1) (c.getitem k).1) := by
  have hi := Cache.getitem_inv h.inv k
  obtain ⟨h1, h2, h3⟩ := Cache.getitem_counters c k
  have := h.budget
  exact ⟨⟨hi, by omega⟩, fun e => ⟨hi, by have := h3 e; omega⟩⟩

theorem Cache.machInv : MInv (Cache.mach (K := K) (V := V)) InvN (InvN 0) where
  weaken := fun h => ⟨h.inv, by have := h.budget; omega⟩
  hit := fun k h hf => by
    obtain ⟨v, _, ho⟩ := Cache.getitem_found hf
    exact ⟨(Cache.getitem_invN k h).1, v, ho⟩
  missed := fun {n c} k h =>
    ⟨h.inv.missed _, by show c.soft + (n + 1) ≤ c.miss + 1; have := h.budget; omega⟩
  setitem := fun {n c} k v h =>
    ⟨Cache.setitem_inv h.inv k v, by show (c.setitem k v).soft + n ≤ (c.setitem k v).miss; simp; exact h.budget⟩
  soft := fun {n c} h =>
    ⟨{ h.inv with soft_le := by show c.soft + 1 ≤ c.miss; have := h.budget; omega },
     by show c.soft + 1 + n ≤ c.miss; have := h.budget; omega⟩
  step := fun {n c} op h hop => by
    have hc := step_nonlookup_counters c op (Op.lookupKey_eq_none_iff.2 hop)
    have hp := Inv.prims.call h.inv op
    rw [← step_eq_call hop] at hp
    exact ⟨⟨hp.1, by show (C02.step c op).1.soft + n ≤ (C02.step c op).1.miss; rw [hc.soft, hc.miss]; exact h.budget⟩,
      fun m hm => InvN.zero_iff.2 (hp.2 m hm)⟩

theorem step_inv {c : Cache K V} (h : Inv c) (op : Op K V) : Inv (step c op).1 := by
  rw [← step_eq_stepWith]
  exact (Cache.machInv.stepWith Cache.getitem_invN (InvN.zero_iff.2 h) op).inv

theorem run_inv {c : Cache K V} (h : Inv c) (ops : List (Op K V)) : Inv (run c ops) :=
  ops.foldlRecOn (motive := Inv) _ h fun _ hc op _ => step_inv hc op

end C02
