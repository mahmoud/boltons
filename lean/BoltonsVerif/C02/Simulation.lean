import BoltonsVerif.C02.Reent
/-
C02 — simulations between two machines (`Mach`, `Reent.lean`), generically.

A relation between the states of two machines that the primitive steps keep is kept by `stepWith g` for every pair of
related `__getitem__`s `g` (`MSim.stepWith`): by the plain public methods, and by `rget` / `rstep` / program bodies for
every program table and every nesting depth (`MSim.rget`, `MSim.rstep`).  The relation is indexed by a natural number
`n`, a lower bound for `miss_count - soft_miss_count`: `get` / `setdefault` count their soft miss AFTER a whole on_miss
program (with arbitrary nested lookups) has run, and `soft_miss_count <= miss_count` must survive.
The methods that are NOT lookups are written over the six operations they are made of (`Prim`, `Prim.call`; the three
hand-written steppers agree with it: `step_eq_call`, `Ref.step_eq_call`, `hstep_eq_call`): a relation (`PSim`) or a
predicate (`PInv`) that these operations keep is kept by every such call (`PSim.call`, `PInv.call`), which is where the
field `step` of every `MSim` / `MInv` instance comes from.
An invariant of ONE machine (`MInv`) is the case "both sides equal" (`MInv.toMSim`).  `WRel` lifts a relation to worlds
of caches.
-/
set_option linter.unusedSectionVars false
namespace C02
variable {K V C1 C2 : Type} [DecidableEq K]

/-- equal results; for copy(): related caches -/
inductive OutRel (R : C1 → C2 → Prop) : Out K V C1 → Out K V C2 → Prop where
  | none : OutRel R .none .none
  | val (v : V) : OutRel R (.val v) (.val v)
  | keyError : OutRel R .keyError .keyError
  | raised : OutRel R .raised .raised
  | item (k : K) (v : V) : OutRel R (.item k v) (.item k v)
  | bool (b : Bool) : OutRel R (.bool b) (.bool b)
  | nat (n : Nat) : OutRel R (.nat n) (.nat n)
  | items (l : List (K × V)) : OutRel R (.items l) (.items l)
  | cache {a : C1} {b : C2} (h : R a b) : OutRel R (.cache a) (.cache b)

theorem OutRel.shape_eq {R : C1 → C2 → Prop} {a : Out K V C1} {b : Out K V C2} (h : OutRel R a b) :
    a.shape = b.shape := by
  cases h <;> rfl

theorem OutRel.keyError_right {R : C1 → C2 → Prop} {a : Out K V C1} {b : Out K V C2} (h : OutRel R a b) (e : a = .keyError) :
    b = .keyError := by
  subst e; cases h; rfl

theorem OutRel.val_left {R : C1 → C2 → Prop} {a : Out K V C1} {b : Out K V C2} {v : V} (h : OutRel R a b) (e : b = .val v) :
    a = .val v := by
  subst e; cases h; rfl

theorem OutRel.refl_of {R : C1 → C1 → Prop} (o : Out K V C1) (h : ∀ m, o = .cache m → R m m) : OutRel R o o := by
  cases o with
  | cache m => exact OutRel.cache (h m rfl)
  | _ => constructor

theorem OutRel.of_diag {C : Type} {Q : C → Prop} {o o' : Out K V C} {m : C}
    (h : OutRel (fun a b => a = b ∧ Q a) o o') (hm : o = .cache m) : Q m := by
  subst hm
  cases h with
  | cache hn => exact hn.2

/-- `items`: the dict part; `remove`: `dict.__delitem__` / `dict.pop` and `_remove_from_ll`; `popLast c k`: `dict.popitem()`
    returned key `k`, then `_remove_from_ll(k)`; `clear`: `dict.clear()` and `_init_ll()` -/
structure Prim (K V C : Type) where
  items   : C → List (K × V)
  setitem : C → K → V → C
  remove  : C → K → C
  popLast : C → K → C
  clear   : C → C
  copied  : C → C

section Prim
variable {C : Type}

def Prim.setAll (P : Prim K V C) (c : C) (l : List (K × V)) : C := l.foldl (fun c p => P.setitem c p.1 p.2) c

def Prim.update (P : Prim K V C) (c : C) (e : Arg K V) (kw : List (K × V)) : C :=
  match e with
  | .self => c
  | .pairs l => P.setAll (P.setAll c l) kw

def eqItems [DecidableEq V] (d : List (K × V)) : Arg K V → Bool
  | .self => true
  | .pairs o => dictEq d o

/-- the text of `step` / `Ref.step` / `hstep` for the methods that do not go through `__getitem__` (those that do are
    `Mach.stepWith`; here they do nothing) -/
def Prim.call [DecidableEq V] (P : Prim K V C) (c : C) : Op K V → C × Out K V C
  | .setitem k v => (P.setitem c k v, .none)
  | .delitem k =>
    match lookup k (P.items c) with
    | none => (c, .keyError)
    | some _ => (P.remove c k, .none)
  | .update e kw => (P.update c e kw, .none)
  | .ior e => (P.update c e [], .none)
  | .pop k dflt =>
    match lookup k (P.items c) with
    | some v => (P.remove c k, .val v)
    | none => match dflt with
      | some v => (c, .val v)
      | none => (c, .keyError)
  | .popitem =>
    match (P.items c).getLast? with
    | none => (c, .keyError)
    | some p => (P.popLast c p.1, .item p.1 p.2)
  | .clear => (P.clear c, .none)
  | .copy => (c, .cache (P.copied c))
  | .contains k => (c, .bool (lookup k (P.items c)).isSome)
  | .len => (c, .nat (P.items c).length)
  | .items => (c, .items (P.items c))
  | .eq o => (c, .bool (eqItems (P.items c) o))
  | .ne o => (c, .bool (!eqItems (P.items c) o))
  | .updateFail l => (P.setAll c l, .raised)
  | .eqOther => (c, .bool false)
  | .neOther => (c, .bool true)
  | _ => (c, .none)

end Prim

def Cache.prim : Prim K V (Cache K V) where
  items c := c.d
  setitem := Cache.setitem
  remove := Cache.remove
  popLast c k := { c with d := c.d.dropLast, ring := eraseKey k c.ring }
  clear c := { c with d := [], ring := [] }
  copied := Cache.copied

def Ref.prim : Prim K V (Ref K V) where
  items s := s.ents
  setitem := Ref.assign
  remove := Ref.remove
  popLast := Ref.remove
  clear s := { s with ents := [] }
  copied := Ref.copied

def HCache.prim : Prim K V (HCache K V) where
  items h := h.d
  setitem := HCache.setitem
  remove := HCache.remove
  popLast h k := ({ h with d := h.d.dropLast } : HCache K V).unlink k
  clear h := { h with d := [], ll := h.ll.reinit }
  copied := HCache.copied

section agree
variable [DecidableEq V] {op : Op K V} (hop : op.isLookup = false)
include hop

theorem step_eq_call (c : Cache K V) : step c op = Cache.prim.call c op := by
  cases op with
  | getitem k => cases hop
  | get k d => cases hop
  | setdefault k d => cases hop
  | _ => rfl

theorem Ref.step_eq_call (s : Ref K V) : Ref.step s op = Ref.prim.call s op := by
  cases op with
  | getitem k => cases hop
  | get k d => cases hop
  | setdefault k d => cases hop
  | _ => rfl

theorem hstep_eq_call (h : HCache K V) : hstep h op = HCache.prim.call h op := by
  cases op with
  | getitem k => cases hop
  | get k d => cases hop
  | setdefault k d => cases hop
  | _ => rfl

end agree

section
variable [DecidableEq V]

theorem step_eq_stepWith (c : Cache K V) (op : Op K V) : Cache.mach.stepWith Cache.getitem c op = step c op := by
  cases op with
  | get k d => rw [Mach.stepWith, step]; cases c.getitem k with | mk c' o => cases o <;> rfl
  | setdefault k d => rw [Mach.stepWith, step]; cases c.getitem k with | mk c' o => cases o <;> rfl
  | _ => rfl

theorem Ref.step_eq_stepWith (s : Ref K V) (op : Op K V) : Ref.mach.stepWith Ref.lookup s op = Ref.step s op := by
  cases op with
  | get k d => rw [Mach.stepWith, Ref.step]; cases s.lookup k with | mk s' o => cases o <;> rfl
  | setdefault k d => rw [Mach.stepWith, Ref.step]; cases s.lookup k with | mk s' o => cases o <;> rfl
  | _ => rfl

theorem hstep_eq_stepWith (h : HCache K V) (op : Op K V) : HCache.mach.stepWith HCache.getitem h op = hstep h op := by
  cases op with
  | get k d => rw [Mach.stepWith, hstep]; cases h.getitem k with | mk h' o => cases o <;> rfl
  | setdefault k d => rw [Mach.stepWith, hstep]; cases h.getitem k with | mk h' o => cases o <;> rfl
  | _ => rfl

end

/-- a relation between the states of two machines that the operations keep (`remove` and `popLast` only where the methods
    use them: on a key that is there, on the key of the last item); `RC` relates the caches returned by copy() -/
structure PSim (P1 : Prim K V C1) (P2 : Prim K V C2) (R RC : C1 → C2 → Prop) : Prop where
  items : ∀ {a b}, R a b → P1.items a = P2.items b
  setitem : ∀ {a b} (k : K) (v : V), R a b → R (P1.setitem a k v) (P2.setitem b k v)
  remove : ∀ {a b} {k : K} {v : V}, R a b → lookup k (P2.items b) = some v → R (P1.remove a k) (P2.remove b k)
  popLast : ∀ {a b} {p : K × V}, R a b → (P2.items b).getLast? = some p → R (P1.popLast a p.1) (P2.popLast b p.1)
  clear : ∀ {a b}, R a b → R (P1.clear a) (P2.clear b)
  copied : ∀ {a b}, R a b → RC (P1.copied a) (P2.copied b)

section PSim
variable {P1 : Prim K V C1} {P2 : Prim K V C2} {R RC : C1 → C2 → Prop} (h : PSim P1 P2 R RC) {a : C1} {b : C2} (hr : R a b)
include h hr

theorem PSim.setAll (l : List (K × V)) : R (P1.setAll a l) (P2.setAll b l) :=
  List.foldl_rel (r := R) hr fun p _ _ _ hr => h.setitem p.1 p.2 hr

theorem PSim.update (e : Arg K V) (kw : List (K × V)) : R (P1.update a e kw) (P2.update b e kw) := by
  cases e with
  | self => exact hr
  | pairs l => exact h.setAll (h.setAll hr l) kw

theorem PSim.call [DecidableEq V] (op : Op K V) :
    R (P1.call a op).1 (P2.call b op).1 ∧ OutRel RC (P1.call a op).2 (P2.call b op).2 := by
  have hi := h.items hr
  cases op with
  | setitem k v => exact ⟨h.setitem k v hr, .none⟩
  | delitem k =>
    simp only [Prim.call, hi]
    cases hk : lookup k (P2.items b) with
    | none => exact ⟨hr, .keyError⟩
    | some v => exact ⟨h.remove hr hk, .none⟩
  | update e kw => exact ⟨h.update hr e kw, .none⟩
  | ior e => exact ⟨h.update hr e [], .none⟩
  | pop k dflt =>
    simp only [Prim.call, hi]
    cases hk : lookup k (P2.items b) with
    | some v => exact ⟨h.remove hr hk, .val v⟩
    | none =>
      cases dflt with
      | some v => exact ⟨hr, .val v⟩
      | none => exact ⟨hr, .keyError⟩
  | popitem =>
    simp only [Prim.call, hi]
    cases hp : (P2.items b).getLast? with
    | none => exact ⟨hr, .keyError⟩
    | some p => exact ⟨h.popLast hr hp, .item _ _⟩
  | clear => exact ⟨h.clear hr, .none⟩
  | copy => exact ⟨hr, .cache (h.copied hr)⟩
  | contains k => simp only [Prim.call, hi]; exact ⟨hr, .bool _⟩
  | len => simp only [Prim.call, hi]; exact ⟨hr, .nat _⟩
  | items => simp only [Prim.call, hi]; exact ⟨hr, .items _⟩
  | eq o => simp only [Prim.call, hi]; exact ⟨hr, .bool _⟩
  | ne o => simp only [Prim.call, hi]; exact ⟨hr, .bool _⟩
  | updateFail l => exact ⟨h.setAll hr l, .raised⟩
  | eqOther => exact ⟨hr, .bool _⟩
  | neOther => exact ⟨hr, .bool _⟩
  | _ => exact ⟨hr, .none⟩

end PSim

/-- a predicate on the states of one machine that the operations keep; `QC` is what holds of a cache returned by copy() -/
structure PInv {C : Type} (P : Prim K V C) (Q QC : C → Prop) : Prop where
  setitem : ∀ {c} (k : K) (v : V), Q c → Q (P.setitem c k v)
  remove : ∀ {c} {k : K} {v : V}, Q c → lookup k (P.items c) = some v → Q (P.remove c k)
  popLast : ∀ {c} {p : K × V}, Q c → (P.items c).getLast? = some p → Q (P.popLast c p.1)
  clear : ∀ {c}, Q c → Q (P.clear c)
  copied : ∀ {c}, Q c → QC (P.copied c)

section PInv
variable {C : Type} {P : Prim K V C} {Q QC : C → Prop} (h : PInv P Q QC)
include h

theorem PInv.toPSim : PSim P P (fun a b => a = b ∧ Q a) (fun a b => a = b ∧ QC a) where
  items := fun ⟨e, _⟩ => e ▸ rfl
  setitem := fun k v ⟨e, q⟩ => e ▸ ⟨rfl, h.setitem k v q⟩
  remove := fun ⟨e, q⟩ hk => by subst e; exact ⟨rfl, h.remove q hk⟩
  popLast := fun ⟨e, q⟩ hp => by subst e; exact ⟨rfl, h.popLast q hp⟩
  clear := fun ⟨e, q⟩ => e ▸ ⟨rfl, h.clear q⟩
  copied := fun ⟨e, q⟩ => e ▸ ⟨rfl, h.copied q⟩

theorem PInv.setAll {c : C} (q : Q c) (l : List (K × V)) : Q (P.setAll c l) :=
  l.foldlRecOn (motive := Q) _ q fun _ q p _ => h.setitem p.1 p.2 q

theorem PInv.call [DecidableEq V] {c : C} (q : Q c) (op : Op K V) :
    Q (P.call c op).1 ∧ ∀ m, (P.call c op).2 = .cache m → QC m := by
  have := h.toPSim.call (a := c) (b := c) ⟨rfl, q⟩ op
  exact ⟨this.1.2, fun m hm => this.2.of_diag hm⟩

end PInv

section rget
variable {C : Type} (M : Mach K V C) (P : List K → K → OmProg K V) {c : C} {k : K}

theorem Mach.rget_hit (fuel : Nat) (hf : M.find c k = true) : M.rget P fuel c k = M.hit c k := by
  cases fuel <;> simp only [Mach.rget, hf, if_true]

theorem Mach.rget_zero (hf : M.find c k = false) : M.rget P 0 c k = (M.missed c k, .raised) := by
  simp only [Mach.rget, hf, Bool.false_eq_true, if_false]

/-- the end of `__getitem__` on the miss path -/
def Mach.finish (k : K) : C × OmRes V → C × Out K V C
  | (c2, .ret v) => (M.setitem c2 k v, .val v)
  | (c2, .keyError) => (c2, .keyError)
  | (c2, .error) => (c2, .raised)

theorem Mach.rget_miss (n : Nat) (hf : M.find c k = false) :
    M.rget P (n + 1) c k = M.finish k (runProg (M.stepWith (M.rget P n)) (M.missed c k) (P (M.log c) k)) := by
  simp only [Mach.rget, hf, Bool.false_eq_true, if_false]
  cases runProg (M.stepWith (M.rget P n)) (M.missed c k) (P (M.log c) k) with
  | mk c2 r => cases r <;> rfl

end rget

/-- the primitive steps of the two machines preserve the indexed relation; `RC` relates the caches
    returned by copy().  `R n` allows `n` more soft misses than counted so far: `missed` earns one, `soft` spends
    one, `weaken` forgets one. -/
structure MSim (M1 : Mach K V C1) (M2 : Mach K V C2) (R : Nat → C1 → C2 → Prop) (RC : C1 → C2 → Prop) : Prop where
  weaken : ∀ {n c s}, R (n + 1) c s → R n c s
  log : ∀ {n c s}, R n c s → M1.log c = M2.log s
  find : ∀ {n c s} (k : K), R n c s → M1.find c k = M2.find s k
  hit : ∀ {n c s} (k : K), R n c s → M1.find c k = true →
    R n (M1.hit c k).1 (M2.hit s k).1 ∧ ∃ v, (M1.hit c k).2 = .val v ∧ (M2.hit s k).2 = .val v
  missed : ∀ {n c s} (k : K), R n c s → R (n + 1) (M1.missed c k) (M2.missed s k)
  setitem : ∀ {n c s} (k : K) (v : V), R n c s → R n (M1.setitem c k v) (M2.setitem s k v)
  soft : ∀ {n c s}, R (n + 1) c s → R n (M1.soft c) (M2.soft s)
  step : ∀ {n c s} (op : Op K V), R n c s → op.isLookup = false →
    R n (M1.step c op).1 (M2.step s op).1 ∧ OutRel RC (M1.step c op).2 (M2.step s op).2

/-- what `MSim.rget` proves about a pair of `__getitem__` implementations.  After a KeyError outcome the miss it
    counted is still unspent (`R (n + 1)`): get / setdefault spend it on their soft miss, which they count only after
    the whole on_miss program has run. -/
def GSim (R : Nat → C1 → C2 → Prop) (RC : C1 → C2 → Prop) (g1 : C1 → K → C1 × Out K V C1) (g2 : C2 → K → C2 × Out K V C2) : Prop :=
  ∀ n c s k, R n c s →
    R n (g1 c k).1 (g2 s k).1 ∧ OutRel RC (g1 c k).2 (g2 s k).2 ∧
    ((g1 c k).2 = .keyError → R (n + 1) (g1 c k).1 (g2 s k).1)

variable {M1 : Mach K V C1} {M2 : Mach K V C2} {R : Nat → C1 → C2 → Prop} {RC : C1 → C2 → Prop}

theorem MSim.stepWith (h : MSim M1 M2 R RC) {g1 : C1 → K → C1 × Out K V C1} {g2 : C2 → K → C2 × Out K V C2}
    (hg : GSim R RC g1 g2) {n : Nat} {c : C1} {s : C2} (hr : R n c s) (op : Op K V) :
    R n (M1.stepWith g1 c op).1 (M2.stepWith g2 s op).1 ∧
    OutRel RC (M1.stepWith g1 c op).2 (M2.stepWith g2 s op).2 := by
  cases op with
  | getitem k => exact ⟨(hg n c s k hr).1, (hg n c s k hr).2.1⟩
  | get k d =>
    have := hg n c s k hr
    rw [Mach.stepWith, Mach.stepWith]
    generalize g1 c k = r1 at this ⊢
    generalize g2 s k = r2 at this ⊢
    obtain ⟨c', o1⟩ := r1
    obtain ⟨s', o2⟩ := r2
    obtain ⟨a1, a2, a3⟩ := this
    have ho := a2
    cases a2 with
    | keyError => exact ⟨h.soft (a3 rfl), OutRel.val _⟩
    | _ => exact ⟨a1, ho⟩
  | setdefault k d =>
    have := hg n c s k hr
    rw [Mach.stepWith, Mach.stepWith]
    generalize g1 c k = r1 at this ⊢
    generalize g2 s k = r2 at this ⊢
    obtain ⟨c', o1⟩ := r1
    obtain ⟨s', o2⟩ := r2
    obtain ⟨a1, a2, a3⟩ := this
    have ho := a2
    cases a2 with
    | keyError => exact ⟨h.setitem k d (h.soft (a3 rfl)), OutRel.val _⟩
    | _ => exact ⟨a1, ho⟩
  | _ => exact h.step _ hr rfl

theorem MSim.runProg (h : MSim M1 M2 R RC) {g1 : C1 → K → C1 × Out K V C1} {g2 : C2 → K → C2 × Out K V C2}
    (hg : GSim R RC g1 g2) (p : OmProg K V) {n : Nat} {c : C1} {s : C2} (hr : R n c s) :
    R n (runProg (M1.stepWith g1) c p).1 (runProg (M2.stepWith g2) s p).1 ∧
    (runProg (M1.stepWith g1) c p).2 = (runProg (M2.stepWith g2) s p).2 := by
  induction p generalizing c s with
  | done r => exact ⟨hr, rfl⟩
  | call op next ih =>
    have hs := h.stepWith hg hr op
    simp only [C02.runProg]
    cases h1 : M1.stepWith g1 c op with
    | mk c' o1 =>
      cases h2 : M2.stepWith g2 s op with
      | mk s' o2 =>
        rw [h1, h2] at hs
        simp only []
        rw [hs.2.shape_eq]
        exact ih o2.shape hs.1

theorem MSim.finish (h : MSim M1 M2 R RC) (k : K) {n : Nat} (p1 : C1 × OmRes V) (p2 : C2 × OmRes V)
    (hr : R (n + 1) p1.1 p2.1) (he : p1.2 = p2.2) :
    R n (M1.finish k p1).1 (M2.finish k p2).1 ∧ OutRel RC (M1.finish k p1).2 (M2.finish k p2).2 ∧
    ((M1.finish k p1).2 = .keyError → R (n + 1) (M1.finish k p1).1 (M2.finish k p2).1) := by
  obtain ⟨c, r⟩ := p1
  obtain ⟨s, r'⟩ := p2
  cases he
  cases r with
  | ret v => exact ⟨h.weaken (h.setitem k v hr), .val v, nofun⟩
  | keyError => exact ⟨h.weaken hr, .keyError, fun _ => hr⟩
  | error => exact ⟨h.weaken hr, .raised, nofun⟩

theorem MSim.rget (h : MSim M1 M2 R RC) (P : List K → K → OmProg K V) (fuel : Nat) :
    GSim R RC (M1.rget P fuel) (M2.rget P fuel) := by
  -- the hit path does not depend on the depth
  have hhit : ∀ fuel {n c s k}, R n c s → M1.find c k = true →
      R n (M1.rget P fuel c k).1 (M2.rget P fuel s k).1 ∧ OutRel RC (M1.rget P fuel c k).2 (M2.rget P fuel s k).2 ∧
      ((M1.rget P fuel c k).2 = .keyError → R (n + 1) (M1.rget P fuel c k).1 (M2.rget P fuel s k).1) := by
    intro fuel n c s k hr hc
    rw [M1.rget_hit P fuel hc, M2.rget_hit P fuel ((h.find k hr).symm.trans hc)]
    obtain ⟨b1, v, b2, b3⟩ := h.hit k hr hc
    exact ⟨b1, b2 ▸ b3 ▸ .val v, fun e => by rw [b2] at e; cases e⟩
  induction fuel with
  | zero =>
    intro n c s k hr
    cases hc : M1.find c k with
    | true => exact hhit 0 hr hc
    | false =>
      rw [M1.rget_zero P hc, M2.rget_zero P ((h.find k hr).symm.trans hc)]
      exact ⟨h.weaken (h.missed k hr), .raised, nofun⟩
  | succ m ih =>
    intro n c s k hr
    cases hc : M1.find c k with
    | true => exact hhit _ hr hc
    | false =>
      rw [M1.rget_miss P m hc, M2.rget_miss P m ((h.find k hr).symm.trans hc), ← h.log hr]
      have hb := h.runProg ih (P (M1.log c) k) (h.missed k hr)
      exact h.finish k _ _ hb.1 hb.2

theorem MSim.rstep (h : MSim M1 M2 R RC) (P : List K → K → OmProg K V) (fuel : Nat) {n : Nat} {c : C1} {s : C2}
    (hr : R n c s) (op : Op K V) :
    R n (M1.rstep P fuel c op).1 (M2.rstep P fuel s op).1 ∧
    OutRel RC (M1.rstep P fuel c op).2 (M2.rstep P fuel s op).2 :=
  h.stepWith (h.rget P fuel) hr op

section MInv
variable {C : Type}

/-- a family of predicates (index: misses not yet matched by soft misses) kept by the primitive steps;
    `QC` is what holds of a cache returned by copy() -/
structure MInv (M : Mach K V C) (Q : Nat → C → Prop) (QC : C → Prop) : Prop where
  weaken : ∀ {n c}, Q (n + 1) c → Q n c
  hit : ∀ {n c} (k : K), Q n c → M.find c k = true → Q n (M.hit c k).1 ∧ ∃ v, (M.hit c k).2 = .val v
  missed : ∀ {n c} (k : K), Q n c → Q (n + 1) (M.missed c k)
  setitem : ∀ {n c} (k : K) (v : V), Q n c → Q n (M.setitem c k v)
  soft : ∀ {n c}, Q (n + 1) c → Q n (M.soft c)
  step : ∀ {n c} (op : Op K V), Q n c → op.isLookup = false →
    Q n (M.step c op).1 ∧ ∀ m, (M.step c op).2 = .cache m → QC m

variable {M : Mach K V C} {Q : Nat → C → Prop} {QC : C → Prop}

theorem MInv.toMSim (h : MInv M Q QC) : MSim M M (fun n c s => c = s ∧ Q n c) (fun c s => c = s ∧ QC c) where
  weaken := fun ⟨e, q⟩ => ⟨e, h.weaken q⟩
  log := fun ⟨e, _⟩ => by rw [e]
  find := fun k ⟨e, _⟩ => by rw [e]
  hit := fun k ⟨e, q⟩ hf => by
    subst e
    obtain ⟨q', v, hv⟩ := h.hit k q hf
    exact ⟨⟨rfl, q'⟩, v, hv, hv⟩
  missed := fun k ⟨e, q⟩ => by subst e; exact ⟨rfl, h.missed k q⟩
  setitem := fun k v ⟨e, q⟩ => by subst e; exact ⟨rfl, h.setitem k v q⟩
  soft := fun ⟨e, q⟩ => by subst e; exact ⟨rfl, h.soft q⟩
  step := fun op ⟨e, q⟩ hop => by
    subst e
    obtain ⟨q', hc⟩ := h.step op q hop
    exact ⟨⟨rfl, q'⟩, OutRel.refl_of _ (fun m hm => ⟨rfl, hc m hm⟩)⟩

/-- the public methods around ANY `__getitem__` that keeps the invariant and leaves the miss of a KeyError outcome unspent
    (the plain one, `rget`) keep it -/
theorem MInv.stepWith (h : MInv M Q QC) {g : C → K → C × Out K V C}
    (hg : ∀ {n c} k, Q n c → Q n (g c k).1 ∧ ((g c k).2 = .keyError → Q (n + 1) (g c k).1))
    {n : Nat} {c : C} (q : Q n c) (op : Op K V) : Q n (M.stepWith g c op).1 := by
  cases op with
  | getitem k => exact (hg k q).1
  | get k d =>
    have := hg k q
    rw [Mach.stepWith]
    generalize g c k = r at this ⊢
    obtain ⟨c', o⟩ := r
    cases o with
    | keyError => exact h.soft (this.2 rfl)
    | _ => exact this.1
  | setdefault k d =>
    have := hg k q
    rw [Mach.stepWith]
    generalize g c k = r at this ⊢
    obtain ⟨c', o⟩ := r
    cases o with
    | keyError => exact h.setitem k d (h.soft (this.2 rfl))
    | _ => exact this.1
  | _ => exact (h.step _ q rfl).1

end MInv

def WRel (R : C1 → C2 → Prop) (w : List C1) (ws : List C2) : Prop :=
  w.length = ws.length ∧ ∀ (i : Nat) a b, w[i]? = some a → ws[i]? = some b → R a b

theorem WRel.get {R : C1 → C2 → Prop} {w : List C1} {ws : List C2} (h : WRel R w ws) (i : Nat) :
    (w[i]? = none ∧ ws[i]? = none) ∨ ∃ a c, w[i]? = some a ∧ ws[i]? = some c ∧ R a c := by
  by_cases hi : i < w.length
  · have hi' : i < ws.length := h.1 ▸ hi
    exact Or.inr ⟨w[i], ws[i], List.getElem?_eq_getElem hi, List.getElem?_eq_getElem hi',
      h.2 i _ _ (List.getElem?_eq_getElem hi) (List.getElem?_eq_getElem hi')⟩
  · have hi' : ¬ i < ws.length := h.1 ▸ hi
    exact Or.inl ⟨List.getElem?_eq_none (Nat.le_of_not_lt hi), List.getElem?_eq_none (Nat.le_of_not_lt hi')⟩

theorem WRel.set {R : C1 → C2 → Prop} {w : List C1} {ws : List C2} (h : WRel R w ws) (i : Nat)
    {a : C1} {c : C2} (hs : R a c) : WRel R (w.set i a) (ws.set i c) := by
  refine ⟨by simp [h.1], fun j a' c' ha hc => ?_⟩
  rw [List.getElem?_set] at ha hc
  by_cases e : i = j
  · simp only [e, if_true] at ha hc
    split at ha
    · split at hc
      · simp at ha hc; subst ha hc; exact hs
      · simp at hc
    · simp at ha
  · simp only [e, if_false] at ha hc
    exact h.2 j _ _ ha hc

theorem WRel.snoc {R : C1 → C2 → Prop} {w : List C1} {ws : List C2} (h : WRel R w ws)
    {a : C1} {c : C2} (hs : R a c) : WRel R (w ++ [a]) (ws ++ [c]) := by
  refine ⟨by simp [h.1], fun j a' c' ha hc => ?_⟩
  by_cases hj : j < w.length
  · rw [List.getElem?_append_left hj] at ha
    rw [List.getElem?_append_left (h.1 ▸ hj)] at hc
    exact h.2 j _ _ ha hc
  · have hj' := Nat.le_of_not_lt hj
    rw [List.getElem?_append_right hj'] at ha
    rw [List.getElem?_append_right (h.1 ▸ hj')] at hc
    rw [← h.1] at hc
    cases hn : j - w.length with
    | zero => simp [hn] at ha hc; subst ha hc; exact hs
    | succ n => simp [hn] at ha

theorem WRel.single {R : C1 → C2 → Prop} {a : C1} {c : C2} (hs : R a c) : WRel R [a] [c] := by
  refine ⟨rfl, fun i a' c' ha hc => ?_⟩
  cases i with
  | zero => simp at ha hc; subst ha hc; exact hs
  | succ n => simp at ha

theorem WRel.of_mem {R : C1 → C2 → Prop} {w : List C1} {ws : List C2} (h : WRel R w ws) {a : C1} (ha : a ∈ w) :
    ∃ c, c ∈ ws ∧ R a c := by
  obtain ⟨i, hi⟩ := List.mem_iff_getElem?.1 ha
  rcases h.get i with ⟨h1, _⟩ | ⟨a', c, h1, h2, hs⟩
  · rw [h1] at hi; cases hi
  · rw [h1] at hi; cases hi
    exact ⟨c, List.mem_of_getElem? h2, hs⟩

theorem WRel.map_eq {R : C1 → C2 → Prop} {α : Type} {f : C1 → α} {g : C2 → α} (hfg : ∀ a c, R a c → f a = g c)
    {w : List C1} {ws : List C2} (h : WRel R w ws) : w.map f = ws.map g := by
  apply List.ext_getElem?
  intro i
  rw [List.getElem?_map, List.getElem?_map]
  rcases h.get i with ⟨h1, h2⟩ | ⟨a, c, h1, h2, hs⟩
  · rw [h1, h2]; rfl
  · rw [h1, h2]; exact congrArg some (hfg a c hs)

theorem WRel.on {R : C1 → C2 → Prop}
    {st1 : C1 → Op K V → C1 × Out K V C1} {st2 : C2 → Op K V → C2 × Out K V C2}
    {wst1 : List C1 → WOp K V → List C1 × Out K V C1} {wst2 : List C2 → WOp K V → List C2 × Out K V C2}
    (hst : ∀ c s op, R c s → R (st1 c op).1 (st2 s op).1 ∧ OutRel R (st1 c op).2 (st2 s op).2)
    {w : List C1} {ws : List C2} (h : WRel R w ws) (i : Nat) (op : Op K V) :
    WRel R (C02.rwstepG st1 wst1 w (.on i op)).1 (C02.rwstepG st2 wst2 ws (.on i op)).1 ∧
    OutRel R (C02.rwstepG st1 wst1 w (.on i op)).2 (C02.rwstepG st2 wst2 ws (.on i op)).2 := by
  rcases h.get i with ⟨h1, h2⟩ | ⟨a, c, h1, h2, hs⟩
  · simp only [C02.rwstepG, h1, h2]; exact ⟨h, OutRel.none⟩
  · have hst' := hst a c op hs
    cases hc : st1 a op with
    | mk a' o =>
      cases hr : st2 c op with
      | mk c' o' =>
        rw [hc, hr] at hst'
        simp only [C02.rwstepG, h1, h2, hc, hr]
        have hset := h.set i hst'.1
        have ho := hst'.2
        cases hst'.2 with
        | cache hn => exact ⟨hset.snoc hn, ho⟩
        | _ => exact ⟨hset, ho⟩

theorem WRel.rwstepG {R : C1 → C2 → Prop}
    {st1 : C1 → Op K V → C1 × Out K V C1} {st2 : C2 → Op K V → C2 × Out K V C2}
    {wst1 : List C1 → WOp K V → List C1 × Out K V C1} {wst2 : List C2 → WOp K V → List C2 × Out K V C2}
    (hst : ∀ c s op, R c s → R (st1 c op).1 (st2 s op).1 ∧ OutRel R (st1 c op).2 (st2 s op).2)
    (hwst : ∀ w ws op, WRel R w ws → WRel R (wst1 w op).1 (wst2 ws op).1 ∧ OutRel R (wst1 w op).2 (wst2 ws op).2)
    {w : List C1} {ws : List C2} (h : WRel R w ws) (op : WOp K V) :
    WRel R (C02.rwstepG st1 wst1 w op).1 (C02.rwstepG st2 wst2 ws op).1 ∧
    OutRel R (C02.rwstepG st1 wst1 w op).2 (C02.rwstepG st2 wst2 ws op).2 := by
  cases op with
  | on i op => exact h.on hst i op
  | _ => exact hwst w ws _ h

theorem WRel.run {R : C1 → C2 → Prop}
    {st1 : List C1 → WOp K V → List C1 × Out K V C1} {st2 : List C2 → WOp K V → List C2 × Out K V C2}
    (hst : ∀ w ws op, WRel R w ws → WRel R (st1 w op).1 (st2 ws op).1 ∧ OutRel R (st1 w op).2 (st2 ws op).2)
    {w : List C1} {ws : List C2} (h : WRel R w ws) (ops : List (WOp K V)) :
    WRel R (wrunG st1 w ops) (wrunG st2 ws ops) ∧
    (woutsG st1 w ops).map Out.shape = (woutsG st2 ws ops).map Out.shape := by
  unfold wrunG
  induction ops generalizing w ws with
  | nil => exact ⟨h, rfl⟩
  | cons op ops ih =>
    have hs := hst w ws op h
    have := ih hs.1
    exact ⟨this.1, by simp only [woutsG, List.map_cons, hs.2.shape_eq, this.2]⟩

theorem forall_mem_set {α : Type} {Q : α → Prop} {w : List α} (h : ∀ x ∈ w, Q x) (i : Nat) {a : α} (ha : Q a) :
    ∀ x ∈ w.set i a, Q x :=
  fun x hx => (List.mem_or_eq_of_mem_set hx).elim (h x) (fun e => e ▸ ha)

theorem rwstepG_others {C : Type} (st : C → Op K V → C × Out K V C) (wst : List C → WOp K V → List C × Out K V C)
    (w : List C) (i : Nat) (op : Op K V) (j : Nat) (hj : j < w.length) (hne : j ≠ i) :
    (rwstepG st wst w (.on i op)).1[j]? = w[j]? := by
  simp only [rwstepG]
  split
  · rfl
  · rename_i c hc
    split
    · rename_i c' n hs
      simp only []
      rw [List.getElem?_append_left (by simpa using hj), List.getElem?_set_ne (Ne.symm hne)]
    · simp only []; rw [List.getElem?_set_ne (Ne.symm hne)]

theorem rwstepG_on_forall {C : Type} {Q : C → Prop} {st : C → Op K V → C × Out K V C}
    {wst : List C → WOp K V → List C × Out K V C}
    (hst : ∀ c op, Q c → Q (st c op).1 ∧ ∀ m, (st c op).2 = .cache m → Q m)
    {w : List C} (h : ∀ c ∈ w, Q c) (i : Nat) (op : Op K V) : ∀ c ∈ (C02.rwstepG st wst w (.on i op)).1, Q c := by
  -- `WRel.on` with both sides equal
  have hw : WRel (fun a b => a = b ∧ Q a) w w :=
    ⟨rfl, fun _ a _ ha hb => ⟨Option.some.inj (ha.symm.trans hb), h a (List.mem_of_getElem? ha)⟩⟩
  have hon := hw.on (st1 := st) (st2 := st) (wst1 := wst) (wst2 := wst) (fun c _ op ⟨e, q⟩ => by
    subst e
    exact ⟨⟨rfl, (hst c op q).1⟩, OutRel.refl_of _ fun m hm => ⟨rfl, (hst c op q).2 m hm⟩⟩) i op
  exact fun c hc => (hon.1.of_mem hc).elim fun _ x => x.2.2

end C02
