/-
C02 — source tie.  `Src.cacheutils.LRI.*` / `LRU.*` are generated by `harness/py2lean.py`
from the current text of the methods of `boltons.cacheutils.LRI` / `LRU` on every run: raising mode, the object
state is the record `LRI.St`, and the ring of four-slot list cells `[PREV, NEXT, KEY, VALUE]` that the class
shares between the ring and `_link_lookup` lives in an explicit OBJECT STORE (`PyHeap.Heap`: address -> list of
dynamically typed `Val`s; notes/SRCTIE.md "Object store").

This file proves that the generated machine is simulated by the pointer-level model of `LL.lean` (`LL`: four
memories indexed by address, `HCache`: the cache on top of it), which `HRefine.lean` proves to behave like the
ring model `Cache` the property theorems speak about:

    source text --py2lean--> Src.cacheutils.LRI.* --(this file)--> HCache / LL --(HRefine)--> Cache --(Props)--> property

`conc h` embeds a pointer-level model state into the source's state record: cell `a` of the store is
`[ref prev[a], ref next[a], key[a] | _MISSING, val[a] | _MISSING]` for every allocated address `a < fresh`,
`_link_lookup` maps keys to references, `_anchor` is a reference, the counters are `Int`s, `on_miss` returns an
`Except` value.  The proofs do not replay the statement order of the source: every store operation on a `conc`
state is rewritten into the model's memory update by a small set of specification lemmas (`get?_*`, `set?_*`,
`alloc_*`; side conditions "the address is allocated" are discharged from `RefsClosed` by `simp` itself), and the
remaining equality of two nested memory updates is left to `simp`.
-/
import BoltonsVerif.Generated.Src_cacheutils_lri
import BoltonsVerif.PyRtLemmas
import BoltonsVerif.C02.Props

set_option linter.unusedSectionVars false
namespace C02

open Src.cacheutils PyHeap

variable {K V : Type} [DecidableEq K] [Inhabited K] [Inhabited V]

def optKey : Option K → Val K V
  | some k => .key k
  | none => .sentinel

def optVal : Option V → Val K V
  | some v => .val v
  | none => .sentinel

/-- the Python list `[PREV, NEXT, KEY, VALUE]` at address `a` -/
def cellOf (l : LL K V) (a : Nat) : List (Val K V) :=
  [.ref (rd l.prev a), .ref (rd l.next a), optKey (rd l.key a), optVal (rd l.val a)]

/-- the object store: one four-slot cell per allocated address -/
def concHeap (l : LL K V) : Heap K V := ⟨(List.range l.fresh).map (cellOf l)⟩

/-- `self._link_lookup`: keys to references -/
def concTable (t : List (K × Nat)) : PyRt.Dict K (Val K V) := t.map fun p => (p.1, .ref p.2)

/-- what a call of `on_miss` does, as an `Except` value (`.error`: an exception of some other class) -/
def omConc (f : K → OmRes V) : K → Except PyExc V := fun k =>
  match f k with
  | .ret v => .ok v
  | .keyError => .error PyExc.KeyError
  | .error => .error PyExc.Other

/-- a pointer-level model state as the record of the Python attributes (the ghost field `omLog` and the class
    flag `lru` are not attributes) -/
def conc (h : HCache K V) : LRI.St K V :=
  { heap := concHeap h.ll, d := h.d, hit_count := h.hit, miss_count := h.miss, soft_miss_count := h.soft,
    max_size := h.max, link_lookup := concTable h.ll.table, anchor := .ref h.ll.anchor,
    on_miss := h.onMiss.map omConc }

omit [DecidableEq K] [Inhabited K] [Inhabited V] in
theorem concHeap_congr (l l' : LL K V) (h1 : l.prev = l'.prev) (h2 : l.next = l'.next) (h3 : l.key = l'.key)
    (h4 : l.val = l'.val) (h5 : l.fresh = l'.fresh) : concHeap l = concHeap l' := by
  unfold concHeap cellOf
  rw [h1, h2, h3, h4, h5]

/-- every reference stored anywhere points at an allocated cell -/
structure RefsClosed (l : LL K V) : Prop where
  anchor : l.anchor < l.fresh
  prev : ∀ a, a < l.fresh → rd l.prev a < l.fresh
  next : ∀ a, a < l.fresh → rd l.next a < l.fresh
  table : ∀ p ∈ l.table, p.2 < l.fresh

omit [DecidableEq K] [Inhabited K] [Inhabited V] in
theorem cell_concHeap (l : LL K V) {a : Nat} (ha : a < l.fresh) : (concHeap l).cell a = cellOf l a := by
  simp [Heap.cell, concHeap, ha]

omit [DecidableEq K] [Inhabited K] [Inhabited V] in
theorem next_concHeap (l : LL K V) : Heap.next (concHeap l) = .ref l.fresh := by
  simp [Heap.next, concHeap]

omit [DecidableEq K] [Inhabited K] [Inhabited V] in
theorem get?_prev (l : LL K V) {a : Nat} (ha : a < l.fresh) :
    Heap.get? (concHeap l) (.ref a) 0 = .ok (.ref (rd l.prev a)) := by
  simp [Heap.get?, cell_concHeap l ha, cellOf, PyRt.index?, PyRt.normIdx]

omit [DecidableEq K] [Inhabited K] [Inhabited V] in
theorem get?_next (l : LL K V) {a : Nat} (ha : a < l.fresh) :
    Heap.get? (concHeap l) (.ref a) 1 = .ok (.ref (rd l.next a)) := by
  simp [Heap.get?, cell_concHeap l ha, cellOf, PyRt.index?, PyRt.normIdx]

omit [DecidableEq K] [Inhabited K] [Inhabited V] in
theorem get?_key (l : LL K V) {a : Nat} (ha : a < l.fresh) :
    Heap.get? (concHeap l) (.ref a) 2 = .ok (optKey (rd l.key a)) := by
  simp [Heap.get?, cell_concHeap l ha, cellOf, PyRt.index?, PyRt.normIdx]

omit [DecidableEq K] [Inhabited K] [Inhabited V] in
theorem get?_val (l : LL K V) {a : Nat} (ha : a < l.fresh) :
    Heap.get? (concHeap l) (.ref a) 3 = .ok (optVal (rd l.val a)) := by
  simp [Heap.get?, cell_concHeap l ha, cellOf, PyRt.index?, PyRt.normIdx]

omit [DecidableEq K] [Inhabited K] [Inhabited V] in
theorem concHeap_ext (l l' : LL K V) (hf : l'.fresh = l.fresh) (c : List (List (Val K V)))
    (hlen : c.length = l.fresh) (hc : ∀ b, b < l.fresh → c.getD b [] = cellOf l' b) :
    (⟨c⟩ : Heap K V) = concHeap l' := by
  unfold concHeap
  congr 1
  apply List.ext_getElem
  · simp [hlen, hf]
  · intro i h1 h2
    have hi : i < l.fresh := by omega
    have := hc i hi
    simp only [List.getD_eq_getElem?_getD, List.getElem?_eq_getElem h1, Option.getD_some] at this
    simp [this]

omit [DecidableEq K] [Inhabited K] [Inhabited V] in
theorem set?_gen (l l' : LL K V) {a : Nat} (ha : a < l.fresh) (i : Nat) (hi : i < 4) (v : Val K V)
    (hf : l'.fresh = l.fresh) (hsame : ∀ b, b ≠ a → cellOf l' b = cellOf l b)
    (hat : cellOf l' a = (cellOf l a).set i v) :
    Heap.set? (concHeap l) (.ref a) (i : Int) v = .ok (concHeap l') := by
  have hlen : (cellOf l a).length = 4 := rfl
  simp only [Heap.set?, cell_concHeap l ha, PyRt.normIdx, hlen]
  have h1 : ¬ ((i : Int) < 0) := by omega
  simp only [h1, if_false]
  have h2 : (0 : Int) ≤ (i : Int) ∧ (i : Int) < ((4 : Nat) : Int) := by omega
  rw [if_pos h2]
  congr 1
  apply concHeap_ext l l' hf
  · simp [concHeap]
  · intro b hb
    simp only [concHeap, List.getD_eq_getElem?_getD, List.getElem?_set, List.length_map, List.length_range]
    by_cases e : a = b
    · subst e
      simp [hb, hat]
    · simp only [e, if_false]
      simp [hb, hsame b (Ne.symm e)]

omit [DecidableEq K] [Inhabited K] [Inhabited V] in
theorem set?_prev (l : LL K V) {a : Nat} (ha : a < l.fresh) (x : Nat) :
    Heap.set? (concHeap l) (.ref a) 0 (.ref x) = .ok (concHeap { l with prev := upd l.prev a x }) := by
  refine set?_gen l _ ha 0 (by omega) _ rfl ?_ ?_
  · intro b hb; simp [cellOf, rd_upd_ne _ _ hb]
  · simp [cellOf, rd_upd_self]

omit [DecidableEq K] [Inhabited K] [Inhabited V] in
theorem set?_next (l : LL K V) {a : Nat} (ha : a < l.fresh) (x : Nat) :
    Heap.set? (concHeap l) (.ref a) 1 (.ref x) = .ok (concHeap { l with next := upd l.next a x }) := by
  refine set?_gen l _ ha 1 (by omega) _ rfl ?_ ?_
  · intro b hb; simp [cellOf, rd_upd_ne _ _ hb]
  · simp [cellOf, rd_upd_self]

omit [DecidableEq K] [Inhabited K] [Inhabited V] in
theorem set?_key (l : LL K V) {a : Nat} (ha : a < l.fresh) (k : K) :
    Heap.set? (concHeap l) (.ref a) 2 (.key k) = .ok (concHeap { l with key := upd l.key a (some k) }) := by
  refine set?_gen l _ ha 2 (by omega) _ rfl ?_ ?_
  · intro b hb; simp [cellOf, rd_upd_ne _ _ hb]
  · simp [cellOf, rd_upd_self, optKey]

omit [DecidableEq K] [Inhabited K] [Inhabited V] in
theorem set?_val (l : LL K V) {a : Nat} (ha : a < l.fresh) (v : V) :
    Heap.set? (concHeap l) (.ref a) 3 (.val v) = .ok (concHeap { l with val := upd l.val a (some v) }) := by
  refine set?_gen l _ ha 3 (by omega) _ rfl ?_ ?_
  · intro b hb; simp [cellOf, rd_upd_ne _ _ hb]
  · simp [cellOf, rd_upd_self, optVal]

omit [DecidableEq K] [Inhabited K] [Inhabited V] in
theorem set?_key_missing (l : LL K V) {a : Nat} (ha : a < l.fresh) :
    Heap.set? (concHeap l) (.ref a) 2 .sentinel = .ok (concHeap { l with key := upd l.key a none }) := by
  refine set?_gen l _ ha 2 (by omega) _ rfl ?_ ?_
  · intro b hb; simp [cellOf, rd_upd_ne _ _ hb]
  · simp [cellOf, rd_upd_self, optKey]

omit [DecidableEq K] [Inhabited K] [Inhabited V] in
theorem set?_val_missing (l : LL K V) {a : Nat} (ha : a < l.fresh) :
    Heap.set? (concHeap l) (.ref a) 3 .sentinel = .ok (concHeap { l with val := upd l.val a none }) := by
  refine set?_gen l _ ha 3 (by omega) _ rfl ?_ ?_
  · intro b hb; simp [cellOf, rd_upd_ne _ _ hb]
  · simp [cellOf, rd_upd_self, optVal]

omit [DecidableEq K] [Inhabited K] [Inhabited V] in
/-- `[second_newest, anchor, key, value]`: the new cell is cell `fresh` -/
theorem alloc_cell (l : LL K V) (p n : Nat) (k : K) (v : V) :
    Heap.alloc (concHeap l) [.ref p, .ref n, .key k, .val v] =
      concHeap { l with prev := upd l.prev l.fresh p, next := upd l.next l.fresh n,
                        key := upd l.key l.fresh (some k), val := upd l.val l.fresh (some v),
                        fresh := l.fresh + 1 } := by
  unfold Heap.alloc
  apply concHeap_ext { l with fresh := l.fresh + 1 }
  · rfl
  · simp [concHeap]
  · intro b hb
    simp only [concHeap, List.getD_eq_getElem?_getD]
    by_cases e : b = l.fresh
    · subst e
      simp [cellOf, rd_upd_self, optKey, optVal]
    · have hb' : b < l.fresh := by simp only at hb; omega
      simp [List.getElem?_append_left, hb', cellOf, rd_upd_ne _ _ e]

omit [DecidableEq K] [Inhabited K] [Inhabited V] in
/-- `anchor = []; anchor[:] = [anchor, anchor, _MISSING, _MISSING]` -/
theorem alloc_anchor (l : LL K V) :
    Heap.assign? (Heap.alloc (concHeap l) []) (.ref l.fresh) [.ref l.fresh, .ref l.fresh, .sentinel, .sentinel]
      = .ok (concHeap { l.reinit with table := l.table }) := by
  unfold Heap.alloc Heap.assign?
  simp only
  congr 1
  apply concHeap_ext { l with fresh := l.fresh + 1 }
  · rfl
  · simp [concHeap]
  · intro b hb
    simp only [concHeap, List.getD_eq_getElem?_getD, List.getElem?_set]
    by_cases e : b = l.fresh
    · subst e
      simp [cellOf, LL.reinit, rd_upd_self, optKey, optVal]
    · have hb' : b < l.fresh := by simp only at hb; omega
      simp [Ne.symm e, List.getElem?_append_left, hb', cellOf, LL.reinit, rd_upd_ne _ _ e]

/-! `PyRt.Dict` operations are the model's association-list functions (the dict the object is; `_link_lookup` is such a list with
    the addresses re-coded as references) -/

omit [Inhabited K] [Inhabited V] in
theorem find_eq_lookup {A : Type} (d : List (K × A)) (k : K) : PyRt.Dict.find d k = lookup k d := by
  induction d with
  | nil => rfl
  | cons p d ih =>
    obtain ⟨a, b⟩ := p
    simp only [PyRt.Dict.find, lookup, ih]

omit [Inhabited K] [Inhabited V] in
theorem set_eq_dset {A : Type} (d : List (K × A)) (k : K) (v : A) : PyRt.Dict.set d k v = dset k v d := by
  induction d with
  | nil => rfl
  | cons p d ih =>
    obtain ⟨a, b⟩ := p
    simp only [PyRt.Dict.set, dset, ih]

omit [Inhabited K] [Inhabited V] in
theorem find_concTable (t : List (K × Nat)) (k : K) :
    PyRt.Dict.find (concTable t : PyRt.Dict K (Val K V)) k = (lookup k t).map Val.ref := by
  rw [← find_eq_lookup]; exact PyRt.Dict.find_mapVals Val.ref t k

omit [Inhabited K] [Inhabited V] in
theorem get?_concTable (t : List (K × Nat)) (k : K) :
    PyRt.Dict.get? (concTable t : PyRt.Dict K (Val K V)) k = match lookup k t with
      | some n => .ok (.ref n)
      | none => .error PyExc.KeyError := by
  unfold PyRt.Dict.get?
  rw [find_concTable]
  cases lookup k t <;> rfl

omit [Inhabited K] [Inhabited V] in
theorem set_concTable (t : List (K × Nat)) (k : K) (n : Nat) :
    PyRt.Dict.set (concTable t : PyRt.Dict K (Val K V)) k (.ref n) = concTable (dset k n t) := by
  rw [← set_eq_dset]; exact PyRt.Dict.set_mapVals Val.ref t k n

omit [Inhabited K] [Inhabited V] in
/-- on a list with pairwise different keys, removing every entry for `k` is removing the first -/
theorem filter_eq_eraseKey {A : Type} (k : K) (t : List (K × A)) (h : (keys t).Nodup) :
    t.filter (fun p => !decide (p.1 = k)) = eraseKey k t := by
  induction t with
  | nil => rfl
  | cons p t ih =>
    simp only [keys, List.map_cons, List.nodup_cons] at h
    simp only [List.filter_cons, eraseKey]
    by_cases e : p.1 = k
    · simp only [e, decide_true, Bool.not_true, Bool.false_eq_true, if_false, if_true]
      apply List.filter_eq_self.2
      intro q hq
      have : q.1 ≠ k := fun hqk => h.1 (by rw [e, ← hqk]; exact List.mem_map.2 ⟨q, hq, rfl⟩)
      simp [this]
    · simp only [e, decide_false, Bool.not_false, if_true, if_false]
      rw [ih h.2]

omit [Inhabited K] [Inhabited V] in
theorem del?_eq {A : Type} (d : List (K × A)) (k : K) (h : (keys d).Nodup) :
    PyRt.Dict.del? d k = if (lookup k d).isSome then .ok (eraseKey k d) else .error PyExc.KeyError := by
  unfold PyRt.Dict.del? PyRt.Dict.erase
  rw [PyRt.Dict.contains_eq, find_eq_lookup, filter_eq_eraseKey k d h]

omit [Inhabited K] [Inhabited V] in
theorem pop?_eq {A : Type} (d : List (K × A)) (k : K) (h : (keys d).Nodup) :
    PyRt.Dict.pop? d k = match lookup k d with
      | some v => .ok (v, eraseKey k d)
      | none => .error PyExc.KeyError := by
  unfold PyRt.Dict.pop? PyRt.Dict.erase
  rw [find_eq_lookup, filter_eq_eraseKey k d h]
  cases lookup k d <;> rfl

omit [DecidableEq K] [Inhabited K] [Inhabited V] in
theorem concTable_eq (t : List (K × Nat)) : (concTable t : PyRt.Dict K (Val K V)) = mapVal Val.ref t := rfl

omit [Inhabited K] [Inhabited V] in
theorem del?_concTable (t : List (K × Nat)) (k : K) (h : (keys t).Nodup) :
    PyRt.Dict.del? (concTable t : PyRt.Dict K (Val K V)) k =
      if (lookup k t).isSome then .ok (concTable (eraseKey k t)) else .error PyExc.KeyError := by
  rw [concTable_eq, del?_eq _ _ (by rwa [keys_mapVal]), lookup_mapVal, eraseKey_mapVal]
  cases lookup k t <;> rfl

omit [Inhabited K] [Inhabited V] in
theorem pop?_concTable (t : List (K × Nat)) (k : K) (h : (keys t).Nodup) :
    PyRt.Dict.pop? (concTable t : PyRt.Dict K (Val K V)) k = match lookup k t with
      | some n => .ok (.ref n, concTable (eraseKey k t))
      | none => .error PyExc.KeyError := by
  rw [concTable_eq, pop?_eq _ _ (by rwa [keys_mapVal]), lookup_mapVal, eraseKey_mapVal]
  cases lookup k t <;> rfl

omit [DecidableEq K] [Inhabited K] [Inhabited V] in
/-- stated as `… = True` so that `simp` closes the side condition "the address is allocated" while it rewrites -/
theorem rd_upd_lt {m : List Nat} {a b x f : Nat} (hx : x < f) (hb : rd m b < f) : (rd (upd m a x) b < f) = True := by
  rw [rd_upd]
  split <;> simp [hx, hb]

omit [Inhabited K] [Inhabited V] in
theorem mem_dset {A : Type} {k : K} {x : A} {p : K × A} {t : List (K × A)} (h : p ∈ dset k x t) : p ∈ t ∨ p.2 = x := by
  induction t with
  | nil => simp only [dset, List.mem_singleton] at h; right; rw [h]
  | cons q t ih =>
    simp only [dset] at h
    split at h
    · rcases List.mem_cons.1 h with rfl | h'
      · right; rfl
      · left; exact List.mem_cons_of_mem _ h'
    · rcases List.mem_cons.1 h with rfl | h'
      · left; simp
      · rcases ih h' with h'' | h''
        · left; exact List.mem_cons_of_mem _ h''
        · right; exact h''

omit [Inhabited K] [Inhabited V] in
theorem RefsClosed.of_lookup {l : LL K V} (hc : RefsClosed l) {k : K} {n : Nat} (h : lookup k l.table = some n) :
    n < l.fresh := hc.table (k, n) (lookup_mem h)

omit [DecidableEq K] [Inhabited K] [Inhabited V] in
theorem below_upd {m : List Nat} {f x : Nat} (hx : x < f) (b : Nat) (h : ∀ a, a < f → rd m a < f) :
    ∀ a, a < f → rd (upd m b x) a < f :=
  fun a ha => of_eq_true (rd_upd_lt hx (h a ha))

omit [DecidableEq K] [Inhabited K] [Inhabited V] in
theorem below_alloc {m : List Nat} {f x : Nat} (hx : x < f + 1) (h : ∀ a, a < f → rd m a < f) :
    ∀ a, a < f + 1 → rd (upd m f x) a < f + 1 := by
  intro a ha
  rw [rd_upd]
  split
  · exact hx
  · exact Nat.lt_succ_of_lt (h a (by omega))

omit [Inhabited K] [Inhabited V] in
theorem RefsClosed.moveToFront {l l' : LL K V} (hc : RefsClosed l) {k : K} {n : Nat} (h : l.moveToFront k = some (l', n)) :
    RefsClosed l' ∧ n < l'.fresh := by
  have ha := hc.anchor
  unfold LL.moveToFront at h
  cases hl : lookup k l.table with
  | none => simp [hl] at h
  | some m =>
    have hlt : m < l.fresh := hc.of_lookup hl
    simp only [hl, Option.some.injEq, Prod.mk.injEq] at h
    obtain ⟨rfl, rfl⟩ := h
    have n1 := below_upd (hc.next m hlt) (rd l.prev m) hc.next
    have p1 := below_upd (hc.prev m hlt) (rd (upd l.next (rd l.prev m) (rd l.next m)) m) hc.prev
    refine ⟨⟨ha, ?_, ?_, hc.table⟩, hlt⟩
    · apply below_upd (p1 _ ha)
      apply below_upd hlt
      exact p1
    · apply below_upd ha
      apply below_upd hlt
      exact n1

omit [Inhabited K] [Inhabited V] in
theorem RefsClosed.addFront {l : LL K V} (hc : RefsClosed l) (k : K) (v : V) : RefsClosed (l.addFront k v) := by
  have ha : l.anchor < l.fresh + 1 := Nat.lt_succ_of_lt hc.anchor
  have hs : rd l.prev l.anchor < l.fresh + 1 := Nat.lt_succ_of_lt (hc.prev _ hc.anchor)
  refine ⟨ha, ?_, ?_, fun p hp' => ?_⟩
  · apply below_upd (Nat.lt_succ_self _)
    exact below_alloc hs hc.prev
  · apply below_upd (Nat.lt_succ_self _)
    exact below_alloc ha hc.next
  · rcases mem_dset hp' with h1 | h1
    · exact Nat.lt_succ_of_lt (hc.table p h1)
    · exact h1 ▸ Nat.lt_succ_self _

omit [Inhabited K] [Inhabited V] in
theorem RefsClosed.evictLast {l : LL K V} (hc : RefsClosed l) (k : K) (v : V) : RefsClosed (l.evictLast k v).1 := by
  have ha := hc.anchor
  unfold LL.evictLast
  refine ⟨hc.next _ ha, hc.prev, hc.next, ?_⟩
  intro p hp'
  simp only at hp'
  rcases mem_dset hp' with h1 | h1
  · split at h1
    · exact hc.table p ((eraseKey_sublist _ _).subset h1)
    · exact hc.table p h1
  · simp only at h1 ⊢; omega

omit [Inhabited K] [Inhabited V] in
theorem RefsClosed.remove {l l' : LL K V} (hc : RefsClosed l) {k : K} (h : l.remove k = some l') : RefsClosed l' := by
  unfold LL.remove at h
  cases hl : lookup k l.table with
  | none => simp [hl] at h
  | some m =>
    have hlt : m < l.fresh := hc.of_lookup hl
    simp only [hl, Option.some.injEq] at h
    subst h
    exact ⟨hc.anchor, below_upd (hc.prev m hlt) _ hc.prev, below_upd (hc.next m hlt) _ hc.next,
      fun p hp' => hc.table p ((eraseKey_sublist _ _).subset hp')⟩

omit [DecidableEq K] [Inhabited K] [Inhabited V] in
theorem RefsClosed.reinit (l : LL K V) (hp : ∀ a, a < l.fresh → rd l.prev a < l.fresh)
    (hn : ∀ a, a < l.fresh → rd l.next a < l.fresh) : RefsClosed l.reinit := by
  exact ⟨Nat.lt_succ_self _, below_alloc (Nat.lt_succ_self _) hp, below_alloc (Nat.lt_succ_self _) hn, by simp [LL.reinit]⟩

/-- the simp set that turns store / dict operations on `conc` states into the model's memory updates -/
macro "heap_simp" " [" ts:Lean.Parser.Tactic.simpLemma,* "]" : tactic =>
  `(tactic| simp (config := { maxDischargeDepth := 8, failIfUnchanged := false }) only
      [conc, get?_prev, get?_next, get?_key, get?_val, set?_prev, set?_next, set?_key, set?_val, set?_key_missing,
       set?_val_missing, alloc_cell, next_concHeap, get?_concTable, set_concTable, rd_upd_lt, $ts,*] <;>
    try (first | rfl | (simp only [Prod.mk.injEq, LRI.St.mk.injEq, true_and, and_true]
                        (repeat' apply And.intro) <;> first | rfl | omega | (apply concHeap_congr <;> rfl))))

/-- `_get_link_and_move_to_front_of_ll(key)` is `LL.moveToFront` (KeyError when the key has no link) -/
theorem src_move_to_front_eq_model (h : HCache K V) (hc : RefsClosed h.ll) (k : K) :
    LRI.move_to_front (conc h) k = match h.ll.moveToFront k with
      | some (ll', n) => (.ok (.ref n), conc { h with ll := ll' })
      | none => (.error PyExc.KeyError, conc h) := by
  have ha := hc.anchor
  have hp := hc.prev
  have hn := hc.next
  unfold LRI.move_to_front LRI.move_to_front.body LL.moveToFront
  cases hl : lookup k h.ll.table with
  | none => heap_simp [hl]
  | some n =>
    have hlt : n < h.ll.fresh := hc.of_lookup hl
    heap_simp [hl, ha, hp, hn, hlt]

/-- `_set_key_and_add_to_front_of_ll(key, value)` is `LL.addFront` -/
theorem src_add_to_front_eq_model (h : HCache K V) (hc : RefsClosed h.ll) (k : K) (v : V) :
    LRI.add_to_front (conc h) k v = (.ok (), conc { h with ll := h.ll.addFront k v }) := by
  have ha := hc.anchor
  have hp := hc.prev
  have hn := hc.next
  have hf : h.ll.fresh < h.ll.fresh + 1 := Nat.lt_succ_self _
  have ha1 : h.ll.anchor < h.ll.fresh + 1 := Nat.lt_succ_of_lt ha
  have hp1 : rd h.ll.prev h.ll.anchor < h.ll.fresh + 1 := Nat.lt_succ_of_lt (hp _ ha)
  unfold LRI.add_to_front LRI.add_to_front.body LL.addFront
  heap_simp [ha, hp, hn, hf, ha1, hp1]

/-- `_set_key_and_evict_last_in_ll(key, value)` is `LL.evictLast`, whenever the link that becomes
    the anchor holds a key that `_link_lookup` knows (true in every reachable state: `Rep.evictLast`) -/
theorem src_evict_last_eq_model (h : HCache K V) (hc : RefsClosed h.ll) (hnd : (keys h.ll.table).Nodup) (k : K) (v : V)
    (e : K) (he : (h.ll.evictLast k v).2 = some e) (ht : (lookup e h.ll.table).isSome = true) :
    LRI.evict_last (conc h) k v = (.ok (.key e), conc { h with ll := (h.ll.evictLast k v).1 }) := by
  have ha := hc.anchor
  have hp := hc.prev
  have hn := hc.next
  have hna := hn _ ha
  simp only [LL.evictLast] at he
  unfold LRI.evict_last LRI.evict_last.body LL.evictLast
  heap_simp [ha, hp, hn, hna, he, optKey, Val.asKey?, del?_concTable _ _ hnd, ht, if_true]

/-- `_remove_from_ll(key)` is `LL.remove` (KeyError when the key has no link) -/
theorem src_remove_from_ll_eq_model (h : HCache K V) (hc : RefsClosed h.ll) (hnd : (keys h.ll.table).Nodup) (k : K) :
    LRI.remove_from_ll (conc h) k = match h.ll.remove k with
      | some ll' => (.ok (), conc { h with ll := ll' })
      | none => (.error PyExc.KeyError, conc h) := by
  have hp := hc.prev
  have hn := hc.next
  unfold LRI.remove_from_ll LRI.remove_from_ll.body LL.remove
  cases hl : lookup k h.ll.table with
  | none => heap_simp [hl, pop?_concTable _ _ hnd]
  | some n =>
    have hlt : n < h.ll.fresh := hc.of_lookup hl
    heap_simp [hl, hp, hn, hlt, pop?_concTable _ _ hnd]

/-- `_init_ll()` is `LL.reinit` (a new anchor cell that points at itself, an empty lookup table; the
    old cells stay in the store as garbage) -/
theorem src_init_ll_eq_model (h : HCache K V) :
    LRI.init_ll (conc h) = (.ok (), conc { h with ll := h.ll.reinit }) := by
  unfold LRI.init_ll LRI.init_ll.body
  heap_simp [alloc_anchor, LL.reinit, concTable, List.map_nil]

/-- the states the tie speaks about: every stored reference points at an allocated cell, and the state is
    one the pointer-level model can be in (`HSim`: the links form the ring of some ring-model state satisfying the
    model invariant).  Both hold initially and are preserved by every translated method (below). -/
structure SrcInv (h : HCache K V) : Prop where
  closed : RefsClosed h.ll
  sim : ∃ c : Cache K V, HSim h c

omit [Inhabited K] [Inhabited V] in
theorem SrcInv.table_nodup {h : HCache K V} (hi : SrcInv h) : (keys h.ll.table).Nodup := by
  obtain ⟨c, hs⟩ := hi.sim
  obtain ⟨cells, hrep, _⟩ := hs.rep
  exact hrep.tn

omit [Inhabited K] [Inhabited V] in
theorem SrcInv.d_nodup {h : HCache K V} (hi : SrcInv h) : (keys h.d).Nodup := by
  obtain ⟨c, hs⟩ := hi.sim
  rw [hs.d]; exact hs.inv.sync.nd

omit [DecidableEq K] [Inhabited K] [Inhabited V] in
theorem len_lt_cast (d : List (K × V)) (m : Nat) : (PyRt.Dict.len d < (m : Int)) = (d.length < m) := by
  simp [PyRt.Dict.len]

omit [Inhabited K] [Inhabited V] in
theorem RefsClosed.setitem {h : HCache K V} (hc : RefsClosed h.ll) (k : K) (v : V) : RefsClosed (h.setitem k v).ll := by
  unfold HCache.setitem
  cases hm : h.ll.moveToFront k with
  | some r =>
    obtain ⟨ll', n⟩ := r
    have := (hc.moveToFront hm).1
    exact ⟨this.anchor, this.prev, this.next, this.table⟩
  | none =>
    simp only
    split
    · exact hc.addFront k v
    · have := hc.evictLast k v
      split <;> rename_i heq <;> rw [heq] at this <;> exact this

omit [Inhabited K] [Inhabited V] in
theorem SrcInv.setitem {h : HCache K V} (hi : SrcInv h) (k : K) (v : V) : SrcInv (h.setitem k v) := by
  obtain ⟨c, hs⟩ := hi.sim
  exact ⟨hi.closed.setitem k v, c.setitem k v, hs.setitem k v⟩

/-- `__setitem__` is `HCache.setitem` and never raises -/
theorem src_setitem_eq_model (h : HCache K V) (hi : SrcInv h) (k : K) (v : V) :
    LRI.setitem (conc h) k v = (.ok (), conc (h.setitem k v)) := by
  have hc := hi.closed
  obtain ⟨c, hs⟩ := hi.sim
  unfold HCache.setitem
  cases hm : h.ll.moveToFront k with
  | some r =>
    obtain ⟨ll', n⟩ := r
    obtain ⟨hc', hn'⟩ := hc.moveToFront hm
    simp only [LRI.setitem, LRI.setitem.body, src_move_to_front_eq_model h hc, hm]
    heap_simp [hn', set_eq_dset]
  | none =>
    have hkr : lookup k c.ring = none := by
      cases hk : lookup k c.ring with
      | none => rfl
      | some v0 => obtain ⟨l', n, hm', _⟩ := RingRep.moveToFront hs.rep hk; rw [hm] at hm'; cases hm'
    simp only [LRI.setitem, LRI.setitem.body, src_move_to_front_eq_model h hc, hm]
    by_cases hlt : h.d.length < h.max
    · have hlt' : PyRt.Dict.len (conc h).d < (conc h).max_size := by simp [conc, PyRt.Dict.len, hlt]
      simp only [hlt', hlt, if_true, src_add_to_front_eq_model h hc]
      heap_simp [set_eq_dset]
    · have hlt' : ¬ PyRt.Dict.len (conc h).d < (conc h).max_size := by simp [conc, PyRt.Dict.len, hlt]
      have hfull : ¬ c.d.length < c.max := by rw [← hs.d, ← hs.max]; exact hlt
      cases hr : c.ring with
      | nil => exact absurd hr (evict_ring_nonempty hs.inv hfull)
      | cons e rest =>
        have hee : lookup e.1 c.ring = some e.2 := by rw [hr]; simp [lookup]
        obtain ⟨l', he, _⟩ := RingRep.evictLast (hr ▸ hs.rep) (hr ▸ hkr) v
        obtain ⟨n, ht, _⟩ := RingRep.link hs.rep hee
        have hd : (lookup e.1 h.d).isSome = true := by rw [hs.d, hs.inv.sync.agree, hee]; rfl
        have hev := src_evict_last_eq_model h hc hi.table_nodup k v e.1 (by rw [he]) (by rw [ht]; rfl)
        simp only [hlt', hlt, if_false, hev, he]
        heap_simp [Val.asKey?, del?_eq _ _ hi.d_nodup, hd, if_true, set_eq_dset]

/-- the model's `Out` as what a generated `__getitem__` / `get` / `setdefault` returns or raises -/
def outDyn : Out K V (HCache K V) → Except PyExc (Val K V)
  | .val v => .ok (.val v)
  | .keyError => .error PyExc.KeyError
  | .raised => .error PyExc.Other
  | _ => .error PyExc.OutOfFuel          -- results `__getitem__` / `get` / `setdefault` never have

omit [Inhabited K] [Inhabited V] in
theorem conc_missed (h : HCache K V) (lg : List K) (st : LRI.St K V) (hst : st = conc h) :
    { st with miss_count := st.miss_count + 1 } = conc { h with miss := h.miss + 1, omLog := h.omLog ++ lg } := by
  subst hst
  simp only [conc, LRI.St.mk.injEq, true_and, and_true]
  omega

omit [Inhabited K] [Inhabited V] in
theorem conc_soft (h : HCache K V) (st : LRI.St K V) (hst : st = conc h) :
    { st with soft_miss_count := st.soft_miss_count + 1 } = conc { h with soft := h.soft + 1 } := by
  subst hst
  simp only [conc, LRI.St.mk.injEq, true_and, and_true]
  omega

omit [Inhabited K] [Inhabited V] in
theorem SrcInv.missed {h : HCache K V} (hi : SrcInv h) (lg : List K) :
    SrcInv ({ h with miss := h.miss + 1, omLog := h.omLog ++ lg } : HCache K V) := by
  obtain ⟨c, hs⟩ := hi.sim
  exact ⟨hi.closed, _, hs.missed lg⟩

omit [Inhabited K] [Inhabited V] in
theorem SrcInv.val_of_lookup {h : HCache K V} (hi : SrcInv h) {k : K} {n : Nat} (hl : lookup k h.ll.table = some n) :
    ∃ v, rd h.ll.val n = some v := by
  obtain ⟨c, hs⟩ := hi.sim
  obtain ⟨cells, hrep, _⟩ := hs.rep
  obtain ⟨v, hm⟩ := hrep.cell_of_table hl
  exact ⟨v, (hrep.kv _ hm).2⟩

/-- the miss path shared by `LRI.__getitem__` and `LRU.__getitem__`: `self.miss_count += 1`, then `on_miss` -/
macro "miss_path" hi:ident k:ident om:ident : tactic =>
  `(tactic| (
    cases $om:ident with
    | none => simp only [conc, Option.map_none, Option.isNone_none, if_true, outDyn]; rfl
    | some f =>
      simp only [conc_missed _ [$k] _ rfl]
      have hi1 := SrcInv.missed $hi [$k]
      simp only [conc, Option.map_some, Option.isNone_some, Bool.false_eq_true, if_false, PyHeap.callOpt?, omConc]
      cases hf : f $k with
      | ret v =>
        have := src_setitem_eq_model _ hi1 $k v
        simp only [conc, Option.map_some] at this
        simp only [this, outDyn, conc, Option.map_some]
      | keyError => simp only [outDyn, Option.map_some]
      | error => simp only [outDyn, Option.map_some]))

/-- `LRI.__getitem__` is `HCache.getitem` of an `LRI` -/
theorem src_getitem_eq_model (h : HCache K V) (hi : SrcInv h) (hlru : h.lru = false) (k : K) :
    LRI.getitem (conc h) k = (outDyn (h.getitem k).2, conc (h.getitem k).1) := by
  have hc := hi.closed
  obtain ⟨lru, max, om, d, ll, hit, miss, soft, lg⟩ := h
  simp only at hlru hc
  subst hlru
  unfold HCache.getitem
  simp only [Bool.false_eq_true, if_false]
  cases hl : lookup k ll.table with
  | some n =>
    obtain ⟨v0, hv⟩ := hi.val_of_lookup hl
    have hlt := hc.of_lookup hl
    simp only at hv hlt
    simp only [LRI.getitem, LRI.getitem.body, Option.map_some, hv, outDyn]
    heap_simp [hl, hlt, hv, optVal]
  | none =>
    have hg : PyRt.Dict.get? (conc ⟨false, max, om, d, ll, hit, miss, soft, lg⟩).link_lookup k
        = .error PyExc.KeyError := by
      simp only [conc, get?_concTable, hl]
    simp only [LRI.getitem, LRI.getitem.body, hg, if_true, Option.map_none]
    miss_path hi k om

/-- `LRU.__getitem__` is `HCache.getitem` of an `LRU` (a hit moves the link to the front) -/
theorem src_lru_getitem_eq_model (h : HCache K V) (hi : SrcInv h) (hlru : h.lru = true) (k : K) :
    LRU.getitem (conc h) k = (outDyn (h.getitem k).2, conc (h.getitem k).1) := by
  have hc := hi.closed
  obtain ⟨lru, max, om, d, ll, hit, miss, soft, lg⟩ := h
  simp only at hlru hc
  subst hlru
  have hmv := src_move_to_front_eq_model ⟨true, max, om, d, ll, hit, miss, soft, lg⟩ hc k
  unfold HCache.getitem
  simp only [if_true] at hmv ⊢
  cases hm : ll.moveToFront k with
  | some r =>
    obtain ⟨ll', n⟩ := r
    obtain ⟨hc', hn'⟩ := hc.moveToFront hm
    have hl : lookup k ll.table = some n := by
      unfold LL.moveToFront at hm
      cases hl : lookup k ll.table with
      | none => simp [hl] at hm
      | some m => simp only [hl, Option.some.injEq, Prod.mk.injEq] at hm; rw [hm.2]
    obtain ⟨v0, hv⟩ := hi.val_of_lookup hl
    have hval : ll'.val = ll.val := by
      unfold LL.moveToFront at hm
      simp only [hl, Option.some.injEq, Prod.mk.injEq] at hm
      rw [← hm.1]
    simp only at hv
    rw [hm] at hmv
    simp only [LRU.getitem, LRU.getitem.body, hmv, hval, hv, outDyn]
    heap_simp [hn', hval, hv, optVal]
  | none =>
    rw [hm] at hmv
    simp only [LRU.getitem, LRU.getitem.body, hmv, if_true]
    miss_path hi k om

omit [Inhabited K] [Inhabited V] in
theorem RefsClosed.unlink {h : HCache K V} (hc : RefsClosed h.ll) (k : K) : RefsClosed (h.unlink k).ll := by
  unfold HCache.unlink
  cases hr : h.ll.remove k with
  | some l' => exact hc.remove hr
  | none => exact hc

omit [Inhabited K] [Inhabited V] in
theorem RefsClosed.llInv : LLInv (RefsClosed (K := K) (V := V)) where
  moveToFront := fun _ hc hm _ =>
    have h1 := (hc.moveToFront hm).1
    ⟨h1, h1.anchor, h1.prev, h1.next, h1.table⟩
  addFront := fun k v _ hc => hc.addFront k v
  evictLast := fun k v _ hc => hc.evictLast k v
  remove := fun _ hc hm => hc.remove hm
  reinit := fun _ hc => RefsClosed.reinit _ hc.prev hc.next

omit [Inhabited K] [Inhabited V] in
theorem SrcInv.step [DecidableEq V] {h : HCache K V} (hi : SrcInv h) (op : Op K V) : SrcInv (hstep h op).1 := by
  obtain ⟨c, hs⟩ := hi.sim
  exact ⟨RefsClosed.llInv.hstep hs hi.closed op, _, (hs.step op).1⟩

omit [Inhabited K] [Inhabited V] in
theorem SrcInv.initP (lru : Bool) (max : Nat) (om : Option (K → OmRes V)) (hmax : 1 ≤ max) :
    SrcInv (HCache.initP lru max om) := by
  have hnew : ∀ a, a < 0 + 1 → rd (upd ([] : List Nat) 0 0) a < 0 + 1 :=
    below_alloc Nat.zero_lt_one (fun a ha => absurd ha (Nat.not_lt_zero a))
  exact ⟨⟨Nat.zero_lt_one, hnew, hnew, by simp [HCache.initP, LL.new]⟩, _, HSim.initP lru max om hmax⟩

section lookups
variable [DecidableEq V]

/-- the common proof of the four `get` / `setdefault` ties: after the tie of `self[key]`, split on its result -/
macro "lookup_tie" hi:ident hg:ident k:ident dflt:ident op:term : tactic =>
  `(tactic| (
    have hstepInv := SrcInv.step $hi $op
    simp only [hstep] at hstepInv ⊢
    simp only [$hg:ident]
    generalize HCache.getitem _ $k = r at hstepInv ⊢
    obtain ⟨h', o⟩ := r
    cases o <;> simp only [outDyn] <;> try rfl
    all_goals (
      simp only [conc_soft h' _ rfl]
      first
        | rfl
        | (simp only at hstepInv
           simp only [src_setitem_eq_model _ hstepInv $k $dflt, if_true]))))

theorem src_get_eq_model (h : HCache K V) (hi : SrcInv h) (hlru : h.lru = false) (k : K) (dflt : V) :
    LRI.get (conc h) k dflt = (outDyn (hstep h (.get k dflt)).2, conc (hstep h (.get k dflt)).1) := by
  have hg := src_getitem_eq_model h hi hlru k
  unfold LRI.get LRI.get.body
  lookup_tie hi hg k dflt (.get k dflt)

/-- `LRU.get(key, default)` (the inherited method; its `self[key]` is `LRU.__getitem__`) -/
theorem src_lru_get_eq_model (h : HCache K V) (hi : SrcInv h) (hlru : h.lru = true) (k : K) (dflt : V) :
    LRU.get (conc h) k dflt = (outDyn (hstep h (.get k dflt)).2, conc (hstep h (.get k dflt)).1) := by
  have hg := src_lru_getitem_eq_model h hi hlru k
  unfold LRU.get LRU.get.body
  lookup_tie hi hg k dflt (.get k dflt)

theorem src_setdefault_eq_model (h : HCache K V) (hi : SrcInv h) (hlru : h.lru = false) (k : K) (dflt : V) :
    LRI.setdefault (conc h) k dflt =
      (outDyn (hstep h (.setdefault k dflt)).2, conc (hstep h (.setdefault k dflt)).1) := by
  have hg := src_getitem_eq_model h hi hlru k
  unfold LRI.setdefault LRI.setdefault.body
  -- `.get`, not `.setdefault`: the macro wants `SrcInv` of the state after the soft-miss bump, which is where `get` ends
  -- and where `setdefault` calls `__setitem__`
  lookup_tie hi hg k dflt (.get k dflt)

theorem src_lru_setdefault_eq_model (h : HCache K V) (hi : SrcInv h) (hlru : h.lru = true) (k : K) (dflt : V) :
    LRU.setdefault (conc h) k dflt =
      (outDyn (hstep h (.setdefault k dflt)).2, conc (hstep h (.setdefault k dflt)).1) := by
  have hg := src_lru_getitem_eq_model h hi hlru k
  unfold LRU.setdefault LRU.setdefault.body
  lookup_tie hi hg k dflt (.get k dflt)

end lookups

def outUnit : Out K V (HCache K V) → Except PyExc Unit
  | .none => .ok ()
  | .keyError => .error PyExc.KeyError
  | .raised => .error PyExc.Other
  | _ => .error PyExc.OutOfFuel

def outVal : Out K V (HCache K V) → Except PyExc V
  | .val v => .ok v
  | .keyError => .error PyExc.KeyError
  | .raised => .error PyExc.Other
  | _ => .error PyExc.OutOfFuel

def outItem : Out K V (HCache K V) → Except PyExc (K × V)
  | .item k v => .ok (k, v)
  | .keyError => .error PyExc.KeyError
  | .raised => .error PyExc.Other
  | _ => .error PyExc.OutOfFuel

omit [Inhabited K] [Inhabited V] in
theorem conc_d (h : HCache K V) (X : List (K × V)) (st : LRI.St K V) (hst : st = conc h) :
    { st with d := X } = conc { h with d := X } := by
  subst hst; rfl

omit [Inhabited K] [Inhabited V] in
theorem SrcInv.remove_some {h : HCache K V} (hi : SrcInv h) {k : K} {v : V} (hk : lookup k h.d = some v) :
    ∃ l', h.ll.remove k = some l' := by
  obtain ⟨c, hs⟩ := hi.sim
  have ht : (lookup k h.ll.table).isSome = true := by rw [hs.find_eq, ← hs.inv.sync.agree, ← hs.d, hk]; rfl
  obtain ⟨n, hn⟩ := Option.isSome_iff_exists.1 ht
  exact ⟨_, by rw [LL.remove, hn]⟩

/-- `_remove_from_ll(key)` after the dict part of a removal, in a reachable state -/
theorem src_unlink (h : HCache K V) (hi : SrcInv h) (k : K) (v : V) (hk : lookup k h.d = some v)
    (X : List (K × V)) :
    LRI.remove_from_ll (conc { h with d := X }) k = (.ok (), conc (({ h with d := X } : HCache K V).unlink k)) := by
  obtain ⟨l', hrm⟩ := hi.remove_some hk
  have := src_remove_from_ll_eq_model { h with d := X } hi.closed hi.table_nodup k
  simp only [hrm] at this
  rw [this]
  unfold HCache.unlink
  simp only [hrm]

section removals
variable [DecidableEq V]

theorem src_delitem_eq_model (h : HCache K V) (hi : SrcInv h) (k : K) :
    LRI.delitem (conc h) k = (outUnit (hstep h (.delitem k)).2, conc (hstep h (.delitem k)).1) := by
  have hd : (conc h).d = h.d := rfl
  unfold LRI.delitem LRI.delitem.body
  simp only [hstep, hd, del?_eq _ _ hi.d_nodup]
  cases hk : lookup k h.d with
  | none => simp only [Option.isSome_none, Bool.false_eq_true, if_false, outUnit]
  | some v =>
    simp only [Option.isSome_some, if_true, conc_d h _ _ rfl, src_unlink h hi k v hk, outUnit, HCache.remove]

/-- `dflt = none`: the argument is omitted -/
theorem src_pop_eq_model (h : HCache K V) (hi : SrcInv h) (k : K) (dflt : Option V) :
    LRI.pop (conc h) k dflt = (outVal (hstep h (.pop k dflt)).2, conc (hstep h (.pop k dflt)).1) := by
  have hd : (conc h).d = h.d := rfl
  unfold LRI.pop LRI.pop.body
  simp only [hstep, hd, pop?_eq _ _ hi.d_nodup]
  cases hk : lookup k h.d with
  | none =>
    cases dflt with
    | none => simp only [if_true, outVal]
    | some v => simp [outVal, PyRt.unwrap]
  | some v =>
    simp only [conc_d h _ _ rfl, src_unlink h hi k v hk, outVal, HCache.remove]

theorem src_popitem_eq_model (h : HCache K V) (hi : SrcInv h) :
    LRI.popitem (conc h) = (outItem (hstep h .popitem).2, conc (hstep h .popitem).1) := by
  have hd : (conc h).d = h.d := rfl
  unfold LRI.popitem LRI.popitem.body
  simp only [hstep, hd, PyRt.Dict.popitem?]
  cases hl : h.d.getLast? with
  | none => simp only [outItem]
  | some p =>
    have hk : lookup p.1 h.d = some p.2 := lookup_of_mem hi.d_nodup (List.mem_of_getLast? hl)
    simp only [conc_d h _ _ rfl, src_unlink h hi p.1 p.2 hk, outItem]

theorem src_clear_eq_model (h : HCache K V) :
    LRI.clear (conc h) = (outUnit (hstep h .clear).2, conc (hstep h .clear).1) := by
  unfold LRI.clear LRI.clear.body
  simp only [hstep, conc_d h _ _ rfl, src_init_ll_eq_model, outUnit]

end removals

/-! `update(E, **F)`: one `__setitem__` per pair; `E` a list of pairs or a dict -/

theorem update_pairs_loop1 (kc kb : LRI.update_pairs.St K V → Except PyExc Unit × LRI.St K V)
    (kexc : PyExc → LRI.update_pairs.St K V → Except PyExc Unit × LRI.St K V) :
    ∀ (l : List (K × V)) (h : HCache K V) (_ : SrcInv h) (s : LRI.update_pairs.St K V), s.self = conc h →
      ∃ s', s'.self = conc (h.setAll l) ∧ s'.F = s.F ∧ LRI.update_pairs.loop1 kc kb kexc l s = kc s' := by
  intro l
  induction l with
  | nil => intro h _ s hs; exact ⟨s, hs, rfl, rfl⟩
  | cons p l ih =>
    intro h hi s hs
    obtain ⟨a, b⟩ := p
    simp only [LRI.update_pairs.loop1, hs, src_setitem_eq_model h hi a b]
    obtain ⟨s', h1, h2, h3⟩ := ih (h.setitem a b) (hi.setitem a b) { s with self := conc (h.setitem a b), loc1 := a, loc2 := b } rfl
    exact ⟨s', h1, h2, h3⟩

/-- the three loops `for k in D.keys(): setitem(k, D[k])` share one proof -/
macro "key_loop" loop:ident : tactic =>
  `(tactic| (
    intro l
    induction l with
    | nil => intro h _ s hs _; exact ⟨s, hs, rfl, rfl, rfl⟩
    | cons p l ih =>
      intro h hi s hs hD
      obtain ⟨a, b⟩ := p
      have hab := hD (a, b) (by simp)
      simp only at hab
      simp only [keys, List.map_cons, $loop:ident, hs, PyRt.Dict.get?, find_eq_lookup, hab,
        src_setitem_eq_model h hi a b]
      obtain ⟨s', h1, h2, h3, h4⟩ := ih (h.setitem a b) (hi.setitem a b)
        { s with self := conc (h.setitem a b), loc1 := a } rfl (fun q hq => hD q (List.mem_cons_of_mem _ hq))
      exact ⟨s', h1, h2, h3, h4⟩))

theorem update_pairs_loop2 (kc kb : LRI.update_pairs.St K V → Except PyExc Unit × LRI.St K V)
    (kexc : PyExc → LRI.update_pairs.St K V → Except PyExc Unit × LRI.St K V) :
    ∀ (l : List (K × V)) (h : HCache K V) (_ : SrcInv h) (s : LRI.update_pairs.St K V), s.self = conc h →
      (∀ p ∈ l, lookup p.1 s.F = some p.2) →
      ∃ s', s'.self = conc (h.setAll l) ∧ s'.F = s.F ∧ s'.E = s.E ∧
        LRI.update_pairs.loop2 kc kb kexc (keys l) s = kc s' := by
  key_loop LRI.update_pairs.loop2

theorem update_dict_loop1 (kc kb : LRI.update_dict.St K V → Except PyExc Unit × LRI.St K V)
    (kexc : PyExc → LRI.update_dict.St K V → Except PyExc Unit × LRI.St K V) :
    ∀ (l : List (K × V)) (h : HCache K V) (_ : SrcInv h) (s : LRI.update_dict.St K V), s.self = conc h →
      (∀ p ∈ l, lookup p.1 s.E = some p.2) →
      ∃ s', s'.self = conc (h.setAll l) ∧ s'.F = s.F ∧ s'.E = s.E ∧
        LRI.update_dict.loop1 kc kb kexc (keys l) s = kc s' := by
  key_loop LRI.update_dict.loop1

theorem update_dict_loop2 (kc kb : LRI.update_dict.St K V → Except PyExc Unit × LRI.St K V)
    (kexc : PyExc → LRI.update_dict.St K V → Except PyExc Unit × LRI.St K V) :
    ∀ (l : List (K × V)) (h : HCache K V) (_ : SrcInv h) (s : LRI.update_dict.St K V), s.self = conc h →
      (∀ p ∈ l, lookup p.1 s.F = some p.2) →
      ∃ s', s'.self = conc (h.setAll l) ∧ s'.F = s.F ∧ s'.E = s.E ∧
        LRI.update_dict.loop2 kc kb kexc (keys l) s = kc s' := by
  key_loop LRI.update_dict.loop2

omit [Inhabited K] [Inhabited V] in
theorem SrcInv.setAll {h : HCache K V} (hi : SrcInv h) (l : List (K × V)) : SrcInv (h.setAll l) :=
  l.foldlRecOn (motive := SrcInv) _ hi fun _ hi p _ => hi.setitem p.1 p.2

/-- `update(pairs, **kw)`: never raises, `HCache.update (.pairs pairs) kw` (`kw` is a dict: its keys
    are pairwise different) -/
theorem src_update_pairs_eq_model (h : HCache K V) (hi : SrcInv h) (E : List (K × V)) (F : List (K × V))
    (hF : (keys F).Nodup) :
    LRI.update_pairs (conc h) E F = (.ok (), conc (h.update (.pairs E) F)) := by
  unfold LRI.update_pairs LRI.update_pairs.body HCache.update
  simp only [PyRt.Dict.keys]
  obtain ⟨s1, h1, h2, h3⟩ := update_pairs_loop1
    (fun s => LRI.update_pairs.loop2 (fun s => (.ok (), s.self)) (fun s => (.ok (), s.self))
      (fun e s => (.error e, s.self)) (List.map (fun x => x.fst) s.F) s)
    (fun s => LRI.update_pairs.loop2 (fun s => (.ok (), s.self)) (fun s => (.ok (), s.self))
      (fun e s => (.error e, s.self)) (List.map (fun x => x.fst) s.F) s)
    (fun e s => (.error e, s.self)) E h hi
    { self := conc h, E := E, F := F, loc1 := default, loc2 := default } rfl
  rw [h3]
  simp only at h2 ⊢
  rw [h2]
  obtain ⟨s2, g1, _, _, g4⟩ := update_pairs_loop2 (fun s => (.ok (), s.self)) (fun s => (.ok (), s.self))
    (fun e s => (.error e, s.self)) F (h.setAll E) (hi.setAll E) s1 h1
    (fun p hp => by rw [h2]; exact lookup_of_mem hF hp)
  simp only [keys] at g4
  rw [g4, g1]

/-- `update(a_dict, **kw)` -/
theorem src_update_dict_eq_model (h : HCache K V) (hi : SrcInv h) (E : List (K × V)) (F : List (K × V))
    (hE : (keys E).Nodup) (hF : (keys F).Nodup) :
    LRI.update_dict (conc h) E F = (.ok (), conc (h.update (.pairs E) F)) := by
  unfold LRI.update_dict LRI.update_dict.body HCache.update
  simp only [PyRt.Dict.keys]
  obtain ⟨s1, h1, h2, _, h3⟩ := update_dict_loop1
    (fun s => LRI.update_dict.loop2 (fun s => (.ok (), s.self)) (fun s => (.ok (), s.self))
      (fun e s => (.error e, s.self)) (List.map (fun x => x.fst) s.F) s)
    (fun s => LRI.update_dict.loop2 (fun s => (.ok (), s.self)) (fun s => (.ok (), s.self))
      (fun e s => (.error e, s.self)) (List.map (fun x => x.fst) s.F) s)
    (fun e s => (.error e, s.self)) E h hi
    { self := conc h, E := E, F := F, loc1 := default } rfl
    (fun p hp => lookup_of_mem hE hp)
  simp only [keys] at h3
  rw [h3]
  simp only at h2 ⊢
  rw [h2]
  obtain ⟨s2, g1, _, _, g4⟩ := update_dict_loop2 (fun s => (.ok (), s.self)) (fun s => (.ok (), s.self))
    (fun e s => (.error e, s.self)) F (h.setAll E) (hi.setAll E) s1 h1
    (fun p hp => by rw [h2]; exact lookup_of_mem hF hp)
  simp only [keys] at g4
  rw [g4, g1]

section histories
variable [DecidableEq V]

/-- what a generated method returned / raised, in the vocabulary of the model (`Out`, payload-free) -/
def ofUnit : Except PyExc Unit → Out K V Unit
  | .ok () => .none
  | .error PyExc.KeyError => .keyError
  | .error _ => .raised

def ofDyn : Except PyExc (Val K V) → Out K V Unit
  | .ok (.val v) => .val v
  | .ok _ => .raised                     -- a non-value (`_MISSING`, a reference …) handed to the caller: never happens
  | .error PyExc.KeyError => .keyError
  | .error _ => .raised

def ofVal : Except PyExc V → Out K V Unit
  | .ok v => .val v
  | .error PyExc.KeyError => .keyError
  | .error _ => .raised

def ofItem : Except PyExc (K × V) → Out K V Unit
  | .ok p => .item p.1 p.2
  | .error PyExc.KeyError => .keyError
  | .error _ => .raised

/-- the public calls that are translated from the source (the others — `copy`, `==`, `|=`, `in`, `len`, iteration,
    `update(self)` — are inherited from `dict` or not in the translated subset); keyword arguments are a dict -/
def Op.tied : Op K V → Prop
  | .setitem _ _ | .getitem _ | .delitem _ | .get _ _ | .setdefault _ _ | .pop _ _ | .popitem | .clear => True
  | .update (.pairs _) kw => (keys kw).Nodup
  | _ => False

/-- one public call on the GENERATED definitions (`lru`: the object is an `LRU`) -/
def srcStep (lru : Bool) (st : LRI.St K V) : Op K V → Out K V Unit × LRI.St K V
  | .setitem k v => let r := LRI.setitem st k v; (ofUnit r.1, r.2)
  | .getitem k => let r := (if lru then LRU.getitem st k else LRI.getitem st k); (ofDyn r.1, r.2)
  | .delitem k => let r := LRI.delitem st k; (ofUnit r.1, r.2)
  | .get k d => let r := (if lru then LRU.get st k d else LRI.get st k d); (ofDyn r.1, r.2)
  | .setdefault k d => let r := (if lru then LRU.setdefault st k d else LRI.setdefault st k d); (ofDyn r.1, r.2)
  | .pop k d => let r := LRI.pop st k d; (ofVal r.1, r.2)
  | .popitem => let r := LRI.popitem st; (ofItem r.1, r.2)
  | .clear => let r := LRI.clear st; (ofUnit r.1, r.2)
  | .update (.pairs l) kw => let r := LRI.update_pairs st l kw; (ofUnit r.1, r.2)
  | _ => (.raised, st)

omit [Inhabited K] [Inhabited V] [DecidableEq V] in
theorem getitem_shape (h : HCache K V) (k : K) : ofDyn (outDyn (h.getitem k).2) = (h.getitem k).2.shape := by
  unfold HCache.getitem
  generalize (if h.lru = true then h.ll.moveToFront k else (lookup k h.ll.table).map fun n => (h.ll, n)) = found
  cases found with
  | some r =>
    obtain ⟨ll', n⟩ := r
    simp only
    cases rd ll'.val n <;> rfl
  | none =>
    simp only
    cases h.onMiss with
    | none => rfl
    | some f => simp only; cases f k <;> rfl

omit [Inhabited K] [Inhabited V] in
theorem get_shape (h : HCache K V) (k : K) (d : V) :
    ofDyn (outDyn (hstep h (.get k d)).2) = (hstep h (.get k d)).2.shape := by
  have := getitem_shape h k
  simp only [hstep]
  generalize h.getitem k = r at this ⊢
  obtain ⟨h', o⟩ := r
  cases o <;> first | rfl | exact this

omit [Inhabited K] [Inhabited V] in
theorem setdefault_shape (h : HCache K V) (k : K) (d : V) :
    ofDyn (outDyn (hstep h (.setdefault k d)).2) = (hstep h (.setdefault k d)).2.shape := by
  have := getitem_shape h k
  simp only [hstep]
  generalize h.getitem k = r at this ⊢
  obtain ⟨h', o⟩ := r
  cases o <;> first | rfl | exact this

/-- in every reachable state, a translated public call on the generated definitions
    returns / raises what the pointer-level model's `hstep` does and leaves the image of the model's new state -/
theorem src_step_simulates (h : HCache K V) (hi : SrcInv h) (op : Op K V) (ht : Op.tied op) :
    srcStep h.lru (conc h) op = ((hstep h op).2.shape, conc (hstep h op).1) := by
  cases op with
  | setitem k v => simp only [srcStep, src_setitem_eq_model h hi k v, hstep]; rfl
  | getitem k =>
    cases hl : h.lru with
    | false => simp only [srcStep, Bool.false_eq_true, if_false, src_getitem_eq_model h hi hl k, getitem_shape, hstep]
    | true => simp only [srcStep, if_true, src_lru_getitem_eq_model h hi hl k, getitem_shape, hstep]
  | delitem k =>
    simp only [srcStep, src_delitem_eq_model h hi k]
    simp only [hstep]; split <;> rfl
  | get k d =>
    cases hl : h.lru with
    | false => simp only [srcStep, Bool.false_eq_true, if_false, src_get_eq_model h hi hl k d, get_shape]
    | true => simp only [srcStep, if_true, src_lru_get_eq_model h hi hl k d, get_shape]
  | setdefault k d =>
    cases hl : h.lru with
    | false => simp only [srcStep, Bool.false_eq_true, if_false, src_setdefault_eq_model h hi hl k d, setdefault_shape]
    | true => simp only [srcStep, if_true, src_lru_setdefault_eq_model h hi hl k d, setdefault_shape]
  | pop k d =>
    simp only [srcStep, src_pop_eq_model h hi k d]
    simp only [hstep]; repeat' split
    all_goals rfl
  | popitem =>
    simp only [srcStep, src_popitem_eq_model h hi]
    simp only [hstep]; split <;> rfl
  | clear => simp only [srcStep, src_clear_eq_model h]; rfl
  | update e kw =>
    cases e with
    | self => exact absurd ht (by simp [Op.tied])
    | pairs l => simp only [srcStep, src_update_pairs_eq_model h hi l kw ht, hstep]; rfl
  | _ => exact absurd ht (by simp [Op.tied])

/-- a history on the generated definitions: final state, and the results in order -/
def srcRun (lru : Bool) (st : LRI.St K V) (ops : List (Op K V)) : LRI.St K V :=
  ops.foldl (fun st op => (srcStep lru st op).2) st

def srcOuts (lru : Bool) (st : LRI.St K V) : List (Op K V) → List (Out K V Unit)
  | [] => []
  | op :: ops => (srcStep lru st op).1 :: srcOuts lru (srcStep lru st op).2 ops

/-- the same history on the pointer-level model -/
def hrun (h : HCache K V) (ops : List (Op K V)) : HCache K V := ops.foldl (fun h op => (hstep h op).1) h

def houts (h : HCache K V) : List (Op K V) → List (Out K V (HCache K V))
  | [] => []
  | op :: ops => (hstep h op).2 :: houts (hstep h op).1 ops

/-- the state `__init__(max_size, on_miss=…)` leaves: the attributes it assigns, then the TRANSLATED `_init_ll()`
    on an empty store (`__init__` itself — argument checks, `RLock()`, `update(values)` — is not translated) -/
def srcInit (max : Nat) (om : Option (K → OmRes V)) : LRI.St K V :=
  (LRI.init_ll { heap := Heap.empty, d := [], hit_count := 0, miss_count := 0, soft_miss_count := 0,
                 max_size := max, link_lookup := [], anchor := .none, on_miss := om.map omConc }).2

omit [DecidableEq V] in
theorem srcInit_eq (lru : Bool) (max : Nat) (om : Option (K → OmRes V)) :
    srcInit max om = conc (HCache.initP lru max om) := by
  rfl

omit [Inhabited K] [Inhabited V] in
theorem SrcInv.step_lru {h : HCache K V} (hi : SrcInv h) (op : Op K V) : (hstep h op).1.lru = h.lru := by
  obtain ⟨c, hs⟩ := hi.sim
  exact ((hs.step op).1.lru.trans (Cache.lru_of_config (step_config c op))).trans hs.lru.symm

/-- from the state `__init__` leaves, every history of translated public calls on the
    GENERATED definitions ends in the image of the pointer-level model's state after the same history, with the
    same results call by call; that state satisfies the simulation invariant. -/
theorem src_history_refines (lru : Bool) (max : Nat) (hmax : 1 ≤ max) (om : Option (K → OmRes V))
    (ops : List (Op K V)) (hops : ∀ op ∈ ops, Op.tied op) :
    srcRun lru (srcInit max om) ops = conc (hrun (HCache.initP lru max om) ops) ∧
    srcOuts lru (srcInit max om) ops = (houts (HCache.initP lru max om) ops).map Out.shape ∧
    SrcInv (hrun (HCache.initP lru max om) ops) := by
  rw [srcInit_eq lru]
  have hgen : ∀ (ops : List (Op K V)) (h : HCache K V), h.lru = lru → SrcInv h → (∀ op ∈ ops, Op.tied op) →
      srcRun lru (conc h) ops = conc (hrun h ops) ∧ srcOuts lru (conc h) ops = (houts h ops).map Out.shape ∧
      SrcInv (hrun h ops) := by
    intro ops
    induction ops with
    | nil => intro h _ hi _; exact ⟨rfl, rfl, hi⟩
    | cons op ops ih =>
      intro h hl hi ht
      have hstepEq := src_step_simulates h hi op (ht op (by simp))
      rw [hl] at hstepEq
      obtain ⟨i1, i2, i3⟩ := ih (hstep h op).1 ((hi.step_lru op).trans hl) (hi.step op)
        (fun o ho => ht o (List.mem_cons_of_mem _ ho))
      refine ⟨?_, ?_, ?_⟩
      · simp only [srcRun, hrun, List.foldl_cons, hstepEq] at i1 ⊢; exact i1
      · simp only [srcOuts, houts, List.map_cons, hstepEq, i2]
      · simp only [hrun, List.foldl_cons] at i3 ⊢; exact i3
  exact hgen ops _ rfl (SrcInv.initP lru max om hmax) hops

/-- a history of translated calls on one cache is a history of the world model on cache number 0 (no call of it
    creates another cache) -/
theorem hwrun_single (h : HCache K V) (hi : SrcInv h) (ops : List (Op K V)) (hops : ∀ op ∈ ops, Op.tied op) :
    hwrun [h] (ops.map (.on 0)) = [hrun h ops] := by
  induction ops generalizing h with
  | nil => rfl
  | cons op ops ih =>
    -- only copy() returns a cache (`step_cache_out`, through the simulation), and copy() is not translated
    have hne : ∀ x, (hstep h op).2 ≠ .cache x := by
      intro x hx
      obtain ⟨c, hs⟩ := hi.sim
      have ho := (hs.step op).2
      rw [hx] at ho
      generalize hy : (step c op).2 = y at ho
      cases ho
      have hcopy := (step_cache_out hy).1
      subst hcopy
      exact hops .copy (by simp)
    have hw : (hwstep [h] (.on 0 op)).1 = [(hstep h op).1] := by
      simp only [hwstep, List.getElem?_cons_zero]
      generalize hstep h op = r at hne ⊢
      obtain ⟨c', o⟩ := r
      cases o <;> first | rfl | exact absurd rfl (hne _)
    simp only [hwrun, hrun, List.map_cons, List.foldl_cons, hw] at ih ⊢
    exact ih _ (hi.step op) (fun o ho => hops o (List.mem_cons_of_mem _ ho))

theorem src_reaches (lru : Bool) (max : Nat) (hmax : 1 ≤ max) (om : Option (K → OmRes V))
    (ops : List (Op K V)) (hops : ∀ op ∈ ops, Op.tied op) :
    hrun (HCache.initP lru max om) ops ∈ hreach lru max om (ops.map (.on 0)) := by
  unfold hreach
  rw [hwrun_single _ (SrcInv.initP lru max om hmax) ops hops]
  simp

/-- after any history of translated public calls on a fresh cache, the dict the
    SOURCE maintains never holds more than `max_size` items (`len(self) <= self.max_size`) -/
theorem src_size_le_max (lru : Bool) (max : Nat) (hmax : 1 ≤ max) (om : Option (K → OmRes V))
    (ops : List (Op K V)) (hops : ∀ op ∈ ops, Op.tied op) :
    PyRt.Dict.len (srcRun lru (srcInit max om) ops).d ≤ (srcRun lru (srcInit max om) ops).max_size ∧
    (srcRun lru (srcInit max om) ops).max_size = max := by
  obtain ⟨hrunEq, _, _⟩ := src_history_refines lru max hmax om ops hops
  have hmem := src_reaches lru max hmax om ops hops
  obtain ⟨c, hc, hs⟩ := linked_list_cache_of_mem lru max hmax om _ _ hmem
  have hle := (linked_list_contents_eq_ref lru max hmax om (ops.map (.on 0))).2.2 _ hmem
  have hcfg := (config_constant lru max om _ c hc).2.1
  rw [hrunEq]
  simp only [conc, PyRt.Dict.len, hs.max, hcfg]
  exact ⟨by omega, trivial⟩

/-- the counters the SOURCE maintains are those of the model (`hit_count`,
    `miss_count`, `soft_miss_count` count the lookups of the history: `counters_count_lookups`), and
    `soft_miss_count <= miss_count` -/
theorem src_counters (lru : Bool) (max : Nat) (hmax : 1 ≤ max) (om : Option (K → OmRes V))
    (ops : List (Op K V)) (hops : ∀ op ∈ ops, Op.tied op) :
    ∃ c ∈ reach lru max om (ops.map (.on 0)),
      (srcRun lru (srcInit max om) ops).hit_count = c.hit ∧ (srcRun lru (srcInit max om) ops).miss_count = c.miss ∧
      (srcRun lru (srcInit max om) ops).soft_miss_count = c.soft ∧
      (srcRun lru (srcInit max om) ops).soft_miss_count ≤ (srcRun lru (srcInit max om) ops).miss_count := by
  obtain ⟨hrunEq, _, _⟩ := src_history_refines lru max hmax om ops hops
  obtain ⟨c, hc, hs⟩ := linked_list_cache_of_mem lru max hmax om _ _ (src_reaches lru max hmax om ops hops)
  have hsm := soft_le_miss lru max hmax om _ c hc
  refine ⟨c, hc, ?_⟩
  rw [hrunEq]
  simp only [conc, hs.hit, hs.miss, hs.soft]
  exact ⟨trivial, trivial, trivial, by omega⟩

/-- the object store the SOURCE maintains is the image of a well-formed circular
    doubly linked list (`Rep`) whose links, walked from `_anchor` along NEXT, are the ring of the model cache — the
    dict's items in RECENCY order: a permutation of the reference cache's entries sorted by the stamp of their latest
    insertion / assignment / (LRU) lookup; `_link_lookup` maps every key to its link -/
theorem src_ring_is_recency_order (lru : Bool) (max : Nat) (hmax : 1 ≤ max) (om : Option (K → OmRes V))
    (ops : List (Op K V)) (hops : ∀ op ∈ ops, Op.tied op) :
    ∃ (ll : LL K V) (cells : Cells K V) (c : Cache K V) (s : Ref K V),
      (srcRun lru (srcInit max om) ops).heap = concHeap ll ∧
      (srcRun lru (srcInit max om) ops).anchor = .ref ll.anchor ∧
      (srcRun lru (srcInit max om) ops).link_lookup = concTable ll.table ∧
      Rep ll cells ∧ ringOf cells = c.ring ∧ ll.flatten = c.ring.map (fun p => (some p.1, some p.2)) ∧
      (srcRun lru (srcInit max om) ops).d = s.ents ∧ c.ring.Perm s.ents ∧
      c.ring.Pairwise (fun a b => s.stamp a.1 < s.stamp b.1) := by
  obtain ⟨hrunEq, _, _⟩ := src_history_refines lru max hmax om ops hops
  obtain ⟨c, hc, cells, hrep, hring, hd, hflat⟩ :=
    linked_list_wellformed lru max hmax om _ _ (src_reaches lru max hmax om ops hops)
  obtain ⟨s, _, hsd, hperm, hsorted⟩ := ring_is_recency_order lru max hmax om _ c hc
  refine ⟨_, cells, c, s, ?_, ?_, ?_, hrep, hring, hflat, ?_, hperm, hsorted⟩ <;> rw [hrunEq]
  · rfl
  · rfl
  · rfl
  · show (hrun (HCache.initP lru max om) ops).d = s.ents
    rw [hd, hsd]

end histories

/-! ### non-vacuity: concrete histories, evaluated on the GENERATED definitions -/

/-- `LRI(max_size=2)`: `c[1] = 10; c[2] = 20; c[3] = 30` evicts key 1; `c[2]` hits, `c[1]` raises KeyError -/
example :
    let st := srcRun false (srcInit 2 (none : Option (Nat → OmRes Nat)))
      [.setitem 1 10, .setitem 2 20, .setitem 3 30, .getitem 2, .getitem 1]
    (st.d, st.hit_count, st.miss_count) = ([(2, 20), (3, 30)], 1, 1) := by decide

/-- the same history on an `LRU(max_size=2)` after a lookup of key 1: key 2 is evicted instead -/
example :
    let st := srcRun true (srcInit 2 (none : Option (Nat → OmRes Nat)))
      [.setitem 1 10, .setitem 2 20, .getitem 1, .setitem 3 30]
    st.d = [(1, 10), (3, 30)] := by decide

example : ∀ op ∈ ([.setitem 1 10, .getitem 2, .pop 1 none, .update (.pairs [(1, 2)]) [(3, 4)], .popitem, .clear] :
    List (Op Nat Nat)), Op.tied op := by
  intro op hop
  simp only [List.mem_cons, List.mem_nil_iff, or_false] at hop
  rcases hop with rfl | rfl | rfl | rfl | rfl | rfl <;> simp [Op.tied, keys]

end C02
