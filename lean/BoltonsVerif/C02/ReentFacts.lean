import BoltonsVerif.C02.SameCore
/-
C02 — facts about ONE machine under a re-entrant on_miss: an invariant kept by the primitive steps (`MInv`,
Simulation.lean) is carried through the interpreter (`MInv.rstep / rget / runProg / rrun`, from the binary lemma
with both sides equal), the equations for `__getitem__` on an absent key, what a call can only add to
(`Mono`), when the nesting depth does not matter, and the collapse to the plain model when the programs make no calls.
-/
set_option linter.unusedSectionVars false
namespace C02
variable {K V C : Type} [DecidableEq K]

variable {M : Mach K V C} {Q : Nat → C → Prop} {QC : C → Prop}

theorem MInv.rstep (h : MInv M Q QC) (P : List K → K → OmProg K V) (fuel : Nat) {n : Nat} {c : C} (q : Q n c) (op : Op K V) :
    Q n (M.rstep P fuel c op).1 ∧ ∀ m, (M.rstep P fuel c op).2 = .cache m → QC m := by
  have := h.toMSim.rstep P fuel (n := n) (c := c) (s := c) ⟨rfl, q⟩ op
  exact ⟨this.1.2, fun m hm => this.2.of_diag hm⟩

theorem MInv.rget (h : MInv M Q QC) (P : List K → K → OmProg K V) (fuel : Nat) {n : Nat} {c : C} (q : Q n c) (k : K) :
    Q n (M.rget P fuel c k).1 ∧ ((M.rget P fuel c k).2 = .keyError → Q (n + 1) (M.rget P fuel c k).1) := by
  have := h.toMSim.rget P fuel n c c k ⟨rfl, q⟩
  exact ⟨this.1.2, fun e => (this.2.2 e).2⟩

theorem MInv.runProg (h : MInv M Q QC) (P : List K → K → OmProg K V) (fuel : Nat) (p : OmProg K V) {n : Nat} {c : C}
    (q : Q n c) : Q n (runProg (M.rstep P fuel) c p).1 :=
  (h.toMSim.runProg (h.toMSim.rget P fuel) p (n := n) (c := c) (s := c) ⟨rfl, q⟩).1.2

theorem MInv.rrun (h : MInv M Q QC) (P : List K → K → OmProg K V) (fuel : Nat) {n : Nat} {c : C} (q : Q n c)
    (ops : List (Op K V)) : Q n (M.rrun P fuel c ops) :=
  ops.foldlRecOn (motive := Q n) _ q fun _ hq op _ => (h.rstep P fuel hq op).1

variable [DecidableEq V]

theorem rwstep_config (P : List K → K → OmProg K V) (fuel : Nat) {w : List (Cache K V)} {cfg : Bool × Nat × Option (K → OmRes V)}
    (h : ∀ c ∈ w, c.config = cfg) (op : WOp K V) : ∀ c ∈ (rwstep P fuel w op).1, c.config = cfg := by
  cases op with
  | on i op => exact rwstepG_on_forall (fun c op hc => (Cache.machConfig cfg).rstep P fuel (n := 0) hc op) h i op
  | eqc i j => exact wstep_config h (.eqc i j)
  | nec i j => exact wstep_config h (.nec i j)
  | updc i j kw => exact wstep_config h (.updc i j kw)

theorem rwrun_config (P : List K → K → OmProg K V) (fuel : Nat) {w : List (Cache K V)} {cfg : Bool × Nat × Option (K → OmRes V)}
    (h : ∀ c ∈ w, c.config = cfg) (ops : List (WOp K V)) : ∀ c ∈ wrunG (rwstep P fuel) w ops, c.config = cfg :=
  ops.foldlRecOn (motive := fun w : List (Cache K V) => ∀ c ∈ w, c.config = cfg) _ h fun _ hw op _ => rwstep_config P fuel hw op

theorem Cache.rget_found (P : List K → K → OmProg K V) (fuel : Nat) {c : Cache K V} {k : K} {v : V}
    (hk : lookup k c.ring = some v) : Cache.mach.rget P fuel c k = c.getitem k :=
  Cache.mach.rget_hit P fuel (show (lookup k c.ring).isSome = true by rw [hk]; rfl)

theorem Cache.rget_absent (P : List K → K → OmProg K V) (n : Nat) {c body : Cache K V} {k : K} {r : OmRes V}
    (hk : lookup k c.ring = none)
    (hb : runProg (Cache.mach.rstep P n) (Cache.mach.missed c k) (P c.omLog k) = (body, r)) :
    Cache.mach.rget P (n + 1) c k = Cache.mach.finish k (body, r) := by
  have hf : (Cache.mach (V := V)).find c k = false := by show (lookup k c.ring).isSome = false; rw [hk]; rfl
  rw [Mach.rget_miss _ P n hf]
  exact congrArg _ hb

theorem Cache.rget_absent_zero (P : List K → K → OmProg K V) {c : Cache K V} {k : K} (hk : lookup k c.ring = none) :
    Cache.mach.rget P 0 c k = ({ c with miss := c.miss + 1, omLog := c.omLog ++ [k] }, .raised) :=
  Cache.mach.rget_zero P (show (lookup k c.ring).isSome = false by rw [hk]; rfl)

/-- `c` comes after `b`: its on_miss log extends `b`'s, no counter went down -/
structure Mono (b c : Cache K V) : Prop where
  log : ∃ l, c.omLog = b.omLog ++ l
  miss : b.miss ≤ c.miss
  hit : b.hit ≤ c.hit
  soft : b.soft ≤ c.soft

theorem Mono.refl (b : Cache K V) : Mono b b := ⟨⟨[], by simp⟩, Nat.le_refl _, Nat.le_refl _, Nat.le_refl _⟩

theorem Cache.machMono (b : Cache K V) :
    MInv (Cache.mach (K := K) (V := V)) (fun _ c => Mono b c) (fun _ => True) where
  weaken := fun h => h
  hit := fun {n c} k h hf => by
    obtain ⟨v, hk, ho⟩ := Cache.getitem_found hf
    refine ⟨?_, v, ho⟩
    show Mono b (c.getitem k).1
    rw [Cache.getitem_hit hk]
    exact ⟨h.log, h.miss, Nat.le_succ_of_le h.hit, h.soft⟩
  missed := fun {n c} k h => by
    obtain ⟨l, hl⟩ := h.log
    exact ⟨⟨l ++ [k], by show c.omLog ++ [k] = _; rw [hl, List.append_assoc]⟩, Nat.le_succ_of_le h.miss, h.hit, h.soft⟩
  setitem := fun {n c} k v h => by
    show Mono b (c.setitem k v)
    exact ⟨by simpa using h.log, by simpa using h.miss, by simpa using h.hit, by simpa using h.soft⟩
  soft := fun {n c} h => ⟨h.log, h.miss, h.hit, Nat.le_succ_of_le h.soft⟩
  step := fun {n c} op h hop => by
    have hc := step_nonlookup_counters c op (Op.lookupKey_eq_none_iff.2 hop)
    refine ⟨?_, fun _ _ => trivial⟩
    show Mono b (C02.step c op).1
    exact ⟨hc.log ▸ h.log, hc.miss ▸ h.miss, hc.hit ▸ h.hit, hc.soft ▸ h.soft⟩

theorem Cache.rstep_lookup_eq_rget (P : List K → K → OmProg K V) (fuel : Nat) (c : Cache K V) {op : Op K V} {k : K}
    (hop : op.lookupKey = some k) :
    (Cache.mach.rstep P fuel c op).1.omLog = (Cache.mach.rget P fuel c k).1.omLog ∧
    (Cache.mach.rstep P fuel c op).1.miss = (Cache.mach.rget P fuel c k).1.miss ∧
    (Cache.mach.rstep P fuel c op).1.hit = (Cache.mach.rget P fuel c k).1.hit := by
  cases op with
  | getitem k' => simp [Op.lookupKey] at hop; subst hop; exact ⟨rfl, rfl, rfl⟩
  | get k' d =>
    simp [Op.lookupKey] at hop; subst hop
    simp only [Mach.rstep, Mach.stepWith]
    cases Cache.mach.rget P fuel c k' with
    | mk c' o => cases o <;> exact ⟨rfl, rfl, rfl⟩
  | setdefault k' d =>
    simp [Op.lookupKey] at hop; subst hop
    simp only [Mach.rstep, Mach.stepWith]
    cases Cache.mach.rget P fuel c k' with
    | mk c' o =>
      cases o <;> first | exact ⟨rfl, rfl, rfl⟩ | (refine ⟨?_, ?_, ?_⟩ <;> simp [Cache.mach])
  | _ => simp [Op.lookupKey] at hop

/-- on_miss is entered with `k` first; whatever it does then only extends the log and raises the counters
    (`Cache.machMono`, started from the state after `missed`) -/
theorem Cache.rget_absent_mono (P : List K → K → OmProg K V) (fuel : Nat) {c : Cache K V} {k : K}
    (hk : lookup k c.ring = none) : Mono (Cache.mach.missed c k) (Cache.mach.rget P fuel c k).1 := by
  cases fuel with
  | zero => rw [Cache.rget_absent_zero P hk]; exact Mono.refl _
  | succ n =>
    have hb := (Cache.machMono (Cache.mach.missed c k)).runProg P n (P c.omLog k) (n := 0) (Mono.refl _)
    cases hr : runProg (Cache.mach.rstep P n) (Cache.mach.missed c k) (P c.omLog k) with
    | mk body e =>
      rw [hr] at hb
      rw [Cache.rget_absent P n hk hr]
      cases e with
      | ret v => exact (Cache.machMono _).setitem (n := 0) k v hb
      | keyError => exact hb
      | error => exact hb

/-! copy() behaves like its source for ever under a re-entrant on_miss that keeps no state of its own -/

/-- a callback that ignores its own history runs the same on both machines -/
theorem Cache.rget_noLog (P0 : K → OmProg K V) (n : Nat) :
    (Cache.mach (K := K) (V := V)).rget (fun _ => P0) n = Cache.machNoLog.rget (fun _ => P0) n := by
  induction n with
  | zero => rfl
  | succ m ih =>
    funext c k
    simp only [Mach.rget]
    rw [ih]
    rfl

theorem Cache.rstep_noLog (P0 : K → OmProg K V) (n : Nat) :
    (Cache.mach (K := K) (V := V)).rstep (fun _ => P0) n = Cache.machNoLog.rstep (fun _ => P0) n := by
  unfold Mach.rstep
  rw [Cache.rget_noLog]
  rfl

theorem SameCore.rrun {a b : Cache K V} (h : SameCore a b) (P0 : K → OmProg K V) (fuel : Nat) (ops : List (Op K V)) :
    SameCore (Cache.mach.rrun (fun _ => P0) fuel a ops) (Cache.mach.rrun (fun _ => P0) fuel b ops) :=
  List.foldl_rel (r := SameCore) h
    fun op _ _ _ h => by rw [Cache.rstep_noLog]; exact (SameCore.mach.rstep (fun _ => P0) fuel (n := 0) h op).1

/-! the depth beyond what a run needs is irrelevant: if a lookup, run at depth `n`, never reaches the depth guard,
    every greater depth gives exactly the same run -/

def Op.getKey : Op K V → Option K
  | .getitem k => some k
  | .get k _ => some k
  | .setdefault k _ => some k
  | _ => none

/-- every lookup made by the callback run `p` from state `c` satisfies `sg` -/
def safeProg {C : Type} (sg : C → K → Prop) (st : C → Op K V → C × Out K V C) : C → OmProg K V → Prop
  | _, .done _ => True
  | c, .call op next =>
    (match op.getKey with
     | some k => sg c k
     | none => True) ∧ safeProg sg st (st c op).1 (next (st c op).2.shape)

/-- `__getitem__(k)` run at depth `n` from state `c` does not reach the depth guard -/
def Mach.safeGet {C : Type} (M : Mach K V C) (P : List K → K → OmProg K V) : Nat → C → K → Prop
  | 0 => fun c k => M.find c k = true
  | n + 1 => fun c k =>
    M.find c k = true ∨
    safeProg (M.safeGet P n) (M.stepWith (M.rget P n)) (M.missed c k) (P (M.log c) k)

/-- `Op.getKey` is `Op.lookupKey` (Proofs.lean) under a second name; only `safeProg` is written with it -/
theorem Op.getKey_eq (op : Op K V) : op.getKey = op.lookupKey := by cases op <;> rfl

theorem Mach.stepWith_congr {C : Type} (M : Mach K V C) (g g' : C → K → C × Out K V C) (c : C) (op : Op K V)
    (h : ∀ k, op.lookupKey = some k → g c k = g' c k) : M.stepWith g c op = M.stepWith g' c op := by
  cases op with
  | getitem k => exact h k rfl
  | get k d => simp only [Mach.stepWith, h k rfl]
  | setdefault k d => simp only [Mach.stepWith, h k rfl]
  | _ => rfl

theorem Mach.stepWith_nonlookup {C : Type} (M : Mach K V C) (g g' : C → K → C × Out K V C) (c : C) {op : Op K V}
    (hop : op.isLookup = false) : M.stepWith g c op = M.stepWith g' c op :=
  M.stepWith_congr g g' c op (fun k hk => by rw [Op.lookupKey_eq_none_iff.2 hop] at hk; cases hk)

theorem safeProg_congr {C : Type} (M : Mach K V C) {sg sg' : C → K → Prop} {g g' : C → K → C × Out K V C}
    (hg : ∀ c k, sg c k → g' c k = g c k ∧ sg' c k) (p : OmProg K V) (c : C)
    (h : safeProg sg (M.stepWith g) c p) :
    runProg (M.stepWith g') c p = runProg (M.stepWith g) c p ∧ safeProg sg' (M.stepWith g') c p := by
  induction p generalizing c with
  | done r => exact ⟨rfl, trivial⟩
  | call op next ih =>
    obtain ⟨h1, h2⟩ := h
    have hsg : ∀ k, op.lookupKey = some k → sg c k := fun k hk => by rw [Op.getKey_eq, hk] at h1; exact h1
    have hst := M.stepWith_congr g' g c op (fun k hk => (hg c k (hsg k hk)).1)
    have := ih _ _ h2
    refine ⟨by simp only [runProg, hst]; exact this.1, ?_, by rw [hst]; exact this.2⟩
    cases hk : op.getKey with
    | none => trivial
    | some k => exact (hg c k (hsg k (Op.getKey_eq op ▸ hk))).2

/-- one more level of depth changes nothing; the second conjunct is what the induction over `n` needs for the
    nested lookups -/
theorem Mach.rget_stable {C : Type} (M : Mach K V C) (P : List K → K → OmProg K V) (n : Nat) (c : C) (k : K)
    (h : M.safeGet P n c k) : M.rget P (n + 1) c k = M.rget P n c k ∧ M.safeGet P (n + 1) c k := by
  induction n generalizing c k with
  | zero =>
    have h' : M.find c k = true := h
    exact ⟨by rw [M.rget_hit P _ h', M.rget_hit P _ h'], Or.inl h'⟩
  | succ m ih =>
    cases hf : M.find c k with
    | true => exact ⟨by rw [M.rget_hit P _ hf, M.rget_hit P _ hf], Or.inl hf⟩
    | false =>
      have h' : safeProg (M.safeGet P m) (M.stepWith (M.rget P m)) (M.missed c k) (P (M.log c) k) := by
        rcases h with h | h
        · rw [hf] at h; cases h
        · exact h
      have := safeProg_congr M (sg := M.safeGet P m) (sg' := M.safeGet P (m + 1)) (g := M.rget P m)
        (g' := M.rget P (m + 1)) (fun c k hs => ih c k hs) _ _ h'
      refine ⟨?_, Or.inr this.2⟩
      rw [M.rget_miss P (m + 1) hf, M.rget_miss P m hf, this.1]

theorem Mach.rget_stable_all {C : Type} (M : Mach K V C) (P : List K → K → OmProg K V) (n : Nat) (c : C) (k : K)
    (h : M.safeGet P n c k) (m : Nat) : M.rget P (n + m) c k = M.rget P n c k ∧ M.safeGet P (n + m) c k := by
  induction m with
  | zero => exact ⟨rfl, h⟩
  | succ j ih =>
    have := M.rget_stable P (n + j) c k ih.2
    exact ⟨this.1.trans ih.1, this.2⟩

/-! callbacks whose calls are never lookups (e.g. the self-priming loader) cannot nest: depth 1 is all they need -/

/-- no call of the strategy is an item get / get / setdefault, whatever the earlier calls answered -/
inductive OmProg.NoLookup : OmProg K V → Prop where
  | done (r : OmRes V) : OmProg.NoLookup (.done r)
  | call (op : Op K V) (next : Out K V Unit → OmProg K V) (hop : op.isLookup = false)
      (hn : ∀ o, OmProg.NoLookup (next o)) : OmProg.NoLookup (.call op next)

theorem OmProg.NoLookup.safeProg {C : Type} {p : OmProg K V} (h : p.NoLookup) (sg : C → K → Prop)
    (st : C → Op K V → C × Out K V C) (c : C) : C02.safeProg sg st c p := by
  induction h generalizing c with
  | done r => trivial
  | call op next hop hn ih =>
    refine ⟨?_, ih _ _⟩
    rw [Op.getKey_eq, Op.lookupKey_eq_none_iff.2 hop]
    trivial

theorem Mach.rget_depth_irrelevant {C : Type} (M : Mach K V C) (P : List K → K → OmProg K V)
    (hP : ∀ lg k, (P lg k).NoLookup) (n : Nat) : M.rget P (n + 1) = M.rget P 1 := by
  funext c k
  rw [Nat.add_comm]
  exact (M.rget_stable_all P 1 c k (Or.inr ((hP _ _).safeProg _ _ _)) n).1

theorem Cache.rget_pure (P : List K → K → OmProg K V) (f : K → OmRes V) (hP : ∀ lg k, P lg k = .done (f k)) (n : Nat)
    (c : Cache K V) (hom : c.onMiss = some f) (k : K) : Cache.mach.rget P (n + 1) c k = c.getitem k := by
  cases hk : lookup k c.ring with
  | some v => exact Cache.rget_found P _ hk
  | none =>
    have hb : runProg (Cache.mach.rstep P n) (Cache.mach.missed c k) (P c.omLog k) = (Cache.mach.missed c k, f k) := by
      rw [hP]; rfl
    rw [Cache.rget_absent P n hk hb]
    cases hres : f k with
    | ret v => rw [Cache.getitem_onMiss hk hom hres]; rfl
    | keyError => rw [Cache.getitem_onMiss_keyError hk hom hres]; rfl
    | error => rw [Cache.getitem_onMiss_error hk hom hres]; rfl

theorem Cache.body_inv {c body : Cache K V} (hi : Inv c) (P : List K → K → OmProg K V) (n : Nat) {k : K} {r : OmRes V}
    (hbody : runProg (Cache.mach.rstep P n) (Cache.mach.missed c k) (P c.omLog k) = (body, r)) :
    Inv body ∧ body.soft + 1 ≤ body.miss ∧ body.max = c.max := by
  have hm : InvN 1 (Cache.mach.missed c k) := Cache.machInv.missed k (InvN.zero_iff.2 hi)
  have hb := Cache.machInv.runProg P n (P c.omLog k) hm
  have hcfg := (Cache.machConfig c.config).runProg P n (P c.omLog k) (n := 0) (c := Cache.mach.missed c k) rfl
  rw [hbody] at hb hcfg
  exact ⟨hb.inv, hb.budget, Cache.max_of_config hcfg⟩

end C02
