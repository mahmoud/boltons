import BoltonsVerif.C16.Proofs
/-
C16 — TracebackInfo.get_formatted's loop is StackSummary.format's (`bLoop_eq_stdLoop`); the text
ExceptionInfo.get_formatted produces is the text ParsedException.to_string produces from the same data (`peOf`), so that
from_string reads boltons' own reports back; what `_DeferredLine` and the traceback module find in linecache, per state of
the cache entry (`deferredRaw_*`, `stdRaw_cached`, `stdRaw_absent`); the exact extent of two known findings: a last message line
`Exception ... ignored` (`fromStringF_rendered_trailer`), other line separators in the message (`fromStringF_separators`).
-/
namespace C16

theorem tbFrameStr_eq_std (c : Callpoint) : tbFrameStr c = stdFrameStr c := by
  unfold tbFrameStr stdFrameStr
  by_cases h : rstrip c.line = []
  · have := (rstrip_nil_iff_strip_nil c.line).mp h
    simp [h, this]
  · have : strip c.line ≠ [] := fun h' => h ((rstrip_nil_iff_strip_nil c.line).mpr h')
    simp [h, this, strip_rstrip, strip_idem]

theorem stdLoop_noLongRun (last : Option Callpoint) (count : Nat) (fs : List Callpoint)
    (hc : count ≤ 3) (h : noLongRunFrom last count fs = true) :
    stdLoop last count fs = fs.flatMap stdFrameStr := by
  induction fs generalizing last count with
  | nil => simp [stdLoop, flushRepeat]; omega
  | cons f fs ih =>
    have hfl : flushRepeat count = [] := by simp [flushRepeat]; omega
    cases last with
    | none =>
      simp only [noLongRunFrom, ↓reduceIte] at h
      simp only [stdLoop, ↓reduceIte]
      rw [hfl, ih (some f) 1 (by omega) h]
      simp
    | some l =>
      by_cases hs : sameSite l f = true
      · simp only [noLongRunFrom, hs, Bool.not_true, Bool.false_eq_true, ↓reduceIte, Bool.and_eq_true,
          decide_eq_true_eq] at h
        have : ¬ (count + 1 > 3) := by omega
        simp only [stdLoop, hs, Bool.not_true, Bool.false_eq_true, ↓reduceIte, this]
        rw [ih (some l) (count + 1) h.1 h.2]
        simp
      · have hs' : sameSite l f = false := by simpa using hs
        simp only [noLongRunFrom, hs', Bool.not_false, ↓reduceIte] at h
        simp only [stdLoop, hs', Bool.not_false, ↓reduceIte]
        rw [hfl, ih (some f) 1 (by omega) h]
        simp

theorem bLoop_eq_stdLoop (last : Option Callpoint) (count : Nat) (fs : List Callpoint) :
    bLoop last count fs = stdLoop last count fs := by
  induction fs generalizing last count with
  | nil => simp [bLoop, stdLoop]
  | cons f fs ih =>
    simp only [bLoop, stdLoop, tbFrameStr_eq_std, ih]
    split
    · rfl
    · by_cases h : count + 1 ≤ 3
      · have h' : ¬ (count + 1 > 3) := by omega
        simp [h, h']
      · have h' : count + 1 > 3 := by omega
        simp [h, h']

theorem bLoop_noLongRun (frames : List Callpoint) (h : NoLongRun frames = true) :
    bLoop none 0 frames = frames.flatMap tbFrameStr := by
  rw [bLoop_eq_stdLoop, stdLoop_noLongRun none 0 frames (by omega) h, funext tbFrameStr_eq_std]

theorem printException_eq (frames : List Callpoint) (etype msg : Str) :
    printException frames etype msg = eiFormat frames etype msg ++ ['\n'] := by
  unfold printException eiFormat eiExcOnly
  split <;> simp [List.append_assoc]

/-- inside a run, `k ≥ 1` entries at the site of `c` behind -/
theorem bLoop_sameSite (c : Callpoint) : ∀ (cs : List Callpoint) (k : Nat), 1 ≤ k → (∀ x ∈ cs, sameSite c x = true) →
    bLoop (some c) k cs = (cs.take (3 - k)).flatMap tbFrameStr ++ flushRepeat (k + cs.length) := by
  intro cs
  induction cs with
  | nil => intro k _ _; simp [bLoop]
  | cons f fs ih =>
    intro k hk hs
    have hf : sameSite c f = true := hs f (List.mem_cons_self ..)
    have hfs : ∀ x ∈ fs, sameSite c x = true := fun x hx => hs x (List.mem_cons_of_mem _ hx)
    simp only [bLoop, hf, Bool.not_true, Bool.false_eq_true, ↓reduceIte]
    by_cases h3 : k + 1 ≤ 3
    · rw [if_pos h3, ih (k + 1) (by omega) hfs]
      have : 3 - k = (3 - (k + 1)) + 1 := by omega
      rw [this, List.take_succ_cons, List.flatMap_cons, List.length_cons]
      simp [List.append_assoc, Nat.add_assoc, Nat.add_comm 1]
    · rw [if_neg h3, ih (k + 1) (by omega) hfs]
      have h0 : 3 - k = 0 := by omega
      have h1 : 3 - (k + 1) = 0 := by omega
      simp [h0, h1, Nat.add_assoc, Nat.add_comm 1]

/-! linecache.  `deferredRaw_*`: what `_DeferredLine` finds per state of the cache entry; without a complete entry it is
`updatecache` on nothing cached (a lazy entry is a loader registered earlier), and a stamped entry counts iff the file is
there with that size and mtime.  The traceback module's lookup is `_DeferredLine`'s on the cache as `lazycache` leaves it
and without a loader (`stdRaw_eq`): with nothing cached that comes to the same (`stdRaw_absent`), with an entry cached
the loader is forgotten (`stdRaw_cached`), which shows only where a stamped entry is dropped and the file is gone. -/

theorem updatecache_disk (c : CacheSt) (p : Str) (s m : Nat) (x : Str) (gl : Option Str) :
    updatecache c p (some (s, m, x)) gl = if isPseudo p then [] else x := rfl

theorem updatecache_absent_gone (p : Str) (src : Option Str) :
    updatecache .absent p none src = if isPseudo p then [] else src.getD [] := by
  unfold updatecache
  split
  · rfl
  · rename_i hp
    cases src with
    | none => rfl
    | some x => simp only [lazycache, hp]; rfl

theorem updatecache_lazy (x p : Str) (d : Option (Nat × Nat × Str)) (gl : Option Str) :
    updatecache (.lazy x) p d gl = updatecache .absent p d (some x) := by
  rcases d with _ | ⟨s, m, y⟩
  · rw [updatecache_absent_gone]
    unfold updatecache
    split
    · rfl
    · cases gl <;> rfl
  · rfl

theorem deferredRaw_pinned (p x : Str) (d : Option (Nat × Nat × Str)) (l : Option Str) :
    deferredRaw p ⟨.pinned x, d, l⟩ = x := by cases d <;> rfl

theorem deferredRaw_lazy (p x : Str) (d : Option (Nat × Nat × Str)) (l : Option Str) :
    deferredRaw p ⟨.lazy x, d, l⟩ = updatecache .absent p d (some x) := by
  rw [← updatecache_lazy x p d l]; cases d <;> rfl

theorem deferredRaw_absent (p : Str) (d : Option (Nat × Nat × Str)) (l : Option Str) :
    deferredRaw p ⟨.absent, d, l⟩ = updatecache .absent p d l := by cases d <;> rfl

theorem deferredRaw_fresh (p : Str) (s m : Nat) (x y : Str) (l : Option Str) :
    deferredRaw p ⟨.stamped s m x, some (s, m, y), l⟩ = x := by
  simp [deferredRaw, checkcache, getline]

theorem deferredRaw_stale {p : Str} {s m : Nat} {x : Str} {d : Option (Nat × Nat × Str)} {l : Option Str}
    (h : ∀ y, d ≠ some (s, m, y)) : deferredRaw p ⟨.stamped s m x, d, l⟩ = updatecache .absent p d l := by
  have : checkcache (.stamped s m x) d = .absent := by
    rcases d with _ | ⟨s', m', y⟩
    · rfl
    · simp only [checkcache]
      split
      · rename_i h'; obtain ⟨rfl, rfl⟩ := h'; exact absurd rfl (h y)
      · rfl
  unfold deferredRaw; simp only [this]; rfl

theorem stdRaw_eq (p : Str) (k : Look) :
    stdRaw p k = deferredRaw p ⟨lazycache k.cache p k.loader, k.disk, none⟩ := rfl

theorem stdRaw_cached {p : Str} {c : CacheSt} {d : Option (Nat × Nat × Str)} {l : Option Str} (hc : c ≠ .absent) :
    stdRaw p ⟨c, d, l⟩ = deferredRaw p ⟨c, d, none⟩ := by
  rw [stdRaw_eq]
  cases c with
  | absent => exact absurd rfl hc
  | _ => cases l <;> rfl

theorem stdRaw_absent (p : Str) (d : Option (Nat × Nat × Str)) (l : Option Str) :
    stdRaw p ⟨.absent, d, l⟩ = deferredRaw p ⟨.absent, d, l⟩ := by
  rw [stdRaw_eq, deferredRaw_absent]
  cases l with
  | none => exact deferredRaw_absent p d none
  | some src =>
    simp only [lazycache]
    split
    · rename_i hp
      rw [deferredRaw_absent]
      rcases d with _ | ⟨s, m, y⟩
      · rw [updatecache_absent_gone, updatecache_absent_gone, if_pos hp, if_pos hp]
      · rw [updatecache_disk, updatecache_disk]
    · rw [deferredRaw_lazy]

/-- the frame record from_string should recover from what Callpoint.tb_frame_str prints -/
def cpFrame (c : Callpoint) : Frame := ⟨c.path, natStr c.lineno, c.func, strip (rstrip c.line)⟩

/-- the parsed exception that corresponds to an ExceptionInfo -/
def peOf (frames : List Callpoint) (etype msg : Str) : PE := ⟨frames.map cpFrame, etype, msg⟩

theorem tbFrameStr_eq_unlines (c : Callpoint) : tbFrameStr c = unlines (frameLines (cpFrame c)) := by
  unfold tbFrameStr frameLines cpFrame
  by_cases h : rstrip c.line = []
  · have h2 : strip ([] : Str) = [] := rfl
    simp [h, h2, unlines, cpHead, frameLine, List.append_assoc]
  · have h2 : strip (rstrip c.line) ≠ [] := by
      rw [strip_rstrip]
      intro h3
      exact h ((rstrip_nil_iff_strip_nil c.line).mpr h3)
    simp [h, h2, unlines, cpHead, frameLine, List.append_assoc]

theorem eiFormat_eq_toString (frames : List Callpoint) (etype msg : Str) (hr : NoLongRun frames = true) :
    eiFormat frames etype msg = toString (peOf frames etype msg) := by
  unfold eiFormat tbInfoFormat
  rw [bLoop_noLongRun frames hr, funext tbFrameStr_eq_unlines, ← unlines_flatMap, toString_eq_toStringA,
    toStringA_unlines, noAnchors, ← flatMap_frameLines, unlines_cons]
  simp only [headerNL, peOf, List.flatMap_map, List.append_assoc, List.cons_append, List.nil_append]
  rfl   -- `eiExcOnly` and `excLine` are the same text

theorem fromStringF_rendered_trailer (fas : List (Frame × Option Str)) (etype msg tl : Str)
    (h : WFtextA fas etype msg = true) (hm : msg ≠ []) (ht : isTrailer tl = true) (hs : tl.all notSep = true) :
    fromStringF (toStringA fas etype (msg ++ '\n' :: tl)) = .ok (.tb, ⟨fas.map (·.1), etype, msg⟩) := by
  have htne : tl ≠ [] := by
    intro h0; subst h0; revert ht; decide
  have htext : toStringA fas etype (msg ++ '\n' :: tl)
      = joinNL (header :: ((fas.flatMap frameLinesA ++ splitNL (excLine etype msg)) ++ [tl])) := by
    rw [toStringA_append_msg fas etype hm, toStringA_eq, ← joinNL_concat (by simp)]; rfl
  have hall : ∀ l ∈ (fas.flatMap frameLinesA ++ splitNL (excLine etype msg)) ++ [tl], l.all notSep = true := by
    intro l hl
    rcases List.mem_append.mp hl with hl | hl
    · exact rendered_lines_notSep fas etype msg h l hl
    · rw [List.mem_singleton.mp hl]; exact hs
  have hlast : (header :: ((fas.flatMap frameLinesA ++ splitNL (excLine etype msg)) ++ [tl])).getLast? = some tl := by
    rw [← List.cons_append]; exact List.getLast?_concat ..
  unfold fromStringF
  rw [htext, splitlines_lstrip_joinNL_header hall hlast htne, ← List.cons_append,
    fromLinesF_congr_dropTrailers (dropTrailers_append_trailer _ ht)]
  exact fromLinesF_rendered fas etype msg h

/-- what from_string makes of the separators of a text: every str.splitlines separator becomes `\n`
    (`\r\n` one `\n`); same state machine as `splitlinesGo` -/
def normGo (skipLF : Bool) : Str → Str
  | [] => []
  | c :: rest =>
    if skipLF && c = '\n' then normGo false rest
    else if c = '\r' then '\n' :: normGo true rest
    else if isSep c then '\n' :: normGo false rest
    else c :: normGo false rest

/-- the message from_string returns for a message with other line separators in it -/
def normSeps (s : Str) : Str := normGo false s

theorem splitlinesGo_normGo : ∀ (s : Str) (b : Bool), splitlinesGo false (normGo b s) = splitlinesGo b s
  | [], b => by simp [normGo, splitlinesGo]
  | c :: rest, b => by
    rw [normGo, splitlinesGo]
    split
    · exact splitlinesGo_normGo rest false
    · rename_i h1
      split
      · rw [splitlinesGo]
        simp [isSep_nl, splitlinesGo_normGo rest true]
      · rename_i h2
        split
        · rw [splitlinesGo]
          simp [isSep_nl, splitlinesGo_normGo rest false]
        · rename_i h3
          have hc : c ≠ '\n' := by intro h; subst h; exact h3 isSep_nl
          rw [splitlinesGo]
          simp [hc, h2, h3, splitlinesGo_normGo rest false]

/-- from_string sees a text through `splitlines` only, and `splitlines ∘ normGo = splitlines` -/
theorem fromStringF_normGo {t : Str} (h : firstNotSpace t = true) (h' : firstNotSpace (normGo false t) = true) :
    fromStringF (normGo false t) = fromStringF t := by
  unfold fromStringF splitlines
  rw [lstrip_of_first h, lstrip_of_first h', splitlinesGo_normGo]

theorem normGo_prefix {a : Str} (ha : a.all msgCharOK = true) (s : Str) :
    normGo false (a ++ s) = a ++ normGo false s := by
  induction a with
  | nil => rfl
  | cons c a' ih =>
    simp only [List.all_cons, Bool.and_eq_true] at ha
    have hcr : c ≠ '\r' := by
      intro h; subst h
      have := ha.1
      simp [msgCharOK, notSep, isSep_cr] at this
    simp only [List.cons_append, normGo, Bool.false_and, Bool.false_eq_true, if_false, hcr]
    by_cases hs : isSep c = true
    · have : c = '\n' := by
        have := ha.1
        simpa [msgCharOK, notSep, hs] using this
      simp [this, ih ha.2]
    · simp [hs, ih ha.2]

theorem normGo_ne_nil {s : Str} (h : s ≠ []) : normGo false s ≠ [] := by
  cases s with
  | nil => exact absurd rfl h
  | cons c rest =>
    simp only [normGo, Bool.false_and, Bool.false_eq_true, if_false]
    split
    · simp
    · split <;> simp

theorem toString_split (pe : PE) (hm : pe.msg ≠ []) :
    toString pe = (unlines (header :: pe.frames.flatMap frameLines) ++ (pe.etype ++ colonSp)) ++ pe.msg := by
  rw [toString_eq_toStringA, toStringA_unlines, noAnchors, ← flatMap_frameLines]
  simp [excLine, hm, List.append_assoc]

theorem toString_msg_nl (pe : PE) (hm : pe.msg ≠ []) :
    toString ⟨pe.frames, pe.etype, pe.msg ++ ['\n']⟩ = toString pe ++ ['\n'] := by
  rw [toString_eq_toStringA, toString_eq_toStringA]
  exact toStringA_append_msg _ _ hm _

theorem unlines_msgCharOK {ls : List Str} (h : ∀ l ∈ ls, l.all notSep = true) : (unlines ls).all msgCharOK = true := by
  induction ls with
  | nil => rfl
  | cons l ls ih =>
    have hl := h l (List.mem_cons_self ..)
    have := ih (fun x hx => h x (List.mem_cons_of_mem _ hx))
    simp only [unlines, List.flatMap_cons, List.all_append, Bool.and_eq_true] at this ⊢
    refine ⟨⟨?_, by decide⟩, this⟩
    simp only [List.all_eq_true] at hl ⊢
    intro c hc
    simp [msgCharOK, hl c hc]

theorem fromStringF_separators (pe : PE) (hm : pe.msg ≠ [])
    (h : WFpe ⟨pe.frames, pe.etype, normSeps pe.msg⟩ = true) :
    fromStringF (toString pe) = .ok (.tb, ⟨pe.frames, pe.etype, normSeps pe.msg⟩) := by
  obtain ⟨hfr, hexc⟩ := WFpe_iff.1 h
  -- `normGo` touches the message only: what stands before it is made of separator-free lines (`normGo_prefix`)
  have hpre : (unlines (header :: pe.frames.flatMap frameLines) ++ (pe.etype ++ colonSp)).all msgCharOK = true := by
    rw [List.all_append, List.all_append, Bool.and_eq_true, Bool.and_eq_true]
    refine ⟨?_, ?_, by decide⟩
    · exact unlines_msgCharOK (header_cons_notSep (flatMap_frameLines_notSep hfr))
    · exact all_msgCharOK_of_notSpace (WFexc_parts hexc).etype_notSpace
  have hm' : normSeps pe.msg ≠ [] := normGo_ne_nil hm
  have htext : normGo false (toString pe) = toString ⟨pe.frames, pe.etype, normSeps pe.msg⟩ := by
    rw [toString_split pe hm, normGo_prefix hpre, toString_split ⟨pe.frames, pe.etype, normSeps pe.msg⟩ hm']
    rfl
  have hfirst : firstNotSpace (toString pe) = true := by
    rw [toString_eq_toStringA]; exact toStringA_first _ _ _
  have hfirst' : firstNotSpace (normGo false (toString pe)) = true := by
    rw [htext, toString_eq_toStringA]; exact toStringA_first _ _ _
  rw [← fromStringF_normGo hfirst hfirst', htext, toString_eq_toStringA,
    fromStringF_rendered _ _ _ (WFtextA_noAnchors _ h), map_fst_noAnchors]

end C16
