import BoltonsVerif.Generated.C16_Tables
/-
C16 — executable model of boltons/tbutils.py:
  * ParsedException.from_string / to_string (text is `List Char`; lines are `List Char`)
  * Callpoint.tb_frame_str, TracebackInfo.from_traceback(limit) / get_formatted,
    ExceptionInfo.get_formatted, and the `traceback` module's layout (`stdFormat`, spec side)
  * the frame walk: Callpoint.from_tb over traceback entries (`TbEntry`), `_DeferredLine.__str__`
    (linecache.checkcache + getline with the module's name and loader) and, spec side, the lookup of
    the `traceback` module (lazycache, checkcache, getline) over an abstract linecache / file / loader state

The model follows the code as it is in /repo:
  - TracebackInfo.get_formatted collapses runs of more than 3 identical entries (`_repeated_line_note`),
  - the frame loop of from_string is guarded by `line_no < len(tb_lines)` (no IndexError),
  - ExceptionInfo.get_formatted prints the bare type when the message is empty,
  - the exception's display name is built from `__module__` and `__qualname__` (`typeStr`; the harness reads the two
    attributes and passes them).

Character classes (`\d`, str.isspace, str.splitlines separators) come from
Generated/C16_Tables.lean, regenerated from the running interpreter on every run.
Core Lean only.
-/
namespace C16

abbrev Str := List Char

def inRanges (rs : List (Nat × Nat)) (n : Nat) : Bool := rs.any fun r => r.1 ≤ n && n ≤ r.2

/-- `\d` of a str pattern -/
def isDigit (c : Char) : Bool := inRanges Gen.digitRanges c.toNat
/-- str.isspace / what str.strip() removes -/
def isSpace (c : Char) : Bool := inRanges Gen.spaceRanges c.toNat
/-- a character at which str.splitlines() breaks -/
def isSep (c : Char) : Bool := Gen.sepCps.contains c.toNat

def notSpace (c : Char) : Bool := !isSpace c
def notSep (c : Char) : Bool := !isSep c

def lstrip (s : Str) : Str := s.dropWhile isSpace
def rstrip (s : Str) : Str := (s.reverse.dropWhile isSpace).reverse
def strip (s : Str) : Str := rstrip (lstrip s)

/-- `str.splitlines()`: breaks at every separator, `\r\n` is one break, no empty last line.
    `skipLF` = the previous character was `\r` (a directly following `\n` belongs to the same break) -/
def splitlinesGo (skipLF : Bool) : Str → List Str
  | [] => []
  | c :: rest =>
    if skipLF && c = '\n' then splitlinesGo false rest
    else if c = '\r' then [] :: splitlinesGo true rest
    else if isSep c then [] :: splitlinesGo false rest
    else match splitlinesGo false rest with
      | [] => [[c]]
      | l :: ls => (c :: l) :: ls

def splitlines (s : Str) : List Str := splitlinesGo false s

/-- `'\n'.join(lines)` -/
def joinNL : List Str → Str
  | [] => []
  | [l] => l
  | l :: ls => l ++ '\n' :: joinNL ls

/-- `s.split('\n')` (never empty) -/
def splitNL : Str → List Str
  | [] => [[]]
  | c :: rest =>
    if c = '\n' then [] :: splitNL rest
    else match splitNL rest with
      | [] => [[c]]
      | l :: ls => (c :: l) :: ls

/-- `dropPrefix? p s = some r` iff `s = p ++ r` -/
def dropPrefix? : Str → Str → Option Str
  | [], s => some s
  | _ :: _, [] => none
  | p :: ps, c :: cs => if p = c then dropPrefix? ps cs else none

/-- `s.partition(': ')` as (head, tail-after-separator or none) -/
def partitionCS : Str → Str × Option Str
  | [] => ([], none)
  | c :: rest =>
    if c = ':' ∧ rest.head? = some ' ' then ([], some rest.tail)
    else (c :: (partitionCS rest).1, (partitionCS rest).2)

/-! ## literals of the source (`litA`, `litB`, `litC` cross-checked in Props; `header`, `ind4`, `colonSp` in SrcTie) -/

def header : Str := "Traceback (most recent call last):".toList
def litA : Str := "File \"".toList
def litB : Str := "\", line ".toList
def litC : Str := ", in ".toList
def ind2 : Str := "  ".toList
def ind4 : Str := "    ".toList
def colonSp : Str := ": ".toList
def trailerPre : Str := "Exception ".toList
def trailerSuf : Str := "ignored".toList

/-- `_underline_re = ^[~^ ]*$` -/
def isUnderlineChar (c : Char) : Bool := c = '~' || c = '^' || c = ' '
def isUnderline (l : Str) : Bool := l.all isUnderlineChar

/-- what must follow the file path in `_frame_re`: `", line \d+, in .+$`; returns (lineno, funcname) -/
def tailMatch (s : Str) : Option (Str × Str) :=
  match dropPrefix? litB s with
  | none => none
  | some r =>
    if r.takeWhile isDigit = [] then none else
    match dropPrefix? litC (r.dropWhile isDigit) with
    | none => none
    | some fn => if fn = [] then none else some (r.takeWhile isDigit, fn)

/-- what must follow the file path in `_se_frame_re`: `", line \d+` (no end anchor); funcname absent -/
def tailMatchSE (s : Str) : Option (Str × Str) :=
  match dropPrefix? litB s with
  | none => none
  | some r => if r.takeWhile isDigit = [] then none else some (r.takeWhile isDigit, [])

/-- greedy `.+` followed by `tm`: the rightmost position at which `tm` succeeds -/
def findLast (tm : Str → Option (Str × Str)) : Str → Option (Str × (Str × Str))
  | [] => none
  | c :: cs =>
    match findLast tm cs with
    | some (pre, x) => some (c :: pre, x)
    | none => match tm (c :: cs) with
      | some x => some ([], x)
      | none => none

structure Frame where
  file : Str
  lineno : Str     -- the digit string as captured / as formatted
  func : Str       -- [] in the SyntaxError form (no `funcname` group)
  src : Str        -- [] = no source line ('' in Python)
deriving DecidableEq, Repr

/-- `frame_re.match(line)` for a stripped line; `tm` selects `_frame_re` / `_se_frame_re` -/
def matchWith (tm : Str → Option (Str × Str)) (l : Str) : Option Frame :=
  match dropPrefix? litA l with
  | none => none
  | some r =>
    match findLast tm r with
    | none => none
    | some (fp, ln, fn) => if fp = [] then none else some ⟨fp, ln, fn, []⟩

def matchFrame : Str → Option Frame := matchWith tailMatch
def matchSE : Str → Option Frame := matchWith tailMatchSE

structure PE where
  frames : List Frame
  etype : Str
  msg : Str
deriving DecidableEq, Repr

def frameLine (f : Frame) : Str := ind2 ++ litA ++ f.file ++ litB ++ f.lineno ++ litC ++ f.func

def frameLines (f : Frame) : List Str :=
  if f.src = [] then [frameLine f] else [frameLine f, ind4 ++ f.src]

def excLine (etype msg : Str) : Str := if msg = [] then etype else etype ++ (colonSp ++ msg)

/-- the list `lines` built by to_string -/
def toLines (pe : PE) : List Str :=
  header :: (pe.frames.flatMap frameLines ++ [excLine pe.etype pe.msg])

/-- ParsedException.to_string -/
def toString (pe : PE) : Str := joinNL (toLines pe)

/-- `cl.startswith('Exception ') and cl.endswith('ignored')` -/
def isTrailer (l : Str) : Bool := trailerPre.isPrefixOf l && trailerSuf.isSuffixOf l

/-- pop trailing "Exception ... ignored" lines (works on the reversed list) -/
def dropTrailersRev : List Str → List Str
  | [] => []
  | l :: ls => if isTrailer l then dropTrailersRev ls else l :: ls

def dropTrailers (ls : List Str) : List Str := (dropTrailersRev ls.reverse).reverse

def startsWithSpace (l : Str) : Bool := match l with | ' ' :: _ => true | _ => false

/-- lines consumed after a frame line: the optional source line (`next_line` logic) -/
def takeSource (re : Str → Option Frame) (rest : List Str) : Str × List Str :=
  match rest with
  | [] => ([], [])                               -- IndexError branch: next_line = ''
  | next :: rest' =>
    if (re (strip next)).isSome || !startsWithSpace next then ([], rest)
    else (strip next, rest')

/-- the anchor skip: `if line_no + 1 < len(tb_lines) and _underline_re.match(tb_lines[line_no + 1])` -/
def skipUnderline (rest : List Str) : List Str :=
  match rest with
  | [] => []
  | u :: rest' => if isUnderline u then rest' else rest

theorem takeSource_len (re : Str → Option Frame) (rest : List Str) :
    (takeSource re rest).2.length ≤ rest.length := by
  unfold takeSource
  split
  · simp
  · split <;> simp

theorem skipUnderline_len (rest : List Str) : (skipUnderline rest).length ≤ rest.length := by
  unfold skipUnderline
  split
  · simp
  · split <;> simp

/-- the `while` loop of from_string over the remaining lines; returns the frames (in order)
    and the lines left for the exception part (`tb_lines[line_no:]`) -/
def parseLoop (re : Str → Option Frame) (ls : List Str) : List Frame × List Str :=
  match ls with
  | [] => ([], [])
  | l :: rest =>
    match re (strip l) with
    | none => ([], l :: rest)
    | some fd =>
      let r := parseLoop re (skipUnderline (takeSource re rest).2)
      ({ fd with src := (takeSource re rest).1 } :: r.1, r.2)
termination_by ls.length
decreasing_by
  have h1 := takeSource_len re rest
  have h2 := skipUnderline_len (takeSource re rest).2
  simp only [List.length_cons]
  omega

inductive Err | valueError
deriving DecidableEq, Repr

/-- `exc_type, _, exc_msg = '\n'.join(tb_lines[line_no:]).partition(': ')` -/
def excParts (ls : List Str) : Str × Str :=
  ((partitionCS (joinNL ls)).1, (partitionCS (joinNL ls)).2.getD [])

/-- which of the two text forms from_string recognised -/
inductive Form | tb | se
deriving DecidableEq, Repr

def secondLastIsCaret (ls : List Str) : Bool :=
  match ls.reverse with
  | _ :: l :: _ => (match lstrip l with | '^' :: _ => true | _ => false)
  | _ => false

/-- ParsedException.from_string on the list `tb_str.lstrip().splitlines()` -/
def fromLinesF (ls0 : List Str) : Except Err (Form × PE) :=
  let ls := dropTrailers ls0
  match ls with
  | first :: rest =>
    if strip first = header then
      let r := parseLoop matchFrame rest
      .ok (.tb, ⟨r.1, (excParts r.2).1, (excParts r.2).2⟩)
    else if secondLastIsCaret ls then
      let r := parseLoop matchSE ls
      .ok (.se, ⟨r.1, (excParts r.2).1, (excParts r.2).2⟩)
    else .error .valueError
  | [] => .error .valueError

def fromStringF (t : Str) : Except Err (Form × PE) := fromLinesF (splitlines (lstrip t))

/-- ParsedException.from_string -/
def fromString (t : Str) : Except Err PE := (fromStringF t).map (·.2)

/-- a session of `ParsedException.from_string` calls in one process: the code keeps no state between calls and hands
    out fresh lists and dicts, so each text is parsed on its own, whatever was parsed before and whatever the callers
    did with the earlier results (the correspondence check parses every text again after spoiling the earlier result,
    and after histories of other calls) -/
def parseSession (texts : List Str) : List (Except Err PE) := texts.map fromString

/-! ## the interpreter's text with position-marker ("anchor") lines, and well-formedness -/

/-- lines of one frame as the interpreter prints them: frame line, source line when there is
    one, and (3.11+) an optional marker line after the source line -/
def frameLinesA (fa : Frame × Option Str) : List Str :=
  if fa.1.src = [] then [frameLine fa.1] else
  match fa.2 with
  | none => [frameLine fa.1, ind4 ++ fa.1.src]
  | some a => [frameLine fa.1, ind4 ++ fa.1.src, a]

def toLinesA (fas : List (Frame × Option Str)) (etype msg : Str) : List Str :=
  header :: (fas.flatMap frameLinesA ++ [excLine etype msg])

/-- standard-format text with marker lines -/
def toStringA (fas : List (Frame × Option Str)) (etype msg : Str) : Str := joinNL (toLinesA fas etype msg)

def noAnchors (pe : PE) : List (Frame × Option Str) := pe.frames.map fun f => (f, none)

/-- no suffix of the function name looks like `", line N, in x` (the greedy `.+` would split there) -/
def noTail : Str → Bool
  | [] => true
  | c :: cs => (tailMatch (c :: cs)).isNone && noTail cs

def firstNotSpace (s : Str) : Bool := match s with | [] => false | c :: _ => notSpace c
def lastNotSpace (s : Str) : Bool := firstNotSpace s.reverse

def WFsrc (s : Str) : Bool :=
  s = [] || (s.all notSep && firstNotSpace s && lastNotSpace s && (matchFrame s).isNone)

def WFframe (f : Frame) : Bool :=
  f.file != [] && f.file.all notSep &&
  f.lineno != [] && f.lineno.all isDigit &&
  f.func.all notSep && lastNotSpace f.func && noTail f.func &&
  WFsrc f.src

/-- a marker line: only `~`, `^` and spaces -/
def WFanchor (a : Option Str) : Bool := match a with | none => true | some u => isUnderline u

def lastLine (s : Str) : Str := (splitNL s).getLast?.getD []

def msgCharOK (c : Char) : Bool := notSep c || c = '\n'

-- `etype.any (!isUnderlineChar ·)`: a line of `~ ^` and spaces only would be skipped as a marker line
def WFexc (etype msg : Str) : Bool :=
  etype != [] && etype.all notSpace && etype.any (fun c => !isUnderlineChar c) &&
  msg.all msgCharOK && msg.getLast? != some '\n' &&
  !isTrailer (lastLine (excLine etype msg))

def WFpe (pe : PE) : Bool := pe.frames.all WFframe && WFexc pe.etype pe.msg

def WFtextA (fas : List (Frame × Option Str)) (etype msg : Str) : Bool :=
  fas.all (fun fa => WFframe fa.1 && WFanchor fa.2) && WFexc etype msg

/-- layout-driven reading of the lines after the header, independent of the from_string loop: a frame
    line is indented by exactly two spaces, its source line by exactly four; the first line that is
    neither starts the exception part -/
def readFrames : List Str → List Frame × List Str
  | [] => ([], [])
  | l :: rest =>
    match dropPrefix? ind2 l with
    | none => ([], l :: rest)
    | some body =>
      match matchFrame body with
      | none => ([], l :: rest)
      | some fd =>
        match rest with
        | [] => ([fd], [])
        | s :: rest' =>
          match dropPrefix? ind4 s with
          | some src => ({ fd with src := src } :: (readFrames rest').1, (readFrames rest').2)
          | none => (fd :: (readFrames (s :: rest')).1, (readFrames (s :: rest')).2)

def readText (t : Str) : Option PE :=
  match splitNL t with
  | first :: rest =>
    if first = header then
      if (readFrames rest).2 = [] then none
      else some ⟨(readFrames rest).1, (excParts (readFrames rest).2).1, (excParts (readFrames rest).2).2⟩
    else none
  | [] => none

/-- `t` is a standard-format text (no marker lines, no final newline): the layout reading yields
    well-formed data whose standard rendering is `t` itself -/
def WFtext (t : Str) : Bool :=
  match readText t with
  | some pe => WFpe pe && toString pe == t
  | none => false

/-! ## clause 2: Callpoint / TracebackInfo / ExceptionInfo formatting and the interpreter's layout -/

/-- what the interpreter hands over for one traceback entry: co_filename, tb_lineno, co_name and
    the linecache line ('' when there is none) -/
structure Callpoint where
  path : Str
  lineno : Nat
  func : Str
  line : Str
deriving DecidableEq, Repr

def natStr (n : Nat) : Str := (Nat.repr n).toList

/-- `'  File "{}", line {}, in {}\n'` -/
def cpHead (c : Callpoint) : Str :=
  ind2 ++ litA ++ c.path ++ litB ++ natStr c.lineno ++ litC ++ c.func ++ ['\n']

/-- Callpoint.tb_frame_str: `if self.line:` is `len(str(_DeferredLine)) > 0` i.e. the rstripped line -/
def tbFrameStr (c : Callpoint) : Str :=
  if rstrip c.line = [] then cpHead c else cpHead c ++ (ind4 ++ strip (rstrip c.line) ++ ['\n'])

/-- TracebackInfo.from_traceback(tb, limit): the first `limit` entries (`none` = sys.tracebacklimit
    absent, default 1000, assumed larger than the chain) -/
def fromTraceback (tb : List Callpoint) (limit : Option Nat) : List Callpoint :=
  match limit with
  | none => tb
  | some n => tb.take n

def headerNL : Str := header ++ ['\n']

def sameSite (a b : Callpoint) : Bool := a.path = b.path && a.lineno = b.lineno && a.func = b.func

/-- `_repeated_line_note(count)` / the traceback module's `[Previous line repeated N more times]` -/
def repeatedMsg (n : Nat) : Str :=
  "  [Previous line repeated ".toList ++ natStr n ++ (if n > 1 then " more times]\n".toList else " more time]\n".toList)

-- 3 = `traceback._RECURSIVE_CUTOFF`
def flushRepeat (count : Nat) : Str := if count > 3 then repeatedMsg (count - 3) else []

/-- the loop of TracebackInfo.get_formatted (runs of identical entries are collapsed):
    `last` = site of the previous entry, `count` = length of the current run -/
def bLoop : Option Callpoint → Nat → List Callpoint → Str
  | _, count, [] => flushRepeat count
  | last, count, f :: fs =>
    if (match last with | none => true | some l => !sameSite l f) then
      flushRepeat count ++ (tbFrameStr f ++ bLoop (some f) 1 fs)
    else if count + 1 ≤ 3 then tbFrameStr f ++ bLoop last (count + 1) fs
    else bLoop last (count + 1) fs

/-- TracebackInfo.get_formatted -/
def tbInfoFormat (frames : List Callpoint) : Str := headerNL ++ bLoop none 0 frames

/-- ExceptionInfo.get_formatted_exception_only (the bare type when the message is empty) -/
def eiExcOnly (etype msg : Str) : Str := if msg = [] then etype else etype ++ (colonSp ++ msg)

/-- ExceptionInfo.get_formatted -/
def eiFormat (frames : List Callpoint) (etype msg : Str) : Str :=
  tbInfoFormat frames ++ eiExcOnly etype msg

/-- tbutils.print_exception for a non-SyntaxError exception: `str(TracebackInfo)` followed by
    tbutils.format_exception_only = `_format_final_exc_line` -/
def printException (frames : List Callpoint) (etype msg : Str) : Str :=
  tbInfoFormat frames ++ (if msg = [] then etype ++ ['\n'] else etype ++ (colonSp ++ msg) ++ ['\n'])

/-! the standard `traceback` module (CPython 3.12 StackSummary.format without anchors /
    TracebackException.format_exception_only), as the specification -/

/-- FrameSummary.line is the stripped line; printed when non-empty -/
def stdFrameStr (c : Callpoint) : Str :=
  if strip c.line = [] then cpHead c else cpHead c ++ (ind4 ++ strip (strip c.line) ++ ['\n'])

/-- StackSummary.format: `last` = previous entry, `count` = length of the current run -/
def stdLoop : Option Callpoint → Nat → List Callpoint → Str
  | _, count, [] => flushRepeat count
  | last, count, f :: fs =>
    if (match last with | none => true | some l => !sameSite l f) then
      flushRepeat count ++ (stdFrameStr f ++ stdLoop (some f) 1 fs)
    else if count + 1 > 3 then stdLoop last (count + 1) fs
    else stdFrameStr f ++ stdLoop last (count + 1) fs

/-- no run of more than 3 consecutive entries with the same file, line and function
    (same bookkeeping as `stdLoop`) -/
def noLongRunFrom : Option Callpoint → Nat → List Callpoint → Bool
  | _, _, [] => true
  | last, count, f :: fs =>
    if (match last with | none => true | some l => !sameSite l f) then noLongRunFrom (some f) 1 fs
    else count + 1 ≤ 3 && noLongRunFrom last (count + 1) fs

def NoLongRun (frames : List Callpoint) : Bool := noLongRunFrom none 0 frames

/-- `_format_final_exc_line` -/
def stdExcOnly (etype msg : Str) : Str :=
  if msg = [] then etype ++ ['\n'] else etype ++ (colonSp ++ msg) ++ ['\n']

/-- `''.join(traceback.format_exception(e))` for an exception without cause/context/notes, anchors aside -/
def stdFormat (frames : List Callpoint) (etype msg : Str) : Str :=
  headerNL ++ stdLoop none 0 frames ++ stdExcOnly etype msg

/-- `traceback.extract_tb(tb, limit)` for a non-negative limit -/
def stdExtract (tb : List Callpoint) (limit : Option Nat) : List Callpoint :=
  match limit with
  | none => tb
  | some n => tb.take n

/-! ## the frame walk: traceback entries, linecache and `_DeferredLine`

What the interpreter hands over for one traceback entry is the frame (identity `fid`: the same frame
object may occur in several entries, e.g. after `raise e` in an `except` block), its code's file and
function name, the entry's line number, and - for the source text - the state of the three places
the `linecache` module consults for that file (`Look`), each reduced to the line at this entry's
line number ('' beyond the end):
  * the cache entry: none / a lazy loader entry / a complete entry without mtime (registered from a
    loader or by hand, never revalidated) / a complete entry with the (size, mtime) stamp it was read at,
  * the file on disk now (os.stat succeeds): its (size, mtime) and the line,
  * the module's `__loader__.get_source` (reachable through the frame's globals). -/

inductive CacheSt where
  | absent
  | lazy (line : Str)
  | pinned (line : Str)
  | stamped (size mtime : Nat) (line : Str)
deriving DecidableEq, Repr

structure Look where
  cache : CacheSt
  disk : Option (Nat × Nat × Str)
  loader : Option Str
deriving DecidableEq, Repr

structure TbEntry where
  path : Str
  lineno : Nat
  func : Str
  fid : Nat
  look : Look
  /-- `tb_lasti`, the offset of the entry's instruction: two calls written on one line give entries that agree in
      file, line and function and differ here -/
  lasti : Nat := 0
deriving DecidableEq, Repr

/-- `not filename or (filename.startswith('<') and filename.endswith('>'))` -/
def isPseudo (p : Str) : Bool := p.isEmpty || (p.head? == some '<' && p.getLast? == some '>')

/-- linecache.checkcache(filename): a complete entry with a stamp is dropped when the file is gone or
    its size or mtime differ; lazy entries and entries without mtime are left alone -/
def checkcache (c : CacheSt) (disk : Option (Nat × Nat × Str)) : CacheSt :=
  match c, disk with
  | .stamped _ _ _, none => .absent
  | .stamped sz mt l, some (sz', mt', _) => if sz = sz' ∧ mt = mt' then .stamped sz mt l else .absent
  | c, _ => c

/-- linecache.lazycache(filename, module_globals): registers a lazy entry only when nothing is cached -/
def lazycache (c : CacheSt) (path : Str) (loader : Option Str) : CacheSt :=
  match c, loader with
  | .absent, some l => if isPseudo path then .absent else .lazy l
  | c, _ => c

/-- linecache.updatecache(filename, module_globals), reached when no complete entry is cached: the
    file on disk wins, else the (lazily registered) loader, else nothing -/
def updatecache (c : CacheSt) (path : Str) (disk : Option (Nat × Nat × Str)) (gl : Option Str) : Str :=
  if isPseudo path then [] else
  match disk with
  | some (_, _, l) => l
  | none => match lazycache c path gl with
    | .lazy l => l
    | _ => []

/-- linecache.getline(filename, lineno, module_globals) -/
def getline (c : CacheSt) (path : Str) (disk : Option (Nat × Nat × Str)) (gl : Option Str) : Str :=
  match c with
  | .pinned l => l
  | .stamped _ _ l => l
  | c => updatecache c path disk gl

/-- `_DeferredLine.__str__` before its rstrip: `linecache.checkcache(filename)`, then
    `linecache.getline(filename, lineno, {'__name__': ..., '__loader__': ...})` -/
def deferredRaw (path : Str) (k : Look) : Str := getline (checkcache k.cache k.disk) path k.disk k.loader

/-- the traceback module (StackSummary._extract_from_extended_frame_gen + FrameSummary.line before its
    strip): `lazycache(filename, f_globals)`, `checkcache(filename)`, `getline(filename, lineno)` -/
def stdRaw (path : Str) (k : Look) : Str :=
  getline (checkcache (lazycache k.cache path k.loader) k.disk) path k.disk none

/-- Callpoint.from_tb: co_filename (verbatim, whatever its suffix), tb_lineno, co_name, `_DeferredLine(...)`; the frame
    identity is not consulted; `tb_lasti` is stored in the Callpoint but no report reads it (the run folding of
    get_formatted keys on file, line and function: `sameSite`) -/
def walkB (e : TbEntry) : Callpoint := ⟨e.path, e.lineno, e.func, deferredRaw e.path e.look⟩
/-- FrameSummary of the traceback module for the same entry -/
def walkS (e : TbEntry) : Callpoint := ⟨e.path, e.lineno, e.func, stdRaw e.path e.look⟩

/-- the one region where the two lookups differ (known finding): a stamped entry is cached, the file is
    gone and the module has a loader - boltons asks the loader, the traceback module (which called
    lazycache while the stale entry was still there) shows nothing -/
def LookOK (k : Look) : Bool :=
  match k.cache, k.disk, k.loader with
  | .stamped _ _ _, none, some _ => false
  | _, _, _ => true

/-- the limit in force: the explicit argument, else sys.tracebacklimit (negative = 0), else none
    (boltons: 1000, assumed larger than the chain) -/
def resolveLimit (explicit : Option Nat) (sys : Option Int) : Option Nat :=
  match explicit with
  | some n => some n
  | none => sys.map Int.toNat

/-! ## the exception's display name and sessions of several captures

What the interpreter hands over about the exception's class: `__module__` (`none` when it is not a str) and
`__qualname__`.  boltons computes the display name in two places (ExceptionInfo.from_exc_info and
tbutils.format_exception_only, which print_exception uses); both read the two attributes afresh on every call. -/

structure ExcType where
  modname : Option Str
  qualname : Str
deriving DecidableEq, Repr

/-- the modules whose classes are printed without prefix: `("__main__", "builtins")` -/
def plainMods : List Str := ["__main__".toList, "builtins".toList]

/-- ExceptionInfo.from_exc_info / tbutils.format_exception_only:
    `if type_mod not in ("__main__", "builtins"): if not isinstance(type_mod, str): type_mod = '<unknown>'; ...` -/
def typeStr (t : ExcType) : Str :=
  match t.modname with
  | some m => if plainMods.contains m then t.qualname else m ++ '.' :: t.qualname
  | none => "<unknown>".toList ++ '.' :: t.qualname

/-- traceback.TracebackException.format_exception_only (CPython 3.12): `stype = self.exc_type_qualname;
    smod = self.exc_type_module; if smod not in ("__main__", "builtins"): if not isinstance(smod, str):
    smod = "<unknown>"; stype = smod + '.' + stype` -/
def stdTypeStr (t : ExcType) : Str :=
  if t.modname = some "__main__".toList ∨ t.modname = some "builtins".toList then t.qualname
  else (match t.modname with | some m => m | none => "<unknown>".toList) ++ ['.'] ++ t.qualname

/-- tbutils.print_exception without traceback = tbutils.format_exception_only = `_format_final_exc_line` -/
def printExcOnly (etype msg : Str) : Str :=
  if msg = [] then etype ++ ['\n'] else etype ++ (colonSp ++ msg) ++ ['\n']

/-- `_some_str(value)`: `str(value)`, or the traceback module's placeholder when `str()` raises
    (`none`) -/
def someStr : Option Str → Str
  | some s => s
  | none => "<exception str() failed>".toList

/-- traceback._safe_string(value, 'exception') -/
def stdSafeStr (v : Option Str) : Str := v.getD "<exception str() failed>".toList

/-- one capture of a session: the class and `str()` of the exception -/
abbrev Capture := ExcType × Str

/-- what boltons reports for each capture of a session, in order: ExceptionInfo.exc_type,
    get_formatted_exception_only(), what print_exception writes.  Nothing is carried from one capture to the
    next (the code keeps no state between captures; the correspondence check replays whole sessions). -/
def sessionB (caps : List Capture) : List (Str × Str × Str) :=
  caps.map fun c => (typeStr c.1, eiExcOnly (typeStr c.1) c.2, printExcOnly (typeStr c.1) c.2)

/-- the traceback module on the same captures -/
def sessionS (caps : List Capture) : List (Str × Str × Str) :=
  caps.map fun c => (stdTypeStr c.1, stdExcOnly (stdTypeStr c.1) c.2, stdExcOnly (stdTypeStr c.1) c.2)

/-- the frames of `ExceptionInfo.to_dict()`: file, line number, function, `str(_DeferredLine)` -/
def dictFrames (frames : List Callpoint) : List (Str × Nat × Str × Str) :=
  frames.map fun c => (c.path, c.lineno, c.func, rstrip c.line)

end C16
