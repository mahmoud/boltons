import BoltonsVerif.C16.Proofs
/-
C16 — the three patterns of boltons/tbutils.py (`_frame_re`, `_se_frame_re`, `_underline_re`) under a GENERIC
backtracking matcher for the fragment of `re` syntax they use, and the proof that the hand-written scanners of
Model.lean (`matchFrame`, `matchSE`, `isUnderline`) compute exactly what that matcher computes on the three token
lists `frameToks`, `seToks`, `ulToks` below (the shapes regenerated from the source parse to these: Props.lean).

Fragment: `^`, `$`, literal text, greedy `X+` / `X*` over a character class (`.`, `\d`, `[...]`).  Semantics as in
the `re` module: `match` is anchored at the start and need not consume the whole string; `.` does not match `\n`;
`$` matches at the end and before a final `\n`; a greedy repetition tries the longest run first and gives
characters back one by one while the rest of the pattern fails (`rep`); every `X+` item is a capture group.
-/
namespace C16.Re
open C16

inductive Cls where
  | any
  | digit
  | set (cs : List Char)
deriving DecidableEq, Repr

def Cls.test : Cls → Char → Bool
  | .any, c => c != '\n'
  | .digit, c => isDigit c
  | .set cs, c => cs.contains c

inductive Tok where
  | bos
  | eos
  | lit (s : Str)
  | plus (k : Cls)
  | star (k : Cls)
deriving DecidableEq, Repr

/-- the translator's token text (`regex_shape` in harness/bv/props/c16.py) -/
def parseTok (w : Str) : Option Tok :=
  if w = "^".toList then some .bos
  else if w = "$".toList then some .eos
  else if w = "any+".toList then some (.plus .any)
  else if w = "digit+".toList then some (.plus .digit)
  else match dropPrefix? "lit:".toList w with
    | some s => some (.lit s)
    | none => match dropPrefix? "set*:".toList w with
      | some s => some (.star (.set s))
      | none => none

def parseToks : List Str → Option (List Tok)
  | [] => some []
  | w :: ws => match parseTok w, parseToks ws with
    | some t, some ts => some (t :: ts)
    | _, _ => none

/-- greedy repetition over the class `k`, after the mandatory part: consume as many characters as possible, then the
    rest of the pattern (`cont`); when that fails give one character back and try again.  Returns the characters
    consumed here and what `cont` returned. -/
def rep (k : Char → Bool) (cont : Str → Option (List Str)) : Str → Option (Str × List Str)
  | [] => (cont []).map fun r => ([], r)
  | c :: cs =>
    if k c then
      match rep k cont cs with
      | some (pre, r) => some (c :: pre, r)
      | none => (cont (c :: cs)).map fun r => ([], r)
    else (cont (c :: cs)).map fun r => ([], r)

/-- the matcher after the start anchor (`re.match` is anchored with or without `^`); result = the text of the capture
    groups (one per `X+`), in order -/
def run : List Tok → Str → Option (List Str)
  | [], _ => some []
  | .bos :: _, _ => none
  | .eos :: ts, s => if s = [] ∨ s = ['\n'] then run ts s else none
  | .lit p :: ts, s =>
    match dropPrefix? p s with
    | some r => run ts r
    | none => none
  | .plus k :: ts, s =>
    match s with
    | [] => none
    | c :: cs =>
      if k.test c then
        match rep k.test (run ts) cs with
        | some (pre, r) => some ((c :: pre) :: r)
        | none => none
      else none
  | .star k :: ts, s =>
    match rep k.test (run ts) s with
    | some (_, r) => some r
    | none => none

/-- `pattern.match(s)` -/
def reMatch (toks : List Tok) (s : Str) : Option (List Str) :=
  match toks with
  | .bos :: ts => run ts s
  | ts => run ts s

def frameToks : List Tok := [.bos, .lit litA, .plus .any, .lit litB, .plus .digit, .lit litC, .plus .any, .eos]
def seToks : List Tok := [.bos, .lit litA, .plus .any, .lit litB, .plus .digit]
def ulToks : List Tok := [.bos, .star (.set " ^~".toList), .eos]

/-- `frame_match.groupdict()` as a frame record -/
def frameOfGroups : List Str → Option Frame
  | [fp, ln, fn] => some ⟨fp, ln, fn, []⟩
  | _ => none

def seFrameOfGroups : List Str → Option Frame
  | [fp, ln] => some ⟨fp, ln, [], []⟩
  | _ => none

def noNL (s : Str) : Bool := s.all fun c => c != '\n'

theorem digit_test : Cls.digit.test = isDigit := rfl

theorem noNL_cons {c : Char} {cs : Str} : noNL (c :: cs) = true ↔ c ≠ '\n' ∧ noNL cs = true := by
  simp [noNL]

theorem rep_all {k : Char → Bool} {cont : Str → Option (List Str)} {r : List Str} (h0 : cont [] = some r) :
    ∀ s : Str, s.all k = true → rep k cont s = some (s, r)
  | [], _ => by simp [rep, h0]
  | c :: cs, h => by
    simp only [List.all_cons, Bool.and_eq_true] at h
    simp [rep, h.1, rep_all h0 cs h.2]

theorem rep_nobacktrack {k : Char → Bool} {cont : Str → Option (List Str)}
    (hc : ∀ c cs, k c = true → cont (c :: cs) = none) :
    ∀ s : Str, rep k cont s = (cont (s.dropWhile k)).map fun r => (s.takeWhile k, r)
  | [] => by simp [rep]
  | c :: cs => by
    by_cases h : k c = true
    · simp only [rep, h, if_true, List.takeWhile_cons, List.dropWhile_cons, rep_nobacktrack hc cs, hc c cs h]
      cases cont (List.dropWhile k cs) <;> simp
    · simp [rep, h]

theorem rep_const {k : Char → Bool} {r : List Str} :
    ∀ s : Str, rep k (fun _ => some r) s = some (s.takeWhile k, r)
  | [] => by simp [rep]
  | c :: cs => by
    by_cases h : k c = true
    · simp [rep, h, rep_const cs]
    · simp [rep, h]

/-- used with `cont` = `$`, which also matches before a final `\n`: hence `noNL` -/
theorem rep_none {k : Char → Bool} {cont : Str → Option (List Str)}
    (hc : ∀ c cs, noNL (c :: cs) = true → cont (c :: cs) = none) :
    ∀ s : Str, noNL s = true → s.all k = false → rep k cont s = none
  | [], _, h => by simp at h
  | c :: cs, hn, h => by
    have hn' : noNL cs = true := (noNL_cons.mp hn).2
    by_cases hk : k c = true
    · have : cs.all k = false := by simpa [hk] using h
      simp [rep, hk, rep_none hc cs hn' this, hc c cs hn]
    · simp [rep, hk, hc c cs hn]

/-- greedy `.+` followed by a rest `cont`: the rightmost split at which `cont` succeeds (`findLast`) -/
theorem rep_findLast {k : Char → Bool} {cont : Str → Option (List Str)} {tm : Str → Option (Str × Str)}
    {f : Str × Str → List Str} (hc : ∀ s, s.all k = true → cont s = (tm s).map f) (h0 : tm [] = none) :
    ∀ s : Str, s.all k = true → rep k cont s = (findLast tm s).map fun p => (p.1, f p.2)
  | [], _ => by simp [rep, findLast, hc [] (by simp), h0]
  | c :: cs, h => by
    have h' := h
    simp only [List.all_cons, Bool.and_eq_true] at h
    simp only [rep, h.1, if_true, findLast, rep_findLast hc h0 cs h.2]
    cases findLast tm cs with
    | some p => simp
    | none =>
      simp only [Option.map_none, hc _ h']
      cases tm (c :: cs) <;> simp

theorem noNL_of_sublist {a b : Str} (h : a.Sublist b) (hb : noNL b = true) : noNL a = true :=
  List.all_eq_true.2 fun c hc => List.all_eq_true.1 hb c (h.subset hc)

theorem noNL_of_notSep {l : Str} (h : l.all notSep = true) : noNL l = true :=
  List.all_eq_true.2 fun c hc => bne_iff_ne.2 (ne_of_all h notSep_nl c hc)

theorem noNL_dropPrefix {p s r : Str} (h : dropPrefix? p s = some r) (hn : noNL s = true) : noNL r = true :=
  noNL_of_sublist (dropPrefix?_sound h ▸ List.sublist_append_right p r) hn

theorem noNL_dropWhile (k : Char → Bool) (s : Str) (h : noNL s = true) : noNL (s.dropWhile k) = true :=
  noNL_of_sublist (List.dropWhile_sublist k) h

theorem noNL_strip (s : Str) (h : noNL s = true) : noNL (strip s) = true :=
  noNL_of_sublist (strip_sublist s) h

theorem noNL_iff_all_any {s : Str} : noNL s = true ↔ s.all Cls.any.test = true := by
  simp [noNL, Cls.test]

theorem run_nil (s : Str) : run [] s = some [] := by rw [run]
theorem run_eos (ts : List Tok) (s : Str) :
    run (.eos :: ts) s = if s = [] ∨ s = ['\n'] then run ts s else none := by rw [run]
theorem run_lit (p : Str) (ts : List Tok) (s : Str) :
    run (.lit p :: ts) s = match dropPrefix? p s with | some r => run ts r | none => none := by rw [run]
theorem run_plus_nil (k : Cls) (ts : List Tok) : run (.plus k :: ts) [] = none := by rw [run]
theorem run_plus_cons (k : Cls) (ts : List Tok) (c : Char) (cs : Str) :
    run (.plus k :: ts) (c :: cs)
      = if k.test c then
          match rep k.test (run ts) cs with
          | some (pre, r) => some ((c :: pre) :: r)
          | none => none
        else none := by rw [run]
theorem run_star (k : Cls) (ts : List Tok) (s : Str) :
    run (.star k :: ts) s = match rep k.test (run ts) s with | some (_, r) => some r | none => none := by rw [run]

theorem litC_eq : litC = [',', ' ', 'i', 'n', ' '] := by decide

theorem run_eos_nil : run [.eos] [] = some [] := by simp [run_eos, run_nil]

theorem run_eos_cons (c : Char) (cs : Str) (h : noNL (c :: cs) = true) : run [.eos] (c :: cs) = none := by
  have : c ≠ '\n' := (noNL_cons.mp h).1
  rw [run_eos]
  split
  · rename_i h'
    rcases h' with h' | h'
    · simp at h'
    · simp only [List.cons.injEq] at h'; exact absurd h'.1 this
  · rfl

/-- `, in (.+)$` -/
theorem run_func (s : Str) (hn : noNL s = true) :
    run [.lit litC, .plus .any, .eos] s
      = match dropPrefix? litC s with
        | none => none
        | some fn => if fn = [] then none else some [fn] := by
  rw [run_lit]
  cases hd : dropPrefix? litC s with
  | none => rfl
  | some fn =>
    have hf := noNL_dropPrefix hd hn
    cases fn with
    | nil => simp [run_plus_nil]
    | cons c cs =>
      have hc : Cls.any.test c = true ∧ cs.all Cls.any.test = true := by
        have := noNL_iff_all_any.1 hf
        simpa [List.all_cons, Bool.and_eq_true] using this
      simp only [run_plus_cons, hc.1, if_true, rep_all run_eos_nil cs hc.2]
      simp

/-- `, in (.+)$` cannot start on a digit: the run of `\d+` before it is never given back (`rep_nobacktrack`) -/
theorem run_func_digit (c : Char) (cs : Str) (hc : Cls.digit.test c = true) :
    run [.lit litC, .plus .any, .eos] (c :: cs) = none := by
  have : ¬ (',' = c) := by
    intro h; subst h; simp [Cls.test, isDigit_comma] at hc
  rw [run_lit, litC_eq]
  simp [dropPrefix?, this]

/-- `", line (\d+), in (.+)$` is `tailMatch` -/
theorem run_tail (s : Str) (hn : noNL s = true) :
    run [.lit litB, .plus .digit, .lit litC, .plus .any, .eos] s = (tailMatch s).map fun x => [x.1, x.2] := by
  rw [run_lit, tailMatch]
  cases hd : dropPrefix? litB s with
  | none => rfl
  | some r =>
    have hr := noNL_dropPrefix hd hn
    simp only
    cases r with
    | nil => simp [run_plus_nil]
    | cons d ds =>
      rw [run_plus_cons]
      by_cases hdig : isDigit d = true
      · have hds : noNL ds = true := (noNL_cons.mp hr).2
        rw [rep_nobacktrack run_func_digit ds, digit_test, run_func _ (noNL_dropWhile _ ds hds)]
        simp only [hdig, if_true, List.takeWhile_cons, List.dropWhile_cons]
        cases dropPrefix? litC (List.dropWhile isDigit ds) with
        | none => simp
        | some fn => by_cases hfn : fn = [] <;> simp [hfn]
      · simp [Cls.test, hdig]

/-- `", line (\d+)` (no end anchor) is `tailMatchSE` -/
theorem run_tailSE (s : Str) :
    run [.lit litB, .plus .digit] s = (tailMatchSE s).map fun x => [x.1] := by
  rw [run_lit, tailMatchSE]
  cases hd : dropPrefix? litB s with
  | none => rfl
  | some r =>
    simp only
    cases r with
    | nil => simp [run_plus_nil]
    | cons d ds =>
      rw [run_plus_cons]
      have : run [] = fun _ => some [] := by funext s; simp [run_nil]
      by_cases hdig : isDigit d = true
      · simp [digit_test, hdig, this, rep_const]
      · simp [digit_test, hdig]

theorem plus_any_findLast {ts : List Tok} {tm : Str → Option (Str × Str)} {f : Str × Str → List Str}
    (hc : ∀ s, noNL s = true → run ts s = (tm s).map f) (h0 : tm [] = none) (r : Str) (hn : noNL r = true) :
    run (.plus .any :: ts) r
      = match findLast tm r with
        | none => none
        | some (fp, x) => if fp = [] then none else some (fp :: f x) := by
  cases r with
  | nil => simp [run_plus_nil, findLast]
  | cons c cs =>
    have h2 : Cls.any.test c = true ∧ cs.all Cls.any.test = true := by
      have := noNL_iff_all_any.1 hn
      simpa [List.all_cons, Bool.and_eq_true] using this
    have hc' : ∀ s, s.all Cls.any.test = true → run ts s = (tm s).map f := fun s hs => hc s (noNL_iff_all_any.2 hs)
    rw [run_plus_cons, rep_findLast hc' h0 cs h2.2]
    simp only [h2.1, if_true, findLast]
    cases findLast tm cs with
    | some p => simp
    | none => cases tm (c :: cs) <;> simp

theorem tailMatch_nil : tailMatch [] = none := by decide
theorem tailMatchSE_nil : tailMatchSE [] = none := by decide

theorem tailMatchSE_func {s : Str} {x : Str × Str} (h : tailMatchSE s = some x) : x.2 = [] := by
  unfold tailMatchSE at h
  split at h
  · simp at h
  · split at h
    · simp at h
    · simp only [Option.some.injEq] at h; subst h; rfl

/-- `^File "(.+)` followed by a rest of the pattern that is `tm`: the hand scanner `matchWith tm`, for every line without
    `\n`; `f` lists the groups of the rest, `g` reads the frame off all groups -/
theorem matchWith_eq_re {ts : List Tok} {tm : Str → Option (Str × Str)} {f : Str × Str → List Str}
    {g : List Str → Option Frame} (hc : ∀ s, noNL s = true → run ts s = (tm s).map f) (h0 : tm [] = none)
    (hg : ∀ fp s x, tm s = some x → g (fp :: f x) = some ⟨fp, x.1, x.2, []⟩) (l : Str) (hn : noNL l = true) :
    matchWith tm l = (reMatch (.bos :: .lit litA :: .plus .any :: ts) l).bind g := by
  unfold matchWith reMatch
  simp only [run_lit]
  cases hd : dropPrefix? litA l with
  | none => rfl
  | some r =>
    simp only
    rw [plus_any_findLast hc h0 r (noNL_dropPrefix hd hn)]
    cases h : findLast tm r with
    | none => rfl
    | some p =>
      obtain ⟨fp, x⟩ := p
      obtain ⟨t, -, ht⟩ := findLast_sound h
      by_cases hfp : fp = [] <;> simp [hfp, hg fp t x ht]

theorem matchFrame_eq_re (l : Str) (hn : noNL l = true) :
    matchFrame l = (reMatch frameToks l).bind frameOfGroups :=
  matchWith_eq_re (f := fun x => [x.1, x.2]) run_tail tailMatch_nil (fun _ _ _ _ => rfl) l hn

theorem matchSE_eq_re (l : Str) (hn : noNL l = true) :
    matchSE l = (reMatch seToks l).bind seFrameOfGroups :=
  matchWith_eq_re (f := fun x => [x.1]) (fun s _ => run_tailSE s) tailMatchSE_nil
    (fun fp s x h => by simp [seFrameOfGroups, tailMatchSE_func h]) l hn

theorem ul_test (c : Char) : (Cls.set " ^~".toList).test c = isUnderlineChar c := by
  have : " ^~".toList = [' ', '^', '~'] := by decide
  simp only [Cls.test, this, isUnderlineChar, List.contains_cons, List.contains_nil, Bool.or_false]
  by_cases h1 : c = ' ' <;> by_cases h2 : c = '^' <;> by_cases h3 : c = '~' <;> simp [h1, h2, h3]

theorem isUnderline_eq_re (l : Str) (hn : noNL l = true) : isUnderline l = (reMatch ulToks l).isSome := by
  unfold reMatch ulToks
  simp only [run_star]
  have ht : (Cls.set " ^~".toList).test = isUnderlineChar := funext ul_test
  rw [ht]
  by_cases h : l.all isUnderlineChar = true
  · rw [rep_all run_eos_nil l h]; simp [isUnderline, h]
  · have h' : l.all isUnderlineChar = false := by simpa using h
    rw [rep_none run_eos_cons l hn h']
    simp [isUnderline, h']

/-! `fromLinesG` is the body of ParsedException.from_string over three abstract matchers; `fromStringRe` runs it with the
generic matcher on three token lists, and on `frameToks`, `seToks`, `ulToks` it equals the hand-scanner model
`fromStringF` on every text (`fromStringRe_eq`).  `skipUnderlineG`, `parseLoopG` take the marker test, built into the
model's loop, as a parameter. -/

def takeSourceG := @takeSource

def skipUnderlineG (ul : Str → Bool) (rest : List Str) : List Str :=
  match rest with
  | [] => []
  | u :: rest' => if ul u then rest' else rest

theorem skipUnderlineG_len (ul : Str → Bool) (rest : List Str) : (skipUnderlineG ul rest).length ≤ rest.length := by
  unfold skipUnderlineG
  split
  · simp
  · split <;> simp

def parseLoopG (re : Str → Option Frame) (ul : Str → Bool) (ls : List Str) : List Frame × List Str :=
  match ls with
  | [] => ([], [])
  | l :: rest =>
    match re (strip l) with
    | none => ([], l :: rest)
    | some fd =>
      let r := parseLoopG re ul (skipUnderlineG ul (takeSource re rest).2)
      ({ fd with src := (takeSource re rest).1 } :: r.1, r.2)
termination_by ls.length
decreasing_by
  have h1 := takeSource_len re rest
  have h2 := skipUnderlineG_len ul (takeSource re rest).2
  simp only [List.length_cons]
  omega

def fromLinesG (mf mse : Str → Option Frame) (ul : Str → Bool) (ls0 : List Str) : Except Err (Form × PE) :=
  let ls := dropTrailers ls0
  match ls with
  | first :: rest =>
    if strip first = header then
      let r := parseLoopG mf ul rest
      .ok (.tb, ⟨r.1, (excParts r.2).1, (excParts r.2).2⟩)
    else if secondLastIsCaret ls then
      let r := parseLoopG mse ul ls
      .ok (.se, ⟨r.1, (excParts r.2).1, (excParts r.2).2⟩)
    else .error .valueError
  | [] => .error .valueError

def reFrame (toks : List Tok) (l : Str) : Option Frame := (reMatch toks l).bind frameOfGroups
def reSE (toks : List Tok) (l : Str) : Option Frame := (reMatch toks l).bind seFrameOfGroups
def reUL (toks : List Tok) (l : Str) : Bool := (reMatch toks l).isSome

def fromStringRe (ft st ut : List Tok) (t : Str) : Except Err (Form × PE) :=
  fromLinesG (reFrame ft) (reSE st) (reUL ut) (splitlines (lstrip t))

theorem splitlinesGo_noNL (s : Str) (b : Bool) : ∀ l ∈ splitlinesGo b s, noNL l = true :=
  fun l hl => noNL_of_notSep (splitlinesGo_notSep s b l hl)

/-! the frame loop consults its matchers on its own lines only -/

theorem skipUnderlineG_mem (ul : Str → Bool) (rest : List Str) : ∀ l ∈ skipUnderlineG ul rest, l ∈ rest := by
  unfold skipUnderlineG
  cases rest with
  | nil => simp
  | cons u rest' =>
    simp only
    split
    · intro l hl; exact List.mem_cons_of_mem _ hl
    · intro l hl; exact hl

theorem skipUnderlineG_congr {ul ul' : Str → Bool} {rest : List Str} (h : ∀ l ∈ rest, ul l = ul' l) :
    skipUnderlineG ul rest = skipUnderlineG ul' rest := by
  unfold skipUnderlineG
  cases rest with
  | nil => rfl
  | cons u rest' => simp only; rw [h u (List.mem_cons_self ..)]

theorem parseLoopG_congr {re re' : Str → Option Frame} {ul ul' : Str → Bool} (ls : List Str)
    (h : ∀ l ∈ ls, re (strip l) = re' (strip l)) (hu : ∀ l ∈ ls, ul l = ul' l) :
    parseLoopG re ul ls = parseLoopG re' ul' ls := by
  fun_induction parseLoopG re ul ls with
  | case1 => rw [parseLoopG]
  | case2 l rest hn => rw [parseLoopG, ← h l (List.mem_cons_self ..)]; simp only [hn]
  | case3 l rest fd hs r ih =>
    have hts : ∀ x ∈ (takeSource re rest).2, x ∈ l :: rest := fun x hx =>
      List.mem_cons_of_mem _ (takeSource_mem re rest x hx)
    have hsk : ∀ x ∈ skipUnderlineG ul (takeSource re rest).2, x ∈ l :: rest := fun x hx =>
      hts x (skipUnderlineG_mem ul _ x hx)
    conv => rhs; rw [parseLoopG]
    simp only [← h l (List.mem_cons_self ..), hs, ← takeSource_congr fun x hx => h x (List.mem_cons_of_mem _ hx),
      ← skipUnderlineG_congr fun x hx => hu x (hts x hx),
      ← ih (fun x hx => h x (hsk x hx)) fun x hx => hu x (hsk x hx)]
    rfl

theorem skipUnderlineG_eq (rest : List Str) : skipUnderlineG isUnderline rest = skipUnderline rest := rfl

theorem parseLoopG_eq (re : Str → Option Frame) (ls : List Str) : parseLoopG re isUnderline ls = parseLoop re ls := by
  fun_induction parseLoop re ls with
  | case1 => rw [parseLoopG]
  | case2 l rest h => rw [parseLoopG]; simp only [h]
  | case3 l rest fd h r ih => rw [parseLoopG]; simp only [h, skipUnderlineG_eq, ih]; rfl

/-- for every text: the lines come out of str.splitlines, so neither they nor their strip() contain `\n`, which is what
    `matchFrame_eq_re`, `matchSE_eq_re`, `isUnderline_eq_re` ask for -/
theorem fromStringRe_eq (t : Str) : fromStringRe frameToks seToks ulToks t = fromStringF t := by
  unfold fromStringRe fromStringF fromLinesG fromLinesF
  have hall : ∀ l ∈ dropTrailers (splitlines (lstrip t)), noNL l = true :=
    fun l hl => splitlinesGo_noNL _ false l (dropTrailers_mem _ l hl)
  simp only
  cases hd : dropTrailers (splitlines (lstrip t)) with
  | nil => rfl
  | cons first rest =>
    rw [hd] at hall
    have hf : ∀ l ∈ first :: rest, reFrame frameToks (strip l) = matchFrame (strip l) := fun l hl =>
      (matchFrame_eq_re _ (noNL_strip _ (hall l hl))).symm
    have hs : ∀ l ∈ first :: rest, reSE seToks (strip l) = matchSE (strip l) := fun l hl =>
      (matchSE_eq_re _ (noNL_strip _ (hall l hl))).symm
    have hu : ∀ l ∈ first :: rest, reUL ulToks l = isUnderline l := fun l hl => (isUnderline_eq_re l (hall l hl)).symm
    simp only
    have hmem : ∀ l ∈ rest, l ∈ first :: rest := fun l hl => List.mem_cons_of_mem _ hl
    rw [parseLoopG_congr rest (fun l hl => hf l (hmem l hl)) (fun l hl => hu l (hmem l hl)), parseLoopG_eq,
      parseLoopG_congr (first :: rest) hs hu, parseLoopG_eq]

end C16.Re
