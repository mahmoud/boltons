import BoltonsVerif.C16.Proofs
import BoltonsVerif.C16.Regex
import BoltonsVerif.C16.Extra
/-
C16 — property theorems.

Clause 1.  "For every traceback text in the interpreter's standard format — any number of frames,
frames with or without a source line, any exception type name, empty / one-line / multi-line
message — ParsedException.from_string recovers each frame's file, line number, function and source
line and the exception type and message, and to_string() reproduces the text exactly."

  A text in the standard format is `toStringA fas etype msg`: the header, per frame the frame line,
  the source line when there is one and (3.11+) an optional position-marker line, then the exception
  line(s).  `WFtextA` / `WFpe` are the explicit decidable side conditions (see Model.lean):
  no str.splitlines separator inside a field (only `\n`, inside the message), the message does not
  end in `\n`, its last line is not of the form `Exception ... ignored`, source lines are stripped
  and do not themselves look like frame lines, function names contain no `", line N, in x`,
  the type name is a non-empty run of non-space characters that is not made of `~`/`^` only.
  Outside these conditions the FULL statement (the one without side conditions) is false for the code as it is
  (three witnesses below, recorded as known findings and replayed on the real code on every run).

Clause 2.  "TracebackInfo/ExceptionInfo ... list the same frames in the same order with the same
file, line, function and source text as the standard traceback module, and their formatted output
equals the interpreter's (position-marker lines aside)."

  The formatting algorithms are proved equal to the interpreter's for every list of entries (`format_eq_std`,
  `print_exception_eq_std`, `tbinfo_format_eq`) - also for runs of more than 3 identical entries
  (recursion), which are collapsed into `[Previous line repeated N more times]`.
  The frame walk is modelled from what the interpreter hands over per traceback entry (`TbEntry`: file,
  line number, function, the identity of the frame object, and what linecache can see of the file: cache
  entry, file on disk, loader): TracebackInfo.from_traceback lists every entry whatever frame it refers to,
  and `_DeferredLine` finds the line the traceback module finds - the current one, never a stale cached one
  (`deferred_line_current`).  FULL statement `deferredRaw p k = stdRaw p k` is false in one state
  (`lookup_eq_std_false`: complete cache entry, file gone, loader at hand - on the real interpreter the
  traceback module has no stable answer there); `lookup_eq_std_partial` assumes `LookOK`.  How the
  interpreter builds the entries (tb_next, f_code, tb_lineno) is tied by the correspondence only.
-/
namespace C16

/-! ## the source's regexes are the ones the scanners implement (regenerated on every run) -/

theorem source_regexes_agree :
    Gen.frameReShape = ["^".toList, "lit:".toList ++ litA, "any+".toList, "lit:".toList ++ litB,
                        "digit+".toList, "lit:".toList ++ litC, "any+".toList, "$".toList] ∧
    Gen.seFrameReShape = ["^".toList, "lit:".toList ++ litA, "any+".toList, "lit:".toList ++ litB,
                          "digit+".toList] ∧
    Gen.underlineReShape = ["^".toList, "set*: ^~".toList, "$".toList] := by decide +kernel

/-! ## the source's patterns, run by a generic backtracking matcher, are the scanners of the model

`Re.reMatch` (Regex.lean) is a matcher for the fragment of `re` syntax the three patterns use (`^`, `$`, literals,
greedy `X+` / `X*` over `.`, `\d`, `[...]`; longest run first, characters given back one by one), independent of
these particular patterns.  The token lists are regenerated from the source on every run.  The theorems quantify over
whatever token list a regenerated shape parses to, so that they speak of the source's patterns (`Gen.*`). -/

/-- the regenerated shapes parse to the token lists Regex.lean proves the scanners against -/
theorem source_patterns_parse :
    Re.parseToks Gen.frameReShape = some Re.frameToks ∧ Re.parseToks Gen.seFrameReShape = some Re.seToks ∧
    Re.parseToks Gen.underlineReShape = some Re.ulToks := by decide +kernel

/-- `_frame_re.match(line).groupdict()`, computed by the generic matcher on the source's pattern, is what the
    hand scanner `matchFrame` computes (rightmost `", line N, in f"` split, non-empty path), for every line -/
theorem frame_scanner_is_source_regex (ft : List Re.Tok) (h : Re.parseToks Gen.frameReShape = some ft)
    (l : Str) (hn : Re.noNL l = true) : matchFrame l = (Re.reMatch ft l).bind Re.frameOfGroups := by
  rw [Option.some.inj (h.symm.trans source_patterns_parse.1)]
  exact Re.matchFrame_eq_re l hn

/-- the same for the SyntaxError form `_se_frame_re` -/
theorem se_scanner_is_source_regex (st : List Re.Tok) (h : Re.parseToks Gen.seFrameReShape = some st)
    (l : Str) (hn : Re.noNL l = true) : matchSE l = (Re.reMatch st l).bind Re.seFrameOfGroups := by
  rw [Option.some.inj (h.symm.trans source_patterns_parse.2.1)]
  exact Re.matchSE_eq_re l hn

/-- `_underline_re.match(line)` succeeds exactly on the lines `isUnderline` accepts -/
theorem underline_scanner_is_source_regex (ut : List Re.Tok) (h : Re.parseToks Gen.underlineReShape = some ut)
    (l : Str) (hn : Re.noNL l = true) : isUnderline l = (Re.reMatch ut l).isSome := by
  rw [Option.some.inj (h.symm.trans source_patterns_parse.2.2)]
  exact Re.isUnderline_eq_re l hn

/-- ParsedException.from_string with its three `.match` calls evaluated by the generic matcher on the source's
    patterns is the model `fromStringF` the clause-1 theorems are about - for every text (the lines it matches come
    out of str.splitlines and strip(), so they contain no `\n`) -/
theorem from_string_is_source_regexes (ft st ut : List Re.Tok)
    (h1 : Re.parseToks Gen.frameReShape = some ft) (h2 : Re.parseToks Gen.seFrameReShape = some st)
    (h3 : Re.parseToks Gen.underlineReShape = some ut) (t : Str) :
    Re.fromStringRe ft st ut t = fromStringF t := by
  rw [Option.some.inj (h1.symm.trans source_patterns_parse.1),
    Option.some.inj (h2.symm.trans source_patterns_parse.2.1),
    Option.some.inj (h3.symm.trans source_patterns_parse.2.2)]
  exact Re.fromStringRe_eq t

/- `String.toList_ofList` reads the characters off a literal; evaluating `String.toList` on it is quadratic in its length -/
example : Re.reMatch Re.frameToks "File \"/x \", line 5, in g/é.py\", line 12, in <lambda>".toList
    = some ["/x \", line 5, in g/é.py".toList, "12".toList, "<lambda>".toList] := by
  repeat rw [String.toList_ofList]
  decide +kernel
example : Re.reMatch Re.frameToks "File \"a\", line 12, in ".toList = none := by
  rw [String.toList_ofList]
  decide +kernel
example : Re.reMatch Re.seToks "File \"a\", line 12x".toList = some ["a".toList, "12".toList] := by
  repeat rw [String.toList_ofList]
  decide +kernel
example : Re.reMatch Re.ulToks "  ~~^^ ".toList = some [] ∧ Re.reMatch Re.ulToks " ~x".toList = none := by
  repeat rw [String.toList_ofList]
  decide +kernel

/-! ## clause 1 -/

/-- from_string recovers every field from a standard-format text, marker lines or not -/
theorem parse_render_markers (fas : List (Frame × Option Str)) (etype msg : Str)
    (h : WFtextA fas etype msg = true) :
    fromString (toStringA fas etype msg) = .ok ⟨fas.map (·.1), etype, msg⟩ :=
  fromString_of_fromStringF (fromStringF_rendered fas etype msg h)

/-- the same statement about from_string run on the source's own patterns (generic matcher), not on the hand
    scanners: every field of a standard-format text is recovered -/
theorem parse_render_markers_source_regexes (ft st ut : List Re.Tok)
    (h1 : Re.parseToks Gen.frameReShape = some ft) (h2 : Re.parseToks Gen.seFrameReShape = some st)
    (h3 : Re.parseToks Gen.underlineReShape = some ut)
    (fas : List (Frame × Option Str)) (etype msg : Str) (h : WFtextA fas etype msg = true) :
    (Re.fromStringRe ft st ut (toStringA fas etype msg)).map (·.2) = .ok ⟨fas.map (·.1), etype, msg⟩ := by
  rw [from_string_is_source_regexes ft st ut h1 h2 h3]
  exact parse_render_markers fas etype msg h

/-- ... also when the text carries the interpreter's final newline -/
theorem parse_render_final_newline (fas : List (Frame × Option Str)) (etype msg : Str)
    (h : WFtextA fas etype msg = true) :
    fromString (toStringA fas etype msg ++ ['\n']) = .ok ⟨fas.map (·.1), etype, msg⟩ :=
  fromString_of_fromStringF (fromStringF_rendered_nl fas etype msg h)

theorem parse_render (pe : PE) (h : WFpe pe = true) : fromString (toString pe) = .ok pe := by
  rw [toString_eq_toStringA, parse_render_markers _ _ _ (WFtextA_noAnchors pe h), map_fst_noAnchors]

/-- render ∘ parse reproduces a standard-format text exactly (no marker lines in it) -/
theorem render_parse (pe : PE) (h : WFpe pe = true) :
    (fromString (toString pe)).map toString = .ok (toString pe) := by
  rw [parse_render pe h]; rfl

/-- with marker lines, to_string reproduces the text without them (to_string never prints markers) -/
theorem render_parse_markers (fas : List (Frame × Option Str)) (etype msg : Str)
    (h : WFtextA fas etype msg = true) :
    (fromString (toStringA fas etype msg)).map toString
      = .ok (toStringA (fas.map fun fa => (fa.1, none)) etype msg) := by
  rw [parse_render_markers fas etype msg h]
  simp only [Except.map, toString_eq_toStringA, noAnchors, List.map_map]
  rfl

/-- plain sufficient conditions for `WFframe`: any non-empty path without line separators (spaces, quotes,
    non-ASCII allowed), a decimal line number, a function name without `"` that does not end in a
    space (`<module>`, `<lambda>`, identifiers), and a stripped source line that does not start with `F` -/
theorem wfframe_simple (f : Frame) (h1 : f.file ≠ []) (h2 : f.file.all notSep = true)
    (h3 : f.lineno ≠ []) (h4 : f.lineno.all isDigit = true)
    (h5 : f.func.all notSep = true) (h6 : lastNotSpace f.func = true) (h7 : ∀ c ∈ f.func, c ≠ '"')
    (h8 : f.src = [] ∨ (f.src.all notSep = true ∧ firstNotSpace f.src = true ∧ lastNotSpace f.src = true ∧
          f.src.head? ≠ some 'F')) : WFframe f = true := by
  have hs : WFsrc f.src = true := by
    unfold WFsrc
    rcases h8 with h8 | ⟨a, b, c, d⟩
    · simp [h8]
    · simp [a, b, c, matchFrame_none_of_head d]
  simp [WFframe, h1, h2, h3, h4, h5, h6, noTail_of_noQuote h7, hs]

example : WFframe ⟨"C:\\d \"x\"\\é.py".toList, "12".toList, "<lambda>".toList, "x = f(\"a\")".toList⟩ = true :=
  wfframe_simple _ (by decide) (by decide +kernel) (by decide) (by decide +kernel) (by decide +kernel)
    (by decide +kernel) (by decide) (Or.inr (by decide +kernel))

/-- the same for a text given as such: `WFtext` is a decidable predicate on texts (layout reading gives
    well-formed data whose standard rendering is the text); for every such text from_string succeeds,
    recovers that data, and to_string gives the text back, character for character -/
theorem render_parse_text (t : Str) (h : WFtext t = true) :
    ∃ pe, readText t = some pe ∧ WFpe pe = true ∧ fromString t = .ok pe ∧ (fromString t).map toString = .ok t := by
  unfold WFtext at h
  cases hr : readText t with
  | none => rw [hr] at h; simp at h
  | some pe =>
    rw [hr] at h
    simp only [Bool.and_eq_true, beq_iff_eq] at h
    refine ⟨pe, rfl, h.1, ?_, ?_⟩
    · rw [← h.2]; exact parse_render pe h.1
    · rw [← h.2, parse_render pe h.1]; rfl

/-- the texts accepted by the decidable predicate `WFtext` are exactly the standard renderings of
    well-formed data (so every text the harness generates from well-formed data provably satisfies it) -/
theorem wftext_iff (t : Str) : WFtext t = true ↔ ∃ pe, WFpe pe = true ∧ toString pe = t := by
  constructor
  · intro h
    obtain ⟨pe, _, h2, h3, h4⟩ := render_parse_text t h
    refine ⟨pe, h2, ?_⟩
    rw [h3] at h4
    exact Except.ok.inj h4
  · rintro ⟨pe, h1, rfl⟩
    exact WFtext_toString pe h1

/-- a traceback text without exception line (traceback.format_stack, TracebackInfo.get_formatted):
    every frame is recovered, type and message are empty -/
theorem parse_stack_text (frames : List Frame) (hall : frames.all WFframe = true) (hne : frames ≠ []) :
    fromString (joinNL (header :: frames.flatMap frameLines)) = .ok ⟨frames, [], []⟩ :=
  fromString_of_fromStringF (fromStringF_stack frames (by simpa [List.all_eq_true] using hall) hne)

/-! non-vacuity: a two-frame text with a non-ASCII path, a marker line, a last frame without source
    line and a multi-line message containing `": "` and a frame-like line satisfies the hypotheses -/

def exFrames : List (Frame × Option Str) :=
  [(⟨"/x y/é.py".toList, "12".toList, "<module>".toList, "foo(1, \"a: b\")".toList⟩, some "    ~~~^^^".toList),
   (⟨"<stdin>".toList, "3".toList, "<lambda>".toList, []⟩, none)]
def exMsg : Str := "a: b\n  File \"q\", line 3, in z\n\nlast".toList

example : WFtextA exFrames "pkg.mod.Err".toList exMsg = true := by
  unfold exFrames exMsg
  repeat rw [String.toList_ofList]
  decide +kernel
example : WFpe ⟨exFrames.map (·.1), "ValueError".toList, []⟩ = true := by
  unfold exFrames
  repeat rw [String.toList_ofList]
  decide +kernel
example : WFpe ⟨[], "f.<locals>.E".toList, "x".toList⟩ = true := by decide +kernel
example : WFtext ("Traceback (most recent call last):\n  File \"/x y/é.py\", line 12, in <module>\n" ++
    "    foo(1, \"a: b\")\n  File \"<stdin>\", line 3, in <lambda>\npkg.Err: a: b\n  File \"q\", line 3, in z\n\nlast").toList
    = true := by
  simp only [String.toList_append]
  repeat rw [String.toList_ofList]
  decide +kernel
example : (exFrames.map (·.1)).all WFframe = true ∧ exFrames.map (·.1) ≠ [] := by
  unfold exFrames
  repeat rw [String.toList_ofList]
  decide +kernel

/-- the result of a from_string call does not depend on the calls before it: the last result of a session is the
    parse of the last text alone -/
theorem parse_session_history_independent (pre : List Str) (t : Str) :
    (parseSession (pre ++ [t])).getLast? = some (fromString t) := by
  simp [parseSession]

/-- in particular a standard-format text parsed a second (third, ...) time - after other texts, after the same text,
    after texts that share frame lines with it, after calls that failed - gives every field of the TEXT again -/
theorem reparse_recovers_text (pre : List Str) (fas : List (Frame × Option Str)) (etype msg : Str)
    (h : WFtextA fas etype msg = true) :
    (parseSession (pre ++ [toStringA fas etype msg, toStringA fas etype msg])).drop pre.length
      = [.ok ⟨fas.map (·.1), etype, msg⟩, .ok ⟨fas.map (·.1), etype, msg⟩] := by
  simp [parseSession, parse_render_markers fas etype msg h]

example : (parseSession ["no traceback".toList, toStringA exFrames "E".toList "x".toList,
                         toStringA (exFrames.map fun fa => (⟨fa.1.file, fa.1.lineno, fa.1.func, "other()".toList⟩, none)) "E".toList "x".toList,
                         toStringA exFrames "E".toList "x".toList]).map (fun r => match r with | .ok pe => some pe | .error _ => none)
    = [none, some ⟨exFrames.map (·.1), "E".toList, "x".toList⟩,
       some ⟨exFrames.map fun fa => ⟨fa.1.file, fa.1.lineno, fa.1.func, "other()".toList⟩, "E".toList, "x".toList⟩,
       some ⟨exFrames.map (·.1), "E".toList, "x".toList⟩] := by decide +kernel

/-! the regions the hypotheses exclude: real defects of the code (known findings), each with its exact extent -/

/-- a message ending in a newline is not recovered -/
theorem parse_render_false_trailing_newline :
    ∃ pe : PE, fromString (toString pe) ≠ .ok pe := by
  refine ⟨⟨[], "E".toList, "a".toList ++ ['\n']⟩, ?_⟩
  -- the text is that of the message `a` with a final newline, and from_string returns `a`
  rw [toString_msg_nl ⟨[], "E".toList, "a".toList⟩ (by decide), toString_eq_toStringA,
    parse_render_final_newline _ _ _ (by decide +kernel)]
  intro h; have := Except.ok.inj h; revert this; decide

/-- ... and that is all that is lost there: for a non-empty message, a final newline of the message is dropped and
    every other field is recovered (the exact extent of known finding C16-message-trailing-newline) -/
theorem parse_render_trailing_newline_exact (pe : PE) (h : WFpe pe = true) (hm : pe.msg ≠ []) :
    fromString (toString ⟨pe.frames, pe.etype, pe.msg ++ ['\n']⟩) = .ok pe := by
  rw [toString_msg_nl pe hm, toString_eq_toStringA, parse_render_final_newline _ _ _ (WFtextA_noAnchors pe h),
    map_fst_noAnchors]

example : WFpe ⟨exFrames.map (·.1), "E".toList, "a".toList⟩ = true ∧ "a".toList ≠ [] := by
  unfold exFrames
  repeat rw [String.toList_ofList]
  decide +kernel

/-- the exact extent of known finding C16-trailer-line-in-message: when a (non-empty) message is followed by one
    more message line of the form `Exception ... ignored`, from_string returns everything but that line -/
theorem parse_render_trailer_exact (fas : List (Frame × Option Str)) (etype msg tl : Str)
    (h : WFtextA fas etype msg = true) (hm : msg ≠ []) (ht : isTrailer tl = true) (hs : tl.all notSep = true) :
    fromString (toStringA fas etype (msg ++ '\n' :: tl)) = .ok ⟨fas.map (·.1), etype, msg⟩ :=
  fromString_of_fromStringF (fromStringF_rendered_trailer fas etype msg tl h hm ht hs)

example : WFtextA exFrames "E".toList "x".toList = true ∧ isTrailer "Exception in thread ignored".toList = true ∧
    "Exception in thread ignored".toList.all notSep = true := by
  unfold exFrames
  repeat rw [String.toList_ofList]
  decide +kernel

/-- a message containing another str.splitlines separator is not recovered -/
theorem parse_render_false_separator :
    ∃ pe : PE, pe.msg.getLast? ≠ some '\n' ∧ fromString (toString pe) ≠ .ok pe := by
  refine ⟨⟨[], "E".toList, "a\x0cb".toList⟩, by decide +kernel, ?_⟩
  -- from_string returns the message with `\n` in place of the form feed
  rw [fromString_of_fromStringF (fromStringF_separators _ (by decide) (by decide +kernel))]
  intro h; have := Except.ok.inj h; revert this; decide +kernel

/-- the exact extent of known finding C16-exotic-line-separators (for the message): every other str.splitlines
    separator in the message - `\r`, `\r\n`, `\x0b`, `\x0c`, `\x1c`-`\x1e`, `\x85`, U+2028, U+2029 - comes back as `\n`
    (`normSeps`), and nothing else changes: frames, type and the rest of the message are recovered -/
theorem parse_render_separator_exact (pe : PE) (hm : pe.msg ≠ [])
    (h : WFpe ⟨pe.frames, pe.etype, normSeps pe.msg⟩ = true) :
    fromString (toString pe) = .ok ⟨pe.frames, pe.etype, normSeps pe.msg⟩ :=
  fromString_of_fromStringF (fromStringF_separators pe hm h)

example : normSeps "a b\r\nc\x0cd: e\rf".toList = "a\nb\nc\nd: e\nf".toList ∧
    WFpe ⟨exFrames.map (·.1), "E".toList, normSeps "a b\r\nc\x0cd: e\rf".toList⟩ = true := by
  unfold exFrames
  repeat rw [String.toList_ofList]
  decide +kernel

/-- a message whose last line reads `Exception ... ignored` loses that line -/
theorem parse_render_false_trailer :
    ∃ pe : PE, fromString (toString pe) ≠ .ok pe := by
  refine ⟨⟨[], "E".toList, "x".toList ++ '\n' :: "Exception in thread ignored".toList⟩, ?_⟩
  repeat rw [String.toList_ofList]
  -- from_string returns the message without its last line
  rw [toString_eq_toStringA]
  simp only [noAnchors, List.map_nil]
  rw [parse_render_trailer_exact [] _ _ _ (by decide +kernel) (by decide) (by decide +kernel) (by decide +kernel)]
  intro h; have := Except.ok.inj h; revert this; decide +kernel

/-! ## clause 2 -/

/-- TracebackInfo.from_traceback(tb, limit) lists the entries extract_tb(tb, limit) lists, in order -/
theorem frames_eq_extract_tb (tb : List Callpoint) (limit : Option Nat) :
    fromTraceback tb limit = stdExtract tb limit := rfl

/-- Callpoint.tb_frame_str prints one entry exactly as the traceback module does (same file, line,
    function, same stripped source text, present under the same condition) -/
theorem tb_frame_str_eq_std (c : Callpoint) : tbFrameStr c = stdFrameStr c := tbFrameStr_eq_std c

/-- TracebackInfo.get_formatted, for every list of entries and every limit, is the header followed by what
    traceback.format_tb prints - runs of more than 3 identical entries collapsed the same way -/
theorem tbinfo_format_eq (tb : List Callpoint) (limit : Option Nat) :
    tbInfoFormat (fromTraceback tb limit) = headerNL ++ stdLoop none 0 (stdExtract tb limit) := by
  unfold tbInfoFormat
  rw [frames_eq_extract_tb, bLoop_eq_stdLoop]

/-- get_formatted_exception_only equals format_exception_only (final newline aside), all messages -/
theorem exc_only_eq_std (etype msg : Str) : eiExcOnly etype msg ++ ['\n'] = stdExcOnly etype msg := by
  unfold eiExcOnly stdExcOnly
  split <;> simp

/-- ExceptionInfo.get_formatted equals the interpreter's text (its final newline aside) for EVERY list of entries -
    recursion included: runs of more than 3 identical entries are collapsed into
    `[Previous line repeated N more times]` exactly as StackSummary.format does. -/
theorem format_eq_std (frames : List Callpoint) (etype msg : Str) :
    eiFormat frames etype msg ++ ['\n'] = stdFormat frames etype msg := by
  unfold eiFormat stdFormat tbInfoFormat
  rw [bLoop_eq_stdLoop, List.append_assoc, exc_only_eq_std]

def exCp (n : Nat) (f : String) (l : String) : Callpoint := ⟨"/a b/é.py".toList, n, f.toList, l.toList⟩

/-- the collapse is really taken: 5 identical entries are printed as 3 entries and one `repeated 2 more times` line -/
example : eiFormat (List.replicate 5 (exCp 2 "f" "    return f(n - 1)\n")) "RecursionError".toList "deep".toList
    = ("Traceback (most recent call last):\n" ++
       "  File \"/a b/é.py\", line 2, in f\n    return f(n - 1)\n" ++
       "  File \"/a b/é.py\", line 2, in f\n    return f(n - 1)\n" ++
       "  File \"/a b/é.py\", line 2, in f\n    return f(n - 1)\n" ++
       "  [Previous line repeated 2 more times]\nRecursionError: deep").toList := by
  unfold eiFormat tbInfoFormat headerNL header exCp
  simp only [String.toList_append]
  repeat rw [String.toList_ofList]
  decide +kernel

/-- while no run is longer than 3, every entry is printed on its own -/
theorem format_eq_uncollapsed (frames : List Callpoint) (etype msg : Str) (h : NoLongRun frames = true) :
    eiFormat frames etype msg ++ ['\n'] = headerNL ++ frames.flatMap stdFrameStr ++ stdExcOnly etype msg := by
  rw [format_eq_std]
  unfold stdFormat
  rw [stdLoop_noLongRun none 0 frames (by omega) h]

/-- a run of entries that share file, line number and function name - whatever else distinguishes them: the source
    text shown, the frame object, the instruction offset of two calls written on one line, the code object of two
    lambdas on one line - is folded as ONE run: the first three entries, then the `repeated N more times` note -/
theorem same_site_run_folds (c : Callpoint) (cs : List Callpoint) (h : ∀ x ∈ cs, sameSite c x = true) :
    tbInfoFormat (c :: cs) = headerNL ++ (((c :: cs).take 3).flatMap tbFrameStr ++ flushRepeat (cs.length + 1)) := by
  have h0 : flushRepeat 0 = [] := by simp [flushRepeat]
  unfold tbInfoFormat
  simp only [bLoop, h0, ↓reduceIte, List.nil_append]
  rw [bLoop_sameSite c cs 1 (by omega) h]
  simp [List.take_succ_cons, List.flatMap_cons, List.append_assoc, Nat.add_comm 1]

example : ∀ x ∈ List.replicate 4 (exCp 2 "f" "x\n"), sameSite (exCp 2 "f" "    return f(n - 1)\n") x = true := by
  unfold exCp
  repeat rw [String.toList_ofList]
  decide +kernel

/-- what a report shows of a traceback depends on each entry's file, line number, function and linecache state only:
    tracebacks that differ in the frame objects the entries refer to and in the entries' instruction offsets
    (`tb_lasti`) are listed and printed alike -/
theorem report_ignores_frame_identity_and_lasti (tb tb' : List TbEntry) (limit : Option Nat) (sys : Option Int)
    (etype msg : Str)
    (h : tb.map (fun e => (e.path, e.lineno, e.func, e.look)) = tb'.map (fun e => (e.path, e.lineno, e.func, e.look))) :
    fromTraceback (tb.map walkB) (resolveLimit limit sys) = fromTraceback (tb'.map walkB) (resolveLimit limit sys) ∧
    eiFormat (fromTraceback (tb.map walkB) (resolveLimit limit sys)) etype msg
      = eiFormat (fromTraceback (tb'.map walkB) (resolveLimit limit sys)) etype msg := by
  have hw : ∀ l : List TbEntry, l.map walkB
      = (l.map (fun e => (e.path, e.lineno, e.func, e.look))).map
          (fun q => (⟨q.1, q.2.1, q.2.2.1, deferredRaw q.1 q.2.2.2⟩ : Callpoint)) := by
    intro l; simp [List.map_map, Function.comp_def, walkB]
  have : tb.map walkB = tb'.map walkB := by rw [hw tb, hw tb', h]
  rw [this]; exact ⟨rfl, rfl⟩

/-- recursion through one line with two call sites on it (`return f(n-1) if n % 2 else f(n-1)`): five entries with
    the same file, line and function, alternating instruction offsets, two frame objects - printed as three entries and
    `repeated 2 more times`; a code file named `.pyc` is shown under that very name -/
example : eiFormat (fromTraceback ((List.range 5).map fun i =>
      walkB ⟨"/dist/job.pyc".toList, 7, "descend".toList, i, ⟨.pinned "    return descend(n - 1) if n % 2 else descend(n - 1)\n".toList, none, none⟩,
             if i % 2 = 0 then 18 else 46⟩) none) "OverflowError".toList "bottom".toList
    = ("Traceback (most recent call last):\n" ++
       "  File \"/dist/job.pyc\", line 7, in descend\n    return descend(n - 1) if n % 2 else descend(n - 1)\n" ++
       "  File \"/dist/job.pyc\", line 7, in descend\n    return descend(n - 1) if n % 2 else descend(n - 1)\n" ++
       "  File \"/dist/job.pyc\", line 7, in descend\n    return descend(n - 1) if n % 2 else descend(n - 1)\n" ++
       "  [Previous line repeated 2 more times]\nOverflowError: bottom").toList := by
  unfold eiFormat tbInfoFormat headerNL header
  simp only [String.toList_append]
  repeat rw [String.toList_ofList]
  decide +kernel

/-- the two halves of the property meet: from_string reads back what ExceptionInfo.get_formatted prints - every
    entry's file, line number, function and stripped source text, the type and the message - and to_string()
    reproduces that text exactly (no run longer than 3: a `[Previous line repeated ...]` line is not a frame,
    from_string stops there - known finding C16-collapse-line-not-parsed) -/
theorem parse_formatted (frames : List Callpoint) (etype msg : Str) (hr : NoLongRun frames = true)
    (h : WFpe (peOf frames etype msg) = true) :
    fromString (eiFormat frames etype msg) = .ok (peOf frames etype msg) ∧
    (fromString (eiFormat frames etype msg)).map toString = .ok (eiFormat frames etype msg) := by
  rw [eiFormat_eq_toString frames etype msg hr]
  exact ⟨parse_render _ h, render_parse _ h⟩

example : NoLongRun [exCp 1 "<module>" "f()\n", exCp 5 "f" "    return g(\"a: b\")  \n", exCp 9 "<lambda>" ""] = true ∧
    WFpe (peOf [exCp 1 "<module>" "f()\n", exCp 5 "f" "    return g(\"a: b\")  \n", exCp 9 "<lambda>" ""]
    "pkg.Err".toList "a: b\nc".toList) = true := by
  unfold exCp
  repeat rw [String.toList_ofList]
  decide +kernel

/-- tbutils.print_exception writes exactly the interpreter's text, for every list of entries -/
theorem print_exception_eq_std (frames : List Callpoint) (etype msg : Str) :
    printException frames etype msg = stdFormat frames etype msg := by
  rw [printException_eq, format_eq_std]

/- FULL: ∀ path k, deferredRaw path k = stdRaw path k   (false: lookup_eq_std_false).
   Proved under the explicit decidable hypothesis `LookOK`. -/
/-- `_DeferredLine` (checkcache, then getline with the module's name and loader) finds the line the
    traceback module finds (lazycache, checkcache, getline), in every state of the cache, the file and
    the loader but the one `LookOK` excludes -/
theorem lookup_eq_std_partial (path : Str) (k : Look) (h : LookOK k = true) :
    deferredRaw path k = stdRaw path k := by
  obtain ⟨c, d, l⟩ := k
  cases c with
  | absent => exact (stdRaw_absent path d l).symm
  | pinned x => rw [stdRaw_cached (by simp), deferredRaw_pinned, deferredRaw_pinned]
  | lazy x => rw [stdRaw_cached (by simp), deferredRaw_lazy, deferredRaw_lazy]
  | stamped s m x =>
    rw [stdRaw_cached (by simp)]
    by_cases hf : ∃ y, d = some (s, m, y)
    · obtain ⟨y, rfl⟩ := hf
      rw [deferredRaw_fresh, deferredRaw_fresh]
    · have hf' : ∀ y, d ≠ some (s, m, y) := fun y hy => hf ⟨y, hy⟩
      rw [deferredRaw_stale hf', deferredRaw_stale hf']
      -- the entry is dropped and the loader forgotten: that shows only when the file is gone
      rcases d with _ | ⟨s', m', y⟩
      · cases l with
        | none => rfl
        | some src => simp [LookOK] at h
      · rw [updatecache_disk, updatecache_disk]

example : LookOK ⟨.stamped 10 1 "old()\n".toList, some (12, 2, "new()\n".toList), some "ldr()\n".toList⟩ = true := by decide
example : LookOK ⟨.absent, none, some "ldr()\n".toList⟩ = true := by decide

/-- the excluded state: a complete entry is cached, the file is gone, the module has a loader -/
theorem lookup_eq_std_false : ∃ path k, deferredRaw path k ≠ stdRaw path k := by
  refine ⟨"/m.py".toList, ⟨.stamped 10 1 "old\n".toList, none, some "src\n".toList⟩, ?_⟩
  decide +kernel

/-- revalidation: whatever linecache holds for the file - nothing, a lazy entry, a complete entry read
    when the file had another size or mtime - the line shown is the one the file on disk holds now
    (an entry with the file's present size and mtime is assumed to hold the file's present text) -/
theorem deferred_line_current (path : Str) (k : Look) (sz mt : Nat) (l : Str)
    (hp : isPseudo path = false) (hd : k.disk = some (sz, mt, l))
    (hpin : ∀ l', k.cache ≠ .pinned l')
    (hcoh : ∀ l', k.cache = .stamped sz mt l' → l' = l) :
    deferredRaw path k = l := by
  obtain ⟨c, d, ld⟩ := k
  simp only at hd hpin hcoh
  subst hd
  have hu : ∀ src, updatecache .absent path (some (sz, mt, l)) src = l := fun src => by
    rw [updatecache_disk, hp]; rfl
  cases c with
  | absent => rw [deferredRaw_absent, hu]
  | lazy l0 => rw [deferredRaw_lazy, hu]
  | pinned l0 => exact absurd rfl (hpin l0)
  | stamped s m l0 =>
    by_cases hf : ∃ y, some (sz, mt, l) = some (s, m, y)
    · obtain ⟨y, hy⟩ := hf
      obtain ⟨rfl, rfl, rfl⟩ : sz = s ∧ mt = m ∧ l = y := by simpa using hy
      rw [deferredRaw_fresh]; exact hcoh l0 rfl
    · rw [deferredRaw_stale (fun y hy => hf ⟨y, hy⟩), hu]

example : deferredRaw "/p/plugin.py".toList ⟨.stamped 10 1 "return 1 // x\n".toList,
    some (12, 2, "return scale // x\n".toList), none⟩ = "return scale // x\n".toList := by
  repeat rw [String.toList_ofList]
  decide +kernel

/-- the file is gone and there is no loader: no source text, whatever was cached from the file -/
theorem deferred_line_gone (path : Str) (k : Look) (hd : k.disk = none) (hl : k.loader = none)
    (hc : ∀ l, k.cache ≠ .pinned l) (hz : ∀ l, k.cache ≠ .lazy l) : deferredRaw path k = [] := by
  obtain ⟨c, d, ld⟩ := k
  simp only at hd hl hc hz
  subst hd hl
  have hu : updatecache .absent path none none = [] := by rw [updatecache_absent_gone]; split <;> rfl
  cases c with
  | absent => rw [deferredRaw_absent, hu]
  | lazy l0 => exact absurd rfl (hz l0)
  | pinned l0 => exact absurd rfl (hc l0)
  | stamped s m l0 => rw [deferredRaw_stale (by simp), hu]

/-- "the same frames in the same order with the same file, line, function and source text": the lists
    agree entry by entry, for every limit and sys.tracebacklimit, whatever frame objects the entries
    refer to (after `raise e` in an `except` block a frame occurs in several entries) -/
theorem live_frames_eq_extract_tb (tb : List TbEntry) (limit : Option Nat) (sys : Option Int)
    (h : ∀ e ∈ tb, LookOK e.look = true) :
    fromTraceback (tb.map walkB) (resolveLimit limit sys) = stdExtract (tb.map walkS) (resolveLimit limit sys) := by
  have hw : tb.map walkB = tb.map walkS :=
    List.map_congr_left fun e he => by unfold walkB walkS; rw [lookup_eq_std_partial _ _ (h e he)]
  rw [hw]; rfl

/-- `ExceptionInfo.to_dict()` lists, per entry, the file, line number and function of extract_tb's FrameSummary and
    a `line` that is FrameSummary.line once stripped (to_dict keeps the indentation: rstrip only) -/
theorem dict_frames_eq_extract_tb (tb : List TbEntry) (limit : Option Nat) (sys : Option Int)
    (h : ∀ e ∈ tb, LookOK e.look = true) :
    (dictFrames (fromTraceback (tb.map walkB) (resolveLimit limit sys))).map
        (fun d => (d.1, d.2.1, d.2.2.1, strip d.2.2.2))
      = (stdExtract (tb.map walkS) (resolveLimit limit sys)).map
        (fun c => (c.path, c.lineno, c.func, strip c.line)) := by
  rw [live_frames_eq_extract_tb tb limit sys h]
  simp [dictFrames, List.map_map, Function.comp_def, strip_rstrip]

/-- without a limit every traceback entry is listed, with its own file, line number and function -
    also entries that refer to a frame already listed -/
theorem from_traceback_lists_every_entry (tb : List TbEntry) :
    (fromTraceback (tb.map walkB) none).map (fun c => (c.path, c.lineno, c.func))
      = tb.map (fun e => (e.path, e.lineno, e.func)) := by
  simp [fromTraceback, walkB, List.map_map, Function.comp_def]

/-- ExceptionInfo.get_formatted of a live exception equals the interpreter's text: walk, line lookup and
    layout together (partial only in the linecache state `LookOK` excludes) -/
theorem live_format_eq_std_partial (tb : List TbEntry) (sys : Option Int) (etype msg : Str)
    (h : ∀ e ∈ tb, LookOK e.look = true) :
    eiFormat (fromTraceback (tb.map walkB) (resolveLimit none sys)) etype msg ++ ['\n']
      = stdFormat (stdExtract (tb.map walkS) (resolveLimit none sys)) etype msg := by
  rw [live_frames_eq_extract_tb tb none sys h]
  exact format_eq_std _ etype msg

/-- ExceptionInfo.from_exc_info / tbutils.format_exception_only name the exception class exactly as the
    traceback module does, for every `__module__` (also one that is not a str) and `__qualname__` -/
theorem type_str_eq_std (t : ExcType) : typeStr t = stdTypeStr t := by
  obtain ⟨m, q⟩ := t
  cases m with
  | none => simp [typeStr, stdTypeStr]
  | some m => simp [typeStr, stdTypeStr, plainMods]

/-- `_some_str` shows the exception's `str()`, and the traceback module's placeholder when `str()` raises -/
theorem some_str_eq_std (v : Option Str) : someStr v = stdSafeStr v := by cases v <;> rfl

/-- the module names the source tests `__module__` against (regenerated from the source on every run) are the ones
    the model uses -/
theorem source_plain_modules_agree : Gen.plainModNames = plainMods := by decide

/-- the display name is the qualified name: two classes are printed alike only if their `__qualname__`s agree
    up to the module prefix - in particular classes of one module with the same bare `__name__` but different
    `__qualname__` (`Lexer.Error`, `Parser.Error`) are told apart -/
theorem type_str_separates (m : Option Str) (q1 q2 : Str) (h : typeStr ⟨m, q1⟩ = typeStr ⟨m, q2⟩) : q1 = q2 := by
  cases m with
  | none => simpa [typeStr] using h
  | some m =>
    unfold typeStr at h
    simp only at h
    split at h
    · exact h
    · exact List.cons.inj (List.append_cancel_left h) |>.2

/-- every capture of a session - whatever was captured before it, by whichever entry point - is reported as the
    traceback module reports it: type name, exception-only text (final newline aside) and print_exception text -/
theorem session_eq_std (caps : List Capture) :
    (sessionB caps).map (fun r => (r.1, r.2.1 ++ ['\n'], r.2.2)) = sessionS caps := by
  simp only [sessionB, sessionS, List.map_map]
  apply List.map_congr_left
  intro c _
  simp only [Function.comp, type_str_eq_std, exc_only_eq_std]
  rfl

/-- ... in particular the report of a capture does not depend on the captures before it -/
theorem session_history_independent (pre : List Capture) (c : Capture) :
    (sessionB (pre ++ [c])).getLast? = (sessionB [c]).getLast? := by
  simp [sessionB]

example : sessionB [(⟨some "bvm0".toList, "Lexer.Error".toList⟩, "a: b".toList),
                    (⟨some "bvm0".toList, "Parser.Error".toList⟩, []),
                    (⟨some "builtins".toList, "KeyError".toList⟩, "'k'".toList), (⟨none, "E".toList⟩, "x".toList)]
    = [("bvm0.Lexer.Error".toList, "bvm0.Lexer.Error: a: b".toList, "bvm0.Lexer.Error: a: b\n".toList),
       ("bvm0.Parser.Error".toList, "bvm0.Parser.Error".toList, "bvm0.Parser.Error\n".toList),
       ("KeyError".toList, "KeyError: 'k'".toList, "KeyError: 'k'\n".toList),
       ("<unknown>.E".toList, "<unknown>.E: x".toList, "<unknown>.E: x\n".toList)] := by
  repeat rw [String.toList_ofList]
  decide +kernel

def exTb : List TbEntry :=
  [⟨"/a b/é.py".toList, 3, "<module>".toList, 0, ⟨.pinned "top()\n".toList, none, none⟩, 2⟩,
   ⟨"/p/plugin.py".toList, 9, "middle".toList, 1, ⟨.stamped 10 1 "old\n".toList, some (12, 2, "    raise e\n".toList), none⟩, 30⟩,
   ⟨"/p/plugin.py".toList, 6, "middle".toList, 1, ⟨.stamped 10 1 "old\n".toList, some (12, 2, "    return leaf(key)\n".toList), none⟩, 12⟩,
   ⟨"<string>".toList, 1, "<module>".toList, 2, ⟨.absent, none, some "x\n".toList⟩, 4⟩]

example : ∀ e ∈ exTb, LookOK e.look = true := by decide +kernel

end C16
