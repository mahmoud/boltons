import BoltonsVerif.C16.Model
import BoltonsVerif.PyRtC16
import BoltonsVerif.Generated.Src_tbutils_c16
/-
C16 — source tie: the definitions regenerated from boltons/tbutils.py on every run by harness/py2lean_c16.py
(`Generated/Src_tbutils_c16.lean`) equal the hand model of `C16/Model.lean`.

  ParsedException.to_string = toString, _repeated_line_note = flushRepeat, Callpoint.tb_frame_str = tbFrameStr,
  TracebackInfo.get_formatted = tbInfoFormat, ExceptionInfo.get_formatted_exception_only = eiExcOnly,
  ExceptionInfo.get_formatted = eiFormat, the display name (from_exc_info, format_exception_only) = typeStr,
  _some_str = someStr   (theorems `src_*_eq_model`)

The loops are `List.foldl` of a step function; the lemmas about them (`foldl_append_flatMap`, `foldl_specStep`) take the
step as a variable characterised by an EQUATION, so that the proofs do not replay the statement order of the source: the
loop body is only ever asked "what does one iteration do to the state", by `simp` + case split.
-/
namespace C16
open PyRtC16

theorem strJoin_nl (ls : List Str) : strJoin "\n".toList ls = joinNL ls := by
  induction ls with
  | nil => rfl
  | cons a r ih =>
    cases r with
    | nil => rfl
    | cons b r => simp only [strJoin, joinNL] at ih ⊢; rw [ih]; rfl

theorem truthy_iff {α : Type} (s : List α) : (truthy s = true) ↔ s ≠ [] := by
  cases s <;> simp [truthy]

theorem truthyOS_iff (o : Option Str) : (truthyOS o = true) ↔ o.getD [] ≠ [] := by
  cases o with
  | none => simp [truthyOS]
  | some s => cases s <;> simp [truthyOS]

theorem fmtOS_of_truthy (o : Option Str) (h : truthyOS o = true) : fmtOS o = o.getD [] := by
  cases o with
  | none => simp [truthyOS] at h
  | some s => rfl

/-! The literals of the source, folded into the model's constants.  Not by `rfl`: `simp` applies a `rfl`-lemma without
    a proof step and the type check after it evaluates both closed strings.  `String.toList_ofList` reads the characters
    off a literal; evaluating `String.toList` on it is quadratic. -/
theorem lit_header : "Traceback (most recent call last):".toList = header := by unfold header; rfl
theorem lit_file : "  File \"".toList = ind2 ++ litA := by
  unfold ind2 litA
  repeat rw [String.toList_ofList]
  rfl
theorem lit_line : "\", line ".toList = litB := by unfold litB; rfl
theorem lit_in : ", in ".toList = litC := by unfold litC; rfl
theorem lit_ind4 : "    ".toList = ind4 := by unfold ind4; rfl
theorem lit_colon : ": ".toList = colonSp := by unfold colonSp; rfl
theorem lit_nl : "\n".toList = ['\n'] := String.toList_ofList
theorem lit_empty : "".toList = ([] : Str) := String.toList_ofList
theorem lit_dot : ".".toList = ['.'] := String.toList_ofList
theorem lit_headerNL : "Traceback (most recent call last):\n".toList = headerNL := by
  unfold headerNL header
  rw [String.toList_ofList, String.toList_ofList]
  rfl

/-- a loop that only appends to its accumulator: `for x in xs: acc += g(x)` -/
theorem foldl_append_flatMap {α β : Type} (step : List β → α → List β) (g : α → List β)
    (h : ∀ acc x, step acc x = acc ++ g x) : ∀ (xs : List α) (acc : List β),
    xs.foldl step acc = acc ++ xs.flatMap g := by
  intro xs
  induction xs with
  | nil => intro acc; simp
  | cons x xs ih => intro acc; simp [List.foldl_cons, h, ih, List.append_assoc]

/-- the frame dict as the model's frame (`source_line` absent or '' = no source line) -/
def frameOf (d : FrameD) : Frame := ⟨d.filepath, d.lineno, d.funcname, d.source_line.getD []⟩

theorem frameLines_frameOf (d : FrameD) :
    frameLines (frameOf d) =
      if truthyOS d.source_line then
        [ind2 ++ litA ++ d.filepath ++ litB ++ d.lineno ++ litC ++ d.funcname, ind4 ++ fmtOS d.source_line]
      else [ind2 ++ litA ++ d.filepath ++ litB ++ d.lineno ++ litC ++ d.funcname] := by
  by_cases h : truthyOS d.source_line = true
  · have h2 := (truthyOS_iff _).1 h
    simp [frameLines, frameLine, frameOf, h, h2, fmtOS_of_truthy _ h]
  · have h2 : d.source_line.getD [] = [] := by
      false_or_by_contra
      exact h ((truthyOS_iff d.source_line).2 ‹_›)
    simp [frameLines, frameLine, frameOf, h, h2]

theorem src_to_string_eq_model (frames : List FrameD) (etype msg : Str) :
    Src.tbutils.ParsedException.to_string frames etype msg = C16.toString ⟨frames.map frameOf, etype, msg⟩ := by
  unfold Src.tbutils.ParsedException.to_string
  simp only [lit_header, lit_file, lit_line, lit_in, lit_ind4, lit_colon]
  rw [foldl_append_flatMap (g := fun d => frameLines (frameOf d))]
  · rw [strJoin_nl]
    simp only [C16.toString, toLines, excLine, List.flatMap_map]
    by_cases hm : msg = []
    · simp [hm, truthy]
    · have : truthy msg = true := (truthy_iff msg).2 hm
      simp [hm, this]
  · intro acc d
    rw [frameLines_frameOf]
    by_cases h : truthyOS d.source_line = true <;>
      simp [h, List.append_assoc]

example : Src.tbutils.ParsedException.to_string
    [⟨"a.py".toList, "3".toList, "f".toList, some "x = 1".toList⟩, ⟨"b.py".toList, "7".toList, "g".toList, none⟩]
    "ValueError".toList "bad".toList
    = "Traceback (most recent call last):\n  File \"a.py\", line 3, in f\n    x = 1\n  File \"b.py\", line 7, in g\nValueError: bad".toList := by
  unfold Src.tbutils.ParsedException.to_string
  repeat rw [String.toList_ofList]
  decide +kernel

theorem fmtInt_ofNat (n : Nat) : fmtInt (n : Int) = natStr n := by
  simp [fmtInt, natStr]

/-- `if a > k` read as `if a ≤ k` with the branches exchanged: one normal form for either way of writing the test -/
theorem ite_gt_flip (a k : Int) (A B : Str) : (if a > k then A else B) = if a ≤ k then B else A := by
  by_cases h : a ≤ k
  · have : ¬ a > k := by omega
    simp [h, this]
  · have : a > k := by omega
    simp [h, this]

/-- the note with its literals abstracted (nothing for `whnf` to evaluate), associated as `List.append_assoc` leaves
    the goal: P = `"  [Previous line repeated "`, T = `" more time"`, S = `"s"`, E = `"]\n"`, A / B = the two endings -/
theorem note_generic (P T S E A B : Str) (hA : T ++ (S ++ E) = A) (hB : T ++ E = B) (c : Int) :
    (if c ≤ 3 then ([] : Str) else P ++ (fmtInt (c - 3) ++ (T ++ ((if c - 3 ≤ 1 then [] else S) ++ E))))
      = if c.toNat > 3 then P ++ (natStr (c.toNat - 3) ++ if c.toNat - 3 > 1 then A else B) else [] := by
  by_cases h : c ≤ 3
  · have h2 : ¬ (c.toNat > 3) := by omega
    simp [h, h2]
  · have h2 : c.toNat > 3 := by omega
    have h3 : c - 3 = ((c.toNat - 3 : Nat) : Int) := by omega
    rw [if_neg h, if_pos h2, h3, fmtInt_ofNat]
    by_cases h4 : c.toNat - 3 > 1
    · have h5 : ¬ ((c.toNat - 3 : Nat) : Int) ≤ 1 := by omega
      rw [if_pos h4, if_neg h5, ← hA]
    · have h5 : ((c.toNat - 3 : Nat) : Int) ≤ 1 := by omega
      rw [if_neg h4, if_pos h5, ← hB]; rfl

/-- a negative count is like 0 -/
theorem src_repeated_line_note_eq_model (c : Int) :
    Src.tbutils.repeated_line_note c = flushRepeat c.toNat := by
  unfold Src.tbutils.repeated_line_note flushRepeat repeatedMsg
  simp only [lit_empty, List.append_assoc, decide_eq_true_eq, ite_gt_flip]
  refine note_generic _ _ _ _ _ _ ?_ ?_ c <;> (repeat rw [String.toList_ofList]) <;> rfl

example : Src.tbutils.repeated_line_note 5 = "  [Previous line repeated 2 more times]\n".toList := by
  unfold Src.tbutils.repeated_line_note
  repeat rw [String.toList_ofList]
  decide +kernel
example : Src.tbutils.repeated_line_note 4 = "  [Previous line repeated 1 more time]\n".toList := by
  unfold Src.tbutils.repeated_line_note
  repeat rw [String.toList_ofList]
  decide +kernel

/-- `str(self.line)` = the rstripped linecache line, `bool(self.line)` = that string is not empty: `PyRtC16.DLine` -/
theorem src_tb_frame_str_eq_model (c : Callpoint) : Src.tbutils.Callpoint.tb_frame_str c = tbFrameStr c := by
  unfold Src.tbutils.Callpoint.tb_frame_str tbFrameStr cpHead
  simp only [lit_file, lit_line, lit_in, lit_ind4, lit_nl, DLine.truthy, DLine.str, Callpoint.dline, strStrip, fmtNat,
    natStr]
  by_cases h : rstrip c.line = [] <;> simp [h, List.append_assoc]

example : Src.tbutils.Callpoint.tb_frame_str ⟨"a.py".toList, 3, "f".toList, "  x = 1 \n".toList⟩
    = "  File \"a.py\", line 3, in f\n    x = 1\n".toList := by
  repeat rw [String.toList_ofList]
  decide +kernel

def siteOf (c : Callpoint) : Str × Nat × Str := (c.path, c.lineno, c.func)

/-- what ONE iteration of the loop of get_formatted does to its state; the translator lists the variables a loop
    assigns in alphabetical order: `(count, last_site, ret)`; `count` is an `Int` there, a `Nat` in `bLoop` -/
def specStep (st : Int × Option (Str × Nat × Str) × Str) (f : Callpoint) : Int × Option (Str × Nat × Str) × Str :=
  if (some (siteOf f) != st.2.1) = true then
    (1, some (siteOf f), st.2.2 ++ (Src.tbutils.repeated_line_note st.1 ++ tbFrameStr f))
  else (st.1 + 1, st.2.1, st.2.2 ++ (if st.1 + 1 ≤ 3 then tbFrameStr f else []))

/-- the model's test "this entry starts a new run" -/
def isNew (last : Option Callpoint) (f : Callpoint) : Bool :=
  match last with | none => true | some l => !sameSite l f

theorem bLoop_cons (last : Option Callpoint) (cnt : Nat) (f : Callpoint) (fs : List Callpoint) :
    bLoop last cnt (f :: fs) =
      if isNew last f = true then flushRepeat cnt ++ (tbFrameStr f ++ bLoop (some f) 1 fs)
      else if cnt + 1 ≤ 3 then tbFrameStr f ++ bLoop last (cnt + 1) fs else bLoop last (cnt + 1) fs := by
  cases last <;> simp [bLoop, isNew]

theorem newSite_iff (last : Option Callpoint) (f : Callpoint) :
    (some (siteOf f) != last.map siteOf) = isNew last f := by
  cases last with
  | none => rfl
  | some l =>
    have hs : sameSite l f = (siteOf l == siteOf f) := by
      rw [Bool.eq_iff_iff]
      simp [sameSite, siteOf, and_assoc]
    simp only [Option.map_some, isNew, hs, bne, Option.some_beq_some, BEq.comm (a := siteOf l)]

/-- the source holds the note of the current run back until the run ends, so the statement is about the loop's text
    with the pending note flushed: from any state `(cnt, last, ret)` that is `ret` followed by the model's
    `bLoop last cnt fs` -/
theorem foldl_specStep (step : Int × Option (Str × Nat × Str) × Str → Callpoint → Int × Option (Str × Nat × Str) × Str)
    (hstep : ∀ st f, step st f = specStep st f) :
    ∀ (fs : List Callpoint) (ret : Str) (last : Option Callpoint) (cnt : Nat),
      (fs.foldl step ((cnt : Int), last.map siteOf, ret)).2.2
        ++ Src.tbutils.repeated_line_note (fs.foldl step ((cnt : Int), last.map siteOf, ret)).1
      = ret ++ bLoop last cnt fs := by
  intro fs
  induction fs with
  | nil => intro ret last cnt; simp [bLoop, src_repeated_line_note_eq_model]
  | cons f fs ih =>
    intro ret last cnt
    rw [List.foldl_cons, hstep, specStep, bLoop_cons]
    simp only [newSite_iff]
    cases hn : isNew last f
    · simp only [if_false, Bool.false_eq_true]
      have := ih (ret ++ (if (cnt : Int) + 1 ≤ 3 then tbFrameStr f else [])) last (cnt + 1)
      push_cast at this
      rw [this]
      by_cases h3 : cnt + 1 ≤ 3
      · have : (cnt : Int) + 1 ≤ 3 := by omega
        simp [h3, this, List.append_assoc]
      · have : ¬ (cnt : Int) + 1 ≤ 3 := by omega
        simp [h3, this]
    · have := ih (ret ++ (Src.tbutils.repeated_line_note cnt ++ tbFrameStr f)) (some f) 1
      simp only [Option.map_some] at this
      push_cast at this
      simp only [if_true]
      rw [this, src_repeated_line_note_eq_model]
      simp [List.append_assoc]

theorem run_of_step (step : Int × Option (Str × Nat × Str) × Str → Callpoint → Int × Option (Str × Nat × Str) × Str)
    (hstep : ∀ st f, step st f = specStep st f) (fs : List Callpoint) :
    (fs.foldl step (0, none, headerNL)).2.2 ++ Src.tbutils.repeated_line_note (fs.foldl step (0, none, headerNL)).1
      = tbInfoFormat fs := by
  have := foldl_specStep step hstep fs headerNL none 0
  simpa [tbInfoFormat] using this

theorem src_get_formatted_eq_model (frames : List Callpoint) :
    Src.tbutils.TracebackInfo.get_formatted frames = tbInfoFormat frames := by
  unfold Src.tbutils.TracebackInfo.get_formatted
  simp only [lit_headerNL]
  apply run_of_step
  intro st f
  obtain ⟨cnt, last, ret⟩ := st
  simp only [specStep, siteOf, src_tb_frame_str_eq_model]
  have hc : (last != some (f.path, f.lineno, f.func)) = (some (f.path, f.lineno, f.func) != last) := bne_comm
  try simp only [hc]   -- whichever way round the source writes the comparison of the two sites
  by_cases hn : (some (f.path, f.lineno, f.func) != last) = true <;>
    by_cases h3 : cnt + 1 ≤ 3 <;> simp [hn, h3, List.append_assoc]

set_option maxRecDepth 100000 in
example : Src.tbutils.TracebackInfo.get_formatted
    (List.replicate 5 ⟨"a.py".toList, 3, "f".toList, "x\n".toList⟩)
    = ("Traceback (most recent call last):\n" ++ "  File \"a.py\", line 3, in f\n    x\n"
        ++ "  File \"a.py\", line 3, in f\n    x\n" ++ "  File \"a.py\", line 3, in f\n    x\n"
        ++ "  [Previous line repeated 2 more times]\n").toList := by
  simp only [String.toList_append]
  repeat rw [String.toList_ofList]
  decide +kernel

theorem src_ei_exc_only_eq_model (etype msg : Str) :
    Src.tbutils.ExceptionInfo.get_formatted_exception_only etype msg = eiExcOnly etype msg := by
  unfold Src.tbutils.ExceptionInfo.get_formatted_exception_only eiExcOnly
  simp only [lit_colon]
  by_cases hm : msg = []
  · simp [hm, truthy]
  · have : truthy msg = true := (truthy_iff msg).2 hm
    simp [hm, this]

example : Src.tbutils.ExceptionInfo.get_formatted_exception_only "E".toList "".toList = "E".toList := by decide +kernel
example : Src.tbutils.ExceptionInfo.get_formatted_exception_only "E".toList "m".toList = "E: m".toList := by decide +kernel

theorem strJoin_empty_pair (a b : Str) : strJoin [] [a, b] = a ++ b := by simp [strJoin]

theorem src_ei_get_formatted_eq_model (frames : List Callpoint) (etype msg : Str) :
    Src.tbutils.ExceptionInfo.get_formatted etype msg frames = eiFormat frames etype msg := by
  unfold Src.tbutils.ExceptionInfo.get_formatted eiFormat
  simp only [lit_empty, strJoin_empty_pair, src_get_formatted_eq_model, src_ei_exc_only_eq_model]

example : Src.tbutils.ExceptionInfo.get_formatted "E".toList "m".toList [⟨"a".toList, 1, "f".toList, [] ⟩]
    = "Traceback (most recent call last):\n  File \"a\", line 1, in f\nE: m".toList := by
  unfold Src.tbutils.ExceptionInfo.get_formatted Src.tbutils.TracebackInfo.get_formatted
  repeat rw [String.toList_ofList]
  decide +kernel

theorem elem_some_pair (m a b : Str) : List.elem (some m) [some a, some b] = [a, b].contains m := by
  simp [List.elem, List.contains]

theorem elem_pair (m a b : Str) : List.elem m [a, b] = [a, b].contains m := by
  simp [List.elem, List.contains]

theorem unknown_not_plain : [("__main__".toList), ("builtins".toList)].contains "<unknown>".toList = false := by
  repeat rw [String.toList_ofList]
  decide

/-- the proof shared by the two copies of the display-name computation: split on `__module__` being a str, then on the
    membership test as an opaque Bool; `simp` does the rest whichever way the statements are arranged -/
local macro "type_str_tac" t:ident : tactic => `(tactic| (
  obtain ⟨m, q⟩ := $t
  cases m with
  | none =>
    -- fires only if the source substitutes `<unknown>` before the membership test
    try simp only [Option.getD_none, elem_pair, unknown_not_plain]
    simp [List.elem, fmtOS, lit_dot]
  | some m =>
    simp only [Option.isSome_some, Bool.not_true, Bool.false_eq_true, if_false, elem_some_pair, elem_pair, lit_dot,
      Option.getD_some]
    generalize [("__main__".toList), ("builtins".toList)].contains m = b
    cases b <;> simp [fmtOS]))

/-- the display name computed by `ExceptionInfo.from_exc_info`: the statements from `type_str = ...` up to `val_str = ...` -/
theorem src_type_str_eq_model (t : ExcType) : Src.tbutils.ExceptionInfo.type_str t = typeStr t := by
  unfold Src.tbutils.ExceptionInfo.type_str typeStr plainMods
  type_str_tac t

example : Src.tbutils.ExceptionInfo.type_str ⟨some "pkg.mod".toList, "A.B".toList⟩ = "pkg.mod.A.B".toList := by decide +kernel
example : Src.tbutils.ExceptionInfo.type_str ⟨some "builtins".toList, "ValueError".toList⟩ = "ValueError".toList := by decide +kernel
example : Src.tbutils.ExceptionInfo.type_str ⟨none, "X".toList⟩ = "<unknown>.X".toList := by decide +kernel

/-- the second copy, in `format_exception_only` (from `stype = ...` up to the `issubclass` test; what `print_exception`
    prints) -/
theorem src_feo_type_str_eq_model (t : ExcType) : Src.tbutils.format_exception_only_type_str t = typeStr t := by
  unfold Src.tbutils.format_exception_only_type_str typeStr plainMods
  type_str_tac t

example : Src.tbutils.format_exception_only_type_str ⟨some "pkg".toList, "E".toList⟩ = "pkg.E".toList := by decide +kernel
example : Src.tbutils.format_exception_only_type_str ⟨none, "E".toList⟩ = "<unknown>.E".toList := by decide +kernel
example : Src.tbutils.format_exception_only_type_str ⟨some "__main__".toList, "E".toList⟩ = "E".toList := by decide +kernel

/-- `str(value)` returns a str or raises: `StrObj.str?` -/
theorem src_some_str_eq_model (x : StrObj) : Src.tbutils.some_str x = someStr x.str? := by
  unfold Src.tbutils.some_str someStr
  cases x.str? <;> rfl

example : Src.tbutils.some_str ⟨some "boom".toList⟩ = "boom".toList := by decide +kernel
example : Src.tbutils.some_str ⟨none⟩ = "<exception str() failed>".toList := rfl

end C16
