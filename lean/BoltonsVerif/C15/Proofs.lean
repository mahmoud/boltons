import BoltonsVerif.C15.Model
/-
C15 — the hypotheses of the property theorems (`Laws`, `Valid`, `ValidParams`, `JitterOk`, `yieldAt`) and lemmas.

Law-free facts, among them the normal form of an outcome: `backoffIter fuel r p = (verdict fuel p).outcome (yieldAt r p)`;
order layer: an abstract linearly ordered carrier (the laws finite doubles obey), multiplication by `factor` only
assumed inflationary on `(0, stop]`; exact layer: `Rat`.
-/
set_option linter.unusedSectionVars false
namespace C15

section Bare
variable {α : Type} [LE α] [LT α] [DecidableLE α] [DecidableLT α] [BEq α]
  [Mul α] [Sub α] [Neg α] [OfNat α 0] [OfNat α 1]

abbrev yieldAt (r : Nat → α) (p : Params α) (i : Nat) : α :=
  emit p.jitter (r i) (seqAt p.factor p.stop p.start i)

theorem valsFrom_length (factor stop jitter : α) (r : Nat → α) (n i : Nat) (cur : α) :
    (valsFrom factor stop jitter r n i cur).length = n := by
  induction n generalizing i cur with
  | zero => rfl
  | succ k ih => simp [valsFrom, ih]

theorem valsFrom_map (factor stop jitter : α) (r : Nat → α) (n i : Nat) (cur : α) :
    valsFrom factor stop jitter r n i cur =
      (List.range n).map fun j => emit jitter (r (i + j)) (seqAt factor stop cur j) := by
  induction n generalizing i cur with
  | zero => rfl
  | succ m ih =>
    rw [List.range_succ_eq_map]
    simp only [valsFrom, List.map_cons, List.map_map, ih, seqAt, Nat.add_zero]
    congr 1
    apply List.map_congr_left
    intro j _
    simp only [Function.comp, seqAt]
    congr 2
    omega

theorem valsFrom_getElem? (factor stop jitter : α) (r : Nat → α) (n i : Nat) (cur : α) (k : Nat) (hk : k < n) :
    (valsFrom factor stop jitter r n i cur)[k]? = some (emit jitter (r (i + k)) (seqAt factor stop cur k)) := by
  rw [valsFrom_map, List.getElem?_map, List.getElem?_range hk]; rfl

theorem valsFrom_take (factor stop jitter : α) (r : Nat → α) (n k i : Nat) (cur : α) :
    (valsFrom factor stop jitter r n i cur).take k = valsFrom factor stop jitter r (min n k) i cur := by
  simp only [valsFrom_map, ← List.map_take, List.take_range]
  rw [Nat.min_comm]

theorem seqAt_succ (factor stop cur : α) (i : Nat) :
    seqAt factor stop cur (i + 1) = next factor stop (seqAt factor stop cur i) := by
  induction i generalizing cur with
  | zero => rfl
  | succ n ih =>
    show seqAt factor stop (next factor stop cur) (n + 1) = _
    rw [ih]; rfl

/-- below `stop` the counting loop's step is the sequence's step before the cap -/
theorem grow_of_lt (factor : α) {stop cur : α} (hlt : cur < stop) : grow factor stop cur = bump factor cur := by
  unfold grow bump; rw [if_pos hlt]

theorem cap_bump (factor stop : α) {cur : α} (hlt : cur < stop) :
    cap stop (bump factor cur) = next factor stop cur := by
  rw [← grow_of_lt factor hlt]; rfl

theorem defaultCount_done (factor stop : α) (fuel : Nat) (cur : α) (n : Nat) (h : ¬ cur < stop) :
    defaultCount factor stop (fuel + 1) cur n = .count n := by
  simp [defaultCount, h]

theorem defaultCount_step (factor stop : α) (fuel : Nat) (cur : α) (n : Nat) (h : cur < stop) :
    defaultCount factor stop (fuel + 1) cur n =
      if (bump factor cur) == cur then .noProgress
      else defaultCount factor stop fuel (bump factor cur) (n + 1) := by
  simp [defaultCount, h]

theorem defaultCount_fuel_mono (factor stop : α) (fuel d : Nat) (cur : α) (n : Nat)
    (h : defaultCount factor stop fuel cur n ≠ .fuelOut) :
    defaultCount factor stop (fuel + d) cur n = defaultCount factor stop fuel cur n := by
  fun_induction defaultCount factor stop fuel cur n with
  | case1 => exact absurd rfl h
  | case2 fuel cur n hlt hnp => rw [Nat.succ_add, defaultCount_step _ _ _ _ _ hlt, if_pos hnp]
  | case3 fuel cur n hlt hnp ih => rw [Nat.succ_add, defaultCount_step _ _ _ _ _ hlt, if_neg hnp, ih h]
  | case4 fuel cur n hlt => rw [Nat.succ_add, defaultCount_done _ _ _ _ _ hlt]

theorem rangeBad_eq_true (p : Params α) :
    rangeBad p = true ↔ p.start < 0 ∨ p.factor < 1 ∨ (p.stop == 0) = true ∨ p.stop < p.start := by
  simp [rangeBad, or_assoc]

theorem rangeBad_jitter (p : Params α) (j : α) : rangeBad { p with jitter := j } = rangeBad p := rfl
theorem resolveCount_jitter (fuel : Nat) (p : Params α) (j : α) :
    resolveCount fuel { p with jitter := j } = resolveCount fuel p := rfl

theorem resolveCount_dflt {p : Params α} (hc : p.count = .dflt) (fuel : Nat) :
    resolveCount fuel p =
      match defaultCount p.factor p.stop fuel p.start 1 with
      | .count n => .num n
      | .noProgress => .bad
      | .fuelOut => .fuelOut := by
  simp only [resolveCount, hc]
  cases defaultCount p.factor p.stop fuel p.start 1 <;> rfl

theorem resolveCount_dflt_num {p : Params α} (hc : p.count = .dflt) {fuel n : Nat} :
    resolveCount fuel p = .num n ↔ defaultCount p.factor p.stop fuel p.start 1 = .count n := by
  rw [resolveCount_dflt hc]
  cases defaultCount p.factor p.stop fuel p.start 1 <;> simp

theorem resolveCount_rep {p : Params α} (hc : p.count = .rep) (fuel : Nat) : resolveCount fuel p = .rep := by
  simp only [resolveCount, hc]

theorem resolveCount_num {p : Params α} {k : Int} (hc : p.count = .num k) (fuel : Nat) :
    resolveCount fuel p = if k < 0 then .bad else .num k.toNat := by
  simp only [resolveCount, hc]

theorem resolveCount_nonneg {p : Params α} {k : Int} (hc : p.count = .num k) (hk : 0 ≤ k) (fuel : Nat) :
    resolveCount fuel p = .num k.toNat := by
  rw [resolveCount_num hc, if_neg (Int.not_lt.mpr hk)]

theorem resolveCount_neg {p : Params α} {k : Int} (hc : p.count = .num k) (hk : k < 0) (fuel : Nat) :
    resolveCount fuel p = .bad := by
  rw [resolveCount_num hc, if_pos hk]

theorem resolveCount_fuel_mono {p : Params α} {fuel : Nat} (h : resolveCount fuel p ≠ .fuelOut) (d : Nat) :
    resolveCount (fuel + d) p = resolveCount fuel p := by
  cases hc : p.count with
  | dflt =>
    rw [resolveCount_dflt hc fuel] at h ⊢
    rw [resolveCount_dflt hc, defaultCount_fuel_mono _ _ _ _ _ _ fun e => by rw [e] at h; exact h rfl]
  | rep => rw [resolveCount_rep hc, resolveCount_rep hc]
  | num k => rw [resolveCount_num hc, resolveCount_num hc]

theorem acceptCount_cases (fuel : Nat) (p : Params α) (m : Nat) :
    acceptCount fuel p m = p ∨
    ∃ n, p.count = .dflt ∧ resolveCount fuel p = .num n ∧ n ≤ m ∧
      acceptCount fuel p m = { p with count := .num (m : Int) } := by
  unfold acceptCount
  split
  · split
    · split
      · exact Or.inr ⟨_, ‹_›, ‹_›, ‹_›, rfl⟩
      · exact Or.inl rfl
    · exact Or.inl rfl
  · exact Or.inl rfl

def Resolved.outcome (f : Nat → α) : Resolved → Outcome α
  | .bad => .valueError
  | .fuelOut => .fuelOut
  | .rep => .endless f
  | .num n => .finite ((List.range n).map f)

@[simp] theorem outcome_rep (f : Nat → α) : Resolved.rep.outcome f = .endless f := rfl
@[simp] theorem outcome_num (f : Nat → α) (n : Nat) : (Resolved.num n).outcome f = .finite ((List.range n).map f) := rfl

@[simp] theorem outcome_eq_valueError {f : Nat → α} {v : Resolved} : v.outcome f = .valueError ↔ v = .bad := by
  cases v <;> simp [Resolved.outcome]

@[simp] theorem outcome_eq_fuelOut {f : Nat → α} {v : Resolved} : v.outcome f = .fuelOut ↔ v = .fuelOut := by
  cases v <;> simp [Resolved.outcome]

/-- how a call ends, whatever is drawn: the three checks in the order the code makes them -/
def verdict (fuel : Nat) (p : Params α) : Resolved :=
  if rangeBad p then .bad else
    match resolveCount fuel p with
    | .bad => .bad
    | .fuelOut => .fuelOut
    | v => if jitterBad p then .bad else v

/-- every outcome is a prefix of the stream `yieldAt r p`; its length does not depend on the draws -/
theorem backoffIter_eq (fuel : Nat) (r : Nat → α) (p : Params α) :
    backoffIter fuel r p = (verdict fuel p).outcome (yieldAt r p) := by
  unfold backoffIter verdict
  by_cases hb : rangeBad p = true
  · rw [if_pos hb, if_pos hb]; rfl
  · rw [if_neg hb, if_neg hb]
    by_cases hj : jitterBad p = true <;> cases resolveCount fuel p <;>
      simp only [hj, if_true, if_false, Bool.false_eq_true, Resolved.outcome, valsFrom_map, Nat.zero_add]

theorem verdict_of_rangeBad {p : Params α} (h : rangeBad p = true) (fuel : Nat) : verdict fuel p = .bad := if_pos h

theorem verdict_of_countBad {p : Params α} {fuel : Nat} (h : resolveCount fuel p = .bad) : verdict fuel p = .bad := by
  unfold verdict
  rw [h]
  split <;> rfl

theorem verdict_of_ok {p : Params α} (hr : rangeBad p = false) (hj : jitterBad p = false) (fuel : Nat) :
    verdict fuel p = resolveCount fuel p := by
  unfold verdict
  rw [hr, hj]
  cases resolveCount fuel p <;> rfl

theorem verdict_of_jitterBad {p : Params α} (h : jitterBad p = true) (fuel : Nat) :
    verdict fuel p = .bad ∨ verdict fuel p = .fuelOut := by
  unfold verdict
  split
  · exact Or.inl rfl
  · cases resolveCount fuel p <;> simp [h]

theorem verdict_fuelOut {p : Params α} {fuel : Nat} :
    verdict fuel p = .fuelOut ↔ rangeBad p = false ∧ resolveCount fuel p = .fuelOut := by
  unfold verdict
  by_cases hb : rangeBad p = true
  · simp [hb]
  · by_cases hj : jitterBad p = true <;> cases resolveCount fuel p <;> simp [hb, hj]

theorem verdict_fuel_mono {p : Params α} {fuel : Nat} (h : verdict fuel p ≠ .fuelOut) (d : Nat) :
    verdict (fuel + d) p = verdict fuel p := by
  by_cases hb : rangeBad p = true
  · rw [verdict_of_rangeBad hb, verdict_of_rangeBad hb]
  · have hr : resolveCount fuel p ≠ .fuelOut := fun e => h (verdict_fuelOut.mpr ⟨by simpa using hb, e⟩)
    unfold verdict
    rw [resolveCount_fuel_mono hr]

end Bare

section Order
variable {α : Type} [LE α] [LT α] [DecidableLE α] [DecidableLT α] [BEq α] [LawfulBEq α]
  [Std.IsLinearOrder α] [Std.LawfulOrderLT α]
  [Mul α] [Sub α] [Neg α] [OfNat α 0] [OfNat α 1]

/-- `infl` is `factor ≥ 1` in the only form the order layer can use it: multiplying a delay in `(0, stop]` by `factor`
    does not shrink it (`rat_laws`, `B64.infl`, `Fx.infl` prove it for three carriers). -/
structure Laws (factor stop : α) : Prop where
  stop_pos : 0 < stop
  zero_le_one : (0 : α) ≤ 1
  infl : ∀ x : α, 0 < x → x ≤ stop → x ≤ x * factor

/-- the property's valid parameters: `0 ≤ start ≤ stop`, `0 < stop`, `factor ≥ 1` (as `Laws.infl`) -/
structure Valid (factor stop start : α) : Prop extends Laws factor stop where
  start_nonneg : 0 ≤ start
  start_le_stop : start ≤ stop

/-- `factor_ge` is the check the code makes (`rangeBad_false`), `valid.infl` the reading of it the order layer uses -/
structure ValidParams (p : Params α) : Prop where
  valid : Valid p.factor p.stop p.start
  factor_ge : 1 ≤ p.factor

def JitterOk (p : Params α) : Prop := p.jitter = 0 ∨ (-1 ≤ p.jitter ∧ p.jitter ≤ 1)

/-- the values of a finite outcome (for the non-vacuity examples) -/
def Outcome.vals? : Outcome α → Option (List α)
  | .finite vals => some vals
  | _ => none

theorem Laws.stop_ne_zero {factor stop : α} (hv : Laws factor stop) : stop ≠ 0 :=
  fun h => Std.lt_irrefl (h ▸ hv.stop_pos)

theorem rangeBad_iff (p : Params α) :
    rangeBad p = true ↔ p.start < 0 ∨ p.factor < 1 ∨ p.stop = 0 ∨ p.stop < p.start := by
  rw [rangeBad_eq_true, beq_iff_eq]

theorem rangeBad_false {p : Params α} (hp : ValidParams p) : rangeBad p = false := by
  rw [← Bool.not_eq_true, rangeBad_iff]
  rintro (h | h | h | h)
  · exact Std.not_lt.mpr hp.valid.start_nonneg h
  · exact Std.not_lt.mpr hp.factor_ge h
  · exact hp.valid.stop_ne_zero h
  · exact Std.not_lt.mpr hp.valid.start_le_stop h

theorem jitterBad_iff (p : Params α) :
    jitterBad p = true ↔ p.jitter ≠ 0 ∧ ¬ (-1 ≤ p.jitter ∧ p.jitter ≤ 1) := by
  rw [Decidable.not_and_iff_not_or_not]; simp [jitterBad]

theorem jitterBad_false {p : Params α} (hj : JitterOk p) : jitterBad p = false := by
  rw [← Bool.not_eq_true, jitterBad_iff]
  exact fun ⟨hne, hr⟩ => hj.elim hne hr

theorem verdict_jitter_off {p : Params α} (hj : JitterOk p) (fuel : Nat) :
    verdict fuel { p with jitter := 0 } = verdict fuel p := by
  unfold verdict
  rw [rangeBad_jitter, resolveCount_jitter, jitterBad_false hj, jitterBad_false (Or.inl rfl)]

theorem backoffIter_of_valid {p : Params α} (hp : ValidParams p) (hj : JitterOk p) (fuel : Nat) (r : Nat → α) :
    backoffIter fuel r p = (resolveCount fuel p).outcome (yieldAt r p) := by
  rw [backoffIter_eq, verdict_of_ok (rangeBad_false hp) (jitterBad_false hj)]

theorem cap_le (stop c : α) : cap stop c ≤ stop := by
  unfold cap; split
  · exact Std.le_refl _
  · rename_i h; exact Std.not_lt.mp h

theorem cap_of_le {stop c : α} (h : c ≤ stop) : cap stop c = c := by
  unfold cap; exact if_neg (Std.not_lt.mpr h)

theorem cap_of_ge {stop c : α} (h : stop ≤ c) : cap stop c = stop := by
  unfold cap; split
  · rfl
  · rename_i h'; exact Std.le_antisymm (Std.not_lt.mp h') h

theorem cap_of_lt {stop c : α} (h : stop < c) : cap stop c = stop := cap_of_ge (Std.le_of_lt h)

theorem le_cap {stop c g : α} (h1 : c ≤ stop) (h2 : c ≤ g) : c ≤ cap stop g := by
  unfold cap; split <;> assumption

theorem seqAt_zero (factor stop cur : α) : seqAt factor stop cur 0 = cur := rfl

theorem seqAt_add (factor stop cur : α) (i j : Nat) :
    seqAt factor stop cur (i + j) = seqAt factor stop (seqAt factor stop cur i) j := by
  induction j with
  | zero => rfl
  | succ n ih => rw [← Nat.add_assoc, seqAt_succ, ih, ← seqAt_succ]

theorem grow_zero (factor stop : α) : grow factor stop 0 = 1 := by
  unfold grow; rw [if_pos (beq_self_eq_true _)]

theorem grow_of_ne_zero (factor stop : α) {cur : α} (hne : cur ≠ 0) :
    grow factor stop cur = if cur < stop then cur * factor else cur := by
  unfold grow; rw [if_neg (by simpa using hne)]

theorem le_grow {factor stop : α} (hv : Laws factor stop) {cur : α} (h0 : 0 ≤ cur) (h1 : cur ≤ stop) :
    cur ≤ grow factor stop cur := by
  by_cases hc : cur = 0
  · rw [hc, grow_zero]; exact hv.zero_le_one
  · rw [grow_of_ne_zero _ _ hc]
    split
    · exact hv.infl cur (Std.lt_of_le_of_ne h0 (Ne.symm hc)) h1
    · exact Std.le_refl _

theorem le_next {factor stop : α} (hv : Laws factor stop) {cur : α} (h0 : 0 ≤ cur) (h1 : cur ≤ stop) :
    cur ≤ next factor stop cur :=
  le_cap h1 (le_grow hv h0 h1)

theorem seqAt_range {factor stop start : α} (hv : Valid factor stop start) (i : Nat) :
    0 ≤ seqAt factor stop start i ∧ seqAt factor stop start i ≤ stop := by
  induction i with
  | zero => exact ⟨hv.start_nonneg, hv.start_le_stop⟩
  | succ n ih =>
    rw [seqAt_succ]
    exact ⟨Std.le_trans ih.1 (le_next hv.toLaws ih.1 ih.2), cap_le _ _⟩

theorem seqAt_step_le {factor stop start : α} (hv : Valid factor stop start) (i : Nat) :
    seqAt factor stop start i ≤ seqAt factor stop start (i + 1) := by
  rw [seqAt_succ]
  exact le_next hv.toLaws (seqAt_range hv i).1 (seqAt_range hv i).2

theorem next_stop {factor stop : α} (hv : Laws factor stop) :
    next factor stop stop = stop := by
  unfold next
  rw [grow_of_ne_zero _ _ hv.stop_ne_zero, if_neg Std.lt_irrefl, cap_of_le (Std.le_refl _)]

theorem next_of_ne_zero {factor stop : α} (hv : Laws factor stop) {cur : α}
    (h0 : 0 ≤ cur) (h1 : cur ≤ stop) (hne : cur ≠ 0) :
    next factor stop cur = if stop < cur * factor then stop else cur * factor := by
  by_cases hlt : cur < stop
  · unfold next
    rw [grow_of_ne_zero _ _ hne, if_pos hlt]; rfl
  · -- at the cap: `cur = stop` stays, and `stop * factor` is not below `stop`
    have : cur = stop := Std.le_antisymm h1 (Std.not_lt.mp hlt)
    subst this
    rw [next_stop hv]
    exact (cap_of_ge (hv.infl cur (Std.lt_of_le_of_ne h0 (Ne.symm hne)) h1)).symm

theorem next_zero (factor stop : α) :
    next factor stop (0 : α) = if stop < 1 then stop else 1 := by
  unfold next; rw [grow_zero]; rfl

theorem defaultCount_zero (factor stop cur : α) (n : Nat) :
    defaultCount factor stop 0 cur n = .fuelOut := rfl

theorem bump_nonneg {factor stop : α} (hv : Laws factor stop) {cur : α} (h0 : 0 ≤ cur) (hlt : cur < stop) :
    0 ≤ bump factor cur :=
  grow_of_lt factor hlt ▸ Std.le_trans h0 (le_grow hv h0 (Std.le_of_lt hlt))

/-- below `stop` a turn of the counting loop moves `cur`: from `0` to `1`, from a positive delay by `strict` -/
theorem bump_ne_self {factor stop cur : α} (h01 : (1 : α) ≠ 0) (strict : ∀ x : α, 0 < x → x < stop → x * factor ≠ x)
    (h0 : 0 ≤ cur) (hlt : cur < stop) : bump factor cur ≠ cur := by
  rw [← grow_of_lt factor hlt]
  by_cases hc : cur = 0
  · rw [hc, grow_zero]; exact h01
  · rw [grow_of_ne_zero _ _ hc, if_pos hlt]; exact strict cur (Std.lt_of_le_of_ne h0 (Ne.symm hc)) hlt

/-- when the loop finishes with `m`, the capped sequence is at `stop` exactly at position `m - n`
    and below `stop` before (the loop's `cur` is uncapped, the model's sequence capped; `n` is the running counter) -/
theorem defaultCount_spec {factor stop : α} (hv : Laws factor stop) (fuel : Nat) (cur : α) (n m : Nat)
    (h0 : 0 ≤ cur) (h : defaultCount factor stop fuel cur n = .count m) :
    n ≤ m ∧ seqAt factor stop (cap stop cur) (m - n) = stop ∧
      ∀ k, k < m - n → seqAt factor stop (cap stop cur) k < stop := by
  fun_induction defaultCount factor stop fuel cur n with
  | case1 => cases h
  | case2 => cases h
  | case3 fuel cur n hlt _ ih =>
    obtain ⟨h1, h2, h3⟩ := ih (bump_nonneg hv h0 hlt) h
    rw [cap_bump _ _ hlt] at h2 h3
    rw [cap_of_le (Std.le_of_lt hlt)]
    refine ⟨by omega, ?_, ?_⟩
    · rw [show m - n = (m - (n + 1)) + 1 by omega]; exact h2
    · intro k hk
      cases k with
      | zero => exact hlt
      | succ k' => exact h3 k' (by omega)
  | case4 fuel cur n hlt =>
    cases h
    refine ⟨Nat.le_refl _, ?_, fun k hk => by omega⟩
    rw [Nat.sub_self]
    exact cap_of_ge (Std.not_lt.mp hlt)

/-- the loop makes one turn per position of the capped sequence below `stop` and one more to leave: `k + 1` fuel
    suffices when position `k` is at `stop` -/
theorem defaultCount_terminates {factor stop : α} (hv : Laws factor stop)
    (h01 : (1 : α) ≠ 0)
    (strict : ∀ x : α, 0 < x → x < stop → x * factor ≠ x)
    (k : Nat) (cur : α) (n fuel : Nat) (h0 : 0 ≤ cur)
    (hk : seqAt factor stop (cap stop cur) k = stop) (hf : k + 1 ≤ fuel) :
    ∃ m, defaultCount factor stop fuel cur n = .count m := by
  fun_induction defaultCount factor stop fuel cur n generalizing k with
  | case1 => omega
  | case2 fuel cur n hlt hnp => exact absurd (eq_of_beq hnp) (bump_ne_self h01 strict h0 hlt)
  | case3 fuel cur n hlt _ ih =>
    rw [cap_of_le (Std.le_of_lt hlt)] at hk
    cases k with
    | zero => exact absurd (hk ▸ hlt) Std.lt_irrefl
    | succ k => exact ih k (bump_nonneg hv h0 hlt) (by rw [cap_bump _ _ hlt]; exact hk) (by omega)
  | case4 fuel cur n hlt => exact ⟨n, rfl⟩

theorem emit_off (r cur : α) : emit (0 : α) r cur = cur := by
  unfold emit; simp

theorem yieldAt_off {p : Params α} (hj : p.jitter = 0) (r : Nat → α) :
    yieldAt r p = seqAt p.factor p.stop p.start :=
  funext fun i => by simp only [yieldAt, hj, emit_off]

theorem last_yield_of_stop {p : Params α} (r : Nat → α) {n : Nat} (hn : 1 ≤ n) (hj0 : p.jitter = 0)
    (hs : seqAt p.factor p.stop p.start (n - 1) = p.stop) :
    ((List.range n).map (yieldAt r p)).getLast? = some p.stop := by
  obtain ⟨m, rfl⟩ : ∃ m, n = m + 1 := ⟨n - 1, by omega⟩
  rw [List.range_succ, List.map_append, List.getLast?_append]
  simp only [List.map_cons, List.map_nil, List.getLast?_singleton, Option.some_or, yieldAt, hj0, emit_off]
  rw [Nat.add_sub_cancel] at hs
  rw [hs]

end Order
section Exact

theorem le_mul_of_one_le {factor x : Rat} (hf : 1 ≤ factor) (hx : 0 ≤ x) : x ≤ x * factor := by
  simpa using Rat.mul_le_mul_of_nonneg_left hf hx

theorem rat_laws {factor stop : Rat} (hf : 1 ≤ factor) (hs : 0 < stop) : Laws factor stop :=
  ⟨hs, by decide, fun _ hx _ => le_mul_of_one_le hf (Rat.le_of_lt hx)⟩

theorem rat_valid {factor stop start : Rat} (h0 : 0 ≤ start) (h1 : start ≤ stop) (hs : 0 < stop)
    (hf : 1 ≤ factor) : Valid factor stop start :=
  { rat_laws hf hs with start_nonneg := h0, start_le_stop := h1 }

theorem rat_strict {factor : Rat} (hf : 1 < factor) (x : Rat) (hx : 0 < x) : x * factor ≠ x := by
  have := Rat.mul_lt_mul_of_pos_left hf hx
  grind

theorem bernoulli (f : Rat) (k : Nat) (hf : 1 ≤ f) : 1 + (k : Rat) * (f - 1) ≤ f ^ k := by
  induction k with
  | zero => simp; grind
  | succ n ih =>
    have hn : 0 ≤ (n : Rat) := by exact_mod_cast Nat.zero_le n
    have h2 : 0 ≤ (n : Rat) * (f - 1) * (f - 1) := by
      apply Rat.mul_nonneg
      · apply Rat.mul_nonneg hn; grind
      · grind
    rw [Rat.pow_succ]
    have : (1 + (n : Rat) * (f - 1)) * f ≤ f ^ n * f := Rat.mul_le_mul_of_nonneg_right ih (by grind)
    push_cast
    grind

theorem exists_nat_ge (q : Rat) : ∃ k : Nat, q ≤ (k : Rat) := by
  refine ⟨q.ceil.toNat, ?_⟩
  have h1 := @Rat.le_ceil q
  have h2 : q.ceil ≤ (q.ceil.toNat : Int) := Int.self_le_toNat _
  have h3 : (q.ceil : Rat) ≤ ((q.ceil.toNat : Int) : Rat) := by exact_mod_cast h2
  have : ((q.ceil.toNat : Int) : Rat) = (q.ceil.toNat : Rat) := by norm_cast
  grind

/-- Archimedean property via `bernoulli` -/
theorem pow_reaches (f s x : Rat) (hf : 1 < f) (hx : 0 < x) : ∃ k : Nat, s ≤ x * f ^ k := by
  have hd : 0 < x * (f - 1) := Rat.mul_pos hx (by grind)
  have hdne : x * (f - 1) ≠ 0 := by grind
  obtain ⟨k, hk⟩ := exists_nat_ge ((s - x) / (x * (f - 1)))
  refine ⟨k, ?_⟩
  have h1 := Rat.mul_le_mul_of_nonneg_right hk (Rat.le_of_lt hd)
  rw [Rat.div_mul_cancel hdne] at h1
  have h2 := Rat.mul_le_mul_of_nonneg_left (bernoulli f k (Rat.le_of_lt hf)) (Rat.le_of_lt hx)
  grind

theorem ite_lt_eq_min (stop c : Rat) : (if stop < c then stop else c) = min c stop := by
  rw [Rat.min_def]
  by_cases h : c ≤ stop
  · rw [if_pos h, if_neg (Rat.not_lt.mpr h)]
  · rw [if_neg h, if_pos (Rat.not_le.mp h)]

theorem next_min {factor stop a : Rat} (hv : Laws factor stop) (hf : 1 ≤ factor) (ha : 0 < a) :
    next factor stop (min a stop) = min (a * factor) stop := by
  by_cases hle : a ≤ stop
  · rw [Rat.min_def, if_pos hle, next_of_ne_zero hv (Rat.le_of_lt ha) hle (Ne.symm (Std.ne_of_lt ha)), ite_lt_eq_min]
  · have hlt := Rat.not_le.mp hle
    rw [Rat.min_def, Rat.min_def, if_neg hle, next_stop hv, if_neg]
    exact Rat.not_le.mpr (Std.lt_of_lt_of_le hlt (le_mul_of_one_le hf (Rat.le_of_lt ha)))

theorem seqAt_min {factor stop : Rat} (hv : Laws factor stop) (hf : 1 ≤ factor) {a : Rat} (ha : 0 < a) (i : Nat) :
    seqAt factor stop (min a stop) i = min (a * factor ^ i) stop := by
  induction i generalizing a with
  | zero => rw [Rat.pow_zero, Rat.mul_one]; rfl
  | succ n ih =>
    show seqAt factor stop (next factor stop (min a stop)) n = _
    rw [next_min hv hf ha, ih (Rat.mul_pos ha (Std.lt_of_lt_of_le (by decide) hf)), Rat.pow_succ, Rat.mul_assoc,
      Rat.mul_comm factor]

theorem emit_eq (j r b : Rat) : emit j r b = b - b * j * r := by
  unfold emit
  split
  · rename_i h; rw [eq_of_beq h]; grind
  · rfl

theorem emit_bounds (j r b : Rat) (hb : 0 ≤ b) (hr0 : 0 ≤ r) (hr1 : r ≤ 1) :
    (0 ≤ j → b * (1 - j) ≤ emit j r b ∧ emit j r b ≤ b) ∧
    (j ≤ 0 → b ≤ emit j r b ∧ emit j r b ≤ b * (1 - j)) := by
  have ht0 : 0 ≤ b * r := Rat.mul_nonneg hb hr0
  have ht1 : b * r ≤ b := by simpa using Rat.mul_le_mul_of_nonneg_left hr1 hb
  rw [emit_eq]
  -- `s * (b * r)` lies in `[0, s * b]` for `s = j` resp. `s = -j`
  have key : ∀ s : Rat, 0 ≤ s → 0 ≤ s * (b * r) ∧ s * (b * r) ≤ s * b := fun s hs =>
    ⟨Rat.mul_nonneg hs ht0, Rat.mul_le_mul_of_nonneg_left ht1 hs⟩
  constructor
  · intro hj0; have := key j hj0; constructor <;> grind
  · intro hj0; have := key (-j) (by grind); constructor <;> grind

end Exact

end C15
