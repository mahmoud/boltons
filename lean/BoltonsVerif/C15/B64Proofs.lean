import BoltonsVerif.C15.B64
import BoltonsVerif.C15.Proofs
/-
C15 — `B64` satisfies the order layer's hypotheses: the patterns are linearly ordered, and
multiplying a positive finite double by a finite factor ≥ 1 (round to nearest, ties to even,
subnormals and overflow included) never gives a smaller double.
-/
namespace C15
namespace B64

theorem le_def (a b : B64) : a ≤ b ↔ a.bits ≤ b.bits := Iff.rfl
theorem lt_def (a b : B64) : a < b ↔ a.bits < b.bits := Iff.rfl
theorem mul_def (a b : B64) :
    a * b = if INF ≤ a.bits ∨ INF ≤ b.bits then ⟨INF⟩ else ⟨rnd (V a.bits * V b.bits) 1074⟩ := rfl
theorem one_bits : (1 : B64).bits = ONE := rfl

instance : Std.IsLinearOrder B64 where
  le_refl a := Nat.le_refl a.bits
  le_trans a b c := by simp only [le_def]; omega
  le_antisymm a b := by
    cases a; cases b; simp only [le_def, B64.mk.injEq]; omega
  le_total a b := by simp only [le_def]; omega

instance : Std.LawfulOrderLT B64 where
  lt_iff a b := by simp only [le_def, lt_def]; omega

/-- the `q` of `rnd N sh`: the exponent of the quantum it rounds to -/
def rndExp (N sh : Nat) : Nat := N.log2 - (sh + 52)
/-- the `k0` of `rnd N sh`: the significand rounded down -/
def rndSig (N sh : Nat) : Nat := N / 2 ^ (sh + rndExp N sh)

/-- `rnd` is at least the pattern with the significand rounded down, below `INF` -/
theorem rnd_ge_floor (N sh : Nat) (x : Nat) (hx : x < INF) (h : x ≤ rndExp N sh * 2 ^ 52 + rndSig N sh) :
    x ≤ rnd N sh := by
  unfold rnd
  exact Nat.le_min.mpr ⟨Nat.le_trans h (Nat.le_add_right _ _), Nat.le_of_lt hx⟩

/-- `k` is the significand of a double whose quantum has exponent `q`: `2^52 ≤ k < 2^53`, or, for a
    subnormal, `k < 2^52` and `q = 0` -/
structure Sig (k q : Nat) : Prop where
  lt : k < 2 ^ 53
  norm : (q = 0 ∧ k < 2 ^ 52) ∨ 2 ^ 52 ≤ k

theorem pattern_sig (x : Nat) : ∃ q k, x = q * 2 ^ 52 + k ∧ V x = k * 2 ^ q ∧ Sig k q := by
  have hfr : x % 2 ^ 52 < 2 ^ 52 := Nat.mod_lt _ (by decide)
  have hxd : x = x / 2 ^ 52 * 2 ^ 52 + x % 2 ^ 52 := by rw [Nat.mul_comm]; exact (Nat.div_add_mod x _).symm
  unfold V
  by_cases hE : x / 2 ^ 52 = 0
  · rw [hE, Nat.zero_mul, Nat.zero_add] at hxd
    rw [← hxd] at hfr
    rw [if_pos hE, ← hxd]
    exact ⟨0, x, by rw [Nat.zero_mul, Nat.zero_add], by rw [Nat.pow_zero, Nat.mul_one],
      Nat.lt_trans hfr (by decide), Or.inl ⟨rfl, hfr⟩⟩
  · obtain ⟨q, hq⟩ : ∃ q, x / 2 ^ 52 = q + 1 := ⟨x / 2 ^ 52 - 1, by omega⟩
    rw [if_neg hE, hq, Nat.add_sub_cancel]
    refine ⟨q, 2 ^ 52 + x % 2 ^ 52, ?_, rfl, Nat.add_lt_add_left hfr _, Or.inr (Nat.le_add_right _ _)⟩
    rw [hq, Nat.add_mul, Nat.one_mul, Nat.add_assoc] at hxd
    exact hxd

theorem V_ge_of_one_le (f : Nat) (hf : ONE ≤ f) : 2 ^ 1074 ≤ V f := by
  obtain ⟨q, k, rfl, hV, hs⟩ := pattern_sig f
  have hq : 1022 ≤ q := by
    have : ONE = 1023 * 2 ^ 52 := by decide
    have := hs.lt
    omega
  have hk52 : 2 ^ 52 ≤ k := hs.norm.resolve_left fun h => by omega
  rw [hV]
  calc 2 ^ 1074 = 2 ^ 52 * 2 ^ 1022 := by rw [← Nat.pow_add]
    _ ≤ k * 2 ^ q := Nat.mul_le_mul hk52 (Nat.pow_le_pow_right (by decide) hq)

/-- `rnd` takes the exponent from `log2 N`: it is at least that of a normalised `k * 2^q` (in quanta `2^-sh`) not above `N`,
    and at most that of one not below `N` (`quantum_le`) -/
theorem quantum_ge {k q sh N : Nat} (hs : Sig k q) (hN : k * 2 ^ (sh + q) ≤ N) : q ≤ rndExp N sh := by
  unfold rndExp
  rcases hs.norm with ⟨rfl, _⟩ | hkn
  · exact Nat.zero_le _
  · have hNlow : 2 ^ (52 + (sh + q)) ≤ N := by
      rw [Nat.pow_add]; exact Nat.le_trans (Nat.mul_le_mul_right _ hkn) hN
    have hN0 : N ≠ 0 := Nat.ne_of_gt (Nat.lt_of_lt_of_le (Nat.pow_pos (by decide)) hNlow)
    have := (Nat.le_log2 hN0).mpr hNlow
    omega

theorem quantum_le {k q sh N : Nat} (hs : Sig k q) (hN : N ≤ k * 2 ^ (sh + q)) : rndExp N sh ≤ q := by
  unfold rndExp
  by_cases hN0 : N = 0
  · subst hN0; simp [Nat.log2_zero]
  · have : N.log2 < 53 + (sh + q) := by
      rw [Nat.log2_lt hN0, Nat.pow_add]
      exact Nat.lt_of_le_of_lt hN (Nat.mul_lt_mul_of_pos_right hs.lt (Nat.pow_pos (by decide)))
    omega

/-- rounding never goes below a double whose value the exact number is at least -/
theorem rnd_ge {k q : Nat} (hs : Sig k q) (sh N : Nat) (hlt : q * 2 ^ 52 + k < INF) (hN : k * 2 ^ (sh + q) ≤ N) :
    q * 2 ^ 52 + k ≤ rnd N sh := by
  apply rnd_ge_floor _ _ _ hlt
  have hk := hs.lt
  rcases Nat.eq_or_lt_of_le (quantum_ge hs hN) with he | hgt
  · -- same binade: the significand rounded down is at least `k`
    rw [rndSig, ← he]
    exact Nat.add_le_add_left ((Nat.le_div_iff_mul_le (Nat.pow_pos (by decide))).mpr hN) _
  · -- a higher binade is a normal one: its patterns start at `(q + 1) * 2^52 + 2^52`
    have h1 : (q + 1) * 2 ^ 52 ≤ rndExp N sh * 2 ^ 52 := Nat.mul_le_mul_right _ hgt
    rw [Nat.add_mul, Nat.one_mul] at h1
    have hN0 : N ≠ 0 := fun e => by rw [e, rndExp, Nat.log2_zero] at hgt; omega
    have hk0 : 2 ^ 52 ≤ rndSig N sh := by
      rw [rndSig, Nat.le_div_iff_mul_le (Nat.pow_pos (by decide)), ← Nat.pow_add,
        show 52 + (sh + rndExp N sh) = N.log2 by unfold rndExp at hgt ⊢; omega]
      exact Nat.log2_self_le hN0
    omega

theorem rnd_mul_ge (x vf : Nat) (hx : x < INF) (hvf : 2 ^ 1074 ≤ vf) : x ≤ rnd (V x * vf) 1074 := by
  obtain ⟨q, k, rfl, hV, hs⟩ := pattern_sig x
  apply rnd_ge hs 1074 _ hx
  rw [hV, Nat.pow_add, Nat.mul_comm (2 ^ 1074), ← Nat.mul_assoc]; exact Nat.mul_le_mul_left _ hvf

theorem infl (f : B64) (hf : (1 : B64) ≤ f) (x : B64) (hx : x.bits < INF) : x ≤ x * f := by
  rw [le_def, mul_def]
  split
  · show x.bits ≤ INF; omega
  · exact rnd_mul_ge x.bits (V f.bits) hx (V_ge_of_one_le f.bits hf)

theorem laws (f stop : B64) (hf : (1 : B64) ≤ f) (hs : (0 : B64) < stop) (hfin : stop.bits < INF) :
    Laws f stop :=
  ⟨hs, by decide, fun x _ hxs => infl f hf x (by rw [le_def] at hxs; omega)⟩

theorem valid (f stop start : B64) (h1 : start ≤ stop) (hs : (0 : B64) < stop) (hfin : stop.bits < INF)
    (hf : (1 : B64) ≤ f) : Valid f stop start :=
  { laws f stop hf hs hfin with start_nonneg := Nat.zero_le _, start_le_stop := h1 }

theorem rnd_exact {k q : Nat} (hs : Sig k q) (sh : Nat) (hlt : q * 2 ^ 52 + k < INF) :
    rnd (k * 2 ^ (sh + q)) sh = q * 2 ^ 52 + k := by
  have hpos : 0 < 2 ^ (sh + q) := Nat.pow_pos (by decide)
  -- `rnd` recomputes the given `q` from log2; then the remainder is 0 and nothing is rounded
  have hq' : rndExp (k * 2 ^ (sh + q)) sh = q :=
    Nat.le_antisymm (quantum_le hs (Nat.le_refl _)) (quantum_ge hs (Nat.le_refl _))
  unfold rndExp at hq'
  unfold rnd
  simp only [hq', Nat.mul_div_cancel _ hpos, Nat.mul_mod_left]
  have hp : 0 < 2 ^ (sh + q - 1) := Nat.pow_pos (by decide)
  have h1 : ¬ (2 ^ (sh + q - 1) < 0) := Nat.not_lt_zero _
  have h2 : ((0 : Nat) == 2 ^ (sh + q - 1)) = false := by
    simp only [beq_eq_false_iff_ne, ne_eq]; omega
  simp only [h1, h2, decide_false, Bool.false_and, Bool.or_false, Bool.false_eq_true, if_false, Nat.add_zero]
  exact Nat.min_eq_left (Nat.le_of_lt hlt)

theorem V_one : V ONE = 2 ^ 1074 := by decide +kernel

theorem mul_one (x : B64) (hx : x.bits < INF) : x * 1 = x := by
  have h1 : ¬ (INF ≤ x.bits ∨ INF ≤ ONE) := by
    have : ¬ INF ≤ ONE := by decide
    omega
  rw [mul_def, one_bits, if_neg h1, V_one]
  obtain ⟨q, k, hb, hV, hs⟩ := pattern_sig x.bits
  rw [hV, Nat.mul_assoc, ← Nat.pow_add, Nat.add_comm q, rnd_exact hs 1074 (hb ▸ hx), ← hb]

end B64
end C15
