import BoltonsVerif.C15.Session
/-
C15 — `readObs` and lemmas about sessions (several calls, caller-side list changes, interleaved generators).
-/
set_option linter.unusedSectionVars false
namespace C15

/-- what looking again at the object of a `backoff` call shows -/
def readObs {α : Type} : Outcome α → Obs α
  | .finite vals => .vals vals
  | _ => .skip

section
variable {α : Type} [LE α] [LT α] [DecidableLE α] [DecidableLT α] [BEq α]
  [Mul α] [Sub α] [Neg α] [OfNat α 0] [OfNat α 1]

theorem stepPull_of_get {s : List (Obj α)} {k : Nat} {o : Obj α} (h : s[k]? = some o) (n : Nat) :
    stepPull s k n = (s.set k (pullObj o n).1, (pullObj o n).2) := by
  unfold stepPull; rw [h]

theorem stepRead_listObj {s : List (Obj α)} {k : Nat} {o : Outcome α} (h : s[k]? = some (listObj o)) :
    stepRead s k = (s, readObs o) := by
  unfold stepRead; rw [h]
  cases o <;> rfl

/-- all that the length and frame lemmas need to know about `step` -/
theorem step_state (fuel : Nat) (s : List (Obj α)) (op : Op α) :
    (∃ o, (step fuel s op).1 = s ++ [o]) ∨ (step fuel s op).1 = s ∨
      ∃ k o, op.target = some k ∧ (step fuel s op).1 = s.set k o := by
  cases op with
  | callL p r | callI p r => exact Or.inl ⟨_, rfl⟩
  | pull k n =>
    simp only [step, stepPull]; split
    · exact Or.inr (Or.inr ⟨k, _, rfl, rfl⟩)
    · exact Or.inr (Or.inl rfl)
  | chg k m =>
    simp only [step, stepChg]; split
    · exact Or.inr (Or.inr ⟨k, _, rfl, rfl⟩)
    · exact Or.inr (Or.inl rfl)
    · exact Or.inr (Or.inl rfl)
  | read k => simp only [step, stepRead]; split <;> exact Or.inr (Or.inl rfl)

theorem step_length (fuel : Nat) (s : List (Obj α)) (op : Op α) :
    s.length ≤ (step fuel s op).1.length := by
  rcases step_state fuel s op with ⟨o, h⟩ | h | ⟨k, o, _, h⟩ <;> rw [h] <;> simp

theorem step_frame (fuel : Nat) (s : List (Obj α)) (op : Op α) (j : Nat) (hj : j < s.length)
    (ht : op.target ≠ some j) : (step fuel s op).1[j]? = s[j]? := by
  rcases step_state fuel s op with ⟨o, h⟩ | h | ⟨k, o, hk, h⟩ <;> rw [h]
  · exact List.getElem?_append_left hj
  · exact List.getElem?_set_ne fun e => ht (by rw [hk, e])

theorem runState_length (fuel : Nat) (ops : List (Op α)) (s : List (Obj α)) :
    s.length ≤ (runState fuel s ops).length := by
  induction ops generalizing s with
  | nil => simp [runState]
  | cons op ops ih =>
    simp only [runState]
    exact Nat.le_trans (step_length fuel s op) (ih _)

theorem runState_frame (fuel : Nat) (ops : List (Op α)) (s : List (Obj α)) (j : Nat) (hj : j < s.length)
    (h : ∀ op ∈ ops, op.target ≠ some j) : (runState fuel s ops)[j]? = s[j]? := by
  induction ops generalizing s with
  | nil => rfl
  | cons op ops ih =>
    simp only [runState]
    rw [ih _ (Nat.lt_of_lt_of_le hj (step_length fuel s op)) (fun o ho => h o (List.mem_cons_of_mem _ ho))]
    exact step_frame fuel s op j hj (h op List.mem_cons_self)

theorem runState_append (fuel : Nat) (pre post : List (Op α)) (s : List (Obj α)) :
    runState fuel s (pre ++ post) = runState fuel (runState fuel s pre) post := by
  induction pre generalizing s with
  | nil => rfl
  | cons op ops ih => simp only [List.cons_append, runState]; exact ih _

theorem run_length (fuel : Nat) (ops : List (Op α)) (s : List (Obj α)) :
    (run fuel s ops).length = ops.length := by
  induction ops generalizing s with
  | nil => rfl
  | cons op ops ih => simp [run, ih]

theorem run_append (fuel : Nat) (pre post : List (Op α)) (s : List (Obj α)) :
    run fuel s (pre ++ post) = run fuel s pre ++ run fuel (runState fuel s pre) post := by
  induction pre generalizing s with
  | nil => rfl
  | cons op ops ih => simp only [List.cons_append, run, runState, ih]

theorem run_at (fuel : Nat) (pre post : List (Op α)) (op : Op α) (s : List (Obj α)) :
    (run fuel s (pre ++ op :: post))[pre.length]? = some (step fuel (runState fuel s pre) op).2 := by
  rw [run_append, List.getElem?_append_right (by rw [run_length]; exact Nat.le_refl _), run_length]
  simp [run]

theorem run_last (fuel : Nat) (pre : List (Op α)) (op : Op α) (s : List (Obj α)) :
    (run fuel s (pre ++ [op])).getLast? = some (step fuel (runState fuel s pre) op).2 := by
  rw [run_append]
  simp [run]

/-- `run_last` for a history `pre ++ call :: mid` whose part `mid` leaves the object `o` made by `call` alone: `op` runs on a
    register file `T` that still holds `o` at the call's index, and that is all a `read` or `pull` of it looks at -/
theorem run_last_after_call (fuel : Nat) (pre mid : List (Op α)) (call op : Op α) (o : Obj α) (s : List (Obj α))
    (hcall : (step fuel (runState fuel s pre) call).1 = runState fuel s pre ++ [o])
    (hmid : ∀ x ∈ mid, x.target ≠ some (runState fuel s pre).length) :
    ∃ T : List (Obj α), T[(runState fuel s pre).length]? = some o ∧
      (run fuel s (pre ++ call :: (mid ++ [op]))).getLast? = some (step fuel T op).2 := by
  refine ⟨runState fuel (runState fuel s pre ++ [o]) mid, ?_, ?_⟩
  · rw [runState_frame fuel mid _ _ (by simp) hmid, List.getElem?_append_right (Nat.le_refl _)]; simp
  · rw [show pre ++ call :: (mid ++ [op]) = (pre ++ call :: mid) ++ [op] by simp, run_last, runState_append]
    simp only [runState, hcall]

theorem pullObj_split (o : Obj α) (n m : Nat) :
    (pullObj (pullObj o n).1 m).1 = (pullObj o (n + m)).1 ∧
    (pullObj o (n + m)).2.values = (pullObj o n).2.values ++ (pullObj (pullObj o n).1 m).2.values := by
  cases o with
  | lst v => simp [pullObj, Obs.values]
  | failed => simp [pullObj, Obs.values]
  | genFin rest => simp [pullObj, Obs.values, List.take_add]
  | genInf val pos =>
    simp only [pullObj, Obs.values, Nat.add_assoc, true_and]
    rw [List.range_add, List.map_append, List.map_map]
    rfl
  | genErr | genFuel =>
    cases n with
    | zero => cases m <;> simp [pullObj, Obs.values]
    | succ n' =>
      have : n' + 1 + m = (n' + m) + 1 := by omega
      rw [this]
      cases m <;> simp [pullObj, Obs.values]
  | genDead => simp [pullObj, Obs.values]

end
end C15
