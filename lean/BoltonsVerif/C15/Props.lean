import BoltonsVerif.C15.Proofs
import BoltonsVerif.C15.RoundingCarrier
import BoltonsVerif.C15.SessionProofs
import BoltonsVerif.C15.B64Proofs
/-
C15 — property theorems for the model of `backoff_iter` / `backoff`.

Statement (properties.jsonl): for valid parameters (0 ≤ start ≤ stop, stop > 0, factor ≥ 1)
backoff/backoff_iter without jitter yield start first (a start of 0 being followed by
min(1, stop)), then values that never decrease, grow by exactly factor per step until they
would pass stop and then stay at stop, and never exceed stop; exactly count values are
produced when count is given (endlessly for 'repeat' in backoff_iter), and with the default
count (factor > 1) the last value is stop.  With jitter j in [-1, 1] every value lies between
the un-jittered value b at that position and b*(1-j), inclusive, and parameters outside the
valid ranges raise ValueError before anything is yielded.

* ORDER LAYER (`section Order`): any carrier with a linear order and lawful `==` — the laws
  finite IEEE doubles obey — where `factor ≥ 1` is only used as "multiplying a delay in
  (0, stop] by factor does not shrink it" (`Laws.infl`).  `cur * factor` is whatever the
  carrier's `*` returns.
* EXACT LAYER (`section Exact`): `Rat`.  The order-layer hypotheses are discharged from the
  plain `0 ≤ start ≤ stop`, `0 < stop`, `1 ≤ factor`; closed form `min (start·factorⁱ) stop`;
  the default count is always defined for `factor > 1` (Archimedean argument); jitter bounds.
* DOUBLES (`section Doubles`): the order layer at `B64` (`b64_mul_ge` gives `Laws.infl`).

`seqAt factor stop start i` is the un-jittered delay at position `i`; the value yielded at
position `i` is `emit jitter (r i) (seqAt … i)` where `r i` is the i-th `random.random()` draw.
`fuel` only bounds the model's default-count loop (`fuel_irrelevant`).
-/
set_option linter.unusedSectionVars false
namespace C15

section Order
variable {α : Type} [LE α] [LT α] [DecidableLE α] [DecidableLT α] [BEq α] [LawfulBEq α]
  [Std.IsLinearOrder α] [Std.LawfulOrderLT α]
  [Mul α] [Sub α] [Neg α] [OfNat α 0] [OfNat α 1]

theorem first_is_start (factor stop start : α) : seqAt factor stop start 0 = start := rfl

theorem zero_then_min_one_stop (factor stop : α) :
    seqAt factor stop 0 1 = if stop < 1 then stop else 1 := by
  show next factor stop 0 = _
  exact next_zero factor stop

theorem monotone {factor stop start : α} (hv : Valid factor stop start) {i j : Nat} (h : i ≤ j) :
    seqAt factor stop start i ≤ seqAt factor stop start j := by
  induction j with
  | zero => rw [Nat.le_zero.mp h]; exact Std.le_refl _
  | succ n ih =>
    by_cases hij : i = n + 1
    · subst hij; exact Std.le_refl _
    · exact Std.le_trans (ih (by omega)) (seqAt_step_le hv n)

theorem le_stop {factor stop start : α} (hv : Valid factor stop start) (i : Nat) :
    0 ≤ seqAt factor stop start i ∧ seqAt factor stop start i ≤ stop := seqAt_range hv i

theorem stays_at_stop {factor stop start : α} (hv : Valid factor stop start) {i j : Nat}
    (h : seqAt factor stop start i = stop) (hij : i ≤ j) : seqAt factor stop start j = stop := by
  induction hij with
  | refl => exact h
  | step _ ih => rw [seqAt_succ, ih, next_stop hv.toLaws]

theorem grows_by_factor_until_cap {factor stop start : α} (hv : Valid factor stop start) (i : Nat)
    (hne : seqAt factor stop start i ≠ 0) :
    seqAt factor stop start (i + 1) =
      if stop < seqAt factor stop start i * factor then stop else seqAt factor stop start i * factor := by
  have hr := seqAt_range hv i
  rw [seqAt_succ]
  exact next_of_ne_zero hv.toLaws hr.1 hr.2 hne

theorem shape {factor stop start : α} (hv : Valid factor stop start) :
    seqAt factor stop start 0 = start ∧
    (start = 0 → seqAt factor stop start 1 = if stop < 1 then stop else 1) ∧
    (∀ i, seqAt factor stop start i ≤ seqAt factor stop start (i + 1)) ∧
    (∀ i, seqAt factor stop start i ≤ stop) ∧
    (∀ i, seqAt factor stop start i ≠ 0 →
      seqAt factor stop start (i + 1) =
        if stop < seqAt factor stop start i * factor then stop else seqAt factor stop start i * factor) ∧
    (∀ i j, seqAt factor stop start i = stop → i ≤ j → seqAt factor stop start j = stop) :=
  ⟨rfl, fun h => h ▸ zero_then_min_one_stop factor stop, fun i => monotone hv (Nat.le_succ i),
    fun i => (le_stop hv i).2, grows_by_factor_until_cap hv, fun _ _ h hij => stays_at_stop hv h hij⟩

theorem jitter_off_yields_delay (p : Params α) (hj : p.jitter = 0) (r : Nat → α) (i : Nat) :
    yieldAt r p i = seqAt p.factor p.stop p.start i := by
  rw [yieldAt_off hj]

theorem length_eq_count {p : Params α} (hp : ValidParams p) (hj : JitterOk p) (k : Int) (hk : 0 ≤ k)
    (hc : p.count = .num k) (fuel : Nat) (r : Nat → α) :
    ∃ vals, backoffIter fuel r p = .finite vals ∧ vals.length = k.toNat ∧
      ∀ i, i < k.toNat → vals[i]? = some (yieldAt r p i) := by
  refine ⟨_, by rw [backoffIter_of_valid hp hj, resolveCount_nonneg hc hk, outcome_num], by simp,
    fun i hi => by simp [hi]⟩

theorem repeat_is_infinite {p : Params α} (hp : ValidParams p) (hj : JitterOk p)
    (hc : p.count = .rep) (fuel : Nat) (r : Nat → α) :
    backoffIter fuel r p = .endless (yieldAt r p) := by
  rw [backoffIter_of_valid hp hj, resolveCount_rep hc, outcome_rep]

theorem default_count_last_is_stop {p : Params α} (hp : ValidParams p) (hc : p.count = .dflt)
    (fuel n : Nat) (h : resolveCount fuel p = .num n) :
    1 ≤ n ∧ seqAt p.factor p.stop p.start (n - 1) = p.stop ∧
      ∀ i, i < n - 1 → seqAt p.factor p.stop p.start i < p.stop := by
  have := defaultCount_spec hp.valid.toLaws fuel p.start 1 n hp.valid.start_nonneg ((resolveCount_dflt_num hc).mp h)
  rwa [cap_of_le hp.valid.start_le_stop] at this

/-- a default-count run of any length `m` from the minimal count `n` on ends at `stop` -/
theorem ends_at_stop {p : Params α} (hp : ValidParams p) (hc : p.count = .dflt) {fuel n : Nat}
    (h : resolveCount fuel p = .num n) {m : Nat} (hnm : n ≤ m) (r : Nat → α) :
    1 ≤ m ∧ seqAt p.factor p.stop p.start (m - 1) = p.stop ∧
      (p.jitter = 0 → ((List.range m).map (yieldAt r p)).getLast? = some p.stop) := by
  have hd := default_count_last_is_stop hp hc fuel n h
  have hm1 : 1 ≤ m := Nat.le_trans hd.1 hnm
  have hstop := stays_at_stop hp.valid hd.2.1 (show n - 1 ≤ m - 1 by omega)
  exact ⟨hm1, hstop, fun hj0 => last_yield_of_stop r hm1 hj0 hstop⟩

/-- the clause "with the default count the last value is stop".  `valueError`: the counting loop saw a step that
    makes no progress; `fuelOut`: the model's fuel was too small -/
theorem default_count_outcome {p : Params α} (hp : ValidParams p) (hj : JitterOk p)
    (hc : p.count = .dflt) (fuel : Nat) (r : Nat → α) :
    backoffIter fuel r p = .valueError ∨ backoffIter fuel r p = .fuelOut ∨
    ∃ n, 1 ≤ n ∧ backoffIter fuel r p = .finite ((List.range n).map (yieldAt r p)) ∧
      seqAt p.factor p.stop p.start (n - 1) = p.stop ∧
      (p.jitter = 0 → ((List.range n).map (yieldAt r p)).getLast? = some p.stop) := by
  rw [backoffIter_of_valid hp hj]
  cases hres : resolveCount fuel p with
  | bad => exact Or.inl rfl
  | fuelOut => exact Or.inr (Or.inl rfl)
  | rep => rw [resolveCount_dflt hc] at hres; split at hres <;> cases hres
  | num n =>
    have hd := ends_at_stop hp hc hres (Nat.le_refl n) r
    exact Or.inr (Or.inr ⟨n, hd.1, rfl, hd.2⟩)

theorem default_finite_last {p : Params α} (hp : ValidParams p) (hc : p.count = .dflt) (hj : p.jitter = 0)
    {fuel : Nat} {r : Nat → α} {vals : List α} (h : backoffIter fuel r p = .finite vals) :
    vals.getLast? = some p.stop := by
  rcases default_count_outcome hp (Or.inl hj) hc fuel r with hb | hb | ⟨m, _, hb, _, hlast⟩
  · rw [hb] at h; cases h
  · rw [hb] at h; cases h
  · rw [hb] at h; cases h; exact hlast hj

/-- `valueError` carries no values: this is "raise ValueError before anything is yielded" -/
theorem invalid_raises (p : Params α) (fuel : Nat) (r : Nat → α)
    (h : p.start < 0 ∨ p.factor < 1 ∨ p.stop = 0 ∨ p.stop < p.start ∨ (∃ k, p.count = .num k ∧ k < 0)) :
    backoffIter fuel r p = .valueError := by
  rw [backoffIter_eq, outcome_eq_valueError]
  have h' : rangeBad p = true ∨ ∃ k, p.count = .num k ∧ k < 0 := by
    rw [rangeBad_iff]; simpa only [or_assoc] using h
  rcases h' with hb | ⟨k, hk, hneg⟩
  · exact verdict_of_rangeBad hb fuel
  · exact verdict_of_countBad (resolveCount_neg hk hneg fuel)

/-- `stop > 0` is enforced too: a negative `stop` is below every admissible `start` -/
theorem negative_stop_raises (p : Params α) (fuel : Nat) (r : Nat → α) (h : p.stop < 0) :
    backoffIter fuel r p = .valueError := by
  apply invalid_raises
  by_cases h0 : p.start < 0
  · exact Or.inl h0
  · exact Or.inr (Or.inr (Or.inr (Or.inl (Std.lt_of_lt_of_le h (Std.not_lt.mp h0)))))

/-- `fuelOut`: the code resolves `count` before it checks `jitter` -/
theorem bad_jitter_raises (p : Params α) (fuel : Nat) (r : Nat → α)
    (hne : p.jitter ≠ 0) (h : ¬ (-1 ≤ p.jitter ∧ p.jitter ≤ 1)) :
    backoffIter fuel r p = .valueError ∨ backoffIter fuel r p = .fuelOut := by
  rw [backoffIter_eq, outcome_eq_valueError, outcome_eq_fuelOut]
  exact verdict_of_jitterBad ((jitterBad_iff p).mpr ⟨hne, h⟩) fuel

theorem count_dflt_of_fuelOut {p : Params α} {fuel : Nat} {r : Nat → α} (h : backoffIter fuel r p = .fuelOut) :
    p.count = .dflt := by
  rw [backoffIter_eq, outcome_eq_fuelOut, verdict_fuelOut] at h
  cases hc : p.count with
  | dflt => rfl
  | rep => rw [resolveCount_rep hc] at h; cases h.2
  | num k =>
    have := h.2
    rw [resolveCount_num hc] at this
    split at this <;> cases this

theorem valid_never_raises {p : Params α} (hp : ValidParams p) (hj : JitterOk p)
    (hc : p.count = .rep ∨ ∃ k, p.count = .num k ∧ 0 ≤ k) (fuel : Nat) (r : Nat → α) :
    backoffIter fuel r p ≠ .valueError ∧ backoffIter fuel r p ≠ .fuelOut := by
  rcases hc with hc | ⟨k, hc, hk⟩
  · rw [repeat_is_infinite hp hj hc]; simp
  · obtain ⟨vals, hv, _⟩ := length_eq_count hp hj k hk hc fuel r
    rw [hv]; simp

theorem fuel_irrelevant (p : Params α) (fuel d : Nat) (r : Nat → α)
    (h : backoffIter fuel r p ≠ .fuelOut) : backoffIter (fuel + d) r p = backoffIter fuel r p := by
  rw [backoffIter_eq, Ne, outcome_eq_fuelOut] at h
  rw [backoffIter_eq, backoffIter_eq, verdict_fuel_mono h]

theorem backoff_repeat_rejected (p : Params α) (hc : p.count = .rep) (fuel : Nat) (r : Nat → α) :
    backoff fuel r p = .valueError := by
  simp [backoff, hc]

theorem backoff_eq_iter (p : Params α) (hc : p.count ≠ .rep) (fuel : Nat) (r : Nat → α) :
    backoff fuel r p = backoffIter fuel r p := by
  unfold backoff
  split
  · contradiction
  · rfl

theorem default_count_defined_of_reaches {p : Params α} (hp : ValidParams p) (hc : p.count = .dflt)
    (h01 : (1 : α) ≠ 0) (strict : ∀ x : α, 0 < x → x < p.stop → x * p.factor ≠ x)
    (k fuel : Nat) (hk : seqAt p.factor p.stop p.start k = p.stop) (hf : k + 1 ≤ fuel) :
    ∃ n, resolveCount fuel p = .num n := by
  obtain ⟨m, hm⟩ := defaultCount_terminates hp.valid.toLaws h01 strict k p.start 1 fuel
    hp.valid.start_nonneg (by rwa [cap_of_le hp.valid.start_le_stop]) hf
  exact ⟨m, (resolveCount_dflt_num hc).mpr hm⟩

/-- what lets the driver judge a call with jitter by running it with jitter off and testing every observed value
    against the delay at its position: both calls have the same kind of outcome and the same number of values -/
theorem jitter_only_scales (p : Params α) (hj : JitterOk p) (fuel : Nat) (r r' : Nat → α) :
    match backoffIter fuel r' { p with jitter := 0 } with
    | .valueError => backoffIter fuel r p = .valueError
    | .fuelOut => backoffIter fuel r p = .fuelOut
    | .finite bs => ∃ n, bs = (List.range n).map (seqAt p.factor p.stop p.start) ∧
        backoffIter fuel r p = .finite ((List.range n).map (yieldAt r p))
    | .endless b => b = seqAt p.factor p.stop p.start ∧ backoffIter fuel r p = .endless (yieldAt r p) := by
  rw [backoffIter_eq, backoffIter_eq, verdict_jitter_off hj, yieldAt_off rfl]
  cases verdict fuel p with
  | bad => rfl
  | fuelOut => rfl
  | rep => exact ⟨rfl, rfl⟩
  | num n => exact ⟨n, rfl, rfl⟩

/-- the statement fixes the LAST value of a default-count run, not the number of values: when `acceptCount` accepts
    an observed number `m` of values for `count=None`, `m` is at least the minimal default count and the run judged
    as `count=m` still ends at `stop`.  A smaller `m` is never accepted (`acceptCount` returns `p`). -/
theorem accepted_default_count {p : Params α} (hp : ValidParams p) (hj : JitterOk p) (hc : p.count = .dflt)
    (fuel m : Nat) (r : Nat → α) :
    acceptCount fuel p m = p ∨
    ∃ n, resolveCount fuel p = .num n ∧ n ≤ m ∧ 1 ≤ m ∧
      backoffIter fuel r (acceptCount fuel p m) = .finite ((List.range m).map (yieldAt r p)) ∧
      seqAt p.factor p.stop p.start (m - 1) = p.stop ∧
      (p.jitter = 0 → ((List.range m).map (yieldAt r p)).getLast? = some p.stop) := by
  rcases acceptCount_cases fuel p m with h | ⟨n, _, hres, hnm, hacc⟩
  · exact Or.inl h
  · have hd := ends_at_stop hp hc hres hnm r
    refine Or.inr ⟨n, hres, hnm, hd.1, ?_, hd.2⟩
    have hp' : ValidParams ({ p with count := .num (m : Int) } : Params α) := ⟨hp.valid, hp.factor_ge⟩
    rw [hacc, backoffIter_of_valid hp' hj, resolveCount_nonneg rfl (Int.natCast_nonneg m), outcome_num,
      Int.toNat_natCast]

end Order
section Exact

theorem rat_validParams (p : Params Rat) (h0 : 0 ≤ p.start) (h1 : p.start ≤ p.stop) (hs : 0 < p.stop)
    (hf : 1 ≤ p.factor) : ValidParams p :=
  ⟨rat_valid h0 h1 hs hf, hf⟩

theorem exact_shape (factor stop start : Rat) (h0 : 0 ≤ start) (h1 : start ≤ stop) (hs : 0 < stop)
    (hf : 1 ≤ factor) :
    seqAt factor stop start 0 = start ∧
    (start = 0 → seqAt factor stop start 1 = min 1 stop) ∧
    (∀ i, seqAt factor stop start i ≤ seqAt factor stop start (i + 1)) ∧
    (∀ i, seqAt factor stop start i ≤ stop) ∧
    (∀ i, seqAt factor stop start i ≠ 0 →
      seqAt factor stop start (i + 1) = min (seqAt factor stop start i * factor) stop) ∧
    (∀ i j, seqAt factor stop start i = stop → i ≤ j → seqAt factor stop start j = stop) := by
  simpa only [ite_lt_eq_min] using shape (rat_valid h0 h1 hs hf)

theorem closed_form_pos (factor stop start : Rat) (h0 : 0 < start) (h1 : start ≤ stop) (hf : 1 ≤ factor)
    (i : Nat) : seqAt factor stop start i = min (start * factor ^ i) stop := by
  have h := seqAt_min (rat_laws hf (Std.lt_of_lt_of_le h0 h1)) hf h0 i
  rwa [Rat.min_def, if_pos h1] at h

theorem closed_form_zero (factor stop : Rat) (hs : 0 < stop) (hf : 1 ≤ factor) (i : Nat) :
    seqAt factor stop 0 (i + 1) = min (factor ^ i) stop := by
  show seqAt factor stop (next factor stop 0) i = _
  rw [next_zero, ite_lt_eq_min, seqAt_min (rat_laws hf hs) hf (by decide), Rat.one_mul]

theorem reaches_stop (factor stop start : Rat) (h0 : 0 ≤ start) (h1 : start ≤ stop) (hs : 0 < stop)
    (hf : 1 < factor) : ∃ k, seqAt factor stop start k = stop := by
  by_cases hz : start = 0
  · subst hz
    obtain ⟨k, hk⟩ := pow_reaches factor stop 1 hf (by decide)
    refine ⟨k + 1, ?_⟩
    rw [closed_form_zero factor stop hs (Rat.le_of_lt hf)]
    grind
  · obtain ⟨k, hk⟩ := pow_reaches factor stop start hf (by grind)
    refine ⟨k, ?_⟩
    rw [closed_form_pos factor stop start (by grind) h1 (Rat.le_of_lt hf)]
    grind

/-- the clause "with the default count (factor > 1) the last value is stop", in full: the call neither raises nor
    depends on the fuel -/
theorem default_count_reaches_stop (p : Params Rat) (h0 : 0 ≤ p.start) (h1 : p.start ≤ p.stop)
    (hs : 0 < p.stop) (hf : 1 < p.factor) (hj : -1 ≤ p.jitter ∧ p.jitter ≤ 1) (hc : p.count = .dflt)
    (r : Nat → Rat) :
    ∃ n fuel₀, 1 ≤ n ∧
      (∀ fuel, fuel₀ ≤ fuel → backoffIter fuel r p = .finite ((List.range n).map (yieldAt r p))) ∧
      seqAt p.factor p.stop p.start (n - 1) = p.stop ∧
      (∀ i, i < n - 1 → seqAt p.factor p.stop p.start i < p.stop) ∧
      (p.jitter = 0 → ((List.range n).map (yieldAt r p)).getLast? = some p.stop) := by
  have hp := rat_validParams p h0 h1 hs (Rat.le_of_lt hf)
  have hjo : JitterOk p := Or.inr hj
  obtain ⟨k, hk⟩ := reaches_stop p.factor p.stop p.start h0 h1 hs hf
  obtain ⟨n, hn⟩ := default_count_defined_of_reaches hp hc (by decide)
    (fun x hx _ => rat_strict hf x hx) k (k + 1) hk (Nat.le_refl _)
  have hd := default_count_last_is_stop hp hc (k + 1) n hn
  have hout : backoffIter (k + 1) r p = .finite ((List.range n).map (yieldAt r p)) := by
    rw [backoffIter_of_valid hp hjo, hn, outcome_num]
  refine ⟨n, k + 1, hd.1, ?_, hd.2.1, hd.2.2, fun hj0 => last_yield_of_stop r hd.1 hj0 hd.2.1⟩
  intro fuel hfu
  obtain ⟨d, rfl⟩ : ∃ d, fuel = (k + 1) + d := ⟨fuel - (k + 1), by omega⟩
  rw [fuel_irrelevant p (k + 1) d r (by rw [hout]; simp), hout]

/-- the default count in closed form (positive start): `n = 1 + k` for the least `k` with
    `stop ≤ start · factorᵏ`, i.e. `1 + ⌈log_factor (stop / start)⌉` computed exactly -/
theorem default_count_is_log_ceiling (p : Params Rat) (h0 : 0 < p.start) (h1 : p.start ≤ p.stop)
    (hf : 1 ≤ p.factor) (hc : p.count = .dflt) (fuel n : Nat) (h : resolveCount fuel p = .num n) :
    1 ≤ n ∧ p.stop ≤ p.start * p.factor ^ (n - 1) ∧ ∀ i, i < n - 1 → p.start * p.factor ^ i < p.stop := by
  have hp := rat_validParams p (Rat.le_of_lt h0) h1 (by grind) hf
  obtain ⟨hn, hlast, hbefore⟩ := default_count_last_is_stop hp hc fuel n h
  refine ⟨hn, ?_, ?_⟩
  · rw [closed_form_pos p.factor p.stop p.start h0 h1 hf] at hlast
    grind
  · intro i hi
    have := hbefore i hi
    rw [closed_form_pos p.factor p.stop p.start h0 h1 hf] at this
    grind

/-- `hr`: `random.random()` returns values in `[0, 1)` -/
theorem jitter_bounds (p : Params Rat) (h0 : 0 ≤ p.start) (h1 : p.start ≤ p.stop) (hs : 0 < p.stop)
    (hf : 1 ≤ p.factor) (r : Nat → Rat) (hr : ∀ i, 0 ≤ r i ∧ r i < 1) (i : Nat) :
    (0 ≤ p.jitter → p.jitter ≤ 1 →
      seqAt p.factor p.stop p.start i * (1 - p.jitter) ≤ yieldAt r p i ∧
      yieldAt r p i ≤ seqAt p.factor p.stop p.start i) ∧
    (-1 ≤ p.jitter → p.jitter ≤ 0 →
      seqAt p.factor p.stop p.start i ≤ yieldAt r p i ∧
      yieldAt r p i ≤ seqAt p.factor p.stop p.start i * (1 - p.jitter)) := by
  have hb := (le_stop (rat_valid h0 h1 hs hf) i).1
  have := emit_bounds p.jitter (r i) _ hb (hr i).1 (Rat.le_of_lt (hr i).2)
  exact ⟨fun h _ => this.1 h, fun _ h => this.2 h⟩

theorem validation_iff (p : Params Rat) (hc : p.count ≠ .dflt) (fuel : Nat) (r : Nat → Rat) :
    backoffIter fuel r p = .valueError ↔
      ¬ (0 ≤ p.start ∧ p.start ≤ p.stop ∧ 0 < p.stop ∧ 1 ≤ p.factor ∧
         (∀ k, p.count = .num k → 0 ≤ k) ∧ -1 ≤ p.jitter ∧ p.jitter ≤ 1) := by
  constructor
  · intro h ⟨h0, h1, hs, hf, hk, hj1, hj2⟩
    have hp := rat_validParams p h0 h1 hs hf
    have hcc : p.count = .rep ∨ ∃ k, p.count = .num k ∧ 0 ≤ k := by
      cases hcnt : p.count with
      | dflt => exact absurd hcnt hc
      | rep => exact Or.inl rfl
      | num k => exact Or.inr ⟨k, rfl, hk k hcnt⟩
    exact (valid_never_raises hp (Or.inr ⟨hj1, hj2⟩) hcc fuel r).1 h
  · intro h
    by_cases hr : p.start < 0 ∨ p.factor < 1 ∨ p.stop = 0 ∨ p.stop < p.start ∨ (∃ k, p.count = .num k ∧ k < 0)
    · exact invalid_raises p fuel r hr
    · have hj : ¬ (-1 ≤ p.jitter ∧ p.jitter ≤ 1) := fun hj =>
        h ⟨by grind, by grind, by grind, by grind,
          fun k hk => Int.not_lt.mp fun hneg => hr (Or.inr (Or.inr (Or.inr (Or.inr ⟨k, hk, hneg⟩)))), hj.1, hj.2⟩
      have hne : p.jitter ≠ 0 := fun e => hj (e ▸ ⟨by decide, by decide⟩)
      exact (bad_jitter_raises p fuel r hne hj).resolve_right fun h' => hc (count_dflt_of_fuelOut h')

/-- `jitAccept` with no slack IS the statement's jitter clause -/
theorem jitAccept_iff (b j w : Rat) :
    jitAccept 0 b j w = true ↔ (min b (b * (1 - j)) ≤ w ∧ w ≤ max b (b * (1 - j))) := by
  simp [jitAccept, Rat.sub_eq_add_neg, Rat.add_zero]

/-- the driver's `F` instance allows the slack `tolF`, its `Q` instance none -/
theorem jitAccept_tol_mono (tol b j w : Rat) (ht : 0 ≤ tol) (h : jitAccept 0 b j w = true) :
    jitAccept tol b j w = true := by
  unfold jitAccept at h ⊢
  simp only [Bool.and_eq_true, decide_eq_true_eq] at h ⊢
  constructor <;> grind

theorem model_values_accepted (p : Params Rat) (h0 : 0 ≤ p.start) (h1 : p.start ≤ p.stop) (hs : 0 < p.stop)
    (hf : 1 ≤ p.factor) (hj : -1 ≤ p.jitter ∧ p.jitter ≤ 1) (r : Nat → Rat) (hr : ∀ i, 0 ≤ r i ∧ r i < 1)
    (i : Nat) : jitAccept 0 (seqAt p.factor p.stop p.start i) p.jitter (yieldAt r p i) = true := by
  rw [jitAccept_iff]
  have := jitter_bounds p h0 h1 hs hf r hr i
  by_cases hj0 : 0 ≤ p.jitter
  · have := this.1 hj0 hj.2; grind
  · have := this.2 hj.1 (by grind); grind

/-- the multiplicative form `b * (1 - j * r)` of the same draw (a rewrite of the loop a maintainer may well make)
    is the same number over `Rat`, so acceptance lets it in -/
theorem emit_mul_form (b j r : Rat) (hj : j ≠ 0) : b * (1 - j * r) = emit j r b := by
  rw [emit_eq]; grind

/-- acceptance lets in nothing but points of the model's own range (closed at the far end, as the statement says):
    an accepted `w` is `emit j r b` for `r = (b - w) / (b * j)` -/
theorem accepted_is_some_draw (b j w : Rat) (hb : 0 < b) (hj : j ≠ 0)
    (h : jitAccept 0 b j w = true) :
    ∃ r : Rat, 0 ≤ r ∧ r ≤ 1 ∧ emit j r b = w := by
  rw [jitAccept_iff] at h
  have hbj : b * j ≠ 0 := fun e => (Rat.mul_eq_zero.mp e).elim (Std.ne_of_lt hb).symm hj
  have hq : (b - w) / (b * j) * (b * j) = b - w := Rat.div_mul_cancel hbj
  generalize (b - w) / (b * j) = q at hq
  have hem : emit j q b = w := by rw [emit_eq]; grind
  -- `q * d` lies between `0` and `d` for the positive one of `d = b * j`, `d = b * -j`
  have cancel : ∀ {a c d : Rat}, 0 < d → a * d ≤ c * d → a ≤ c := fun hd hle =>
    Rat.not_lt.mp fun hlt => Rat.not_lt.mpr hle (Rat.mul_lt_mul_of_pos_right hlt hd)
  by_cases hpos : 0 < j
  · have hd := Rat.mul_pos hb hpos
    exact ⟨q, cancel hd (by grind), cancel hd (by grind), hem⟩
  · have hd : 0 < b * -j := Rat.mul_pos hb (by grind)
    exact ⟨q, cancel hd (by grind), cancel hd (by grind), hem⟩

end Exact

/-! ### IEEE doubles

The driver runs the model of `backoff_iter` on `B64` (B64.lean; instance `D`) and every value agrees bit for bit
with CPython: that the `*` of `B64` is what `cur *= factor` computes is validated, not proved.  The order layer's
one assumption about the arithmetic - a delay times a factor ≥ 1 is not smaller - is PROVED for it
(`b64_mul_ge`), hence every order-layer clause holds for the doubles the code computes, from
the statement's plain hypotheses. -/
section Doubles

theorem b64_mul_ge (x f : B64) (hf : (1 : B64) ≤ f) (hx : x.bits < B64.INF) : x ≤ x * f :=
  B64.infl f hf x hx

/-- with `factor = 1.0` every delay is followed by itself: representable values round to themselves (`B64.rnd_exact`) -/
theorem b64_mul_one (x : B64) (hx : x.bits < B64.INF) : x * 1 = x := B64.mul_one x hx

/-- no hypothesis `0 ≤ start`: it holds for every element of the carrier -/
theorem b64_validParams (p : Params B64) (h1 : p.start ≤ p.stop) (hs : 0 < p.stop)
    (hfin : p.stop.bits < B64.INF) (hf : 1 ≤ p.factor) : ValidParams p :=
  ⟨B64.valid p.factor p.stop p.start h1 hs hfin hf, hf⟩

/-- `shape` on doubles: a non-zero value is followed by ONE correctly rounded multiplication by `factor`, capped at `stop` -/
theorem b64_shape (factor stop start : B64) (h1 : start ≤ stop) (hs : 0 < stop)
    (hfin : stop.bits < B64.INF) (hf : 1 ≤ factor) :
    seqAt factor stop start 0 = start ∧
    (start = 0 → seqAt factor stop start 1 = if stop < 1 then stop else 1) ∧
    (∀ i, seqAt factor stop start i ≤ seqAt factor stop start (i + 1)) ∧
    (∀ i, seqAt factor stop start i ≤ stop) ∧
    (∀ i, seqAt factor stop start i ≠ 0 →
      seqAt factor stop start (i + 1) =
        if stop < seqAt factor stop start i * factor then stop else seqAt factor stop start i * factor) ∧
    (∀ i j, seqAt factor stop start i = stop → i ≤ j → seqAt factor stop start j = stop) :=
  shape (B64.valid factor stop start h1 hs hfin hf)

/-- the `valueError` case is real on doubles even for `factor > 1`: rounding can absorb the factor on a subnormal, and
    the step makes no progress -/
theorem b64_default_count_last_is_stop (p : Params B64) (h1 : p.start ≤ p.stop) (hs : 0 < p.stop)
    (hfin : p.stop.bits < B64.INF) (hf : 1 ≤ p.factor) (hj : p.jitter = 0) (hc : p.count = .dflt)
    (fuel : Nat) (r : Nat → B64) :
    backoffIter fuel r p = .valueError ∨ backoffIter fuel r p = .fuelOut ∨
    ∃ n, 1 ≤ n ∧ backoffIter fuel r p = .finite ((List.range n).map (seqAt p.factor p.stop p.start)) ∧
      ((List.range n).map (seqAt p.factor p.stop p.start)).getLast? = some p.stop := by
  have hp := b64_validParams p h1 hs hfin hf
  rcases default_count_outcome hp (Or.inl hj) hc fuel r with h | h | ⟨n, hn, hout, _, hlast⟩
  · exact Or.inl h
  · exact Or.inr (Or.inl h)
  · rw [yieldAt_off hj] at hout hlast
    exact Or.inr (Or.inr ⟨n, hn, hout, hlast hj⟩)

theorem b64_length_eq_count (p : Params B64) (h1 : p.start ≤ p.stop) (hs : 0 < p.stop)
    (hfin : p.stop.bits < B64.INF) (hf : 1 ≤ p.factor) (hj : p.jitter = 0) (k : Int) (hk : 0 ≤ k)
    (hc : p.count = .num k) (fuel : Nat) (r : Nat → B64) :
    ∃ vals, backoffIter fuel r p = .finite vals ∧ vals.length = k.toNat ∧
      ∀ i, i < k.toNat → vals[i]? = some (seqAt p.factor p.stop p.start i) := by
  obtain ⟨vals, h1', h2, h3⟩ := length_eq_count (b64_validParams p h1 hs hfin hf) (Or.inl hj) k hk hc fuel r
  refine ⟨vals, h1', h2, fun i hi => ?_⟩
  rw [h3 i hi, yieldAt_off hj]

end Doubles

/-! ### sessions: several calls, the caller changing the lists it was handed, generators advanced
in any interleaving.  Every clause above is about ONE call; these theorems say that a call made
in the middle of any history is that one call: nothing a caller did before (other calls with
equal or different arguments, changes to earlier results, other generators half consumed) can
be seen in it, and nothing it does can be seen in the objects handed out earlier. -/
section Session
variable {α : Type} [LE α] [LT α] [DecidableLE α] [DecidableLT α] [BEq α] [LawfulBEq α]
  [Std.IsLinearOrder α] [Std.LawfulOrderLT α]
  [Mul α] [Sub α] [Neg α] [OfNat α 0] [OfNat α 1]

theorem session_call_history_independent (fuel : Nat) (s : List (Obj α)) (p : Params α) (r : Nat → α) :
    step fuel s (.callL p r) = (s ++ [listObj (backoff fuel r p)], listObs (backoff fuel r p)) ∧
    step fuel s (.callI p r) = (s ++ [Obj.ofOutcome (backoffIter fuel r p)], .gen) := ⟨rfl, rfl⟩

/-- what `backoff` shows its caller after ANY history `pre` is the outcome of that one call: all single-call theorems
    apply to it -/
theorem session_list_call_obs (fuel : Nat) (s : List (Obj α)) (pre post : List (Op α))
    (p : Params α) (r : Nat → α) :
    (run fuel s (pre ++ .callL p r :: post))[pre.length]? = some (listObs (backoff fuel r p)) :=
  run_at fuel pre post _ s

theorem session_frame (fuel : Nat) (s : List (Obj α)) (op : Op α) (j : Nat) (hj : j < s.length)
    (ht : op.target ≠ some j) : (step fuel s op).1[j]? = s[j]? := step_frame fuel s op j hj ht

theorem session_untouched_object_stable (fuel : Nat) (ops : List (Op α)) (s : List (Obj α)) (j : Nat)
    (hj : j < s.length) (h : ∀ op ∈ ops, op.target ≠ some j) : (runState fuel s ops)[j]? = s[j]? :=
  runState_frame fuel ops s j hj h

/-- the list a `backoff` call returned (object number `(runState fuel s pre).length`), looked at after any further
    history `mid` in which the caller did not touch it -/
theorem session_list_stable (fuel : Nat) (s : List (Obj α)) (pre mid : List (Op α)) (p : Params α)
    (r : Nat → α) (hmid : ∀ op ∈ mid, op.target ≠ some (runState fuel s pre).length) :
    (run fuel s (pre ++ .callL p r :: (mid ++ [.read (runState fuel s pre).length]))).getLast?
      = some (readObs (backoff fuel r p)) := by
  obtain ⟨T, hT, hrun⟩ := run_last_after_call fuel pre mid (.callL p r) (.read _) _ s rfl hmid
  rw [hrun]
  simp only [step, stepRead_listObj hT]

/-- likewise a generator first advanced after `mid` yields what a fresh generator of that one call yields -/
theorem session_generator_stable (fuel : Nat) (s : List (Obj α)) (pre mid : List (Op α)) (p : Params α)
    (r : Nat → α) (n : Nat) (hmid : ∀ op ∈ mid, op.target ≠ some (runState fuel s pre).length) :
    (run fuel s (pre ++ .callI p r :: (mid ++ [.pull (runState fuel s pre).length n]))).getLast?
      = some (pullObj (Obj.ofOutcome (backoffIter fuel r p)) n).2 := by
  obtain ⟨T, hT, hrun⟩ := run_last_after_call fuel pre mid (.callI p r) (.pull _ n) _ s rfl hmid
  rw [hrun]
  simp only [step, stepPull_of_get hT]

/-- `n` advances, anything that does not address the generator, then `m` advances: the values of `n + m` advances
    at once -/
theorem session_pulls_compose (fuel : Nat) (s : List (Obj α)) (k n m : Nat) (o : Obj α) (mid : List (Op α))
    (hk : s[k]? = some o) (hmid : ∀ op ∈ mid, op.target ≠ some k) :
    (step fuel s (.pull k n)).2.values ++
        (((run fuel s (.pull k n :: (mid ++ [.pull k m]))).getLast?.map Obs.values).getD [])
      = (pullObj o (n + m)).2.values := by
  have hklt : k < s.length := (List.getElem?_eq_some_iff.mp hk).1
  have hfr := runState_frame fuel mid (s.set k (pullObj o n).1) k (by simpa using hklt) hmid
  rw [List.getElem?_set_self hklt] at hfr
  rw [show Op.pull k n :: (mid ++ [.pull k m]) = (Op.pull k n :: mid) ++ [.pull k m] from rfl, run_last]
  simp only [runState, step, stepPull_of_get hk, stepPull_of_get hfr, Option.map_some, Option.getD_some]
  exact ((pullObj_split o n m).2).symm

/-- the link to the single-call clauses; StopIteration is seen exactly when `n` exceeds `count` -/
theorem session_first_pull_values {p : Params α} (hp : ValidParams p) (hj : JitterOk p) (c : Int)
    (hc0 : 0 ≤ c) (hc : p.count = .num c) (fuel : Nat) (r : Nat → α) (n : Nat) :
    (pullObj (Obj.ofOutcome (backoffIter fuel r p)) n).2 =
      .pulled ((List.range (min n c.toNat)).map (yieldAt r p)) (decide (c.toNat < n)) := by
  rw [backoffIter_of_valid hp hj, resolveCount_nonneg hc hc0]
  simp [Obj.ofOutcome, pullObj, ← List.map_take, List.take_range]

end Session

/-! ### non-vacuity: concrete inputs satisfying the hypotheses, concrete runs of the model -/
section Examples

example : Valid (2 : Rat) 10 1 := rat_valid (by decide) (by decide) (by decide) (by decide)
/-- `Int`: a carrier that is not a field -/
example : Valid (3 : Int) 20 2 :=
  { stop_pos := by decide, zero_le_one := by decide, infl := fun x h0 _ => by omega,
    start_nonneg := by decide, start_le_stop := by decide }
/-- `Fx`, whose product is ROUNDED (up to the next quarter): factor 1.5, stop 10, start 0.25 -/
example : Valid (⟨6⟩ : Fx) ⟨40⟩ ⟨1⟩ :=
  { Fx.laws ⟨6⟩ ⟨40⟩ (by decide) (by decide) with start_nonneg := by decide, start_le_stop := by decide }
-- the rounded sequence 0.25, 0.5, 0.75, 1.25, 2, 3, 4.5, 6.75, 10 (in quarters)
example : (backoff 20 (fun _ => 0)
    ({ start := ⟨1⟩, stop := ⟨40⟩, factor := ⟨6⟩, count := .dflt, jitter := 0 } : Params Fx)).vals?
    = some [⟨1⟩, ⟨2⟩, ⟨3⟩, ⟨5⟩, ⟨8⟩, ⟨12⟩, ⟨18⟩, ⟨27⟩, ⟨40⟩] := by decide
example : ValidParams ({ start := 0, stop := 1/2, factor := 2, count := .dflt, jitter := 0 } : Params Rat) :=
  rat_validParams _ (by decide +kernel) (by decide +kernel) (by decide +kernel) (by decide +kernel)
example : JitterOk ({ start := 1, stop := 10, factor := 2, count := .num 3, jitter := -1/2 } : Params Rat) :=
  Or.inr ⟨by decide +kernel, by decide +kernel⟩

-- backoff(1, 10) == [1, 2, 4, 8, 10]
example : (backoff 10 (fun _ => 0)
    ({ start := 1, stop := 10, factor := 2, count := .dflt, jitter := 0 } : Params Rat)).vals?
    = some [1, 2, 4, 8, 10] := by decide +kernel
-- a zero start below a sub-second cap: backoff(0, 0.5) == [0, 0.5]
example : (backoff 10 (fun _ => 0)
    ({ start := 0, stop := 1/2, factor := 2, count := .dflt, jitter := 0 } : Params Rat)).vals?
    = some [0, 1/2] := by decide +kernel
-- backoff(0, 16): 0, then min(1, stop), then doubling
example : (backoff 10 (fun _ => 0)
    ({ start := 0, stop := 16, factor := 2, count := .dflt, jitter := 0 } : Params Rat)).vals?
    = some [0, 1, 2, 4, 8, 16] := by decide +kernel
-- explicit count past the cap, jitter 1/2 with every draw 1/2: each value is 3/4 of the delay
example : (backoffIter 10 (fun _ => 1/2)
    ({ start := 1, stop := 5, factor := 2, count := .num 5, jitter := 1/2 } : Params Rat)).vals?
    = some [3/4, 3/2, 3, 15/4, 15/4] := by decide +kernel
-- factor 1 with the default count makes no progress: ValueError
example : (match backoff 10 (fun _ => 0)
    ({ start := 1, stop := 2, factor := 1, count := .dflt, jitter := 0 } : Params Rat) with
    | .valueError => true | _ => false) = true := by decide +kernel
-- too little fuel is reported as such, never as a result
example : (match backoff 3 (fun _ => 0)
    ({ start := 1, stop := 10, factor := 2, count := .dflt, jitter := 0 } : Params Rat) with
    | .fuelOut => true | _ => false) = true := by decide +kernel

-- acceptance: the delay 8 with jitter 1/2 allows exactly [4, 8]; with jitter -1 exactly [8, 16]
example : jitAccept 0 8 (1/2) 6 = true ∧ jitAccept 0 8 (1/2) 4 = true ∧ jitAccept 0 8 (1/2) 8 = true ∧
    jitAccept 0 8 (1/2) 3 = false ∧ jitAccept 0 8 (1/2) 9 = false ∧
    jitAccept 0 8 (-1) 16 = true ∧ jitAccept 0 8 (-1) 7 = false := by decide +kernel
-- the two forms of the jittered value (draw 3/4, jitter 1/2, delay 8): 8 - 8*(1/2)*(3/4) = 8*(1 - (1/2)*(3/4)) = 5
example : emit (1/2 : Rat) (3/4) 8 = 5 ∧ (8 : Rat) * (1 - (1/2) * (3/4)) = 5 := by decide +kernel
-- default count of backoff(1, 10) is 5; an implementation producing 6 values (one more stop) is judged as
-- count=6, one producing 3 (last value 4, not stop) is compared with the model's own 5 values
example : (backoff 10 (fun _ => 0) (acceptCount 10
      ({ start := 1, stop := 10, factor := 2, count := .dflt, jitter := 0 } : Params Rat) 6)).vals?
    = some [1, 2, 4, 8, 10, 10] := by decide +kernel
example : (backoff 10 (fun _ => 0) (acceptCount 10
      ({ start := 1, stop := 10, factor := 2, count := .dflt, jitter := 0 } : Params Rat) 3)).vals?
    = some [1, 2, 4, 8, 10] := by decide +kernel

-- doubles (B64): backoff(1.0, 10.0) == [1.0, 2.0, 4.0, 8.0, 10.0] by bit pattern …
example : (backoff 10 (fun _ => 0)
    ({ start := ⟨0x3ff0000000000000⟩, stop := ⟨0x4024000000000000⟩, factor := ⟨0x4000000000000000⟩,
       count := .dflt, jitter := 0 } : Params B64)).vals?
    = some [⟨0x3ff0000000000000⟩, ⟨0x4000000000000000⟩, ⟨0x4010000000000000⟩, ⟨0x4020000000000000⟩,
            ⟨0x4024000000000000⟩] := by decide +kernel
-- … a stop one ulp above start*factor: backoff(1.0, 10.000000000000002, factor=10.0) ends at stop (3 values) …
example : (backoff 10 (fun _ => 0)
    ({ start := ⟨0x3ff0000000000000⟩, stop := ⟨0x4024000000000001⟩, factor := ⟨0x4024000000000000⟩,
       count := .dflt, jitter := 0 } : Params B64)).vals?
    = some [⟨0x3ff0000000000000⟩, ⟨0x4024000000000000⟩, ⟨0x4024000000000001⟩] := by decide +kernel
-- … inexact products: 0.1 * 3.0 rounds UP to 0.30000000000000004, and 5e-324 * 1.5 rounds to 1e-323 (ties to even)
example : ((⟨0x3fb999999999999a⟩ : B64) * ⟨0x4008000000000000⟩ = ⟨0x3fd3333333333334⟩) ∧
    ((⟨1⟩ : B64) * ⟨0x3ff8000000000000⟩ = ⟨2⟩) ∧ ((⟨1⟩ : B64) * ⟨0x3ff4000000000000⟩ = ⟨1⟩) := by decide +kernel
-- … overflow: 1e308 * 10.0 = inf, which the cap brings back to stop
example : (⟨0x7fe1ccf385ebc8a0⟩ : B64) * ⟨0x4024000000000000⟩ = ⟨B64.INF⟩ := by decide +kernel
example : ValidParams
    ({ start := ⟨1⟩, stop := ⟨0x7fefffffffffffff⟩, factor := ⟨0x3ff8000000000000⟩,
       count := .dflt, jitter := 0 } : Params B64) :=
  b64_validParams _ (by decide) (by decide) (by decide) (by decide)

-- a session: the caller uses up the first result of backoff(1, 10); the second call with the very
-- same arguments is complete again, and a third result is untouched by changes to the second
example : ((run 10 [] [
      .callL ({ start := 1, stop := 10, factor := 2, count := .dflt, jitter := 0 } : Params Rat) (fun _ => 0),
      .chg 0 .pop0, .chg 0 .pop0, .chg 0 (.set0 (-1)), .read 0,
      .callL { start := 1, stop := 10, factor := 2, count := .dflt, jitter := 0 } (fun _ => 0),
      .callL { start := 1, stop := 10, factor := 2, count := .dflt, jitter := 0 } (fun _ => 0),
      .chg 1 .clear, .read 2]).map Obs.values)
    = [[1, 2, 4, 8, 10], [], [], [], [-1, 8, 10], [1, 2, 4, 8, 10], [1, 2, 4, 8, 10], [], [1, 2, 4, 8, 10]] := by
  decide +kernel
-- two generators of the same call advanced alternately, one of an invalid call in between
example : ((run 10 [] [
      .callI ({ start := 1, stop := 10, factor := 2, count := .num 6, jitter := 0 } : Params Rat) (fun _ => 0),
      .callI { start := 1, stop := 10, factor := 2, count := .num 6, jitter := 0 } (fun _ => 0),
      .callI { start := 1, stop := 0, factor := 2, count := .rep, jitter := 0 } (fun _ => 0),
      .pull 0 2, .pull 1 1, .pull 2 1, .pull 0 3, .pull 2 1, .pull 1 9, .pull 0 4]).map Obs.values)
    = [[], [], [], [1, 2], [1], [], [4, 8, 10], [], [2, 4, 8, 10, 10], [10]] := by
  decide +kernel

end Examples

end C15
