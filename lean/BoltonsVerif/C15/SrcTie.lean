import BoltonsVerif.Generated.Src_iterutils_backoff
import BoltonsVerif.C15.Session
import BoltonsVerif.C15.Props
/-
C15 — source-translator tie for `boltons.iterutils.backoff_iter` and `backoff`.

`Src.iterutils.backoff_iter fuel n rnd start stop count factor jitter` is regenerated from the Python source on every
run (harness/py2lean_c15.py): what `n` calls of `next()` on a fresh generator show.  The tie says that this is what
the hand model says — `pullObj (Obj.ofOutcome (backoffIter fuel r p)) n` of Session.lean — at EVERY carrier `α`
with the bare operations (no laws: the generated definition applies the same operations to the same operands as
the model, so the equality is one of terms), for every fuel `≥ n`.

Proof style: one equation per generated loop for what a turn does in the model's terms (`dloop_spec`, `mloop_succ`),
by unfolding with the runtime combinators as simp set and a case analysis on the MODEL's conditions: nothing follows
the statement order of the source.  Computations stay unapplied (`G α β`) as long as possible: `g_bind` needs a state.
-/
namespace C15
open Src.iterutils PyRtC15

section combinators
variable {α β γ : Type}

@[simp] theorem g_pure (v : β) (s : GSt) : (G.pure v : G α β) s = .cont [] v s := rfl
@[simp] theorem g_raise (e : PyExc) (s : GSt) : (G.raise e : G α β) s = .stop [] (.raised e) := rfl
@[simp] theorem g_ret (s : GSt) : (G.ret : G α β) s = .stop [] .returned := rfl
@[simp] theorem g_outOfFuel (s : GSt) : (G.outOfFuel : G α β) s = .stop [] .outOfFuel := rfl
@[simp] theorem g_draw (rnd : Nat → α) (s : GSt) :
    G.draw rnd s = .cont [] (rnd s.draws) { s with draws := s.draws + 1 } := rfl
@[simp] theorem g_ofExcept_ok (v : β) : (G.ofExcept (.ok v) : G α β) = G.pure v := rfl
@[simp] theorem g_ofExcept_error (e : PyExc) : (G.ofExcept (.error e) : G α β) = G.raise e := rfl
@[simp] theorem g_unbox_some (v : β) : (G.unbox (some v) : G α β) = G.pure v := rfl
@[simp] theorem g_unbox_none : (G.unbox none : G α β) = G.raise .Other := rfl
@[simp] theorem g_bind (m : G α β) (f : β → G α γ) (s : GSt) :
    G.bind m f s = (match m s with
      | .cont o v s1 => (f v s1).prepend o
      | .stop o h => .stop o h) := rfl
@[simp] theorem prepend_cont (o out : List α) (v : β) (s : GSt) :
    (Res.cont out v s : Res α β).prepend o = .cont (o ++ out) v s := rfl
@[simp] theorem prepend_stop (o out : List α) (h : Stop) :
    (Res.stop out h : Res α β).prepend o = .stop (o ++ out) h := rfl
@[simp] theorem prepend_nil (r : Res α β) : r.prepend [] = r := by cases r <;> rfl
theorem g_yield_one (v : α) (s : GSt) (h : s.left = 1) : G.yield_ v s = .stop [v] .suspended := by
  simp [G.yield_, h]
theorem g_yield_more (v : α) (s : GSt) (k : Nat) (h : s.left = k + 2) :
    G.yield_ v s = .cont [v] () { s with left := k + 1 } := by
  simp [G.yield_, h]

@[simp] theorem g_pure_bind (v : β) (f : β → G α γ) : G.bind (G.pure v) f = f v := by
  funext s; simp
@[simp] theorem g_raise_bind (e : PyExc) (f : β → G α γ) : G.bind (G.raise e : G α β) f = G.raise e := rfl
@[simp] theorem g_outOfFuel_bind (f : β → G α γ) : G.bind (G.outOfFuel : G α β) f = G.outOfFuel := rfl
@[simp] theorem g_bind_assoc {δ : Type} (m : G α β) (f : β → G α γ) (g : γ → G α δ) :
    G.bind (G.bind m f) g = G.bind m fun v => G.bind (f v) g := by
  funext s
  simp only [g_bind]
  cases m s with
  | stop o h => rfl
  | cont o v s1 =>
    simp only []
    cases f v s1 <;> simp only [prepend_cont, prepend_stop] <;> cases g _ _ <;> simp

@[simp] theorem run_raise (k : Nat) (e : PyExc) : G.run (k + 1) (G.raise e : G α Unit) = ([], .raised e) := rfl
@[simp] theorem run_outOfFuel (k : Nat) : G.run (k + 1) (G.outOfFuel : G α Unit) = ([], .outOfFuel) := rfl

@[simp] theorem cv_isNone_none : CountV.isNone .none = true := rfl
@[simp] theorem cv_isNone_str (t : String) : CountV.isNone (.str t) = false := rfl
@[simp] theorem cv_isNone_int (k : Int) : CountV.isNone (.int k) = false := rfl
@[simp] theorem cv_eqStr_none (t : String) : CountV.eqStr .none t = false := rfl
@[simp] theorem cv_eqStr_str (u t : String) : CountV.eqStr (.str u) t = (u == t) := rfl
@[simp] theorem cv_eqStr_int (k : Int) (t : String) : CountV.eqStr (.int k) t = false := rfl
@[simp] theorem cv_ltInt_int (j k : Int) : CountV.ltInt (.int j) k = .ok (decide (j < k)) := rfl
@[simp] theorem cv_intLt_int (j k : Int) : CountV.intLt k (.int j) = .ok (decide (k < j)) := rfl
@[simp] theorem cv_leInt_int (j k : Int) : CountV.leInt (.int j) k = .ok (decide (j ≤ k)) := rfl
@[simp] theorem cv_intLe_int (j k : Int) : CountV.intLe k (.int j) = .ok (decide (k ≤ j)) := rfl
@[simp] theorem cv_ltInt_str (t : String) (k : Int) : CountV.ltInt (.str t) k = .error .TypeError := rfl
@[simp] theorem cv_intLt_str (t : String) (k : Int) : CountV.intLt k (.str t) = .error .TypeError := rfl
@[simp] theorem cv_addInt_int (j k : Int) : CountV.addInt (.int j) k = .ok (.int (j + k)) := rfl
@[simp] theorem cv_subInt_int (j k : Int) : CountV.subInt (.int j) k = .ok (.int (j - k)) := rfl

end combinators

/-- the `count` argument of the call: `None`, `'repeat'`, an int -/
def countArg : Count → CountV
  | .dflt => .none
  | .rep => .str "repeat"
  | .num k => .int k

section observations
variable {α : Type}

/-- what `n` calls of `next()` show, as the source translator's runtime reports it -/
def shown : Obs α → List α × Stop
  | .pulled l false => (l, .suspended)
  | .pulled l true => (l, .returned)
  | .err => ([], .raised .ValueError)
  | .fuel => ([], .outOfFuel)
  | _ => ([], .raised .Other)

def _root_.PyRtC15.Res.out {β : Type} : Res α β → List α
  | .cont o _ _ => o
  | .stop o _ => o

/-- `none`: the computation went on -/
def _root_.PyRtC15.Res.how {β : Type} : Res α β → Option Stop
  | .cont _ _ _ => none
  | .stop _ h => some h

@[simp] theorem out_prepend {β : Type} (o : List α) (r : Res α β) : (r.prepend o).out = o ++ r.out := by
  cases r <;> rfl
@[simp] theorem how_prepend {β : Type} (o : List α) (r : Res α β) : (r.prepend o).how = r.how := by
  cases r <;> rfl

@[simp] theorem out_cont {β : Type} (o : List α) (v : β) (s : GSt) : (Res.cont o v s).out = o := rfl
@[simp] theorem out_stop {β : Type} (o : List α) (h : Stop) : (Res.stop o h : Res α β).out = o := rfl
@[simp] theorem how_cont {β : Type} (o : List α) (v : β) (s : GSt) : (Res.cont o v s).how = none := rfl
@[simp] theorem how_stop {β : Type} (o : List α) (h : Stop) : (Res.stop o h : Res α β).how = some h := rfl

theorem bind_ret_tail {β γ : Type} (m : G α β) (f : β → G α γ) (s : GSt)
    (hf : ∀ v s1, f v s1 = .stop [] .returned) :
    G.bind m f s = .stop (m s).out ((m s).how.getD .returned) := by
  simp only [g_bind]
  cases m s <;> simp [hf]

/-- what the caller has seen when the body has run -/
def _root_.PyRtC15.Res.fin {β : Type} : Res α β → List α × Stop
  | .cont o _ _ => (o, .returned)
  | .stop o h => (o, h)

theorem run_succ (k : Nat) (body : G α Unit) : G.run (k + 1) body = (body ⟨k + 1, 0⟩).fin := by
  simp only [G.run, Res.fin]
  split <;> simp_all
@[simp] theorem fin_cont {β : Type} (o : List α) (v : β) (s : GSt) : (Res.cont o v s).fin = (o, .returned) := rfl
@[simp] theorem fin_stop {β : Type} (o : List α) (h : Stop) : (Res.stop o h : Res α β).fin = (o, h) := rfl

/-- the model's outcome as `n` calls of `next()` show it -/
def view (n : Nat) (o : Outcome α) : List α × Stop := shown (pullObj (Obj.ofOutcome o) n).2

@[simp] theorem view_valueError (k : Nat) : view (k + 1) (Outcome.valueError : Outcome α) = ([], .raised .ValueError) := rfl
@[simp] theorem view_fuelOut (k : Nat) : view (k + 1) (Outcome.fuelOut : Outcome α) = ([], .outOfFuel) := rfl
@[simp] theorem view_finite (n : Nat) (vals : List α) :
    view n (.finite vals) = (vals.take n, if vals.length < n then .returned else .suspended) := by
  simp only [view, Obj.ofOutcome, pullObj]
  by_cases h : vals.length < n <;> simp [h, shown]
@[simp] theorem view_endless (n : Nat) (val : Nat → α) :
    view n (.endless val) = ((List.range n).map val, .suspended) := by
  simp [view, Obj.ofOutcome, pullObj, shown]
theorem view_range_map (n k : Nat) (f : Nat → α) :
    view n (.finite ((List.range k).map f)) =
      ((List.range (min k n)).map f, if k < n then .returned else .suspended) := by
  rw [view_finite, ← List.map_take, List.take_range, List.length_map, List.length_range, Nat.min_comm]
theorem view_zero (o : Outcome α) : view 0 o = ([], .suspended) := by
  cases o <;> simp [view, Obj.ofOutcome, pullObj, shown]
theorem view_returned {n : Nat} {o : Outcome α} {vals : List α} (h : view n o = (vals, .returned)) :
    o = .finite vals := by
  cases n with
  | zero => rw [view_zero] at h; cases h
  | succ k =>
    cases o with
    | valueError => cases h
    | fuelOut => cases h
    | endless val => rw [view_endless] at h; cases h
    | finite l =>
      rw [view_finite] at h
      split at h
      · rename_i hl; rw [List.take_of_length_le (Nat.le_of_lt hl)] at h; cases h; rfl
      · cases h

/-- what `backoff` returns as the runtime reports it: `list` asks `fuel` times, so it has seen the end of the
    generator iff fewer than `fuel` values came (else `OutOfFuel`, like a default-count loop that needs more fuel) -/
def listed (fuel : Nat) : Outcome α → Except PyExc (List α)
  | .valueError => .error .ValueError
  | .fuelOut => .error .OutOfFuel
  | .finite vals => if vals.length < fuel then .ok vals else .error .OutOfFuel
  | .endless _ => .error .OutOfFuel

theorem listed_ok {fuel : Nat} {o : Outcome α} {vals : List α} (h : listed fuel o = .ok vals) : o = .finite vals := by
  cases o with
  | finite l => simp only [listed] at h; split at h <;> cases h; rfl
  | _ => cases h

theorem runFn_listOf_view (f : Nat) (o : Outcome α) (g : Nat → List α × Stop) (hg : g (f + 1) = view (f + 1) o) :
    runFn (α := α) (G.ofExcept (listOf (f + 1) g)) = listed (f + 1) o := by
  cases o with
  | valueError => simp [listOf, hg, runFn, listed]
  | fuelOut => simp [listOf, hg, runFn, listed]
  | endless val => simp [listOf, hg, runFn, listed]
  | finite vals =>
    by_cases hl : vals.length < f + 1
    · simp [listOf, hg, runFn, listed, hl, List.take_of_length_le (Nat.le_of_lt hl)]
    · simp [listOf, hg, runFn, listed, hl]

end observations

section
variable {α : Type} [LE α] [LT α] [DecidableLE α] [DecidableLT α] [BEq α]
  [Mul α] [Sub α] [Neg α] [OfNat α 0] [OfNat α 1]

/-- `cur` when the default-count loop is left; the source never reads it again, `dloop_spec` only needs it to exist -/
def dcCur (factor stop : α) : Nat → α → α
  | 0, c => c
  | f + 1, c => if c < stop then (if bump factor c == c then c else dcCur factor stop f (bump factor c)) else c

omit [LE α] [DecidableLE α] [Sub α] [Neg α] in
theorem dloop_spec (rnd : Nat → α) (stop factor : α) (fuel : Nat) (k : Nat) (cur : α) :
    backoff_iter.loop1 rnd factor stop fuel (.int k) cur =
      (match defaultCount factor stop fuel cur k with
       | .count m => G.pure (.int m, dcCur factor stop fuel cur)
       | .noProgress => G.raise .ValueError
       | .fuelOut => G.outOfFuel) := by
  induction fuel generalizing k cur with
  | zero => rfl
  | succ f ih =>
    have ih' := fun c => ih (k + 1) c
    simp only [Int.natCast_add, Int.cast_ofNat_Int] at ih'
    simp only [backoff_iter.loop1, defaultCount, dcCur, bump]
    by_cases h1 : cur < stop <;> by_cases h2 : (cur == (0 : α)) = true <;>
      by_cases h3 : (bump factor cur == cur) = true
    all_goals
      simp only [bump, h2, Bool.false_eq_true, ↓reduceIte] at h3
      simp [h1, h2, h3, ih']

/-- `count` as the main loop finds it once it is resolved: `none` is `'repeat'` -/
def limArg : Option Nat → CountV
  | none => .str "repeat"
  | some m => .int m

/-- the main loop's test at position `i` -/
def more : Option Nat → Nat → Bool
  | none, _ => true
  | some m, i => decide (i < m)

/-- how many of `n` requested values the main loop delivers from position `i` on -/
def served : Option Nat → Nat → Nat → Nat
  | none, _, n => n
  | some m, i, n => min (m - i) n

@[simp] theorem served_zero (lim : Option Nat) (i : Nat) : served lim i 0 = 0 := by
  cases lim <;> simp [served]

theorem served_of_not_more {lim : Option Nat} {i : Nat} (h : ¬ more lim i = true) (n : Nat) : served lim i n = 0 := by
  cases lim with
  | none => simp [more] at h
  | some m => simp only [more, decide_eq_true_eq] at h; simp only [served]; omega

theorem served_succ {lim : Option Nat} {i : Nat} (h : more lim i = true) (n : Nat) :
    served lim i (n + 1) = served lim (i + 1) n + 1 := by
  cases lim with
  | none => rfl
  | some m => simp only [more, decide_eq_true_eq] at h; simp only [served]; omega

def jittered (jitter : α) (rnd : Nat → α) (cur : α) : G α α :=
  if jitter == 0 then G.pure cur else G.bind (G.draw rnd) fun t => G.pure (cur - cur * jitter * t)

/-- the draws made when position `i` is reached: one per position passed, none with jitter off -/
def drawsAt (jitter : α) (i : Nat) : Nat := if jitter == 0 then 0 else i

omit [LE α] [LT α] [DecidableLE α] [DecidableLT α] [Neg α] [OfNat α 1] in
theorem jittered_eval (jitter : α) (rnd : Nat → α) (cur : α) (l i : Nat) :
    jittered jitter rnd cur ⟨l, drawsAt jitter i⟩ =
      .cont [] (emit jitter (rnd i) cur) ⟨l, drawsAt jitter (i + 1)⟩ := by
  by_cases hj : (jitter == 0) = true <;> simp [jittered, emit, drawsAt, hj]

omit [LE α] [DecidableLE α] [Neg α] in
theorem mloop_ite (rnd : Nat → α) (count : CountV) (factor jitter stop : α) (fuel : Nat) (c : Prop) [Decidable c]
    (a b : α) (cr : Option α) (i : Int) :
    backoff_iter.loop2 rnd count factor jitter stop fuel (if c then a else b) cr i =
      if c then backoff_iter.loop2 rnd count factor jitter stop fuel a cr i
      else backoff_iter.loop2 rnd count factor jitter stop fuel b cr i :=
  apply_ite (fun x => backoff_iter.loop2 rnd count factor jitter stop fuel x cr i) c a b

omit [LE α] [DecidableLE α] [Neg α] in
/-- the source goes on in every branch of `cur == 0`, `cur < stop`, `cur > stop`; `next` has the branching inside:
    `mloop_ite` moves it outside -/
theorem mloop_succ (rnd : Nat → α) (stop factor jitter : α) (lim : Option Nat) (fuel i : Nat) (cr : Option α)
    (cur : α) :
    backoff_iter.loop2 rnd (limArg lim) factor jitter stop (fuel + 1) cur cr i =
      if more lim i then
        G.bind (jittered jitter rnd cur) fun v => G.bind (G.yield_ v) fun _ =>
          backoff_iter.loop2 rnd (limArg lim) factor jitter stop fuel (next factor stop cur) (some v) (i + 1 : Nat)
      else G.pure (cur, cr, (i : Int)) := by
  cases lim <;> by_cases hj : (jitter == 0) = true <;>
    simp [backoff_iter.loop2, more, jittered, limArg, hj, next, cap, grow]
  all_goals
    by_cases h0 : (cur == 0) = true <;> by_cases h1 : cur < stop <;>
      simp only [h0, h1, ↓reduceIte, Bool.false_eq_true, mloop_ite]

theorem mloop_spec (rnd : Nat → α) (stop factor jitter : α) (lim : Option Nat) (fuel : Nat) :
    ∀ (L i : Nat) (cr : Option α) (cur : α), L + 1 ≤ fuel →
      (backoff_iter.loop2 rnd (limArg lim) factor jitter stop fuel cur cr i ⟨L + 1, drawsAt jitter i⟩).out
          = valsFrom factor stop jitter rnd (served lim i (L + 1)) i cur ∧
      (backoff_iter.loop2 rnd (limArg lim) factor jitter stop fuel cur cr i ⟨L + 1, drawsAt jitter i⟩).how
          = if served lim i (L + 1) ≤ L then none else some .suspended := by
  induction fuel with
  | zero => intro L i cr cur h; omega
  | succ f ih =>
    intro L i cr cur hf
    rw [mloop_succ]
    by_cases hm : more lim i = true
    · simp only [hm, if_true, g_bind, jittered_eval, served_succ hm, valsFrom]
      cases L with
      | zero => simp [g_yield_one, valsFrom]
      | succ L' =>
        -- the `yield` leaves `L' + 1` calls to serve and the draws of position `i + 1`: the state `ih` speaks of
        have ihL := ih L' (i + 1) (some (emit jitter (rnd i) cur)) (next factor stop cur) (by omega)
        simpa [g_yield_more _ ⟨L' + 1 + 1, drawsAt jitter (i + 1)⟩ L' rfl] using ihL
    · simp [hm, served_of_not_more hm, valsFrom]

/-- `Resolved.outcome` at `.rep` / `.num m`, spelled with `valsFrom` as the body of `backoffIter` is: the tie unfolds
    that body -/
def loopOutcome (factor stop jitter start : α) (r : Nat → α) : Option Nat → Outcome α
  | none => .endless fun i => emit jitter (r i) (seqAt factor stop start i)
  | some m => .finite (valsFrom factor stop jitter r m 0 start)

theorem mloop_view (rnd : Nat → α) (stop factor jitter : α) (lim : Option Nat) (fuel L : Nat) (cur : α)
    (hf : L + 1 ≤ fuel) (k : α × Option α × Int → G α Unit) (hk : ∀ v s1, k v s1 = .stop [] .returned) :
    G.run (L + 1) (G.bind (backoff_iter.loop2 rnd (limArg lim) factor jitter stop fuel cur none 0) k)
      = view (L + 1) (loopOutcome factor stop jitter cur rnd lim) := by
  have h := mloop_spec rnd stop factor jitter lim fuel L 0 none cur hf
  rw [Int.natCast_zero, show drawsAt jitter 0 = 0 from ite_self 0] at h
  rw [run_succ, bind_ret_tail _ _ _ hk, fin_stop, h.1, h.2]
  cases lim with
  | none => simp [loopOutcome, served, valsFrom_map, Nat.not_succ_le_self]
  | some m =>
    have e : min m (L + 1) ≤ L ↔ m < L + 1 := by omega
    simp only [loopOutcome, served, view_finite, valsFrom_take, valsFrom_length, Nat.sub_zero, e]
    by_cases hm : m < L + 1 <;> simp [hm]

theorem src_iter_eq_view (fuel n : Nat) (r : Nat → α) (start stop factor jitter : α) (count : Count) (h : n ≤ fuel) :
    Src.iterutils.backoff_iter fuel n r start stop (countArg count) factor jitter
      = view n (backoffIter fuel r ⟨start, stop, factor, count, jitter⟩) := by
  cases n with
  | zero => exact (view_zero _).symm
  | succ L =>
    simp only [backoff_iter, PyRtC15.float]
    by_cases hb : rangeBad ⟨start, stop, factor, count, jitter⟩ = true
    · simp only [backoffIter, hb, if_true, view_valueError]
      rcases (rangeBad_eq_true _).mp hb with hb | hb | hb | hb <;> simp [hb]
    · simp only [backoffIter, hb, Bool.false_eq_true, if_false]
      rw [rangeBad_eq_true, not_or, not_or, not_or] at hb
      obtain ⟨h1, h2, h3, h4⟩ := hb
      simp only [h1, h2, h3, h4, decide_false, Bool.false_eq_true, if_false]
      -- what is left: `count` is resolved, `jitter` is checked, the main loop runs and the body returns
      have tail := fun lim => mloop_view r stop factor jitter lim fuel L start h (fun _ => G.ret) (fun _ _ => rfl)
      simp only [limArg, loopOutcome] at tail
      cases count with
      | dflt =>
        have hd := dloop_spec r stop factor fuel 1 start
        simp only [Int.cast_ofNat_Int] at hd
        simp only [countArg, resolveCount, cv_isNone_none, if_true, hd]
        cases hdc : defaultCount factor stop fuel start 1 with
        | count m =>
          have e3 : ¬ ((m : Int) < 0) := by omega
          by_cases hj0 : (jitter == 0) = true <;> by_cases hjr : ¬-1 ≤ jitter ∨ ¬jitter ≤ 1 <;>
            simp [jitterBad, hj0, hjr, tail (some m), e3]
        | noProgress => simp
        | fuelOut => simp
      | rep =>
        by_cases hj0 : (jitter == 0) = true <;> by_cases hjr : ¬-1 ≤ jitter ∨ ¬jitter ≤ 1 <;>
          simp [countArg, resolveCount, jitterBad, hj0, hjr, tail none]
      | num k =>
        by_cases hk : k < 0
        · simp [countArg, resolveCount, hk]
        · obtain ⟨m, rfl⟩ := Int.eq_ofNat_of_zero_le (Int.not_lt.mp hk)
          by_cases hj0 : (jitter == 0) = true <;> by_cases hjr : ¬-1 ≤ jitter ∨ ¬jitter ≤ 1 <;>
            simp [countArg, resolveCount, jitterBad, hj0, hjr, tail (some m), hk]

theorem src_backoff_iter_eq_model (fuel n : Nat) (r : Nat → α) (p : Params α) (h : n ≤ fuel) :
    Src.iterutils.backoff_iter fuel n r p.start p.stop (countArg p.count) p.factor p.jitter
      = shown (pullObj (Obj.ofOutcome (backoffIter fuel r p)) n).2 :=
  src_iter_eq_view fuel n r p.start p.stop p.factor p.jitter p.count h

theorem src_backoff_eq_model (fuel : Nat) (r : Nat → α) (p : Params α) (hf : 0 < fuel) :
    Src.iterutils.backoff fuel r p.start p.stop (countArg p.count) p.factor p.jitter
      = listed fuel (C15.backoff fuel r p) := by
  obtain ⟨f, rfl⟩ : ∃ f, fuel = f + 1 := ⟨fuel - 1, by omega⟩
  obtain ⟨start, stop, factor, count, jitter⟩ := p
  have hi := src_iter_eq_view (f + 1) (f + 1) r start stop factor jitter count (Nat.le_refl _)
  cases count with
  | rep => simp [Src.iterutils.backoff, runFn, countArg, C15.backoff, listed]
  | dflt | num k =>
    simp [Src.iterutils.backoff, countArg, C15.backoff]
    exact runFn_listOf_view f _ (fun n => backoff_iter (f + 1) n r start stop _ factor jitter) hi

theorem src_backoff_valueError (fuel : Nat) (r : Nat → α) (p : Params α) (hf : 0 < fuel)
    (h : C15.backoff fuel r p = .valueError) :
    Src.iterutils.backoff fuel r p.start p.stop (countArg p.count) p.factor p.jitter = .error .ValueError := by
  rw [src_backoff_eq_model fuel r p hf, h]; rfl

end

/-! Corollaries of the two ties and of Props.lean, stated about what the SOURCE computes: `Src.iterutils.backoff_iter` /
`backoff`, the definitions regenerated from the Python text. -/

section SrcProps
variable {α : Type} [LE α] [LT α] [DecidableLE α] [DecidableLT α] [BEq α] [LawfulBEq α]
  [Std.IsLinearOrder α] [Std.LawfulOrderLT α]
  [Mul α] [Sub α] [Neg α] [OfNat α 0] [OfNat α 1]

theorem src_iter_exactly_count (fuel n : Nat) (r : Nat → α) (start stop factor jitter : α) (k : Int)
    (hp : ValidParams ⟨start, stop, factor, .num k, jitter⟩) (hj : JitterOk ⟨start, stop, factor, .num k, jitter⟩)
    (hk : 0 ≤ k) (hn : n ≤ fuel) :
    backoff_iter fuel n r start stop (.int k) factor jitter =
      ((List.range (min k.toNat n)).map (yieldAt r ⟨start, stop, factor, .num k, jitter⟩),
       if k.toNat < n then .returned else .suspended) := by
  refine (src_iter_eq_view fuel n r start stop factor jitter (.num k) hn).trans ?_
  rw [backoffIter_of_valid hp hj, resolveCount_nonneg rfl hk, outcome_num, view_range_map]

theorem src_iter_repeat_endless (fuel n : Nat) (r : Nat → α) (start stop factor jitter : α)
    (hp : ValidParams ⟨start, stop, factor, .rep, jitter⟩) (hj : JitterOk ⟨start, stop, factor, .rep, jitter⟩)
    (hn : n ≤ fuel) :
    backoff_iter fuel n r start stop (.str "repeat") factor jitter =
      ((List.range n).map (yieldAt r ⟨start, stop, factor, .rep, jitter⟩), .suspended) := by
  refine (src_iter_eq_view fuel n r start stop factor jitter .rep hn).trans ?_
  rw [repeat_is_infinite hp hj rfl, view_endless]

omit [LawfulBEq α] [Std.IsLinearOrder α] [Std.LawfulOrderLT α] in
theorem src_iter_values (fuel n : Nat) (r : Nat → α) (p : Params α) (hn : n ≤ fuel) :
    ∃ m, m ≤ n ∧ (backoff_iter fuel n r p.start p.stop (countArg p.count) p.factor p.jitter).1
      = (List.range m).map (yieldAt r p) := by
  rw [src_iter_eq_view fuel n r p.start p.stop p.factor p.jitter p.count hn, backoffIter_eq]
  cases verdict fuel p with
  | rep => exact ⟨n, Nat.le_refl _, by rw [outcome_rep, view_endless]⟩
  | num k =>
    exact ⟨min k n, Nat.min_le_right _ _, by rw [outcome_num, view_range_map]⟩
  | bad | fuelOut => exact ⟨0, Nat.zero_le _, by cases n <;> rfl⟩

theorem src_iter_nojitter_get (fuel n : Nat) (r : Nat → α) (start stop factor : α) (c : Count) (hn : n ≤ fuel)
    (i : Nat) (a : α) (h : (backoff_iter fuel n r start stop (countArg c) factor (0 : α)).1[i]? = some a) :
    a = seqAt factor stop start i := by
  obtain ⟨m, _, hm⟩ := src_iter_values fuel n r ⟨start, stop, factor, c, (0 : α)⟩ hn
  simp only at hm
  rw [hm] at h
  obtain ⟨_, e⟩ := List.getElem?_eq_some_iff.mp h
  simpa [yieldAt, emit_off] using e.symm

theorem src_iter_first_monotone_capped (fuel n : Nat) (r : Nat → α) (start stop factor : α) (c : Count)
    (hv : Valid factor stop start) (hn : n ≤ fuel) :
    let vals : List α := (backoff_iter fuel n r start stop (countArg c) factor (0 : α)).1
    (∀ a : α, vals[0]? = some a → a = start) ∧
    (∀ (i j : Nat) (a b : α), i ≤ j → vals[i]? = some a → vals[j]? = some b → 0 ≤ a ∧ a ≤ b ∧ b ≤ stop) := by
  intro vals
  have hget := src_iter_nojitter_get fuel n r start stop factor c hn
  refine ⟨fun a h => hget 0 a h, ?_⟩
  intro i j a b hij ha hb
  rw [hget i a ha, hget j b hb]
  exact ⟨(le_stop hv i).1, monotone hv hij, (le_stop hv j).2⟩

theorem src_iter_grows_by_factor (fuel n : Nat) (r : Nat → α) (start stop factor : α) (c : Count)
    (hv : Valid factor stop start) (hn : n ≤ fuel) :
    let vals : List α := (backoff_iter fuel n r start stop (countArg c) factor (0 : α)).1
    (∀ (i : Nat) (a b : α), vals[i]? = some a → vals[i + 1]? = some b → a ≠ 0 →
        b = if stop < a * factor then stop else a * factor) ∧
    (∀ b : α, start = 0 → vals[1]? = some b → b = if stop < 1 then stop else 1) ∧
    (∀ (i j : Nat) (a b : α), i ≤ j → vals[i]? = some a → vals[j]? = some b → a = stop → b = stop) := by
  intro vals
  have hget := src_iter_nojitter_get fuel n r start stop factor c hn
  refine ⟨?_, ?_, ?_⟩
  · intro i a b ha hb hne
    rw [hget i a ha] at hne ⊢
    rw [hget (i + 1) b hb]
    exact grows_by_factor_until_cap hv i hne
  · intro b h0 hb
    rw [hget 1 b hb, h0]
    exact zero_then_min_one_stop factor stop
  · intro i j a b hij ha hb hs
    rw [hget i a ha] at hs
    rw [hget j b hb]
    exact stays_at_stop hv hs hij

theorem src_iter_default_last_is_stop (fuel n : Nat) (r : Nat → α) (start stop factor : α) (vals : List α)
    (hp : ValidParams ⟨start, stop, factor, .dflt, (0 : α)⟩) (hn : n ≤ fuel)
    (h : backoff_iter fuel n r start stop .none factor (0 : α) = (vals, .returned)) :
    vals.getLast? = some stop :=
  default_finite_last hp rfl rfl
    (view_returned ((src_iter_eq_view fuel n r start stop factor 0 .dflt hn).symm.trans h))

/-- ValueError at the first `next()`, nothing having been yielded -/
theorem src_iter_invalid_raises (fuel n : Nat) (r : Nat → α) (p : Params α) (hn : n + 1 ≤ fuel)
    (h : p.start < 0 ∨ p.factor < 1 ∨ p.stop = 0 ∨ p.stop < p.start ∨ (∃ k, p.count = .num k ∧ k < 0)) :
    backoff_iter fuel (n + 1) r p.start p.stop (countArg p.count) p.factor p.jitter = ([], .raised .ValueError) := by
  rw [src_backoff_iter_eq_model fuel (n + 1) r p hn, invalid_raises p fuel r h]; rfl

theorem src_backoff_invalid_raises (fuel : Nat) (r : Nat → α) (p : Params α) (hf : 0 < fuel)
    (h : p.start < 0 ∨ p.factor < 1 ∨ p.stop = 0 ∨ p.stop < p.start ∨ (∃ k, p.count = .num k ∧ k < 0)) :
    Src.iterutils.backoff fuel r p.start p.stop (countArg p.count) p.factor p.jitter = .error .ValueError := by
  apply src_backoff_valueError fuel r p hf
  unfold C15.backoff
  split
  · rfl
  · exact invalid_raises p fuel r h

omit [LawfulBEq α] [Std.IsLinearOrder α] [Std.LawfulOrderLT α] in
theorem src_backoff_repeat_rejected (fuel : Nat) (r : Nat → α) (start stop factor jitter : α) (hf : 0 < fuel) :
    Src.iterutils.backoff fuel r start stop (.str "repeat") factor jitter = .error .ValueError :=
  src_backoff_valueError fuel r ⟨start, stop, factor, .rep, jitter⟩ hf rfl

theorem src_backoff_exactly_count (fuel : Nat) (r : Nat → α) (start stop factor jitter : α) (k : Int)
    (hp : ValidParams ⟨start, stop, factor, .num k, jitter⟩) (hj : JitterOk ⟨start, stop, factor, .num k, jitter⟩)
    (hk : 0 ≤ k) (hf : k.toNat < fuel) :
    Src.iterutils.backoff fuel r start stop (.int k) factor jitter
      = .ok ((List.range k.toNat).map (yieldAt r ⟨start, stop, factor, .num k, jitter⟩)) := by
  refine (src_backoff_eq_model fuel r ⟨start, stop, factor, .num k, jitter⟩ (by omega)).trans ?_
  show listed fuel (backoffIter _ _ _) = _
  rw [backoffIter_of_valid hp hj, resolveCount_nonneg rfl hk]
  simp [listed, hf]

theorem src_backoff_default_last_is_stop (fuel : Nat) (r : Nat → α) (start stop factor : α) (vals : List α)
    (hp : ValidParams ⟨start, stop, factor, .dflt, (0 : α)⟩) (hf : 0 < fuel)
    (h : Src.iterutils.backoff fuel r start stop .none factor (0 : α) = .ok vals) :
    vals.getLast? = some stop :=
  default_finite_last hp rfl rfl
    (listed_ok ((src_backoff_eq_model fuel r ⟨start, stop, factor, .dflt, (0 : α)⟩ hf).symm.trans h))

end SrcProps

/-- the un-jittered value `b` is what the SAME generated generator yields at that position with jitter off, not the
    model's -/
theorem src_iter_jitter_bounds (fuel n : Nat) (r : Nat → Rat) (start stop factor jitter : Rat) (k : Int)
    (h0 : 0 ≤ start) (h1 : start ≤ stop) (hs : 0 < stop) (hf : 1 ≤ factor) (hk : 0 ≤ k) (hn : n ≤ fuel)
    (hj1 : -1 ≤ jitter) (hj2 : jitter ≤ 1) (hr : ∀ i, 0 ≤ r i ∧ r i < 1) (i : Nat) (w : Rat)
    (hw : (backoff_iter fuel n r start stop (.int k) factor jitter).1[i]? = some w) :
    ∃ b, (backoff_iter fuel n r start stop (.int k) factor 0).1[i]? = some b ∧
      (0 ≤ jitter → b * (1 - jitter) ≤ w ∧ w ≤ b) ∧ (jitter ≤ 0 → b ≤ w ∧ w ≤ b * (1 - jitter)) := by
  have hpj := rat_validParams ⟨start, stop, factor, .num k, jitter⟩ h0 h1 hs hf
  have hp0 := rat_validParams ⟨start, stop, factor, .num k, 0⟩ h0 h1 hs hf
  rw [src_iter_exactly_count fuel n r start stop factor jitter k hpj (Or.inr ⟨hj1, hj2⟩) hk hn] at hw
  rw [src_iter_exactly_count fuel n r start stop factor 0 k hp0 (Or.inl rfl) hk hn]
  obtain ⟨hi, e⟩ := List.getElem?_eq_some_iff.mp hw
  rw [List.length_map, List.length_range] at hi
  rw [List.getElem_map, List.getElem_range] at e
  subst e
  have hb := jitter_bounds ⟨start, stop, factor, .num k, jitter⟩ h0 h1 hs hf r hr i
  simp only [yieldAt] at hb ⊢
  exact ⟨seqAt factor stop start i, by simp [hi, yieldAt, emit_off], fun h => hb.1 h hj2, fun h => hb.2 hj1 h⟩

/-- non-vacuity of the corollaries' hypotheses: valid parameters exist at `Rat` (the generated definitions are evaluated on
    the doc-test calls in the examples below, at `Int`) -/
example : ValidParams (⟨1, 10, 2, .dflt, 0⟩ : Params Rat) ∧ JitterOk (⟨1, 10, 2, .num 3, 1⟩ : Params Rat) ∧
    ((0 : Int) ≤ 3 ∧ (3 : Int).toNat < 10) :=
  ⟨rat_validParams _ (by decide) (by decide) (by decide) (by decide), Or.inr ⟨by decide, by decide⟩, by decide⟩

/-- non-vacuity: the hypothesis `n ≤ fuel` is satisfiable and both sides are the doc-test values at `α = Int`
    (`list(backoff_iter(1, 10))`, six calls of `next()`; three calls on `count='repeat'`; a refused call) -/
example : (6 : Nat) ≤ 10 ∧
    Src.iterutils.backoff_iter (α := Int) 10 6 (fun _ => 0) 1 10 (countArg .dflt) 2 0 = ([1, 2, 4, 8, 10], .returned) ∧
    shown (pullObj (Obj.ofOutcome (backoffIter (α := Int) 10 (fun _ => 0) ⟨1, 10, 2, .dflt, 0⟩)) 6).2
      = ([1, 2, 4, 8, 10], .returned) := by decide
example : Src.iterutils.backoff_iter (α := Int) 10 3 (fun _ => 0) 0 5 (countArg .rep) 3 0 = ([0, 1, 3], .suspended) ∧
    Src.iterutils.backoff_iter (α := Int) 10 3 (fun _ => 0) 7 5 (countArg (.num 2)) 3 0 = ([], .raised .ValueError) ∧
    Src.iterutils.backoff_iter (α := Int) 10 3 (fun i => i) 4 9 (countArg (.num 2)) 2 1 = ([4, 0], .returned) := by
  decide

example : Src.iterutils.backoff (α := Int) 10 (fun _ => 0) 1 10 (countArg .dflt) 2 0 = .ok [1, 2, 4, 8, 10] ∧
    Src.iterutils.backoff (α := Int) 10 (fun _ => 0) 1 10 (countArg .rep) 2 0 = .error .ValueError ∧
    Src.iterutils.backoff (α := Int) 10 (fun _ => 0) 7 5 (countArg (.num 2)) 2 0 = .error .ValueError :=
  ⟨rfl, rfl, rfl⟩

end C15
