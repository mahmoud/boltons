import BoltonsVerif.C15.Proofs
/-
C15 — a carrier with ROUNDING arithmetic that satisfies the order layer's hypotheses.

`Fx` is fixed point with two fractional bits (the value of `⟨n⟩` is `n / 4`) whose product is
rounded UP to the next quarter: `a * b = ⌈a·b⌉`.  This `*` is not associative and `Fx` is no
ring, yet it is linearly ordered and multiplication by a factor ≥ 1 never shrinks a value —
which is all the order-layer theorems use.  A second carrier with inexact arithmetic beside
`B64` (the doubles themselves): the order-layer theorems are not vacuous for it either.
-/
namespace C15

structure Fx where
  q : Nat
  deriving DecidableEq, Repr

namespace Fx
instance : LE Fx := ⟨fun a b => a.q ≤ b.q⟩
instance : LT Fx := ⟨fun a b => a.q < b.q⟩
instance : DecidableLE Fx := fun a b => inferInstanceAs (Decidable (a.q ≤ b.q))
instance : DecidableLT Fx := fun a b => inferInstanceAs (Decidable (a.q < b.q))
instance : OfNat Fx 0 := ⟨⟨0⟩⟩
instance : OfNat Fx 1 := ⟨⟨4⟩⟩
/-- product rounded up to the next quarter -/
instance : Mul Fx := ⟨fun a b => ⟨(a.q * b.q + 3) / 4⟩⟩
instance : Sub Fx := ⟨fun a b => ⟨a.q - b.q⟩⟩
instance : Neg Fx := ⟨fun _ => ⟨0⟩⟩

theorem le_def (a b : Fx) : a ≤ b ↔ a.q ≤ b.q := Iff.rfl
theorem lt_def (a b : Fx) : a < b ↔ a.q < b.q := Iff.rfl
theorem mul_q (a b : Fx) : (a * b).q = (a.q * b.q + 3) / 4 := rfl

instance : Std.IsLinearOrder Fx where
  le_refl a := Nat.le_refl a.q
  le_trans a b c := by simp only [le_def]; omega
  le_antisymm a b := by
    cases a; cases b; simp only [le_def, Fx.mk.injEq]; omega
  le_total a b := by simp only [le_def]; omega

instance : Std.LawfulOrderLT Fx where
  lt_iff a b := by simp only [le_def, lt_def]; omega

theorem infl (f : Fx) (hf : 4 ≤ f.q) (x : Fx) : x ≤ x * f := by
  rw [le_def, mul_q]
  have : x.q * 4 ≤ x.q * f.q := Nat.mul_le_mul_left _ hf
  omega

theorem laws (f stop : Fx) (hf : 4 ≤ f.q) (hs : 0 < stop.q) : Laws f stop :=
  ⟨hs, by decide, fun x _ _ => infl f hf x⟩

end Fx
end C15
