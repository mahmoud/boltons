import BoltonsVerif.C12.Model4
import BoltonsVerif.C12.Proofs
import BoltonsVerif.C12.Duplex
/-
C12 — lemmas about acceptance steps (`acceptRecv`, `runMixed`, `daccRecv`, `reseat`).
-/
namespace C12

theorem advance_zero (s : List Ev) : advance s 0 0 = some s := by
  cases s with
  | nil => simp [advance]
  | cons e s => cases e <;> simp [advance]

theorem advance_spec : ∀ (s : List Ev) (cb cf : Nat) (s' : List Ev), advance s cb cf = some s' →
    ∃ c : Bytes, c.length = cb ∧ c ++ pending s' = pending s ∧ nTO s' + cf = nTO s := by
  -- nothing more to take: the point is where we stand (the first test of every equation of `advance`)
  have stay : ∀ {s : List Ev} {cb cf : Nat} {s' : List Ev}, cb = 0 ∧ cf = 0 → advance s cb cf = some s' →
      ∃ c : Bytes, c.length = cb ∧ c ++ pending s' = pending s ∧ nTO s' + cf = nTO s := by
    rintro s cb cf s' ⟨rfl, rfl⟩ h
    rw [advance_zero] at h
    cases h
    exact ⟨[], rfl, rfl, rfl⟩
  intro s
  induction s with
  | nil =>
    intro cb cf s' h
    by_cases hc : cb = 0 ∧ cf = 0
    · exact stay hc h
    · simp [advance, hc] at h
  | cons e r ih =>
    intro cb cf s' h
    by_cases hc : cb = 0 ∧ cf = 0
    · exact stay hc h
    cases e with
    | chunk bs =>
      simp only [advance, hc, if_false] at h
      split at h
      · rename_i hlt
        split at h
        · rename_i hcf
          simp only [Option.some.injEq] at h
          subst h
          refine ⟨bs.take cb, by simp [List.length_take]; omega, ?_, by simp [nTO, hcf]⟩
          simp only [pending]
          rw [← List.append_assoc, List.take_append_drop]
        · simp at h
      · rename_i hge
        obtain ⟨c, h1, h2, h3⟩ := ih _ _ _ h
        refine ⟨bs ++ c, by simp [h1]; omega, ?_, by simpa [nTO] using h3⟩
        simp only [pending, List.append_assoc, h2]
    | timeout =>
      simp only [advance, hc, if_false] at h
      split at h
      · simp at h
      · rename_i hcf
        obtain ⟨c, h1, h2, h3⟩ := ih _ _ _ h
        refine ⟨c, h1, by simpa [pending] using h2, ?_⟩
        simp only [nTO]
        omega

theorem RecvObs.state_spec (o : RecvObs) (st st' : St) (h : o.state st = some st') :
    st'.rbuf = o.rbuf ∧ nTO st'.script = o.faults ∧ (pending st'.script).length = o.und ∧
    nTO st'.script ≤ nTO st.script ∧ ∃ c, c ++ pending st'.script = pending st.script := by
  unfold RecvObs.state RecvObs.seat at h
  split at h
  · rename_i hc
    split at h
    · rename_i s hs
      simp only [Option.some.injEq] at h
      subst h
      obtain ⟨c, h1, h2, h3⟩ := advance_spec _ _ _ _ hs
      have hl := congrArg List.length h2
      simp only [List.length_append] at hl
      exact ⟨rfl, by simp only; omega, by simp only; omega, by simp only; omega, c, h2⟩
    · simp at h
  · simp at h

/-- what acceptance means: the `recv` clause of the property's statement, as `recv_ok` has it for the model's own `recv` -/
theorem acceptRecv_sound (size : Nat) (o : RecvObs) (st st' : St) (h : acceptRecv size o st = some st') :
    st'.rbuf = o.rbuf ∧ nTO st'.script ≤ nTO st.script ∧
    ((o.res = none ∧ st'.view = st.view ∧ nTO st'.script < nTO st.script) ∨
     (∃ v, o.res = some v ∧ RecvValue size st.view v st'.view)) := by
  unfold acceptRecv at h
  split at h
  · simp at h
  · rename_i s hs
    obtain ⟨h1, -, -, h4, -⟩ := RecvObs.state_spec o st s hs
    split at h
    · rename_i hres
      split at h
      · rename_i hc
        simp only [Option.some.injEq] at h
        subst h
        exact ⟨h1, h4, Or.inl ⟨hres, hc.2, hc.1⟩⟩
      · simp at h
    · rename_i v hres
      split at h
      · rename_i hc
        simp only [Option.some.injEq] at h
        subst h
        exact ⟨h1, h4, Or.inr ⟨v, hres, hc.1, hc.2.1, hc.2.2⟩⟩
      · simp at h

theorem acceptRecv_conserves (size : Nat) (o : RecvObs) (st st' : St) (h : acceptRecv size o st = some st') :
    o.handed ++ st'.view = st.view := by
  obtain ⟨-, -, h3⟩ := acceptRecv_sound size o st st' h
  rcases h3 with ⟨a, b, -⟩ | ⟨v, a, hv⟩
  · simp [RecvObs.handed, a, b]
  · simp [RecvObs.handed, a, hv.split]

theorem reseat_ok (s0 : List Ev) (o : RecvObs) (st : St) :
    (reseat s0 o st).view = st.view ∧ nTO (reseat s0 o st).script = nTO st.script := by
  unfold reseat
  split
  · split
    · rename_i hc; exact hc
    · exact ⟨rfl, rfl⟩
  · exact ⟨rfl, rfl⟩

theorem reseatOpt_ok (s0 : List Ev) (o : Option RecvObs) (st : St) :
    (reseatOpt s0 o st).view = st.view ∧ nTO (reseatOpt s0 o st).script = nTO st.script := by
  cases o with
  | none => exact ⟨rfl, rfl⟩
  | some o => exact reseat_ok s0 o st

theorem runMixed_call {cfg : Cfg} {s0 : List Ev} {op : Op} {seat : Option RecvObs} {r : List MStep} {st : St}
    {rs : List Res} {st' : St} (h : runMixed cfg s0 (.call op seat :: r) st = some (rs, st')) :
    ∃ rs', runMixed cfg s0 r (reseatOpt s0 seat (callRetry cfg op st).2) = some (rs', st') ∧
      rs = (callRetry cfg op st).1 :: rs' := by
  simp only [runMixed] at h
  split at h
  · rename_i rs' s' hrun
    simp only [Option.some.injEq, Prod.mk.injEq] at h
    obtain ⟨a, b⟩ := h
    subst a; subst b
    exact ⟨rs', hrun, rfl⟩
  · simp at h

theorem runMixed_recvObs {cfg : Cfg} {s0 : List Ev} {size : Nat} {o : RecvObs} {r : List MStep} {st : St}
    {rs : List Res} {st' : St} (h : runMixed cfg s0 (.recvObs size o :: r) st = some (rs, st')) :
    ∃ st1 rs', acceptRecv size o st = some st1 ∧ runMixed cfg s0 r st1 = some (rs', st') ∧ rs = o.toRes :: rs' := by
  simp only [runMixed] at h
  split at h
  · simp at h
  · rename_i st1 hacc
    split at h
    · rename_i rs' s' hrun
      simp only [Option.some.injEq, Prod.mk.injEq] at h
      obtain ⟨a, b⟩ := h
      subst a; subst b
      exact ⟨st1, rs', hacc, hrun, rfl⟩
    · simp at h

theorem runMixed_conserves (cfg : Cfg) (hrs : 0 < cfg.recvsize) (s0 : List Ev) : ∀ (steps : List MStep)
    (st : St) (rs : List Res) (st' : St), runMixed cfg s0 steps st = some (rs, st') →
    handedMixed steps rs ++ st'.view = st.view := by
  intro steps
  induction steps with
  | nil =>
    intro st rs st' h
    simp only [runMixed, Option.some.injEq, Prod.mk.injEq] at h
    obtain ⟨a, b⟩ := h
    subst a; subst b
    simp [handedMixed]
  | cons s steps ih =>
    intro st rs st' h
    cases s with
    | call op seat =>
      obtain ⟨rs', hrun, rfl⟩ := runMixed_call h
      have hi := ih _ _ _ hrun
      rw [(reseatOpt_ok s0 seat _).1] at hi
      simp only [handedMixed, List.append_assoc, hi]
      exact retryLoop_conserves cfg hrs op _ st
    | recvObs size o =>
      obtain ⟨st1, rs', hacc, hrun, rfl⟩ := runMixed_recvObs h
      have hi := ih _ _ _ hrun
      have hc := acceptRecv_conserves size o st st1 hacc
      simp only [handedMixed, List.append_assoc, hi, hc]

theorem specMixed_map_answer : ∀ (s : List MStep) (S : Bytes), specMixed (s.map MStep.answer) S = specMixed s S := by
  intro s
  induction s with
  | nil => intro S; rfl
  | cons a s ih =>
    intro S
    cases a with
    | call op seat => simp only [List.map_cons, MStep.answer, specMixed, ih]
    | recvObs n o => simp only [List.map_cons, MStep.answer, specMixed, ih, RecvObs.toRes, RecvObs.handed]

theorem resolveMixed_det (large : Nat) : ∀ (calls : List MCall) (selfMax : Nat),
    (∀ c seat, MCall.call c seat ∈ calls → c.deterministic = true) →
    ∀ s ∈ resolveMixed large selfMax calls, s.det = true := by
  intro calls
  induction calls with
  | nil => intro _ _ s h; simp [resolveMixed] at h
  | cons c cs ih =>
    intro selfMax hall s hs
    have hcs : ∀ c' seat', MCall.call c' seat' ∈ cs → c'.deterministic = true :=
      fun c' seat' h => hall c' seat' (by simp [h])
    cases c with
    | call c seat =>
      simp only [resolveMixed] at hs
      cases hop : c.op large selfMax with
      | none => rw [hop] at hs; exact ih _ hcs s hs
      | some op =>
        rw [hop] at hs
        rcases List.mem_cons.mp hs with h | h
        · exact h ▸ Call.op_det (hall c seat (by simp)) hop
        · exact ih _ hcs s h
    | recvObs size obs =>
      simp only [resolveMixed, List.mem_append, List.mem_map] at hs
      rcases hs with ⟨o, -, h⟩ | h
      · subst h; rfl
      · exact ih _ hcs s h

/-- the rest `sock.recv` leaves is the point of the script after the bytes it returned (after one fault, when it raised),
    up to empty chunks: `advance` does not skip them, `sockRecv` does -/
theorem sockRecv_advance (n : Nat) (s : List Ev) :
    match sockRecv n s with
    | .data d r => ∃ r', advance s d.length 0 = some r' ∧ pending r' = pending r ∧ nTO r' = nTO r
    | .timeout r => ∃ r', advance s 0 1 = some r' ∧ pending r' = pending r ∧ nTO r' = nTO r := by
  induction s with
  | nil => exact ⟨[], by simp [advance], rfl, rfl⟩
  | cons e s ih =>
    cases e with
    | timeout => exact ⟨s, by simp [advance, advance_zero], rfl, rfl⟩
    | chunk bs =>
      by_cases hb : bs = []
      · subst hb
        simp only [sockRecv, if_true]
        cases hr : sockRecv n s with
        | timeout r =>
          rw [hr] at ih
          obtain ⟨r', h1, h2, h3⟩ := ih
          exact ⟨r', by simpa [advance] using h1, h2, h3⟩
        | data d r =>
          rw [hr] at ih
          obtain ⟨r', h1, h2, h3⟩ := ih
          by_cases hd : d.length = 0
          · have p := sockRecv_data hr
            refine ⟨.chunk [] :: s, by simp [advance, hd], ?_, ?_⟩
            · simp [pending, p.pending_eq, List.length_eq_zero_iff.mp hd]
            · simp [nTO, p.nTO_eq]
          · exact ⟨r', by simpa [advance, hd] using h1, h2, h3⟩
      · by_cases hl : bs.length ≤ n
        · simp only [sockRecv, hb, hl, if_true, if_false]
          exact ⟨_, by simp [advance, hb, advance_zero], rfl, rfl⟩
        · simp only [sockRecv, hb, hl, if_false]
          by_cases hn : n = 0
          · subst hn
            exact ⟨.chunk bs :: s, by simp [advance], by simp [pending], by simp [nTO]⟩
          · have hlen : (bs.take n).length = n := by simp [List.length_take]; omega
            refine ⟨.chunk (bs.drop n) :: s, ?_, rfl, rfl⟩
            rw [hlen]
            have : n < bs.length := by omega
            simp [advance, hn, this]

/-- a state the model's own `recv` can end in, seen as an observation, names a point of the script (the seat that
    `model_recv_is_accepted` accepts) -/
theorem obs_state_of_recv (cfg : Cfg) (size : Nat) (st : St) :
    ∃ st', (obsOfRecv (recv cfg size st)).state st = some st' ∧ st'.rbuf = (recv cfg size st).2.rbuf ∧
      pending st'.script = pending (recv cfg size st).2.script ∧
      nTO st'.script = nTO (recv cfg size st).2.script := by
  -- `c`: the bytes the call took off the network, `k`: the faults it used up, `r'`: the point `advance` finds for them
  have key : ∀ (res : Res) (rb : Bytes) (s' : List Ev),
      (∃ c : Bytes, pending st.script = c ++ pending s' ∧ ∃ k, nTO s' + k = nTO st.script ∧
        ∃ r', advance st.script c.length k = some r' ∧ pending r' = pending s' ∧ nTO r' = nTO s') →
      ∃ st', (obsOfRecv (res, ⟨rb, s'⟩)).state st = some st' ∧ st'.rbuf = rb ∧
        pending st'.script = pending s' ∧ nTO st'.script = nTO s' := by
    intro res rb s' ⟨c, hc, k, hk, r', hr, hp, hn⟩
    refine ⟨⟨rb, r'⟩, ?_, rfl, hp, hn⟩
    unfold RecvObs.state RecvObs.seat obsOfRecv
    have hl := congrArg List.length hc
    simp only [List.length_append] at hl
    have c1 : (pending s').length ≤ (pending st.script).length ∧ nTO s' ≤ nTO st.script := ⟨by omega, by omega⟩
    have e1 : (pending st.script).length - (pending s').length = c.length := by omega
    have e2 : nTO st.script - nTO s' = k := by omega
    simp only [c1, and_self, ↓reduceIte, e1, e2, hr]
  have same : ∀ (res : Res) (rb : Bytes), ∃ st', (obsOfRecv (res, ⟨rb, st.script⟩)).state st = some st' ∧
      st'.rbuf = rb ∧ pending st'.script = pending st.script ∧ nTO st'.script = nTO st.script :=
    fun res rb => key res rb st.script ⟨[], by simp, 0, by simp, st.script, advance_zero _, rfl, rfl⟩
  rcases recv_cases cfg size st with ⟨-, e⟩ | ⟨-, -, e⟩ | ⟨-, -, r, hr, e⟩ | ⟨-, -, d, r, hr, e⟩ <;> rw [e]
  · exact same _ _
  · exact same _ _
  · have hadv := sockRecv_advance cfg.recvsize st.script
    rw [hr] at hadv
    obtain ⟨r', a1, a2, a3⟩ := hadv
    have p := sockRecv_timeout hr
    exact key _ _ r ⟨[], by simp [p.pending_eq], 1, p.nTO_eq, r', a1, a2, a3⟩
  · have hadv := sockRecv_advance cfg.recvsize st.script
    rw [hr] at hadv
    obtain ⟨r', a1, a2, a3⟩ := hadv
    have p := sockRecv_data hr
    exact key _ _ r ⟨d, p.pending_eq, 0, p.nTO_eq, r', a1, a2, a3⟩

theorem runMixed_last_empty (cfg : Cfg) (s0 : List Ev) (size : Nat) (hs : 0 < size) (o : RecvObs) (ho : o.res = some []) :
    ∀ (pre : List MStep) (st : St) (rs : List Res) (st' : St),
      runMixed cfg s0 (pre ++ [.recvObs size o]) st = some (rs, st') → st'.view = [] := by
  intro pre
  induction pre with
  | nil =>
    intro st rs st' h
    obtain ⟨st1, rs', hacc, hrun, -⟩ := runMixed_recvObs h
    simp only [runMixed, Option.some.injEq, Prod.mk.injEq] at hrun
    obtain ⟨-, rfl⟩ := hrun
    obtain ⟨-, -, hcase⟩ := acceptRecv_sound size o st st1 hacc
    rcases hcase with ⟨a, -⟩ | ⟨v, a, hv⟩
    · rw [ho] at a; cases a
    · rw [ho] at a
      simp only [Option.some.injEq] at a
      subst a
      have b := hv.split
      rw [hv.eof hs rfl] at b
      simpa using b
  | cons s pre ih =>
    intro st rs st' h
    cases s with
    | call op seat =>
      obtain ⟨rs', hrun, -⟩ := runMixed_call h
      exact ih _ _ _ hrun
    | recvObs n o' =>
      obtain ⟨st1, rs', -, hrun, -⟩ := runMixed_recvObs h
      exact ih _ _ _ hrun

theorem dseat_ok (s0 : List Ev) (o : Option RecvObs) (b : BSock) :
    (dseat s0 o b).txPart = b.txPart ∧ (dseat s0 o b).cfg = b.cfg ∧ (dseat s0 o b).rtags = b.rtags ∧
    (dseat s0 o b).rx.view = b.rx.view ∧ (b.Aligned → (dseat s0 o b).Aligned) := by
  obtain ⟨h1, h2⟩ := reseatOpt_ok s0 o b.rx
  refine ⟨rfl, rfl, rfl, h1, ?_⟩
  intro ⟨hr, hs⟩
  exact ⟨by simp only [dseat]; omega, hs⟩

end C12
