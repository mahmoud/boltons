import BoltonsVerif.C12.Proofs
import BoltonsVerif.C12.Duplex
import BoltonsVerif.C12.Accepted
import BoltonsVerif.Generated.C12_Consts
import BoltonsVerif.Generated.C12_NsWindow
/-
C12 — the property theorems for the BufferedSocket / NetstringSocket model.  "The statement" is the text of property C12.

Vocabulary
  script          what the network will do: chunks and socket.timeouts, then EOF
  pending script  the bytes not yet delivered, in order
  st.view         `rbuf ++ pending script`: every byte not yet handed to the caller
  attempt         one call; `callRetry` / `runRetry` = the caller retrying after Timeout
  spec op S       the answer of `op` when the whole remaining stream `S` is already there
  consumed op r   the bytes a call removed from the stream (what it returned, plus the delimiter
                  `recv_until(with_delimiter=False)` drops; `peek` removes nothing)
Hypothesis `0 < cfg.recvsize` where the socket is read: `recvsize = 0` makes `sock.recv(0)` return b'' and is
not a usable configuration.
-/
namespace C12

/-- a fresh BufferedSocket over a network that will play `script` -/
abbrev start (script : List Ev) : St := ⟨[], script⟩

/-! ## 1. framing does not depend on chunking, recvsize or timeout placement -/

/-- recv_until, retried after Timeout, gives the whole-stream answer and leaves the whole-stream rest -/
theorem recv_until_chunk_independent (cfg : Cfg) (hrs : 0 < cfg.recvsize) (d : Bytes) (maxsize : Nat)
    (withDelim : Bool) (st : St) :
    ((callRetry cfg (.recvUntil d maxsize withDelim) st).1,
     (callRetry cfg (.recvUntil d maxsize withDelim) st).2.view) = specUntil d maxsize withDelim st.view :=
  callRetry_ok cfg hrs _ rfl st

theorem recv_size_chunk_independent (cfg : Cfg) (hrs : 0 < cfg.recvsize) (n : Nat) (st : St) :
    ((callRetry cfg (.recvSize n) st).1, (callRetry cfg (.recvSize n) st).2.view) = specSize n st.view :=
  callRetry_ok cfg hrs _ rfl st

theorem peek_chunk_independent (cfg : Cfg) (hrs : 0 < cfg.recvsize) (n : Nat) (st : St) :
    ((callRetry cfg (.peek n) st).1, (callRetry cfg (.peek n) st).2.view) = specPeek n st.view :=
  callRetry_ok cfg hrs _ rfl st

theorem recv_close_chunk_independent (cfg : Cfg) (hrs : 0 < cfg.recvsize) (maxsize : Nat) (st : St) :
    ((callRetry cfg (.recvClose maxsize) st).1, (callRetry cfg (.recvClose maxsize) st).2.view)
      = specClose maxsize st.view :=
  callRetry_ok cfg hrs _ rfl st

/-- a whole session of recv_until / recv_size / peek / recv_close calls returns the values and raises
    the ConnectionClosed / MessageTooLong of the whole-stream specification, and ends with the same
    bytes still owed to the caller -/
theorem session_eq_spec (cfg : Cfg) (hrs : 0 < cfg.recvsize) (ops : List Op)
    (hdet : ∀ op ∈ ops, op.deterministic = true) (st : St) :
    ((runRetry cfg ops st).1, (runRetry cfg ops st).2.view) = specRun ops st.view := by
  induction ops generalizing st with
  | nil => simp [runRetry, specRun]
  | cons op ops ih =>
    have h1 := callRetry_ok cfg hrs op (hdet op (by simp)) st
    have h2 := ih (fun o ho => hdet o (by simp [ho])) (callRetry cfg op st).2
    simp only [runRetry, specRun]
    rw [← h1]
    simp only
    rw [← h2]

/-- every single attempt (no retry) either raises Timeout and leaves the stream untouched, or answers
    exactly as the whole-stream specification on what is still owed -/
theorem attempt_timeout_or_spec (cfg : Cfg) (hrs : 0 < cfg.recvsize) (op : Op)
    (hdet : op.deterministic = true) (st : St) :
    ((attempt cfg op st).1 = .timeout ∧ (attempt cfg op st).2.view = st.view) ∨
    ((attempt cfg op st).1 ≠ .timeout ∧
      ((attempt cfg op st).1, (attempt cfg op st).2.view) = spec op st.view) := by
  rcases attempt_ok cfg hrs op hdet st with ⟨a, b, _⟩ | ⟨a, b, _, _⟩
  · exact Or.inl ⟨a, b⟩
  · exact Or.inr ⟨a, b⟩

/-- the results of a session are a function of `rbuf ++ undelivered`, whatever the split, chunking and recvsize -/
theorem session_function_of_view (cfg₁ cfg₂ : Cfg) (h₁ : 0 < cfg₁.recvsize) (h₂ : 0 < cfg₂.recvsize)
    (ops : List Op) (hdet : ∀ op ∈ ops, op.deterministic = true) (st₁ st₂ : St) (hv : st₁.view = st₂.view) :
    (runRetry cfg₁ ops st₁).1 = (runRetry cfg₂ ops st₂).1 ∧
    (runRetry cfg₁ ops st₁).2.view = (runRetry cfg₂ ops st₂).2.view := by
  have e₁ := session_eq_spec cfg₁ h₁ ops hdet st₁
  have e₂ := session_eq_spec cfg₂ h₂ ops hdet st₂
  rw [hv] at e₁
  exact Prod.mk.inj (e₁.trans e₂.symm)

/-- the statement's quantifier: any two networks that deliver the same bytes — however split into
    chunks, wherever the timeouts fall, whatever the two recvsize settings — yield the same results -/
theorem chunk_independent (cfg₁ cfg₂ : Cfg) (h₁ : 0 < cfg₁.recvsize) (h₂ : 0 < cfg₂.recvsize)
    (ops : List Op) (hdet : ∀ op ∈ ops, op.deterministic = true) (s₁ s₂ : List Ev)
    (hs : pending s₁ = pending s₂) :
    (runRetry cfg₁ ops (start s₁)).1 = (runRetry cfg₂ ops (start s₂)).1 ∧
    (runRetry cfg₁ ops (start s₁)).2.view = (runRetry cfg₂ ops (start s₂)).2.view := by
  exact session_function_of_view cfg₁ cfg₂ h₁ h₂ ops hdet (start s₁) (start s₂) (by simp [St.view, hs])

/-- … in particular the same as when the whole stream arrives at once, in a single recv -/
theorem same_as_whole_stream_at_once (cfg : Cfg) (hrs : 0 < cfg.recvsize) (ops : List Op)
    (hdet : ∀ op ∈ ops, op.deterministic = true) (script : List Ev) :
    (runRetry cfg ops (start script)).1 =
      (runRetry ⟨(pending script).length + 1, cfg.maxsize⟩ ops (start [.chunk (pending script)])).1 :=
  (chunk_independent cfg ⟨(pending script).length + 1, cfg.maxsize⟩ hrs (Nat.succ_pos _) ops hdet script
    [.chunk (pending script)] (by simp [pending])).1

/-- the retry loop always ends with a value or ConnectionClosed / MessageTooLong: never still in
    Timeout, never out of fuel -/
theorem retry_terminates (cfg : Cfg) (hrs : 0 < cfg.recvsize) (op : Op) (hdet : op.deterministic = true)
    (st : St) : (callRetry cfg op st).1 ≠ .timeout ∧ (callRetry cfg op st).1 ≠ .fuel := by
  have h := callRetry_ok cfg hrs op hdet st
  have h1 : (callRetry cfg op st).1 = (spec op st.view).1 := congrArg Prod.fst h
  rw [h1]
  exact spec_res op hdet _

/-- model adequacy: the fuel the entry points pass is always enough — no single call ever ends in
    the artificial `Res.fuel` outcome -/
theorem attempt_never_out_of_fuel (cfg : Cfg) (hrs : 0 < cfg.recvsize) (op : Op) (st : St) :
    (attempt cfg op st).1 ≠ .fuel := by
  by_cases hdet : op.deterministic = true
  · exact (attempt_ok cfg hrs op hdet st).ne_fuel (spec_res op hdet _).2
  · cases op with
    | recv n =>
      rcases recv_ok cfg hrs n st with ⟨a, _, _⟩ | ⟨v, a, _⟩
      · simp only [attempt]; rw [a]; simp
      · simp only [attempt]; rw [a]; simp
    | _ => simp [Op.deterministic] at hdet

/-! what the whole-stream specification of recv_until says (so that "equal to the spec" means
    something): the value ends at the first occurrence of the delimiter that lies inside the first
    `maxsize` bytes; MessageTooLong / ConnectionClosed only when there is no such occurrence -/

theorem spec_until_first_occurrence (d S : Bytes) (maxsize o : Nat)
    (h : findIdx d (S.take maxsize) = some o) :
    (S.drop o).take d.length = d ∧ o + d.length ≤ maxsize ∧
    ∀ i, i < o → ¬ (i + d.length ≤ maxsize ∧ (S.drop i).take d.length = d) := by
  obtain ⟨h1, h2, -⟩ := findIdx_take_occurrence h
  refine ⟨h1, h2, ?_⟩
  intro i hi ⟨hb, hm⟩
  exact (findIdx_some h).first i hi (isPrefixOf_window hb hm)

theorem spec_until_no_occurrence (d S : Bytes) (maxsize : Nat)
    (h : findIdx d (S.take maxsize) = none) :
    ∀ i, ¬ (i + d.length ≤ maxsize ∧ i + d.length ≤ S.length ∧ (S.drop i).take d.length = d) := by
  intro i ⟨hb, _, hm⟩
  exact findIdx_none h i (isPrefixOf_window hb hm)

-- "ab\r\ncd\r\n" delivered as  "ab\r" | timeout | "\ncd" | "\r" | timeout | "\n"  with recvsize 2:
-- the delimiter straddles chunk edges twice and a timeout falls inside it
def exScript : List Ev :=
  [.chunk [97, 98, 13], .timeout, .chunk [10, 99, 100], .chunk [13], .timeout, .chunk [10]]

example : pending exScript = [97, 98, 13, 10, 99, 100, 13, 10] := by decide
example : nTO exScript = 2 := by decide
example : (runRetry ⟨2, 100⟩ [.recvUntil [13, 10] 100 false, .peek 1, .recvUntil [13, 10] 100 true,
            .recvClose 5] (start exScript)).1
    = [.ok [97, 98], .ok [99], .ok [99, 100, 13, 10], .ok []] := by decide
-- a single attempt does time out with partial data kept
example : (attempt ⟨2, 100⟩ (.recvUntil [13, 10] 100 false) (start exScript)).1 = .timeout ∧
    (attempt ⟨2, 100⟩ (.recvUntil [13, 10] 100 false) (start exScript)).2.rbuf = [97, 98, 13] := by decide
-- MessageTooLong and ConnectionClosed are reachable results of the specification
example : (specUntil [13, 10] 3 false [97, 98, 13, 10]).1 = .tooLong := by decide
example : (specUntil [13, 10] 9 false [97, 98, 13]).1 = .closed := by decide
example : (specUntil [13, 10] 4 false [97, 98, 13, 10, 99]) = (.ok [97, 98], [99]) := by decide

/-! ## 2. no byte lost or duplicated, also after an exception -/

/-- one call, whatever it returns or raises (Timeout, ConnectionClosed, MessageTooLong included):
    handed over ++ still buffered ++ not yet delivered = the same, before the call -/
theorem conservation_attempt (cfg : Cfg) (hrs : 0 < cfg.recvsize) (op : Op) (st : St) :
    consumed op (attempt cfg op st).1 ++ (attempt cfg op st).2.rbuf ++ pending (attempt cfg op st).2.script
      = st.rbuf ++ pending st.script := by
  have := attempt_conserves cfg hrs op st
  simpa [St.view, List.append_assoc] using this

/-- any history of calls (retried or not, in any order) from a fresh socket, at every moment:
    bytes handed to the caller ++ rbuf ++ undelivered = the original stream, in order -/
theorem conservation (cfg : Cfg) (hrs : 0 < cfg.recvsize) (ops : List Op) (script : List Ev) :
    handedOver ops (runAttempts cfg ops (start script)).1
      ++ (runAttempts cfg ops (start script)).2.rbuf
      ++ pending (runAttempts cfg ops (start script)).2.script = pending script := by
  have := runAttempts_conserves cfg hrs ops (start script)
  simpa [St.view, List.append_assoc] using this

/-- a call that raises (anything but a normal return) leaves every byte where the next call finds it -/
theorem exception_keeps_stream (cfg : Cfg) (hrs : 0 < cfg.recvsize) (op : Op) (st : St)
    (h : ∀ bs, (attempt cfg op st).1 ≠ .ok bs) : (attempt cfg op st).2.view = st.view := by
  have := attempt_conserves cfg hrs op st
  cases hr : (attempt cfg op st).1 with
  | ok bs => exact absurd hr (h bs)
  | closed | tooLong | timeout | fuel => rw [hr] at this; cases op <;> simpa [consumed] using this

/-- a call raises Timeout only if the socket raised one during that call -/
theorem timeout_only_from_socket (cfg : Cfg) (op : Op) (st : St) :
    nTO (attempt cfg op st).2.script ≤ nTO st.script ∧
    ((attempt cfg op st).1 = .timeout → nTO (attempt cfg op st).2.script < nTO st.script) := by
  have t := attempt_timeoutExact cfg op st
  by_cases h : (attempt cfg op st).1 = .timeout
  · have := t.raised h
    exact ⟨by omega, fun _ => by omega⟩
  · have := t.other h
    exact ⟨by omega, fun h' => absurd h' h⟩

/-! ## 3. recv -/

/-- recv(size) either raises Timeout (nothing moves) or returns a prefix of the remaining stream,
    no longer than requested, non-empty unless the stream has ended -/
theorem recv_prefix (cfg : Cfg) (hrs : 0 < cfg.recvsize) (size : Nat) (st : St) :
    ((recv cfg size st).1 = .timeout ∧ (recv cfg size st).2.view = st.view) ∨
    (∃ v, (recv cfg size st).1 = .ok v ∧ v ++ (recv cfg size st).2.view = st.view ∧
        v.length ≤ size ∧ (0 < size → v = [] → st.view = [])) := by
  rcases recv_ok cfg hrs size st with ⟨a, b, _⟩ | ⟨v, a, hv, _⟩
  · exact Or.inl ⟨a, b⟩
  · exact Or.inr ⟨v, a, hv.split, hv.le, hv.eof⟩

/-! ## 4. send / sendall / buffer / flush -/

/-- a fresh BufferedSocket whose underlying socket will play the send script -/
abbrev sstart (script : List SEv) : SSt := ⟨[], [], script⟩

/-- after any history of send / sendall / buffer / flush calls under arbitrary partial sends and
    timeouts: bytes on the wire ++ send buffer = everything the caller handed over, in order -/
theorem send_conservation (ops : List SOp) (script : List SEv) :
    (srun ops (sstart script)).2.wire ++ (srun ops (sstart script)).2.getsendbuffer
      = (ops.map SOp.data).flatten := by
  have := (srun_conserves ops (sstart script)).1
  simpa [SSt.getsendbuffer] using this

/-- what is on the wire is never taken back or reordered -/
theorem wire_only_grows (ops : List SOp) (st : SSt) : st.wire <+: (srun ops st).2.wire :=
  (srun_conserves ops st).2

/-- send() returning means everything (old buffer and the new data) is on the wire, once, in order,
    and the return value counts exactly those bytes -/
theorem send_return (data : Bytes) (st : SSt) (n : Nat) (h : (send data st).1 = .sent n) :
    (send data st).2.getsendbuffer = [] ∧
    (send data st).2.wire = st.wire ++ st.getsendbuffer ++ data ∧
    n = st.getsendbuffer.length + data.length := by
  rw [← sendA_nil] at h ⊢
  exact sendA_return h

/-- whatever send() returns or raises, in particular after a Timeout: the unsent bytes wait, in order, for flush() -/
theorem send_timeout_keeps (data : Bytes) (st : SSt) :
    (send data st).2.wire ++ (send data st).2.getsendbuffer = st.wire ++ st.getsendbuffer ++ data :=
  sendA_nil data st ▸ (sendA_ok [] data st).txOK.conserves

/-- flush() returning means the send buffer is empty -/
theorem flush_success_empties (st : SSt) (h : (flush st).1 = .none) : (flush st).2.getsendbuffer = [] :=
  (flush_ok st).done h

/-- however the socket misbehaves, `len(script) + 1` flush() calls get everything out: the wire then
    holds exactly what was on it plus what was buffered -/
theorem flush_until_done (st : SSt) :
    (flushN (st.script.length + 1) st).getsendbuffer = [] ∧
    (flushN (st.script.length + 1) st).wire = st.wire ++ st.getsendbuffer := by
  have h := flushN_done (st.script.length + 1) st (Nat.lt_succ_of_le (nSF_le_length _))
  have c := flushN_conserves (st.script.length + 1) st
  rw [h, List.append_nil] at c
  exact ⟨h, c⟩

example : ((srun [.send [1, 2, 3], .buffer [4], .flush] (sstart [.accept 2, .timeout, .accept 1])).1.map
    (·.1)) = [.timeout, .none, .none] := by decide
example : (srun [.send [1, 2, 3], .buffer [4], .flush] (sstart [.accept 2, .timeout, .accept 1])).2.wire
    = [1, 2, 3, 4] := by decide

/-! ## 5. netstrings -/

/-- side condition regenerated from the source: NetstringSocket's inner BufferedSocket is built with
    defaults, so its recvsize is DEFAULT_MAXSIZE, which must be positive -/
theorem default_recvsize_pos : 0 < Gen.DEFAULT_MAXSIZE := by decide

/-- `int(str(n).encode())` is `n`: the size prefix written by write_ns is read back as the size -/
theorem size_prefix_roundtrip (n : Nat) : parseNat (digits n) = some n := parseNat_digits n

/-- write_ns puts exactly the frame `<len>:<payload>,` behind what was already accepted
    (or nothing, raising NetstringMessageTooLong, when the payload exceeds maxsize) -/
theorem write_ns_frames (maxsize : Nat) (p : Bytes) (st : SSt) :
    (writeNs maxsize p st).2.wire ++ (writeNs maxsize p st).2.getsendbuffer
      = st.wire ++ st.getsendbuffer ++ (if p.length ≤ maxsize then encodeNs p else []) ∧
    ((writeNs maxsize p st).1 = .nsTooLong ↔ maxsize < p.length) :=
  have h := writeNsA_nil maxsize p st ▸ writeNsA_ok [] maxsize p st
  ⟨h.conserves, h.tooLong_iff⟩

/-- read_ns over any chunking of a stream that starts with the frames of `ps` returns exactly `ps`
    (any payload bytes, `:` `,` and digits included), leaving what follows the frames -/
theorem netstring_roundtrip (cfg : Cfg) (hrs : 0 < cfg.recvsize) (maxsize : Nat) (ps : List Bytes)
    (rest : Bytes) (script : List Ev) (hto : nTO script = 0)
    (hs : pending script = (ps.map encodeNs).flatten ++ rest) (hall : ∀ p ∈ ps, p.length ≤ maxsize) :
    (readNsMany cfg maxsize ps.length (start script)).1 = ps.map NsRes.ok ∧
    (readNsMany cfg maxsize ps.length (start script)).2.view = rest :=
  readNsMany_frames cfg hrs maxsize ps rest (start script) hto (by simpa [St.view] using hs) hall

/-- the same for the configuration NetstringSocket really uses -/
theorem netstring_roundtrip_default (maxsize : Nat) (ps : List Bytes) (script : List Ev)
    (hto : nTO script = 0) (hs : pending script = (ps.map encodeNs).flatten)
    (hall : ∀ p ∈ ps, p.length ≤ maxsize) :
    (readNsMany ⟨Gen.DEFAULT_MAXSIZE, Gen.DEFAULT_MAXSIZE⟩ maxsize ps.length (start script)).1
      = ps.map NsRes.ok :=
  (netstring_roundtrip ⟨Gen.DEFAULT_MAXSIZE, Gen.DEFAULT_MAXSIZE⟩ default_recvsize_pos maxsize ps []
    script hto (by simpa using hs) hall).1

/-- end to end: payloads written with write_ns over a socket that takes partial sends and raises
    timeouts (the caller flushing until done), carried by a network that re-chunks the wire
    arbitrarily, come out of read_ns exactly as written -/
theorem netstring_end_to_end (cfg : Cfg) (hrs : 0 < cfg.recvsize) (maxsize : Nat) (ps : List Bytes)
    (sscript : List SEv) (rscript : List Ev) (hall : ∀ p ∈ ps, p.length ≤ maxsize)
    (hto : nTO rscript = 0)
    (hwire : pending rscript
      = (flushN (sscript.length + 1) (writeMany maxsize ps (sstart sscript))).wire) :
    (readNsMany cfg maxsize ps.length (start rscript)).1 = ps.map NsRes.ok := by
  obtain ⟨h1, (h2 : nSF (writeMany maxsize ps (sstart sscript)).script ≤ nSF sscript)⟩ :=
    writeMany_conserves maxsize ps (sstart sscript) hall
  have hd := flushN_done (sscript.length + 1) (writeMany maxsize ps (sstart sscript))
    (by have := nSF_le_length sscript; omega)
  have hc := flushN_conserves (sscript.length + 1) (writeMany maxsize ps (sstart sscript))
  rw [hd, List.append_nil, h1] at hc
  have hw : pending rscript = (ps.map encodeNs).flatten ++ [] := by
    rw [hwire, hc]; simp [SSt.getsendbuffer]
  exact (netstring_roundtrip cfg hrs maxsize ps [] rscript hto hw hall).1

-- a netstring whose payload contains ':' ',' and digits, read one byte at a time
example : encodeNs [58, 44, 49] = [51, 58, 58, 44, 49, 44] := by decide
example : (readNsMany ⟨4, 4⟩ 10 2 (start ((encodeNs [58, 44, 49] ++ encodeNs []).map (fun b => Ev.chunk [b])))).1
    = [.ok [58, 44, 49], .ok []] := by decide

example : (flushN 3 (writeMany 10 [[58, 44, 49], []] (sstart [.accept 2, .timeout]))).wire
    = [51, 58, 58, 44, 49, 44, 48, 58, 44] := by decide

/-! ## 6. the arguments around the calls, the wall clock on the send side, read_ns under faults -/

/-- a session written with the public calls - maxsize omitted (`self.maxsize`, which `setmaxsize`
    changes), `None` (`_RECV_LARGE_MAXSIZE`) or explicit - returns the whole-stream answers of the
    resolved operations, for every chunking, recvsize and timeout placement -/
theorem calls_session_eq_spec (large : Nat) (cfg : Cfg) (hrs : 0 < cfg.recvsize) (calls : List Call)
    (hdet : ∀ c ∈ calls, c.deterministic = true) (st : St) :
    ((runCalls large cfg calls st).1, (runCalls large cfg calls st).2.view)
      = specRun (resolveCalls large cfg.maxsize calls) st.view := by
  rw [runCalls_eq]
  exact session_eq_spec cfg hrs _ (resolveCalls_det large calls cfg.maxsize hdet) st

/-- … hence two networks delivering the same bytes give the same results to the same calls, whatever
    the two recvsize settings (the constructor maxsize being the same) -/
theorem calls_chunk_independent (large : Nat) (cfg₁ cfg₂ : Cfg) (h₁ : 0 < cfg₁.recvsize)
    (h₂ : 0 < cfg₂.recvsize) (hm : cfg₁.maxsize = cfg₂.maxsize) (calls : List Call)
    (hdet : ∀ c ∈ calls, c.deterministic = true) (s₁ s₂ : List Ev) (hs : pending s₁ = pending s₂) :
    (runCalls large cfg₁ calls (start s₁)).1 = (runCalls large cfg₂ calls (start s₂)).1 := by
  have e₁ := calls_session_eq_spec large cfg₁ h₁ calls hdet (start s₁)
  have e₂ := calls_session_eq_spec large cfg₂ h₂ calls hdet (start s₂)
  have hv : (start s₁).view = (start s₂).view := by simp [St.view, hs]
  rw [hv, hm] at e₁
  exact (Prod.mk.inj (e₁.trans e₂.symm)).1

/-- `setmaxsize` acts on later calls that omit maxsize and on nothing else: an explicit or `None`
    maxsize is untouched by it, and the buffer and the socket are not touched at all -/
theorem setmaxsize_effect (large : Nat) (cfg : Cfg) (n : Nat) (st : St) :
    callAttempt large cfg (.setMaxsize n) st = (none, ⟨cfg.recvsize, n⟩, st) ∧
    (∀ d w, (Call.recvUntil d .unset w).op large n = some (.recvUntil d n w)) ∧
    (∀ d w m, (Call.recvUntil d (.some m) w).op large n = some (.recvUntil d m w)) ∧
    (∀ d w, (Call.recvUntil d .none w).op large n = some (.recvUntil d large w)) ∧
    (Call.recvClose .unset).op large n = some (.recvClose n) :=
  ⟨rfl, fun _ _ => rfl, fun _ _ _ => rfl, fun _ _ => rfl, rfl⟩

/-- a NetstringSocket however configured: constructor, then any number of `setmaxsize` calls -/
def NsSock.configure (m0 : Nat) (sets : List Nat) : NsSock := sets.foldl NsSock.setMaxsize (NsSock.init m0)

/-- the cached prefix window `_msgsize_maxsize` always agrees with the current maxsize -/
theorem ns_window_invariant (m0 : Nat) (sets : List Nat) : (NsSock.configure m0 sets).WF := by
  unfold NsSock.configure
  have : ∀ (ns : NsSock), ns.WF → (sets.foldl NsSock.setMaxsize ns).WF := by
    induction sets with
    | nil => intro ns h; exact h
    | cons m _ ih => intro ns _; exact ih _ (ns.setMaxsize_wf m)
  exact this _ (NsSock.init_wf m0)

/-- read_ns on a configured NetstringSocket, with or without a `maxsize=` argument, is read_ns with
    the effective maxsize (argument if given, else the last configured one) -/
theorem ns_read_configured (cfg : Cfg) (m0 : Nat) (sets : List Nat) (arg : Option Nat) (k : Nat) (st : St) :
    (NsSock.configure m0 sets).readNsMany cfg arg k st
      = readNsMany cfg (arg.getD (NsSock.configure m0 sets).maxsize) k st :=
  NsSock.readNsMany_eq cfg _ (ns_window_invariant m0 sets) arg k st

/-- the round trip for every configuration path: payloads no longer than the effective maxsize come
    back exactly, whatever maxsize the socket was constructed with or set to before -/
theorem netstring_roundtrip_configured (cfg : Cfg) (hrs : 0 < cfg.recvsize) (m0 : Nat) (sets : List Nat)
    (arg : Option Nat) (ps : List Bytes) (rest : Bytes) (script : List Ev) (hto : nTO script = 0)
    (hs : pending script = (ps.map encodeNs).flatten ++ rest)
    (hall : ∀ p ∈ ps, p.length ≤ arg.getD (NsSock.configure m0 sets).maxsize) :
    ((NsSock.configure m0 sets).readNsMany cfg arg ps.length (start script)).1 = ps.map NsRes.ok := by
  rw [ns_read_configured]
  exact (netstring_roundtrip cfg hrs _ ps rest script hto hs hall).1

/-- whatever read_ns returns or raises - Timeout in the prefix or in the payload phase,
    NetstringInvalidSize, NetstringMessageTooLong, a missing comma - the bytes still owed afterwards
    are a suffix of the bytes owed before: nothing duplicated, nothing reordered -/
theorem read_ns_no_duplication (cfg : Cfg) (hrs : 0 < cfg.recvsize) (maxsize : Nat) (st : St) :
    ∃ c, c ++ (readNs cfg maxsize st).2.view = st.view :=
  readNsWith_calc cfg maxsize st ▸ readNsWith_suffix cfg hrs maxsize (calcWindow maxsize) st

/-- a Timeout while read_ns is still looking for the size prefix loses nothing: the next read_ns
    sees the same stream (read_ns is restartable in that phase) -/
theorem read_ns_prefix_timeout_restartable (cfg : Cfg) (hrs : 0 < cfg.recvsize) (maxsize : Nat) (st : St)
    (h : (recvUntil cfg [colon] ((digits maxsize).length + 1) false st).1 = .timeout) :
    (readNs cfg maxsize st).1 = .timeout ∧ (readNs cfg maxsize st).2.view = st.view :=
  readNsWith_calc cfg maxsize st ▸ readNsWith_prefix_timeout_keeps cfg hrs maxsize (calcWindow maxsize) st h

/-- the deadline check that follows a partial `sock.send`: the accepted bytes are on the wire and out
    of the buffer before Timeout is raised (so a later flush cannot send them twice) -/
theorem send_deadline_after_partial_send (k : Nat) (r : List SEv) (b : Nat) (buf : Bytes) (total : Nat)
    (wire : Bytes) :
    sendLoop (.accept k :: .clock :: r) (b :: buf) total wire
      = (.timeout, ⟨[(b :: buf).drop k], wire ++ (b :: buf).take k, r⟩) := rfl

/-- a send() that leaves nothing buffered (also a Timeout raised after the `sock.send` that completed the data) has put
    everything on the wire, once, in order -/
theorem send_timeout_with_empty_buffer (data : Bytes) (st : SSt)
    (hb : (send data st).2.getsendbuffer = []) :
    (send data st).2.wire = st.wire ++ st.getsendbuffer ++ data := by
  have := send_timeout_keeps data st
  rwa [hb, List.append_nil] at this

/-- exact fault accounting on the receive side: a call that raises Timeout used up exactly one of the
    socket's timeouts, a call that ends any other way used up none - so the i-th fault the network
    injects is the i-th fault the caller sees, and no fault is ever swallowed -/
theorem timeout_accounting_exact (cfg : Cfg) (op : Op) (st : St) :
    ((attempt cfg op st).1 = .timeout → nTO (attempt cfg op st).2.script + 1 = nTO st.script) ∧
    ((attempt cfg op st).1 ≠ .timeout → nTO (attempt cfg op st).2.script = nTO st.script) :=
  ⟨(attempt_timeoutExact cfg op st).raised, (attempt_timeoutExact cfg op st).other⟩

/-- the same on the send side, deadline expiries included: faults left + (1 if this call raised
    Timeout) = faults there were -/
theorem send_fault_accounting (op : SOp) (st : SSt) :
    nSF (sstep op st).2.script + (sstep op st).1.isTO = nSF st.script :=
  sstepA_nil op st ▸ (sstepA_ok [] op st).faults

/-- read_ns calls Python's lenient `int()` (whitespace, a sign, `_` grouping are tolerated); on every
    strict decimal prefix - in particular on every prefix write_ns produces - it yields the same size -/
theorem lenient_int_agrees_on_strict (bs : Bytes) (n : Nat) (h : parseNat bs = some n) :
    parseSize bs = some n :=
  parseSize_of_parseNat h

theorem size_prefix_roundtrip_lenient (n : Nat) : parsePyInt (digits n) = some (Int.ofNat n) := by
  rw [parsePyInt_strict (digits_ne_nil n) (digits_all n), digitsValue_digits]

-- what Python's int() accepts and rejects:  b' +1_0 ' = 10, b'-5' = -5, b'007' = 7;
-- b'1__0', b'_1', b'1_', b'+ 1', b'', b' ' are ValueErrors
example : parsePyInt [32, 43, 49, 95, 48, 32] = some 10 ∧ parsePyInt [45, 53] = some (-5) ∧
    parsePyInt [48, 48, 55] = some 7 ∧ parsePyInt [9, 49, 10] = some 1 := by decide
example : parsePyInt [49, 95, 95, 48] = none ∧ parsePyInt [95, 49] = none ∧ parsePyInt [49, 95] = none ∧
    parsePyInt [43, 32, 49] = none ∧ parsePyInt [] = none ∧ parsePyInt [32] = none ∧
    parsePyInt [43] = none ∧ parsePyInt [49, 32, 49] = none := by decide
-- a negative size is read like size 0: b'-1:,' is an empty payload
example : (readNsMany ⟨4, 4⟩ 10 1 (start [.chunk [45, 49, 58, 44]])).1 = [.ok []] := by decide
example : (readNsMany ⟨4, 4⟩ 10 1 (start [.chunk [32, 51, 58, 1, 2, 3, 44]])).1 = [.ok [1, 2, 3]] := by decide

example : nTO (attempt ⟨2, 100⟩ (.recvUntil [13, 10] 100 false) (start exScript)).2.script = 1 := by decide
example : nTO (callRetry ⟨2, 100⟩ (.recvUntil [13, 10] 100 false) (start exScript)).2.script = 1 := by decide
example : nSF (sstep (.send [1, 2, 3]) (sstart [.accept 2, .clock, .timeout])).2.script = 1 ∧
    (sstep (.send [1, 2, 3]) (sstart [.accept 2, .clock, .timeout])).1.isTO = 1 := by decide

-- setmaxsize(1) between two recv_until calls that omit maxsize: the first finds "\r\n" inside the
-- constructor maxsize 100, the second must raise MessageTooLong; an explicit maxsize is unaffected
example : (runCalls 1000 ⟨2, 100⟩ [.recvUntil [13, 10] .unset false, .setMaxsize 1,
      .recvUntil [13, 10] .unset false, .recvUntil [13, 10] (.some 9) true, .recvClose .none]
      (start exScript)).1
    = [.ok [97, 98], .tooLong, .ok [99, 100, 13, 10], .ok []] := by decide
example : resolveCalls 1000 100 [.recvUntil [58] .unset false, .setMaxsize 1, .recvClose .unset,
      .recvClose .none, .peek 3]
    = [.recvUntil [58] 100 false, .recvClose 1, .recvClose 1000, .peek 3] := by decide
-- constructed with maxsize 5 (window 2), then setmaxsize(100): the window follows (4), so a 12-byte
-- payload ("12:" is a 3-byte prefix) is read back; with the stale window it would be MessageTooLong
example : (NsSock.configure 5 [100]).window = 4 ∧ (NsSock.init 5).window = 2 := by decide
example : ((NsSock.configure 5 [100]).readNsMany ⟨3, 3⟩ none 1
      (start [.chunk (encodeNs [1, 2, 3, 4, 5, 6, 7, 8, 9, 10, 11, 12])])).1
    = [.ok [1, 2, 3, 4, 5, 6, 7, 8, 9, 10, 11, 12]] := by decide
example : (readNsWith ⟨3, 3⟩ 100 2 (start [.chunk (encodeNs [1, 2, 3, 4, 5, 6, 7, 8, 9, 10, 11, 12])])).1
    = .tooLong := by decide
example : ((NsSock.init 5).readNsMany ⟨3, 3⟩ (some 100) 1
      (start [.chunk (encodeNs [1, 2, 3, 4, 5, 6, 7, 8, 9, 10, 11, 12])])).1
    = [.ok [1, 2, 3, 4, 5, 6, 7, 8, 9, 10, 11, 12]] := by decide
-- a Timeout in the prefix phase is restartable, one in the payload phase is not (the prefix is gone)
example : (recvUntil ⟨4, 4⟩ [colon] 3 false (start [.chunk [51], .timeout, .chunk [58, 1, 2, 3, 44]])).1
    = .timeout := by decide
example : (readNsMany ⟨4, 4⟩ 10 2 (start [.chunk [51], .timeout, .chunk [58, 1, 2, 3, 44]])).1
    = [.timeout, .ok [1, 2, 3]] := by decide
example : (readNsMany ⟨4, 4⟩ 10 2 (start [.chunk [51, 58, 1], .timeout, .chunk [2, 3, 44]])).1
    = [.timeout, .tooLong] := by decide
-- the deadline passes during the send that takes the last byte: Timeout, nothing left to send
example : (send [1, 2, 3] (sstart [.accept 2, .accept 5, .clock])).1 = .timeout ∧
    (send [1, 2, 3] (sstart [.accept 2, .accept 5, .clock])).2.getsendbuffer = [] ∧
    (send [1, 2, 3] (sstart [.accept 2, .accept 5, .clock])).2.wire = [1, 2, 3] := by decide
-- the deadline passes after a partial send: the rest waits for flush, nothing is sent twice
example : ((srun [.send [1, 2, 3], .flush] (sstart [.accept 2, .clock])).1.map (·.1)) = [.timeout, .none] ∧
    (srun [.send [1, 2, 3], .flush] (sstart [.accept 2, .clock])).2.wire = [1, 2, 3] := by decide

/-! ## 7. the send side against a flat specification; the BufferedSocket as one object, fault classes, `flags` -/

/-- the flat specification delivers every byte exactly once and in order: what went out followed by what
    is still unsent is the buffer, and without a timeout nothing stays behind -/
theorem deliver_exactly_once (script : List SEv) (buf : Bytes) :
    (deliver script buf).2.1 ++ (deliver script buf).2.2.1 = buf ∧
    ((deliver script buf).1 = false → (deliver script buf).2.2.1 = []) := by
  have h := sendLoop_ok script buf 0 []
  rw [sendLoop_deliver] at h
  refine ⟨by simpa [SSt.getsendbuffer] using h.conserves, ?_⟩
  intro hf
  have := (h.returned (0 + (deliver script buf).2.1.length) (by simp [hf])).1
  simpa [SSt.getsendbuffer] using this

/-- send / sendall / buffer / flush in any order refine the flat specification in which the send buffer is
    ONE byte string: every result, every getsendbuffer() and the wire after every call agree -/
theorem send_side_flat_spec (ops : List SOp) (st : SSt) :
    sobs (srun ops st).1 = (frun ops st.flat).1 ∧ (srun ops st).2.flat = (frun ops st.flat).2 :=
  srun_flat ops st

/-- how the pending bytes are spread over the entries of `sbuf` (one `buffer()` call each, empty entries,
    an entry left by a timed-out send) cannot be observed by any later history of calls -/
theorem sbuf_structure_unobservable (ops : List SOp) (st₁ st₂ : SSt) (h : st₁.flat = st₂.flat) :
    sobs (srun ops st₁).1 = sobs (srun ops st₂).1 ∧ (srun ops st₁).2.flat = (srun ops st₂).2.flat := by
  obtain ⟨a₁, b₁⟩ := srun_flat ops st₁
  obtain ⟨a₂, b₂⟩ := srun_flat ops st₂
  rw [h] at a₁ b₁
  exact ⟨a₁.trans a₂.symm, b₁.trans b₂.symm⟩

/-- an ordering law: `buffer(a); buffer(b); flush()` puts on the wire, leaves buffered and uses up of the
    socket's script exactly what `send(a + b)` does, and times out exactly when that does -/
theorem buffer_buffer_flush_is_send (a b : Bytes) (st : SSt) :
    (srun [.buffer a, .buffer b, .flush] st).2.flat = (srun [.send (a ++ b)] st).2.flat ∧
    ((sstep .flush (sstep (.buffer b) (sstep (.buffer a) st).2).2).1 = .timeout
      ↔ (sstep (.send (a ++ b)) st).1 = .timeout) := by
  obtain ⟨-, e₁⟩ := srun_flat [.buffer a, .buffer b, .flush] st
  obtain ⟨-, e₂⟩ := srun_flat [.send (a ++ b)] st
  refine ⟨?_, ?_⟩
  · rw [e₁, e₂]
    simp only [frun, fstep, fsend, List.append_assoc, List.append_nil]
    by_cases h : (deliver st.flat.script (st.flat.buf ++ (a ++ b))).1 = true <;> simp [h]
  · have f₁ := sstep_flat (.buffer a) st
    have f₂ := sstep_flat (.buffer b) (sstep (.buffer a) st).2
    have f₃ := sstep_flat .flush (sstep (.buffer b) (sstep (.buffer a) st).2).2
    have f₄ := sstep_flat (.send (a ++ b)) st
    rw [f₃.1, f₂.2, f₁.2, f₄.1]
    simp only [fstep, fsend, List.append_assoc, List.append_nil]
    by_cases h : (deliver st.flat.script (st.flat.buf ++ (a ++ b))).1 = true <;> simp [h]

/-- a fresh BufferedSocket over a socket that will play `rscript` to recv and `sscript` to send; `rtags` /
    `stags` are the classes of the faults in the two scripts, in order -/
abbrev bstart (cfg : Cfg) (rscript : List Ev) (sscript : List SEv) (rtags stags : List Fault) : BSock :=
  ⟨cfg, ⟨[], rscript⟩, ⟨[], [], sscript⟩, rtags, stags⟩

/-- receive and send calls interleaved on ONE object: the receive-side calls return / raise exactly what
    they do in the history with the send-side calls left out, whatever state the send side is in - a send,
    buffer or flush never touches the receive buffer, maxsize or the undelivered stream -/
theorem duplex_rx_independent (large : Nat) (ops : List DOp) (b b' : BSock) (h : b.rxPart = b'.rxPart) :
    (drun large ops b).1.filter (fun p => p.1.isRx) = (drun large (ops.filter DOp.isRx) b').1 ∧
    (drun large ops b).2.rxPart = (drun large (ops.filter DOp.isRx) b').2.rxPart :=
  drun_filter large BSock.rxPart DOp.isRx (dstep_tx_frame large) (dstep_rx_congr large) ops b b' h

/-- ... and the send-side calls are not affected by the receive-side calls in between -/
theorem duplex_tx_independent (large : Nat) (ops : List DOp) (b b' : BSock) (h : b.txPart = b'.txPart) :
    (drun large ops b).1.filter (fun p => p.1.isTx) = (drun large (ops.filter DOp.isTx) b').1 ∧
    (drun large ops b).2.txPart = (drun large (ops.filter DOp.isTx) b').2.txPart :=
  drun_filter large BSock.txPart DOp.isTx (fun op b h => dstep_rx_frame large op b (by simpa [DOp.isTx] using h))
    (fun op b b' h => dstep_tx_congr large op b b' (by simpa [DOp.isTx] using h)) ops b b' h

/-- conservation on the one object, per call and in both directions at once, whatever the call returns
    or raises: handed over ++ rbuf ++ undelivered is unchanged, and wire ++ send buffer grows by exactly
    the bytes accepted with this call (none when the call was refused for its flags) -/
theorem duplex_conservation (large : Nat) (op : DOp) (b : BSock) (hrs : 0 < b.cfg.recvsize) :
    op.consumed (dstep large op b).1 large b.cfg.maxsize ++ (dstep large op b).2.rx.view = b.rx.view ∧
    (dstep large op b).2.tx.wire ++ (dstep large op b).2.tx.getsendbuffer
      = b.tx.wire ++ b.tx.getsendbuffer ++ op.accepted (dstep large op b).1 ∧
    (dstep large op b).2.cfg.recvsize = b.cfg.recvsize := by
  rcases dstep_cases large op with e | ⟨c, hc⟩ | ⟨o, ho⟩
  · rw [e]
    cases op <;> simp [DOp.consumed, DOp.accepted]
  · obtain ⟨h1, h2⟩ := dcall_conserves large c b hrs
    have h3 := dcall_txPart large c b
    simp only [BSock.txPart, Prod.mk.injEq] at h3
    rw [hc.consumed, hc.accepted, hc.step]
    exact ⟨h1, by rw [h3.1, List.append_nil], h2⟩
  · obtain ⟨h1, -⟩ := dsop_conserves o b
    have h3 := dsop_rxPart o b
    simp only [BSock.rxPart, Prod.mk.injEq] at h3
    rw [ho.consumed, ho.accepted _ (ho.step ▸ dsop_ne_valueError o b), ho.step]
    exact ⟨by rw [h3.2.1, List.nil_append], h1, by rw [h3.1]⟩

/-- which exception a fault surfaces as: while one class is recorded per fault still ahead in each script
    (true of a fresh object, kept by every call), a call that raises a fault raises the class of the NEXT
    unconsumed fault of its own direction - socket.timeout / passed deadline -> Timeout, the socket's OSError
    -> that OSError - and consumes exactly that one -/
theorem fault_class_exact (large : Nat) (op : DOp) (b : BSock) (h : b.Aligned) :
    (dstep large op b).2.Aligned ∧
    (∀ f, (dstep large op b).1 = .fault f →
      (op.isRx = true → b.rtags = f :: (dstep large op b).2.rtags) ∧
      (op.isRx = false → b.stags = f :: (dstep large op b).2.stags)) := by
  rcases dstep_cases large op with e | ⟨c, hc⟩ | ⟨o, ho⟩
  · rw [e]
    exact ⟨h, by intro f hf; cases hf⟩
  · obtain ⟨h1, h2⟩ := dcall_aligned large c b h
    rw [hc.step]
    exact ⟨h1, fun f hf => ⟨fun _ => h2 f hf, by simp [hc.isRx]⟩⟩
  · obtain ⟨h1, h2⟩ := dsop_aligned o b h
    rw [ho.step]
    exact ⟨h1, fun f hf => ⟨by simp [ho.isRx], fun _ => h2 f hf⟩⟩

/-- ... at every moment of every history from a fresh object -/
theorem fault_classes_aligned (large : Nat) (ops : List DOp) (cfg : Cfg) (rscript : List Ev)
    (sscript : List SEv) (rtags stags : List Fault)
    (hr : rtags.length = nTO rscript) (hs : stags.length = nSF sscript) :
    (drun large ops (bstart cfg rscript sscript rtags stags)).2.Aligned := by
  suffices ∀ (ops : List DOp) (b : BSock), b.Aligned → (drun large ops b).2.Aligned from this ops _ ⟨hr, hs⟩
  intro ops
  induction ops with
  | nil => intro b h; exact h
  | cons op ops ih =>
    intro b h
    simp only [drun]
    exact ih _ (fault_class_exact large op b h).1

/-- `recv(size, flags)` / `send(data, flags)` with non-zero flags: ValueError, and the object - both buffers,
    both scripts, maxsize - is exactly as before (the data is NOT accepted); with flags = 0 they are
    `recv(size)` / `send(data)` -/
theorem flags_refused_untouched (large : Nat) (b : BSock) (size : Nat) (data : Bytes) (flags : Nat) :
    (flags ≠ 0 → dstep large (.recvFlags size flags) b = (.valueError, b) ∧
                 dstep large (.sendFlags data flags) b = (.valueError, b)) ∧
    (flags = 0 → dstep large (.recvFlags size flags) b = dstep large (.call (.recv size)) b ∧
                 dstep large (.sendFlags data flags) b = dstep large (.sop (.send data)) b) := by
  refine ⟨fun h => ?_, fun h => ?_⟩
  · simp [dstep, h]
  · simp [dstep, h]

example : deliver [.accept 2, .timeout, .accept 1] [1, 2, 3, 4] = (true, [1, 2], [3, 4], [.accept 1]) := by decide
example : deliver [.accept 2, .clock] [1, 2] = (true, [1, 2], [], []) := by decide
example : (frun [.buffer [1], .buffer [], .send [2, 3], .flush] ⟨[], [], [.accept 2, .timeout]⟩).1
    = [(.none, [1], []), (.none, [1], []), (.timeout, [3], [1, 2]), (.none, [], [1, 2, 3])] := by decide
example : (⟨[[1], [], [2]], [9], [.accept 1]⟩ : SSt).flat = (⟨[[1, 2]], [9], [.accept 1]⟩ : SSt).flat := by decide
-- one object, calls of both directions interleaved; the first recv_until meets the OSError-class fault, the send the time-out
def exDuplex : BSock :=
  bstart ⟨2, 100⟩ [.chunk [97, 13], .timeout, .chunk [10, 98]] [.accept 1, .clock] [.osError] [.timeout]
example : exDuplex.Aligned := ⟨by decide, by decide⟩
example : ((drun 1000 [.call (.recvUntil [13, 10] .unset false), .sop (.send [1, 2]),
      .call (.recvUntil [13, 10] .unset false), .sendFlags [7] 1, .sop .flush, .recvFlags 1 4,
      .call (.recv 5)] exDuplex).1.map (·.2))
    = [.fault .osError, .fault .timeout, .rx (some (.ok [97])), .valueError, .tx .none, .valueError,
       .rx (some (.ok [98]))] := by decide
example : (drun 1000 [.call (.recvUntil [13, 10] .unset false), .sop (.send [1, 2]),
      .call (.recvUntil [13, 10] .unset false), .sendFlags [7] 1, .sop .flush] exDuplex).2.tx.wire = [1, 2] := by
  decide

/-! ## 8. the read loop over `recv`; sizes as Python ints -/

/-- the caller's loop `while True: d = recv(size) (Timeout: again); if not d: break; out += d` hands over the
    whole remaining stream, in order, exactly once, for every chunking, recvsize and timeout placement, and
    then the stream is exhausted - the `recv` clause of the statement at the strength of the others -/
theorem recv_drain_whole_stream (cfg : Cfg) (hrs : 0 < cfg.recvsize) (size : Nat) (hs : 0 < size) (st : St) :
    (drain cfg size (measure st.script + st.view.length + 1) st).1 = st.view ∧
    (drain cfg size (measure st.script + st.view.length + 1) st).2.view = [] :=
  drain_ok cfg hrs size hs _ st (Nat.le_refl _)

/-- ... so two networks delivering the same bytes give the same bytes to that loop, whatever the two
    recvsize settings and the two `size` arguments -/
theorem recv_drain_chunk_independent (cfg₁ cfg₂ : Cfg) (h₁ : 0 < cfg₁.recvsize) (h₂ : 0 < cfg₂.recvsize)
    (n₁ n₂ : Nat) (hn₁ : 0 < n₁) (hn₂ : 0 < n₂) (s₁ s₂ : List Ev) (hs : pending s₁ = pending s₂) :
    (drain cfg₁ n₁ (measure s₁ + (start s₁).view.length + 1) (start s₁)).1
      = (drain cfg₂ n₂ (measure s₂ + (start s₂).view.length + 1) (start s₂)).1 := by
  rw [(recv_drain_whole_stream cfg₁ h₁ n₁ hn₁ (start s₁)).1, (recv_drain_whole_stream cfg₂ h₂ n₂ hn₂ (start s₂)).1]
  simp [St.view, hs]

/-- `recv_size` with the size as a Python `int` (integer comparison `total_bytes >= size`, the slices
    `nxt[:-extra]` / `nxt[-extra:]` with `extra` possibly larger than `len(nxt)`): on a natural number it is the
    `recvSize` of the theorems above, and a negative size behaves exactly like `recv_size(0)` -/
theorem recv_size_int_faithful (cfg : Cfg) (st : St) :
    (∀ n : Nat, recvSizeI cfg (n : Int) st = recvSize cfg n st) ∧
    (∀ s : Int, s ≤ 0 → recvSizeI cfg s st = recvSize cfg 0 st) :=
  ⟨fun n => recvSizeI_eq cfg n st, fun s hs => by rw [recvSizeI_eq, Int.toNat_eq_zero.mpr hs]⟩

/-- `read_ns` with the size prefix kept as the (possibly negative) `int` that `int()` returns - the comparison
    `size > maxsize` on integers, `recv_size(size)` with that integer - is the `read_ns` of the theorems above,
    which clamps a negative size to 0 (`parseSize`): the clamping loses nothing.  The driver runs this version. -/
theorem read_ns_int_size_faithful (cfg : Cfg) (ns : NsSock) (arg : Option Nat) (k : Nat) (st : St) :
    NsSock.readNsManyI cfg ns arg k st = NsSock.readNsMany cfg ns arg k st := by
  induction k generalizing st with
  | zero => rfl
  | succ k ih => simp only [NsSock.readNsManyI, NsSock.readNsMany, NsSock.readNsI_eq, ih]

example : (drain ⟨2, 100⟩ 3 20 (start exScript)).1 = [97, 98, 13, 10, 99, 100, 13, 10] := by decide
example : (recvSizeI ⟨4, 4⟩ (-5) (start [.chunk [1, 2, 3]])).1 = .ok [] ∧
    (recvSizeI ⟨4, 4⟩ (-5) (start [.chunk [1, 2, 3]])).2.rbuf = [1, 2, 3] := by decide
example : (recvSizeI ⟨4, 4⟩ (-5) (start [])).1 = .closed := by decide
example : pyDropLast 5 [1, 2, 3] = [] ∧ pyLast 5 [1, 2, 3] = [1, 2, 3] ∧ pyDropLast 1 [1, 2, 3] = [1, 2] := by decide
example : ((NsSock.init 10).readNsManyI ⟨4, 4⟩ none 2 (start [.chunk [45, 49, 58, 44, 49, 58, 7, 44]])).1
    = [.ok [], .ok [7]] := by decide

/-! ## 9. the prefix window of NetstringSocket, measured on the current source -/

/-- translator-regenerated fact: for every maxsize of the table (digit-count boundaries up to 10^18, 2^31, 2^53,
    2^63, 2^64) the longest size prefix the REAL read_ns accepts - measured through the public API on every run, for
    maxsize given to the constructor, to setmaxsize() and as the maxsize= argument - is the window the model
    computes (`NsSock.init`, `NsSock.setMaxsize`, `calcWindow`), i.e. `len(str(maxsize)) + 1`, far beyond the
    sizes the test cases reach -/
theorem ns_window_table_matches_source :
    ∀ p ∈ Gen.nsWindowTable, (NsSock.init p.1).window = p.2.1 ∧
      ((NsSock.init 0).setMaxsize p.1).window = p.2.2.1 ∧ calcWindow p.1 = p.2.2.2 := by decide

example : Gen.nsWindowTable.length ≥ 30 ∧ (1000000000000000, 17, 17, 17) ∈ Gen.nsWindowTable := by decide

/-! ## 10. what the statement leaves free is accepted, not predicted (observed `recv` attempts and send offers, Model4.lean) -/

/-- what "accepted" means: exactly the recv clause of the statement (the shape of `recv_prefix`), against the model's
    current state - a fault used up a fault of the network and moved nothing; a value is a prefix of
    `rbuf ++ undelivered`, at most `size` long, empty only when nothing is left; afterwards buffered ++ undelivered
    is exactly the rest; the buffer is the observed one -/
theorem recv_acceptance_is_statement (size : Nat) (o : RecvObs) (st st' : St)
    (h : acceptRecv size o st = some st') :
    st'.rbuf = o.rbuf ∧ nTO st'.script ≤ nTO st.script ∧
    ((o.res = none ∧ st'.view = st.view ∧ nTO st'.script < nTO st.script) ∨
     (∃ v, o.res = some v ∧ v ++ st'.view = st.view ∧ v.length ≤ size ∧
        (0 < size → v = [] → st.view = []))) :=
  have ⟨hb, hle, hcase⟩ := acceptRecv_sound size o st st' h
  ⟨hb, hle, hcase.imp id fun ⟨v, hres, hv⟩ => ⟨v, hres, hv.split, hv.le, hv.eof⟩⟩

/-- the acceptance relation is not stricter than the code modelled: whatever the model's own `recv` does - serve
    from the buffer, or ask the socket for `recvsize` bytes and buffer the surplus - is accepted when reported as an
    observation, and the accepted state has the model's buffer, the model's view and the model's faults ahead -/
theorem model_recv_is_accepted (cfg : Cfg) (size : Nat) (st : St) (hrs : 0 < cfg.recvsize) :
    ∃ st', acceptRecv size (obsOfRecv (recv cfg size st)) st = some st' ∧
      st'.rbuf = (recv cfg size st).2.rbuf ∧ st'.view = (recv cfg size st).2.view ∧
      nTO st'.script = nTO (recv cfg size st).2.script := by
  obtain ⟨st', h1, h2, h3, h4⟩ := obs_state_of_recv cfg size st
  have hv : st'.view = (recv cfg size st).2.view := by simp [St.view, h2, h3]
  refine ⟨st', ?_, h2, hv, h4⟩
  unfold acceptRecv
  rw [h1]
  simp only
  have t := recv_timeoutExact cfg size st
  rcases recv_ok cfg hrs size st with ⟨a, b, -⟩ | ⟨v, a, hval, -⟩
  · have hres : (obsOfRecv (recv cfg size st)).res = none := by simp [obsOfRecv, a]
    rw [hres]
    have := t.raised a
    simp only [hv, b, h4, and_true]
    rw [if_pos (by omega)]
  · have hres : (obsOfRecv (recv cfg size st)).res = some v := by simp [obsOfRecv, a]
    rw [hres]
    simp only [hv, hval.split, true_and]
    rw [if_pos ⟨hval.le, hval.eof⟩]

/-- the results of the delimiter / size calls are a function of `rbuf ++ undelivered`, not of the split: from two
    states that owe the caller the same bytes - however these are divided between buffer and network, whatever the
    chunking, the timeouts ahead and the two recvsize settings - a call (retried after Timeout) returns the same
    value / raises the same ConnectionClosed / MessageTooLong and leaves the same bytes owed -/
theorem framing_function_of_view (cfg₁ cfg₂ : Cfg) (h₁ : 0 < cfg₁.recvsize) (h₂ : 0 < cfg₂.recvsize) (op : Op)
    (hdet : op.deterministic = true) (st₁ st₂ : St) (hv : st₁.view = st₂.view) :
    (callRetry cfg₁ op st₁).1 = (callRetry cfg₂ op st₂).1 ∧
    (callRetry cfg₁ op st₁).2.view = (callRetry cfg₂ op st₂).2.view := by
  have e₁ := callRetry_ok cfg₁ h₁ op hdet st₁
  have e₂ := callRetry_ok cfg₂ h₂ op hdet st₂
  rw [hv] at e₁
  exact Prod.mk.inj (e₁.trans e₂.symm)

/-- the same for single attempts: two attempts that both got through without a fault agree -/
theorem attempt_function_of_view (cfg₁ cfg₂ : Cfg) (h₁ : 0 < cfg₁.recvsize) (h₂ : 0 < cfg₂.recvsize) (op : Op)
    (hdet : op.deterministic = true) (st₁ st₂ : St) (hv : st₁.view = st₂.view)
    (n₁ : (attempt cfg₁ op st₁).1 ≠ .timeout) (n₂ : (attempt cfg₂ op st₂).1 ≠ .timeout) :
    (attempt cfg₁ op st₁).1 = (attempt cfg₂ op st₂).1 ∧
    (attempt cfg₁ op st₁).2.view = (attempt cfg₂ op st₂).2.view := by
  rcases attempt_timeout_or_spec cfg₁ h₁ op hdet st₁ with ⟨a, -⟩ | ⟨-, e₁⟩
  · exact absurd a n₁
  rcases attempt_timeout_or_spec cfg₂ h₂ op hdet st₂ with ⟨a, -⟩ | ⟨-, e₂⟩
  · exact absurd a n₂
  rw [hv] at e₁
  exact Prod.mk.inj (e₁.trans e₂.symm)

/-- THE theorem behind the acceptance step: a run in which every recv attempt was merely accepted (any prefix, any
    split, any number of socket reads behind it) and the framing calls are the model's - each retried after Timeout -
    returns for every recv_until / recv_size / peek / recv_close exactly the whole-stream answer on the bytes still
    owed (the accepted recv steps taking what they handed over off the front), and ends owing the whole-stream rest -/
theorem accepted_run_eq_spec (cfg : Cfg) (hrs : 0 < cfg.recvsize) (s0 : List Ev) (steps : List MStep) (st : St)
    (rs : List Res) (st' : St) (hdet : ∀ s ∈ steps, s.det = true) (h : runMixed cfg s0 steps st = some (rs, st')) :
    (rs, st'.view) = specMixed steps st.view := by
  induction steps generalizing st rs st' with
  | nil =>
    simp only [runMixed, Option.some.injEq, Prod.mk.injEq] at h
    obtain ⟨a, b⟩ := h
    subst a; subst b
    rfl
  | cons s steps ih =>
    have hdet' : ∀ s ∈ steps, s.det = true := fun x hx => hdet x (List.mem_cons_of_mem _ hx)
    cases s with
    | call op seat =>
      have hop : op.deterministic = true := hdet (.call op seat) (List.mem_cons_self ..)
      obtain ⟨rs', hrun, rfl⟩ := runMixed_call h
      have hc := callRetry_ok cfg hrs op hop st
      have hi := ih _ _ _ hdet' hrun
      simp only [specMixed]
      have e1 : (callRetry cfg op st).1 = (spec op st.view).1 := congrArg Prod.fst hc
      have e2 : (callRetry cfg op st).2.view = (spec op st.view).2 := congrArg Prod.snd hc
      rw [(reseatOpt_ok s0 seat _).1, e2] at hi
      rw [e1, ← hi]
    | recvObs size o =>
      obtain ⟨st1, rs', hacc, hrun, rfl⟩ := runMixed_recvObs h
      have hi := ih _ _ _ hdet' hrun
      have hc := acceptRecv_conserves size o st st1 hacc
      simp only [specMixed]
      have : st1.view = st.view.drop o.handed.length := by
        rw [← hc]; simp
      rw [← this, ← hi]

/-- conservation along such a run: handed over by the accepted recv steps ++ consumed by the framing calls ++ rbuf ++
    undelivered = what was owed at the start, in order -/
theorem accepted_run_conservation (cfg : Cfg) (hrs : 0 < cfg.recvsize) (s0 : List Ev) (steps : List MStep) (st : St)
    (rs : List Res) (st' : St) (h : runMixed cfg s0 steps st = some (rs, st')) :
    handedMixed steps rs ++ st'.rbuf ++ pending st'.script = st.rbuf ++ pending st.script := by
  have := runMixed_conserves cfg hrs s0 steps st rs st' h
  simpa [St.view, List.append_assoc] using this

/-- ... hence independent of the split: two accepted runs of the same framing calls whose recv steps handed over the
    same bytes (their observed buffers, undelivered counts, fault counts and the splits the model was re-seated on
    may all differ), from two states owing the same bytes, over any two networks and recvsize settings, give the
    same results and end owing the same bytes -/
theorem accepted_run_split_independent (cfg₁ cfg₂ : Cfg) (h₁ : 0 < cfg₁.recvsize) (h₂ : 0 < cfg₂.recvsize)
    (steps₁ steps₂ : List MStep) (hsame : steps₁.map MStep.answer = steps₂.map MStep.answer)
    (hd₁ : ∀ s ∈ steps₁, s.det = true) (hd₂ : ∀ s ∈ steps₂, s.det = true) (s₁ s₂ : List Ev)
    (st₁ st₂ : St) (hv : st₁.view = st₂.view) (rs₁ rs₂ : List Res) (f₁ f₂ : St)
    (r₁ : runMixed cfg₁ s₁ steps₁ st₁ = some (rs₁, f₁)) (r₂ : runMixed cfg₂ s₂ steps₂ st₂ = some (rs₂, f₂)) :
    rs₁ = rs₂ ∧ f₁.view = f₂.view := by
  have e₁ := accepted_run_eq_spec cfg₁ h₁ s₁ steps₁ st₁ rs₁ f₁ hd₁ r₁
  have e₂ := accepted_run_eq_spec cfg₂ h₂ s₂ steps₂ st₂ rs₂ f₂ hd₂ r₂
  rw [← specMixed_map_answer steps₁, hsame, specMixed_map_answer, hv] at e₁
  exact Prod.mk.inj (e₁.trans e₂.symm)

/-- sessions written with the public calls (maxsize omitted / None / explicit, setmaxsize in between), recv calls
    carrying their observed attempts: the steps they resolve to are covered by `accepted_run_eq_spec` -/
theorem accepted_calls_eq_spec (large : Nat) (cfg : Cfg) (hrs : 0 < cfg.recvsize) (s0 : List Ev) (calls : List MCall)
    (hdet : ∀ c seat, MCall.call c seat ∈ calls → c.deterministic = true) (st : St) (rs : List Res) (st' : St)
    (h : runMixed cfg s0 (resolveMixed large cfg.maxsize calls) st = some (rs, st')) :
    (rs, st'.view) = specMixed (resolveMixed large cfg.maxsize calls) st.view :=
  accepted_run_eq_spec cfg hrs s0 _ st rs st' (resolveMixed_det large calls cfg.maxsize hdet) h

/-- an observed recv on the ONE object: the send side and the configuration are untouched, the receive side moves
    to the accepted state, one fault class stays recorded per fault still ahead, and a raised fault carries the class
    of the last fault the call used up -/
theorem observed_recv_frame (size : Nat) (o : RecvObs) (cls : Fault) (b b' : BSock) (out : DOut)
    (h : daccRecv size o cls b = some (out, b')) (ha : b.Aligned) :
    b'.txPart = b.txPart ∧ b'.cfg = b.cfg ∧ b'.Aligned ∧ acceptRecv size o b.rx = some b'.rx ∧
    (out = .rx (some o.toRes) ∨ out = .fault cls) ∧
    (out = .fault cls →
      o.res = none ∧ ∃ used, 0 < used ∧ used ≤ b.rtags.length ∧ b'.rtags = b.rtags.drop used ∧
        (b.rtags.drop (used - 1)).head? = some cls) := by
  obtain ⟨hr, hs⟩ := ha
  unfold daccRecv at h
  split at h
  · simp at h
  · rename_i st' hacc
    obtain ⟨-, hle, hcase⟩ := acceptRecv_sound size o b.rx st' hacc
    split at h
    · rename_i v hres
      simp only [Option.some.injEq, Prod.mk.injEq] at h
      obtain ⟨a, c⟩ := h
      subst a; subst c
      refine ⟨rfl, rfl, ⟨?_, hs⟩, hacc, Or.inl (by simp [RecvObs.toRes, hres]), by intro hf; cases hf⟩
      simp only [List.length_drop]
      omega
    · rename_i hres
      split at h
      · rename_i htag
        simp only [Option.some.injEq, Prod.mk.injEq] at h
        obtain ⟨a, c⟩ := h
        subst a; subst c
        have hlt : nTO st'.script < nTO b.rx.script := by
          rcases hcase with ⟨-, -, x⟩ | ⟨v, x, -⟩
          · exact x
          · rw [hres] at x; cases x
        refine ⟨rfl, rfl, ⟨?_, hs⟩, hacc, Or.inr rfl, fun _ => ⟨hres, _, ?_, ?_, rfl, htag⟩⟩
        · simp only [List.length_drop]
          omega
        · omega
        · omega
      · simp at h

/-- the statement fixes the VALUE of a framing call (and of `read_ns`, which ends with `recv(1)`), not the split it leaves
    between `rbuf` and the socket (over-read into the buffer, or ask the socket for exactly what is missing).  Re-seating
    the model on the observed split - done only when that is a split of the same bytes with the same faults ahead -
    changes neither the bytes owed nor the faults ahead, so everything proved about later calls holds after it; on the
    one object it touches neither the send side nor the configuration nor the fault classes -/
theorem reseat_keeps_stream (s0 : List Ev) (o : RecvObs) (st : St) (so : Option RecvObs) (b : BSock) :
    ((reseat s0 o st).view = st.view ∧ nTO (reseat s0 o st).script = nTO st.script) ∧
    ((dseat s0 so b).txPart = b.txPart ∧ (dseat s0 so b).cfg = b.cfg ∧ (dseat s0 so b).rtags = b.rtags ∧
      (dseat s0 so b).rx.view = b.rx.view ∧ (b.Aligned → (dseat s0 so b).Aligned)) :=
  ⟨reseat_ok s0 o st, dseat_ok s0 so b⟩

/-- send / sendall / buffer / flush with ANY number of bytes offered to `sock.send` per iteration (any list of
    offers for every call): wire ++ send buffer = everything the caller handed over, in order; the wire only grows -/
theorem send_conservation_any_offers (ops : List (List Nat × SOp)) (script : List SEv) :
    (srunA ops (sstart script)).2.wire ++ (srunA ops (sstart script)).2.getsendbuffer
      = (ops.map (fun p => p.2.data)).flatten ∧
    ∀ st, st.wire <+: (srunA ops st).2.wire := by
  refine ⟨?_, fun st => (srunA_conserves ops st).2⟩
  have := (srunA_conserves ops (sstart script)).1
  simpa [SSt.getsendbuffer] using this

/-- ... send() returning still means: everything is on the wire, once, in order, and the return value counts it -/
theorem send_return_any_offers (offers : List Nat) (data : Bytes) (st : SSt) (n : Nat)
    (h : (sendA offers data st).1 = .sent n) :
    (sendA offers data st).2.getsendbuffer = [] ∧
    (sendA offers data st).2.wire = st.wire ++ st.getsendbuffer ++ data ∧
    n = st.getsendbuffer.length + data.length :=
  sendA_return h

/-- ... and the fault accounting is exact: faults left + (1 if this call raised) = faults there were -/
theorem send_fault_accounting_any_offers (offers : List Nat) (op : SOp) (st : SSt) :
    nSF (sstepA offers op st).2.script + (sstepA offers op st).1.isTO = nSF st.script :=
  (sstepA_ok offers op st).faults

/-- with no offers recorded the parametrised loop IS `sendLoop` (whole buffer offered every time, as in the source), on the
    plain send side and on the one object -/
theorem offers_absent_is_verified_loop (op : SOp) (st : SSt) (b : BSock) :
    sstepA [] op st = sstep op st ∧ dsopA [] op b = dsop op b :=
  ⟨sstepA_nil op st, dsopA_nil op b⟩

/-- write_ns over a send loop with any offers: exactly the frame `<len>:<payload>,` goes behind what was accepted
    before (nothing, with NetstringMessageTooLong, when the payload exceeds maxsize), and `ok` means it is all out;
    with no offers recorded it is `writeNs` -/
theorem write_ns_frames_any_offers (offers : List Nat) (maxsize : Nat) (p : Bytes) (st : SSt) :
    (writeNsA offers maxsize p st).2.wire ++ (writeNsA offers maxsize p st).2.getsendbuffer
      = st.wire ++ st.getsendbuffer ++ (if p.length ≤ maxsize then encodeNs p else []) ∧
    ((writeNsA offers maxsize p st).1 = .ok →
      p.length ≤ maxsize ∧ (writeNsA offers maxsize p st).2.getsendbuffer = []) ∧
    ((writeNsA offers maxsize p st).1 = .nsTooLong ↔ maxsize < p.length) ∧
    writeNsA [] maxsize p st = writeNs maxsize p st :=
  have h := writeNsA_ok offers maxsize p st
  ⟨h.conserves, h.ok, h.tooLong_iff, writeNsA_nil maxsize p st⟩

/-- a send-side call with observed offers on the ONE object: the receive side is untouched, the classes stay
    aligned, a raised fault has the class of the next send-side fault, conservation holds -/
theorem observed_send_frame (offers : List Nat) (o : SOp) (b : BSock) (h : b.Aligned) :
    (dsopA offers o b).2.rxPart = b.rxPart ∧ (dsopA offers o b).2.Aligned ∧
    (∀ f, (dsopA offers o b).1 = .fault f → b.stags = f :: (dsopA offers o b).2.stags) ∧
    (dsopA offers o b).2.tx.wire ++ (dsopA offers o b).2.tx.getsendbuffer
      = b.tx.wire ++ b.tx.getsendbuffer ++ o.data ∧
    b.tx.wire <+: (dsopA offers o b).2.tx.wire :=
  ⟨dsopA_rxPart offers o b, (dsopA_aligned offers o b h).1, (dsopA_aligned offers o b h).2,
    (dsopA_conserves offers o b).1, (dsopA_conserves offers o b).2⟩

/-- the caller's read loop over ANY accepted recv, framing calls in between allowed: once a `recv(size)` with
    `size > 0` has returned b'' the stream is exhausted and what was handed over / consumed before is the whole
    stream, in order - `recv_drain_whole_stream` for every implementation of recv the acceptance step lets through -/
theorem accepted_recv_loop_whole_stream (cfg : Cfg) (hrs : 0 < cfg.recvsize) (s0 : List Ev) (pre : List MStep)
    (size : Nat) (hs : 0 < size) (o : RecvObs) (ho : o.res = some []) (st : St) (rs : List Res) (st' : St)
    (h : runMixed cfg s0 (pre ++ [.recvObs size o]) st = some (rs, st')) :
    handedMixed (pre ++ [.recvObs size o]) rs = st.view ∧ st'.view = [] := by
  have hc := runMixed_conserves cfg hrs s0 _ st rs st' h
  have he := runMixed_last_empty cfg s0 size hs o ho pre st rs st' h
  rw [he, List.append_nil] at hc
  exact ⟨hc, he⟩

-- stream "aab" in one chunk, recvsize 2.  The source's recv(1) reads "aa", returns "a", buffers "a"; a code
-- that asks the socket for min(size, recvsize) returns "a" and buffers nothing: both observations are accepted
example : acceptRecv 1 ⟨some [97], [97], 1, 0⟩ (start [.chunk [97, 97, 98]]) = some ⟨[97], [.chunk [98]]⟩ := by decide
example : acceptRecv 1 ⟨some [97], [], 2, 0⟩ (start [.chunk [97, 97, 98]]) = some ⟨[], [.chunk [97, 98]]⟩ := by decide
-- not accepted: a byte that is not the next one, two bytes for recv(1), b'' before the end, a lost byte, a
-- duplicated byte, a Timeout the network did not cause
example : acceptRecv 1 ⟨some [98], [], 2, 0⟩ (start [.chunk [97, 97, 98]]) = none := by decide
example : acceptRecv 1 ⟨some [97, 97], [], 1, 0⟩ (start [.chunk [97, 97, 98]]) = none := by decide
example : acceptRecv 1 ⟨some [], [], 3, 0⟩ (start [.chunk [97, 97, 98]]) = none := by decide
example : acceptRecv 1 ⟨some [97], [], 1, 0⟩ (start [.chunk [97, 97, 98]]) = none := by decide
example : acceptRecv 1 ⟨some [97], [97, 97], 1, 0⟩ (start [.chunk [97, 97, 98]]) = none := by decide
example : acceptRecv 1 ⟨none, [], 3, 0⟩ (start [.chunk [97, 97, 98]]) = none := by decide
-- a Timeout that used up the network's timeout and kept everything is accepted; b'' at the end of the stream too
example : acceptRecv 1 ⟨none, [], 1, 0⟩ (start [.timeout, .chunk [97]]) = some ⟨[], [.chunk [97]]⟩ := by decide
example : acceptRecv 4 ⟨some [], [], 0, 0⟩ (start []) = some ⟨[], []⟩ := by decide
-- the two accepted variants of recv(1) above, each followed by the model's recv_until(b"b"): same answer
example : runMixed ⟨2, 100⟩ [.chunk [97, 97, 98]] [.recvObs 1 ⟨some [97], [97], 1, 0⟩, .call (.recvUntil [98] 100 false) none]
      (start [.chunk [97, 97, 98]]) = some ([.ok [97], .ok [97]], ⟨[], []⟩) := by decide
example : runMixed ⟨2, 100⟩ [.chunk [97, 97, 98]] [.recvObs 1 ⟨some [97], [], 2, 0⟩, .call (.recvUntil [98] 100 false) none]
      (start [.chunk [97, 97, 98]]) = some ([.ok [97], .ok [97]], ⟨[], []⟩) := by decide
example : specMixed [.recvObs 1 ⟨some [97], [], 2, 0⟩, .call (.recvUntil [98] 100 false) none] [97, 97, 98]
    = ([.ok [97], .ok [97]], []) := by decide
-- recv_size(1) on "aab" in one chunk, recvsize 2: the model over-reads ("a" buffered, "b" in the socket); re-seated on
-- the split of a code that asked the socket for exactly one byte (nothing buffered, "ab" in the socket) - a point of
-- the script BEFORE the model's own; a "split" that is not a split of the same bytes is not taken
example : (recvSize ⟨2, 100⟩ 1 (start [.chunk [97, 97, 98]])).2 = ⟨[97], [.chunk [98]]⟩ := by decide
example : reseat [.chunk [97, 97, 98]] ⟨none, [], 2, 0⟩ ⟨[97], [.chunk [98]]⟩ = ⟨[], [.chunk [97, 98]]⟩ := by decide
example : reseat [.chunk [97, 97, 98]] ⟨none, [], 1, 0⟩ ⟨[97], [.chunk [98]]⟩ = ⟨[97], [.chunk [98]]⟩ := by decide
example : runMixed ⟨2, 100⟩ [.chunk [97, 97, 98]]
      [.call (.recvSize 1) (some ⟨none, [], 2, 0⟩), .recvObs 5 ⟨some [97, 98], [], 0, 0⟩] (start [.chunk [97, 97, 98]])
    = some ([.ok [97], .ok [97, 98]], ⟨[], []⟩) := by decide
example : advance exScript 4 1 = some [.chunk [99, 100], .chunk [13], .timeout, .chunk [10]] := by decide
example : advance exScript 3 0 = some [.timeout, .chunk [10, 99, 100], .chunk [13], .timeout, .chunk [10]] := by decide
example : advance exScript 4 0 = none := by decide
-- send("abcd") over a socket that takes 3 bytes and then times out: the whole buffer offered -> "abc" out, Timeout
-- with "d" kept; two bytes offered per sock.send -> "ab" out, Timeout with "cd" kept.  Conservation either way
example : (sstepA [] (.send [1, 2, 3, 4]) (sstart [.accept 3, .timeout])).2.wire = [1, 2, 3] ∧
    (sstepA [2, 2] (.send [1, 2, 3, 4]) (sstart [.accept 3, .timeout])).2.wire = [1, 2] ∧
    (sstepA [2, 2] (.send [1, 2, 3, 4]) (sstart [.accept 3, .timeout])).2.getsendbuffer = [3, 4] ∧
    (sstepA [2, 2] (.send [1, 2, 3, 4]) (sstart [.accept 3, .timeout])).1 = .timeout := by decide
example : (srunA [([2, 2], .send [1, 2, 3, 4]), ([1], .flush)] (sstart [.accept 3, .timeout])).2.wire = [1, 2, 3, 4] := by
  decide
-- write_ns(b"ab") two bytes per sock.send over a socket that times out on the third send: "2:ab" is out, "," waits
example : (writeNsA [2, 2, 2] 10 [97, 98] (sstart [.accept 9, .accept 9, .timeout])).1 = .timeout ∧
    (writeNsA [2, 2, 2] 10 [97, 98] (sstart [.accept 9, .accept 9, .timeout])).2.wire = [50, 58, 97, 98] ∧
    (writeNsA [2, 2, 2] 10 [97, 98] (sstart [.accept 9, .accept 9, .timeout])).2.getsendbuffer = [44] := by decide
-- an observed recv on the one object that used up the OSError fault
example : (daccRecv 1 ⟨none, [97, 13], 2, 0⟩ .osError exDuplex).map (·.1) = some (.fault .osError) := by decide
-- ... is not accepted with the wrong class, nor when the fault lost the two bytes read before it
example : (daccRecv 1 ⟨none, [97, 13], 2, 0⟩ .timeout exDuplex).map (·.1) = none := by decide
example : (daccRecv 1 ⟨none, [], 2, 0⟩ .osError exDuplex).map (·.1) = none := by decide
example : (daccRecv 1 ⟨some [97], [13], 2, 1⟩ .timeout exDuplex).map (·.1) = some (.rx (some (.ok [97]))) := by decide
-- "ab" read by recv(1) three times (the third returns b""): everything was handed over
example : runMixed ⟨2, 100⟩ [.chunk [97, 98]] [.recvObs 1 ⟨some [97], [], 1, 0⟩, .recvObs 1 ⟨some [98], [], 0, 0⟩,
      .recvObs 1 ⟨some [], [], 0, 0⟩] (start [.chunk [97, 98]]) = some ([.ok [97], .ok [98], .ok []], ⟨[], []⟩) := by decide
example : handedMixed [.recvObs 1 ⟨some [97], [], 1, 0⟩, .recvObs 1 ⟨some [98], [], 0, 0⟩, .recvObs 1 ⟨some [], [], 0, 0⟩]
      [.ok [97], .ok [98], .ok []] = [97, 98] := by decide

end C12
