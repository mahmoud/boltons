import BoltonsVerif.C12.Model3
/-
C12, round 3c - what the statement leaves free is no longer pinned by the model.

(1) `recv(size)`.  The statement: "recv returns a non-empty prefix of the remaining stream no longer than
    requested (empty only at end of stream); handed over ++ buffered ++ undelivered = stream".  WHICH prefix,
    and how the rest is split between `rbuf` and the socket, is free (the code may ask the socket for
    `recvsize` bytes and buffer the surplus, or for `min(size, recvsize)` and buffer nothing, or top up a short
    buffer, ...).  A recv attempt therefore reaches the model as an OBSERVATION (`RecvObs`: what the call
    returned / that it raised a fault, `getrecvbuffer()` afterwards, how many bytes and how many faults the
    network still holds); `acceptRecv` checks exactly the relation of the statement against the model's
    current state and CONTINUES FROM THE OBSERVED STATE.  The framing calls (recv_until / recv_size / peek /
    recv_close) stay model-predicted; their theorems quantify over every state and their answers are a
    function of `rbuf ++ undelivered` only, so a run whose recv steps were merely accepted still satisfies
    them (`runMixed`, `Accepted.lean` / Props section 10).
(2) `send`.  How many bytes of `sbuf[0]` one iteration of the loop offers to `sock.send` is free as long as
    every byte goes out exactly once and in order.  `sendLoopA` is `sendLoop` with that number as a parameter
    per iteration (`offers`, observed on the scripted socket; when the list runs out the whole buffer is
    offered - the verified code, `sendLoopA [] = sendLoop` by definition).  The model stays predictive
    (result, send buffer, wire, faults used), and every send-side law is proved for ALL offer lists.
(3) The VALUE of a framing call (recv_until / recv_size / peek / recv_close, and read_ns with its final recv(1)) is
    pinned by the statement; the split it leaves between `rbuf` and the socket is not.  After such a call the model
    may be re-seated on the observed split of the same bytes owed (`reseat`).
Core Lean only.
-/
namespace C12

deriving instance DecidableEq for St

/-! ## positions in a network script -/

/-- the rest of the script after `cb` more bytes were taken from the network and `cf` more faults were used
    up; `none` when there is no such point (a fault can only be used up when every byte in front of it has
    been taken, bytes behind a fault only after the fault) -/
def advance : List Ev → Nat → Nat → Option (List Ev)
  | [], cb, cf => if cb = 0 ∧ cf = 0 then some [] else none
  | .chunk bs :: r, cb, cf =>
    if cb = 0 ∧ cf = 0 then some (.chunk bs :: r)
    else if cb < bs.length then (if cf = 0 then some (.chunk (bs.drop cb) :: r) else none)
    else advance r (cb - bs.length) cf
  | .timeout :: r, cb, cf =>
    if cb = 0 ∧ cf = 0 then some (.timeout :: r)
    else if cf = 0 then none
    else advance r cb (cf - 1)

/-! ## recv as an acceptance step -/

/-- what was observed of one `recv(size)` attempt on the implementation -/
structure RecvObs where
  res : Option Bytes      -- `some v`: returned `v`; `none`: raised a fault (Timeout / the socket's OSError)
  rbuf : Bytes            -- getrecvbuffer() after the call
  und : Nat               -- bytes the network still holds
  faults : Nat            -- faults the network still holds
deriving Repr, DecidableEq

/-- the state an observation names, as a point of a script `s0` it lies on (the observed buffer over the rest
    of `s0` that still holds `o.und` bytes and `o.faults` faults) -/
def RecvObs.seat (o : RecvObs) (s0 : List Ev) : Option St :=
  if o.und ≤ (pending s0).length ∧ o.faults ≤ nTO s0 then
    match advance s0 ((pending s0).length - o.und) (nTO s0 - o.faults) with
    | some s => some ⟨o.rbuf, s⟩
    | none => none
  else none

/-- the observed state after a call made in state `st`: a point further along `st.script` -/
def RecvObs.state (o : RecvObs) (st : St) : Option St := o.seat st.script

/-- the statement's demand on `recv(size)`, decided against the current state: a fault must have used up a
    fault of the network and moved no byte out of `rbuf ++ undelivered`; a value must be a prefix of
    `rbuf ++ undelivered` no longer than `size`, empty only when that is empty (for `size > 0`), and what is
    buffered ++ undelivered afterwards must be exactly the rest.  `some st'` = accepted, continue from `st'`. -/
def acceptRecv (size : Nat) (o : RecvObs) (st : St) : Option St :=
  match o.state st with
  | none => none
  | some st' =>
    match o.res with
    | none => if nTO st'.script < nTO st.script ∧ st'.view = st.view then some st' else none
    | some v =>
      if v ++ st'.view = st.view ∧ v.length ≤ size ∧ (0 < size → v = [] → st.view = []) then some st'
      else none

def RecvObs.toRes (o : RecvObs) : Res :=
  match o.res with
  | some v => .ok v
  | none => .timeout

/-- the bytes the observed call handed to the caller -/
def RecvObs.handed (o : RecvObs) : Bytes := o.res.getD []

/-- what the model's own `recv` did, written as an observation -/
def obsOfRecv (p : Res × St) : RecvObs :=
  ⟨match p.1 with
    | .ok v => some v
    | _ => none,
   p.2.rbuf, (pending p.2.script).length, nTO p.2.script⟩

/-! ## runs in which recv steps are observations and the framing calls are the model's -/

inductive MStep where
  | call (op : Op) (seat : Option RecvObs)  -- a framing call, retried after Timeout: computed by the model; then
                                            -- (optionally) re-seated on the split observed after it
  | recvObs (size : Nat) (o : RecvObs)      -- one recv attempt as observed on the implementation
deriving Repr, DecidableEq

def MStep.det : MStep → Bool
  | .call op _ => op.deterministic
  | .recvObs _ _ => true

/-! The value of a framing call is pinned by the statement, the split it leaves between `rbuf` and the socket is
    not (does recv_size over-read into the buffer, or ask the socket for exactly what is missing?).  After a
    model-computed call the model may therefore be re-seated on the OBSERVED split - but only when that is a split
    of the same bytes owed with the same faults ahead; otherwise it keeps its own state, and the difference shows
    in what is compared.  `s0` is the script the network started with (an implementation that reads less than the
    model leaves MORE in the socket, so the observed point may lie before the model's own). -/

def reseat (s0 : List Ev) (o : RecvObs) (st : St) : St :=
  match o.seat s0 with
  | some st' => if st'.view = st.view ∧ nTO st'.script = nTO st.script then st' else st
  | none => st

def reseatOpt (s0 : List Ev) : Option RecvObs → St → St
  | none, st => st
  | some o, st => reseat s0 o st

/-- what the whole-stream meaning of a step depends on: the call, or what the observed recv returned (not the
    observed buffer, undelivered count or fault count) -/
def MStep.answer : MStep → MStep
  | .call op _ => .call op none
  | .recvObs _ o => .recvObs 0 ⟨o.res, [], 0, 0⟩

/-- `none` = some recv observation was not accepted -/
def runMixed (cfg : Cfg) (s0 : List Ev) : List MStep → St → Option (List Res × St)
  | [], st => some ([], st)
  | .call op seat :: r, st =>
    match runMixed cfg s0 r (reseatOpt s0 seat (callRetry cfg op st).2) with
    | some (rs, s) => some ((callRetry cfg op st).1 :: rs, s)
    | none => none
  | .recvObs size o :: r, st =>
    match acceptRecv size o st with
    | none => none
    | some st' =>
      match runMixed cfg s0 r st' with
      | some (rs, s) => some (o.toRes :: rs, s)
      | none => none

/-- the whole-stream meaning of such a run: a framing call answers as `spec` says, an observed recv takes
    the bytes it handed over off the front -/
def specMixed : List MStep → Bytes → List Res × Bytes
  | [], S => ([], S)
  | .call op _ :: r, S => ((spec op S).1 :: (specMixed r (spec op S).2).1, (specMixed r (spec op S).2).2)
  | .recvObs _ o :: r, S =>
    (o.toRes :: (specMixed r (S.drop o.handed.length)).1, (specMixed r (S.drop o.handed.length)).2)

/-- everything handed over by the observed recv steps and consumed by the framing calls of a run -/
def handedMixed : List MStep → List Res → Bytes
  | .call op _ :: r, x :: xs => consumed op x ++ handedMixed r xs
  | .recvObs _ o :: r, _ :: xs => o.handed ++ handedMixed r xs
  | _, _ => []

/-- public calls with `maxsize` still unresolved, recv calls carrying their observed attempts -/
inductive MCall where
  | call (c : Call) (seat : Option RecvObs)          -- anything but recv; the split observed after its last attempt
  | recvObs (size : Nat) (obs : List RecvObs)        -- recv(size): every attempt that was made
deriving Repr, DecidableEq

/-- resolve `maxsize` (as `resolveCalls` does) -/
def resolveMixed (large : Nat) : Nat → List MCall → List MStep
  | _, [] => []
  | selfMax, .call c seat :: cs =>
    match c.op large selfMax with
    | some op => .call op seat :: resolveMixed large selfMax cs
    | none => resolveMixed large (c.nextMax selfMax) cs
  | selfMax, .recvObs size obs :: cs => obs.map (MStep.recvObs size) ++ resolveMixed large selfMax cs

/-! ## the one object: an observed recv on `BSock` -/

/-- an observed `recv` on the object: accepted as above; the fault classes still ahead shrink by the faults
    the call used up, and a raised fault must carry the class of the LAST fault it used up -/
def daccRecv (size : Nat) (o : RecvObs) (cls : Fault) (b : BSock) : Option (DOut × BSock) :=
  match acceptRecv size o b.rx with
  | none => none
  | some st' =>
    match o.res with
    | some v =>
      some (.rx (some (.ok v)), { b with rx := st', rtags := b.rtags.drop (nTO b.rx.script - nTO st'.script) })
    | none =>
      if (b.rtags.drop (nTO b.rx.script - nTO st'.script - 1)).head? = some cls then
        some (.fault cls, { b with rx := st', rtags := b.rtags.drop (nTO b.rx.script - nTO st'.script) })
      else none

/-- re-seating on the one object -/
def dseat (s0 : List Ev) (o : Option RecvObs) (b : BSock) : BSock := { b with rx := reseatOpt s0 o b.rx }

/-! ## send: how much one iteration offers to the socket is a parameter -/

/-- the `while sbuf[0]:` loop where iteration i passes `sbuf[0][:offers[i]]` to `sock.send`; an exhausted
    `offers` means "the whole buffer", i.e. `sendLoop`.  Everything else - trimming `sbuf[0]` by what the
    socket took, the deadline check after every `sock.send`, the fault handlers - is as in `sendLoop`. -/
def sendLoopA : List Nat → List SEv → Bytes → Nat → Bytes → SRes × SSt
  | [], script, buf, total, wire => sendLoop script buf total wire
  | _ :: _, script, [], total, wire => (.sent total, ⟨[[]], wire, script⟩)
  | m :: ms, [], b :: buf, total, wire =>
    sendLoopA ms [] ((b :: buf).drop m) (total + min m (b :: buf).length) (wire ++ (b :: buf).take m)
  | _ :: _, .timeout :: r, b :: buf, _, wire => (.timeout, ⟨[b :: buf], wire, r⟩)
  | _ :: _, .clock :: r, b :: buf, _, wire => (.timeout, ⟨[b :: buf], wire, r⟩)
  | m :: ms, .accept k :: r, b :: buf, total, wire =>
    match popClock r with
    | some r' => (.timeout, ⟨[(b :: buf).drop (min m k)], wire ++ (b :: buf).take (min m k), r'⟩)
    | none =>
      sendLoopA ms r ((b :: buf).drop (min m k)) (total + min (min m k) (b :: buf).length)
        (wire ++ (b :: buf).take (min m k))

def sendA (offers : List Nat) (data : Bytes) (st : SSt) : SRes × SSt :=
  let sbuf := st.sbuf ++ [data]
  let sbuf := if sbuf.length > 1 then [(sbuf.filter isNonEmpty).flatten] else sbuf
  match sbuf with
  | b :: rest =>
    match sendLoopA offers st.script b 0 st.wire with
    | (r, st') => (r, ⟨st'.sbuf ++ rest, st'.wire, st'.script⟩)
  | [] => (.sent 0, st)

def flushA (offers : List Nat) (st : SSt) : SRes × SSt :=
  match sendA offers [] st with
  | (.sent _, st') => (.none, st')
  | other => other

/-- one send-side call whose loop offered `offers` -/
def sstepA (offers : List Nat) (op : SOp) (st : SSt) : SRes × SSt :=
  match op with
  | .send d => sendA offers d st
  | .buffer d => buffer d st
  | .flush => flushA offers st

def srunA : List (List Nat × SOp) → SSt → List (SRes × SSt) × SSt
  | [], st => ([], st)
  | (offers, op) :: ops, st =>
    let (r, st') := sstepA offers op st
    let (rs, st'') := srunA ops st'
    ((r, st') :: rs, st'')

/-- `NetstringSocket.write_ns(payload)` over a send loop with the given offers -/
def writeNsA (offers : List Nat) (maxsize : Nat) (payload : Bytes) (st : SSt) : NsWRes × SSt :=
  if payload.length > maxsize then (.nsTooLong, st)
  else match sendA offers (encodeNs payload) st with
    | (.timeout, st') => (.timeout, st')
    | (_, st') => (.ok, st')

/-- a send-side call on the object, offers observed -/
def dsopA (offers : List Nat) (o : SOp) (b : BSock) : DOut × BSock :=
  if (sstepA offers o b.tx).1 = .timeout then
    (.fault (popTag b.stags).1, { b with tx := (sstepA offers o b.tx).2, stags := (popTag b.stags).2 })
  else (.tx (sstepA offers o b.tx).1, { b with tx := (sstepA offers o b.tx).2 })

end C12
