import BoltonsVerif.C12.Model
/-
C12 — lemmas about the receive side: the scripted socket, `findIdx`/`pyFind`, one attempt against the whole-stream
specification, retry, timeout accounting, digits and `int()`, reading netstrings, `Call` / `NsSock`.
-/
namespace C12

/-- what a `sock.recv(n)` that returned `d` and left `r` did to the script `s` -/
structure SockData (n : Nat) (s : List Ev) (d : Bytes) (r : List Ev) : Prop where
  pending_eq : pending s = d ++ pending r
  nTO_eq : nTO r = nTO s
  measure_le : measure r ≤ measure s
  measure_lt : d ≠ [] → measure r < measure s
  eof : 0 < n → d = [] → pending s = [] ∧ pending r = []

/-- what a `sock.recv` that raised `socket.timeout` and left `r` did to the script `s` -/
structure SockTimeout (s r : List Ev) : Prop where
  pending_eq : pending r = pending s
  nTO_eq : nTO r + 1 = nTO s
  measure_lt : measure r < measure s

theorem sockRecv_spec (n : Nat) (s : List Ev) :
    match sockRecv n s with
    | .data d r => SockData n s d r
    | .timeout r => SockTimeout s r := by
  induction s with
  | nil => exact ⟨rfl, rfl, Nat.le_refl _, fun h => absurd rfl h, fun _ _ => ⟨rfl, rfl⟩⟩
  | cons e s ih =>
    cases e with
    | timeout => exact ⟨rfl, rfl, by simp [measure]⟩
    | chunk bs =>
      by_cases hb : bs = []
      · subst hb
        -- an empty chunk is skipped: `pending`, `nTO` are those of the rest, `measure` is one more
        simp only [sockRecv, if_true]
        cases hr : sockRecv n s with
        | data d r =>
          rw [hr] at ih
          exact ⟨ih.pending_eq, ih.nTO_eq, by have := ih.measure_le; simp only [measure, List.length_nil]; omega,
            fun hd => by have := ih.measure_lt hd; simp only [measure, List.length_nil]; omega, ih.eof⟩
        | timeout r =>
          rw [hr] at ih
          exact ⟨ih.pending_eq, ih.nTO_eq, by have := ih.measure_lt; simp only [measure, List.length_nil]; omega⟩
      · by_cases hl : bs.length ≤ n
        · simp only [sockRecv, hb, hl, if_true, if_false]
          exact ⟨rfl, rfl, by simp only [measure]; omega, fun _ => by simp only [measure]; omega,
            fun _ hd => absurd hd hb⟩
        · simp only [sockRecv, hb, hl, if_false]
          refine ⟨?_, rfl, by simp only [measure, List.length_drop]; omega, fun hne => ?_, fun hn he => ?_⟩
          · simp only [pending]
            rw [← List.append_assoc, List.take_append_drop]
          · have : 0 < n := by
              cases n with
              | zero => simp at hne
              | succ k => omega
            simp only [measure, List.length_drop]
            omega
          · rw [List.take_eq_nil_iff] at he
            rcases he with he | he
            · omega
            · exact absurd he hb

theorem sockRecv_data {n : Nat} {s r : List Ev} {d : Bytes} (h : sockRecv n s = .data d r) : SockData n s d r := by
  have := sockRecv_spec n s
  rwa [h] at this

theorem sockRecv_timeout {n : Nat} {s r : List Ev} (h : sockRecv n s = .timeout r) : SockTimeout s r := by
  have := sockRecv_spec n s
  rwa [h] at this

/-- `o` is the first index at which `d` occurs in `xs` -/
structure FirstAt (d xs : Bytes) (o : Nat) : Prop where
  occurs : d <+: xs.drop o
  inside : o + d.length ≤ xs.length
  first : ∀ i, i < o → ¬ d.isPrefixOf (xs.drop i) = true

theorem findIdx_some {d : Bytes} : ∀ {xs : Bytes} {o : Nat}, findIdx d xs = some o → FirstAt d xs o := by
  intro xs
  induction xs with
  | nil =>
    intro o h
    simp only [findIdx] at h
    split at h
    · rename_i hp
      simp at h; subst h
      have hp := List.isPrefixOf_iff_prefix.mp hp
      exact ⟨by simpa using hp, by simpa using hp.length_le, fun i hi => by omega⟩
    · simp at h
  | cons x xs ih =>
    intro o h
    simp only [findIdx] at h
    split at h
    · rename_i hp
      simp at h; subst h
      have hp := List.isPrefixOf_iff_prefix.mp hp
      exact ⟨by simpa using hp, by simpa using hp.length_le, fun i hi => by omega⟩
    · rename_i hp
      cases hq : findIdx d xs with
      | none => simp [hq] at h
      | some o' =>
        simp [hq] at h
        subst h
        have ho := ih hq
        refine ⟨by simpa using ho.occurs, by have := ho.inside; simp only [List.length_cons]; omega, fun i hi => ?_⟩
        cases i with
        | zero => simpa using hp
        | succ i => simpa using ho.first i (by omega)

theorem findIdx_none {d : Bytes} : ∀ {xs : Bytes}, findIdx d xs = none →
    ∀ i, ¬ d.isPrefixOf (xs.drop i) = true := by
  intro xs
  induction xs with
  | nil =>
    intro h i
    simp only [findIdx] at h
    split at h
    · simp at h
    · rename_i hp
      simpa using hp
  | cons x xs ih =>
    intro h i
    simp only [findIdx] at h
    split at h
    · simp at h
    · rename_i hp
      cases i with
      | zero => simpa using hp
      | succ i =>
        have : findIdx d xs = none := by
          cases hq : findIdx d xs with
          | none => rfl
          | some _ => simp [hq] at h
        simpa using ih this i

theorem findIdx_eq_some {d xs : Bytes} {o : Nat} (hp : d <+: xs.drop o)
    (hmin : ∀ i, i < o → ¬ d.isPrefixOf (xs.drop i) = true) : findIdx d xs = some o := by
  cases h : findIdx d xs with
  | none => exact absurd (List.isPrefixOf_iff_prefix.mpr hp) (findIdx_none h o)
  | some o' =>
    have ho := findIdx_some h
    have h1' := List.isPrefixOf_iff_prefix.mpr ho.occurs
    have hp' := List.isPrefixOf_iff_prefix.mpr hp
    have : ¬ o' < o := fun hlt => hmin o' hlt h1'
    have : ¬ o < o' := fun hlt => ho.first o hlt hp'
    congr 1
    omega

theorem findIdx_append {d : Bytes} (ys : Bytes) {xs : Bytes} {o : Nat}
    (h : findIdx d xs = some o) : findIdx d (xs ++ ys) = some o := by
  have ho := findIdx_some h
  have h2 := ho.inside
  have hdrop : ∀ i, i ≤ o → (xs ++ ys).drop i = xs.drop i ++ ys := fun i hi =>
    List.drop_append_of_le_length (by omega)
  refine findIdx_eq_some ?_ fun i hi hc => ho.first i hi ?_
  · rw [hdrop o (Nat.le_refl _)]
    exact ho.occurs.trans (List.prefix_append _ _)
  · -- an occurrence before `o` in `xs ++ ys` ends inside `xs`
    rw [hdrop i (by omega), List.isPrefixOf_iff_prefix] at hc
    exact List.isPrefixOf_iff_prefix.mpr
      (List.prefix_of_prefix_length_le hc (List.prefix_append _ _) (by simp only [List.length_drop]; omega))

theorem findIdx_skip {d : Bytes} : ∀ (s : Nat) (xs : Bytes),
    (∀ i, i < s → ¬ d.isPrefixOf (xs.drop i) = true) → s ≤ xs.length →
    findIdx d xs = (findIdx d (xs.drop s)).map (· + s) := by
  intro s
  induction s with
  | zero => intro xs _ _; simp
  | succ s ih =>
    intro xs h hl
    cases xs with
    | nil => simp at hl
    | cons x t =>
      have h0 : ¬ d.isPrefixOf (x :: t) = true := by simpa using h 0 (by omega)
      have := ih t (fun i hi => by simpa using h (i + 1) (by omega)) (by simpa using hl)
      simp only [findIdx, h0, Bool.false_eq_true, ↓reduceIte, List.drop_succ_cons, this, Option.map_map]
      congr 1

/-- the rolling search offset of `recv_until` is sound: having found nothing in `recvd`, searching
    `recvd ++ nxt` from `len(recvd) - len(d) + 1` is searching it from 0 -/
theorem pyFind_rolling {d recvd nxt : Bytes} {m : Nat} (hnone : findIdx d recvd = none)
    (hlen : recvd.length ≤ m) (hn : nxt ≠ []) :
    pyFind d (recvd ++ nxt) (-(nxt.length : Int) - (d.length : Int) + 1) m
      = findIdx d ((recvd ++ nxt).take m) := by
  have hd : d ≠ [] := by
    intro hd; subst hd
    cases recvd <;> simp [findIdx] at hnone
  have hdl : 0 < d.length := List.length_pos_iff.mpr hd
  have hnl : 0 < nxt.length := List.length_pos_iff.mpr hn
  unfold pyFind
  simp only [List.length_append]
  have hneg : (-(nxt.length : Int) - (d.length : Int) + 1) < 0 := by omega
  simp only [hneg, ↓reduceIte]
  have hs : (-(nxt.length : Int) - (d.length : Int) + 1 + ((recvd.length + nxt.length : Nat) : Int)).toNat
      = recvd.length + 1 - d.length := by omega
  rw [hs]
  have hse : ¬ (recvd.length + 1 - d.length > min m (recvd.length + nxt.length)) := by omega
  simp only [hse, ↓reduceIte]
  have htk : (recvd ++ nxt).take (min m (recvd.length + nxt.length)) = (recvd ++ nxt).take m := by
    rw [List.take_eq_take_iff]
    simp only [List.length_append]; omega
  rw [htk]
  symm
  apply findIdx_skip
  · intro i hi hc
    have hW : (recvd ++ nxt).take m = recvd ++ nxt.take (m - recvd.length) := by
      rw [List.take_append, List.take_of_length_le hlen]
    rw [hW, List.drop_append_of_le_length (by omega)] at hc
    rw [List.isPrefixOf_iff_prefix] at hc
    have : d <+: recvd.drop i :=
      List.prefix_of_prefix_length_le hc (List.prefix_append _ _) (by simp only [List.length_drop]; omega)
    exact findIdx_none hnone i (List.isPrefixOf_iff_prefix.mpr this)
  · simp only [List.length_take, List.length_append]; omega

theorem pyFind_zero (d xs : Bytes) (m : Nat) : pyFind d xs 0 m = findIdx d (xs.take m) := by
  unfold pyFind
  simp only [Int.lt_irrefl, ↓reduceIte, Int.toNat_zero, List.drop_zero]
  have : ¬ (0 > min m xs.length) := by omega
  simp only [this, ↓reduceIte]
  have htk : xs.take (min m xs.length) = xs.take m := by
    rw [List.take_eq_take_iff]; omega
  rw [htk]
  simp

theorem findIdx_take_occurrence {d S : Bytes} {m o : Nat} (h : findIdx d (S.take m) = some o) :
    (S.drop o).take d.length = d ∧ o + d.length ≤ m ∧ o + d.length ≤ S.length := by
  have ho := findIdx_some h
  have hb := ho.inside
  have hlen : (S.take m).length ≤ m ∧ (S.take m).length ≤ S.length := by
    simp only [List.length_take]; omega
  refine ⟨?_, by omega, by omega⟩
  have h1 := List.prefix_iff_eq_take.mp ho.occurs
  rw [List.take_drop, List.take_take] at h1
  rw [List.take_drop]
  have : min (o + d.length) m = o + d.length := by omega
  rw [this] at h1
  exact h1.symm

theorem findIdx_single {c : Nat} (xs rest : Bytes) (hc : c ∉ xs) :
    findIdx [c] (xs ++ c :: rest) = some xs.length := by
  refine findIdx_eq_some (by simp) fun i hi h => hc ?_
  -- an occurrence at `i < len(xs)` would be the byte `xs[i]`
  rw [List.drop_append_of_le_length (by omega), List.isPrefixOf_iff_prefix] at h
  cases hx : xs.drop i with
  | nil => have := congrArg List.length hx; simp only [List.length_drop, List.length_nil] at this; omega
  | cons x t =>
    rw [hx] at h
    have : c = x := by simpa using h.head
    exact this ▸ List.mem_of_mem_drop (hx ▸ List.mem_cons_self)

theorem isPrefixOf_window {d S : Bytes} {maxsize i : Nat} (hb : i + d.length ≤ maxsize)
    (hm : (S.drop i).take d.length = d) : d.isPrefixOf ((S.take maxsize).drop i) = true := by
  rw [List.isPrefixOf_iff_prefix, List.prefix_iff_eq_take, List.take_drop, List.take_take]
  have : min (i + d.length) maxsize = i + d.length := by omega
  rw [this, ← List.take_drop]
  exact hm.symm

/-- what a single attempt of a deterministic call satisfies, against the whole-stream answer `expected` on the view `S`
    it started from.  `m` bounds the `measure` of the script that is left, strictly after a Timeout: the fuel of the retry
    loop counts that down.  The last clause lets `recv_close` take `rbuf` for the whole rest of the stream. -/
def AttemptOK (S : Bytes) (m : Nat) (expected : Res × Bytes) (out : Res × St) : Prop :=
  (out.1 = .timeout ∧ out.2.view = S ∧ measure out.2.script < m) ∨
  (out.1 ≠ .timeout ∧ (out.1, out.2.view) = expected ∧ measure out.2.script ≤ m ∧
     (out.1 = .closed → pending out.2.script = []))

theorem AttemptOK.mono {S : Bytes} {m m' : Nat} {expected : Res × Bytes} {out : Res × St}
    (h : AttemptOK S m expected out) (hm : m ≤ m') : AttemptOK S m' expected out := by
  rcases h with ⟨a, b, c⟩ | ⟨a, b, c, e⟩
  · exact Or.inl ⟨a, b, by omega⟩
  · exact Or.inr ⟨a, b, by omega, e⟩

theorem AttemptOK.ne_fuel {S : Bytes} {m : Nat} {expected : Res × Bytes} {out : Res × St}
    (h : AttemptOK S m expected out) (he : expected.1 ≠ .fuel) : out.1 ≠ .fuel := by
  rcases h with ⟨a, -⟩ | ⟨-, b, -⟩
  · rw [a]; simp
  · rw [← b] at he; exact he

/-- one round of the loop of `recv_size`: the two ways it returns (`extra_bytes != 0`: `nxt` is cut; `== 0`: all of `nxt` is
    taken) are one cut of `nxt` at `size - total` -/
theorem recvSizeLoop_succ (rs size fuel : Nat) (acc : Bytes) (total : Nat) (nxt : Bytes) (script : List Ev) :
    recvSizeLoop rs size (fuel + 1) acc total nxt script =
      if nxt = [] then (.closed, ⟨acc, script⟩)
      else if size ≤ total + nxt.length then (.ok (acc ++ nxt.take (size - total)), ⟨nxt.drop (size - total), script⟩)
      else match sockRecv rs script with
        | .timeout r => (.timeout, ⟨acc ++ nxt, r⟩)
        | .data d r => recvSizeLoop rs size fuel (acc ++ nxt) (total + nxt.length) d r := by
  rw [recvSizeLoop]
  by_cases hn : nxt = []
  · simp [hn]
  · by_cases hge : size ≤ total + nxt.length
    · have hk : nxt.length - (total + nxt.length - size) = size - total := by omega
      by_cases he : total + nxt.length - size = 0
      · have : nxt.length ≤ size - total := by omega
        simp [hn, hge, he, List.take_of_length_le this, List.drop_of_length_le this]
      · simp [hn, hge, he, hk]
    · simp only [hn, hge, if_false]
      rfl

/-- `acc = []` covers `size = 0` on entry; fuel: one round per recv that lowers `measure`, one for the chunk that
    completes the request, one for the b'' that ends the stream -/
theorem recvSizeLoop_ok (recvsize size : Nat) (hrs : 0 < recvsize) :
    ∀ (fuel : Nat) (acc : Bytes) (total : Nat) (nxt : Bytes) (script : List Ev),
      total = acc.length →
      (acc.length < size ∨ acc = []) →
      (nxt = [] → pending script = []) →
      (if nxt = [] then 1 else measure script + 2) ≤ fuel →
      AttemptOK (acc ++ nxt ++ pending script) (measure script)
        (specSize size (acc ++ nxt ++ pending script))
        (recvSizeLoop recvsize size fuel acc total nxt script) := by
  intro fuel
  induction fuel with
  | zero =>
    intro acc total nxt script _ _ _ hf
    split at hf <;> omega
  | succ fuel ih =>
    intro acc total nxt script ht hacc hnxt hf
    subst ht
    rw [recvSizeLoop_succ]
    split
    · rename_i hn
      subst hn
      have hp := hnxt rfl
      right
      refine ⟨by simp, ?_, by simp, fun _ => hp⟩
      have : ¬ (size ≤ acc.length ∧ acc ≠ []) := by
        rcases hacc with h | h
        · omega
        · simp [h]
      simp [St.view, hp, specSize, this]
    · rename_i hn
      simp only [hn, ↓reduceIte] at hf
      split
      · rename_i hge
        have hle : acc.length ≤ size := by
          rcases hacc with h | h
          · omega
          · subst h; simp
        have h0 : size - acc.length - nxt.length = 0 := by omega
        have hS : size ≤ (acc ++ nxt ++ pending script).length ∧ acc ++ nxt ++ pending script ≠ [] :=
          ⟨by simp only [List.length_append]; omega, by simp [hn]⟩
        right
        refine ⟨by simp, ?_, by simp, by simp⟩
        simp only [St.view, specSize]
        rw [if_pos hS]
        simp only [List.append_assoc, List.take_append, List.drop_append, List.take_of_length_le hle,
          List.drop_of_length_le hle, h0, List.take_zero, List.drop_zero, List.append_nil, List.nil_append]
      · cases hr : sockRecv recvsize script with
        | timeout r =>
          have ht := sockRecv_timeout hr
          have := ht.measure_lt
          left
          simp only [St.view, ht.pending_eq, true_and]
          omega
        | data d r =>
          have hd := sockRecv_data hr
          simp only
          have := ih (acc ++ nxt) (acc.length + nxt.length) d r (by simp) (by left; simp; omega)
            (fun he => (hd.eof hrs he).2)
            (by split
                · omega
                · rename_i hne; have := hd.measure_lt hne; omega)
          rw [hd.pending_eq]
          simp only [List.append_assoc] at this ⊢
          exact this.mono hd.measure_le

theorem recvSize_ok (cfg : Cfg) (hrs : 0 < cfg.recvsize) (size : Nat) (st : St) :
    AttemptOK st.view (measure st.script) (specSize size st.view) (recvSize cfg size st) := by
  unfold recvSize
  split
  · rename_i hne
    have := recvSizeLoop_ok cfg.recvsize size hrs (measure st.script + 2) [] 0 st.rbuf st.script rfl
      (Or.inr rfl) (fun h => absurd h hne) (by simp [hne])
    simpa [St.view] using this
  · rename_i he
    have he : st.rbuf = [] := by simpa using he
    cases hr : sockRecv cfg.recvsize st.script with
    | timeout r =>
      have ht := sockRecv_timeout hr
      left
      simp [St.view, he, ht.pending_eq, ht.measure_lt]
    | data d r =>
      have hd := sockRecv_data hr
      have := recvSizeLoop_ok cfg.recvsize size hrs (measure r + 2) [] 0 d r rfl
        (Or.inr rfl) (fun he => (hd.eof hrs he).2)
        (by split <;> omega)
      simp only [St.view, he, List.nil_append, hd.pending_eq] at this ⊢
      exact this.mono hd.measure_le

/-- `peek` and `recv_close` are `recv_size` with the answer post-processed; so are their whole-stream answers -/
theorem specPeek_of_specSize {n : Nat} (hn : 0 < n) (S : Bytes) :
    specPeek n S = match specSize n S with
      | (.ok t, d) => (.ok t, t ++ d)
      | o => o := by
  have hS : n ≤ S.length → S ≠ [] := fun h e => by rw [e] at h; simp at h; omega
  by_cases h : n ≤ S.length
  · simp [specPeek, specSize, h, hS h]
  · simp [specPeek, specSize, h]

theorem specClose_of_specSize (m : Nat) (S : Bytes) :
    specClose m S = match specSize (m + 1) S with
      | (.closed, S') => (.ok S', [])
      | (.ok t, d) => (.tooLong, t ++ d)
      | o => o := by
  have hS : m + 1 ≤ S.length → S ≠ [] := fun h e => by rw [e] at h; simp at h
  by_cases h : m + 1 ≤ S.length
  · have : ¬ S.length ≤ m := by omega
    simp [specClose, specSize, h, hS h, this]
  · have : S.length ≤ m := by omega
    simp [specClose, specSize, h, this]

theorem peek_ok (cfg : Cfg) (hrs : 0 < cfg.recvsize) (size : Nat) (st : St) :
    AttemptOK st.view (measure st.script) (specPeek size st.view) (peek cfg size st) := by
  unfold peek
  split
  · rename_i hge
    right
    refine ⟨by simp, ?_, by simp, by simp⟩
    have h1 : size ≤ st.view.length := by simp [St.view]; omega
    have h2 : st.view.take size = st.rbuf.take size := by
      simp only [St.view, List.take_append]
      have : size - st.rbuf.length = 0 := by omega
      simp [this]
    simp [specPeek, h1, h2]
  · rename_i hlt
    rw [specPeek_of_specSize (by omega)]
    rcases recvSize_ok cfg hrs size st with h | ⟨a, b, c, e⟩
    · left
      obtain ⟨a, b, c⟩ := h
      cases hq : recvSize cfg size st with
      | mk r st' => rw [hq] at a b c; simp only at a; subst a; exact ⟨rfl, b, c⟩
    · right
      rw [← b]
      cases hq : recvSize cfg size st with
      | mk r st' =>
        rw [hq] at a c e
        cases r with
        | ok data => exact ⟨by simp, by simp [St.view], c, by simp⟩
        | timeout => exact absurd rfl a
        | closed | tooLong | fuel => exact ⟨a, rfl, c, e⟩

theorem recvClose_ok (cfg : Cfg) (hrs : 0 < cfg.recvsize) (maxsize : Nat) (st : St) :
    AttemptOK st.view (measure st.script) (specClose maxsize st.view) (recvClose cfg maxsize st) := by
  unfold recvClose
  rw [specClose_of_specSize]
  rcases recvSize_ok cfg hrs (maxsize + 1) st with h | ⟨a, b, c, e⟩
  · left
    obtain ⟨a, b, c⟩ := h
    cases hq : recvSize cfg (maxsize + 1) st with
    | mk r st' => rw [hq] at a b c; simp only at a; subst a; exact ⟨rfl, b, c⟩
  · right
    rw [← b]
    cases hq : recvSize cfg (maxsize + 1) st with
    | mk r st' =>
      rw [hq] at a c e
      cases r with
      | ok data => exact ⟨by simp, by simp [St.view], c, by simp⟩
      | closed => exact ⟨by simp, by simp [St.view, e rfl], c, by simp⟩
      | timeout => exact absurd rfl a
      | tooLong | fuel => exact ⟨a, rfl, c, e⟩

/-- the hypothesis on `fstart` is the invariant of the loop: searching from the rolling offset finds what searching from 0
    finds (true of 0 on entry, `pyFind_zero`; kept when the loop goes round, `pyFind_rolling`) -/
theorem recvUntilLoop_ok (recvsize : Nat) (hrs : 0 < recvsize) (d : Bytes) (m : Nat) (w : Bool) :
    ∀ (fuel : Nat) (recvd : Bytes) (fstart : Int) (script : List Ev),
      pyFind d recvd fstart m = findIdx d (recvd.take m) →
      measure script + 1 ≤ fuel →
      AttemptOK (recvd ++ pending script) (measure script)
        (specUntil d m w (recvd ++ pending script))
        (recvUntilLoop recvsize d m w fuel recvd fstart script) := by
  intro fuel
  induction fuel with
  | zero => intro _ _ _ _ hf; omega
  | succ fuel ih =>
    intro recvd fstart script hinv hf
    unfold recvUntilLoop
    rw [hinv]
    have htakeS : (recvd ++ pending script).take m = recvd.take m ++ (pending script).take (m - recvd.length) :=
      List.take_append
    cases hq : findIdx d (recvd.take m) with
    | some o =>
      have hb := (findIdx_some hq).inside
      have hb' : o + d.length ≤ recvd.length := by
        have : (recvd.take m).length ≤ recvd.length := by simp [List.length_take]; omega
        omega
      have hS : findIdx d ((recvd ++ pending script).take m) = some o := by
        rw [htakeS]; exact findIdx_append _ hq
      simp only
      right
      cases w with
      | true =>
        refine ⟨by simp, ?_, by simp, by simp⟩
        simp only [↓reduceIte, St.view, specUntil, hS]
        rw [List.take_append_of_le_length hb', List.drop_append_of_le_length hb']
      | false =>
        refine ⟨by simp, ?_, by simp, by simp⟩
        simp only [Bool.false_eq_true, ↓reduceIte, St.view, specUntil, hS]
        rw [List.take_append_of_le_length (by omega), List.drop_append_of_le_length hb']
    | none =>
      simp only
      split
      · rename_i hgt
        right
        refine ⟨by simp, ?_, by simp, by simp⟩
        have : (recvd ++ pending script).take m = recvd.take m := by
          rw [List.take_append_of_le_length (by omega)]
        have hl : (recvd ++ pending script).length > m := by simp only [List.length_append]; omega
        simp only [St.view, specUntil, this, hq, hl, ↓reduceIte]
      · rename_i hle
        have hle : recvd.length ≤ m := by omega
        have hrm : recvd.take m = recvd := List.take_of_length_le hle
        rw [hrm] at hq
        cases hr : sockRecv recvsize script with
        | timeout r =>
          have ht := sockRecv_timeout hr
          have := ht.measure_lt
          left
          simp only [St.view, ht.pending_eq, true_and]
          omega
        | data nxt r =>
          have hd := sockRecv_data hr
          simp only
          split
          · rename_i hn
            obtain ⟨hp, hpr⟩ := hd.eof hrs hn
            right
            refine ⟨by simp, ?_, hd.measure_le, fun _ => hpr⟩
            have hl : ¬ (recvd.length > m) := by omega
            simp only [St.view, hp, hpr, List.append_nil, specUntil, hrm, hq, hl, ↓reduceIte]
          · rename_i hn
            have := ih (recvd ++ nxt) _ r (pyFind_rolling hq hle hn) (by have := hd.measure_lt hn; omega)
            rw [hd.pending_eq]
            simp only [List.append_assoc] at this ⊢
            exact this.mono hd.measure_le

theorem recvUntil_ok (cfg : Cfg) (hrs : 0 < cfg.recvsize) (d : Bytes) (m : Nat) (w : Bool) (st : St) :
    AttemptOK st.view (measure st.script) (specUntil d m w st.view) (recvUntil cfg d m w st) := by
  unfold recvUntil
  exact recvUntilLoop_ok cfg.recvsize hrs d m w _ st.rbuf 0 st.script (pyFind_zero _ _ _) (Nat.le_refl _)

theorem spec_res (op : Op) (hdet : op.deterministic = true) (S : Bytes) :
    (spec op S).1 ≠ .timeout ∧ (spec op S).1 ≠ .fuel := by
  cases op with
  | recv n => simp [Op.deterministic] at hdet
  | peek n => simp only [spec, specPeek]; split <;> simp
  | recvSize n => simp only [spec, specSize]; split <;> simp
  | recvClose m => simp only [spec, specClose]; split <;> simp
  | recvUntil d m w =>
    simp only [spec, specUntil]
    split
    · simp
    · split <;> simp

theorem spec_conserves (op : Op) (hdet : op.deterministic = true) (S : Bytes) :
    consumed op (spec op S).1 ++ (spec op S).2 = S := by
  cases op with
  | recv n => simp [Op.deterministic] at hdet
  | peek n => simp only [spec, specPeek]; split <;> simp [consumed]
  | recvSize n => simp only [spec, specSize]; split <;> simp [consumed]
  | recvClose m => simp only [spec, specClose]; split <;> simp [consumed]
  | recvUntil d m w =>
    simp only [spec, specUntil]
    split
    · rename_i o ho
      obtain ⟨h1, -, -⟩ := findIdx_take_occurrence ho
      cases w with
      | true => simp [consumed]
      | false =>
        simp only [consumed, Bool.false_eq_true, ↓reduceIte]
        have : S.take (o + d.length) = S.take o ++ d := by
          rw [List.take_add, h1]
        rw [← this, List.take_append_drop]
    · split <;> simp [consumed]

theorem attempt_ok (cfg : Cfg) (hrs : 0 < cfg.recvsize) (op : Op) (hdet : op.deterministic = true)
    (st : St) :
    AttemptOK st.view (measure st.script) (spec op st.view) (attempt cfg op st) := by
  cases op with
  | recv n => simp [Op.deterministic] at hdet
  | peek n => exact peek_ok cfg hrs n st
  | recvSize n => exact recvSize_ok cfg hrs n st
  | recvClose m => exact recvClose_ok cfg hrs m st
  | recvUntil d m w => exact recvUntil_ok cfg hrs d m w st

theorem recv_cases (cfg : Cfg) (size : Nat) (st : St) :
    (size ≤ st.rbuf.length ∧ recv cfg size st = (.ok (st.rbuf.take size), ⟨st.rbuf.drop size, st.script⟩)) ∨
    (st.rbuf.length < size ∧ st.rbuf ≠ [] ∧ recv cfg size st = (.ok st.rbuf, ⟨[], st.script⟩)) ∨
    (st.rbuf = [] ∧ 0 < size ∧ ∃ r, sockRecv cfg.recvsize st.script = .timeout r ∧ recv cfg size st = (.timeout, ⟨[], r⟩)) ∨
    (st.rbuf = [] ∧ 0 < size ∧ ∃ d r, sockRecv cfg.recvsize st.script = .data d r ∧
      recv cfg size st = (.ok (d.take size), ⟨d.drop size, r⟩)) := by
  unfold recv
  by_cases hge : st.rbuf.length ≥ size
  · exact .inl ⟨hge, by simp [hge]⟩
  · by_cases hb : st.rbuf = []
    · have hs : 0 < size := by rw [hb] at hge; simp at hge; omega
      have h0 : ¬ 0 ≥ size := by omega
      simp only [hb, List.length_nil, h0, ne_eq, not_true_eq_false, if_false]
      cases sockRecv cfg.recvsize st.script with
      | timeout r => exact .inr (.inr (.inl ⟨trivial, hs, r, rfl, rfl⟩))
      | data d r =>
        refine .inr (.inr (.inr ⟨trivial, hs, d, r, rfl, ?_⟩))
        -- data no longer than `size` is handed out whole: that is the cut at `size` too
        by_cases hl : d.length > size
        · simp only [hl, if_true]
        · simp only [hl, if_false, List.take_of_length_le (Nat.le_of_not_gt hl), List.drop_of_length_le (Nat.le_of_not_gt hl)]
    · exact .inr (.inl ⟨by omega, hb, by simp [hge, hb]⟩)

/-- what the statement asks of a value `v` that `recv(size)` returns when `S` is owed to the caller (`rbuf ++ undelivered`) and
    `S'` is owed afterwards: a prefix of `S` no longer than asked for, empty only when `S` is -/
structure RecvValue (size : Nat) (S v S' : Bytes) : Prop where
  split : v ++ S' = S
  le : v.length ≤ size
  eof : 0 < size → v = [] → S = []

theorem recv_ok (cfg : Cfg) (hrs : 0 < cfg.recvsize) (size : Nat) (st : St) :
    ((recv cfg size st).1 = .timeout ∧ (recv cfg size st).2.view = st.view ∧
        measure (recv cfg size st).2.script < measure st.script) ∨
    (∃ v, (recv cfg size st).1 = .ok v ∧ RecvValue size st.view v (recv cfg size st).2.view ∧
        measure (recv cfg size st).2.script ≤ measure st.script) := by
  rcases recv_cases cfg size st with ⟨hge, e⟩ | ⟨hlt, hne, e⟩ | ⟨hb, hs, r, hr, e⟩ | ⟨hb, hs, d, r, hr, e⟩ <;> rw [e]
  · refine .inr ⟨_, rfl, ⟨by simp [St.view, ← List.append_assoc], by simp [List.length_take]; omega, fun _ hv => ?_⟩, Nat.le_refl _⟩
    rw [List.take_eq_nil_iff] at hv
    rcases hv with hv | hv
    · omega
    · rw [hv] at hge; simp at hge; omega
  · exact .inr ⟨_, rfl, ⟨by simp [St.view], by omega, fun _ hv => absurd hv hne⟩, Nat.le_refl _⟩
  · have ht := sockRecv_timeout hr
    exact .inl ⟨rfl, by simp [St.view, hb, ht.pending_eq], ht.measure_lt⟩
  · have hd := sockRecv_data hr
    refine .inr ⟨_, rfl, ⟨by simp [St.view, hb, hd.pending_eq, ← List.append_assoc], by simp [List.length_take]; omega, fun _ hv => ?_⟩, hd.measure_le⟩
    rw [List.take_eq_nil_iff] at hv
    simp only [St.view, hb, List.nil_append]
    exact (hd.eof hrs (hv.resolve_left (by omega))).1

theorem consumed_timeout (op : Op) : consumed op .timeout = [] := by
  cases op <;> simp [consumed]

theorem attempt_conserves (cfg : Cfg) (hrs : 0 < cfg.recvsize) (op : Op) (st : St) :
    consumed op (attempt cfg op st).1 ++ (attempt cfg op st).2.view = st.view := by
  by_cases hdet : op.deterministic = true
  · rcases attempt_ok cfg hrs op hdet st with ⟨a, b, _⟩ | ⟨_, b, _, _⟩
    · rw [a, consumed_timeout]; simpa using b
    · have := spec_conserves op hdet st.view
      rw [← b] at this
      exact this
  · cases op with
    | recv n =>
      rcases recv_ok cfg hrs n st with ⟨a, b, _⟩ | ⟨v, a, hv, _⟩
      · simp only [attempt]; rw [a]; simpa [consumed] using b
      · simp only [attempt]; rw [a]; simpa [consumed] using hv.split
    | _ => simp [Op.deterministic] at hdet

theorem attempt_suffix (cfg : Cfg) (hrs : 0 < cfg.recvsize) (op : Op) (st : St) :
    (attempt cfg op st).2.view <:+ st.view :=
  ⟨_, attempt_conserves cfg hrs op st⟩

theorem retryLoop_conserves (cfg : Cfg) (hrs : 0 < cfg.recvsize) (op : Op) : ∀ (fuel : Nat) (st : St),
    consumed op (retryLoop cfg op fuel st).1 ++ (retryLoop cfg op fuel st).2.view = st.view := by
  intro fuel
  induction fuel with
  | zero => intro st; cases op <;> simp [retryLoop, consumed]
  | succ n ih =>
    intro st
    have hc := attempt_conserves cfg hrs op st
    simp only [retryLoop]
    split
    · rename_i st2 heq
      rw [heq] at hc
      simp only [consumed_timeout, List.nil_append] at hc
      rw [ih st2, hc]
    · exact hc

theorem runAttempts_conserves (cfg : Cfg) (hrs : 0 < cfg.recvsize) :
    ∀ (ops : List Op) (st : St),
      handedOver ops (runAttempts cfg ops st).1 ++ (runAttempts cfg ops st).2.view = st.view := by
  intro ops
  induction ops with
  | nil => intro st; simp [runAttempts, handedOver]
  | cons op ops ih =>
    intro st
    have h1 := attempt_conserves cfg hrs op st
    have h2 := ih (attempt cfg op st).2
    simp only [runAttempts, handedOver]
    rw [List.append_assoc, h2, h1]

theorem attempt_measure_le (cfg : Cfg) (hrs : 0 < cfg.recvsize) (op : Op) (st : St) :
    measure (attempt cfg op st).2.script ≤ measure st.script := by
  by_cases hdet : op.deterministic = true
  · rcases attempt_ok cfg hrs op hdet st with ⟨_, _, c⟩ | ⟨_, _, c, _⟩ <;> omega
  · cases op with
    | recv n =>
      rcases recv_ok cfg hrs n st with ⟨_, _, c⟩ | ⟨v, _, _, c⟩
      · simp only [attempt]; omega
      · simp only [attempt]; omega
    | _ => simp [Op.deterministic] at hdet

theorem retryLoop_ok (cfg : Cfg) (hrs : 0 < cfg.recvsize) (op : Op) (hdet : op.deterministic = true) :
    ∀ (fuel : Nat) (st : St), measure st.script + 1 ≤ fuel →
      ((retryLoop cfg op fuel st).1, (retryLoop cfg op fuel st).2.view) = spec op st.view ∧
      measure (retryLoop cfg op fuel st).2.script ≤ measure st.script := by
  intro fuel
  induction fuel with
  | zero => intro _ h; omega
  | succ fuel ih =>
    intro st hf
    unfold retryLoop
    have h := attempt_ok cfg hrs op hdet st
    cases hq : attempt cfg op st with
    | mk r st' =>
      rw [hq] at h
      rcases h with ⟨a, b, c⟩ | ⟨a, b, c, _⟩
      · simp only at a b c
        subst a
        simp only
        have := ih st' (by omega)
        rw [b] at this
        exact ⟨this.1, by omega⟩
      · simp only at a b c
        cases r with
        | timeout => exact absurd rfl a
        | ok _ | closed | tooLong | fuel => exact ⟨b, c⟩

theorem callRetry_ok (cfg : Cfg) (hrs : 0 < cfg.recvsize) (op : Op) (hdet : op.deterministic = true)
    (st : St) :
    ((callRetry cfg op st).1, (callRetry cfg op st).2.view) = spec op st.view :=
  (retryLoop_ok cfg hrs op hdet _ st (Nat.le_refl _)).1

/-- exact timeout accounting of a call's outcome: a call that raises Timeout used up exactly one of the
    script's timeout events, any other outcome used up none (no timeout is ever swallowed) -/
structure TimeoutExact (t : Nat) (out : Res × St) : Prop where
  raised : out.1 = .timeout → nTO out.2.script + 1 = t
  other : out.1 ≠ .timeout → nTO out.2.script = t

theorem TimeoutExact.timeout {s r : List Ev} {b : Bytes} (h : nTO r + 1 = nTO s) :
    TimeoutExact (nTO s) (.timeout, ⟨b, r⟩) :=
  ⟨fun _ => h, fun h' => absurd rfl h'⟩

theorem TimeoutExact.keep {s : List Ev} {r : Res} {b : Bytes} (hr : r ≠ .timeout) : TimeoutExact (nTO s) (r, ⟨b, s⟩) :=
  ⟨fun h => absurd h hr, fun _ => rfl⟩

/-- for `peek` and `recv_close`, which rewrite the answer of `recv_size` but neither touch the script nor turn a Timeout into
    something else or the reverse -/
theorem TimeoutExact.congr {t : Nat} {out out' : Res × St} (h : TimeoutExact t out)
    (hs : out'.2.script = out.2.script) (hr : out'.1 = .timeout ↔ out.1 = .timeout) : TimeoutExact t out' :=
  ⟨fun a => hs ▸ h.raised (hr.mp a), fun a => hs ▸ h.other fun c => a (hr.mpr c)⟩

theorem AttemptOK.timeout_free {S : Bytes} {m : Nat} {expected : Res × Bytes} {out : Res × St} {s : List Ev}
    (h : AttemptOK S m expected out) (t : TimeoutExact (nTO s) out) (hs : nTO s = 0) :
    (out.1, out.2.view) = expected ∧ nTO out.2.script = 0 := by
  rcases h with ⟨a, -⟩ | ⟨a, b, -⟩
  · have := t.raised a; omega
  · exact ⟨b, by have := t.other a; omega⟩

theorem recvSizeLoop_timeoutExact (recvsize size : Nat) :
    ∀ (fuel : Nat) (acc : Bytes) (total : Nat) (nxt : Bytes) (script : List Ev),
      TimeoutExact (nTO script) (recvSizeLoop recvsize size fuel acc total nxt script) := by
  intro fuel
  induction fuel with
  | zero => intro acc total nxt script; exact .keep nofun
  | succ fuel ih =>
    intro acc total nxt script
    rw [recvSizeLoop_succ]
    split
    · exact .keep nofun
    · split
      · exact .keep nofun
      · cases hr : sockRecv recvsize script with
        | timeout r =>
          exact .timeout (sockRecv_timeout hr).nTO_eq
        | data d r =>
          have := (sockRecv_data hr).nTO_eq
          simp only
          have h := ih (acc ++ nxt) (total + nxt.length) d r
          rw [this] at h
          exact h

theorem recvSize_timeoutExact (cfg : Cfg) (size : Nat) (st : St) :
    TimeoutExact (nTO st.script) (recvSize cfg size st) := by
  unfold recvSize
  split
  · exact recvSizeLoop_timeoutExact _ _ _ _ _ _ _
  · cases hr : sockRecv cfg.recvsize st.script with
    | timeout r =>
      exact .timeout (sockRecv_timeout hr).nTO_eq
    | data d r =>
      have := (sockRecv_data hr).nTO_eq
      simp only
      have h := recvSizeLoop_timeoutExact cfg.recvsize size (measure r + 2) [] 0 d r
      rw [this] at h
      exact h

theorem peek_timeoutExact (cfg : Cfg) (size : Nat) (st : St) :
    TimeoutExact (nTO st.script) (peek cfg size st) := by
  unfold peek
  split
  · exact .keep nofun
  · refine (recvSize_timeoutExact cfg size st).congr ?_ ?_ <;>
      cases recvSize cfg size st with
      | mk r st' => cases r <;> simp

theorem recvClose_timeoutExact (cfg : Cfg) (m : Nat) (st : St) :
    TimeoutExact (nTO st.script) (recvClose cfg m st) := by
  unfold recvClose
  refine (recvSize_timeoutExact cfg (m + 1) st).congr ?_ ?_ <;>
    cases recvSize cfg (m + 1) st with
    | mk r st' => cases r <;> simp

theorem recvUntilLoop_timeoutExact (recvsize : Nat) (d : Bytes) (m : Nat) (w : Bool) :
    ∀ (fuel : Nat) (recvd : Bytes) (fstart : Int) (script : List Ev),
      TimeoutExact (nTO script) (recvUntilLoop recvsize d m w fuel recvd fstart script) := by
  intro fuel
  induction fuel with
  | zero => intro recvd fstart script; exact .keep nofun
  | succ fuel ih =>
    intro recvd fstart script
    unfold recvUntilLoop
    split
    · split <;> exact .keep nofun
    · split
      · exact .keep nofun
      · cases hr : sockRecv recvsize script with
        | timeout r =>
          exact .timeout (sockRecv_timeout hr).nTO_eq
        | data nxt r =>
          have := (sockRecv_data hr).nTO_eq
          simp only
          split
          · exact this ▸ .keep nofun
          · have h := ih (recvd ++ nxt) (-(nxt.length : Int) - (d.length : Int) + 1) r
            rw [this] at h
            exact h

theorem recvUntil_timeoutExact (cfg : Cfg) (d : Bytes) (m : Nat) (w : Bool) (st : St) :
    TimeoutExact (nTO st.script) (recvUntil cfg d m w st) :=
  recvUntilLoop_timeoutExact _ _ _ _ _ _ _ _

theorem recv_timeoutExact (cfg : Cfg) (size : Nat) (st : St) :
    TimeoutExact (nTO st.script) (recv cfg size st) := by
  rcases recv_cases cfg size st with ⟨-, e⟩ | ⟨-, -, e⟩ | ⟨-, -, r, hr, e⟩ | ⟨-, -, d, r, hr, e⟩ <;> rw [e]
  · exact .keep nofun
  · exact .keep nofun
  · exact .timeout (sockRecv_timeout hr).nTO_eq
  · exact (sockRecv_data hr).nTO_eq ▸ .keep nofun

theorem attempt_timeoutExact (cfg : Cfg) (op : Op) (st : St) :
    TimeoutExact (nTO st.script) (attempt cfg op st) := by
  cases op with
  | recv n => exact recv_timeoutExact cfg n st
  | peek n => exact peek_timeoutExact cfg n st
  | recvSize n => exact recvSize_timeoutExact cfg n st
  | recvClose m => exact recvClose_timeoutExact cfg m st
  | recvUntil d m w => exact recvUntil_timeoutExact cfg d m w st

theorem recvSizeLoop_ne_fuel (rs size : Nat) (hrs : 0 < rs) (nxt : Bytes) (script : List Ev)
    (h : nxt = [] → pending script = []) :
    (recvSizeLoop rs size (measure script + 2) [] 0 nxt script).1 ≠ .fuel :=
  (recvSizeLoop_ok rs size hrs (measure script + 2) [] 0 nxt script rfl (Or.inr rfl) h (by split <;> omega)).ne_fuel
    (spec_res (.recvSize size) rfl _).2

theorem recvUntil_ne_fuel (cfg : Cfg) (hrs : 0 < cfg.recvsize) (d : Bytes) (m : Nat) (wd : Bool) (st : St) :
    (recvUntil cfg d m wd st).1 ≠ .fuel :=
  (recvUntil_ok cfg hrs d m wd st).ne_fuel (spec_res (.recvUntil d m wd) rfl _).2

theorem recvSizeLoop_more_fuel (rs size : Nat) : ∀ (n : Nat) (acc : Bytes) (total : Nat) (nxt : Bytes) (script : List Ev),
    (recvSizeLoop rs size n acc total nxt script).1 ≠ .fuel →
    ∀ n', n ≤ n' → recvSizeLoop rs size n' acc total nxt script = recvSizeLoop rs size n acc total nxt script := by
  intro n
  induction n with
  | zero => intro acc total nxt script h; simp [recvSizeLoop] at h
  | succ n ih =>
    intro acc total nxt script h n' hle
    obtain ⟨k, rfl⟩ : ∃ k, n' = k + 1 := ⟨n' - 1, by omega⟩
    rw [recvSizeLoop] at h ⊢
    rw [recvSizeLoop]
    by_cases hn : nxt = []
    · simp [hn]
    · by_cases hge : total + nxt.length ≥ size
      · simp [hn, hge]
      · simp only [hn, hge, if_false] at h ⊢
        cases hsr : sockRecv rs script with
        | timeout r => simp
        | data d r =>
          simp only [hsr] at h ⊢
          exact ih _ _ _ _ h k (by omega)

theorem recvUntilLoop_more_fuel (rs : Nat) (d : Bytes) (m : Nat) (wd : Bool) :
    ∀ (n : Nat) (recvd : Bytes) (fstart : Int) (script : List Ev),
    (recvUntilLoop rs d m wd n recvd fstart script).1 ≠ .fuel →
    ∀ n', n ≤ n' → recvUntilLoop rs d m wd n' recvd fstart script = recvUntilLoop rs d m wd n recvd fstart script := by
  intro n
  induction n with
  | zero => intro recvd fstart script h; simp [recvUntilLoop] at h
  | succ n ih =>
    intro recvd fstart script h n' hle
    obtain ⟨k, rfl⟩ : ∃ k, n' = k + 1 := ⟨n' - 1, by omega⟩
    rw [recvUntilLoop] at h ⊢
    rw [recvUntilLoop]
    cases hp : pyFind d recvd fstart m with
    | some o => simp
    | none =>
      simp only [hp] at h ⊢
      by_cases hl : recvd.length > m
      · simp [hl]
      · simp only [hl, if_false] at h ⊢
        cases hsr : sockRecv rs script with
        | timeout r => simp
        | data nx r =>
          simp only [hsr] at h ⊢
          by_cases hn : nx = []
          · simp [hn]
          · simp only [hn, if_false] at h ⊢
            exact ih _ _ _ h k (by omega)

/-- the number a run of ASCII digits stands for: the fold of `parseNat` -/
def digitsValue (bs : Bytes) : Nat := bs.foldl (fun acc b => acc * 10 + (b - 48)) 0

theorem digitsValue_append_single (xs : Bytes) (b : Nat) : digitsValue (xs ++ [b]) = digitsValue xs * 10 + (b - 48) := by
  simp [digitsValue, List.foldl_append]

theorem digitsAux_acc : ∀ (fuel n : Nat) (acc : Bytes), digitsAux fuel n acc = digitsAux fuel n [] ++ acc := by
  intro fuel
  induction fuel with
  | zero => intro n acc; simp [digitsAux]
  | succ fuel ih =>
    intro n acc
    simp only [digitsAux]
    split
    · simp
    · rw [ih (n / 10) ((48 + n % 10) :: acc), ih (n / 10) [48 + n % 10]]
      simp

theorem digitsAux_small (fuel n : Nat) (h : n < 10) : digitsAux fuel n [] = [48 + n] := by
  cases fuel with
  | zero => simp [digitsAux, Nat.mod_eq_of_lt h]
  | succ f => simp [digitsAux, h]

theorem digitsAux_big (fuel n : Nat) (h : ¬ n < 10) :
    digitsAux (fuel + 1) n [] = digitsAux fuel (n / 10) [] ++ [48 + n % 10] := by
  simp only [digitsAux, h, ↓reduceIte]
  exact digitsAux_acc _ _ _

theorem digitsAux_fuel : ∀ (n fuel : Nat), n ≤ fuel → digitsAux fuel n [] = digits n := by
  intro n
  induction n using Nat.strongRecOn with
  | ind n ih =>
    intro fuel h
    by_cases hn : n < 10
    · rw [digits, digitsAux_small _ _ hn, digitsAux_small _ _ hn]
    · have hd : n / 10 < n := Nat.div_lt_self (by omega) (by decide)
      obtain ⟨f, rfl⟩ : ∃ f, fuel = f + 1 := ⟨fuel - 1, by omega⟩
      obtain ⟨k, rfl⟩ : ∃ k, n = k + 1 := ⟨n - 1, by omega⟩
      rw [digits, digitsAux_big _ _ hn, digitsAux_big _ _ hn, ih _ hd f (by omega), ih _ hd k (by omega)]

theorem digits_small {n : Nat} (h : n < 10) : digits n = [48 + n] := digitsAux_small n n h

theorem digits_big {n : Nat} (h : ¬ n < 10) : digits n = digits (n / 10) ++ [48 + n % 10] := by
  obtain ⟨k, rfl⟩ : ∃ k, n = k + 1 := ⟨n - 1, by omega⟩
  rw [digits, digitsAux_big _ _ h, digitsAux_fuel _ k (by omega)]

theorem digits_spec (n : Nat) : digits n ≠ [] ∧ (digits n).all isDigit = true ∧ digitsValue (digits n) = n := by
  induction n using Nat.strongRecOn with
  | ind n ih =>
    by_cases hn : n < 10
    · rw [digits_small hn]
      refine ⟨by simp, ?_, by simp [digitsValue]⟩
      simp only [List.all_cons, List.all_nil, Bool.and_true, isDigit, Bool.and_eq_true, decide_eq_true_eq]
      omega
    · rw [digits_big hn]
      obtain ⟨-, h2, h3⟩ := ih (n / 10) (by omega)
      refine ⟨by simp, ?_, by rw [digitsValue_append_single, h3]; omega⟩
      simp only [List.all_append, h2, List.all_cons, List.all_nil, Bool.and_true, Bool.true_and, isDigit,
        Bool.and_eq_true, decide_eq_true_eq]
      omega

theorem digits_length_mono : ∀ {m n : Nat}, n ≤ m → (digits n).length ≤ (digits m).length := by
  intro m
  induction m using Nat.strongRecOn with
  | ind m ih =>
    intro n h
    by_cases hn : n < 10
    · rw [digits_small hn]
      by_cases hm : m < 10
      · rw [digits_small hm]; simp
      · rw [digits_big hm]; simp
    · have hm : ¬ m < 10 := by omega
      have := ih (m / 10) (by omega) (Nat.div_le_div_right (c := 10) h)
      rw [digits_big hn, digits_big hm]
      simp only [List.length_append, List.length_cons, List.length_nil]
      omega

theorem digits_ne_nil (n : Nat) : digits n ≠ [] := (digits_spec n).1
theorem digits_all (n : Nat) : (digits n).all isDigit = true := (digits_spec n).2.1
theorem digitsValue_digits (n : Nat) : digitsValue (digits n) = n := (digits_spec n).2.2

theorem parseNat_digits (n : Nat) : parseNat (digits n) = some n := by
  unfold parseNat
  rw [if_pos ⟨digits_ne_nil n, digits_all n⟩]
  exact congrArg some (digitsValue_digits n)

theorem isDigit_not_space {b : Nat} (h : isDigit b = true) : isSpace b = false := by
  simp only [isDigit, Bool.and_eq_true, decide_eq_true_eq] at h
  simp only [isSpace, Bool.or_eq_false_iff, Bool.and_eq_false_iff, beq_eq_false_iff_ne, ne_eq,
    decide_eq_false_iff_not]
  omega

theorem stripL_digit_head {b : Nat} {bs : Bytes} (h : isDigit b = true) : stripL (b :: bs) = b :: bs := by
  simp [stripL, isDigit_not_space h]

theorem parseBody_digits : ∀ (ds : Bytes) (acc : Nat) (p : Prev), ds.all isDigit = true →
    (ds ≠ [] ∨ p = .digit) → parseBody acc p ds = some (ds.foldl (fun a b => a * 10 + (b - 48)) acc) := by
  intro ds
  induction ds with
  | nil =>
    intro acc p _ h
    rcases h with h | h
    · exact absurd rfl h
    · simp [parseBody, h]
  | cons b bs ih =>
    intro acc p hall _
    simp only [List.all_cons, Bool.and_eq_true] at hall
    simp only [parseBody, hall.1, ↓reduceIte, List.foldl_cons]
    exact ih _ .digit hall.2 (Or.inr rfl)

theorem parsePyInt_strict {bs : Bytes} (hne : bs ≠ []) (hall : bs.all isDigit = true) :
    parsePyInt bs = some (Int.ofNat (digitsValue bs)) := by
  -- first and last byte are digits, so nothing is stripped; the first byte is no sign
  have hlast : ∀ x ∈ bs.reverse, isDigit x = true := by
    intro x hx
    exact (List.all_eq_true.mp hall) x (List.mem_reverse.mp hx)
  have hrev_ne : bs.reverse ≠ [] := by simpa using hne
  have hstripL : stripL bs = bs := by
    cases bs with
    | nil => exact absurd rfl hne
    | cons b r =>
      simp only [List.all_cons, Bool.and_eq_true] at hall
      exact stripL_digit_head hall.1
  have hstripR : stripR bs = bs := by
    unfold stripR
    cases hr : bs.reverse with
    | nil => exact absurd hr hrev_ne
    | cons x xs =>
      have hx : isDigit x = true := hlast x (by rw [hr]; simp)
      rw [stripL_digit_head hx, ← hr, List.reverse_reverse]
  unfold parsePyInt
  rw [hstripL, hstripR]
  cases bs with
  | nil => exact absurd rfl hne
  | cons b r =>
    have hb : isDigit b = true := by
      simp only [List.all_cons, Bool.and_eq_true] at hall
      exact hall.1
    have hb' : 48 ≤ b ∧ b ≤ 57 := by
      simpa [isDigit] using hb
    have h43 : ¬ b = 43 := by omega
    have h45 : ¬ b = 45 := by omega
    simp only [h43, h45, ↓reduceIte]
    rw [parseBody_digits (b :: r) 0 .start hall (Or.inl (by simp))]
    rfl

theorem parseSize_of_parseNat {bs : Bytes} {n : Nat} (h : parseNat bs = some n) : parseSize bs = some n := by
  unfold parseNat at h
  split at h
  · rename_i hc
    simp only [Option.some.injEq] at h
    unfold parseSize
    rw [parsePyInt_strict hc.1 hc.2, show digitsValue bs = n from h]
    rfl
  · simp at h

theorem parseSize_digits (n : Nat) : parseSize (digits n) = some n :=
  parseSize_of_parseNat (parseNat_digits n)

theorem colon_not_in_digits (n : Nat) : colon ∉ digits n := by
  intro h
  have := List.all_eq_true.mp (digits_all n) colon h
  simp [isDigit, colon] at this

theorem specUntil_frame (maxsize : Nat) (p rest : Bytes) (hp : p.length ≤ maxsize) :
    specUntil [colon] ((digits maxsize).length + 1) false (encodeNs p ++ rest)
      = (.ok (digits p.length), p ++ comma :: rest) := by
  have hS : encodeNs p ++ rest = digits p.length ++ colon :: (p ++ comma :: rest) := by
    simp [encodeNs]
  have hlen := digits_length_mono hp
  have htake : (encodeNs p ++ rest).take ((digits maxsize).length + 1)
      = digits p.length ++ colon :: (p ++ comma :: rest).take ((digits maxsize).length - (digits p.length).length) := by
    rw [hS, List.take_append]
    have h1 : (digits p.length).take ((digits maxsize).length + 1) = digits p.length :=
      List.take_of_length_le (by omega)
    have h2 : (digits maxsize).length + 1 - (digits p.length).length
        = ((digits maxsize).length - (digits p.length).length) + 1 := by omega
    rw [h1, h2, List.take_succ_cons]
  have hfind := findIdx_single (c := colon) (digits p.length)
    ((p ++ comma :: rest).take ((digits maxsize).length - (digits p.length).length)) (colon_not_in_digits _)
  simp only [specUntil, htake, hfind, Bool.false_eq_true, ↓reduceIte, List.length_cons, List.length_nil,
    Nat.zero_add]
  rw [hS]
  simp

theorem readNs_frame (cfg : Cfg) (hrs : 0 < cfg.recvsize) (maxsize : Nat) (p rest : Bytes) (st : St)
    (hto : nTO st.script = 0) (hview : st.view = encodeNs p ++ rest) (hp : p.length ≤ maxsize) :
    (readNs cfg maxsize st).1 = .ok p ∧ (readNs cfg maxsize st).2.view = rest ∧
    nTO (readNs cfg maxsize st).2.script = 0 := by
  unfold readNs
  obtain ⟨b, hto1⟩ := (recvUntil_ok cfg hrs [colon] ((digits maxsize).length + 1) false st).timeout_free
    (recvUntil_timeoutExact cfg [colon] ((digits maxsize).length + 1) false st) hto
  cases hq1 : recvUntil cfg [colon] ((digits maxsize).length + 1) false st with
  | mk r1 st1 =>
  rw [hq1, hview, specUntil_frame maxsize p rest hp] at b
  rw [hq1] at hto1
  simp only [Prod.mk.injEq] at b hto1
  obtain ⟨b1, b2⟩ := b
  subst b1
  simp only [parseSize_digits]
  have hnot : ¬ p.length > maxsize := by omega
  simp only [hnot, ↓reduceIte]
  obtain ⟨b, hto2⟩ := (recvSize_ok cfg hrs p.length st1).timeout_free (recvSize_timeoutExact cfg p.length st1) hto1
  cases hq2 : recvSize cfg p.length st1 with
  | mk r2 st2 =>
  have hs : specSize p.length (p ++ comma :: rest) = (.ok p, comma :: rest) := by
    have hc : p.length ≤ (p ++ comma :: rest).length ∧ p ++ comma :: rest ≠ [] := ⟨by simp, by simp⟩
    simp only [specSize]
    rw [if_pos hc]
    simp
  rw [hq2, b2, hs] at b
  rw [hq2] at hto2
  simp only [Prod.mk.injEq] at b hto2
  obtain ⟨c1, c2⟩ := b
  subst c1
  simp only
  have h3 := recv_ok cfg hrs 1 st2
  have t3 := recv_timeoutExact cfg 1 st2
  cases hq3 : recv cfg 1 st2 with
  | mk r3 st3 =>
  rw [hq3] at h3 t3
  rcases h3 with ⟨a, _, _⟩ | ⟨v, a, h3, _⟩
  · have := t3.raised a; omega
  · simp only at a h3
    subst a
    have hto3 : nTO st3.script = 0 := (t3.other nofun).trans hto2
    rw [c2] at h3
    have hv : v = [comma] ∧ st3.view = rest := by
      cases v with
      | nil => have := h3.eof (by omega) rfl; simp at this
      | cons x v =>
        cases v with
        | nil =>
          have e := h3.split
          simp only [List.cons_append, List.nil_append, List.cons.injEq] at e
          exact ⟨by rw [e.1], e.2⟩
        | cons y v => have f := h3.le; simp at f
    simp only [hv.1, ↓reduceIte]
    exact ⟨trivial, hv.2, hto3⟩

theorem readNsMany_frames (cfg : Cfg) (hrs : 0 < cfg.recvsize) (maxsize : Nat) :
    ∀ (ps : List Bytes) (rest : Bytes) (st : St), nTO st.script = 0 →
      st.view = (ps.map encodeNs).flatten ++ rest → (∀ p ∈ ps, p.length ≤ maxsize) →
      (readNsMany cfg maxsize ps.length st).1 = ps.map NsRes.ok ∧
      (readNsMany cfg maxsize ps.length st).2.view = rest := by
  intro ps
  induction ps with
  | nil => intro rest st _ hv _; simpa [readNsMany] using hv
  | cons p ps ih =>
    intro rest st hto hv hall
    have hv' : st.view = encodeNs p ++ ((ps.map encodeNs).flatten ++ rest) := by
      rw [hv]; simp
    obtain ⟨a, b, c⟩ := readNs_frame cfg hrs maxsize p _ st hto hv' (hall p (by simp))
    obtain ⟨d, e⟩ := ih rest (readNs cfg maxsize st).2 c b (fun q hq => hall q (by simp [hq]))
    simp only [List.length_cons, readNsMany, List.map_cons]
    rw [a, d]
    exact ⟨rfl, e⟩

theorem readNsWith_suffix (cfg : Cfg) (hrs : 0 < cfg.recvsize) (maxsize window : Nat) (st : St) :
    (readNsWith cfg maxsize window st).2.view <:+ st.view := by
  have s1 := attempt_suffix cfg hrs (.recvUntil [colon] window false) st
  simp only [attempt] at s1
  unfold readNsWith
  cases hq1 : recvUntil cfg [colon] window false st with
  | mk r1 st1 =>
  rw [hq1] at s1
  cases r1 with
  | closed | tooLong | timeout | fuel => exact s1
  | ok pre =>
    simp only
    cases parseSize pre with
    | none => exact s1
    | some size =>
      simp only
      split
      · exact s1
      · have s2 := (attempt_suffix cfg hrs (.recvSize size) st1).trans s1
        simp only [attempt] at s2
        cases hq2 : recvSize cfg size st1 with
        | mk r2 st2 =>
        rw [hq2] at s2
        cases r2 with
        | closed | tooLong | timeout | fuel => exact s2
        | ok payload =>
          simp only
          have s3 := (attempt_suffix cfg hrs (.recv 1) st2).trans s2
          simp only [attempt] at s3
          cases hq3 : recv cfg 1 st2 with
          | mk r3 st3 =>
          rw [hq3] at s3
          cases r3 with
          | closed | tooLong | timeout | fuel => exact s3
          | ok c => simp only; split <;> exact s3

theorem readNsWith_prefix_timeout_keeps (cfg : Cfg) (hrs : 0 < cfg.recvsize) (maxsize window : Nat) (st : St)
    (h : (recvUntil cfg [colon] window false st).1 = .timeout) :
    (readNsWith cfg maxsize window st).1 = .timeout ∧ (readNsWith cfg maxsize window st).2.view = st.view := by
  have e1 := attempt_conserves cfg hrs (.recvUntil [colon] window false) st
  simp only [attempt] at e1
  unfold readNsWith
  cases hq1 : recvUntil cfg [colon] window false st with
  | mk r1 st1 =>
  rw [hq1] at e1 h
  simp only at e1 h
  subst h
  simp only [NsRes.ofRes]
  exact ⟨trivial, by simpa [consumed] using e1⟩

/-- no operation looks at `cfg.maxsize`: every maxsize has been resolved into the `Op` -/
theorem attempt_cfg (rs m₁ m₂ : Nat) (op : Op) (st : St) :
    attempt ⟨rs, m₁⟩ op st = attempt ⟨rs, m₂⟩ op st := by
  cases op <;> rfl

theorem retryLoop_cfg (rs m₁ m₂ : Nat) (op : Op) : ∀ (fuel : Nat) (st : St),
    retryLoop ⟨rs, m₁⟩ op fuel st = retryLoop ⟨rs, m₂⟩ op fuel st := by
  intro fuel
  induction fuel with
  | zero => intro st; rfl
  | succ fuel ih =>
    intro st
    simp only [retryLoop]
    rw [attempt_cfg rs m₁ m₂ op st]
    cases hq : attempt ⟨rs, m₂⟩ op st with
    | mk r st' =>
      cases r <;> simp only
      exact ih st'

theorem callRetry_cfg (rs m₁ m₂ : Nat) (op : Op) (st : St) :
    callRetry ⟨rs, m₁⟩ op st = callRetry ⟨rs, m₂⟩ op st := by
  unfold callRetry
  exact retryLoop_cfg rs m₁ m₂ op _ st

theorem runRetry_cfg (rs m₁ m₂ : Nat) : ∀ (ops : List Op) (st : St),
    runRetry ⟨rs, m₁⟩ ops st = runRetry ⟨rs, m₂⟩ ops st := by
  intro ops
  induction ops with
  | nil => intro st; rfl
  | cons op ops ih =>
    intro st
    simp only [runRetry]
    rw [callRetry_cfg rs m₁ m₂ op st, ih]

theorem runCalls_eq (large : Nat) : ∀ (calls : List Call) (cfg : Cfg) (st : St),
    runCalls large cfg calls st = runRetry cfg (resolveCalls large cfg.maxsize calls) st := by
  intro calls
  induction calls with
  | nil => intro cfg st; rfl
  | cons c cs ih =>
    intro cfg st
    simp only [runCalls, resolveCalls]
    cases hop : c.op large cfg.maxsize with
    | some op =>
      simp only [runRetry]
      rw [ih cfg (callRetry cfg op st).2]
    | none =>
      simp only
      rw [ih]
      exact runRetry_cfg cfg.recvsize _ _ _ st

theorem Call.op_det {large selfMax : Nat} {c : Call} {op : Op} (hc : c.deterministic = true)
    (h : c.op large selfMax = some op) : op.deterministic = true := by
  cases c with
  | recv n => cases hc
  | setMaxsize n => cases h
  | peek _ | recvSize _ | recvUntil _ _ _ | recvClose _ => cases h; rfl

theorem resolveCalls_det (large : Nat) : ∀ (calls : List Call) (selfMax : Nat),
    (∀ c ∈ calls, c.deterministic = true) →
    ∀ op ∈ resolveCalls large selfMax calls, op.deterministic = true := by
  intro calls
  induction calls with
  | nil => intro _ _ op h; simp [resolveCalls] at h
  | cons c cs ih =>
    intro selfMax hall op hop
    have hcs : ∀ c' ∈ cs, c'.deterministic = true := fun c' h => hall c' (by simp [h])
    simp only [resolveCalls] at hop
    cases hc : c.op large selfMax with
    | none => rw [hc] at hop; exact ih _ hcs op hop
    | some o =>
      rw [hc] at hop
      rcases List.mem_cons.mp hop with h | h
      · exact h ▸ Call.op_det (hall c (by simp)) hc
      · exact ih _ hcs op h

def NsSock.WF (ns : NsSock) : Prop := ns.window = calcWindow ns.maxsize

theorem NsSock.init_wf (maxsize : Nat) : (NsSock.init maxsize).WF := rfl

/-- `setmaxsize` recomputes the window, whatever it was before -/
theorem NsSock.setMaxsize_wf (ns : NsSock) (maxsize : Nat) : (ns.setMaxsize maxsize).WF := rfl

theorem readNsWith_calc (cfg : Cfg) (m : Nat) (st : St) :
    readNsWith cfg m (calcWindow m) st = readNs cfg m st := rfl

theorem NsSock.readNs_eq (cfg : Cfg) (ns : NsSock) (h : ns.WF) (arg : Option Nat) (st : St) :
    ns.readNs cfg arg st = C12.readNs cfg (arg.getD ns.maxsize) st := by
  cases arg with
  | none => simp only [NsSock.readNs, Option.getD]; rw [h]; exact readNsWith_calc cfg ns.maxsize st
  | some m => exact readNsWith_calc cfg m st

theorem NsSock.readNsMany_eq (cfg : Cfg) (ns : NsSock) (h : ns.WF) (arg : Option Nat) :
    ∀ (k : Nat) (st : St),
    NsSock.readNsMany cfg ns arg k st = C12.readNsMany cfg (arg.getD ns.maxsize) k st := by
  intro k
  induction k with
  | zero => intro st; rfl
  | succ k ih =>
    intro st
    simp only [NsSock.readNsMany, C12.readNsMany]
    rw [NsSock.readNs_eq cfg ns h arg st, ih]

end C12
