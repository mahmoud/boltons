import BoltonsVerif.C12.Model
/-
C12, round 3 - the BufferedSocket as ONE object.

`Model.lean` has a receive-side state (`St`) and a send-side state (`SSt`) that never meet.  The real
object holds both buffers, one `maxsize`, one wrapped socket, and every public method is a method of that
one object.  `BSock` is that object; `DOp` is a public call as the caller writes it - any receive-side
`Call`, any send-side `SOp`, and `recv` / `send` with their `flags` argument (a non-zero value is refused
with ValueError before anything is touched: `if flags: raise ValueError(...)` sits in front of every
buffer access in `recv` and in front of `sbuf.append(data)` in `send`).

Fault classes.  A receive-side fault of the script is a `socket.timeout` of the wrapped socket, a passed
deadline (both surface as `Timeout`) or an OSError of the wrapped socket (passes through unchanged, after
the same buffer restoration).  The state transition is the same (`Ev.timeout`, `SEv.timeout`/`SEv.clock`);
the class the caller sees is the class of the *next unconsumed fault of that direction*.  `BSock` carries
those classes (`rtags`, `stags`), `dstep` hands them out, and `Duplex.lean` proves that the lists stay
aligned with the scripts (`tags_aligned`) - until round 2 this bookkeeping lived in the driver only.

`fsend` / `frun` is the flat specification of the send side: the send buffer is ONE byte string.  The
real `sbuf` is a list of byte strings that `send` joins; `Duplex.lean` shows that the list structure is
unobservable (`srun_flat`).
Core Lean only.
-/
namespace C12

/-- the exception class a fault surfaces as -/
inductive Fault where
  | timeout      -- boltons.socketutils.Timeout (socket.timeout of the wrapped socket, or the deadline)
  | osError      -- the wrapped socket's own OSError, passed through
deriving Repr, DecidableEq

/-- one BufferedSocket: constructor arguments, both buffers with the rest of both scripts, and the
    classes of the faults still ahead in each direction -/
structure BSock where
  cfg : Cfg
  rx : St
  tx : SSt
  rtags : List Fault
  stags : List Fault
deriving Repr

/-- a public call on the object -/
inductive DOp where
  | call (c : Call)                          -- recv / peek / recv_size / recv_until / recv_close / setmaxsize
  | recvFlags (size flags : Nat)             -- recv(size, flags)
  | sop (o : SOp)                            -- send / sendall, buffer, flush
  | sendFlags (data : Bytes) (flags : Nat)   -- send(data, flags) / sendall(data, flags)
deriving Repr, DecidableEq

/-- what the caller sees -/
inductive DOut where
  | rx (r : Option Res)      -- a receive-side call returned / raised ConnectionClosed / MessageTooLong;
                             -- `none` = setmaxsize returned None
  | tx (r : SRes)            -- a send-side call returned
  | fault (f : Fault)        -- Timeout, or the socket's OSError
  | valueError               -- non-zero flags
deriving Repr, DecidableEq

/-- the class of the next fault; a script with no fault left never asks (proved: `tags_aligned`) -/
def popTag : List Fault → Fault × List Fault
  | [] => (.timeout, [])
  | f :: fs => (f, fs)

/-- a receive-side call on the object -/
def dcall (large : Nat) (c : Call) (b : BSock) : DOut × BSock :=
  if (callAttempt large b.cfg c b.rx).1 = some .timeout then
    (.fault (popTag b.rtags).1,
     { b with cfg := (callAttempt large b.cfg c b.rx).2.1, rx := (callAttempt large b.cfg c b.rx).2.2,
              rtags := (popTag b.rtags).2 })
  else
    (.rx (callAttempt large b.cfg c b.rx).1,
     { b with cfg := (callAttempt large b.cfg c b.rx).2.1, rx := (callAttempt large b.cfg c b.rx).2.2 })

/-- a send-side call on the object -/
def dsop (o : SOp) (b : BSock) : DOut × BSock :=
  if (sstep o b.tx).1 = .timeout then
    (.fault (popTag b.stags).1, { b with tx := (sstep o b.tx).2, stags := (popTag b.stags).2 })
  else (.tx (sstep o b.tx).1, { b with tx := (sstep o b.tx).2 })

def dstep (large : Nat) (op : DOp) (b : BSock) : DOut × BSock :=
  match op with
  | .call c => dcall large c b
  | .recvFlags size flags => if flags ≠ 0 then (.valueError, b) else dcall large (.recv size) b
  | .sop o => dsop o b
  | .sendFlags data flags => if flags ≠ 0 then (.valueError, b) else dsop (.send data) b

/-- a history of public calls, one attempt each; every call with what the caller saw -/
def drun (large : Nat) : List DOp → BSock → List (DOp × DOut) × BSock
  | [], b => ([], b)
  | op :: ops, b =>
    let (o, b') := dstep large op b
    let (rs, b'') := drun large ops b'
    ((op, o) :: rs, b'')

def DOp.isRx : DOp → Bool
  | .call _ => true
  | .recvFlags _ _ => true
  | _ => false

def DOp.isTx (op : DOp) : Bool := !op.isRx

/-- what the receive side of the object amounts to: everything but the send buffer, the wire, the send
    script and its fault classes -/
def BSock.rxPart (b : BSock) : Cfg × St × List Fault := (b.cfg, b.rx, b.rtags)

def BSock.txPart (b : BSock) : SSt × List Fault := (b.tx, b.stags)

/-- bytes a call handed to the caller -/
def DOp.consumed : DOp → DOut → Nat → Nat → Bytes
  | .call c, .rx (some r), large, selfMax =>
    match c.op large selfMax with
    | some op => C12.consumed op r
    | none => []
  | .recvFlags _ _, .rx (some (.ok bs)), _, _ => bs
  | _, _, _, _ => []

/-- bytes the caller handed to the object with a call (nothing when the call was refused) -/
def DOp.accepted : DOp → DOut → Bytes
  | _, .valueError => []
  | .sop o, _ => o.data
  | .sendFlags d _, _ => d
  | _, _ => []

/-! ## flat specification of the send side -/

/-- send side with the buffer as one byte string -/
structure FSt where
  buf : Bytes
  wire : Bytes
  script : List SEv
deriving Repr, DecidableEq

/-- what the loop of `send` does to one byte string under a script: the prefix that goes out, the
    outcome, and the script that is left.  Written directly (no `sbuf` list, no running total). -/
def deliver : List SEv → Bytes → Bool × Bytes × Bytes × List SEv     -- (timed out?, sent, unsent, rest)
  | script, [] => (false, [], [], script)
  | [], b :: buf => (false, b :: buf, [], [])
  | .timeout :: r, b :: buf => (true, [], b :: buf, r)
  | .clock :: r, b :: buf => (true, [], b :: buf, r)
  | .accept k :: .clock :: r, b :: buf => (true, (b :: buf).take k, (b :: buf).drop k, r)
  | .accept k :: r, b :: buf =>
    match deliver r ((b :: buf).drop k) with
    | (t, sent, unsent, rest) => (t, (b :: buf).take k ++ sent, unsent, rest)

def fsend (data : Bytes) (st : FSt) : SRes × FSt :=
  ((if (deliver st.script (st.buf ++ data)).1 then SRes.timeout
    else SRes.sent (deliver st.script (st.buf ++ data)).2.1.length),
   ⟨(deliver st.script (st.buf ++ data)).2.2.1, st.wire ++ (deliver st.script (st.buf ++ data)).2.1,
    (deliver st.script (st.buf ++ data)).2.2.2⟩)

def fstep (op : SOp) (st : FSt) : SRes × FSt :=
  match op with
  | .send d => fsend d st
  | .buffer d => (.none, { st with buf := st.buf ++ d })
  | .flush =>
    match fsend [] st with
    | (.sent _, st') => (.none, st')
    | other => other

def frun : List SOp → FSt → List (SRes × Bytes × Bytes) × FSt
  | [], st => ([], st)
  | op :: ops, st =>
    let (r, st') := fstep op st
    let (rs, st'') := frun ops st'
    ((r, st'.buf, st'.wire) :: rs, st'')

/-- the flat view of a concrete send-side state -/
def SSt.flat (st : SSt) : FSt := ⟨st.getsendbuffer, st.wire, st.script⟩

/-- what the caller can observe after each call: result, getsendbuffer(), the wire -/
def sobs (recs : List (SRes × SSt)) : List (SRes × Bytes × Bytes) :=
  recs.map fun p => (p.1, p.2.getsendbuffer, p.2.wire)

/-! ## the caller's read loop over `recv`; `recv_size` / `read_ns` with the size as a Python `int` -/

/-- the caller's read loop over `recv(size)`:
    `while True: try: d = recv(size) / except Timeout: continue / if not d: break / out += d` -/
def drain (cfg : Cfg) (size : Nat) : Nat → St → Bytes × St
  | 0, st => ([], st)
  | fuel + 1, st =>
    match recv cfg size st with
    | (.ok [], st') => ([], st')
    | (.ok (b :: v), st') => (b :: v ++ (drain cfg size fuel st').1, (drain cfg size fuel st').2)
    | (_, st') => drain cfg size fuel st'

/-! ### recv_size with the size Python really passes: an `int`, possibly negative -/

/-- Python's `nxt[:-extra]` for `extra > 0`: a negative stop index counts from the end and is clamped at 0 -/
def pyDropLast (extra : Nat) (nxt : Bytes) : Bytes := nxt.take (nxt.length - extra)

/-- Python's `nxt[-extra:]` for `extra > 0` -/
def pyLast (extra : Nat) (nxt : Bytes) : Bytes := nxt.drop (nxt.length - extra)

/-- the `while nxt:` loop of `recv_size` with `size : Int`: `total_bytes >= size` is an integer comparison and
    `extra_bytes = total_bytes - size` may exceed `len(nxt)` -/
def recvSizeLoopI (recvsize : Nat) (size : Int) : Nat → Bytes → Nat → Bytes → List Ev → Res × St
  | 0, acc, _, _, script => (.fuel, ⟨acc, script⟩)
  | fuel + 1, acc, total, nxt, script =>
    if nxt = [] then (.closed, ⟨acc, script⟩)
    else
      let total' := total + nxt.length
      if (total' : Int) ≥ size then
        let extra := ((total' : Int) - size).toNat
        if extra ≠ 0 then (.ok (acc ++ pyDropLast extra nxt), ⟨pyLast extra nxt, script⟩)
        else (.ok (acc ++ nxt), ⟨[], script⟩)
      else match sockRecv recvsize script with
        | .timeout r => (.timeout, ⟨acc ++ nxt, r⟩)
        | .data d r => recvSizeLoopI recvsize size fuel (acc ++ nxt) total' d r

def recvSizeI (cfg : Cfg) (size : Int) (st : St) : Res × St :=
  if st.rbuf ≠ [] then
    recvSizeLoopI cfg.recvsize size (measure st.script + 2) [] 0 st.rbuf st.script
  else match sockRecv cfg.recvsize st.script with
    | .timeout r => (.timeout, ⟨[], r⟩)
    | .data d r => recvSizeLoopI cfg.recvsize size (measure r + 2) [] 0 d r

/-- `read_ns` with the size as the Python `int` that `int(size_prefix)` returns -/
def readNsI (cfg : Cfg) (maxsize window : Nat) (st : St) : NsRes × St :=
  match recvUntil cfg [colon] window false st with
  | (.ok prefix_, st1) =>
    match parsePyInt prefix_ with
    | none => (.invalidSize, st1)
    | some size =>
      if size > (maxsize : Int) then (.nsTooLong, st1)
      else match recvSizeI cfg size st1 with
        | (.ok payload, st2) =>
          match recv cfg 1 st2 with
          | (.ok c, st3) => if c = [comma] then (.ok payload, st3) else (.protocolError, st3)
          | (r, st3) => (NsRes.ofRes r, st3)
        | (r, st2) => (NsRes.ofRes r, st2)
  | (r, st1) => (NsRes.ofRes r, st1)

/-- `read_ns(maxsize=arg)` on a configured NetstringSocket, the size kept as the `int` Python computes -/
def NsSock.readNsI (cfg : Cfg) (ns : NsSock) (arg : Option Nat) (st : St) : NsRes × St :=
  match arg with
  | none => C12.readNsI cfg ns.maxsize ns.window st
  | some m => C12.readNsI cfg m (calcWindow m) st

def NsSock.readNsManyI (cfg : Cfg) (ns : NsSock) (arg : Option Nat) : Nat → St → List NsRes × St
  | 0, st => ([], st)
  | k + 1, st =>
    let (r, st') := ns.readNsI cfg arg st
    let (rs, st'') := NsSock.readNsManyI cfg ns arg k st'
    (r :: rs, st'')

end C12
