import BoltonsVerif.C12.Model4
/-
C12 — the send side: `send` / `sendall`, `buffer`, `flush`, `write_ns`.

Every law is proved for the loop with the offers as a parameter (`sendLoopA`, Model4.lean); `sendLoopA [] = sendLoop`
by definition, so `send`, `flush`, `sstep`, `writeNs` are the instances `[]` of `sendA`, `flushA`, `sstepA`, `writeNsA`
(`sendA_nil`, `flushA_nil`, `sstepA_nil`, `writeNsA_nil`).
-/
namespace C12

def SRes.isTO : SRes → Nat
  | .timeout => 1
  | _ => 0

theorem popClock_nSF {s r : List SEv} (h : popClock s = some r) : nSF r + 1 = nSF s := by
  cases s with
  | nil => simp [popClock] at h
  | cons e s =>
    cases e <;> simp [popClock] at h
    subst h; simp [nSF]

theorem nSF_le_length (s : List SEv) : nSF s ≤ s.length := by
  induction s with
  | nil => simp [nSF]
  | cons e s ih => cases e <;> simp only [nSF, List.length_cons] <;> omega

/-- invariant of the send loop on `buf`, `total` bytes counted and `wire` out before it (`ne_none`: so that `flush` can
    tell a returning `send` from a Timeout) -/
structure SendOK (script : List SEv) (buf : Bytes) (total : Nat) (wire : Bytes) (out : SRes × SSt) : Prop where
  conserves : out.2.wire ++ out.2.getsendbuffer = wire ++ buf
  wire_grows : wire <+: out.2.wire
  ne_none : out.1 ≠ .none
  returned : ∀ n, out.1 = .sent n → out.2.getsendbuffer = [] ∧ out.2.wire = wire ++ buf ∧ n = total + buf.length
  faults : nSF out.2.script + out.1.isTO = nSF script

theorem SendOK.all_sent {script r : List SEv} {buf : Bytes} {total : Nat} {wire : Bytes} (hs : nSF r = nSF script) :
    SendOK script buf total wire (.sent (total + buf.length), ⟨[[]], wire ++ buf, r⟩) :=
  ⟨by simp [SSt.getsendbuffer], List.prefix_append _ _, nofun, fun _ hn => ⟨rfl, rfl, (SRes.sent.inj hn).symm⟩, hs⟩

theorem SendOK.timeout {script r : List SEv} {buf : Bytes} {total : Nat} {wire : Bytes} (k : Nat)
    (hs : nSF r + 1 = nSF script) :
    SendOK script buf total wire (.timeout, ⟨[buf.drop k], wire ++ buf.take k, r⟩) :=
  ⟨by simp [SSt.getsendbuffer, List.append_assoc], List.prefix_append _ _, nofun, nofun, hs⟩

theorem SendOK.step {script r : List SEv} {buf : Bytes} {total : Nat} {wire : Bytes} (k : Nat) {out : SRes × SSt}
    (hs : nSF r = nSF script)
    (h : SendOK r (buf.drop k) (total + min k buf.length) (wire ++ buf.take k) out) :
    SendOK script buf total wire out := by
  have e : wire ++ buf.take k ++ buf.drop k = wire ++ buf := by rw [List.append_assoc, List.take_append_drop]
  refine ⟨h.conserves.trans e, (List.prefix_append _ _).trans h.wire_grows, h.ne_none, fun n hn => ?_, hs ▸ h.faults⟩
  obtain ⟨a, b, c⟩ := h.returned n hn
  refine ⟨a, b.trans e, ?_⟩
  rw [c, List.length_drop]
  omega

theorem sendLoop_ok : ∀ (script : List SEv) (buf : Bytes) (total : Nat) (wire : Bytes),
    SendOK script buf total wire (sendLoop script buf total wire) := by
  intro script
  induction script with
  | nil =>
    intro buf total wire
    cases buf with
    | nil => simpa [sendLoop] using SendOK.all_sent (script := []) (buf := []) (total := total) (wire := wire) rfl
    | cons b buf => exact SendOK.all_sent rfl
  | cons e script ih =>
    intro buf total wire
    cases buf with
    | nil => simpa [sendLoop] using SendOK.all_sent (script := e :: script) (buf := []) (total := total) (wire := wire) rfl
    | cons b buf =>
      cases e with
      | timeout | clock => simpa [sendLoop] using SendOK.timeout (buf := b :: buf) (total := total) (wire := wire) 0 rfl
      | accept k =>
        simp only [sendLoop]
        cases hp : popClock script with
        | some r' =>
          have hr := popClock_nSF hp
          exact SendOK.timeout k hr
        | none => exact SendOK.step (r := script) k rfl (ih _ _ _)

theorem sendLoopA_ok : ∀ (offers : List Nat) (script : List SEv) (buf : Bytes) (total : Nat) (wire : Bytes),
    SendOK script buf total wire (sendLoopA offers script buf total wire) := by
  intro offers
  induction offers with
  | nil =>
    intro script buf total wire
    rw [sendLoopA]
    exact sendLoop_ok script buf total wire
  | cons m ms ih =>
    intro script buf total wire
    cases buf with
    | nil => simpa [sendLoopA] using SendOK.all_sent (script := script) (buf := []) (total := total) (wire := wire) rfl
    | cons b buf =>
      cases script with
      | nil => exact SendOK.step m rfl (ih _ _ _ _)
      | cons e script =>
        cases e with
        | timeout | clock => simpa [sendLoopA] using SendOK.timeout (buf := b :: buf) (total := total) (wire := wire) 0 rfl
        | accept k =>
          simp only [sendLoopA]
          cases hp : popClock script with
          | some r' =>
            have hr := popClock_nSF hp
            exact SendOK.timeout (min m k) hr
          | none => exact SendOK.step (r := script) (min m k) rfl (ih _ _ _ _)

theorem flatten_filter_isNonEmpty (L : List Bytes) : (L.filter isNonEmpty).flatten = L.flatten := by
  have : isNonEmpty = fun b => !b.isEmpty := funext fun b => by cases b <;> rfl
  rw [this, List.flatten_filter_not_isEmpty]

theorem sendA_eq_sendLoopA (offers : List Nat) (data : Bytes) (st : SSt) :
    sendA offers data st = sendLoopA offers st.script (st.getsendbuffer ++ data) 0 st.wire := by
  unfold sendA
  simp only [SSt.getsendbuffer]
  by_cases hl : (st.sbuf ++ [data]).length > 1
  · simp only [hl, ↓reduceIte, List.append_nil]
    rw [flatten_filter_isNonEmpty]
    simp
  · simp only [hl, ↓reduceIte]
    have hs : st.sbuf = [] := by
      simp only [List.length_append, List.length_cons, List.length_nil] at hl
      have : st.sbuf.length = 0 := by omega
      exact List.length_eq_zero_iff.mp this
    simp [hs]

theorem sendA_ok (offers : List Nat) (data : Bytes) (st : SSt) :
    SendOK st.script (st.getsendbuffer ++ data) 0 st.wire (sendA offers data st) :=
  sendA_eq_sendLoopA offers data st ▸ sendLoopA_ok offers st.script (st.getsendbuffer ++ data) 0 st.wire

theorem sendA_return {offers : List Nat} {data : Bytes} {st : SSt} {n : Nat} (h : (sendA offers data st).1 = .sent n) :
    (sendA offers data st).2.getsendbuffer = [] ∧
    (sendA offers data st).2.wire = st.wire ++ st.getsendbuffer ++ data ∧
    n = st.getsendbuffer.length + data.length := by
  obtain ⟨a, b, c⟩ := (sendA_ok offers data st).returned n h
  exact ⟨a, by rw [b, List.append_assoc], by rw [c, List.length_append, Nat.zero_add]⟩

/-- what every send-side call does with the `data` it takes in -/
structure TxOK (data : Bytes) (st : SSt) (out : SRes × SSt) : Prop where
  conserves : out.2.wire ++ out.2.getsendbuffer = st.wire ++ st.getsendbuffer ++ data
  wire_grows : st.wire <+: out.2.wire
  faults : nSF out.2.script + out.1.isTO = nSF st.script

theorem SendOK.txOK {data : Bytes} {st : SSt} {total : Nat} {out : SRes × SSt}
    (h : SendOK st.script (st.getsendbuffer ++ data) total st.wire out) : TxOK data st out :=
  ⟨by rw [h.conserves, List.append_assoc], h.wire_grows, h.faults⟩

structure FlushOK (st : SSt) (out : SRes × SSt) : Prop extends TxOK [] st out where
  done : out.1 = .none → out.2.getsendbuffer = []
  res : out.1 = .none ∨ out.1 = .timeout

theorem flushA_ok (offers : List Nat) (st : SSt) : FlushOK st (flushA offers st) := by
  have h := sendA_ok offers [] st
  unfold flushA
  cases hq : sendA offers [] st with
  | mk r st' =>
    rw [hq] at h
    cases r with
    | sent n => exact ⟨⟨h.txOK.conserves, h.wire_grows, h.faults⟩, fun _ => (h.returned n rfl).1, .inl rfl⟩
    | none => exact absurd rfl h.ne_none
    | timeout => exact ⟨h.txOK, nofun, .inr rfl⟩

theorem sstepA_ok (offers : List Nat) (op : SOp) (st : SSt) : TxOK op.data st (sstepA offers op st) := by
  cases op with
  | send d => exact (sendA_ok offers d st).txOK
  | buffer d => exact ⟨by simp [sstepA, buffer, SSt.getsendbuffer, SOp.data], List.prefix_refl _, rfl⟩
  | flush => exact (flushA_ok offers st).toTxOK

theorem sendA_nil (data : Bytes) (st : SSt) : sendA [] data st = send data st := rfl

theorem flushA_nil (st : SSt) : flushA [] st = flush st := rfl

theorem sstepA_nil (op : SOp) (st : SSt) : sstepA [] op st = sstep op st := by
  cases op <;> rfl

theorem writeNsA_nil (maxsize : Nat) (p : Bytes) (st : SSt) : writeNsA [] maxsize p st = writeNs maxsize p st := rfl

theorem flush_ok (st : SSt) : FlushOK st (flush st) := flushA_nil st ▸ flushA_ok [] st

theorem srunA_conserves : ∀ (ops : List (List Nat × SOp)) (st : SSt),
    (srunA ops st).2.wire ++ (srunA ops st).2.getsendbuffer
      = st.wire ++ st.getsendbuffer ++ (ops.map (fun p => p.2.data)).flatten ∧
    st.wire <+: (srunA ops st).2.wire := by
  intro ops
  induction ops with
  | nil => intro st; simp [srunA]
  | cons p ops ih =>
    intro st
    obtain ⟨offers, op⟩ := p
    have h := sstepA_ok offers op st
    obtain ⟨h3, h4⟩ := ih (sstepA offers op st).2
    simp only [srunA]
    refine ⟨?_, h.wire_grows.trans h4⟩
    rw [h3, h.conserves]
    simp

theorem srunA_nil : ∀ (ops : List SOp) (st : SSt), srunA (ops.map fun op => ([], op)) st = srun ops st := by
  intro ops
  induction ops with
  | nil => intro st; rfl
  | cons op ops ih => intro st; simp only [List.map_cons, srunA, srun, sstepA_nil, ih]

theorem srun_conserves (ops : List SOp) (st : SSt) :
    (srun ops st).2.wire ++ (srun ops st).2.getsendbuffer = st.wire ++ st.getsendbuffer ++ (ops.map SOp.data).flatten ∧
    st.wire <+: (srun ops st).2.wire := by
  have h := srunA_conserves (ops.map fun op => ([], op)) st
  rw [srunA_nil] at h
  simpa [Function.comp_def] using h

theorem flush_idle (st : SSt) (h : st.getsendbuffer = []) :
    (flush st).2.getsendbuffer = [] ∧ (flush st).2.wire = st.wire := by
  -- the new wire is the old one and `t` more; with the new buffer behind it, it is the old one: both additions are empty
  have h1 := (flush_ok st).conserves
  obtain ⟨t, ht⟩ := (flush_ok st).wire_grows
  rw [h, List.append_nil, List.append_nil, ← ht, List.append_assoc, List.append_right_eq_self,
    List.append_eq_nil_iff] at h1
  exact ⟨h1.2, by rw [← ht, h1.1, List.append_nil]⟩

theorem flushN_idle : ∀ (k : Nat) (st : SSt), st.getsendbuffer = [] →
    (flushN k st).getsendbuffer = [] ∧ (flushN k st).wire = st.wire := by
  intro k
  induction k with
  | zero => intro st h; exact ⟨h, rfl⟩
  | succ k ih =>
    intro st h
    obtain ⟨a, b⟩ := flush_idle st h
    obtain ⟨c, d⟩ := ih (flush st).2 a
    simp only [flushN]
    exact ⟨c, by rw [d, b]⟩

theorem flushN_conserves : ∀ (k : Nat) (st : SSt),
    (flushN k st).wire ++ (flushN k st).getsendbuffer = st.wire ++ st.getsendbuffer := by
  intro k
  induction k with
  | zero => intro st; rfl
  | succ k ih =>
    intro st
    simp only [flushN]
    rw [ih, (flush_ok st).conserves, List.append_nil]

/-- every Timeout uses up one fault of the script, so one flush more than there are faults always gets through -/
theorem flushN_done : ∀ (k : Nat) (st : SSt), nSF st.script < k → (flushN k st).getsendbuffer = [] := by
  intro k
  induction k with
  | zero => intro st h; omega
  | succ k ih =>
    intro st h
    have hf := flush_ok st
    simp only [flushN]
    rcases hf.res with h4 | h4
    · exact (flushN_idle k _ (hf.done h4)).1
    · have h5 := hf.faults
      rw [h4] at h5
      exact ih _ (by simp only [SRes.isTO] at h5; omega)

/-- what `write_ns` does: the frame goes behind what was accepted before, or nothing when the payload is too long -/
structure WriteNsOK (maxsize : Nat) (p : Bytes) (st : SSt) (out : NsWRes × SSt) : Prop where
  conserves : out.2.wire ++ out.2.getsendbuffer
    = st.wire ++ st.getsendbuffer ++ (if p.length ≤ maxsize then encodeNs p else [])
  ok : out.1 = .ok → p.length ≤ maxsize ∧ out.2.getsendbuffer = []
  tooLong_iff : out.1 = .nsTooLong ↔ maxsize < p.length
  faults_le : nSF out.2.script ≤ nSF st.script

theorem writeNsA_ok (offers : List Nat) (maxsize : Nat) (p : Bytes) (st : SSt) :
    WriteNsOK maxsize p st (writeNsA offers maxsize p st) := by
  unfold writeNsA
  split
  · rename_i h
    have : ¬ p.length ≤ maxsize := by omega
    exact ⟨by simp [this], nofun, by simpa using h, Nat.le_refl _⟩
  · rename_i h
    have hle : p.length ≤ maxsize := by omega
    have hs := sendA_ok offers (encodeNs p) st
    cases hq : sendA offers (encodeNs p) st with
    | mk r st' =>
      rw [hq] at hs
      have h1 : st'.wire ++ st'.getsendbuffer
          = st.wire ++ st.getsendbuffer ++ (if p.length ≤ maxsize then encodeNs p else []) := by
        rw [if_pos hle]; exact hs.txOK.conserves
      have h5 : nSF st'.script ≤ nSF st.script := Nat.le_of_add_right_le (Nat.le_of_eq hs.faults)
      cases r with
      | timeout => exact ⟨h1, nofun, by simp; omega, h5⟩
      | none => exact absurd rfl hs.ne_none
      | sent n => exact ⟨h1, fun _ => ⟨hle, (hs.returned n rfl).1⟩, by simp; omega, h5⟩

theorem writeMany_conserves (maxsize : Nat) : ∀ (ps : List Bytes) (st : SSt),
    (∀ p ∈ ps, p.length ≤ maxsize) →
    (writeMany maxsize ps st).wire ++ (writeMany maxsize ps st).getsendbuffer
      = st.wire ++ st.getsendbuffer ++ (ps.map encodeNs).flatten ∧
    nSF (writeMany maxsize ps st).script ≤ nSF st.script := by
  intro ps
  induction ps with
  | nil => intro st _; simp [writeMany]
  | cons p ps ih =>
    intro st hall
    have h := writeNsA_nil maxsize p st ▸ writeNsA_ok [] maxsize p st
    have h1 := h.conserves
    rw [if_pos (hall p (by simp))] at h1
    obtain ⟨h2, h3⟩ := ih (writeNs maxsize p st).2 (fun q hq => hall q (by simp [hq]))
    simp only [writeMany]
    refine ⟨?_, Nat.le_trans h3 h.faults_le⟩
    rw [h2, h1]
    simp

end C12
