import BoltonsVerif.Generated.Src_socketutils
import BoltonsVerif.C12.Model
import BoltonsVerif.C12.Proofs
import BoltonsVerif.C12.SendSide
import BoltonsVerif.Generated.C12_Consts
/-
C12 — source tie: the methods of `boltons.socketutils.BufferedSocket`, regenerated from the Python source on every
run (`harness/py2lean_c12.py` → `Generated/Src_socketutils.lean`, runtime `PyRtC12.lean`), do what the hand model
(`C12/Model.lean`) says, on the scripted network the model consumes.

The generated definitions are parametric in `PyRtC12.Net W φ` (wrapped socket + clock + float operations).  `mnet J` instantiates
it with the model's world: the receive script of `C12.Ev`, refined by the KIND of each fault (`NEv`: a `socket.timeout` of the
socket, the wall clock passing the deadline, another `OSError` of the socket) - the model's `Ev.timeout` stands for all three
(Model.lean header, Model3.lean `Fault`).  The clock is a function of socket events, as in the harness (`FakeClock`): a socket
call that returns normally and leaves a `deadline` event at the head of the script makes the clock jump by `J` (`late`); the next
deadline check of the code then fires, or - if the code goes back to the socket instead - the socket times out and pops the event.
Floats are `Int` here (`φ := Int`); the timeouts the theorems speak about are `None`, `0` (non-blocking) or `0 < t ≤ J`.
-/
namespace C12
open PyRtC12 Src.socketutils

attribute [local simp] Blk.seq Blk.assign Blk.call Blk.callm Blk.ite Blk.skip Blk.brk Blk.raise Blk.ret Blk.tryExcept

/-- a receive-script event with the kind of fault it is -/
inductive NEv where
  | chunk (bs : Bytes)
  | sockTimeout            -- the wrapped socket raises `socket.timeout`
  | deadline               -- the wall clock passes the deadline
  | osError (tag : Nat)    -- the wrapped socket raises another `OSError`
deriving Repr, DecidableEq

/-- the model's view of an event: every fault is `Ev.timeout` -/
def NEv.ev : NEv → Ev
  | .chunk bs => .chunk bs
  | _ => .timeout

/-- the model's script -/
def er (s : List NEv) : List Ev := s.map NEv.ev

/-- the world: the rest of the script, and whether the clock has jumped past the deadline -/
structure NW where
  script : List NEv
  late : Bool
deriving Repr

def isDeadline : List NEv → Bool
  | .deadline :: _ => true
  | _ => false

/-- `sock.recv(n)` on the refined script (cf. `C12.sockRecv`, harness `FakeSock.recv`) -/
def netRecv (n : Nat) : List NEv → Except Exc PyRtC12.Bytes × NW
  | [] => (.ok [], ⟨[], false⟩)
  | .sockTimeout :: r => (.error .sockTimeout, ⟨r, false⟩)
  | .deadline :: r => (.error .sockTimeout, ⟨r, false⟩)        -- a recv that finds the deadline passed times out too
  | .osError t :: r => (.error (.osError t), ⟨r, false⟩)
  | .chunk bs :: r =>
    if bs = [] then netRecv n r
    else if bs.length ≤ n then (.ok bs, ⟨r, isDeadline r⟩)
    else (.ok (bs.take n), ⟨.chunk (bs.drop n) :: r, false⟩)

/-- the model's network as an instance of the operations the generated code calls -/
def mnet (J : Int) : Net NW Int where
  recv := fun n w => netRecv n.toNat w.script
  settimeout := fun _ w => (.ok (), w)
  send := fun d w => (.ok (d.length : Int), w)
  time := fun w => (.ok (if w.late then J else 0), w)
  fsub := fun a b => a - b
  fle := fun a b => decide (a ≤ b)
  fzero := 0
  ftruthy := fun a => decide (a ≠ 0)

theorem mnet_recv (J : Int) (n : Int) (w : NW) : (mnet J).recv n w = netRecv n.toNat w.script := rfl
theorem mnet_settimeout (J : Int) (t : Option Int) (w : NW) : (mnet J).settimeout t w = (.ok (), w) := rfl
theorem mnet_time (J : Int) (w : NW) : (mnet J).time w = (.ok (if w.late then J else 0), w) := rfl
theorem mnet_fsub (J a b : Int) : (mnet J).fsub a b = a - b := rfl
theorem mnet_fle (J a b : Int) : (mnet J).fle a b = decide (a ≤ b) := rfl
theorem mnet_fzero (J : Int) : (mnet J).fzero = 0 := rfl
theorem mnet_truthy_none (J : Int) : (mnet J).truthyOpt none = false := rfl
theorem mnet_truthy_some (J t : Int) : (mnet J).truthyOpt (some t) = decide (t ≠ 0) := rfl

/-- the timeouts covered: `None`, `0` (non-blocking), or a positive one the clock's jump exceeds -/
def TOk (J : Int) : Option Int → Prop
  | none => True
  | some t => 0 ≤ t ∧ t ≤ J

/-- the exception the first fault of a script surfaces as at the wrapped socket -/
def rawFault : List NEv → Exc
  | [] => .sockTimeout
  | .chunk _ :: r => rawFault r
  | .osError t :: _ => .osError t
  | _ :: _ => .sockTimeout

/-- … and at the caller of the BufferedSocket: `Timeout`, or the socket's own `OSError` passed through -/
def callerFault : List NEv → Exc
  | [] => .timeout
  | .chunk _ :: r => callerFault r
  | .osError t :: _ => .osError t
  | _ :: _ => .timeout

/-- the clock is late only while a `deadline` event is at the head of the script -/
def NW.LateAtDeadline (w : NW) : Prop := w.late = true → isDeadline w.script = true

/-- the script the model is left with: a deadline event whose check fired (the call ended in a fault while the clock was
    late) is used up by that fault (harness: `FakeClock.end_call`) -/
def settle (w : NW) : List NEv := if w.late then w.script.tail else w.script

theorem netRecv_spec (n : Nat) : ∀ (s : List NEv),
    match sockRecv n (er s) with
    | .data d r => ∃ w', netRecv n s = (.ok d, w') ∧ er w'.script = r ∧ w'.LateAtDeadline ∧
        (rawFault w'.script = rawFault s ∧ callerFault w'.script = callerFault s)
    | .timeout r => ∃ w', netRecv n s = (.error (rawFault s), w') ∧ er w'.script = r ∧ w'.late = false := by
  intro s
  induction s with
  | nil => simp [er, sockRecv, netRecv, NW.LateAtDeadline]
  | cons e r ih =>
    cases e with
    | chunk bs =>
      by_cases hb : bs = []
      · subst hb
        simpa [er, sockRecv, netRecv, NEv.ev, rawFault, callerFault] using ih
      · by_cases hl : bs.length ≤ n
        · simp [er, sockRecv, netRecv, NEv.ev, hb, hl, NW.LateAtDeadline, rawFault, callerFault]
        · simp [er, sockRecv, netRecv, NEv.ev, hb, hl, NW.LateAtDeadline, rawFault, callerFault]
    | sockTimeout => simp [er, sockRecv, netRecv, NEv.ev, rawFault]
    | deadline => simp [er, sockRecv, netRecv, NEv.ev, rawFault]
    | osError t => simp [er, sockRecv, netRecv, NEv.ev, rawFault]

/-- the exception a fault shows up as INSIDE a method before its handlers run: what the socket raised, or - for a
    `socket.timeout` - any class the `except socket.timeout` clause catches all the same (the module's `Timeout`) -/
def FaultAs (flt e : Exc) : Prop := e = flt ∨ (flt = .sockTimeout ∧ e = .timeout)

abbrev RsFr := Fr (BufferedSocket.St Int) (BufferedSocket.recv_size.L Int) NW

/-- what the result of the model's loop says about the outcome of the generated loop started with object state `self0`
    and a script whose first fault surfaces as `flt` -/
def RsLoopPost (self0 : BufferedSocket.St Int) (flt : Exc) (mr : Res × St) (o : Out PyRtC12.Bytes × RsFr) : Prop :=
  o.2.self = self0 ∧
  match mr.1 with
  | .fuel => o.1 = .exc .outOfFuel
  | .tooLong => False
  | .closed => o.1 = .exc .connectionClosed ∧ join o.2.loc.chunks = mr.2.rbuf ∧ er o.2.w.script = mr.2.script
  | .timeout => (∃ e, o.1 = .exc e ∧ FaultAs flt e) ∧ join o.2.loc.chunks = mr.2.rbuf ∧ er (settle o.2.w) = mr.2.script
  | .ok bs => o.1 = .next ∧ er o.2.w.script = mr.2.script ∧
      bs = join o.2.loc.chunks ++
        (if o.2.loc.total_bytes - o.2.loc.size ≠ 0 then sliceTo o.2.loc.nxt (-(o.2.loc.total_bytes - o.2.loc.size)) else o.2.loc.nxt) ∧
      mr.2.rbuf = (if o.2.loc.total_bytes - o.2.loc.size ≠ 0 then sliceFrom o.2.loc.nxt (-(o.2.loc.total_bytes - o.2.loc.size)) else [])

theorem normIdx_neg (n e : Nat) (he : 0 < e) : normIdx n (-(e : Int)) = n - e := by
  unfold normIdx
  have : (-(e : Int)) < 0 := by omega
  simp only [this, if_true]
  omega

theorem normIdx_nat (n k : Nat) : normIdx n (k : Int) = min k n := by
  unfold normIdx
  have : ¬ ((k : Int) < 0) := by omega
  simp [this]

theorem sliceTo_neg (b : PyRtC12.Bytes) (e : Nat) (he : 0 < e) : sliceTo b (-(e : Int)) = b.take (b.length - e) := by
  rw [sliceTo, normIdx_neg _ _ he]

theorem sliceFrom_neg (b : PyRtC12.Bytes) (e : Nat) (he : 0 < e) : sliceFrom b (-(e : Int)) = b.drop (b.length - e) := by
  rw [sliceFrom, normIdx_neg _ _ he]

theorem sliceTo_nat (b : PyRtC12.Bytes) (k : Nat) : sliceTo b (k : Int) = b.take k := by
  rw [sliceTo, normIdx_nat, List.take_eq_take_iff]
  omega

theorem sliceFrom_nat (b : PyRtC12.Bytes) (k : Nat) : sliceFrom b (k : Int) = b.drop k := by
  rw [sliceFrom, normIdx_nat, List.drop_eq_drop_iff]
  omega

theorem join_snoc (l : List PyRtC12.Bytes) (x : PyRtC12.Bytes) : join (l ++ [x]) = join l ++ x := by
  simp [join]

theorem isDeadline_cons {s : List NEv} (h : isDeadline s = true) : ∃ r, s = .deadline :: r := by
  cases s with
  | nil => simp [isDeadline] at h
  | cons e r => cases e <;> simp [isDeadline] at h; exact ⟨r, rfl⟩

/-- the three situations the deadline check in front of a `sock.recv` can be in -/
theorem deadline_cases {J : Int} {tmo : Option Int} (hto : TOk J tmo) {w : NW} (hw : w.LateAtDeadline) :
    (∃ t r, tmo = some t ∧ t ≠ 0 ∧ t - J ≤ 0 ∧ w.late = true ∧ w.script = .deadline :: r) ∨
    (mnet J).truthyOpt tmo = false ∨
    (∃ t, tmo = some t ∧ t ≠ 0 ∧ ¬ t ≤ 0 ∧ w.late = false) := by
  cases tmo with
  | none => exact Or.inr (Or.inl rfl)
  | some t =>
    by_cases ht0 : t = 0
    · exact Or.inr (Or.inl (by simp [mnet_truthy_some, ht0]))
    · have h0 := hto.1
      have hJ := hto.2
      cases hl : w.late with
      | false => exact Or.inr (Or.inr ⟨t, rfl, ht0, by omega, rfl⟩)
      | true =>
        obtain ⟨r, hr⟩ := isDeadline_cons (hw hl)
        exact Or.inl ⟨t, r, rfl, ht0, by omega, rfl, hr⟩

/-- what `rs_loop` assumes of a frame: the locals the loop never assigns hold the arguments of the call, `total_bytes` is the
    model's `total`, the clock is late only at a deadline event -/
structure RsInv (rs size : Nat) (tmo : Option Int) (s : RsFr) (total : Nat) : Prop where
  recvsize_eq : s.self.recvsize = (rs : Int)
  size_eq : s.loc.size = (size : Int)
  timeout_eq : s.loc.timeout_r = tmo
  start_eq : s.loc.start = 0
  total_eq : s.loc.total_bytes = (total : Int)
  late : s.w.LateAtDeadline

theorem rs_loop (J : Int) (rs size : Nat) (tmo : Option Int) (hto : TOk J tmo) (lf : Nat) :
    ∀ (n : Nat) (s : RsFr) (total : Nat), RsInv rs size tmo s total →
      RsLoopPost s.self (rawFault s.w.script)
        (recvSizeLoop rs size n (join s.loc.chunks) total s.loc.nxt (er s.w.script))
        (Blk.whileLoop (BufferedSocket.recv_size.loop1.cond (mnet J) lf) (BufferedSocket.recv_size.loop1.body (mnet J) lf)
          (BufferedSocket.recv_size.loop1.orelse (mnet J) lf) n s) := by
  intro n
  induction n with
  | zero =>
    intro s total _
    simp [Blk.whileLoop, recvSizeLoop, RsLoopPost]
  | succ n ih =>
    intro s total hI
    rw [recvSizeLoop]
    by_cases hn : s.loc.nxt = []
    · have hcf : BufferedSocket.recv_size.loop1.cond (mnet J) lf s = false := by
        simp [BufferedSocket.recv_size.loop1.cond, truthy, len, hn]
      simp [Blk.whileLoop, hcf, BufferedSocket.recv_size.loop1.orelse, hn, RsLoopPost]
    · have hc : BufferedSocket.recv_size.loop1.cond (mnet J) lf s = true := by
        have hlenI : (0 : Int) < (s.loc.nxt.length : Int) := by
          have := List.length_pos_iff.mpr hn
          omega
        simp [BufferedSocket.recv_size.loop1.cond, truthy, len, hn, hlenI]
      by_cases hge : total + s.loc.nxt.length ≥ size
      · -- `break`
        have hx2 : ((total : Int) + (s.loc.nxt.length : Int) - (size : Int))
            = ((total + s.loc.nxt.length - size : Nat) : Int) := by omega
        simp only [Blk.whileLoop, hc, if_true, BufferedSocket.recv_size.loop1.body, Blk.seq, Blk.assign, Blk.ite, Blk.brk]
        have hgeI : (size : Int) ≤ (total : Int) + (s.loc.nxt.length : Int) := by omega
        simp [hI.total_eq, hI.size_eq, len, hge, hgeI, hn, RsLoopPost]
        rw [hx2]
        by_cases he : total + s.loc.nxt.length - size = 0
        · simp [he]
        · have hpos : 0 < total + s.loc.nxt.length - size := Nat.pos_of_ne_zero he
          simp [he, sliceTo_neg _ _ hpos, sliceFrom_neg _ _ hpos]
      · -- go round: each `simp` below runs one iteration of the generated body (`total_bytes +=`, no `break`,
        -- `chunks.append`, the deadline check when a timeout is set, `sock.recv`)
        have hltI : ¬ (size : Int) ≤ (total : Int) + (s.loc.nxt.length : Int) := by omega
        have hspec := netRecv_spec rs s.w.script
        rw [Blk.whileLoop]
        generalize hL : Blk.whileLoop (BufferedSocket.recv_size.loop1.cond (mnet J) lf)
          (BufferedSocket.recv_size.loop1.body (mnet J) lf) (BufferedSocket.recv_size.loop1.orelse (mnet J) lf) n = L
        simp only [hc, if_true, BufferedSocket.recv_size.loop1.body, Blk.seq, Blk.assign, Blk.ite, Blk.brk, Blk.skip]
        rcases deadline_cases hto hI.late with ⟨t, r, rfl, ht0, hle, hlate, hr⟩ | hchk
        · simp [hI.total_eq, hI.size_eq, hI.timeout_eq, hI.start_eq, len, hge, hltI, hn, mnet_truthy_some, mnet_time,
            mnet_fsub, mnet_fle, mnet_fzero, ht0, hlate, hle, unwrap, RsLoopPost, FaultAs, hr, er, NEv.ev, sockRecv, rawFault,
            join_snoc, settle]
        · cases hsr : sockRecv rs (er s.w.script) with
          | data d r =>
            rw [hsr] at hspec
            obtain ⟨w', hw1, hw2, hw3, hw4⟩ := hspec
            subst hw2
            rw [← hw4.1]
            rcases hchk with hno | ⟨t, rfl, ht0, hnle, hlate⟩
            case' inl => simp [hI.total_eq, hI.size_eq, hI.timeout_eq, hI.start_eq, len, hge, hltI, hn, hno, mnet_recv,
                           hI.recvsize_eq, hw1]
            case' inr =>
              simp [hI.total_eq, hI.size_eq, hI.timeout_eq, hI.start_eq, len, hge, hltI, hn, mnet_truthy_some, mnet_time,
                mnet_fsub, mnet_fle, mnet_fzero, mnet_settimeout, mnet_recv, hI.recvsize_eq, hw1, hlate, ht0, hnle, unwrap]
            -- with or without a timeout set, the loop goes round on a frame that keeps the invariant
            all_goals
              subst hL
              generalize hF : (Fr.mk _ _ _ : RsFr) = F
              have key := ih F (total + s.loc.nxt.length) (by
                subst hF
                refine ⟨?_, ?_, ?_, ?_, ?_, hw3⟩ <;>
                  simp [hI.recvsize_eq, hI.size_eq, hI.timeout_eq, hI.start_eq, hI.total_eq])
              subst hF
              simpa [join_snoc, hI.size_eq] using key
          | timeout r =>
            rw [hsr] at hspec
            obtain ⟨w', hw1, hw2, hw3⟩ := hspec
            subst hw2
            rcases hchk with hno | ⟨t, rfl, ht0, hnle, hlate⟩
            · simp [hI.total_eq, hI.size_eq, hI.timeout_eq, hI.start_eq, len, hge, hltI, hn, hno, mnet_recv, hI.recvsize_eq,
                hw1, RsLoopPost, FaultAs, join_snoc, settle, hw3]
            · simp [hI.total_eq, hI.size_eq, hI.timeout_eq, hI.start_eq, len, hge, hltI, hn, mnet_truthy_some, mnet_time,
                mnet_fsub, mnet_fle, mnet_fzero, mnet_settimeout, mnet_recv, hI.recvsize_eq, hw1, hlate, ht0, hnle, unwrap,
                RsLoopPost, FaultAs, join_snoc, settle, hw3]

/-- how a fault of the wrapped socket surfaces at the caller: `socket.timeout` becomes the module's `Timeout`, anything
    else passes through -/
theorem callerFault_of_raw : ∀ (s : List NEv),
    (rawFault s = .sockTimeout ∧ callerFault s = .timeout) ∨ (∃ t, rawFault s = .osError t ∧ callerFault s = .osError t) := by
  intro s
  induction s with
  | nil => simp [rawFault, callerFault]
  | cons e r ih => cases e <;> simp [rawFault, callerFault, ih]

/-- a fault on its way through the handlers `except socket.timeout: ... raise Timeout` / `except Exception: ... raise`:
    the two tests they make, and what the caller gets -/
theorem FaultAs.handled {s : List NEv} {e : Exc} (h : FaultAs (rawFault s) e) :
    (e.isSockTimeout = true ∧ callerFault s = .timeout) ∨
    (e.isSockTimeout = false ∧ e.isException = true ∧ callerFault s = e) := by
  rcases callerFault_of_raw s with ⟨ha, hc⟩ | ⟨t, ha, hc⟩ <;> rw [ha] at h <;> rcases h with rfl | ⟨h0, rfl⟩
  · exact .inl ⟨rfl, hc⟩
  · exact .inl ⟨rfl, hc⟩
  · exact .inr ⟨rfl, rfl, hc⟩
  · cases h0

/-- the caller-visible outcome a result of the model stands for; `flt` = what a fault surfaces as -/
def outcome (flt : Exc) : Res → Except Exc PyRtC12.Bytes
  | .ok bs => .ok bs
  | .closed => .error .connectionClosed
  | .tooLong => .error .messageTooLong
  | .timeout => .error flt
  | .fuel => .error .outOfFuel

/-- the script the model is left with after a call that ended in `r` -/
def scriptAfter (r : Res) (w : NW) : List NEv := if r = .timeout then settle w else w.script

/-- **`BufferedSocket.recv_size`, as regenerated from the source, is the model's `recvSize`** on the model's network: for
    every object state, every script (chunks, socket timeouts, deadline expiries, other OSErrors of the socket), every
    `size`, every timeout argument (omitted, `None`, `0`, or positive and within the clock's jump) and every loop fuel
    `≥ measure + 2` the call returns / raises what the model says (a fault surfaces as `Timeout` or as the socket's own
    OSError; no `outOfFuel`: the loop terminates), leaves `rbuf` as the model says and nothing else changed, and has
    consumed the script as the model says. -/
theorem src_recv_size_eq_model (J : Int) (cfg : Cfg) (st : BufferedSocket.St Int) (w : NW) (size : Nat)
    (targ : Option (Option Int)) (lfuel : Nat)
    (hlate : w.late = false) (hto : TOk J (orDefault targ st.timeout)) (hrs : st.recvsize = (cfg.recvsize : Int))
    (hpos : 0 < cfg.recvsize) (hf : measure (er w.script) + 2 ≤ lfuel) :
    ∃ w', BufferedSocket.recv_size (mnet J) lfuel st (size : Int) targ w
        = (outcome (callerFault w.script) (recvSize cfg size ⟨st.rbuf, er w.script⟩).1,
           { st with rbuf := (recvSize cfg size ⟨st.rbuf, er w.script⟩).2.rbuf }, w') ∧
      er (scriptAfter (recvSize cfg size ⟨st.rbuf, er w.script⟩).1 w') = (recvSize cfg size ⟨st.rbuf, er w.script⟩).2.script := by
  unfold BufferedSocket.recv_size runMethod BufferedSocket.recv_size.body recvSize
  -- both ways into the loop end in the same situation: outcomes `O`, `mr` of the two loops related by `RsLoopPost`
  by_cases hb : st.rbuf = []
  case' pos =>
    have hspec := netRecv_spec cfg.recvsize w.script
    simp only [hb, ne_eq, not_true_eq_false, if_false]
    cases hsr : sockRecv cfg.recvsize (er w.script)
    case timeout r =>
      rw [hsr] at hspec
      obtain ⟨w', hw1, hw2, hw3⟩ := hspec
      refine ⟨w', ?_, ?_⟩
      · rcases callerFault_of_raw w.script with ⟨ha, hb2⟩ | ⟨t, ha, hb2⟩ <;>
          simp [mnet_time, mnet_settimeout, mnet_recv, truthy, hb, hlate, hrs, hw1, ha, hb2, finishMethod, outcome,
            Exc.isSockTimeout, Exc.isException, join]
      · simp [scriptAfter, settle, hw3, hw2]
    case' data d r =>
      rw [hsr] at hspec
      obtain ⟨w1, hw1, hw2, hw3, hw4⟩ := hspec
      subst hw2
      have q := sockRecv_data hsr
      have := q.measure_le
      -- the model's loop runs on fuel `measure + 2`, the generated one on `lfuel`: the model's answer is not `.fuel`, so it
      -- is the same on `lfuel`
      have hne := recvSizeLoop_ne_fuel cfg.recvsize size hpos d (er w1.script)
        (fun hd => (q.eof hpos hd).2)
      have hmono := recvSizeLoop_more_fuel cfg.recvsize size _ _ _ _ _ hne lfuel (by omega)
      simp only []
      rw [← hmono] at hne ⊢
      simp [mnet_time, mnet_settimeout, mnet_recv, truthy, hb, hlate, hrs, hw1]
      generalize hF : (Fr.mk _ _ _ : RsFr) = F
      have key := rs_loop J cfg.recvsize size _ hto lfuel lfuel F 0
        (by subst hF; exact { recvsize_eq := hrs, size_eq := rfl, timeout_eq := rfl, start_eq := rfl, total_eq := rfl,
                              late := hw3 })
      rw [show F.self = st by subst hF; rfl, show join F.loc.chunks = [] by subst hF; rfl,
        show F.loc.nxt = d by subst hF; rfl, show F.w = w1 by subst hF; rfl, hw4.1] at key
      generalize Blk.whileLoop _ _ _ lfuel F = O at key ⊢
      generalize recvSizeLoop cfg.recvsize size lfuel [] 0 d (er w1.script) = mr at key hne ⊢
  case' neg =>
    have hne := recvSizeLoop_ne_fuel cfg.recvsize size hpos st.rbuf (er w.script) (fun h => absurd h hb)
    have hmono := recvSizeLoop_more_fuel cfg.recvsize size _ _ _ _ _ hne lfuel hf
    simp only [hb, ne_eq, not_false_eq_true, if_true]
    rw [← hmono] at hne ⊢
    simp [mnet_time, mnet_settimeout, truthy, hb, hlate]
    generalize hF : (Fr.mk _ _ _ : RsFr) = F
    have key := rs_loop J cfg.recvsize size _ hto lfuel lfuel F 0
      (by subst hF; exact { recvsize_eq := hrs, size_eq := rfl, timeout_eq := rfl, start_eq := rfl, total_eq := rfl,
                            late := by simp [NW.LateAtDeadline, hlate] })
    rw [show F.self = st by subst hF; rfl, show join F.loc.chunks = [] by subst hF; rfl,
      show F.loc.nxt = st.rbuf by subst hF; rfl, show F.w = w by subst hF; rfl] at key
    generalize Blk.whileLoop _ _ _ lfuel F = O at key ⊢
    generalize recvSizeLoop cfg.recvsize size lfuel [] 0 st.rbuf (er w.script) = mr at key hne ⊢
  all_goals
    obtain ⟨o, F'⟩ := O
    obtain ⟨r, m⟩ := mr
    simp only [RsLoopPost] at key
    obtain ⟨k1, k3⟩ := key
    cases r with
    | fuel => exact absurd rfl hne
    | tooLong => exact k3.elim
    | closed =>
      obtain ⟨k3, k4, k5⟩ := k3
      subst k3
      refine ⟨F'.w, ?_, ?_⟩
      · simp [finishMethod, outcome, Exc.isSockTimeout, Exc.isException, k1, k4, hrs]
      · simp [scriptAfter, k5]
    | timeout =>
      obtain ⟨⟨e, k3, kf⟩, k4, k5⟩ := k3
      subst k3
      refine ⟨F'.w, ?_, ?_⟩
      · rcases kf.handled with ⟨he, hc⟩ | ⟨he, hx, hc⟩
        · simp [finishMethod, outcome, he, hc, k1, k4, hrs]
        · simp [finishMethod, outcome, he, hx, hc, k1, k4, hrs]
      · simp [scriptAfter, k5]
    | ok bs =>
      obtain ⟨k3, k4, k6, k7⟩ := k3
      subst k3
      refine ⟨F'.w, ?_, ?_⟩
      · by_cases he : F'.loc.total_bytes - F'.loc.size = 0
        · simp [finishMethod, outcome, k1, k6, k7, hrs, he, join_snoc]
        · simp [finishMethod, outcome, k1, k6, k7, hrs, he, join_snoc]
      · simp [scriptAfter, k4]

abbrev RuFr := Fr (BufferedSocket.St Int) (BufferedSocket.recv_until.L Int) NW

theorem findFrom_eq_findIdx (d : Bytes) : ∀ xs : Bytes, findFrom d xs = findIdx d xs := by
  intro xs
  induction xs with
  | nil => simp [findFrom, findIdx]
  | cons x xs ih => simp [findFrom, findIdx, ih]

theorem find_eq_pyFind (xs d : Bytes) (start : Int) (m : Nat) :
    PyRtC12.find xs d start (m : Int) = match pyFind d xs start m with | some o => (o : Int) | none => -1 := by
  unfold PyRtC12.find pyFind
  dsimp only
  rw [normIdx_nat, findFrom_eq_findIdx]
  generalize (if start < 0 then (start + (xs.length : Int)).toNat else start.toNat) = s0
  by_cases h : s0 > min m xs.length
  · simp [h]
  · simp only [h, if_false]
    cases findIdx d (List.drop s0 (List.take (min m xs.length) xs)) <;> simp

/-- what the result of the model's `recvUntilLoop` says about the outcome of the generated loop -/
def RuLoopPost (self0 : BufferedSocket.St Int) (flt : Exc) (mr : Res × St) (o : Out PyRtC12.Bytes × RuFr) : Prop :=
  o.2.self = self0 ∧
  match mr.1 with
  | .fuel => o.1 = .exc .outOfFuel
  | .tooLong => o.1 = .exc .messageTooLong ∧ o.2.loc.recvd = mr.2.rbuf ∧ er o.2.w.script = mr.2.script
  | .closed => o.1 = .exc .connectionClosed ∧ o.2.loc.recvd = mr.2.rbuf ∧ er o.2.w.script = mr.2.script
  | .timeout => (∃ e, o.1 = .exc e ∧ FaultAs flt e) ∧ o.2.loc.recvd = mr.2.rbuf ∧ er (settle o.2.w) = mr.2.script
  | .ok bs => o.1 = .next ∧ er o.2.w.script = mr.2.script ∧
      bs = sliceTo o.2.loc.recvd o.2.loc.offset ∧ mr.2.rbuf = sliceFrom o.2.loc.recvd o.2.loc.rbuf_offset

/-- what `ru_loop` assumes of a frame: the locals the loop never assigns hold the (resolved) arguments of the call, the clock is
    late only at a deadline event -/
structure RuInv (rs m : Nat) (d : Bytes) (wd : Bool) (tmo : Option Int) (s : RuFr) : Prop where
  recvsize_eq : s.self.recvsize = (rs : Int)
  maxsize_eq : s.loc.maxsize_r_1 = (m : Int)
  delimiter_eq : s.loc.delimiter = d
  len_delimiter_eq : s.loc.len_delimiter = (d.length : Int)
  with_delimiter_eq : s.loc.with_delimiter = wd
  timeout_eq : s.loc.timeout_r = tmo
  start_eq : s.loc.start = 0
  late : s.w.LateAtDeadline

theorem ru_loop (J : Int) (rs m : Nat) (d : Bytes) (wd : Bool) (tmo : Option Int) (hto : TOk J tmo) (lf : Nat) :
    ∀ (n : Nat) (s : RuFr), RuInv rs m d wd tmo s →
      RuLoopPost s.self (rawFault s.w.script)
        (recvUntilLoop rs d m wd n s.loc.recvd s.loc.find_offset_start (er s.w.script))
        (Blk.whileLoop (BufferedSocket.recv_until.loop1.cond (mnet J) lf) (BufferedSocket.recv_until.loop1.body (mnet J) lf)
          (BufferedSocket.recv_until.loop1.orelse (mnet J) lf) n s) := by
  intro n
  induction n with
  | zero =>
    intro s _
    simp [Blk.whileLoop, recvUntilLoop, RuLoopPost]
  | succ n ih =>
    intro s hI
    rw [recvUntilLoop]
    have hc : BufferedSocket.recv_until.loop1.cond (mnet J) lf s = true := by
      simp [BufferedSocket.recv_until.loop1.cond]
    have hfind := find_eq_pyFind s.loc.recvd d s.loc.find_offset_start m
    rw [Blk.whileLoop]
    generalize hL : Blk.whileLoop (BufferedSocket.recv_until.loop1.cond (mnet J) lf)
      (BufferedSocket.recv_until.loop1.body (mnet J) lf) (BufferedSocket.recv_until.loop1.orelse (mnet J) lf) n = L
    simp only [hc, if_true, BufferedSocket.recv_until.loop1.body, Blk.seq, Blk.assign, Blk.ite, Blk.brk, Blk.skip]
    cases hp : pyFind d s.loc.recvd s.loc.find_offset_start m with
    | some o =>
      rw [hp] at hfind
      have hne : ¬ ((o : Int) = -1) := by omega
      cases wd with
      | true =>
        simp [hI.maxsize_eq, hI.delimiter_eq, hI.len_delimiter_eq, hI.with_delimiter_eq, hfind, hne, RuLoopPost]
        rw [show (o : Int) + (d.length : Int) = ((o + d.length : Nat) : Int) by omega, sliceTo_nat, sliceFrom_nat]
        simp
      | false =>
        simp [hI.maxsize_eq, hI.delimiter_eq, hI.len_delimiter_eq, hI.with_delimiter_eq, hfind, hne, RuLoopPost]
        rw [show (o : Int) + (d.length : Int) = ((o + d.length : Nat) : Int) by omega, sliceTo_nat, sliceFrom_nat]
        simp
    | none =>
      rw [hp] at hfind
      by_cases hlong : s.loc.recvd.length > m
      · have hlongI : (m : Int) < (s.loc.recvd.length : Int) := by omega
        simp [hI.maxsize_eq, hI.delimiter_eq, hfind, len, hlong, hlongI, RuLoopPost]
      · have hlongI : ¬ (m : Int) < (s.loc.recvd.length : Int) := by omega
        have hspec := netRecv_spec rs s.w.script
        -- as in `rs_loop`, each `simp` below runs the rest of one iteration: deadline check, `sock.recv`, b'' test, append
        rcases deadline_cases hto hI.late with ⟨t, r, rfl, ht0, hle, hlate, hr⟩ | hchk
        · simp [hI.maxsize_eq, hI.delimiter_eq, hI.len_delimiter_eq, hI.with_delimiter_eq, hI.timeout_eq, hI.start_eq, hfind,
            len, hlong, hlongI, mnet_truthy_some, mnet_time, mnet_fsub, mnet_fle, mnet_fzero, ht0, hlate, hle, unwrap,
            RuLoopPost, FaultAs, hr, er, NEv.ev, sockRecv, rawFault, settle]
        · cases hsr : sockRecv rs (er s.w.script) with
          | data d' r =>
            rw [hsr] at hspec
            obtain ⟨w', hw1, hw2, hw3, hw4⟩ := hspec
            subst hw2
            rw [← hw4.1]
            by_cases hd : d' = []
            · rcases hchk with hno | ⟨t, rfl, ht0, hnle, hlate⟩
              · simp [hI.maxsize_eq, hI.delimiter_eq, hI.len_delimiter_eq, hI.with_delimiter_eq, hI.timeout_eq, hI.start_eq,
                  hfind, len, hlong, hlongI, hno, mnet_recv, hI.recvsize_eq, hw1, hd, truthy, RuLoopPost]
              · simp [hI.maxsize_eq, hI.delimiter_eq, hI.len_delimiter_eq, hI.with_delimiter_eq, hI.timeout_eq, hI.start_eq,
                  hfind, len, hlong, hlongI, mnet_truthy_some, mnet_time, mnet_fsub, mnet_fle, mnet_fzero, mnet_settimeout,
                  mnet_recv, hI.recvsize_eq, hw1, hlate, ht0, hnle, unwrap, hd, truthy, RuLoopPost]
            · rcases hchk with hno | ⟨t, rfl, ht0, hnle, hlate⟩
              case' inl => simp [hI.maxsize_eq, hI.delimiter_eq, hI.len_delimiter_eq, hI.with_delimiter_eq, hI.timeout_eq,
                             hI.start_eq, hfind, len, hlong, hlongI, hno, mnet_recv, hI.recvsize_eq, hw1, hd, truthy]
              case' inr =>
                simp [hI.maxsize_eq, hI.delimiter_eq, hI.len_delimiter_eq, hI.with_delimiter_eq, hI.timeout_eq, hI.start_eq,
                  hfind, len, hlong, hlongI, mnet_truthy_some, mnet_time, mnet_fsub, mnet_fle, mnet_fzero, mnet_settimeout,
                  mnet_recv, hI.recvsize_eq, hw1, hlate, ht0, hnle, unwrap, hd, truthy]
              -- with or without a timeout set, the loop goes round on a frame that keeps the invariant
              all_goals
                subst hL
                generalize hF : (Fr.mk _ _ _ : RuFr) = F
                have key := ih F (by
                  subst hF
                  refine ⟨?_, ?_, ?_, ?_, ?_, ?_, ?_, hw3⟩ <;>
                    simp [hI.recvsize_eq, hI.maxsize_eq, hI.delimiter_eq, hI.len_delimiter_eq, hI.with_delimiter_eq,
                      hI.timeout_eq, hI.start_eq])
                subst hF
                simpa [len] using key
          | timeout r =>
            rw [hsr] at hspec
            obtain ⟨w', hw1, hw2, hw3⟩ := hspec
            subst hw2
            rcases hchk with hno | ⟨t, rfl, ht0, hnle, hlate⟩
            · simp [hI.maxsize_eq, hI.delimiter_eq, hI.len_delimiter_eq, hI.with_delimiter_eq, hI.timeout_eq, hI.start_eq,
                hfind, len, hlong, hlongI, hno, mnet_recv, hI.recvsize_eq, hw1, RuLoopPost, FaultAs, settle, hw3]
            · simp [hI.maxsize_eq, hI.delimiter_eq, hI.len_delimiter_eq, hI.with_delimiter_eq, hI.timeout_eq, hI.start_eq,
                hfind, len, hlong, hlongI, mnet_truthy_some, mnet_time, mnet_fsub, mnet_fle, mnet_fzero, mnet_settimeout,
                mnet_recv, hI.recvsize_eq, hw1, hlate, ht0, hnle, unwrap, RuLoopPost, FaultAs, settle, hw3]

/-- the `maxsize=` argument as the generated definition receives it -/
def maxArg : Max → Option (Option Int)
  | .unset => none
  | .none => some none
  | .some n => some (some (n : Int))

theorem maxArg_resolve (mx : Max) (selfMax : Nat) :
    orDefault (orDefault (maxArg mx) (some (selfMax : Int))) (1125899906842624 : Int)
      = ((mx.resolve Gen.RECV_LARGE_MAXSIZE selfMax : Nat) : Int) := by
  cases mx <;> simp [maxArg, orDefault, Max.resolve, Gen.RECV_LARGE_MAXSIZE]

/-- **`BufferedSocket.recv_until`, as regenerated from the source, is the model's `recvUntil`** on the model's network,
    with the `maxsize` argument resolved as the model's `Max.resolve` says (`_UNSET` → `self.maxsize`, `None` →
    `_RECV_LARGE_MAXSIZE`, the regenerated constant): value / `MessageTooLong` / `ConnectionClosed` / fault class, the
    leftover bytes in `rbuf`, nothing else changed, the script consumed as the model says, no `outOfFuel` with fuel
    `≥ measure + 1`. -/
theorem src_recv_until_eq_model (J : Int) (cfg : Cfg) (st : BufferedSocket.St Int) (w : NW) (d : Bytes)
    (targ : Option (Option Int)) (mx : Max) (selfMax : Nat) (wd : Bool) (lfuel : Nat)
    (hlate : w.late = false) (hto : TOk J (orDefault targ st.timeout)) (hrs : st.recvsize = (cfg.recvsize : Int))
    (hmax : st.maxsize = (selfMax : Int)) (hpos : 0 < cfg.recvsize) (hf : measure (er w.script) + 1 ≤ lfuel) :
    ∃ w', BufferedSocket.recv_until (mnet J) lfuel st d targ (maxArg mx) wd w
        = (outcome (callerFault w.script)
             (recvUntil cfg d (mx.resolve Gen.RECV_LARGE_MAXSIZE selfMax) wd ⟨st.rbuf, er w.script⟩).1,
           { st with rbuf := (recvUntil cfg d (mx.resolve Gen.RECV_LARGE_MAXSIZE selfMax) wd ⟨st.rbuf, er w.script⟩).2.rbuf }, w') ∧
      er (scriptAfter (recvUntil cfg d (mx.resolve Gen.RECV_LARGE_MAXSIZE selfMax) wd ⟨st.rbuf, er w.script⟩).1 w')
        = (recvUntil cfg d (mx.resolve Gen.RECV_LARGE_MAXSIZE selfMax) wd ⟨st.rbuf, er w.script⟩).2.script := by
  have hne := recvUntil_ne_fuel cfg hpos d (mx.resolve Gen.RECV_LARGE_MAXSIZE selfMax) wd ⟨st.rbuf, er w.script⟩
  generalize hmm : mx.resolve Gen.RECV_LARGE_MAXSIZE selfMax = m at hne ⊢
  have hmr := maxArg_resolve mx selfMax
  rw [hmm] at hmr
  unfold recvUntil at hne ⊢
  have hmono := recvUntilLoop_more_fuel cfg.recvsize d m wd _ _ _ _ hne lfuel hf
  simp only [] at hmono hne
  rw [← hmono]
  unfold BufferedSocket.recv_until runMethod BufferedSocket.recv_until.body
  simp [mnet_time, mnet_settimeout, hlate, hmax, hmr]
  generalize hF : (Fr.mk _ _ _ : RuFr) = F
  have key := ru_loop J cfg.recvsize m d wd _ hto lfuel lfuel F
    (by subst hF; exact { recvsize_eq := hrs, maxsize_eq := rfl, delimiter_eq := rfl, len_delimiter_eq := rfl,
                          with_delimiter_eq := rfl, timeout_eq := rfl, start_eq := rfl,
                          late := by simp [NW.LateAtDeadline, hlate] })
  rw [show F.self = st by subst hF; rfl, show F.loc.recvd = st.rbuf by subst hF; rfl,
    show F.loc.find_offset_start = 0 by subst hF; rfl, show F.w = w by subst hF; rfl] at key
  clear hF
  generalize Blk.whileLoop _ _ _ lfuel F = O at key ⊢
  obtain ⟨o, F'⟩ := O
  cases hm : recvUntilLoop cfg.recvsize d m wd lfuel st.rbuf 0 (er w.script) with
  | mk r mm =>
    rw [hm] at key hmono
    simp only [RuLoopPost] at key
    obtain ⟨k1, k3⟩ := key
    cases r with
    | fuel => exact absurd (by rw [← hmono]) hne
    | tooLong =>
      obtain ⟨k3, k4, k5⟩ := k3
      subst k3
      refine ⟨F'.w, ?_, ?_⟩
      · simp [finishMethod, outcome, Exc.isSockTimeout, Exc.isException, k1, k4, hrs, hmax]
      · simp [scriptAfter, k5]
    | closed =>
      obtain ⟨k3, k4, k5⟩ := k3
      subst k3
      refine ⟨F'.w, ?_, ?_⟩
      · simp [finishMethod, outcome, Exc.isSockTimeout, Exc.isException, k1, k4, hrs, hmax]
      · simp [scriptAfter, k5]
    | timeout =>
      obtain ⟨⟨e, k3, kf⟩, k4, k5⟩ := k3
      subst k3
      refine ⟨F'.w, ?_, ?_⟩
      · rcases kf.handled with ⟨he, hc⟩ | ⟨he, hx, hc⟩
        · simp [finishMethod, outcome, he, hc, k1, k4, hrs, hmax]
        · simp [finishMethod, outcome, he, hx, hc, k1, k4, hrs, hmax]
      · simp [scriptAfter, k5]
    | ok bs =>
      obtain ⟨k3, k4, k6, k7⟩ := k3
      subst k3
      refine ⟨F'.w, ?_, ?_⟩
      · simp [finishMethod, outcome, k1, k6, k7, hrs, hmax]
      · simp [scriptAfter, k4]

/-- **`BufferedSocket.peek`, as regenerated from the source, is the model's `peek`** (the generated `recv_size` is used
    through its own tie theorem) -/
theorem src_peek_eq_model (J : Int) (cfg : Cfg) (st : BufferedSocket.St Int) (w : NW) (size : Nat)
    (targ : Option (Option Int)) (lfuel : Nat)
    (hlate : w.late = false) (hto : TOk J (orDefault targ st.timeout)) (hrs : st.recvsize = (cfg.recvsize : Int))
    (hpos : 0 < cfg.recvsize) (hf : measure (er w.script) + 2 ≤ lfuel) :
    ∃ w', BufferedSocket.peek (mnet J) lfuel st (size : Int) targ w
        = (outcome (callerFault w.script) (peek cfg size ⟨st.rbuf, er w.script⟩).1,
           { st with rbuf := (peek cfg size ⟨st.rbuf, er w.script⟩).2.rbuf }, w') ∧
      er (scriptAfter (peek cfg size ⟨st.rbuf, er w.script⟩).1 w') = (peek cfg size ⟨st.rbuf, er w.script⟩).2.script := by
  unfold BufferedSocket.peek runMethod BufferedSocket.peek.body peek
  by_cases hge : st.rbuf.length ≥ size
  · have hgeI : (size : Int) ≤ (st.rbuf.length : Int) := by omega
    refine ⟨w, ?_, ?_⟩
    · simp [finishMethod, outcome, len, hge, hgeI, sliceTo_nat]
    · simp [hge, scriptAfter]
  · have hgeI : ¬ (size : Int) ≤ (st.rbuf.length : Int) := by omega
    obtain ⟨w', h1, h2⟩ := src_recv_size_eq_model J cfg st w size targ lfuel hlate hto hrs hpos hf
    refine ⟨w', ?_, ?_⟩
    · simp only [hge, if_false]
      cases hm : recvSize cfg size ⟨st.rbuf, er w.script⟩ with
      | mk r m =>
        rw [hm] at h1
        cases r <;>
          simp [finishMethod, outcome, len, hgeI, h1]
    · simp only [hge, if_false]
      cases hm : recvSize cfg size ⟨st.rbuf, er w.script⟩ with
      | mk r m =>
        rw [hm] at h2
        cases r <;> simpa [scriptAfter] using h2

/-- **`BufferedSocket.recv_close`, as regenerated from the source, is the model's `recvClose`** with the `maxsize`
    argument resolved as `Max.resolve` says -/
theorem src_recv_close_eq_model (J : Int) (cfg : Cfg) (st : BufferedSocket.St Int) (w : NW)
    (targ : Option (Option Int)) (mx : Max) (selfMax : Nat) (lfuel : Nat)
    (hlate : w.late = false) (hto : TOk J (orDefault targ st.timeout)) (hrs : st.recvsize = (cfg.recvsize : Int))
    (hmax : st.maxsize = (selfMax : Int)) (hpos : 0 < cfg.recvsize) (hf : measure (er w.script) + 2 ≤ lfuel) :
    ∃ w', BufferedSocket.recv_close (mnet J) lfuel st targ (maxArg mx) w
        = (outcome (callerFault w.script)
             (recvClose cfg (mx.resolve Gen.RECV_LARGE_MAXSIZE selfMax) ⟨st.rbuf, er w.script⟩).1,
           { st with rbuf := (recvClose cfg (mx.resolve Gen.RECV_LARGE_MAXSIZE selfMax) ⟨st.rbuf, er w.script⟩).2.rbuf }, w') ∧
      er (scriptAfter (recvClose cfg (mx.resolve Gen.RECV_LARGE_MAXSIZE selfMax) ⟨st.rbuf, er w.script⟩).1 w')
        = (recvClose cfg (mx.resolve Gen.RECV_LARGE_MAXSIZE selfMax) ⟨st.rbuf, er w.script⟩).2.script := by
  have hmr := maxArg_resolve mx selfMax
  generalize mx.resolve Gen.RECV_LARGE_MAXSIZE selfMax = m at hmr ⊢
  unfold BufferedSocket.recv_close runMethod BufferedSocket.recv_close.body recvClose
  obtain ⟨w', h1, h2⟩ := src_recv_size_eq_model J cfg st w (m + 1) targ lfuel hlate hto hrs hpos hf
  refine ⟨w', ?_, ?_⟩
  · cases hm : recvSize cfg (m + 1) ⟨st.rbuf, er w.script⟩ with
    | mk r mm =>
      rw [hm] at h1
      push_cast at h1
      rcases callerFault_of_raw w.script with ⟨-, hb2⟩ | ⟨t, -, hb2⟩ <;>
      cases r <;>
        simp [finishMethod, outcome, hmax, hmr, h1, Exc.isConnectionClosed, hb2]
  · cases hm : recvSize cfg (m + 1) ⟨st.rbuf, er w.script⟩ with
    | mk r mm =>
      rw [hm] at h2
      cases r <;> simpa [scriptAfter] using h2

/-- **`BufferedSocket.recv`, as regenerated from the source, is the model's `recv`** (`flags = 0`): the buffer first, then
    ONE `sock.recv(self._recvsize)`, the surplus kept in `rbuf`; a `socket.timeout` becomes `Timeout`, another OSError of
    the socket passes through -/
theorem src_recv_eq_model (J : Int) (cfg : Cfg) (st : BufferedSocket.St Int) (w : NW) (size : Nat)
    (targ : Option (Option Int)) (hrs : st.recvsize = (cfg.recvsize : Int)) :
    ∃ w', BufferedSocket.recv (mnet J) st (size : Int) 0 targ w
        = (outcome (callerFault w.script) (recv cfg size ⟨st.rbuf, er w.script⟩).1,
           { st with rbuf := (recv cfg size ⟨st.rbuf, er w.script⟩).2.rbuf }, w') ∧
      er (scriptAfter (recv cfg size ⟨st.rbuf, er w.script⟩).1 w') = (recv cfg size ⟨st.rbuf, er w.script⟩).2.script := by
  unfold BufferedSocket.recv runMethod BufferedSocket.recv.body recv
  by_cases hge : st.rbuf.length ≥ size
  · have hgeI : (size : Int) ≤ (st.rbuf.length : Int) := by omega
    refine ⟨w, ?_, ?_⟩
    · simp [finishMethod, outcome, len, hge, hgeI, sliceTo_nat, sliceFrom_nat]
    · simp [hge, scriptAfter]
  · have hgeI : ¬ (size : Int) ≤ (st.rbuf.length : Int) := by omega
    by_cases hb : st.rbuf = []
    · have hspec := netRecv_spec cfg.recvsize w.script
      have hs0 : ¬ size = 0 := by intro h; apply hge; omega
      obtain ⟨rb, sb, ms, tmo0, rsz⟩ := st
      simp only at hrs hb
      subst hb hrs
      cases hsr : sockRecv cfg.recvsize (er w.script) with
      | timeout r =>
        rw [hsr] at hspec
        obtain ⟨w', hw1, hw2, hw3⟩ := hspec
        refine ⟨w', ?_, ?_⟩
        · rcases callerFault_of_raw w.script with ⟨ha, hb2⟩ | ⟨t, ha, hb2⟩ <;>
            simp [finishMethod, outcome, len, hs0, truthy, mnet_settimeout, mnet_recv, hw1, ha, hb2, Exc.isSockTimeout]
        · simp [hs0, scriptAfter, settle, hw3, hw2]
      | data dd r =>
        rw [hsr] at hspec
        obtain ⟨w', hw1, hw2, -⟩ := hspec
        refine ⟨w', ?_, ?_⟩
        · by_cases hl : dd.length > size
          · have hlI : (size : Int) < (dd.length : Int) := by omega
            simp [finishMethod, outcome, len, hs0, truthy, mnet_settimeout, mnet_recv, hw1, hl, hlI, sliceTo_nat,
              sliceFrom_nat]
          · have hlI : ¬ (size : Int) < (dd.length : Int) := by omega
            simp [finishMethod, outcome, len, hs0, truthy, mnet_settimeout, mnet_recv, hw1, hl, hlI]
        · by_cases hl : dd.length > size <;> simp [hs0, scriptAfter, hw2, hl]
    · refine ⟨w, ?_, ?_⟩
      · simp [finishMethod, outcome, len, hge, hgeI, hb, truthy]
      · simp [hge, hb, scriptAfter]

/-- non-zero `flags`: `ValueError` before anything is touched (Model3.lean's `recvFlags`) -/
theorem src_recv_flags (J : Int) (st : BufferedSocket.St Int) (w : NW) (size flags : Int)
    (targ : Option (Option Int)) (hfl : flags ≠ 0) :
    BufferedSocket.recv (mnet J) st size flags targ w = (.error .valueError, st, w) := by
  simp [BufferedSocket.recv, runMethod, BufferedSocket.recv.body, finishMethod, hfl]

/-! The world of the send side is the model's send script (`C12.SEv`: how many bytes each `sock.send` takes, socket timeouts, the
wall clock passing the deadline), the wire (everything the socket accepted so far) and the clock, which - as on the receive
side and in the harness - jumps by `J` when a `sock.send` returns normally and leaves a `clock` event at the head of the
script: the deadline check that follows then fires (`popClock`).  `sbuf` is the object's list attribute. -/

structure SW where
  script : List SEv
  wire : Bytes
  late : Bool
deriving Repr

def isClock : List SEv → Bool
  | .clock :: _ => true
  | _ => false

/-- `sock.send(d)` on the model's send script (cf. `C12.sendLoop`, harness `FakeSock.send`) -/
def netSend (d : PyRtC12.Bytes) (w : SW) : Except Exc Int × SW :=
  match w.script with
  | [] => (.ok ((d.length : Nat) : Int), ⟨[], w.wire ++ d, false⟩)
  | .timeout :: r => (.error .sockTimeout, ⟨r, w.wire, false⟩)
  | .clock :: r => (.error .sockTimeout, ⟨r, w.wire, false⟩)      -- a send that finds the deadline passed times out too
  | .accept k :: r => (.ok ((min k d.length : Nat) : Int), ⟨r, w.wire ++ d.take k, isClock r⟩)

/-- the model's send-side network as an instance of the operations the generated code calls -/
def snet (J : Int) : Net SW Int where
  recv := fun _ w => (.ok [], w)
  settimeout := fun _ w => (.ok (), w)
  send := netSend
  time := fun w => (.ok (if w.late then J else 0), w)
  fsub := fun a b => a - b
  fle := fun a b => decide (a ≤ b)
  fzero := 0
  ftruthy := fun a => decide (a ≠ 0)

theorem snet_send (J : Int) (d : PyRtC12.Bytes) (w : SW) : (snet J).send d w = netSend d w := rfl
theorem snet_settimeout (J : Int) (t : Option Int) (w : SW) : (snet J).settimeout t w = (.ok (), w) := rfl
theorem snet_time (J : Int) (w : SW) : (snet J).time w = (.ok (if w.late then J else 0), w) := rfl
theorem snet_fsub (J a b : Int) : (snet J).fsub a b = a - b := rfl
theorem snet_fle (J a b : Int) : (snet J).fle a b = decide (a ≤ b) := rfl
theorem snet_fzero (J : Int) : (snet J).fzero = 0 := rfl
theorem snet_truthy_some (J t : Int) : (snet J).truthyOpt (some t) = decide (t ≠ 0) := rfl

/-- the script the model is left with: a `clock` event whose check fired is used up by that fault -/
def ssettle (w : SW) : List SEv := if w.late then w.script.tail else w.script

/-- the model's send-side state of an object in a world -/
def sst (st : BufferedSocket.St Int) (w : SW) : SSt := ⟨st.sbuf, w.wire, w.script⟩

/-- `buffer(data)` = the model's `buffer`: `data` is appended to `sbuf`, nothing is sent, `None` -/
theorem src_buffer_eq_model (J : Int) (st : BufferedSocket.St Int) (w : SW) (data : Bytes) :
    BufferedSocket.buffer (snet J) st data w = (.ok (), { st with sbuf := (buffer data (sst st w)).2.sbuf }, w) ∧
    (buffer data (sst st w)).1 = .none ∧ (buffer data (sst st w)).2.wire = w.wire ∧
    (buffer data (sst st w)).2.script = w.script := by
  simp [BufferedSocket.buffer, runMethod, BufferedSocket.buffer.body, finishMethod, buffer, sst]

abbrev SFr := Fr (BufferedSocket.St Int) (BufferedSocket.send.L Int) SW

/-- what the result of the model's `sendLoop` on `b` says about the outcome of the generated loop started with object state
    `self0` whose `sbuf` is `b :: rest`: `sbuf[0]` is what the model leaves, the wire and the script agree, a fault surfaces as an
    exception the `except socket.timeout` clause catches -/
def SendLoopPost (self0 : BufferedSocket.St Int) (rest : List Bytes) (mr : SRes × SSt) (o : Out Int × SFr) : Prop :=
  o.2.self = { self0 with sbuf := mr.2.sbuf ++ rest } ∧ o.2.w.wire = mr.2.wire ∧
  match mr.1 with
  | .sent n => o.1 = .next ∧ o.2.loc.total_sent = (n : Int) ∧ o.2.w.script = mr.2.script
  | .timeout => (∃ e, o.1 = .exc e ∧ e.isSockTimeout = true) ∧ ssettle o.2.w = mr.2.script
  | .none => False

theorem isClock_popClock (r : List SEv) :
    (isClock r = true ∧ ∃ r1, r = .clock :: r1 ∧ popClock r = some r1) ∨ (isClock r = false ∧ popClock r = none) := by
  cases r with
  | nil => simp [isClock, popClock]
  | cons e r1 => cases e <;> simp [isClock, popClock]

/-- fuel the loop needs: one iteration per script event, one for "the socket takes everything", one for the final test -/
def sendFuel (script : List SEv) (b : Bytes) : Nat := script.length + (if b = [] then 1 else 2)

theorem sliceFrom_len_cons (x : Nat) (xs : List Nat) : sliceFrom (x :: xs) ((xs.length : Int) + 1) = [] := by
  have h := sliceFrom_nat (x :: xs) (xs.length + 1)
  simpa using h

theorem sliceFrom_min_cons (x : Nat) (xs : List Nat) (k : Nat) :
    sliceFrom (x :: xs) ((min k (xs.length + 1) : Nat) : Int) = (x :: xs).drop k := by
  rw [sliceFrom_nat, List.drop_eq_drop_iff, List.length_cons]
  omega

theorem send_loop (J t : Int) (ht0 : 0 < t) (htJ : t ≤ J) (lf : Nat) :
    ∀ (n : Nat) (s : SFr) (b : Bytes) (rest : List Bytes) (total : Nat),
      sendFuel s.w.script b ≤ n → s.self.sbuf = b :: rest → s.loc.timeout_r = some t → s.loc.start = 0 →
      s.loc.total_sent = (total : Int) → s.w.late = false →
      SendLoopPost s.self rest (sendLoop s.w.script b total s.w.wire)
        (Blk.whileLoop (BufferedSocket.send.loop1.cond (snet J) lf) (BufferedSocket.send.loop1.body (snet J) lf)
          (BufferedSocket.send.loop1.orelse (snet J) lf) n s) := by
  intro n
  induction n with
  | zero =>
    intro s b rest total hn
    unfold sendFuel at hn
    split at hn <;> omega
  | succ n ih =>
    intro s b rest total hn hsb hto hst htot hlate
    obtain ⟨self, loc, w⟩ := s
    obtain ⟨script, wire, late⟩ := w
    simp only at hn hsb hto hst htot hlate
    subst hlate
    have htne : t ≠ 0 := by omega
    have hself : ∀ y : Bytes, ({ self with sbuf := [y] ++ rest } : BufferedSocket.St Int) = { self with sbuf := y :: rest } := by
      intro y; rfl
    cases b with
    | nil =>
      have hself0 : self = { self with sbuf := [[]] ++ rest } := by
        obtain ⟨rb, sb, ms, tmo0, rsz⟩ := self
        simp only at hsb
        subst hsb
        rfl
      simp [Blk.whileLoop, BufferedSocket.send.loop1.cond, BufferedSocket.send.loop1.orelse, hsb, truthy, len, sendLoop,
        SendLoopPost, htot]
      exact hself0
    | cons x xs =>
      have hc : BufferedSocket.send.loop1.cond (snet J) lf ⟨self, loc, ⟨script, wire, false⟩⟩ = true := by
        simp [BufferedSocket.send.loop1.cond, hsb, truthy, len]
        try omega
      rw [Blk.whileLoop]
      simp only [hc, if_true]
      cases script with
      | nil =>
        have hn2 : sendFuel [] ([] : Bytes) ≤ n := by simp [sendFuel] at hn ⊢; omega
        generalize hB : BufferedSocket.send.loop1.body (snet J) lf ⟨self, loc, ⟨[], wire, false⟩⟩ = B
        simp [BufferedSocket.send.loop1.body, snet_send, netSend, snet_settimeout, snet_time, snet_fsub, snet_fle,
          snet_fzero, hto, snet_truthy_some, htne, unwrap, hsb, hst, htot, sliceFrom_len_cons,
          show ¬ t ≤ 0 by omega] at hB
        subst hB
        simp only []
        generalize hF : (Fr.mk _ _ _ : SFr) = F
        have h := ih F [] rest (total + (x :: xs).length) (by subst hF; exact hn2) (by subst hF; rfl) (by subst hF; simp [hto])
          (by subst hF; simp [hst]) (by subst hF; simp [htot] <;> omega) (by subst hF; rfl)
        have e1 : F.self = { self with sbuf := [] :: rest } := by subst hF; rfl
        have e2 : F.w = ⟨[], wire ++ (x :: xs), false⟩ := by subst hF; rfl
        rw [e1, e2] at h
        simpa [SendLoopPost, sendLoop] using h
      | cons e r =>
        cases e with
        | timeout | clock =>
          have hself1 : self = { self with sbuf := [x :: xs] ++ rest } := by
            obtain ⟨rb, sb, ms, tmo0, rsz⟩ := self
            simp only at hsb
            subst hsb
            rfl
          simp [BufferedSocket.send.loop1.body, snet_send, netSend, hsb, sendLoop, SendLoopPost, ssettle, Exc.isSockTimeout]
          exact hself1
        | accept k =>
          rcases isClock_popClock r with ⟨hck, r1, hr1, hpop⟩ | ⟨hck, hpop⟩
          · have hJ : t - J ≤ 0 := by omega
            subst hr1
            simp [isClock, popClock, BufferedSocket.send.loop1.body, snet_send, netSend, snet_settimeout, snet_time,
              snet_fsub, snet_fle, snet_fzero, hto, snet_truthy_some, htne, unwrap, hsb, hst, htot, sliceFrom_min_cons, hJ,
              sendLoop, SendLoopPost, ssettle, Exc.isSockTimeout]
          · have hn2 : sendFuel r ((x :: xs).drop k) ≤ n := by
              have hne : ¬ (x :: xs = []) := by simp
              simp only [sendFuel, List.length_cons, if_neg hne] at hn
              unfold sendFuel
              split <;> omega
            generalize hB : BufferedSocket.send.loop1.body (snet J) lf ⟨self, loc, ⟨.accept k :: r, wire, false⟩⟩ = B
            simp [BufferedSocket.send.loop1.body, snet_send, netSend, snet_settimeout, snet_time, snet_fsub, snet_fle,
              snet_fzero, hto, snet_truthy_some, htne, unwrap, hsb, hst, htot, sliceFrom_min_cons, hck,
              show ¬ t ≤ 0 by omega] at hB
            subst hB
            simp only []
            generalize hF : (Fr.mk _ _ _ : SFr) = F
            have h := ih F ((x :: xs).drop k) rest (total + min k (x :: xs).length) (by subst hF; exact hn2) (by subst hF; rfl)
              (by subst hF; simp [hto]) (by subst hF; simp [hst]) (by subst hF; simp [htot]) (by subst hF; rfl)
            have e1 : F.self = { self with sbuf := (x :: xs).drop k :: rest } := by subst hF; rfl
            have e2 : F.w = ⟨r, wire ++ (x :: xs).take k, false⟩ := by subst hF; rfl
            rw [e1, e2] at h
            simpa [SendLoopPost, sendLoop, hpop] using h

theorem truthy_eq_isNonEmpty : (truthy : PyRtC12.Bytes → Bool) = isNonEmpty := by
  funext b; cases b <;> rfl

/-- what the caller of a send-side method sees -/
def soutcome : SRes → Except Exc Int
  | .sent n => .ok (n : Int)
  | .timeout => .error .timeout
  | .none => .ok 0

/-- the script the model is left with after a send-side call on world `w` -/
def sscriptAfter (r : SRes) (w : SW) : List SEv := if r = .timeout then ssettle w else w.script

/-- `send(data, 0, timeout)` = the model's `send`: the value (`total_sent`) or `Timeout`, `sbuf` joined and trimmed as in the
    model, the wire, the script used - under every partial-send / socket-timeout / deadline script, for a positive timeout
    the clock's jump exceeds, with fuel ≥ script length + 2 -/
theorem src_send_eq_model (J t : Int) (ht0 : 0 < t) (htJ : t ≤ J) (st : BufferedSocket.St Int) (w : SW) (data : Bytes)
    (targ : Option (Option Int)) (lfuel : Nat) (hlate : w.late = false) (hto : orDefault targ st.timeout = some t)
    (hf : w.script.length + 2 ≤ lfuel) :
    ∃ w', BufferedSocket.send (snet J) lfuel st data 0 targ w
        = (soutcome (send data (sst st w)).1, { st with sbuf := (send data (sst st w)).2.sbuf }, w') ∧
      w'.wire = (send data (sst st w)).2.wire ∧
      sscriptAfter (send data (sst st w)).1 w' = (send data (sst st w)).2.script := by
  -- the model's `send` runs its loop on the joined buffer (`sendA_eq_sendLoopA`); so does the generated loop, started on any frame
  -- whose `sbuf` is that one entry
  have key : ∀ F : SFr, F.self = { st with sbuf := [st.sbuf.flatten ++ data] } → F.loc.timeout_r = some t → F.loc.start = 0 →
      F.loc.total_sent = 0 → F.w = w →
      SendLoopPost st [] (send data (sst st w))
        (Blk.whileLoop (BufferedSocket.send.loop1.cond (snet J) lfuel) (BufferedSocket.send.loop1.body (snet J) lfuel)
          (BufferedSocket.send.loop1.orelse (snet J) lfuel) lfuel F) := by
    intro F h1 h2 h3 h4 h5
    have hfu : sendFuel F.w.script (st.sbuf.flatten ++ data) ≤ lfuel := by
      rw [h5]; unfold sendFuel; split <;> omega
    have key := send_loop J t ht0 htJ lfuel lfuel F _ [] 0 hfu (by rw [h1]) h2 h3 (by rw [h4]; rfl) (by rw [h5]; exact hlate)
    rw [h5] at key
    rw [← sendA_nil, sendA_eq_sendLoopA, sendLoopA]
    simpa [SendLoopPost, h1, sst, SSt.getsendbuffer] using key
  unfold BufferedSocket.send runMethod BufferedSocket.send.body
  -- `sbuf[0]` is `data` itself or the joined buffer
  cases hs : st.sbuf
  case' nil => simp [snet_time, snet_settimeout, hlate, hto, hs, lenL]
  case' cons a l =>
    have hi : (1 : Int) < (l.length : Int) + 1 + 1 := by omega
    simp [snet_time, snet_settimeout, hlate, hto, hs, lenL, hi, join, truthy_eq_isNonEmpty]
  all_goals
    generalize hF : (Fr.mk _ _ _ : SFr) = F
    have hpost := key F (by subst hF; simp [hs, flatten_filter_isNonEmpty]) (by subst hF; rfl) (by subst hF; rfl)
      (by subst hF; rfl) (by subst hF; rfl)
    clear hF key
    generalize Blk.whileLoop _ _ _ lfuel F = O at hpost ⊢
    obtain ⟨o, F1⟩ := O
    generalize send data (sst st w) = mr at hpost ⊢
    obtain ⟨r, m⟩ := mr
    simp only [SendLoopPost] at hpost
    obtain ⟨k1, k2, k3⟩ := hpost
    cases r with
    | sent n =>
      obtain ⟨k3, k4, k5⟩ := k3
      subst k3
      refine ⟨F1.w, ?_, k2, ?_⟩
      · simp [finishMethod, soutcome, k1, k4]
      · simp [sscriptAfter, k5]
    | timeout =>
      obtain ⟨⟨e, k3, ke⟩, k5⟩ := k3
      subst k3
      refine ⟨F1.w, ?_, k2, ?_⟩
      · simp [finishMethod, soutcome, ke, k1]
      · simp [sscriptAfter, k5]
    | none => exact k3.elim

/-- non-zero `flags`: `ValueError` before `sbuf` is touched (Model3.lean's `sendFlags`) -/
theorem src_send_flags (J : Int) (lfuel : Nat) (st : BufferedSocket.St Int) (w : SW) (data : Bytes) (flags : Int)
    (targ : Option (Option Int)) (hfl : flags ≠ 0) :
    BufferedSocket.send (snet J) lfuel st data flags targ w = (.error .valueError, st, w) := by
  simp [BufferedSocket.send, runMethod, BufferedSocket.send.body, finishMethod, hfl]

/-- `sendall` is `send`, on every network -/
theorem src_sendall_eq_send {W : Type} (net : Net W Int) (lfuel : Nat) (st : BufferedSocket.St Int) (w : W) (data : Bytes)
    (flags : Int) (targ : Option (Option Int)) :
    BufferedSocket.sendall net lfuel st data flags targ w = BufferedSocket.send net lfuel st data flags targ w := by
  unfold BufferedSocket.sendall runMethod BufferedSocket.sendall.body
  simp only [Blk.seq, Blk.callm, Blk.ret]
  rcases hr : BufferedSocket.send net lfuel st data flags targ w with ⟨r, st1, w1⟩
  cases r <;> simp [finishMethod]

/-- `sendall(data, 0, timeout)` = the model's `send` (the model has one operation for both) -/
theorem src_sendall_eq_model (J t : Int) (ht0 : 0 < t) (htJ : t ≤ J) (st : BufferedSocket.St Int) (w : SW) (data : Bytes)
    (targ : Option (Option Int)) (lfuel : Nat) (hlate : w.late = false) (hto : orDefault targ st.timeout = some t)
    (hf : w.script.length + 2 ≤ lfuel) :
    ∃ w', BufferedSocket.sendall (snet J) lfuel st data 0 targ w
        = (soutcome (send data (sst st w)).1, { st with sbuf := (send data (sst st w)).2.sbuf }, w') ∧
      w'.wire = (send data (sst st w)).2.wire ∧
      sscriptAfter (send data (sst st w)).1 w' = (send data (sst st w)).2.script := by
  rw [src_sendall_eq_send]
  exact src_send_eq_model J t ht0 htJ st w data targ lfuel hlate hto hf

/-- what the caller of `flush` / `buffer` sees: `None`, or `Timeout` -/
def soutcomeU : SRes → Except Exc Unit
  | .timeout => .error .timeout
  | _ => .ok ()

/-- `flush()` = the model's `flush`: `send(b'')` with the object's timeout, the byte count dropped -/
theorem src_flush_eq_model (J t : Int) (ht0 : 0 < t) (htJ : t ≤ J) (st : BufferedSocket.St Int) (w : SW)
    (lfuel : Nat) (hlate : w.late = false) (hto : st.timeout = some t) (hf : w.script.length + 2 ≤ lfuel) :
    ∃ w', BufferedSocket.flush (snet J) lfuel st w
        = (soutcomeU (flush (sst st w)).1, { st with sbuf := (flush (sst st w)).2.sbuf }, w') ∧
      w'.wire = (flush (sst st w)).2.wire ∧
      sscriptAfter (flush (sst st w)).1 w' = (flush (sst st w)).2.script := by
  obtain ⟨w', h1, h2, h3⟩ := src_send_eq_model J t ht0 htJ st w [] none lfuel hlate (by simpa [orDefault] using hto) hf
  refine ⟨w', ?_, ?_, ?_⟩
  · unfold BufferedSocket.flush runMethod BufferedSocket.flush.body
    simp only [Blk.seq, Blk.callm, h1, flush]
    cases hm : (send [] (sst st w)).1 <;> rcases hp : send [] (sst st w) with ⟨r, m⟩ <;> rw [hp] at hm <;> simp at hm <;>
      subst hm <;> simp [soutcome, soutcomeU, finishMethod]
  · unfold flush
    rcases hp : send [] (sst st w) with ⟨r, m⟩
    rw [hp] at h2
    cases r <;> simpa using h2
  · unfold flush
    rcases hp : send [] (sst st w) with ⟨r, m⟩
    rw [hp] at h3
    cases r <;> simpa [sscriptAfter] using h3

/-! Non-vacuity: the hypotheses of the tie theorems are met by concrete calls, and the GENERATED definitions return on them what
the Python methods return.  The kernel evaluates the calls (it shares the frame that the elaborator's `whnf` would evaluate
again for every projection of the result); the instances are what `decide` needs to compare the outcomes (in a namespace of
their own: `Model4.lean` derives an instance for the model's `St` whose generated name would be the same). -/

namespace Vectors

deriving instance DecidableEq for Except
deriving instance DecidableEq for BufferedSocket.St
deriving instance DecidableEq for NW
deriving instance DecidableEq for SW

/-- `recv_size(3)` on `rbuf = b"\x01"` and a network delivering `02 03 04`: returns `01 02 03`, keeps `04` -/
example : (BufferedSocket.recv_size (mnet 100) 10 ⟨[1], [], 10, some 5, 4⟩ 3 none ⟨[.chunk [2, 3, 4], .deadline], false⟩)
    = (.ok [1, 2, 3], ⟨[4], [], 10, some 5, 4⟩, ⟨[.deadline], true⟩) := by decide +kernel
/-- the deadline passes after the first chunk: `Timeout`, the bytes read so far are kept in `rbuf` -/
example : (BufferedSocket.recv_size (mnet 100) 10 ⟨[], [], 10, some 5, 4⟩ 3 none ⟨[.chunk [2], .deadline, .chunk [3, 4]], false⟩)
    = (.error .timeout, ⟨[2], [], 10, some 5, 4⟩, ⟨[.deadline, .chunk [3, 4]], true⟩) := by decide +kernel
/-- another OSError of the socket passes through unchanged, after the same buffer restoration -/
example : (BufferedSocket.recv_size (mnet 100) 10 ⟨[1], [], 10, none, 4⟩ 3 (some none) ⟨[.osError 7, .chunk [3, 4]], false⟩)
    = (.error (.osError 7), ⟨[1], [], 10, none, 4⟩, ⟨[.chunk [3, 4]], false⟩) := by decide +kernel
/-- … and `src_recv_size_eq_model` applies to the first of them -/
example : ∃ w', BufferedSocket.recv_size (mnet 100) 10 ⟨[1], [], 10, some 5, 4⟩ ((3 : Nat) : Int) none ⟨[.chunk [2, 3, 4], .deadline], false⟩
      = (outcome (callerFault [.chunk [2, 3, 4], .deadline]) (recvSize ⟨4, 10⟩ 3 ⟨[1], er [.chunk [2, 3, 4], .deadline]⟩).1,
         { (⟨[1], [], 10, some 5, 4⟩ : BufferedSocket.St Int) with rbuf := (recvSize ⟨4, 10⟩ 3 ⟨[1], er [.chunk [2, 3, 4], .deadline]⟩).2.rbuf }, w') ∧
      er (scriptAfter (recvSize ⟨4, 10⟩ 3 ⟨[1], er [.chunk [2, 3, 4], .deadline]⟩).1 w')
        = (recvSize ⟨4, 10⟩ 3 ⟨[1], er [.chunk [2, 3, 4], .deadline]⟩).2.script :=
  src_recv_size_eq_model 100 ⟨4, 10⟩ _ _ 3 none 10 rfl (by simp [orDefault, TOk]) rfl (by decide) (by decide)

/-- `recv_until(b"\r\n")` with the delimiter split across two chunks, one byte buffered: returns `01 02`, keeps `05` -/
example : (BufferedSocket.recv_until (mnet 100) 10 ⟨[1], [], 10, some 5, 4⟩ [13, 10] none none false
      ⟨[.chunk [2, 13], .chunk [10, 5]], false⟩)
    = (.ok [1, 2], ⟨[5], [], 10, some 5, 4⟩, ⟨[], false⟩) := by decide +kernel
/-- the delimiter is not within `maxsize = 2` bytes: `MessageTooLong`, everything read stays in `rbuf` -/
example : (BufferedSocket.recv_until (mnet 100) 10 ⟨[1], [], 10, some 5, 4⟩ [13, 10] none (some (some 2)) false
      ⟨[.chunk [2, 3], .chunk [13, 10]], false⟩).1 = .error .messageTooLong := by decide +kernel

example : BufferedSocket.buffer (snet 100) ⟨[], [[1]], 10, some 5, 4⟩ [2, 3] ⟨[.accept 1], [], false⟩
    = (.ok (), ⟨[], [[1], [2, 3]], 10, some 5, 4⟩, ⟨[.accept 1], [], false⟩) := rfl

-- two partial sends: the buffered byte and the new data go out joined, in order
example : BufferedSocket.send (snet 100) 10 ⟨[], [[1]], 10, some 5, 4⟩ [2, 3] 0 none ⟨[.accept 2, .accept 5], [], false⟩
    = (.ok 3, ⟨[], [[]], 10, some 5, 4⟩, ⟨[], [1, 2, 3], false⟩) := by decide +kernel
-- the deadline passes after the first partial send: `Timeout`, the unsent byte stays in `sbuf`
example : BufferedSocket.send (snet 100) 10 ⟨[], [[1]], 10, some 5, 4⟩ [2, 3] 0 none ⟨[.accept 2, .clock, .accept 5], [], false⟩
    = (.error .timeout, ⟨[], [[3]], 10, some 5, 4⟩, ⟨[.clock, .accept 5], [1, 2], true⟩) := by decide +kernel
example : ∃ w', BufferedSocket.send (snet 100) 10 ⟨[], [[1]], 10, some 5, 4⟩ [2, 3] 0 none ⟨[.accept 2, .clock, .accept 5], [], false⟩
      = (.error .timeout, ⟨[], [[3]], 10, some 5, 4⟩, w') ∧ w'.wire = [1, 2] ∧ ssettle w' = [.accept 5] := by
  have h := src_send_eq_model 100 5 (by decide) (by decide) ⟨[], [[1]], 10, some 5, 4⟩ ⟨[.accept 2, .clock, .accept 5], [], false⟩
    [2, 3] none 10 rfl rfl (by decide)
  obtain ⟨w', h1, h2, h3⟩ := h
  exact ⟨w', h1, h2, h3⟩

example : BufferedSocket.sendall (snet 100) 10 ⟨[], [[1]], 10, some 5, 4⟩ [2, 3] 0 none ⟨[.accept 2, .timeout], [], false⟩
    = (.error .timeout, ⟨[], [[3]], 10, some 5, 4⟩, ⟨[], [1, 2], false⟩) := by decide +kernel

example : BufferedSocket.flush (snet 100) 10 ⟨[], [[1], [], [2, 3]], 10, some 5, 4⟩ ⟨[.accept 1], [9], false⟩
    = (.ok (), ⟨[], [[]], 10, some 5, 4⟩, ⟨[], [9, 1, 2, 3], false⟩) := by decide +kernel

end Vectors

end C12
