import BoltonsVerif.C12.Proofs
import BoltonsVerif.C12.SendSide
/-
C12 — lemmas: the flat send-side specification, the BufferedSocket as one object (frame, fault-class alignment,
conservation), the read loop over `recv`, sizes as Python ints.
-/
namespace C12

/-- `deliver` matches `.accept k :: .clock` as one pattern; `sendLoop` calls `popClock` behind the `accept` -/
theorem deliver_accept (k : Nat) (r : List SEv) (b : Nat) (buf : Bytes) :
    deliver (.accept k :: r) (b :: buf) = match popClock r with
      | some r' => (true, (b :: buf).take k, (b :: buf).drop k, r')
      | none => ((deliver r ((b :: buf).drop k)).1, (b :: buf).take k ++ (deliver r ((b :: buf).drop k)).2.1,
          (deliver r ((b :: buf).drop k)).2.2) := by
  rcases r with _ | ⟨_ | _ | _, r⟩ <;> rfl

theorem sendLoop_deliver : ∀ (script : List SEv) (buf : Bytes) (total : Nat) (wire : Bytes),
    sendLoop script buf total wire
      = ((if (deliver script buf).1 then SRes.timeout else SRes.sent (total + (deliver script buf).2.1.length)),
         ⟨[(deliver script buf).2.2.1], wire ++ (deliver script buf).2.1, (deliver script buf).2.2.2⟩) := by
  intro script
  induction script with
  | nil =>
    intro buf total wire
    cases buf with
    | nil => simp [sendLoop, deliver]
    | cons b buf => simp [sendLoop, deliver]
  | cons e script ih =>
    intro buf total wire
    cases buf with
    | nil => simp [sendLoop, deliver]
    | cons b buf =>
      cases e with
      | timeout | clock => simp [sendLoop, deliver]
      | accept k =>
        rw [sendLoop, deliver_accept]
        cases popClock script with
        | some r' => simp
        | none =>
          simp only
          rw [ih]
          simp [List.length_take, Nat.add_assoc]

theorem send_flat (data : Bytes) (st : SSt) :
    (send data st).1 = (fsend data st.flat).1 ∧ (send data st).2.flat = (fsend data st.flat).2 := by
  rw [← sendA_nil, sendA_eq_sendLoopA, sendLoopA, sendLoop_deliver]
  refine ⟨?_, ?_⟩
  · simp only [fsend, SSt.flat, Nat.zero_add]
    by_cases h : (deliver st.script (st.getsendbuffer ++ data)).1 = true
    · simp only [h, if_true]
    · simp only [h]
  · simp only [fsend, SSt.flat]
    simp [SSt.getsendbuffer]

theorem sstep_flat (op : SOp) (st : SSt) :
    (sstep op st).1 = (fstep op st.flat).1 ∧ (sstep op st).2.flat = (fstep op st.flat).2 := by
  cases op with
  | send d => exact send_flat d st
  | buffer d => simp [sstep, fstep, buffer, SSt.flat, SSt.getsendbuffer]
  | flush =>
    obtain ⟨h1, h2⟩ := send_flat [] st
    simp only [sstep, fstep, flush]
    cases hq : send [] st with
    | mk r st' =>
      rw [hq] at h1 h2
      cases hf : fsend [] st.flat with
      | mk r' f' =>
        rw [hf] at h1 h2
        simp only at h1 h2
        subst h1
        cases r <;> simp [h2]

theorem srun_flat : ∀ (ops : List SOp) (st : SSt),
    sobs (srun ops st).1 = (frun ops st.flat).1 ∧ (srun ops st).2.flat = (frun ops st.flat).2 := by
  intro ops
  induction ops with
  | nil => intro st; simp [srun, frun, sobs]
  | cons op ops ih =>
    intro st
    obtain ⟨h1, h2⟩ := sstep_flat op st
    obtain ⟨h3, h4⟩ := ih (sstep op st).2
    simp only [srun, frun, sobs, List.map_cons]
    rw [← h2]
    refine ⟨?_, h4⟩
    simp only [sobs] at h3
    rw [h3, h1]
    simp [SSt.flat]

theorem dcall_txPart (large : Nat) (c : Call) (b : BSock) : (dcall large c b).2.txPart = b.txPart := by
  unfold dcall; split <;> rfl

theorem dsopA_nil (o : SOp) (b : BSock) : dsopA [] o b = dsop o b := by
  simp only [dsopA, dsop, sstepA_nil]

theorem dsopA_rxPart (offers : List Nat) (o : SOp) (b : BSock) : (dsopA offers o b).2.rxPart = b.rxPart := by
  unfold dsopA; split <;> rfl

theorem dsop_rxPart (o : SOp) (b : BSock) : (dsop o b).2.rxPart = b.rxPart :=
  dsopA_nil o b ▸ dsopA_rxPart [] o b

theorem dcall_congr (large : Nat) (c : Call) (b b' : BSock) (h : b.rxPart = b'.rxPart) :
    (dcall large c b).1 = (dcall large c b').1 ∧ (dcall large c b).2.rxPart = (dcall large c b').2.rxPart := by
  simp only [BSock.rxPart, Prod.mk.injEq] at h
  obtain ⟨h1, h2, h3⟩ := h
  unfold dcall
  rw [h1, h2, h3]
  split <;> simp [BSock.rxPart]

theorem dsop_congr (o : SOp) (b b' : BSock) (h : b.txPart = b'.txPart) :
    (dsop o b).1 = (dsop o b').1 ∧ (dsop o b).2.txPart = (dsop o b').2.txPart := by
  simp only [BSock.txPart, Prod.mk.injEq] at h
  obtain ⟨h1, h2⟩ := h
  unfold dsop
  rw [h1, h2]
  split <;> simp [BSock.txPart]

theorem dsop_ne_valueError (o : SOp) (b : BSock) : (dsop o b).1 ≠ .valueError := by
  unfold dsop; split <;> simp

/-- `op` is the receive-side call `c`, also in what it hands over and takes in -/
structure DOp.AsCall (op : DOp) (large : Nat) (c : Call) : Prop where
  isRx : op.isRx = true
  step : dstep large op = dcall large c
  consumed : ∀ out m, op.consumed out large m = (DOp.call c).consumed out large m
  accepted : ∀ out, op.accepted out = []

/-- `op` is the send-side call `o` -/
structure DOp.AsSop (op : DOp) (large : Nat) (o : SOp) : Prop where
  isRx : op.isRx = false
  step : dstep large op = dsop o
  consumed : ∀ out m, op.consumed out large m = []
  accepted : ∀ out, out ≠ .valueError → op.accepted out = o.data

/-- a call on the object is refused for its flags (nothing touched), or is a receive-side call, or a send-side call;
    `recv(size, 0)` and `send(data, 0)` are the plain calls -/
theorem dstep_cases (large : Nat) (op : DOp) :
    (dstep large op = fun b => (.valueError, b)) ∨ (∃ c, op.AsCall large c) ∨ (∃ o, op.AsSop large o) := by
  cases op with
  | call c => exact .inr (.inl ⟨c, rfl, rfl, fun _ _ => rfl, fun out => by cases out <;> rfl⟩)
  | sop o => exact .inr (.inr ⟨o, rfl, rfl, fun _ _ => rfl, fun out h => by cases out <;> simp_all [DOp.accepted]⟩)
  | recvFlags size flags =>
    by_cases hf : flags = 0
    · refine .inr (.inl ⟨.recv size, rfl, funext fun b => by simp [dstep, hf], fun out m => ?_, fun out => by cases out <;> rfl⟩)
      cases out with
      | rx r =>
        cases r with
        | none => rfl
        | some r => cases r <;> rfl
      | _ => rfl
    · exact .inl (funext fun b => by simp [dstep, hf])
  | sendFlags d flags =>
    by_cases hf : flags = 0
    · exact .inr (.inr ⟨.send d, rfl, funext fun b => by simp [dstep, hf], fun _ _ => rfl,
        fun out h => by cases out <;> simp_all [DOp.accepted, SOp.data]⟩)
    · exact .inl (funext fun b => by simp [dstep, hf])

theorem dstep_rx_frame (large : Nat) (op : DOp) (b : BSock) (h : op.isRx = true) :
    (dstep large op b).2.txPart = b.txPart := by
  rcases dstep_cases large op with e | ⟨c, hc⟩ | ⟨o, ho⟩
  · rw [e]
  · rw [hc.step]; exact dcall_txPart large c b
  · cases h.symm.trans ho.isRx

theorem dstep_tx_frame (large : Nat) (op : DOp) (b : BSock) (h : op.isRx = false) :
    (dstep large op b).2.rxPart = b.rxPart := by
  rcases dstep_cases large op with e | ⟨c, hc⟩ | ⟨o, ho⟩
  · rw [e]
  · cases h.symm.trans hc.isRx
  · rw [ho.step]; exact dsop_rxPart o b

theorem dstep_rx_congr (large : Nat) (op : DOp) (b b' : BSock) (hop : op.isRx = true)
    (h : b.rxPart = b'.rxPart) :
    (dstep large op b).1 = (dstep large op b').1 ∧
    (dstep large op b).2.rxPart = (dstep large op b').2.rxPart := by
  rcases dstep_cases large op with e | ⟨c, hc⟩ | ⟨o, ho⟩
  · rw [e]; exact ⟨rfl, h⟩
  · rw [hc.step]; exact dcall_congr large c b b' h
  · cases hop.symm.trans ho.isRx

theorem dstep_tx_congr (large : Nat) (op : DOp) (b b' : BSock) (hop : op.isRx = false)
    (h : b.txPart = b'.txPart) :
    (dstep large op b).1 = (dstep large op b').1 ∧
    (dstep large op b).2.txPart = (dstep large op b').2.txPart := by
  rcases dstep_cases large op with e | ⟨c, hc⟩ | ⟨o, ho⟩
  · rw [e]; exact ⟨rfl, h⟩
  · cases hop.symm.trans hc.isRx
  · rw [ho.step]; exact dsop_congr o b b' h

/-- a run filtered by `sel` is the run of the selected calls, as far as `proj` sees the object, when the other calls leave
    `proj` alone and the selected ones act through it -/
theorem drun_filter (large : Nat) {P : Type} (proj : BSock → P) (sel : DOp → Bool)
    (frame : ∀ op b, sel op = false → proj (dstep large op b).2 = proj b)
    (congr : ∀ op b b', sel op = true → proj b = proj b' →
      (dstep large op b).1 = (dstep large op b').1 ∧ proj (dstep large op b).2 = proj (dstep large op b').2) :
    ∀ (ops : List DOp) (b b' : BSock), proj b = proj b' →
      (drun large ops b).1.filter (fun p => sel p.1) = (drun large (ops.filter sel) b').1 ∧
      proj (drun large ops b).2 = proj (drun large (ops.filter sel) b').2 := by
  intro ops
  induction ops with
  | nil => intro b b' h; exact ⟨rfl, h⟩
  | cons op ops ih =>
    intro b b' h
    cases hop : sel op with
    | true =>
      obtain ⟨h1, h2⟩ := congr op b b' hop h
      obtain ⟨h3, h4⟩ := ih (dstep large op b).2 (dstep large op b').2 h2
      simp only [drun, List.filter_cons, hop, ↓reduceIte]
      exact ⟨by rw [h1, h3], h4⟩
    | false =>
      obtain ⟨h3, h4⟩ := ih (dstep large op b).2 b' ((frame op b hop).trans h)
      simp only [drun, List.filter_cons, hop]
      exact ⟨by simpa using h3, h4⟩

/-- the invariant: one class per fault still in each script -/
def BSock.Aligned (b : BSock) : Prop :=
  b.rtags.length = nTO b.rx.script ∧ b.stags.length = nSF b.tx.script

theorem popTag_cons {ts : List Fault} (h : 0 < ts.length) :
    ts = (popTag ts).1 :: (popTag ts).2 ∧ ts.length = (popTag ts).2.length + 1 := by
  cases ts with
  | nil => simp at h
  | cons f fs => exact ⟨rfl, rfl⟩

theorem callAttempt_nTO (large : Nat) (cfg : Cfg) (c : Call) (st : St) :
    ((callAttempt large cfg c st).1 = some .timeout →
      nTO (callAttempt large cfg c st).2.2.script + 1 = nTO st.script) ∧
    ((callAttempt large cfg c st).1 ≠ some .timeout →
      nTO (callAttempt large cfg c st).2.2.script = nTO st.script) := by
  unfold callAttempt
  cases hc : c.op large cfg.maxsize with
  | none => simp
  | some op =>
    simp only [Option.some.injEq, ne_eq]
    exact ⟨(attempt_timeoutExact cfg op st).raised, (attempt_timeoutExact cfg op st).other⟩

theorem dcall_aligned (large : Nat) (c : Call) (b : BSock) (h : b.Aligned) :
    (dcall large c b).2.Aligned ∧
    (∀ f, (dcall large c b).1 = .fault f → b.rtags = f :: (dcall large c b).2.rtags) := by
  obtain ⟨hr, hs⟩ := h
  obtain ⟨a1, a2⟩ := callAttempt_nTO large b.cfg c b.rx
  unfold dcall
  by_cases ht : (callAttempt large b.cfg c b.rx).1 = some .timeout
  · simp only [ht, ↓reduceIte, BSock.Aligned]
    have hn := a1 ht
    have hpos : 0 < b.rtags.length := by omega
    obtain ⟨hp, hlen⟩ := popTag_cons hpos
    exact ⟨⟨by omega, hs⟩, fun f hf => DOut.fault.inj hf ▸ hp⟩
  · simp only [ht, ↓reduceIte, BSock.Aligned]
    have hn := a2 ht
    exact ⟨⟨by omega, hs⟩, nofun⟩

theorem dsopA_conserves (offers : List Nat) (o : SOp) (b : BSock) :
    (dsopA offers o b).2.tx.wire ++ (dsopA offers o b).2.tx.getsendbuffer
      = b.tx.wire ++ b.tx.getsendbuffer ++ o.data ∧
    b.tx.wire <+: (dsopA offers o b).2.tx.wire := by
  have h := sstepA_ok offers o b.tx
  unfold dsopA
  split <;> exact ⟨h.conserves, h.wire_grows⟩

theorem dsopA_aligned (offers : List Nat) (o : SOp) (b : BSock) (h : b.Aligned) :
    (dsopA offers o b).2.Aligned ∧
    (∀ f, (dsopA offers o b).1 = .fault f → b.stags = f :: (dsopA offers o b).2.stags) := by
  obtain ⟨hr, hs⟩ := h
  have hf := (sstepA_ok offers o b.tx).faults
  unfold dsopA
  by_cases ht : (sstepA offers o b.tx).1 = .timeout
  · simp only [ht, ↓reduceIte, BSock.Aligned]
    rw [ht] at hf
    simp only [SRes.isTO] at hf
    obtain ⟨hp, hlen⟩ := popTag_cons (ts := b.stags) (by omega)
    exact ⟨⟨hr, by omega⟩, fun f hf' => DOut.fault.inj hf' ▸ hp⟩
  · simp only [ht, ↓reduceIte, BSock.Aligned]
    have : (sstepA offers o b.tx).1.isTO = 0 := by
      cases hq : (sstepA offers o b.tx).1 with
      | timeout => exact absurd hq ht
      | sent n => rfl
      | none => rfl
    exact ⟨⟨hr, by omega⟩, nofun⟩

theorem dsop_aligned (o : SOp) (b : BSock) (h : b.Aligned) :
    (dsop o b).2.Aligned ∧
    (∀ f, (dsop o b).1 = .fault f → b.stags = f :: (dsop o b).2.stags) :=
  dsopA_nil o b ▸ dsopA_aligned [] o b h

theorem dcall_conserves (large : Nat) (c : Call) (b : BSock) (hrs : 0 < b.cfg.recvsize) :
    (DOp.call c).consumed (dcall large c b).1 large b.cfg.maxsize ++ (dcall large c b).2.rx.view = b.rx.view ∧
    (dcall large c b).2.cfg.recvsize = b.cfg.recvsize := by
  unfold dcall callAttempt
  cases hc : c.op large b.cfg.maxsize with
  | none => simp [DOp.consumed]
  | some op =>
    have hcons := attempt_conserves b.cfg hrs op b.rx
    simp only [Option.some.injEq]
    by_cases ht : (attempt b.cfg op b.rx).1 = .timeout
    · simp only [ht, ↓reduceIte, DOp.consumed, List.nil_append, and_true]
      rw [ht] at hcons
      simpa [consumed_timeout] using hcons
    · simp only [ht, ↓reduceIte, DOp.consumed, hc, and_true]
      exact hcons

theorem dsop_conserves (o : SOp) (b : BSock) :
    (dsop o b).2.tx.wire ++ (dsop o b).2.tx.getsendbuffer = b.tx.wire ++ b.tx.getsendbuffer ++ o.data ∧
    b.tx.wire <+: (dsop o b).2.tx.wire :=
  dsopA_nil o b ▸ dsopA_conserves [] o b

/-- fuel: a Timeout lowers `measure`, a non-empty return shortens the view, the final b'' takes one round -/
theorem drain_ok (cfg : Cfg) (hrs : 0 < cfg.recvsize) (size : Nat) (hs : 0 < size) :
    ∀ (fuel : Nat) (st : St), measure st.script + st.view.length + 1 ≤ fuel →
      (drain cfg size fuel st).1 = st.view ∧ (drain cfg size fuel st).2.view = [] := by
  intro fuel
  induction fuel with
  | zero => intro st h; omega
  | succ fuel ih =>
    intro st h
    rcases recv_ok cfg hrs size st with ⟨a, b, c⟩ | ⟨v, a, hv, e⟩
    · cases hq : recv cfg size st with
      | mk r st' =>
        rw [hq] at a b c
        simp only at a b c
        subst a
        simp only [drain, hq]
        have := ih st' (by rw [b]; omega)
        rw [b] at this
        exact this
    · cases hq : recv cfg size st with
      | mk r st' =>
        rw [hq] at a hv e
        simp only at a hv e
        subst a
        have b := hv.split
        cases v with
        | nil =>
          have hv := hv.eof hs rfl
          simp only [drain, hq]
          simp only [List.nil_append] at b
          exact ⟨hv.symm, by rw [b, hv]⟩
        | cons x v =>
          simp only [drain, hq]
          have hl : st.view.length = (x :: v).length + st'.view.length := by
            rw [← b]; simp; omega
          have := ih st' (by simp only [List.length_cons] at hl; omega)
          refine ⟨?_, this.2⟩
          rw [this.1]
          exact b

/-- comparing with, and cutting at, an `int` size is comparing with and cutting at the size clamped at 0, for a total `T` that
    counts the non-empty last chunk of `len` bytes -/
theorem clamp_size (T len : Nat) (size : Int) (hlen : 0 < len) (hT : len ≤ T) :
    ((T : Int) ≥ size ↔ T ≥ size.toNat) ∧
    len - ((T : Int) - size).toNat = len - (T - size.toNat) ∧
    (((T : Int) - size).toNat ≠ 0 ↔ T - size.toNat ≠ 0) := by
  omega

theorem recvSizeLoopI_eq (rs : Nat) (size : Int) : ∀ (fuel : Nat) (acc : Bytes) (total : Nat) (nxt : Bytes)
    (script : List Ev),
    recvSizeLoopI rs size fuel acc total nxt script = recvSizeLoop rs size.toNat fuel acc total nxt script := by
  intro fuel
  induction fuel with
  | zero => intro acc total nxt script; rfl
  | succ fuel ih =>
    intro acc total nxt script
    simp only [recvSizeLoopI, recvSizeLoop, pyDropLast, pyLast]
    by_cases hn : nxt = []
    · simp [hn]
    · obtain ⟨h1, h2, h3⟩ := clamp_size (total + nxt.length) nxt.length size (List.length_pos_iff.mpr hn) (by omega)
      simp only [hn, ↓reduceIte, ge_iff_le] at h1 ⊢
      simp only [h1, h2, h3, ih]
      rfl

theorem recvSizeI_eq (cfg : Cfg) (size : Int) (st : St) : recvSizeI cfg size st = recvSize cfg size.toNat st := by
  simp only [recvSizeI, recvSize, recvSizeLoopI_eq]
  rfl

/-- the model's clamping of a negative size prefix to 0 (`parseSize`) loses nothing -/
theorem readNsI_eq (cfg : Cfg) (maxsize window : Nat) (st : St) :
    readNsI cfg maxsize window st = readNsWith cfg maxsize window st := by
  unfold readNsI readNsWith
  cases recvUntil cfg [colon] window false st with
  | mk r st1 =>
    cases r with
    | ok prefix_ =>
      simp only [parseSize]
      cases parsePyInt prefix_ with
      | none => rfl
      | some size =>
        have hgt : size > (maxsize : Int) ↔ size.toNat > maxsize := by omega
        simp only [Option.map_some, hgt, recvSizeI_eq]
        rfl
    | closed | tooLong | timeout | fuel => rfl

theorem NsSock.readNsI_eq (cfg : Cfg) (ns : NsSock) (arg : Option Nat) (st : St) :
    ns.readNsI cfg arg st = ns.readNs cfg arg st := by
  cases arg <;> simp [NsSock.readNsI, NsSock.readNs, C12.readNsI_eq]

end C12
