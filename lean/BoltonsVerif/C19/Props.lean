import BoltonsVerif.C19.Utf8
/-
C19 — the property theorems for the line readers, and examples that their hypotheses can be met and are needed.

Texts / contents are `List Nat` (code points / bytes; 10 = LF, 13 = CR).  Everything is
for ALL texts, contents and block sizes ≥ 1.  `json.loads` is an ARBITRARY function `parse`
(no assumption on it: `next()` strips the line break before decoding, so both directions
hand it the same bytes).
-/
namespace C19

/-- the alternatives of `_line_ending_re` (regenerated from the source on every run) are, as a set,
    exactly the eight line breaks of the statement, and CR LF is tried before CR (so that CR LF is
    one break).  The theorems below speak of the regenerated table; their proofs evaluate the matcher on it
    (`firstMatch_E_cr_lf` … in Proofs.lean) and so are re-checked against it on every run. -/
theorem lineEndings_denote :
    (∀ a ∈ Generated.lineEndings, a ∈ [[13, 10], [10], [11], [12], [13], [133], [8232], [8233]]) ∧
    (∀ a ∈ [[13, 10], [10], [11], [12], [13], [133], [8232], [8233]], a ∈ Generated.lineEndings) ∧
    Generated.lineEndings.idxOf [13, 10] < Generated.lineEndings.idxOf [13] := by decide

theorem lineEndings_eq_E : Generated.lineEndings = E := rfl

/-- the two byte sets `JSONLIterator.next` strips from a line (regenerated on every run by running
    the current code with `json.loads` replaced by a recorder): the end set contains LF and CR — all
    the JSONL theorems need — and the front set contains space and tab (blank lines) -/
theorem stripSets_denote :
    10 ∈ Generated.rstripSet ∧ 13 ∈ Generated.rstripSet ∧
    32 ∈ Generated.lstripSet ∧ 9 ∈ Generated.lstripSet ∧
    32 ∈ Generated.lstripSetT ∧ 9 ∈ Generated.lstripSetT := by decide

/-- the break sets the SPEC side uses (`strBreak` for `str.splitlines`, `bytesBreak` for
    `bytes.splitlines`) are the ones of the running interpreter: the two tables are regenerated on
    every run by evaluating `splitlines` on every code point / byte value -/
theorem pySplit_tables :
    (∀ c, strBreak c = Generated.strBreakSet.contains c) ∧
    (∀ c, bytesBreak c = Generated.bytesBreakSet.contains c) := by
  constructor <;> intro c
  · simp only [strBreak, Generated.strBreakSet, List.contains_cons, List.contains_nil, Bool.or_false, Bool.or_assoc]
  · simp only [bytesBreak, Generated.bytesBreakSet, List.contains_cons, List.contains_nil, Bool.or_false]

/-- for EVERY text: `iter_splitlines(t)` is the `splitlines` algorithm run with exactly the eight
    forms of the statement as line breaks (CR LF counting as one), plus one final empty string
    when `t` ends with a line break — it splits there and nowhere else -/
theorem splitlines_eight_forms (t : List Nat) :
    iterSplitlines t = eightSplitlines t ++ (if endsWithBreak t then [[]] else []) := by
  exact iterSplitlines_eq_splitFinal t

/-- hence `iter_splitlines(t)` yields exactly `str.splitlines(t)`, plus one final empty string when
    `t` ends with a line break — for every text whose line breaks are the eight forms, i.e.
    without U+001C..U+001E, which `str.splitlines` alone honours -/
theorem splitlines_spec (t : List Nat) (h : ∀ c ∈ t, isFS c = false) :
    iterSplitlines t = pySplitlines t ++ (if endsWithBreak t then [[]] else []) := by
  rw [splitlines_eight_forms, pySplitlines_eq_eight t h]

/-- nothing is lost or invented: the yielded lines, each followed by the line ending that was
    matched after it, concatenate to the text -/
theorem pieces_rejoin (t : List Nat) : (iterPieces t).flatMap (fun p => p.1 ++ p.2) = t := by
  unfold iterPieces
  exact (scan_spec t.length t (Nat.le_refl _)).rejoin

/-- it never splits anywhere else, and splits at every break: what separates two yielded lines is
    one of the eight line endings, and no yielded line contains a line-break character -/
theorem no_other_splits (t : List Nat) :
    ∀ p ∈ iterPieces t, (∀ c ∈ p.1, lineBreakChar c = false) ∧
      (p.2 = [] ∨ p.2 ∈ Generated.lineEndings) := by
  unfold iterPieces
  exact (scan_spec t.length t (Nat.le_refl _)).pieces

theorem no_break_one_line (t : List Nat) (hne : t ≠ []) (h : ∀ c ∈ t, lineBreakChar c = false) :
    iterSplitlines t = [t] := by
  rw [iterSplitlines_eq_splitFinal, splitFinal_plain t h, if_neg hne]

/-- the empty text has no lines, every other text has a non-empty line or at least two lines -/
theorem splitlines_ne_single_empty (t : List Nat) : iterSplitlines t ≠ [[]] := by
  rw [iterSplitlines_eq_splitFinal]
  exact splitFinal_ne_singleton_nil t

/-- `iter_splitlines` undoes `'\n'.join`: for any lines without line-break characters (other than the
    lone `['']`, which joins to the empty text) -/
theorem splitlines_join (ls : List (List Nat)) (hb : ∀ l ∈ ls, ∀ c ∈ l, lineBreakChar c = false)
    (hne : ls ≠ [[]]) : iterSplitlines (joinWith [10] ls) = ls := by
  rw [iterSplitlines_eq_splitFinal]
  exact splitFinal_join ls hb hne

theorem indent_spec (key : List Nat → Bool) (m nl t : List Nat) :
    indent key m nl t = joinWith nl
      ((eightSplitlines t ++ (if endsWithBreak t then [[]] else [])).map
        fun l => if key l then m ++ l else l) := by
  unfold indent
  rw [splitlines_eight_forms]

/-- indenting changes no line structure (default newline `'\n'`, any key, margin without line breaks) -/
theorem indent_lines (key : List Nat → Bool) (m t : List Nat)
    (hm : ∀ c ∈ m, lineBreakChar c = false) :
    iterSplitlines (indent key m [10] t) =
      (iterSplitlines t).map fun l => if key l then m ++ l else l := by
  unfold indent
  apply splitlines_join
  · intro l hl c hc
    obtain ⟨l0, hl0, rfl⟩ := List.mem_map.mp hl
    have h0 : ∀ c ∈ l0, lineBreakChar c = false := by
      obtain ⟨p, hp, rfl⟩ := List.mem_map.mp hl0
      exact (no_other_splits t p hp).1
    split at hc
    · rcases List.mem_append.mp hc with hc | hc
      · exact hm c hc
      · exact h0 c hc
    · exact h0 c hc
  · intro h
    have hlen : (iterSplitlines t).length = 1 := by
      have := congrArg List.length h
      simpa using this
    match hi : iterSplitlines t, hlen with
    | [l0], _ =>
      rw [hi] at h
      simp only [List.map_cons, List.map_nil, List.cons.injEq, and_true] at h
      have : l0 = [] := by
        split at h
        · exact (List.append_eq_nil_iff.mp h).2
        · exact h
      subst this
      exact splitlines_ne_single_empty t hi

/-- for every block size ≥ 1 the loop yields the lines of the content — `bytes.splitlines()` plus a
    final empty line when the content ends with LF — last to first -/
theorem reverse_lines (c : List Nat) (bs : Nat) (hbs : 1 ≤ bs) :
    reverseIterLines c bs = (linesOf c).reverse := by
  rw [reverseIterLines, revLoop, revLoopS_start c _ (fun _ => hbs), List.take_length]

/-- the statement's reading: when no CR stands alone, those are the LF- or CRLF-separated
    pieces of the content (`sepLines`), last to first, each without its line break -/
theorem reverse_lines_separated (c : List Nat) (bs : Nat) (hbs : 1 ≤ bs)
    (hne : c ≠ []) (hcr : noLoneCR c = true) :
    reverseIterLines c bs = (sepLines c).reverse := by
  rw [reverse_lines c bs hbs, linesOf_eq_sepLines c hcr hne]

theorem reverse_lines_rejoin (c : List Nat) (bs : Nat) (hbs : 1 ≤ bs) (hne : c ≠ [])
    (h : ∀ x ∈ c, x ≠ 13) : joinWith [10] (reverseIterLines c bs).reverse = c := by
  rw [reverse_lines_separated c bs hbs hne (noLoneCR_of_noCR c h), List.reverse_reverse,
    sepLines_rejoin c h]

theorem reverse_lines_empty (bs : Nat) : reverseIterLines [] bs = [] := by
  exact revLoopS_zero [] (fun _ => bs) 0 []

/-- so the bytes of a multi-byte character (all ≥ 128) are never separated from each other, whatever the block size -/
theorem reverse_lines_unbroken (c : List Nat) (bs : Nat) (hbs : 1 ≤ bs) :
    ∀ l ∈ reverseIterLines c bs, ∀ x ∈ l, bytesBreak x = false := by
  rw [reverse_lines c bs hbs]
  exact fun l hl => linesOf_noBrk c l (List.mem_reverse.mp hl)

/-- independence from the read partition, not only from the block size: each round of the loop may read any number of
    bytes ≥ 1 (a constant block size, block-aligned reads, a different size in every round) -/
theorem reverse_lines_any_schedule (c : List Nat) (rs : Nat → Nat) (hrs : ∀ p, 1 ≤ rs p) :
    revLoopS c rs c.length c.length [] = (linesOf c).reverse := by
  rw [revLoopS_start c rs hrs, List.take_length]

theorem schedule_independent (c : List Nat) (rs₁ rs₂ : Nat → Nat)
    (h₁ : ∀ p, 1 ≤ rs₁ p) (h₂ : ∀ p, 1 ≤ rs₂ p) :
    revLoopS c rs₁ c.length c.length [] = revLoopS c rs₂ c.length c.length [] := by
  rw [reverse_lines_any_schedule c rs₁ h₁, reverse_lines_any_schedule c rs₂ h₂]

theorem blocksize_independent (c : List Nat) (bs₁ bs₂ : Nat) (h₁ : 1 ≤ bs₁) (h₂ : 1 ≤ bs₂) :
    reverseIterLines c bs₁ = reverseIterLines c bs₂ := by
  exact schedule_independent c (fun _ => bs₁) (fun _ => bs₂) (fun _ => h₁) (fun _ => h₂)

/-- e.g. reading on block boundaries (`alignedRead`) gives what the code's "blocks counted from the end of the file" gives -/
theorem aligned_reads_same (c : List Nat) (bs : Nat) (hbs : 1 ≤ bs) :
    revLoopS c (alignedRead bs) c.length c.length [] = reverseIterLines c bs := by
  rw [reverse_lines_any_schedule c _ (alignedRead_pos bs hbs), reverse_lines c bs hbs]

/-- `preseek=False` with the file position at `p` (relative reverse line generation) -/
theorem reverse_lines_from_position (c : List Nat) (p bs : Nat) (hbs : 1 ≤ bs) :
    reverseIterLinesFrom c p bs = (linesOf (c.take p)).reverse := by
  rw [reverseIterLinesFrom, revLoop, revLoopS_start c _ (fun _ => hbs), ← List.take_eq_take_min]

theorem reverse_from_position_eq_prefix (c : List Nat) (p bs : Nat) (hbs : 1 ≤ bs) :
    reverseIterLinesFrom c p bs = reverseIterLines (c.take p) bs := by
  rw [reverse_lines_from_position c p bs hbs, reverse_lines _ bs hbs]

/-! ## sizes: nothing depends on the LENGTH of a text / line / file -/

/-- `n` is ANY length: 0, 255, 256, 257 (CPython's small-int cache ends at 256), 65536 … -/
theorem run_then_break (n a : Nat) (sep : List Nat) (ha : lineBreakChar a = false)
    (hs : sep ∈ [[13, 10], [10], [11], [12], [13], [133], [8232], [8233]]) :
    iterSplitlines (List.replicate n a ++ sep) = [List.replicate n a, []] := by
  rw [splitlines_eight_forms, eightSplitlines_line_ending _ sep (List.forall_mem_replicate.mpr (.inr ha)) hs, endsWithBreak_of_form _ sep hs]
  rfl

theorem closing_break_final_empty (p sep : List Nat)
    (hs : sep ∈ [[13, 10], [10], [11], [12], [13], [133], [8232], [8233]]) :
    (iterSplitlines (p ++ sep)).getLast? = some [] ∧
      (iterSplitlines (p ++ sep)).length = (eightSplitlines (p ++ sep)).length + 1 := by
  rw [splitlines_eight_forms, endsWithBreak_of_form p sep hs]
  simp

theorem reverse_run_then_break (n a bs : Nat) (sep : List Nat) (hbs : 1 ≤ bs) (ha : bytesBreak a = false)
    (hs : sep = [10] ∨ sep = [13, 10]) :
    reverseIterLines (List.replicate n a ++ sep) bs = [[], List.replicate n a] := by
  rw [reverse_lines _ bs hbs, linesOf_line_ending _ sep (List.forall_mem_replicate.mpr (.inr ha)) hs]
  rfl

theorem no_closing_break_last_nonempty (t : List Nat) (h : endsWithBreak t = false) :
    ∀ l, (iterSplitlines t).getLast? = some l → l ≠ [] := by
  rw [splitlines_eight_forms, h]
  simp only [Bool.false_eq_true, if_false, List.append_nil]
  exact aux_last_nonempty lineBreakChar lineBreakChar_10 t false h

/-! ## text mode: decoding commutes with the split -/

/-- if the file content decodes (as UTF-8) to the text `t`, the lines `reverse_iter_lines` yields, each decoded, are the
    lines of `t` — split at LF, CR, CR LF only (never at VT, FF, NEL, U+2028 … inside a line) — last to first -/
theorem reverse_lines_text (sp : Bool) (c t : List Nat) (bs : Nat) (hbs : 1 ≤ bs)
    (hd : decodeG sp c = some t) :
    (reverseIterLines c bs).map (decodeG sp) = (linesOf t).reverse.map some := by
  rw [reverse_lines c bs hbs, List.map_reverse, List.map_reverse, decode_linesOf sp c t hd]

/-- when the file holds well-formed UTF-8, so does every line the loop yields: `line.decode('utf-8')` cannot fail and no
    line begins or ends inside a character, also for a block size that cuts every character in pieces -/
theorem reverse_lines_decodable (sp : Bool) (c : List Nat) (bs : Nat) (hbs : 1 ≤ bs)
    (hv : validUtf8G sp c = true) : ∀ l ∈ reverseIterLines c bs, validUtf8G sp l = true := by
  intro l hl
  rw [validUtf8G_eq_isSome] at hv ⊢
  obtain ⟨t, hd⟩ := Option.isSome_iff_exists.mp hv
  have hm : decodeG sp l ∈ (reverseIterLines c bs).map (decodeG sp) := List.mem_map_of_mem hl
  rw [reverse_lines_text sp c t bs hbs hd] at hm
  obtain ⟨l', _, e⟩ := List.mem_map.mp hm
  rw [← e]; rfl

/-- in particular no `line.decode()` of the text-mode path can fail on a file that decodes -/
theorem reverse_lines_text_no_error (c t : List Nat) (bs : Nat) (hbs : 1 ≤ bs)
    (hd : decodeG false c = some t) : ∀ x ∈ reverseIterLinesText c bs, x ≠ none := by
  unfold reverseIterLinesText
  rw [reverse_lines_text false c t bs hbs hd]
  intro x hx
  simp only [List.mem_map] at hx
  obtain ⟨l, _, rfl⟩ := hx
  simp

/-- text files in a SINGLE-BYTE encoding (latin-1, cp1252, …: a decoding `g` byte by byte that maps
    LF to LF, CR to CR and nothing else to them): the yielded lines, decoded, are the lines of the
    decoded text, last to first, for every block size -/
theorem reverse_lines_single_byte_codec (g : Nat → Nat)
    (h10 : ∀ c, (g c == 10) = (c == 10)) (h13 : ∀ c, (g c == 13) = (c == 13))
    (c : List Nat) (bs : Nat) (hbs : 1 ≤ bs) :
    (reverseIterLines c bs).map (·.map g) = (linesOf (c.map g)).reverse := by
  rw [reverse_lines c bs hbs, List.map_reverse, linesOf_map g h10 h13 c]

variable {α ε : Type}

/-- forward mode over a binary file, `ignore_errors=True` -/
theorem jsonl_forward_binary (ws : Nat → Bool) (parse : List Nat → Except ε α)
    (c : List Nat) (hcr : noLoneCR c = true) :
    jsonlForwardB ws parse true c = ((sepLines c).filterMap (objOf ws parse), none) := by
  unfold jsonlForwardB
  rw [consume_ignore, filterMap_fileLinesB_sepLines _ (objOf_withBreak ws parse) (objOf_nil ws parse) c hcr]

/-- forward mode over a text-mode file (universal newlines), `ignore_errors=True` -/
theorem jsonl_forward_text (ws : Nat → Bool) (parse : List Nat → Except ε α) (c : List Nat) :
    jsonlForwardT ws parse true c = ((bytesSplitlines c).filterMap (objOf ws parse), none) := by
  unfold jsonlForwardT
  rw [consume_ignore, filterMap_fileLinesT _ (objOf_withBreak ws parse)]

/-- reverse mode, any block size ≥ 1, `ignore_errors=True` -/
theorem jsonl_reverse (ws : Nat → Bool) (parse : List Nat → Except ε α) (c : List Nat) (bs : Nat) (hbs : 1 ≤ bs) :
    jsonlReverse ws parse true bs c = (((bytesSplitlines c).filterMap (objOf ws parse)).reverse, none) := by
  unfold jsonlReverse
  rw [consume_ignore, reverse_lines c bs hbs, List.filterMap_reverse, filterMap_linesOf _ (objOf_nil ws parse)]

/-- reverse mode yields the objects of forward mode, reversed — text-mode files, every content,
    whatever the file size relative to the block size -/
theorem jsonl_forward_reverse_text (ws : Nat → Bool) (parse : List Nat → Except ε α)
    (c : List Nat) (bs : Nat) (hbs : 1 ≤ bs) :
    jsonlReverse ws parse true bs c = ((jsonlForwardT ws parse true c).1.reverse, none) := by
  rw [jsonl_reverse ws parse c bs hbs, jsonl_forward_text ws parse c]

/-- … and binary files whose lines are LF- or CRLF-separated -/
theorem jsonl_forward_reverse_binary (ws : Nat → Bool) (parse : List Nat → Except ε α)
    (c : List Nat) (hcr : noLoneCR c = true) (bs : Nat) (hbs : 1 ≤ bs) :
    jsonlReverse ws parse true bs c = ((jsonlForwardB ws parse true c).1.reverse, none) := by
  unfold jsonlReverse jsonlForwardB
  rw [consume_ignore, consume_ignore, reverse_lines c bs hbs, List.filterMap_reverse,
    filterMap_linesOf_fileLinesB _ (objOf_withBreak ws parse) (objOf_nil ws parse) c hcr]

theorem jsonl_blocksize_independent (ws : Nat → Bool) (parse : List Nat → Except ε α) (ig : Bool) (c : List Nat)
    (bs₁ bs₂ : Nat) (h₁ : 1 ≤ bs₁) (h₂ : 1 ≤ bs₂) :
    jsonlReverse ws parse ig bs₁ c = jsonlReverse ws parse ig bs₂ c := by
  unfold jsonlReverse
  rw [blocksize_independent c bs₁ bs₂ h₁ h₂]

/-- a plain `for` loop over the iterator sees the `next()` results up to the first error -/
theorem jsonl_drain_is_prefix_of_outcomes (ws : Nat → Bool) (parse : List Nat → Except ε α) (ig : Bool) (ls : List (List Nat)) :
    consume ws parse ig ls = untilError (outcomes ws parse ig ls) :=
  consume_eq_untilError ws parse ig ls

/-- strict mode, with NO hypothesis on where errors occur: the sequence of `next()` results — objects AND raised errors,
    the iteration being resumed after each error — in reverse mode is the forward sequence reversed (binary, LF/CRLF-separated) -/
theorem jsonl_outcomes_forward_reverse_binary (ws : Nat → Bool) (parse : List Nat → Except ε α) (ig : Bool)
    (c : List Nat) (hcr : noLoneCR c = true) (bs : Nat) (hbs : 1 ≤ bs) :
    outcomes ws parse ig (reverseIterLines c bs) = (outcomes ws parse ig (fileLinesB c)).reverse := by
  unfold outcomes
  rw [reverse_lines c bs hbs, List.filterMap_reverse]
  rw [filterMap_linesOf_fileLinesB _ (outcomeOf_withBreak ws parse ig) (outcomeOf_nil ws parse ig) c hcr]

/-- the same for text-mode files, every content -/
theorem jsonl_outcomes_forward_reverse_text (ws : Nat → Bool) (parse : List Nat → Except ε α) (ig : Bool)
    (c : List Nat) (bs : Nat) (hbs : 1 ≤ bs) :
    outcomes ws parse ig (reverseIterLines c bs) = (outcomes ws parse ig (fileLinesT false c)).reverse := by
  unfold outcomes
  rw [reverse_lines c bs hbs, List.filterMap_reverse, filterMap_linesOf _ (outcomeOf_nil ws parse ig),
    filterMap_fileLinesT _ (outcomeOf_withBreak ws parse ig)]

/-- without `ignore_errors`: if forward mode gets through the file without an error, so does
    reverse mode, with the same objects reversed (binary, LF/CRLF-separated) -/
theorem jsonl_strict_forward_reverse_binary (ws : Nat → Bool) (parse : List Nat → Except ε α)
    (c : List Nat) (hcr : noLoneCR c = true) (bs : Nat) (hbs : 1 ≤ bs)
    (hok : (jsonlForwardB ws parse false c).2 = none) :
    jsonlReverse ws parse false bs c = ((jsonlForwardB ws parse false c).1.reverse, none) := by
  exact consume_of_outcomes_reverse ws parse false _ _ (jsonl_outcomes_forward_reverse_binary ws parse false c hcr bs hbs) hok

/-- … and forward mode raises exactly when reverse mode does -/
theorem jsonl_strict_error_iff_binary (ws : Nat → Bool) (parse : List Nat → Except ε α)
    (c : List Nat) (hcr : noLoneCR c = true) (bs : Nat) (hbs : 1 ≤ bs) :
    (jsonlForwardB ws parse false c).2 = none ↔ (jsonlReverse ws parse false bs c).2 = none := by
  have h := jsonl_outcomes_forward_reverse_binary ws parse false c hcr bs hbs
  constructor
  · intro hok; rw [jsonlReverse, consume_of_outcomes_reverse ws parse false _ _ h hok]
  · intro hok; rw [jsonlForwardB, consume_of_outcomes_reverse ws parse false _ _ (by rw [h, List.reverse_reverse]) hok]

/-- the same for text-mode files, every content -/
theorem jsonl_strict_forward_reverse_text (ws : Nat → Bool) (parse : List Nat → Except ε α)
    (c : List Nat) (bs : Nat) (hbs : 1 ≤ bs)
    (hok : (jsonlForwardT ws parse false c).2 = none) :
    jsonlReverse ws parse false bs c = ((jsonlForwardT ws parse false c).1.reverse, none) := by
  exact consume_of_outcomes_reverse ws parse false _ _ (jsonl_outcomes_forward_reverse_text ws parse false c bs hbs) hok

/-- blank lines are skipped: a line made only of characters `.lstrip()` strips (space, tab, …),
    with or without its line break, contributes no object and no error -/
theorem jsonl_blank_skipped (ws : Nat → Bool) (parse : List Nat → Except ε α) (ig : Bool) (l : List Nat)
    (hl : ∀ c ∈ l, ws c = true) (ls : List (List Nat)) :
    consume ws parse ig (l :: ls) = consume ws parse ig ls ∧
    consume ws parse ig ((l ++ [10]) :: ls) = consume ws parse ig ls ∧
    consume ws parse ig ((l ++ [13, 10]) :: ls) = consume ws parse ig ls := by
  have h0 : lineNorm ws l = [] := lineNorm_blank ws l hl
  have h1 : lineNorm ws (l ++ [10]) = [] := by rw [lineNorm_withBreak ws _ l (.lf l), h0]
  have h2 : lineNorm ws (l ++ [13, 10]) = [] := by rw [lineNorm_withBreak ws _ l (.crlf l), h0]
  refine ⟨?_, ?_, ?_⟩ <;> rw [consume] <;> simp [h0, h1, h2]

/-- both directions hand `json.loads` the same bytes for a line, whether the line iterator
    delivered it with its line break (forward) or without (reverse) -/
theorem jsonl_same_bytes_decoded (ws : Nat → Bool) (l : List Nat) :
    lineNorm ws (l ++ [10]) = lineNorm ws l ∧ lineNorm ws (l ++ [13, 10]) = lineNorm ws l :=
  ⟨lineNorm_withBreak ws _ l (.lf l), lineNorm_withBreak ws _ l (.crlf l)⟩

/-- text mode end to end: for a file whose content decodes to the text `t`, reverse mode as the code
    does it (byte lines found backwards, each decoded, then `next`) is reverse mode over `t` itself —
    so every `…_text` theorem above applies with `t` (a list of code points) as the content and
    `str.lstrip`'s character set as `ws` -/
theorem jsonl_text_reverse_decoded (ws : Nat → Bool) (parse : List Nat → Except ε α) (ig : Bool)
    (c t : List Nat) (bs : Nat) (hbs : 1 ≤ bs) (hd : decodeG false c = some t) :
    jsonlReverseText ws parse ig bs c = jsonlReverse ws parse ig bs t := by
  unfold jsonlReverseText jsonlReverse reverseIterLinesText
  rw [reverse_lines_text false c t bs hbs hd, reverse_lines t bs hbs]
  congr 1
  simp [List.filterMap_map]

/-- hence: reverse mode over a text-mode file yields the objects of forward mode (universal
    newlines over the decoded text), reversed -/
theorem jsonl_text_forward_reverse (ws : Nat → Bool) (parse : List Nat → Except ε α)
    (c t : List Nat) (bs : Nat) (hbs : 1 ≤ bs) (hd : decodeG false c = some t) :
    jsonlReverseText ws parse true bs c = ((jsonlForwardT ws parse true t).1.reverse, none) := by
  rw [jsonl_text_reverse_decoded ws parse true c t bs hbs hd, jsonl_forward_reverse_text ws parse t bs hbs]

theorem cur_byte_pos_per_object (ws : Nat → Bool) (parse : List Nat → Except ε α) (ig : Bool) (c : List Nat) :
    (jsonlForwardPosB ws parse ig c).length = (jsonlForwardB ws parse ig c).1.length :=
  consumePos_length ws parse ig 0 (fileLinesB c)

theorem cur_byte_pos_increasing (ws : Nat → Bool) (parse : List Nat → Except ε α) (ig : Bool) (c : List Nat) :
    List.Pairwise (· < ·) (jsonlForwardPosB ws parse ig c) ∧
    ∀ q ∈ jsonlForwardPosB ws parse ig c,
      0 < q ∧ q ≤ c.length ∧ (q = c.length ∨ endsNL (c.take q) = true) := by
  -- the positions are among the offsets at which lines end, whatever the lines hold
  have hsub := consumePos_sublist ws parse ig 0 (fileLinesB c)
  have h := lineEnds_fileLinesB c []
  exact ⟨h.1.sublist hsub, fun q hq => h.2 q (hsub.subset hq)⟩

/-- `_align_to_newline` puts the file ON the first line break at or after the target offset — or,
    when there is none and the code stops at the end of the file (`eofOk`), at the end -/
theorem align_to_newline_spec (eofOk : Bool) (c : List Nat) (target p : Nat) (ht : target ≤ c.length)
    (h : alignToNewlineE eofOk c target = some p) :
    target ≤ p ∧
    ((∃ x b', c.drop p = x :: b' ∧ bytesBreak x = true) ∨ (eofOk = true ∧ p = c.length)) ∧
    ∀ x ∈ (c.drop target).take (p - target), bytesBreak x = false := by
  unfold alignToNewlineE at h
  cases hi : firstBreak (c.drop target) with
  | none =>
    rw [hi] at h
    cases eofOk with
    | false => simp at h
    | true =>
      simp only [if_true, Option.some.injEq] at h
      subst h
      refine ⟨ht, Or.inr ⟨rfl, rfl⟩, ?_⟩
      intro x hx
      exact firstBreak_none _ hi x (List.mem_of_mem_take hx)
  | some i =>
    rw [hi] at h
    simp only [Option.some.injEq] at h
    subst h
    obtain ⟨⟨x, b', h1, h2⟩, h3⟩ := firstBreak_spec _ i hi
    refine ⟨by omega, Or.inl ⟨x, b', ?_, h2⟩, ?_⟩
    · rw [← h1, List.drop_drop]
    · have : target + i - target = i := by omega
      rw [this]; exact h3

/-- forward and reverse iteration started with the same `rel_seek` share out the objects of the file, nothing lost or seen
    twice (`ignore_errors=True`), whichever way the code treats a target after the last line break (`eofOk`) -/
theorem jsonl_rel_seek_partition (eofOk : Bool) (ws : Nat → Bool) (parse : List Nat → Except ε α)
    (c : List Nat) (target bs : Nat) (hbs : 1 ≤ bs) (ht : target ≤ c.length) (f r : List α × Option ε)
    (hf : jsonlRelSeekE eofOk ws parse true false bs c target = some f)
    (hr : jsonlRelSeekE eofOk ws parse true true bs c target = some r) :
    (jsonlForwardT ws parse true c).1 = r.1.reverse ++ f.1 ∧ f.2 = none ∧ r.2 = none := by
  unfold jsonlRelSeekE at hf hr
  cases hp : alignToNewlineE eofOk c target with
  | none => rw [hp] at hf; simp at hf
  | some p =>
    rw [hp] at hf hr
    simp only [Bool.false_eq_true, if_false, if_true, Option.some.injEq] at hf hr
    subst hf hr
    obtain ⟨_, hcase, _⟩ := align_to_newline_spec eofOk c target p ht hp
    rw [consume_ignore, consume_ignore, reverse_lines_from_position c p bs hbs,
      List.filterMap_reverse, filterMap_linesOf _ (objOf_nil ws parse), jsonl_forward_text ws parse c]
    refine ⟨?_, rfl, rfl⟩
    simp only [List.reverse_reverse]
    rcases hcase with ⟨x, b', hd, hx⟩ | ⟨_, rfl⟩
    · rw [filterMap_fileLinesT _ (objOf_withBreak ws parse)]
      have hc : c = c.take p ++ x :: b' := by rw [← hd, List.take_append_drop]
      conv => lhs; rw [hc]
      rw [filterMap_cut_at_break _ (objOf_nil ws parse) _ x b' hx, hd]
    · simp [fileLinesT]

/-- front-strip sets for the examples (the theorems hold for any; the regenerated tables of the
    running code are `pyWs` / `pyWsT`): space and tab, and for text lines also NBSP -/
def toyWs (c : Nat) : Bool := c == 32 || c == 9
def toyWsT (c : Nat) : Bool := c == 32 || c == 9 || c == 160

-- "a b<U+2028>c<CR><LF>": breaks of two kinds, ends with a break; the characters ' 2','8' are no break, U+2028 is
example : iterSplitlines [97, 32, 50, 56, 8232, 99, 13, 10] = [[97, 32, 50, 56], [99], []] := by decide
example : ∀ c ∈ [97, 32, 50, 56, 8232, 99, 13, 10], isFS c = false := by decide
example : pySplitlines [97, 32, 50, 56, 8232, 99, 13, 10] = [[97, 32, 50, 56], [99]] := by decide
-- the hypothesis of `splitlines_spec` is needed: str.splitlines splits at U+001C, the regex does not
example : iterSplitlines [97, 28, 98] ≠ pySplitlines [97, 28, 98] := by decide
example : iterSplitlines [97, 28, 98] = [[97, 28, 98]] ∧ eightSplitlines [97, 28, 98] = [[97, 28, 98]] := by decide
-- "\né\r\nb\n" with a block edge inside é (195 169) and between CR and LF
example : reverseIterLines [10, 195, 169, 13, 10, 98, 10] 2 = [[], [98], [195, 169], []] := by decide
example : noLoneCR [10, 195, 169, 13, 10, 98, 10] = true := by decide
example : sepLines [10, 195, 169, 13, 10, 98, 10] = [[], [195, 169], [98], []] := by decide
-- a single line with a trailing newline; a file starting with a blank line
example : reverseIterLines [97, 98, 99, 10] 4096 = [[], [97, 98, 99]] := by decide
example : reverseIterLines [10, 98] 1 = [[98], []] := by decide
-- a lone CR is a break for the code (bytes.splitlines) but not for `sepLines`: hypothesis needed
example : reverseIterLines [97, 13, 98] 1 ≠ (sepLines [97, 13, 98]).reverse := by decide

/-- a toy `json.loads` for the examples: accepts exactly the text "3" — it does NOT tolerate a
    trailing line break, and need not: `next` strips it in both directions -/
def toyParse (l : List Nat) : Except Unit Nat :=
  if l = [51] then .ok 3 else .error ()

-- "\n3\n \nx\r\n3\n": blank lines, a corrupt line, CRLF; block size 5
example : jsonlForwardB toyWs toyParse true [10, 51, 10, 32, 10, 120, 13, 10, 51, 10] = ([3, 3], none) := by decide
example : jsonlReverse toyWs toyParse true 5 [10, 51, 10, 32, 10, 120, 13, 10, 51, 10] = ([3, 3], none) := by decide
example : (jsonlForwardB toyWs toyParse false [10, 51, 10, 32, 10, 51, 10]).2 = none := by decide
example : (jsonlForwardB toyWs toyParse false [10, 51, 10, 120, 10, 51, 10]) = ([3], some ()) := by decide

-- a line with a NUL byte, b"\x001\n": the same bytes reach `json.loads` with and without the line break
example : lineNorm toyWs [0, 49, 10] = [0, 49] ∧ lineNorm toyWs [0, 49] = [0, 49] := by decide
example : lineNorm toyWs [32, 9, 51, 13, 13, 10] = [51] := by decide
example : ∀ c ∈ [32, 9, 32], toyWs c = true := by decide
-- read schedules: block size 3 from the end reads 1+3+3 bytes last, aligned reads 3+3+1
example : revLoopS [10, 195, 169, 13, 10, 98, 10] (alignedRead 3) 7 7 [] = [[], [98], [195, 169], []] := by decide
example : reverseIterLines [10, 195, 169, 13, 10, 98, 10] 3 = [[], [98], [195, 169], []] := by decide
example : ∀ p, 1 ≤ alignedRead 3 p := alignedRead_pos 3 (by decide)
-- preseek=False from the middle of "a\nb\nc": position 3 (just after the 'b')
example : reverseIterLinesFrom [97, 10, 98, 10, 99] 3 2 = [[98], [97]] := by decide
example : reverseIterLinesFrom [97, 10, 98, 10, 99] 4 2 = [[], [98], [97]] := by decide

-- indent("a\n\nb\n", "  "): the blank line and the final empty line get no margin
example : indent keyBool [32, 32] [10] [97, 10, 10, 98, 10] = [32, 32, 97, 10, 10, 32, 32, 98, 10] := by decide
example : iterSplitlines (indent keyBool [32, 32] [10] [97, 10, 10, 98, 10]) = [[32, 32, 97], [], [32, 32, 98], []] := by decide
-- the exception in `splitlines_join` is real: '\n'.join(['']) = '' has no lines
example : iterSplitlines (joinWith [10] [[]]) = [] := by decide
-- and so is the margin hypothesis of `indent_lines`: a margin with a line break adds lines
example : iterSplitlines (indent keyBool [10] [10] [97]) ≠ (iterSplitlines [97]).map (fun l => if keyBool l then [10] ++ l else l) := by decide

-- "é\n日" (c3 a9 0a e6 97 a5) read one byte at a time: both lines come back whole
example : strictUtf8 [195, 169, 10, 230, 151, 165] = true := by decide
example : reverseIterLines [195, 169, 10, 230, 151, 165] 1 = [[230, 151, 165], [195, 169]] := by decide
-- the strict codec rejects a lone surrogate (ed a0 80), the surrogatepass one accepts it
example : strictUtf8 [237, 160, 128] = false ∧ validUtf8 [237, 160, 128] = true := by decide

-- rel_seek: "3\n3\r\nx\n3" from offset 2 (inside the second record): aligned ON the CR at offset 3
example : alignToNewlineE false [51, 10, 51, 13, 10, 120, 10, 51] 2 = some 3 := by decide
example : jsonlRelSeekE false toyWs toyParse true false 4096 [51, 10, 51, 13, 10, 120, 10, 51] 2 = some ([3], none) := by decide
example : jsonlRelSeekE false toyWs toyParse true true 4096 [51, 10, 51, 13, 10, 120, 10, 51] 2 = some ([3, 3], none) := by decide
example : (jsonlForwardT toyWs toyParse true [51, 10, 51, 13, 10, 120, 10, 51]).1 = [3, 3, 3] := by decide
-- no line break after the target: the alignment loop of the code as it is does not end (outside the
-- model); a code that stops at the end of the file leaves reverse mode everything, forward mode nothing
example : alignToNewlineE false [51, 10, 51] 2 = none := by decide
example : alignToNewlineE true [51, 10, 51] 2 = some 3 := by decide
example : jsonlRelSeekE true toyWs toyParse true true 4096 [51, 10, 51] 2 = some ([3, 3], none) ∧
    jsonlRelSeekE true toyWs toyParse true false 4096 [51, 10, 51] 2 = some ([], none) := by decide

-- "a<U+2028>é\nb" as UTF-8, read 2 bytes at a time: the text lines are ["a<U+2028>é", "b"]
example : decodeG false [97, 226, 128, 168, 195, 169, 10, 98] = some [97, 8232, 233, 10, 98] := by decide
example : reverseIterLinesText [97, 226, 128, 168, 195, 169, 10, 98] 2 = [some [98], some [97, 8232, 233]] := by decide
example : decodeG false [237, 160, 128] = none ∧ decodeG true [237, 160, 128] = some [55296] := by decide

-- strict mode resumed after the error on "x": forward 3, error, 3 — reverse the same backwards
example : (outcomes toyWs toyParse false (fileLinesB [51, 10, 120, 10, 51, 10])).map Except.toOption
    = [some 3, none, some 3] := by decide
example : (outcomes toyWs toyParse false (reverseIterLines [51, 10, 120, 10, 51, 10] 2)).map Except.toOption
    = [some 3, none, some 3] := by decide
example : untilError (outcomes toyWs toyParse false (fileLinesB [51, 10, 120, 10, 51, 10])) = ([3], some ()) := by decide

-- cur_byte_pos on "3\n\nx\r\n3\n  3": after the records: offsets 2, 8 and 11 (= size)
example : jsonlForwardPosB toyWs toyParse true [51, 10, 10, 120, 13, 10, 51, 10, 32, 32, 51] = [2, 8, 11] := by decide

-- text mode: "<NBSP>3\n3" (c2 a0 33 0a 33): str.lstrip removes the NBSP, bytes.lstrip would not
example : jsonlReverseText toyWsT toyParse true 2 [194, 160, 51, 10, 51] = ([3, 3], none) := by decide
example : (jsonlReverse toyWs toyParse true 2 [194, 160, 51, 10, 51]).1 = [3] := by decide

-- "a\n\nb\n": the lines [b"", b"b", b"", b"a"] reversed and joined by LF give the content back
example : joinWith [10] (reverseIterLines [97, 10, 10, 98, 10] 2).reverse = [97, 10, 10, 98, 10] := by decide

-- latin-1 is such a decoding (the identity on byte values): "é\nb" = e9 0a 62
example : (reverseIterLines [233, 10, 98] 1).map (·.map id) = [[98], [233]] := by decide

-- the size family at a length beyond CPython's small-int cache, by the theorem (no evaluation)
example : iterSplitlines (List.replicate 257 97 ++ [13, 10]) = [List.replicate 257 97, []] :=
  run_then_break 257 97 [13, 10] (by decide) (by decide)
example : iterSplitlines (List.replicate 3 97 ++ [8232]) = [[97, 97, 97], []] := by decide
example : (iterSplitlines ([97, 10, 98] ++ [133])).getLast? = some [] := (closing_break_final_empty [97, 10, 98] [133] (by decide)).1
example : reverseIterLines (List.replicate 65536 97 ++ [13, 10]) 4096 = [[], List.replicate 65536 97] :=
  reverse_run_then_break 65536 97 4096 [13, 10] (by decide) (by decide) (Or.inr rfl)
example : reverseIterLines ([97, 97, 97] ++ [10]) 2 = [[], [97, 97, 97]] := by decide

example : endsWithBreak [97, 10, 98] = false ∧ (iterSplitlines [97, 10, 98]).getLast? = some [98] := by decide

end C19
