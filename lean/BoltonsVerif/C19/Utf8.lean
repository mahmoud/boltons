import BoltonsVerif.C19.Proofs
/-
C19 — UTF-8 (text mode): the body of `decodeG` is one step `onHeadChar` of the codec with a continuation (so that `decodeG_cons`,
`validUtf8G_cons` hold branch by branch); `headChar` is that step returning the character and the rest (`onHeadChar_eq`), and what
the proofs reason with (`decodeG_step`, `headChar_induction`, `decodeG_induction`).  An ASCII byte ends no character early, so
cutting there cuts no character (`decodeG_split`) and decoding commutes with `splitlines`.
-/
namespace C19

variable {γ : Type}

def onChar2 (z : γ) (k : Nat → List Nat → γ) (b : Nat) : List Nat → γ
  | c1 :: r => if isCont c1 then k ((b - 192) * 64 + (c1 - 128)) r else z
  | _ => z

def onChar3 (sp : Bool) (z : γ) (k : Nat → List Nat → γ) (b : Nat) : List Nat → γ
  | c1 :: c2 :: r =>
    if isCont c1 && isCont c2 && (b != 224 || 160 ≤ c1) && (b != 237 || sp || c1 ≤ 159) then
      k ((b - 224) * 4096 + (c1 - 128) * 64 + (c2 - 128)) r
    else z
  | _ => z

def onChar4 (z : γ) (k : Nat → List Nat → γ) (b : Nat) : List Nat → γ
  | c1 :: c2 :: c3 :: r =>
    if isCont c1 && isCont c2 && isCont c3 && (b != 240 || 144 ≤ c1) && (b != 244 || c1 ≤ 143) then
      k ((b - 240) * 262144 + (c1 - 128) * 4096 + (c2 - 128) * 64 + (c3 - 128)) r
    else z
  | _ => z

/-- the codec's case distinction on the lead byte `b`: ASCII, lead of a two-, three-, four-byte character, or no lead byte -/
def byLead (b : Nat) (a t2 t3 t4 z : γ) : γ :=
  if b < 128 then a
  else if 194 ≤ b && b ≤ 223 then t2
  else if 224 ≤ b && b ≤ 239 then t3
  else if 240 ≤ b && b ≤ 244 then t4
  else z

/-- one step of the UTF-8 codec: `k cp r` for the code point `cp` of the character at the head of the byte
    string and the bytes `r` after it, `z` where the codec raises (`sp` as in `decodeG`) -/
def onHeadChar (sp : Bool) (z : γ) (k : Nat → List Nat → γ) : List Nat → γ
  | [] => z
  | b :: rest => byLead b (k b rest) (onChar2 z k b rest) (onChar3 sp z k b rest) (onChar4 z k b rest) z

theorem byLead_elim {motive : γ → Prop} (b : Nat) (a t2 t3 t4 z : γ) (h1 : b < 128 → motive a) (h2 : 194 ≤ b → motive t2)
    (h3 : 224 ≤ b → motive t3) (h4 : 240 ≤ b → motive t4) (h5 : motive z) : motive (byLead b a t2 t3 t4 z) := by
  unfold byLead
  split
  · next h => exact h1 h
  · split
    · next h => exact h2 (of_decide_eq_true (Bool.and_eq_true_iff.mp h).1)
    · split
      · next h => exact h3 (of_decide_eq_true (Bool.and_eq_true_iff.mp h).1)
      · split
        · next h => exact h4 (of_decide_eq_true (Bool.and_eq_true_iff.mp h).1)
        · exact h5

theorem byLead_apply {δ : Type} (f : γ → δ) (b : Nat) (a t2 t3 t4 z : γ) :
    f (byLead b a t2 t3 t4 z) = byLead b (f a) (f t2) (f t3) (f t4) (f z) := by
  unfold byLead
  simp only [apply_ite f]

def headChar (sp : Bool) : List Nat → Option (Nat × List Nat) := onHeadChar sp none fun cp r => some (cp, r)

/-! a step with any continuation is the step that returns the character and the rest, then the continuation -/

theorem onChar2_eq (z : γ) (k : Nat → List Nat → γ) (b : Nat) (rest : List Nat) :
    onChar2 z k b rest = match onChar2 none (fun cp r => some (cp, r)) b rest with | none => z | some (cp, r) => k cp r := by
  unfold onChar2
  split
  · split <;> rfl
  · rfl

theorem onChar3_eq (sp : Bool) (z : γ) (k : Nat → List Nat → γ) (b : Nat) (rest : List Nat) :
    onChar3 sp z k b rest = match onChar3 sp none (fun cp r => some (cp, r)) b rest with | none => z | some (cp, r) => k cp r := by
  unfold onChar3
  split
  · split <;> rfl
  · rfl

theorem onChar4_eq (z : γ) (k : Nat → List Nat → γ) (b : Nat) (rest : List Nat) :
    onChar4 z k b rest = match onChar4 none (fun cp r => some (cp, r)) b rest with | none => z | some (cp, r) => k cp r := by
  unfold onChar4
  split
  · split <;> rfl
  · rfl

theorem onHeadChar_eq (sp : Bool) (z : γ) (k : Nat → List Nat → γ) (s : List Nat) :
    onHeadChar sp z k s = match headChar sp s with | none => z | some (cp, r) => k cp r := by
  cases s with
  | nil => rfl
  | cons b rest =>
    rw [headChar, onHeadChar, onHeadChar, onChar2_eq z k, onChar3_eq sp z k, onChar4_eq z k]
    exact (byLead_apply (fun o => match o with | none => z | some (cp, r) => k cp r) b (some (b, rest)) _ _ _ none).symm

theorem isCont_ascii (x : Nat) (hx : x < 128) : isCont x = false := by
  simp [isCont]; omega

/-! `pre`: the continuation bytes of the character read -/

theorem onChar2_some (b : Nat) (hb : 194 ≤ b) (rest : List Nat) (cp : Nat) (r : List Nat)
    (h : onChar2 none (fun cp r => some (cp, r)) b rest = some (cp, r)) :
    ∃ pre, rest = pre ++ r ∧ 128 ≤ cp ∧ ∀ c ∈ pre, 128 ≤ c := by
  rcases rest with _ | ⟨c1, r'⟩
  · cases h
  · rw [onChar2] at h
    split at h
    · next hc =>
      simp only [Option.some.injEq, Prod.mk.injEq] at h
      obtain ⟨rfl, rfl⟩ := h
      simp only [isCont, Bool.and_eq_true, decide_eq_true_eq] at hc
      exact ⟨[c1], rfl, by omega, List.forall_mem_singleton.mpr hc.1⟩
    · cases h

theorem onChar3_some (sp : Bool) (b : Nat) (hb : 224 ≤ b) (rest : List Nat) (cp : Nat) (r : List Nat)
    (h : onChar3 sp none (fun cp r => some (cp, r)) b rest = some (cp, r)) :
    ∃ pre, rest = pre ++ r ∧ 128 ≤ cp ∧ ∀ c ∈ pre, 128 ≤ c := by
  rcases rest with _ | ⟨c1, _ | ⟨c2, r'⟩⟩
  · cases h
  · cases h
  · rw [onChar3] at h
    split at h
    · next hc =>
      simp only [Option.some.injEq, Prod.mk.injEq] at h
      obtain ⟨rfl, rfl⟩ := h
      simp only [isCont, Bool.and_eq_true, Bool.or_eq_true, decide_eq_true_eq, bne_iff_ne, ne_eq] at hc
      obtain ⟨⟨⟨⟨g1, _⟩, g2, _⟩, h224⟩, _⟩ := hc
      have hcp : 128 ≤ (b - 224) * 4096 + (c1 - 128) * 64 := by rcases h224 with k | k <;> omega
      exact ⟨[c1, c2], rfl, Nat.le_trans hcp (Nat.le_add_right _ _), List.forall_mem_cons.mpr ⟨g1, List.forall_mem_singleton.mpr g2⟩⟩
    · cases h

theorem onChar4_some (b : Nat) (hb : 240 ≤ b) (rest : List Nat) (cp : Nat) (r : List Nat)
    (h : onChar4 none (fun cp r => some (cp, r)) b rest = some (cp, r)) :
    ∃ pre, rest = pre ++ r ∧ 128 ≤ cp ∧ ∀ c ∈ pre, 128 ≤ c := by
  rcases rest with _ | ⟨c1, _ | ⟨c2, _ | ⟨c3, r'⟩⟩⟩
  · cases h
  · cases h
  · cases h
  · rw [onChar4] at h
    split at h
    · next hc =>
      simp only [Option.some.injEq, Prod.mk.injEq] at h
      obtain ⟨rfl, rfl⟩ := h
      simp only [isCont, Bool.and_eq_true, Bool.or_eq_true, decide_eq_true_eq, bne_iff_ne, ne_eq] at hc
      obtain ⟨⟨⟨⟨⟨g1, _⟩, g2, _⟩, g3, _⟩, h240⟩, _⟩ := hc
      have hcp : 128 ≤ (b - 240) * 262144 + (c1 - 128) * 4096 := by rcases h240 with k | k <;> omega
      exact ⟨[c1, c2, c3], rfl, Nat.le_trans hcp (Nat.le_trans (Nat.le_add_right _ _) (Nat.le_add_right _ _)),
        List.forall_mem_cons.mpr ⟨g1, List.forall_mem_cons.mpr ⟨g2, List.forall_mem_singleton.mpr g3⟩⟩⟩
    · cases h

theorem headChar_spec (sp : Bool) (s : List Nat) (cp : Nat) (r : List Nat) (h : headChar sp s = some (cp, r)) :
    ∃ pre, pre ≠ [] ∧ s = pre ++ r ∧ ((cp < 128 ∧ pre = [cp]) ∨ (128 ≤ cp ∧ ∀ c ∈ pre, 128 ≤ c)) := by
  cases s with
  | nil => cases h
  | cons b rest =>
    -- the lead byte of a multi-byte character goes in front of its continuation bytes
    have multi : 128 ≤ b → (∃ pre, rest = pre ++ r ∧ 128 ≤ cp ∧ ∀ c ∈ pre, 128 ≤ c) →
        ∃ pre, pre ≠ [] ∧ b :: rest = pre ++ r ∧ ((cp < 128 ∧ pre = [cp]) ∨ (128 ≤ cp ∧ ∀ c ∈ pre, 128 ≤ c)) := by
      rintro hb ⟨pre, rfl, hcp, hpre⟩
      exact ⟨b :: pre, List.cons_ne_nil _ _, rfl, .inr ⟨hcp, List.forall_mem_cons.mpr ⟨hb, hpre⟩⟩⟩
    revert h
    refine byLead_elim (motive := fun o => o = some (cp, r) → _) b _ _ _ _ _ ?_ ?_ ?_ ?_ nofun
    · intro hb h; cases h; exact ⟨[cp], List.cons_ne_nil _ _, rfl, .inl ⟨hb, rfl⟩⟩
    · intro hb h; exact multi (by omega) (onChar2_some b hb rest cp r h)
    · intro hb h; exact multi (by omega) (onChar3_some sp b hb rest cp r h)
    · intro hb h; exact multi (by omega) (onChar4_some b hb rest cp r h)

/-! an ASCII byte ends no character early -/

theorem onChar2_append_ascii (z : γ) (k : Nat → List Nat → γ) (b : Nat) (t : List Nat) (x : Nat) (hx : x < 128) (s : List Nat) :
    onChar2 z k b (t ++ x :: s) = onChar2 z (fun cp r => k cp (r ++ x :: s)) b t := by
  rcases t with _ | ⟨c1, r⟩
  · simp [onChar2, isCont_ascii x hx]
  · rfl

theorem onChar3_append_ascii (sp : Bool) (z : γ) (k : Nat → List Nat → γ) (b : Nat) (t : List Nat) (x : Nat) (hx : x < 128)
    (s : List Nat) : onChar3 sp z k b (t ++ x :: s) = onChar3 sp z (fun cp r => k cp (r ++ x :: s)) b t := by
  rcases t with _ | ⟨c1, _ | ⟨c2, r⟩⟩
  · cases s <;> simp [onChar3, isCont_ascii x hx]
  · simp [onChar3, isCont_ascii x hx]
  · rfl

theorem onChar4_append_ascii (z : γ) (k : Nat → List Nat → γ) (b : Nat) (t : List Nat) (x : Nat) (hx : x < 128) (s : List Nat) :
    onChar4 z k b (t ++ x :: s) = onChar4 z (fun cp r => k cp (r ++ x :: s)) b t := by
  rcases t with _ | ⟨c1, _ | ⟨c2, _ | ⟨c3, r⟩⟩⟩
  · rcases s with _ | ⟨_, _ | ⟨_, _⟩⟩ <;> simp [onChar4, isCont_ascii x hx]
  · cases s <;> simp [onChar4, isCont_ascii x hx]
  · simp [onChar4, isCont_ascii x hx]
  · rfl

theorem onHeadChar_append_ascii (sp : Bool) (z : γ) (k : Nat → List Nat → γ) (b : Nat) (t : List Nat) (x : Nat) (hx : x < 128)
    (s : List Nat) :
    onHeadChar sp z k (b :: (t ++ x :: s)) = onHeadChar sp z (fun cp r => k cp (r ++ x :: s)) (b :: t) := by
  rw [onHeadChar, onHeadChar, onChar2_append_ascii z k b t x hx s, onChar3_append_ascii sp z k b t x hx s, onChar4_append_ascii z k b t x hx s]

theorem headChar_ascii (sp : Bool) (x : Nat) (hx : x < 128) (r : List Nat) : headChar sp (x :: r) = some (x, r) := by
  rw [headChar, onHeadChar, byLead, if_pos hx]

theorem headChar_append_ascii (sp : Bool) (b : Nat) (t : List Nat) (x : Nat) (hx : x < 128) (s : List Nat) :
    headChar sp (b :: (t ++ x :: s)) = (headChar sp (b :: t)).map fun p => (p.1, p.2 ++ x :: s) := by
  refine (onHeadChar_append_ascii sp none _ b t x hx s).trans ?_
  rw [onHeadChar_eq]
  cases headChar sp (b :: t) <;> rfl

theorem headChar_induction (sp : Bool) {motive : List Nat → Prop} (nil : motive [])
    (bad : ∀ b rest, headChar sp (b :: rest) = none → motive (b :: rest))
    (step : ∀ b rest cp r, headChar sp (b :: rest) = some (cp, r) → motive r → motive (b :: rest)) :
    ∀ s, motive s := by
  suffices h : ∀ n s, s.length ≤ n → motive s from fun s => h _ s (Nat.le_refl _)
  intro n
  induction n with
  | zero =>
    intro s hs
    cases s with
    | nil => exact nil
    | cons b rest => simp at hs
  | succ n ih =>
    intro s hs
    cases s with
    | nil => exact nil
    | cons b rest =>
      cases hc : headChar sp (b :: rest) with
      | none => exact bad b rest hc
      | some p =>
        obtain ⟨pre, hne, hs', _⟩ := headChar_spec sp _ p.1 p.2 hc
        have : 0 < pre.length := List.length_pos_iff.mpr hne
        refine step b rest p.1 p.2 hc (ih _ ?_)
        have := congrArg List.length hs'
        simp only [List.length_append] at this
        omega

theorem decodeG_nil (sp : Bool) : decodeG sp [] = some [] := rfl

theorem decodeG_cons (sp : Bool) (b : Nat) (rest : List Nat) :
    decodeG sp (b :: rest) = onHeadChar sp none (fun cp r => (decodeG sp r).map (cp :: ·)) (b :: rest) := by
  rw [decodeG.eq_def]
  rfl

theorem decodeG_step (sp : Bool) (b : Nat) (rest : List Nat) :
    decodeG sp (b :: rest) =
      match headChar sp (b :: rest) with
      | none => none
      | some (cp, r) => (decodeG sp r).map (cp :: ·) := by
  rw [decodeG_cons, onHeadChar_eq]

theorem decodeG_of_headChar (sp : Bool) (b : Nat) (rest : List Nat) (cp : Nat) (r t : List Nat)
    (hc : headChar sp (b :: rest) = some (cp, r)) (hr : decodeG sp r = some t) : decodeG sp (b :: rest) = some (cp :: t) := by
  rw [decodeG_step, hc]; exact congrArg (Option.map (cp :: ·)) hr

/-- a successful decoding one character at a time, bytes and text side by side (the motive takes the proof so that
    `induction l, t, hd using decodeG_induction` applies) -/
theorem decodeG_induction (sp : Bool) {motive : (l t : List Nat) → decodeG sp l = some t → Prop}
    (nil : motive [] [] (decodeG_nil sp))
    (step : ∀ b rest cp r t (hc : headChar sp (b :: rest) = some (cp, r)) (hr : decodeG sp r = some t), motive r t hr →
      motive (b :: rest) (cp :: t) (decodeG_of_headChar sp b rest cp r t hc hr)) :
    ∀ l t (hd : decodeG sp l = some t), motive l t hd := by
  intro l
  induction l using headChar_induction sp with
  | nil => intro t hd; cases (decodeG_nil sp).symm.trans hd; exact nil
  | bad b rest hc => intro t hd; rw [decodeG_step, hc] at hd; cases hd
  | step b rest cp r hc ih =>
    intro t hd
    have hd' := hd
    rw [decodeG_step, hc, Option.map_eq_some_iff] at hd'
    obtain ⟨t', hr, rfl⟩ := hd'
    exact step b rest cp r t' hc hr (ih t' hr)

theorem decodeG_ascii_cons (sp : Bool) (x : Nat) (hx : x < 128) (b : List Nat) :
    decodeG sp (x :: b) = (decodeG sp b).map (x :: ·) := by
  rw [decodeG_step, headChar_ascii sp x hx]

theorem and_eq_ite (c r : Bool) : (c && r) = if c then r else false := by cases c <;> rfl

theorem validUtf8G_cons (sp : Bool) (b : Nat) (rest : List Nat) :
    validUtf8G sp (b :: rest) = onHeadChar sp false (fun _ r => validUtf8G sp r) (b :: rest) := by
  rw [validUtf8G.eq_def]
  show byLead b _ _ _ _ _ = byLead b _ _ _ _ _
  congr 1
  · rcases rest with _ | ⟨c1, r⟩
    · rfl
    · exact and_eq_ite ..
  · rcases rest with _ | ⟨c1, _ | ⟨c2, r⟩⟩
    · rfl
    · rfl
    · exact and_eq_ite ..
  · rcases rest with _ | ⟨c1, _ | ⟨c2, _ | ⟨c3, r⟩⟩⟩
    · rfl
    · rfl
    · rfl
    · exact and_eq_ite ..

theorem validUtf8G_eq_isSome (sp : Bool) (s : List Nat) : validUtf8G sp s = (decodeG sp s).isSome := by
  induction s using headChar_induction sp with
  | nil => rfl
  | bad b rest hc => rw [validUtf8G_cons, onHeadChar_eq, decodeG_step, hc]; rfl
  | step b rest cp r hc ih =>
    rw [validUtf8G_cons, onHeadChar_eq, decodeG_step, hc]
    simp only [ih, Option.isSome_map]

/-- what decoding `a ++ x :: b` gives when `x` is an ASCII byte -/
def glue (x : Nat) (a b : Option (List Nat)) : Option (List Nat) :=
  match a, b with
  | some a', some b' => some (a' ++ x :: b')
  | _, _ => none

theorem glue_map_left (x c : Nat) (a b : Option (List Nat)) :
    (glue x a b).map (c :: ·) = glue x (a.map (c :: ·)) b := by
  cases a <;> cases b <;> rfl

theorem glue_eq_some (x : Nat) (a b : Option (List Nat)) (t : List Nat) (h : glue x a b = some t) :
    ∃ a' b', a = some a' ∧ b = some b' ∧ t = a' ++ x :: b' := by
  cases a <;> cases b <;> simp [glue] at h
  exact ⟨_, _, rfl, rfl, h.symm⟩

theorem decodeG_split (sp : Bool) (x : Nat) (hx : x < 128) (b a : List Nat) :
    decodeG sp (a ++ x :: b) = glue x (decodeG sp a) (decodeG sp b) := by
  induction a using headChar_induction sp with
  | nil =>
    rw [List.nil_append, decodeG_ascii_cons sp x hx, decodeG_nil]
    cases decodeG sp b <;> rfl
  | bad h t hc =>
    rw [List.cons_append, decodeG_step, headChar_append_ascii sp h t x hx, decodeG_step sp h t, hc]
    rfl
  | step h t cp r hc ih =>
    rw [List.cons_append, decodeG_step, headChar_append_ascii sp h t x hx, decodeG_step sp h t, hc]
    simp only [Option.map_some, ih, glue_map_left]

theorem decodeG_ne_nil (sp : Bool) (b b' : List Nat) (hd : decodeG sp b = some b') (hb : b ≠ []) : b' ≠ [] := by
  induction b, b', hd using decodeG_induction with
  | nil => exact absurd rfl hb
  | step => exact List.cons_ne_nil _ _

theorem decodeG_eq_nil_iff (sp : Bool) (b b' : List Nat) (hd : decodeG sp b = some b') : b = [] ↔ b' = [] :=
  ⟨fun h => by subst h; rw [decodeG_nil] at hd; cases hd; rfl,
   fun h => Classical.byContradiction fun hne => decodeG_ne_nil sp b b' hd hne h⟩

/-! `p`: a set of ASCII characters (false from 128 on).  A decoded text has a character of `p` where the bytes have it. -/

theorem decodeG_all_false (sp : Bool) (p : Nat → Bool) (hp : ∀ c, 128 ≤ c → p c = false) (l l' : List Nat)
    (hd : decodeG sp l = some l') (hl : ∀ c ∈ l, p c = false) : ∀ c ∈ l', p c = false := by
  induction l, l', hd using decodeG_induction with
  | nil => exact hl
  | step b rest cp r t hc _ ih =>
    obtain ⟨pre, _, hs, hcase⟩ := headChar_spec sp _ cp r hc
    rw [hs] at hl
    refine List.forall_mem_cons.mpr ⟨?_, ih fun c hc => hl c (List.mem_append_right _ hc)⟩
    rcases hcase with ⟨_, rfl⟩ | ⟨h128, _⟩
    · exact hl cp (by simp)
    · exact hp cp h128

theorem decodeG_lastIs (sp : Bool) (p : Nat → Bool) (hp : ∀ c, 128 ≤ c → p c = false) (l l' : List Nat)
    (hd : decodeG sp l = some l') : lastIs p l' = lastIs p l := by
  induction l, l', hd using decodeG_induction with
  | nil => rfl
  | step b rest cp r t hc hr ih =>
    obtain ⟨pre, hne, hs, hcase⟩ := headChar_spec sp _ cp r hc
    rw [hs]
    by_cases h0 : r = []
    · subst h0
      cases (decodeG_nil sp).symm.trans hr
      rw [List.append_nil]
      rcases hcase with ⟨_, rfl⟩ | ⟨h128, hpre⟩
      · rfl
      · rw [lastIs_false_of_all p pre fun c hc => hp c (hpre c hc)]
        exact hp cp h128
    · rw [show cp :: t = [cp] ++ t from rfl, lastIs_append _ _ _ (decodeG_ne_nil sp r t hr h0), lastIs_append _ _ _ h0]
      exact ih

theorem isNL_ge (x : Nat) (h : 128 ≤ x) : isNL x = false := by
  simp [isNL]; omega

theorem bytesBreak_lt (x : Nat) (h : bytesBreak x = true) : x < 128 := by
  simp [bytesBreak] at h; omega

theorem bytesBreak_ge (x : Nat) (h : 128 ≤ x) : bytesBreak x = false := by
  simp [bytesBreak]; omega

/-- the first line and what follows its break decode separately (`decodeG_split`), a line is empty iff its text is, and
    the text of a break-free line is break-free -/
theorem decode_lines (sp : Bool) (s : List Nat) (f : Bool) (t : List Nat) (hd : decodeG sp s = some t) :
    (splitlinesAux bytesBreak f s).map (decodeG sp) = (splitlinesAux bytesBreak f t).map some := by
  induction s using line_induction bytesBreak generalizing f t with
  | plain l hl =>
    rw [aux_plain _ bytesBreak_10 f l hl,
      aux_plain _ bytesBreak_10 f t (decodeG_all_false sp bytesBreak bytesBreak_ge l t hd hl)]
    simp only [decodeG_eq_nil_iff sp l t hd]
    split <;> simp [hd]
  | step l x R hl hx ih =>
    rw [decodeG_split sp x (bytesBreak_lt x hx) R l] at hd
    obtain ⟨l', R', d1, d2, rfl⟩ := glue_eq_some _ _ _ _ hd
    rw [aux_break _ bytesBreak_10 f l x R hl hx,
      aux_break _ bytesBreak_10 f l' x R' (decodeG_all_false sp bytesBreak bytesBreak_ge l l' d1 hl) hx]
    simp only [decodeG_eq_nil_iff sp l l' d1]
    split
    · exact ih false R' d2
    · simp [d1, ih _ R' d2]

theorem decode_linesOf (sp : Bool) (c t : List Nat) (hd : decodeG sp c = some t) :
    (linesOf c).map (decodeG sp) = (linesOf t).map some := by
  unfold linesOf bytesSplitlines endsNL
  rw [List.map_append, List.map_append, decode_lines sp c false t hd, decodeG_lastIs sp isNL isNL_ge c t hd]
  split <;> rfl

end C19
