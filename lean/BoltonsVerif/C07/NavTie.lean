/-
C07 — source tie of `URL.navigate`'s decision logic.

`URL.navigate` works on two URL OBJECTS, calls the classmethod `from_parts` with keywords, assigns `ret.family` and
calls `ret.normalize()` — outside the source translator's subset.  A purely syntactic front-end
(`harness/bv/props/c07_navform.py`) rewrites the method into its NORMAL FORM `navigate_core`: a pure function of the
decoded components of `self` and `dest` (the fields `scheme, host, port, path_parts, query_params, fragment, username,
password, family`, plus `dest.path` and `dest._query`) that returns the nine values the method hands to `from_parts` /
assigns to `ret.family` (or the components of `dest` itself when it returns the reference).  `harness/py2lean.py`
translates that normal form on every run into `Generated/C07_NavSrc.lean`.  Not translated but read by hand here (trusted;
tied to the code by the correspondence only) are `from_parts(**values)`, `ret.family = …` and `normalize()` (`ofCore`),
`dest.path` as `'/'.join(path_parts)` and `dest._query is None` as "no query component" (`srcCore`).
When the current source is outside the front-end's subset (a restructured `navigate`), the generated file holds the
translation of the normal form of the reference version and `C07.NavSrc.tied = false`: the theorems then say nothing
about the current source, and the evidence says so (`navigate_source_tie`).
-/
import BoltonsVerif.Generated.C07_NavSrc
import BoltonsVerif.C07.Proofs
import BoltonsVerif.PyRtLemmas

namespace C07

/-- the nine values `navigate` hands to `from_parts` (eight keywords) and assigns to `ret.family`, in the order of the
    generated tuple: scheme, host, port, path_parts, query_params, fragment, username, password, family -/
abbrev Core := Str × Str × Int × List Str × QPairs × Str × Str × Str × Int

/-- `socket.AF_INET6` or not, as an opaque number (`ofCore` only asks `= 1`) -/
def fam (v6 : Bool) : Int := if v6 then 1 else 0

/-- spec-declared operations: `ret = URL.from_parts(**values)`, `ret.family = family`, `ret.normalize()` -/
def ofCore (c : Core) : URL :=
  URL.normalize
    { scheme := c.1, netlocSep := false, user := c.2.2.2.2.2.2.1, pass := c.2.2.2.2.2.2.2.1, host := c.2.1,
      v6 := decide (c.2.2.2.2.2.2.2.2 = 1), port := c.2.2.1.toNat,
      parts := if c.2.2.2.1 = [] then [[]] else c.2.2.2.1, query := omdUpdate [] c.2.2.2.2.1, hasQuery := false,
      fragment := c.2.2.2.2.2.1 }

def coreOf (u : URL) : Core :=
  (u.scheme, u.host, (u.port : Int), u.parts, u.query, u.fragment, u.user, u.pass, fam u.v6)

/-- the translated source applied to the components of two URL objects; `dest._query` is only tested against `None`,
    so `some []` stands for any query text -/
def srcCore (self dest : URL) : Core :=
  NavSrc.navigate_core self.scheme self.host self.port self.parts self.query self.user self.pass (fam self.v6)
    dest.scheme dest.host dest.port dest.parts dest.pathText dest.query (if dest.hasQuery then some [] else none)
    dest.fragment dest.user dest.pass (fam dest.v6)

/-- the nine values in closed form (model side): what `URL.navigateWith true` hands to `from_parts` -/
def modelCore (self dest : URL) : Core :=
  (orStr dest.scheme self.scheme, orStr dest.host self.host, ((if dest.port ≠ 0 then dest.port else self.port : Nat) : Int),
   (if dest.pathText ≠ [] then
      if dest.pathText.head? = some '/' then dest.parts
      else (if self.host ≠ [] ∧ self.parts.dropLast.head? ≠ some [] then [] :: self.parts.dropLast
            else self.parts.dropLast) ++ dest.parts
    else self.parts),
   (if dest.pathText ≠ [] then dest.query
    else if dest.query = [] ∧ ¬ (dest.hasQuery = true) then self.query else dest.query),
   dest.fragment, orStr dest.user self.user, orStr dest.pass self.pass,
   fam (if dest.host ≠ [] then dest.v6 else self.v6))

theorem ofCore_modelCore (self dest : URL) (h : ¬ (dest.scheme ≠ [] ∧ dest.host ≠ [])) :
    ofCore (modelCore self dest) = URL.navigateWith true self dest := by
  rw [navigateWith_eq true self dest h]
  simp only [ofCore, modelCore, navParts, navQuery, URL.normalize, Int.toNat_natCast, omdUpdate_nil, true_and, if_true]
  congr 1
  split
  · cases dest.v6 <;> rfl
  · cases self.v6 <;> rfl

/-! facts about the runtime expressions the translator emits -/

theorem nav_slice_take_one_chars (l : List Char) : PyRt.slice l none (some 1) = l.take 1 :=
  PyRt.slice_to_nat l 1

theorem nav_slice_take_one_strs (l : List Str) : PyRt.slice l none (some 1) = l.take 1 :=
  PyRt.slice_to_nat l 1

theorem nav_slice_dropLast_strs (l : List Str) : PyRt.slice l none (some (-1)) = l.dropLast :=
  PyRt.slice_to_neg_one l

theorem take_one_eq_slash (l : List Char) : l.take 1 = ['/'] ↔ l.head? = some '/' := by
  cases l <;> simp

theorem take_one_eq_root (l : List Str) : l.take 1 = [[]] ↔ l.head? = some [] := by
  cases l <;> simp

theorem take_one_ne_root (l : List Str) : l.take 1 ≠ [[]] ↔ l.head? ≠ some [] :=
  not_congr (take_one_eq_root l)

theorem cast_ite_port (c : Prop) [Decidable c] (a b : Nat) : ((if c then a else b : Nat) : Int) = if c then (a : Int) else b := by
  split <;> rfl

theorem fam_ite (c : Prop) [Decidable c] (a b : Bool) : fam (if c then a else b) = if c then fam a else fam b := by
  split <;> rfl

end C07
