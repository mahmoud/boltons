import BoltonsVerif.C07.Spec
/-
C07 — the vocabulary of the property theorems (first section) and the lemmas under them.  All RFC-equality theorems are
readings of one simulation: on the class `Rooted` of bases (closed under navigation) `navigate` keeps the relation
`Stands` between a URL object and an RFC reference (`Stands.navigate`, `Stands.navigateAll`).  `rds_flat` is the bridge
from the code's segment stack to the buffer algorithm of RFC 3986 5.2.4.
-/
namespace C07

/-! ### vocabulary of the property theorems -/

def NoSlash (s : Str) : Prop := '/' ∉ s

/-- the path text of `[] :: segs`: "/s1/s2/..." (`joinSlash_root`) -/
def flat (segs : List Str) : Str := segs.flatMap (fun s => '/' :: s)

def DotFree (l : List Str) : Prop := ∀ s ∈ l, s ≠ dot ∧ s ≠ dotdot

instance (s : Str) : Decidable (NoSlash s) := by unfold NoSlash; infer_instance
instance (l : List Str) : Decidable (DotFree l) := by unfold DotFree; infer_instance

/-- Python truthiness of a text seen as "defined or not" -/
def optOfStr (s : Str) : Option Str := if s = [] then none else some s

/-- What `to_text()` prints, as the five components it prints (so that
    `toText u = recompose (toRef u)`, theorem `toText_eq_recompose`). -/
def URL.toRef (u : URL) : Ref :=
  { scheme := optOfStr u.scheme
    authority :=
      if u.authorityText ≠ [] then some u.authorityText
      else if u.scheme ≠ [] ∧ u.pathText.take 2 ≠ ['/', '/'] ∧ u.usesNetloc then some [] else none
    path :=
      if u.pathText ≠ [] ∧ u.scheme ≠ [] ∧ u.authorityText ≠ [] ∧ u.pathText.head? ≠ some '/'
      then '/' :: u.pathText else u.pathText
    query := optOfStr (queryText u.query)
    fragment := optOfStr u.fragment }

/-- a present-but-empty query / fragment cannot be represented by a `URL` object:
    comparison identifies it with an absent one -/
def dropEmpty (o : Option Str) : Option Str := if o = some [] then none else o

def Ref.canon (t : Ref) : Ref := { t with query := dropEmpty t.query, fragment := dropEmpty t.fragment }

/-- the RFC target with RFC 3986 6.2.2.3 path normalisation applied (the statement's "normalized result") -/
def Ref.normalized (t : Ref) : Ref := { t with path := removeDotSegments t.path }

/-- query texts that `parse_qsl` / `QueryParamDict.to_text` reproduce verbatim: `&`-separated non-empty
    pairs, no `;` separator (any keys, values, repetitions, order; a pair may lack `=` or have an empty value);
    `q = []` apart because `splitC '&' [] = [[]]` -/
def CanonQuery (q : Str) : Prop := ';' ∉ q ∧ (q = [] ∨ [] ∉ splitC '&' q)

instance (q : Str) : Decidable (CanonQuery q) := by unfold CanonQuery; infer_instance

def CanonQ : Option Str → Prop
  | none => True
  | some q => CanonQuery q

instance : (o : Option Str) → Decidable (CanonQ o)
  | none => isTrue trivial
  | some q => inferInstanceAs (Decidable (CanonQuery q))

def RelRef (r : Ref) : Prop := r.scheme = none ∧ r.authority = none

instance (r : Ref) : Decidable (RelRef r) := by unfold RelRef; infer_instance

def RelText (t : Str) : Prop := (rfcParse t).scheme = none ∧ (rfcParse t).authority = none

instance (t : Str) : Decidable (RelText t) := by unfold RelText; infer_instance

/-- the bases of the RFC-equality theorems: what `URL(text)` gives for a lower-case `scheme://host[/path]`
    (`parts = [[]]` is the empty path) -/
structure AbsBase (b : URL) : Prop where
  host_ne : b.host ≠ []
  rooted : ∃ segs, b.parts = [] :: segs
  noSlash : ∀ s ∈ b.parts, NoSlash s
  lowerScheme : lower b.scheme = b.scheme
  lowerHost : lower b.host = b.host

/-- one decidable hypothesis, so that a concrete base is shown to be one by a single `decide` -/
theorem AbsBase.of_head {b : URL} (h : b.host ≠ [] ∧ b.parts.head? = some [] ∧ (∀ s ∈ b.parts, NoSlash s) ∧
    lower b.scheme = b.scheme ∧ lower b.host = b.host) : AbsBase b :=
  ⟨h.1, List.head?_eq_some_iff.1 h.2.1, h.2.2.1, h.2.2.2.1, h.2.2.2.2⟩

def URL.lowerCase (b : URL) : URL := { b with scheme := lower b.scheme, host := lower b.host }

structure HostBase (b : URL) : Prop where
  host_ne : b.host ≠ []
  rooted : ∃ segs, b.parts = [] :: segs
  noSlash : ∀ s ∈ b.parts, NoSlash s

/-- the path must have a segment after the root marker: without a host the code does not re-root the merged path (and
    for an undefined authority neither does RFC 5.2.3).  Userinfo / port are arbitrary (boltons keeps them even without
    a host). -/
structure HostlessBase (b : URL) : Prop where
  host_nil : b.host = []
  rooted : ∃ s segs, b.parts = [] :: s :: segs
  noSlash : ∀ s ∈ b.parts, NoSlash s
  lowerScheme : lower b.scheme = b.scheme

/-- `B` is the base as RFC 3986 sees it: scheme, path and query of `b`.  The authority is left open - undefined for
    `foo:/a/b`, defined and empty for `file:///a/b`; 5.2.2 only hands it on and 5.2.3 does not look at it when the
    base path is not empty. -/
def RefOfBase (b : URL) (B : Ref) : Prop :=
  B.scheme = optOfStr b.scheme ∧ B.path = b.pathText ∧ B.query = optOfStr (queryText b.query)

instance (b : URL) (B : Ref) : Decidable (RefOfBase b B) := by unfold RefOfBase; infer_instance

/-- "the URL object `n` stands for the RFC reference `T`" for hostless URLs: scheme and path exactly, query up to the
    empty marker (the authority - undefined or empty - is not represented by the object) -/
def HostlessSim (n : URL) (T : Ref) : Prop :=
  optOfStr n.scheme = T.scheme ∧ n.pathText = T.path ∧ dropEmpty (optOfStr (queryText n.query)) = dropEmpty T.query

instance (n : URL) (T : Ref) : Decidable (HostlessSim n T) := by unfold HostlessSim; infer_instance

theorem consHead_ne_nil (c : Char) (l : List Str) : consHead c l ≠ [] := by
  cases l <;> simp [consHead]

theorem splitSlash_eq_splitC (p : Str) : splitSlash p = splitC '/' p := by
  induction p with
  | nil => rfl
  | cons c cs ih => simp only [splitSlash, splitC, ih]

theorem joinSlash_eq_joinC : ∀ l : List Str, joinSlash l = joinC '/' l
  | [] => rfl
  | [_] => rfl
  | s :: a :: t => by
    show s ++ '/' :: joinSlash (a :: t) = s ++ '/' :: joinC '/' (a :: t)
    rw [joinSlash_eq_joinC (a :: t)]

theorem splitC_ne_nil (c : Char) (p : Str) : splitC c p ≠ [] := by
  cases p with
  | nil => simp [splitC]
  | cons d ds =>
    simp only [splitC]
    split
    · simp
    · exact consHead_ne_nil _ _

theorem splitC_mem (c : Char) (p : Str) : ∀ s ∈ splitC c p, c ∉ s ∧ ∀ x ∈ s, x ∈ p := by
  induction p with
  | nil => simp [splitC]
  | cons d ds ih =>
    simp only [splitC]
    split
    · intro s hs
      rcases List.mem_cons.1 hs with rfl | hs
      · simp
      · exact ⟨(ih s hs).1, fun x hx => List.mem_cons_of_mem _ ((ih s hs).2 x hx)⟩
    · rename_i hd
      intro s hs
      cases hsp : splitC c ds with
      | nil => exact absurd hsp (splitC_ne_nil c ds)
      | cons a t =>
        rw [hsp] at hs ih
        rcases List.mem_cons.1 hs with rfl | hs
        · have := ih a (by simp)
          exact ⟨by simpa [Ne.symm hd] using this.1, fun x hx => by
            rcases List.mem_cons.1 hx with rfl | hx
            · simp
            · exact List.mem_cons_of_mem _ (this.2 x hx)⟩
        · have := ih s (by simp [hs])
          exact ⟨this.1, fun x hx => List.mem_cons_of_mem _ (this.2 x hx)⟩

theorem joinC_cons_cons (c : Char) (s a : Str) (t : List Str) :
    joinC c (s :: a :: t) = s ++ c :: joinC c (a :: t) := by simp [joinC]

theorem joinC_consHead (c d : Char) (l : List Str) (h : l ≠ []) :
    joinC c (consHead d l) = d :: joinC c l := by
  match l, h with
  | [a], _ => simp [consHead, joinC]
  | a :: b :: t, _ => simp [consHead, joinC]

theorem joinC_splitC (c : Char) (p : Str) : joinC c (splitC c p) = p := by
  induction p with
  | nil => simp [splitC, joinC]
  | cons d ds ih =>
    simp only [splitC]
    split
    · rename_i hc
      cases hsp : splitC c ds with
      | nil => exact absurd hsp (splitC_ne_nil c ds)
      | cons a t => rw [joinC_cons_cons, ← hsp, ih, hc]; simp
    · rw [joinC_consHead _ _ _ (splitC_ne_nil c ds), ih]

theorem splitC_not_mem (c : Char) (s : Str) (h : c ∉ s) : splitC c s = [s] := by
  induction s with
  | nil => rfl
  | cons d ds ih =>
    have hd : d ≠ c := by intro h'; apply h; simp [h']
    have hds : c ∉ ds := by intro h'; apply h; simp [h']
    simp [splitC, hd, ih hds, consHead]

theorem splitC_append_sep (c : Char) (s : Str) (h : c ∉ s) (r : Str) :
    splitC c (s ++ c :: r) = s :: splitC c r := by
  induction s with
  | nil => simp [splitC]
  | cons d ds ih =>
    have hd : d ≠ c := by intro h'; apply h; simp [h']
    have hds : c ∉ ds := by intro h'; apply h; simp [h']
    simp [splitC, hd, ih hds, consHead]

theorem splitC_joinC (c : Char) (segs : List Str) (hne : segs ≠ []) (h : ∀ s ∈ segs, c ∉ s) :
    splitC c (joinC c segs) = segs := by
  induction segs with
  | nil => exact absurd rfl hne
  | cons a t ih =>
    cases t with
    | nil => simpa [joinC] using splitC_not_mem c a (h a (by simp))
    | cons b t' =>
      rw [joinC_cons_cons, splitC_append_sep c a (h a (by simp)),
        ih (by simp) (fun s hs => h s (by simp [hs]))]

theorem splitSlash_ne_nil (p : Str) : splitSlash p ≠ [] := splitSlash_eq_splitC p ▸ splitC_ne_nil '/' p

theorem splitSlash_noSlash (p : Str) : ∀ s ∈ splitSlash p, NoSlash s :=
  fun s hs => (splitC_mem '/' p s (splitSlash_eq_splitC p ▸ hs)).1

theorem joinSlash_cons_cons (s a : Str) (t : List Str) :
    joinSlash (s :: a :: t) = s ++ '/' :: joinSlash (a :: t) := by simp [joinSlash]

theorem joinSlash_splitSlash (p : Str) : joinSlash (splitSlash p) = p := by
  rw [joinSlash_eq_joinC, splitSlash_eq_splitC, joinC_splitC]

theorem splitSlash_joinSlash (segs : List Str) (hne : segs ≠ []) (h : ∀ s ∈ segs, NoSlash s) :
    splitSlash (joinSlash segs) = segs := by
  rw [joinSlash_eq_joinC, splitSlash_eq_splitC, splitC_joinC '/' segs hne h]

theorem flat_cons (a : Str) (t : List Str) : flat (a :: t) = '/' :: a ++ flat t := by simp [flat]
theorem flat_append (a b : List Str) : flat (a ++ b) = flat a ++ flat b := by simp [flat]
theorem flat_snoc (a : List Str) (s : Str) : flat (a ++ [s]) = flat a ++ '/' :: s := by simp [flat]
theorem flat_nil : flat [] = [] := rfl
theorem flat_head (l : List Str) (h : (flat l).head? ≠ some '/') : flat l = [] := by
  cases l with
  | nil => rfl
  | cons a t => simp [flat] at h

theorem flat_eq_joinSlash (l : List Str) (h : l ≠ []) : flat l = '/' :: joinSlash l := by
  induction l with
  | nil => exact absurd rfl h
  | cons a t ih =>
    cases t with
    | nil => simp [flat, joinSlash]
    | cons b t' =>
      rw [flat_cons, ih (by simp), joinSlash_cons_cons]; simp

theorem flat_splitSlash (p : Str) : flat (splitSlash p) = '/' :: p := by
  rw [flat_eq_joinSlash _ (splitSlash_ne_nil p), joinSlash_splitSlash]

theorem joinSlash_root (l : List Str) : joinSlash ([] :: l) = flat l := by
  cases l with
  | nil => simp [joinSlash, flat]
  | cons a t => rw [joinSlash_cons_cons, flat_eq_joinSlash _ (by simp)]; simp

theorem cutAt_join (c : Char) (t : Str) :
    (cutAt c t).1 ++ (match (cutAt c t).2 with | none => [] | some r => c :: r) = t := by
  induction t with
  | nil => simp [cutAt]
  | cons x xs ih =>
    by_cases h : x = c
    · subst h; simp [cutAt]
    · simp only [cutAt, h, if_false, List.cons_append]
      rw [ih]

theorem partitionEq_eq_cutAt (s : Str) : partitionEq s = cutAt '=' s := by
  induction s with
  | nil => rfl
  | cons c cs ih => simp only [partitionEq, cutAt, ih]

theorem renderPair_partitionEq (s : Str) : renderPair (partitionEq s) = s := by
  have := cutAt_join '=' s
  rw [← partitionEq_eq_cutAt] at this
  revert this
  cases partitionEq s with
  | mk k v => cases v <;> simp [renderPair]

theorem flatMap_singleton_self {α : Type} (f : α → List α) (l : List α) (h : ∀ s ∈ l, f s = [s]) :
    l.flatMap f = l := by
  induction l with
  | nil => rfl
  | cons a t ih =>
    rw [List.flatMap_cons, h a (by simp), ih (fun s hs => h s (by simp [hs]))]; rfl

@[simp] theorem parseQsl_nil : parseQsl [] = [] := by decide
@[simp] theorem queryText_nil : queryText [] = [] := rfl
@[simp] theorem omdUpdate_nil (E : QPairs) : omdUpdate [] E = E := by simp [omdUpdate]

theorem queryText_parseQsl (q : Str) (h : CanonQuery q) : queryText (parseQsl q) = q := by
  obtain ⟨hsemi, hne⟩ := h
  rcases hne with rfl | hne
  · rfl
  · have h1 : (splitC '&' q).flatMap (splitC ';') = splitC '&' q :=
      flatMap_singleton_self _ _ (fun s hs =>
        splitC_not_mem ';' s (fun hx => hsemi ((splitC_mem '&' q s hs).2 _ hx)))
    have h2 : (splitC '&' q).filter nonEmpty = splitC '&' q := by
      apply List.filter_eq_self.2
      intro s hs
      cases s with
      | nil => exact absurd hs hne
      | cons _ _ => simp [nonEmpty]
    unfold parseQsl queryText
    rw [h1, h2, List.map_map]
    have : (renderPair ∘ partitionEq) = id := by funext s; simp [renderPair_partitionEq]
    rw [this, List.map_id, joinC_splitC]

theorem parseQsl_eq_nil_iff (q : Str) (h : CanonQuery q) : parseQsl q = [] ↔ q = [] :=
  ⟨fun he => by rw [← queryText_parseQsl q h, he]; rfl, fun he => he ▸ parseQsl_nil⟩

theorem resolveStep_cases (ret : List Str) (p : Str) :
    resolveStep ret p = ret ∨ resolveStep ret p = ret.dropLast ∨
      (p ≠ dot ∧ p ≠ dotdot ∧ resolveStep ret p = ret ++ [p]) := by
  unfold resolveStep
  by_cases h1 : p = dot
  · rw [if_pos h1]; exact Or.inl rfl
  · rw [if_neg h1]
    by_cases h2 : p = dotdot
    · rw [if_pos h2]
      by_cases hg : ret ≠ [] ∧ (ret.length > 1 ∨ ret.head? ≠ some [])
      · rw [if_pos hg]; exact Or.inr (Or.inl rfl)
      · rw [if_neg hg]; exact Or.inl rfl
    · rw [if_neg h2]; exact Or.inr (Or.inr ⟨h1, h2, rfl⟩)

theorem foldl_resolveStep_of_dotFree (parts : List Str) (h : DotFree parts) : ∀ ret,
    parts.foldl resolveStep ret = ret ++ parts := by
  induction parts with
  | nil => intro ret; simp
  | cons p ps ih =>
    intro ret
    have hp := h p (by simp)
    have : resolveStep ret p = ret ++ [p] := by simp [resolveStep, hp.1, hp.2]
    simp only [List.foldl]
    rw [this, ih (fun s hs => h s (by simp [hs]))]
    simp

theorem resolvePathParts_of_dotFree (parts : List Str) (h : DotFree parts) :
    resolvePathParts parts = parts := by
  unfold resolvePathParts
  rw [foldl_resolveStep_of_dotFree parts h]
  have hl : ¬ (parts.getLast? = some dot ∨ parts.getLast? = some dotdot) := by
    intro hh
    rcases hh with hh | hh
    · exact (h dot (List.mem_of_getLast? hh)).1 rfl
    · exact (h dotdot (List.mem_of_getLast? hh)).2 rfl
  simp [hl]

theorem resolveStep_mem (ret : List Str) (p s : Str) (hs : s ∈ resolveStep ret p) :
    s ∈ ret ∨ (s = p ∧ p ≠ dot ∧ p ≠ dotdot) := by
  rcases resolveStep_cases ret p with e | e | ⟨h1, h2, e⟩ <;> rw [e] at hs
  · exact Or.inl hs
  · exact Or.inl (List.dropLast_subset _ hs)
  · exact (List.mem_append.1 hs).imp_right fun h => ⟨List.mem_singleton.1 h, h1, h2⟩

theorem foldl_resolveStep_mem (parts : List Str) : ∀ ret s, s ∈ parts.foldl resolveStep ret →
    s ∈ ret ∨ (s ∈ parts ∧ s ≠ dot ∧ s ≠ dotdot) := by
  induction parts with
  | nil => intro ret s hs; exact Or.inl hs
  | cons p ps ih =>
    intro ret s hs
    rcases ih _ s hs with h | h
    · rcases resolveStep_mem ret p s h with h | ⟨rfl, h⟩
      · exact Or.inl h
      · exact Or.inr ⟨List.mem_cons_self, h⟩
    · exact Or.inr ⟨List.mem_cons_of_mem _ h.1, h.2⟩

theorem resolvePathParts_mem (parts : List Str) (s : Str) (hs : s ∈ resolvePathParts parts) :
    (s ∈ parts ∧ s ≠ dot ∧ s ≠ dotdot) ∨ s = [] := by
  have key : s ∈ parts.foldl resolveStep [] → s ∈ parts ∧ s ≠ dot ∧ s ≠ dotdot :=
    fun h => (foldl_resolveStep_mem parts [] s h).resolve_left List.not_mem_nil
  unfold resolvePathParts at hs
  simp only at hs
  split at hs
  · rcases List.mem_append.1 hs with h | h
    · exact Or.inl (key h)
    · exact Or.inr (List.mem_singleton.1 h)
  · exact Or.inl (key hs)

theorem resolvePathParts_dotFree (parts : List Str) : DotFree (resolvePathParts parts) := by
  intro s hs
  rcases resolvePathParts_mem parts s hs with h | rfl
  · exact h.2
  · decide

theorem resolvePathParts_noSlash (parts : List Str) (h : ∀ s ∈ parts, NoSlash s) :
    ∀ s ∈ resolvePathParts parts, NoSlash s := by
  intro s hs
  rcases resolvePathParts_mem parts s hs with hs | rfl
  · exact h s hs.1
  · exact List.not_mem_nil

/-- the loop body of `resolve_path_parts` on the segments after the root marker `''`; no un-rooting guard is needed:
    the marker is kept outside the stack and `[].dropLast = []` -/
def pstep (stack : List Str) (s : Str) : List Str :=
  if s = dot then stack else if s = dotdot then stack.dropLast else stack ++ [s]

/-- `resolve_path_parts([''] + segs)` without its root marker, started from `stack` -/
def process (stack : List Str) (segs : List Str) : List Str :=
  let st := segs.foldl pstep stack
  if segs.getLast? = some dot ∨ segs.getLast? = some dotdot then st ++ [[]] else st

theorem dotdot_ne_dot : dotdot ≠ dot := by decide

theorem process_nil (stack : List Str) : process stack [] = stack := by simp [process]

theorem process_single (stack : List Str) (s : Str) :
    process stack [s] = if s = dot then stack ++ [[]] else if s = dotdot then stack.dropLast ++ [[]]
      else stack ++ [s] := by
  simp only [process, List.foldl, List.getLast?_singleton, pstep, Option.some.injEq]
  by_cases h1 : s = dot
  · simp [h1]
  · by_cases h2 : s = dotdot
    · simp [h2, dot, dotdot]
    · simp [h1, h2]

theorem process_cons_cons (stack : List Str) (s r : Str) (rs : List Str) :
    process stack (s :: r :: rs) = process (pstep stack s) (r :: rs) := by
  simp [process, List.getLast?_cons_cons]

theorem process_ne_nil_of_ne_nil (stack segs : List Str) (h : segs ≠ []) : process stack segs ≠ [] := by
  rcases List.eq_nil_or_concat segs with hs | ⟨init, x, hs⟩
  · exact absurd hs h
  · subst hs
    unfold process
    simp only [List.concat_eq_append, List.foldl_append, List.foldl, List.getLast?_append, List.getLast?_singleton]
    by_cases h1 : x = dot
    · simp [h1]
    · by_cases h2 : x = dotdot
      · simp [h2]
      · simp [h1, h2, pstep]

/-- what a dot segment leaves of the input: "/." and "/.." at the END of the input become "/" (rules 2B, 2C), the text of
    one empty segment (the trailing `''` of `resolve_path_parts`); before a further segment they vanish -/
def afterDot (rest : List Str) : List Str := if rest = [] then [[]] else rest

theorem afterDot_noSlash (rest : List Str) (h : ∀ x ∈ rest, NoSlash x) : ∀ x ∈ afterDot rest, NoSlash x := by
  unfold afterDot
  split
  · simp [NoSlash]
  · exact h

theorem process_dot (stack rest : List Str) : process stack (dot :: rest) = process stack (afterDot rest) := by
  cases rest with
  | nil => simp [afterDot, process, pstep, dot, dotdot]
  | cons r rs => rw [process_cons_cons, pstep, if_pos rfl]; rfl

theorem process_dotdot (stack rest : List Str) :
    process stack (dotdot :: rest) = process stack.dropLast (afterDot rest) := by
  cases rest with
  | nil => simp [afterDot, process, pstep, dot, dotdot]
  | cons r rs => rw [process_cons_cons, pstep, if_neg dotdot_ne_dot, if_pos rfl]; rfl

theorem process_seg (stack rest : List Str) (s : Str) (h1 : s ≠ dot) (h2 : s ≠ dotdot) :
    process stack (s :: rest) = process (stack ++ [s]) rest := by
  cases rest with
  | nil => rw [process_single, process_nil, if_neg h1, if_neg h2]
  | cons r rs => rw [process_cons_cons, pstep, if_neg h1, if_neg h2]

/-- on a stack that starts with the root marker the un-rooting guard only keeps the marker: the loop body is `pstep` on
    the rest -/
theorem resolveStep_root (stack : List Str) (s : Str) : resolveStep ([] :: stack) s = [] :: pstep stack s := by
  unfold resolveStep pstep
  by_cases h1 : s = dot
  · simp [h1]
  · by_cases h2 : s = dotdot
    · have hdd := dotdot_ne_dot
      subst h2
      cases stack with
      | nil => simp [hdd]
      | cons a t => simp [hdd, List.dropLast]
    · simp [h1, h2]

theorem foldl_resolveStep_root (segs : List Str) : ∀ stack : List Str,
    List.foldl resolveStep ([] :: stack) segs = [] :: List.foldl pstep stack segs := by
  induction segs with
  | nil => intro stack; rfl
  | cons s rest ih => intro stack; rw [List.foldl, resolveStep_root, ih, List.foldl]

theorem resolvePathParts_root (segs : List Str) :
    resolvePathParts ([] :: segs) = [] :: process [] segs := by
  unfold resolvePathParts process
  have hf : List.foldl resolveStep [] ([] :: segs) = [] :: List.foldl pstep [] segs := by
    simp only [List.foldl]
    have : resolveStep [] [] = [[]] := by simp [resolveStep, dot, dotdot]
    rw [this, foldl_resolveStep_root]
  simp only [hf]
  cases segs with
  | nil => simp [dot, dotdot]
  | cons a t =>
    simp only [List.getLast?_cons_cons]
    split <;> simp

theorem dotFree_root (segs : List Str) : DotFree ([] :: segs) ↔ DotFree segs :=
  List.forall_mem_cons.trans (and_iff_right (by decide))

theorem noSlash_root (segs : List Str) : (∀ s ∈ [] :: segs, NoSlash s) ↔ ∀ s ∈ segs, NoSlash s :=
  List.forall_mem_cons.trans (and_iff_right (List.not_mem_nil : NoSlash []))

theorem process_of_dotFree (segs : List Str) (h : DotFree segs) : process [] segs = segs := by
  have := resolvePathParts_of_dotFree _ ((dotFree_root segs).2 h)
  rw [resolvePathParts_root] at this
  exact (List.cons.inj this).2

theorem process_dotFree (segs : List Str) : DotFree (process [] segs) :=
  (dotFree_root _).1 (resolvePathParts_root segs ▸ resolvePathParts_dotFree _)

theorem process_noSlash (segs : List Str) (h : ∀ s ∈ segs, NoSlash s) : ∀ s ∈ process [] segs, NoSlash s :=
  (noSlash_root _).1 (resolvePathParts_root segs ▸ resolvePathParts_noSlash _ ((noSlash_root segs).2 h))

theorem ns_of (c : Char) (h : c ≠ '/') : ns c = true := by simp [ns, h]
theorem ns_slash : ns '/' = false := by simp [ns]

def SlashOrNil (r : Str) : Prop := r = [] ∨ ∃ t, r = '/' :: t

theorem span_noslash (s r : Str) (h : NoSlash s) (hr : SlashOrNil r) :
    (s ++ r).takeWhile ns = s ∧ (s ++ r).dropWhile ns = r := by
  induction s with
  | nil => rcases hr with rfl | ⟨t, rfl⟩ <;> simp [ns_slash]
  | cons c cs ih =>
    have hc : c ≠ '/' := by intro h'; apply h; simp [h']
    have hcs : NoSlash cs := by intro h'; apply h; simp [h']
    simp [ns_of c hc, ih hcs]

theorem dropWhile_rev_noslash (s pre : Str) (h : NoSlash s) :
    ((pre ++ '/' :: s).reverse.dropWhile ns) = '/' :: pre.reverse := by
  have : (pre ++ '/' :: s).reverse = s.reverse ++ '/' :: pre.reverse := by simp
  rw [this]
  have h' : NoSlash s.reverse := by intro hh; apply h; simpa using hh
  exact (span_noslash s.reverse _ h' (Or.inr ⟨_, rfl⟩)).2

theorem popSeg_flat (stack : List Str) (hs : ∀ s ∈ stack, NoSlash s) :
    popSeg (flat stack) = flat stack.dropLast := by
  rcases List.eq_nil_or_concat stack with h | ⟨l, a, h⟩
  · subst h; simp [flat, popSeg]
  · subst h
    have := dropWhile_rev_noslash a (flat l) (hs a (by simp))
    rw [List.concat_eq_append, popSeg, flat_snoc, this]
    simp

theorem dropAfterLastSlash_flat_snoc (stack : List Str) (s : Str) (h : NoSlash s) :
    dropAfterLastSlash (flat (stack ++ [s])) = flat stack ++ ['/'] := by
  have := dropWhile_rev_noslash s (flat stack) h
  unfold dropAfterLastSlash
  rw [flat_snoc, this]
  simp

theorem flat_slashOrNil (l : List Str) : SlashOrNil (flat l) := by
  cases l with
  | nil => left; simp [flat]
  | cons a t => right; exact ⟨a ++ flat t, by simp [flat]⟩

theorem firstSeg_seg (s r : Str) (hs : NoSlash s) (hr : SlashOrNil r) :
    firstSeg ('/' :: s ++ r) = ('/' :: s, r) := by
  simp [firstSeg, span_noslash s r hs hr]

theorem rds_nil (n : Nat) (out : Str) : rds n [] out = out := by
  cases n <;> rfl

/-- one iteration of the loop of 5.2.4 step 2, continuing with fuel `k` (the `match` of `rds` again, so that
    `rds_succ` is `rfl`) -/
def rdsStep (k : Nat) (inp out : Str) : Str :=
  match inp with
  | '.' :: '.' :: '/' :: r => rds k r out
  | '.' :: '/' :: r => rds k r out
  | '/' :: '.' :: '/' :: r => rds k ('/' :: r) out
  | ['/', '.'] => rds k ['/'] out
  | '/' :: '.' :: '.' :: '/' :: r => rds k ('/' :: r) (popSeg out)
  | ['/', '.', '.'] => rds k ['/'] (popSeg out)
  | ['.'] => rds k [] out
  | ['.', '.'] => rds k [] out
  | _ => rds k (firstSeg inp).2 (out ++ (firstSeg inp).1)

theorem rds_succ (k : Nat) (inp out : Str) (h : inp ≠ []) : rds (k+1) inp out = rdsStep k inp out := by
  cases inp with
  | nil => exact absurd rfl h
  | cons c cs => rfl

theorem firstSeg_cons_snd (c : Char) (r : Str) : (firstSeg (c :: r)).2 = r.dropWhile ns := by
  by_cases hc : c = '/'
  · subst hc; rfl
  · unfold firstSeg
    split
    · rename_i heq; exact absurd (List.cons.inj heq).1 hc
    · simp [ns_of c hc]

theorem firstSeg_rest_lt (inp : Str) (h : inp ≠ []) : (firstSeg inp).2.length < inp.length := by
  cases inp with
  | nil => exact absurd rfl h
  | cons c r => rw [firstSeg_cons_snd]; exact Nat.lt_succ_of_le (List.dropWhile_sublist ns).length_le

theorem rdsStep_shorter (inp out : Str) (h : inp ≠ []) :
    ∃ inp' out', inp'.length < inp.length ∧ ∀ k, rdsStep k inp out = rds k inp' out' := by
  unfold rdsStep
  split
  case h_9 => exact ⟨_, _, firstSeg_rest_lt inp h, fun _ => rfl⟩
  all_goals exact ⟨_, _, by simp only [List.length_cons, List.length_nil]; omega, fun _ => rfl⟩

/-- each pattern of 2A–2D has ".", "..", "/." or "/.." as its first segment -/
theorem rdsStep_other (k : Nat) (inp out : Str)
    (hd : (firstSeg inp).1 ≠ ['.']) (hdd : (firstSeg inp).1 ≠ ['.', '.'])
    (hsd : (firstSeg inp).1 ≠ ['/', '.']) (hsdd : (firstSeg inp).1 ≠ ['/', '.', '.']) :
    rdsStep k inp out = rds k (firstSeg inp).2 (out ++ (firstSeg inp).1) := by
  unfold rdsStep
  split
  · exact absurd rfl hdd
  · exact absurd rfl hd
  · exact absurd rfl hsd
  · exact absurd rfl hsd
  · exact absurd rfl hsdd
  · exact absurd rfl hsdd
  · exact absurd rfl hd
  · exact absurd rfl hdd
  · rfl

theorem rds_other (n : Nat) (s r out : Str) (hs : NoSlash s) (hr : SlashOrNil r)
    (h1 : s ≠ dot) (h2 : s ≠ dotdot) :
    rds (n+1) ('/' :: s ++ r) out = rds n r (out ++ '/' :: s) := by
  have hfs := firstSeg_seg s r hs hr
  rw [rds_succ n _ out (by simp), rdsStep_other] <;> rw [hfs]
  · simp
  · simp
  · simpa [dot] using h1
  · simpa [dotdot] using h2

theorem rds_dot (n : Nat) (rest : List Str) (out : Str) :
    rds (n+1) (flat (dot :: rest)) out = rds n (flat (afterDot rest)) out := by
  cases rest <;> rfl

theorem rds_dotdot (n : Nat) (rest : List Str) (out : Str) :
    rds (n+1) (flat (dotdot :: rest)) out = rds n (flat (afterDot rest)) (popSeg out) := by
  cases rest <;> rfl

/-- the bridge: the RFC's buffer algorithm, run on "/s1/s2/…" with the text of `stack` in the output buffer, ends with
    the text of the code's segment stack -/
theorem rds_flat (fuel : Nat) : ∀ (segs stack : List Str),
    (∀ s ∈ segs, NoSlash s) → (∀ s ∈ stack, NoSlash s) → (flat segs).length ≤ fuel →
    rds fuel (flat segs) (flat stack) = flat (process stack segs) := by
  -- on the fuel, not the segments: after a final dot segment the input is `flat (afterDot [])`, shorter but no sublist
  induction fuel with
  | zero =>
    intro segs stack _ _ hfuel
    cases segs with
    | nil => rfl
    | cons s rest => simp [flat] at hfuel
  | succ n ih =>
    intro segs stack hsegs hstack hfuel
    cases segs with
    | nil => rfl
    | cons s rest =>
      have hrest : ∀ x ∈ rest, NoSlash x := fun x hx => hsegs x (List.mem_cons_of_mem _ hx)
      have hlen : (flat (afterDot rest)).length ≤ (flat rest).length + 1 := by
        cases rest <;> simp [afterDot, flat]
      rw [flat_cons] at hfuel
      simp only [List.length_cons, List.length_append] at hfuel
      by_cases hd : s = dot
      · subst hd
        rw [rds_dot, process_dot]
        exact ih _ stack (afterDot_noSlash rest hrest) hstack (by simp [dot] at hfuel; omega)
      · by_cases hdd : s = dotdot
        · subst hdd
          rw [rds_dotdot, process_dotdot, popSeg_flat stack hstack]
          exact ih _ _ (afterDot_noSlash rest hrest) (fun x hx => hstack x (List.dropLast_subset _ hx))
            (by simp [dotdot] at hfuel; omega)
        · rw [flat_cons, rds_other n s (flat rest) (flat stack) (hsegs s (by simp)) (flat_slashOrNil rest) hd hdd,
            ← flat_snoc, process_seg stack rest s hd hdd]
          exact ih rest (stack ++ [s]) hrest
            (List.forall_mem_append.2 ⟨hstack, List.forall_mem_singleton.2 (hsegs s (by simp))⟩) (by omega)

theorem removeDotSegments_flat (segs : List Str) (h : ∀ s ∈ segs, NoSlash s) :
    removeDotSegments (flat segs) = flat (process [] segs) := by
  have := rds_flat ((flat segs).length + 1) segs [] h (by simp) (by omega)
  simpa [removeDotSegments, flat_nil] using this

theorem removeDotSegments_flat_idem (segs : List Str) (h : ∀ s ∈ segs, NoSlash s) :
    removeDotSegments (removeDotSegments (flat segs)) = removeDotSegments (flat segs) := by
  rw [removeDotSegments_flat _ h, removeDotSegments_flat _ (process_noSlash _ h), process_of_dotFree _ (process_dotFree _)]

theorem toLower_idem (c : Char) : c.toLower.toLower = c.toLower := by
  -- `toLower` moves 'A'..'Z' into 'a'..'z', which is disjoint from 'A'..'Z'
  unfold Char.toLower
  split
  · rename_i h
    split
    · rename_i h2
      exfalso
      revert h h2
      simp only [ge_iff_le, UInt32.le_iff_toNat_le, Char.reduceVal]
      simp
      omega
    · rfl
  · simp [*]

theorem lower_idem (s : Str) : lower (lower s) = lower s := by
  simp [lower, toLower_idem]

theorem lower_ne_nil (s : Str) (h : s ≠ []) : lower s ≠ [] := by
  cases s <;> simp_all [lower]

/-- `newParts` of `URL.navigateWith` -/
def navParts (b d : URL) : List Str :=
  if d.pathText ≠ [] then
    if d.pathText.head? = some '/' then d.parts
    else (if b.host ≠ [] ∧ b.parts.dropLast.head? ≠ some [] then [] :: b.parts.dropLast else b.parts.dropLast) ++ d.parts
  else b.parts

/-- `query` of `URL.navigateWith` -/
def navQuery (honour : Bool) (b d : URL) : QPairs :=
  if d.pathText ≠ [] then d.query
  else if d.query = [] ∧ ¬ (honour = true ∧ d.hasQuery = true) then b.query else d.query

theorem navigateWith_eq (honour : Bool) (b d : URL) (h : ¬ (d.scheme ≠ [] ∧ d.host ≠ [])) :
    URL.navigateWith honour b d =
      { scheme := lower (orStr d.scheme b.scheme), netlocSep := false, user := orStr d.user b.user,
        pass := orStr d.pass b.pass, host := lower (orStr d.host b.host),
        v6 := if d.host ≠ [] then d.v6 else b.v6, port := if d.port ≠ 0 then d.port else b.port,
        parts := resolvePathParts (if navParts b d = [] then [[]] else navParts b d),
        query := navQuery honour b d, hasQuery := false, fragment := d.fragment } := by
  unfold URL.navigateWith
  rw [if_neg h]
  rfl

theorem ofRelRef_not_replacing (r : Ref) : ¬ ((URL.ofRelRef r).scheme ≠ [] ∧ (URL.ofRelRef r).host ≠ []) :=
  fun h => h.1 rfl

theorem ofRelRef_pathText (r : Ref) : (URL.ofRelRef r).pathText = r.path := by
  simp [URL.ofRelRef, URL.ofComponents, URL.pathText, joinSlash_splitSlash]

theorem pathText_rooted {u : URL} {segs : List Str} (hp : u.parts = [] :: segs) : u.pathText = flat segs := by
  rw [URL.pathText, hp, joinSlash_root]

/-- the bases the comparison with RFC 3986 5.2 covers, `segs` being the path below the root marker.  `hostOrPath`: without
    a host the code does not re-root the merged path, so the base directory must carry the root marker itself
    (`file:///a/b`, `foo:/a/b`).  `AbsBase` is the half with a host, `HostlessBase` the half without. -/
structure Rooted (b : URL) (segs : List Str) : Prop where
  parts : b.parts = [] :: segs
  hostOrPath : b.host ≠ [] ∨ segs ≠ []
  noSlash : ∀ s ∈ segs, NoSlash s
  lowerScheme : lower b.scheme = b.scheme
  lowerHost : lower b.host = b.host

theorem AbsBase.toRooted {b : URL} (hb : AbsBase b) : ∃ segs, Rooted b segs :=
  hb.rooted.imp fun _ h => ⟨h, Or.inl hb.host_ne, (noSlash_root _).1 (h ▸ hb.noSlash), hb.lowerScheme, hb.lowerHost⟩

theorem HostlessBase.toRooted {b : URL} (hb : HostlessBase b) : ∃ segs, Rooted b segs :=
  let ⟨_, _, h⟩ := hb.rooted
  ⟨_, h, Or.inr (List.cons_ne_nil _ _), (noSlash_root _).1 (h ▸ hb.noSlash), hb.lowerScheme, by rw [hb.host_nil]; rfl⟩

theorem Rooted.absBase {b : URL} {segs : List Str} (h : Rooted b segs) (hh : b.host ≠ []) : AbsBase b :=
  ⟨hh, ⟨_, h.parts⟩, h.parts ▸ (noSlash_root _).2 h.noSlash, h.lowerScheme, h.lowerHost⟩

theorem Rooted.hostlessBase {b : URL} {segs : List Str} (h : Rooted b segs) (hh : b.host = []) : HostlessBase b := by
  obtain ⟨a, t, e⟩ := List.exists_cons_of_ne_nil (h.hostOrPath.resolve_left (fun h' => h' hh))
  exact ⟨hh, ⟨a, t, e ▸ h.parts⟩, h.parts ▸ (noSlash_root _).2 h.noSlash, h.lowerScheme⟩

/-- `navParts b (URL.ofRelRef r)` for a rooted base (`navParts_ofRelRef`) -/
def relParts (b : URL) (r : Ref) : List Str :=
  if r.path = [] then b.parts
  else if r.path.head? = some '/' then splitSlash r.path
  else [] :: (b.parts.drop 1).dropLast ++ splitSlash r.path

/-- `navQuery honour b (URL.ofRelRef r)` (`navQuery_ofRelRef`) -/
def relQuery (honour : Bool) (b : URL) (r : Ref) : QPairs :=
  if r.path = [] then
    (if parseQsl (r.query.getD []) = [] ∧ ¬ (honour = true ∧ r.query.isSome = true) then b.query
     else parseQsl (r.query.getD []))
  else parseQsl (r.query.getD [])

/-- explicit form of `base.navigate(ref)` (`Rooted.navigate_eq`) -/
def relResult (honour : Bool) (b : URL) (r : Ref) : URL :=
  { b with netlocSep := false, parts := resolvePathParts (relParts b r), query := relQuery honour b r,
           hasQuery := false, fragment := r.fragment.getD [] }

@[simp] theorem relResult_scheme (honour : Bool) (b : URL) (r : Ref) : (relResult honour b r).scheme = b.scheme := rfl
@[simp] theorem relResult_host (honour : Bool) (b : URL) (r : Ref) : (relResult honour b r).host = b.host := rfl
@[simp] theorem relResult_parts (honour : Bool) (b : URL) (r : Ref) :
    (relResult honour b r).parts = resolvePathParts (relParts b r) := rfl
@[simp] theorem relResult_query (honour : Bool) (b : URL) (r : Ref) : (relResult honour b r).query = relQuery honour b r := rfl
@[simp] theorem relResult_fragment (honour : Bool) (b : URL) (r : Ref) :
    (relResult honour b r).fragment = r.fragment.getD [] := rfl
@[simp] theorem relResult_authorityText (honour : Bool) (b : URL) (r : Ref) :
    (relResult honour b r).authorityText = b.authorityText := rfl

/-- `relParts` below the root marker (`relParts_eq`) -/
def relSegs (segs : List Str) (r : Ref) : List Str :=
  if r.path = [] then segs
  else if r.path.head? = some '/' then splitSlash (r.path.drop 1)
  else segs.dropLast ++ splitSlash r.path

theorem relParts_eq (b : URL) (r : Ref) (segs : List Str) (hp : b.parts = [] :: segs) :
    relParts b r = [] :: relSegs segs r := by
  unfold relParts relSegs
  by_cases h1 : r.path = []
  · simp [h1, hp]
  · simp only [h1, if_false]
    by_cases h2 : r.path.head? = some '/'
    · obtain ⟨cs, hr⟩ := List.head?_eq_some_iff.1 h2
      simp [hr, splitSlash]
    · simp [h2, hp]

theorem navQuery_ofRelRef (honour : Bool) (b : URL) (r : Ref) :
    navQuery honour b (URL.ofRelRef r) = relQuery honour b r := by
  unfold navQuery relQuery
  rw [ofRelRef_pathText]
  by_cases hp : r.path = [] <;> simp [hp, URL.ofRelRef, URL.ofComponents]

theorem navParts_ofRelRef {b : URL} {segs : List Str} (hb : Rooted b segs) (r : Ref) :
    navParts b (URL.ofRelRef r) = relParts b r := by
  unfold navParts relParts
  rw [ofRelRef_pathText]
  by_cases hp : r.path = []
  · simp [hp]
  · by_cases hs : r.path.head? = some '/'
    · simp [hp, hs, URL.ofRelRef, URL.ofComponents]
    · -- the base directory `[''] + segs[:-1]` carries the root marker itself unless `segs` is empty
      have hbase : (if b.host ≠ [] ∧ b.parts.dropLast.head? ≠ some [] then [] :: b.parts.dropLast
            else b.parts.dropLast) = [] :: (b.parts.drop 1).dropLast := by
        rw [hb.parts]
        cases segs with
        | nil => simp [hb.hostOrPath.resolve_right (fun h => h rfl)]
        | cons a t => simp [List.dropLast]
      simp [hp, hs, hbase, URL.ofRelRef, URL.ofComponents]

theorem Rooted.navigate_eq {b : URL} {segs : List Str} (hb : Rooted b segs) (honour : Bool) (r : Ref) :
    URL.navigateWith honour b (URL.ofRelRef r) = relResult honour b r := by
  have hne : relParts b r ≠ [] := by rw [relParts_eq b r segs hb.parts]; exact List.cons_ne_nil _ _
  rw [navigateWith_eq honour b _ (ofRelRef_not_replacing r), navParts_ofRelRef hb r, navQuery_ofRelRef, if_neg hne]
  show ({ scheme := lower b.scheme, host := lower b.host, .. } : URL) = _
  rw [hb.lowerScheme, hb.lowerHost]
  rfl

theorem AbsBase.navigate_eq {b : URL} (hb : AbsBase b) (honour : Bool) (r : Ref) :
    URL.navigateWith honour b (URL.ofRelRef r) = relResult honour b r :=
  let ⟨_, h⟩ := hb.toRooted
  h.navigate_eq honour r

theorem relSegs_noSlash (segs : List Str) (r : Ref) (h : ∀ s ∈ segs, NoSlash s) :
    ∀ s ∈ relSegs segs r, NoSlash s := by
  unfold relSegs
  split
  · exact h
  · split
    · exact splitSlash_noSlash _
    · exact List.forall_mem_append.2 ⟨fun s hs => h s (List.dropLast_subset _ hs), splitSlash_noSlash _⟩

theorem relSegs_ne_nil (segs : List Str) (r : Ref) (h : segs ≠ []) : relSegs segs r ≠ [] := by
  unfold relSegs
  split
  · exact h
  · split
    · exact splitSlash_ne_nil _
    · exact fun h => splitSlash_ne_nil r.path (List.append_eq_nil_iff.1 h).2

theorem Rooted.closed {b : URL} {segs : List Str} (h : Rooted b segs) (honour : Bool) (r : Ref) :
    Rooted (relResult honour b r) (process [] (relSegs segs r)) :=
  ⟨by rw [relResult_parts, relParts_eq b r segs h.parts, resolvePathParts_root],
    h.hostOrPath.imp_right fun hne => process_ne_nil_of_ne_nil [] _ (relSegs_ne_nil segs r hne),
    process_noSlash _ (relSegs_noSlash segs r h.noSlash), h.lowerScheme, h.lowerHost⟩

theorem authorityText_ne_nil (u : URL) (h : u.host ≠ []) : u.authorityText ≠ [] := by
  unfold URL.authorityText
  rw [if_pos h]
  intro he
  have := (List.append_eq_nil_iff.1 (List.append_eq_nil_iff.1 he).2).1
  cases hv : u.v6 <;> simp [hv, h] at this

/-- the components of `u` as RFC 3986 names them, with `a` for the authority (which the object does not determine
    without a host: undefined for `foo:/a`, empty for `file:///a`) -/
def URL.refWith (u : URL) (a : Option Str) : Ref :=
  ⟨optOfStr u.scheme, a, u.pathText, optOfStr (queryText u.query), optOfStr u.fragment⟩

theorem toRef_rooted (u : URL) (segs : List Str) (hh : u.host ≠ []) (hp : u.parts = [] :: segs) :
    u.toRef = u.refWith (some u.authorityText) := by
  have ha := authorityText_ne_nil u hh
  have hpt := pathText_rooted hp
  unfold URL.toRef URL.refWith
  simp only [ha, ne_eq, not_false_eq_true, if_true, true_and]
  congr 1
  -- a rooted path text is empty or starts with '/': `to_text` has no '/' to put before it
  exact if_neg fun ⟨hne, _, hhead⟩ => hne (flat_head segs (hpt ▸ hhead) ▸ hpt)

theorem toRef_nonetloc (u : URL) (hu : u.user = []) (hh : u.host = []) (hn : u.usesNetloc = false) :
    u.toRef = u.refWith none := by
  have ha : u.authorityText = [] := by simp [URL.authorityText, hu, hh]
  simp [URL.toRef, URL.refWith, ha, hn]

theorem resolve_rel (base r : Ref) (hr : RelRef r) :
    resolve base r =
      { scheme := base.scheme, authority := base.authority,
        path := if r.path = [] then base.path
          else removeDotSegments (if r.path.head? = some '/' then r.path else merge base r.path),
        query := if r.path = [] then (if r.query.isSome then r.query else base.query) else r.query,
        fragment := r.fragment } := by
  unfold resolve
  rw [hr.1, hr.2]
  by_cases h1 : r.path = []
  · simp only [h1, Option.isSome_none, Bool.false_eq_true, if_false, if_true]
  · by_cases h2 : r.path.head? = some '/' <;>
      simp only [h1, h2, Option.isSome_none, Bool.false_eq_true, if_false, if_true]

theorem rfc_path_rel (base : Ref) (segs : List Str) (r : Ref) (hr : RelRef r)
    (hauth : base.authority.isSome ∨ segs ≠ []) (hpath : base.path = flat segs) (hns : ∀ s ∈ segs, NoSlash s) :
    (resolve base r).path =
      if r.path = [] then flat segs else removeDotSegments (flat (relSegs segs r)) := by
  rw [resolve_rel base r hr]
  unfold relSegs
  by_cases h1 : r.path = []
  · simp [h1, hpath]
  · simp only [h1, if_false]
    congr 1
    by_cases h2 : r.path.head? = some '/'
    · obtain ⟨cs, hrp⟩ := List.head?_eq_some_iff.1 h2
      simp [hrp, flat_splitSlash]
    · simp only [h2, if_false]
      unfold merge
      rcases List.eq_nil_or_concat segs with hs | ⟨init, last, hs⟩
      · subst hs
        have hauth : base.authority.isSome := hauth.elim id (fun h => absurd rfl h)
        simp [hauth, hpath, flat_nil, flat_splitSlash]
      · subst hs
        have hne : flat (init.concat last) ≠ [] := by simp [flat]
        rw [hpath]
        simp only [hne, and_false, if_false]
        rw [List.concat_eq_append,
          dropAfterLastSlash_flat_snoc init last (hns last (by simp))]
        simp [flat_append, flat_splitSlash]

theorem optOfStr_getD (s : Str) : (optOfStr s).getD [] = s := by
  by_cases h : s = [] <;> simp [optOfStr, h]

theorem dropEmpty_optOfStr (s : Str) : dropEmpty (optOfStr s) = optOfStr s := by
  by_cases h : s = [] <;> simp [optOfStr, dropEmpty, h]

/-- "equal up to the empty marker" = the same text once an undefined component is read as the empty one -/
theorem dropEmpty_optOfStr_eq_iff (s : Str) (o : Option Str) :
    dropEmpty (optOfStr s) = dropEmpty o ↔ s = o.getD [] := by
  cases o with
  | none => by_cases h : s = [] <;> simp [optOfStr, dropEmpty, h]
  | some q => by_cases h : s = [] <;> by_cases hq : q = [] <;> simp [optOfStr, dropEmpty, h, hq, eq_comm]

theorem CanonQ.roundtrip {o : Option Str} (h : CanonQ o) : queryText (parseQsl (o.getD [])) = o.getD [] := by
  cases o with
  | none => simp
  | some q => exact queryText_parseQsl q h

/-- the URL object `n` stands for the RFC reference `T`.  The authority is compared only when there is a host (without one
    the object does not say whether it is undefined or empty); an undefined query or fragment is read as the empty text
    (the object cannot tell them apart; `dropEmpty_optOfStr_eq_iff`).  `HostlessSim` is its scheme, path and query;
    `n.toRef.canon = T.canon` is all of it for an `n` with a host (`Rooted.stands_iff`). -/
structure Stands (n : URL) (T : Ref) : Prop where
  scheme : optOfStr n.scheme = T.scheme
  authority : n.host ≠ [] → T.authority = some n.authorityText
  path : n.pathText = T.path
  query : queryText n.query = T.query.getD []
  fragment : n.fragment = T.fragment.getD []

/-- without a host `HostlessSim` is all of `Stands` but the fragment.  RFC 5.2.2 never reads the fragment of a base, so
    `resolve { B with fragment := f } r` and `resolve B r` are the same term: what is proved of the one is handed over as a
    proof about the other (`chainedWith_eq_rfc_hostless`, `navigateWith_eq_rfc_hostless`). -/
theorem HostlessSim.stands {b : URL} {B : Ref} (hs : HostlessSim b B) (hh : b.host = []) :
    Stands b { B with fragment := some b.fragment } :=
  let ⟨hscheme, hpath, hquery⟩ := hs
  ⟨hscheme, fun h => absurd hh h, hpath, (dropEmpty_optOfStr_eq_iff _ _).1 hquery, rfl⟩

theorem RefOfBase.hostlessSim {b : URL} {B : Ref} (h : RefOfBase b B) : HostlessSim b B :=
  let ⟨hscheme, hpath, hquery⟩ := h
  ⟨hscheme.symm, hpath.symm, by rw [hquery]⟩

theorem Stands.hostlessSim {n : URL} {T : Ref} (h : Stands n T) : HostlessSim n T :=
  ⟨h.scheme, h.path, (dropEmpty_optOfStr_eq_iff _ _).2 h.query⟩

theorem URL.stands_refWith (u : URL) (a : Option Str) (ha : u.host ≠ [] → a = some u.authorityText) :
    Stands u (u.refWith a) :=
  ⟨rfl, ha, rfl, (optOfStr_getD _).symm, (optOfStr_getD _).symm⟩

theorem Stands.refWith_canon {u : URL} {T : Ref} (h : Stands u T) : (u.refWith T.authority).canon = T.canon := by
  simp only [URL.refWith, Ref.canon, Ref.mk.injEq, dropEmpty_optOfStr_eq_iff]
  exact ⟨h.scheme, trivial, h.path, h.query, h.fragment⟩

theorem Rooted.stands_iff {u : URL} {segs : List Str} {T : Ref} (h : Rooted u segs) (hh : u.host ≠ []) :
    Stands u T ↔ u.toRef.canon = T.canon := by
  rw [toRef_rooted u segs hh h.parts]
  simp only [URL.refWith, Ref.canon, Ref.mk.injEq, dropEmpty_optOfStr_eq_iff]
  exact ⟨fun s => ⟨s.scheme, (s.authority hh).symm, s.path, s.query, s.fragment⟩,
    fun ⟨hs, ha, hp, hq, hf⟩ => ⟨hs, fun _ => ha.symm, hp, hq, hf⟩⟩

theorem Rooted.stands_toRef {u : URL} {segs : List Str} (h : Rooted u segs) (hh : u.host ≠ []) : Stands u u.toRef :=
  (h.stands_iff hh).2 rfl

theorem Stands.target_path {b : URL} {segs : List Str} {B : Ref} (hB : Stands b B) (hb : Rooted b segs) (r : Ref)
    (hr : RelRef r) :
    (resolve B r).path = if r.path = [] then flat segs else removeDotSegments (flat (relSegs segs r)) :=
  -- 5.2.3 roots the merged path of an empty base path only under a defined authority
  rfc_path_rel B segs r hr (hb.hostOrPath.imp_left fun hh => by rw [hB.authority hh]; rfl)
    (hB.path.symm.trans (pathText_rooted hb.parts)) hb.noSlash

/-- the path `navigate` produces is the path of the normalised RFC target (RFC 3986 6.2.2.3): for an empty reference
    path the RFC hands the base path on as it is, the code normalises it -/
theorem Stands.relResult_path {b : URL} {segs : List Str} {B : Ref} (hB : Stands b B) (hb : Rooted b segs)
    (honour : Bool) (r : Ref) (hr : RelRef r) :
    (relResult honour b r).pathText = removeDotSegments (resolve B r).path := by
  have hns := relSegs_noSlash segs r hb.noSlash
  rw [pathText_rooted (hb.closed honour r).parts, ← removeDotSegments_flat _ hns, hB.target_path hb r hr]
  by_cases h1 : r.path = []
  · simp only [relSegs, h1, if_true]
  · rw [if_neg h1, removeDotSegments_flat_idem _ hns]

theorem Stands.target_normal {b : URL} {segs : List Str} {B : Ref} (hB : Stands b B) (hb : Rooted b segs) (r : Ref)
    (hr : RelRef r) (hdf : r.path ≠ [] ∨ DotFree b.parts) : (resolve B r).normalized = resolve B r := by
  have : removeDotSegments (resolve B r).path = (resolve B r).path := by
    rw [hB.target_path hb r hr]
    by_cases h1 : r.path = []
    · rw [if_pos h1, removeDotSegments_flat segs hb.noSlash,
        process_of_dotFree segs ((dotFree_root segs).1 (hb.parts ▸ hdf.resolve_left (fun h => h h1)))]
    · rw [if_neg h1, removeDotSegments_flat_idem _ (relSegs_noSlash segs r hb.noSlash)]
  unfold Ref.normalized
  rw [this]

/-- which query `navigate` and RFC 5.2.2 take: both the base's, both the reference's, or - unrepaired code only, a
    path-less reference whose present query holds no parameter (`?`, `?&`) - the code the base's and the RFC the
    reference's -/
theorem relQuery_cases (honour : Bool) (b : URL) (base r : Ref) (hr : RelRef r) :
    (relQuery honour b r = b.query ∧ (resolve base r).query = base.query) ∨
    (relQuery honour b r = parseQsl (r.query.getD []) ∧ (resolve base r).query = r.query) ∨
    (honour = false ∧ r.path = [] ∧ r.query.isSome = true ∧ parseQsl (r.query.getD []) = [] ∧
      relQuery honour b r = b.query ∧ (resolve base r).query = r.query) := by
  rw [resolve_rel base r hr]
  unfold relQuery
  by_cases h1 : r.path = []
  · cases hrq : r.query with
    | none => simp [h1]
    | some q => by_cases hp : parseQsl q = [] <;> cases honour <;> simp [h1, hp]
  · simp [h1]

/-- `hq`: the repaired code, or a reference outside the region where the unrepaired code keeps the base query (empty
    path, present-but-empty query, base with a query) -/
theorem relQuery_eq_rfc (honour : Bool) (b : URL) (base r : Ref) (hr : RelRef r)
    (hbq : queryText b.query = base.query.getD []) (hcq : CanonQ r.query)
    (hq : honour = true ∨ ¬ (r.path = [] ∧ r.query = some [] ∧ queryText b.query ≠ [])) :
    queryText (relQuery honour b r) = (resolve base r).query.getD [] := by
  rcases relQuery_cases honour b base r hr with ⟨e1, e2⟩ | ⟨e1, e2⟩ | ⟨hh, h1, hs, hp, e1, e2⟩ <;> rw [e1, e2]
  · exact hbq
  · exact hcq.roundtrip
  · -- a canonical query text without parameters is the empty one
    obtain ⟨q, hrq⟩ := Option.isSome_iff_exists.1 hs
    rw [hrq] at hcq hp ⊢
    obtain rfl := (parseQsl_eq_nil_iff q hcq).1 hp
    exact Decidable.byContradiction fun hb => (hq.resolve_left (by simp [hh])) ⟨h1, hrq, hb⟩

theorem Stands.navigate {b : URL} {segs : List Str} {B : Ref} (hB : Stands b B) (hb : Rooted b segs)
    (honour : Bool) (r : Ref) (hr : RelRef r) (hcq : CanonQ r.query)
    (hq : honour = true ∨ ¬ (r.path = [] ∧ r.query = some [] ∧ queryText b.query ≠ [])) :
    Stands (URL.navigateWith honour b (URL.ofRelRef r)) (resolve B r).normalized := by
  have hpath := hB.relResult_path hb honour r hr
  have hquery := relQuery_eq_rfc honour b B r hr hB.query hcq hq
  rw [hb.navigate_eq]
  -- with the target a structure literal the fields of its `.normalized` reduce, to the right sides of `hpath` and `hquery` too
  rw [resolve_rel B r hr] at hpath hquery ⊢
  exact ⟨hB.scheme, hB.authority, hpath, hquery, rfl⟩

theorem Stands.navigate_toRef {b : URL} {segs : List Str} {B : Ref} (hB : Stands b B) (hb : Rooted b segs)
    (hh : b.host ≠ []) (honour : Bool) (r : Ref) (hr : RelRef r) (hcq : CanonQ r.query)
    (hq : honour = true ∨ ¬ (r.path = [] ∧ r.query = some [] ∧ queryText b.query ≠ [])) :
    (URL.navigateWith honour b (URL.ofRelRef r)).toRef.canon = (resolve B r).normalized.canon := by
  have hs := hB.navigate hb honour r hr hcq hq
  rw [hb.navigate_eq] at hs ⊢
  exact ((hb.closed honour r).stands_iff hh).1 hs

theorem resolveAll_authority (B : Ref) (rs : List Ref) (h : ∀ r ∈ rs, RelRef r) :
    (resolveAll B rs).authority = B.authority := by
  induction rs generalizing B with
  | nil => rfl
  | cons r rest ih =>
    exact (ih (resolve B r) fun r' hr' => h r' (List.mem_cons_of_mem _ hr')).trans
      (by rw [resolve_rel B r (h r List.mem_cons_self)])

theorem Stands.navigateAll (honour : Bool) (rs : List Ref) : ∀ {b : URL} {segs : List Str} {B : Ref},
    Stands b B → Rooted b segs → DotFree b.parts →
    (∀ r ∈ rs, RelRef r ∧ (honour = true ∨ r.query ≠ some []) ∧ CanonQ r.query) →
    (∃ segs', Rooted (URL.navigateAllWith honour b (rs.map URL.ofRelRef)) segs') ∧
      (URL.navigateAllWith honour b (rs.map URL.ofRelRef)).host = b.host ∧
      Stands (URL.navigateAllWith honour b (rs.map URL.ofRelRef)) (resolveAll B rs) := by
  induction rs with
  | nil => intro b segs B hB hb _ _; exact ⟨⟨segs, hb⟩, rfl, hB⟩
  | cons r rest ih =>
    intro b segs B hB hb hd hrs
    obtain ⟨hrel, hq, hcq⟩ := hrs r List.mem_cons_self
    have step := hB.navigate hb honour r hrel hcq (hq.imp_right fun hne h => hne h.2.1)
    rw [hB.target_normal hb r hrel (Or.inr hd)] at step
    have hn := hb.navigate_eq honour r
    obtain ⟨hrooted, hhost, hstands⟩ := ih step (hn ▸ hb.closed honour r) (hn ▸ resolvePathParts_dotFree _)
      (fun r' hr' => hrs r' (List.mem_cons_of_mem _ hr'))
    exact ⟨hrooted, hhost.trans (by rw [hn]; rfl), hstands⟩

theorem cutAt_hash (t : Str) :
    (cutAt '#' t).1 = t.takeWhile (notIn ['#']) ∧
    (cutAt '#' t).2 = parseFragmentPart (t.dropWhile (notIn ['#'])) := by
  induction t with
  | nil => simp [cutAt, parseFragmentPart]
  | cons x xs ih =>
    by_cases h : x = '#'
    · subst h; simp [cutAt, notIn, parseFragmentPart]
    · have hn : notIn ['#'] x = true := by simp [notIn, h]
      simp [cutAt, h, hn, ih.1, ih.2]

theorem pathQueryFragment_eq_cutAt (t : Str) :
    t.takeWhile (notIn ['?', '#']) = (cutAt '?' (cutAt '#' t).1).1 ∧
    (parseQueryPart (t.dropWhile (notIn ['?', '#']))).1 = (cutAt '?' (cutAt '#' t).1).2 ∧
    parseFragmentPart (parseQueryPart (t.dropWhile (notIn ['?', '#']))).2 = (cutAt '#' t).2 := by
  induction t with
  | nil => simp [cutAt, parseQueryPart, parseFragmentPart]
  | cons x xs ih =>
    by_cases h1 : x = '#'
    · subst h1; simp [cutAt, notIn, parseQueryPart, parseFragmentPart]
    · by_cases h2 : x = '?'
      · subst h2
        obtain ⟨hpre, hfrag⟩ := cutAt_hash xs
        simp [cutAt, notIn, parseQueryPart, hpre, hfrag]
      · have hn : notIn ['?', '#'] x = true := by simp [notIn, h1, h2]
        simp [cutAt, h1, h2, hn, ih.1, ih.2.1, ih.2.2]

theorem parseScheme_none (t : Str) (h : (parseScheme t).1 = none) : (parseScheme t).2 = t := by
  unfold parseScheme at h ⊢
  simp only at h ⊢
  split at h
  · by_cases hp : List.takeWhile (notIn [':', '/', '?', '#']) t ≠ []
    · simp [hp] at h
    · simp [hp]
  · rfl

theorem parseAuthority_none (t : Str) (h : (parseAuthority t).1 = none) : (parseAuthority t).2 = t := by
  unfold parseAuthority at h ⊢
  split at h <;> simp_all

theorem rfcParse_rel (t : Str) (hs : (rfcParse t).scheme = none) (ha : (rfcParse t).authority = none) :
    rfcParse t = refOfText t := by
  have h1 : (parseScheme t).1 = none := hs
  have e1 := parseScheme_none t h1
  have h2 : (parseAuthority (parseScheme t).2).1 = none := ha
  have e2 := parseAuthority_none _ h2
  obtain ⟨hpath, hquery, hfragment⟩ := pathQueryFragment_eq_cutAt t
  unfold rfcParse refOfText
  simp only [Ref.mk.injEq]
  rw [e1] at h2 e2
  refine ⟨h1, ?_, ?_, ?_, ?_⟩
  · rw [e1]; exact h2
  · rw [e1, e2]; exact hpath
  · rw [e1, e2]; exact hquery
  · rw [e1, e2]; exact hfragment

theorem ofText_eq_ofRelRef (t : Str) (ht : RelText t) : URL.ofText t = URL.ofRelRef (rfcParse t) := by
  rw [URL.ofText, rfcParse_rel t ht.1 ht.2]

theorem recompose_refOfText (t : Str) : recompose (refOfText t) = t := by
  unfold recompose refOfText
  simp only [List.nil_append]
  have h1 := cutAt_join '#' t
  have h2 := cutAt_join '?' (cutAt '#' t).1
  rw [List.append_assoc]
  conv => rhs; rw [← h1, ← h2]
  cases (cutAt '?' (cutAt '#' t).1).2 <;> cases (cutAt '#' t).2 <;> simp

end C07
