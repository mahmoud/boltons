import BoltonsVerif.C07.Proofs
import BoltonsVerif.C07.NavTie
/-
C07 — property theorems: `URL.navigate` = RFC 3986 section 5.2, normalised result.

A result is compared with the RFC target through `URL.toRef` (the five components `to_text()` prints,
`toText_eq_recompose`) up to `Ref.canon`, which forgets the difference between an absent and a present-but-empty query /
fragment (a `URL` object cannot represent it).  Paths, schemes and authorities are compared exactly: the statement's
"an empty path under an authority is the same as '/'" is not needed.

The `example`s first write the character lists of their string literals out (`String.reduceToList`): the kernel is slow
to evaluate `"…".toList` (a `String` is a UTF-8 byte array).
-/
namespace C07

theorem toText_eq_recompose (u : URL) : u.toText = recompose u.toRef := by
  unfold URL.toText recompose URL.toRef optOfStr
  simp only []
  -- both sides are a concatenation of five pieces: scheme, authority, path, query, fragment
  congr 1
  congr 1
  congr 1
  congr 1
  · by_cases h : u.scheme = [] <;> simp [h]
  · by_cases h : u.authorityText = []
    · simp only [h, ne_eq, not_true_eq_false, if_false]
      split <;> rfl
    · simp [h]
  · by_cases h : u.pathText = []
    · simp [h]
    · simp only [h, ne_eq, not_false_eq_true, if_true, true_and]
      split <;> rfl
  · by_cases h : queryText u.query = [] <;> simp [h]
  · by_cases h : u.fragment = [] <;> simp [h]

/-- `path_parts` and the path text determine each other (`split('/')` / `'/'.join`): the model's
    `URL.ofRelRef` (which splits) and `toRef` (which joins) read the same path -/
theorem path_text_roundtrip (p : Str) (segs : List Str) (hne : segs ≠ []) (h : ∀ s ∈ segs, NoSlash s) :
    joinSlash (splitSlash p) = p ∧ splitSlash (joinSlash segs) = segs ∧ (∀ s ∈ splitSlash p, NoSlash s) :=
  ⟨joinSlash_splitSlash p, splitSlash_joinSlash segs hne h, splitSlash_noSlash p⟩

example : ["".toList, "a".toList, "".toList, "b;p".toList] ≠ [] ∧
    ∀ s ∈ ["".toList, "a".toList, "".toList, "b;p".toList], NoSlash s := by
  simp only [String.reduceToList]; decide

/-- RFC 5.2.4 vs the code's segment stack: on the text of a rooted list of slash-free segments the RFC's input/output-buffer
    algorithm gives the text of `resolve_path_parts` of the list -/
theorem resolve_rooted_eq_rfc (segs : List Str) (h : ∀ s ∈ segs, NoSlash s) :
    removeDotSegments (joinSlash ([] :: segs)) = joinSlash (resolvePathParts ([] :: segs)) := by
  rw [joinSlash_root, resolvePathParts_root, joinSlash_root, removeDotSegments_flat segs h]

example : removeDotSegments "/a/b/../../../g/./h/..".toList = "/g/".toList := by
  simp only [String.reduceToList]; decide +kernel
example : joinSlash (resolvePathParts (splitSlash "/a/b/../../../g/./h/..".toList)) = "/g/".toList := by
  simp only [String.reduceToList]; decide +kernel

/-- each of the rules 2A–2E shortens the input buffer, so `removeDotSegments` (fuel `length + 1`) is the RFC's unbounded
    `while` loop -/
theorem rds_fuel_irrelevant (inp out : Str) (n m : Nat) (hn : inp.length ≤ n) (hm : inp.length ≤ m) :
    rds n inp out = rds m inp out := by
  induction n generalizing inp out m with
  | zero => rw [List.eq_nil_of_length_eq_zero (Nat.le_zero.1 hn), rds_nil, rds_nil]
  | succ n ih =>
    cases inp with
    | nil => rw [rds_nil, rds_nil]
    | cons c cs =>
      obtain ⟨m, rfl⟩ : ∃ m', m = m' + 1 := ⟨m - 1, by simp at hm; omega⟩
      obtain ⟨inp', out', hlt, hstep⟩ := rdsStep_shorter (c :: cs) out (by simp)
      rw [rds_succ n _ out (by simp), rds_succ m _ out (by simp), hstep, hstep]
      exact ih inp' out' m (by omega) (by omega)

theorem rds_unroll (k : Nat) (inp out : Str) (h : inp ≠ []) : rds (k+1) inp out = rdsStep k inp out :=
  rds_succ k inp out h

/-- **navigate = the normalised RFC 5.2 target** (5.2.2, then 5.2.4 on its path as RFC 3986 6.2.2.3 allows) for a reference
    without scheme and authority (`r.path`, `r.query`, `r.fragment` arbitrary texts: path-absolute, path-relative with any
    mix of '.', '..' and empty segments, query-only, fragment-only, empty) against any base with a host, dot segments in
    its path included, for BOTH versions of the code (`honour`: see `URL.navigateWith`).
    `hcq`: the reference's query text is one that `parse_qsl`/`to_text` reproduce (`query_text_roundtrip`); the base's
    `query_params` are arbitrary.
    `hq`: the code has the repair, or the reference is outside the region "empty path, present-but-empty query, base
    has a query" (`?`, `?#s`), where the unrepaired code keeps the base query. -/
theorem navigateWith_eq_normalized_rfc (honour : Bool) (b : URL) (r : Ref) (hb : AbsBase b) (hr : RelRef r)
    (hcq : CanonQ r.query)
    (hq : honour = true ∨ ¬ (r.path = [] ∧ r.query = some [] ∧ queryText b.query ≠ [])) :
    (URL.navigateWith honour b (URL.ofRelRef r)).toRef.canon = (resolve b.toRef r).normalized.canon :=
  let ⟨_, h⟩ := hb.toRooted
  (h.stands_toRef hb.host_ne).navigate_toRef h hb.host_ne honour r hr hcq hq

/-- RFC 3986 5.2.4 is idempotent on what 5.2.2 produces, unless 5.2.2 hands on a base path with dot segments -/
theorem resolve_target_path_normal (b : URL) (r : Ref) (hb : AbsBase b) (hr : RelRef r)
    (hdf : r.path ≠ [] ∨ DotFree b.parts) :
    (resolve b.toRef r).normalized = resolve b.toRef r :=
  let ⟨_, h⟩ := hb.toRooted
  (h.stands_toRef hb.host_ne).target_normal h r hr hdf

/-- **navigate = RFC 5.2**, the target as 5.2.2 gives it.  `hdf`: for an empty reference path the RFC keeps the base path
    verbatim while the code normalises it, so the base path must then be dot-free (the statement demands a dot-free
    result). -/
theorem navigateWith_eq_rfc (honour : Bool) (b : URL) (r : Ref) (hb : AbsBase b) (hr : RelRef r)
    (hdf : r.path ≠ [] ∨ DotFree b.parts) (hcq : CanonQ r.query)
    (hq : honour = true ∨ ¬ (r.path = [] ∧ r.query = some [] ∧ queryText b.query ≠ [])) :
    (URL.navigateWith honour b (URL.ofRelRef r)).toRef.canon = (resolve b.toRef r).canon := by
  rw [← resolve_target_path_normal b r hb hr hdf]
  exact navigateWith_eq_normalized_rfc honour b r hb hr hcq hq

/-- The source under test HAS the repair of known finding C07-empty-query: the flag is regenerated on every run by
    evaluating `URL.navigate` of the tree under test on the finding's probes (`C07.Gen.navHonoursEmptyQuery`), and
    this `rfl`, and with it `navigate_eq_rfc`, `chained_eq_rfc` and `navigate_text_eq_rfc`, stops checking as soon as an edit
    loses the repair.  The unrepaired version
    of the model (`URL.navigateWith false`) is kept as a REGRESSION DETECTOR only: after such an edit model and code
    still agree (the correspondence stays in step) and the oracle reports the `?` input. -/
theorem navigate_is_repaired : C07.Gen.navHonoursEmptyQuery = true := rfl

/-- **the full statement about `URL.navigate` of the code under test** -/
theorem navigate_eq_rfc (b : URL) (r : Ref) (hb : AbsBase b) (hr : RelRef r)
    (hdf : r.path ≠ [] ∨ DotFree b.parts) (hcq : CanonQ r.query) :
    (b.navigate (URL.ofRelRef r)).toRef.canon = (resolve b.toRef r).canon :=
  navigateWith_eq_rfc _ b r hb hr hdf hcq (Or.inl navigate_is_repaired)

/-- a base and a reference satisfying the hypotheses, with dots, empty segments, query and fragment -/
def exBase : URL := URL.ofComponents (some "http".toList) true "u".toList [] "a".toList false 81
  "/b/c/d;p".toList (some "q".toList) none
def exRef : Ref := ⟨none, none, ".././/g/.".toList, some "y".toList, some [] ⟩

example : AbsBase exBase ∧ RelRef exRef ∧ (exRef.path ≠ [] ∨ DotFree exBase.parts) ∧ CanonQ exRef.query ∧
    ¬ (exRef.path = [] ∧ exRef.query = some [] ∧ queryText exBase.query ≠ []) := by
  simp only [exBase, exRef, String.reduceToList]
  exact ⟨.of_head (by decide), ⟨rfl, rfl⟩, Or.inl (by decide), by decide, by decide⟩

/-- a base whose query repeats a key, and path-less / query-carrying references with repeated keys -/
def exBaseMulti : URL := URL.ofComponents (some "http".toList) true [] [] "a".toList false 0
  "/b/c".toList (some "tag=x&page=2&tag=y".toList) (some "top".toList)
def exRefFrag : Ref := ⟨none, none, [], none, some "sec".toList⟩
def exRefMulti : Ref := ⟨none, none, "../g".toList, some "k=&j=0&k&k=2".toList, none⟩

example : AbsBase exBaseMulti ∧ CanonQ exRefFrag.query ∧ CanonQ exRefMulti.query ∧ DotFree exBaseMulti.parts := by
  simp only [exBaseMulti, exRefFrag, exRefMulti, String.reduceToList]
  exact ⟨.of_head (by decide), by decide, by decide, by decide⟩
example : (exBaseMulti.navigate (URL.ofRelRef exRefFrag)).toText = "http://a/b/c?tag=x&page=2&tag=y#sec".toList := by
  simp only [exBaseMulti, exRefFrag, String.reduceToList]; decide +kernel
example : (exBaseMulti.navigate (URL.ofRelRef exRefMulti)).toText = "http://a/g?k=&j=0&k&k=2".toList := by
  simp only [exBaseMulti, exRefMulti, String.reduceToList]; decide +kernel

example : recompose (resolve exBase.toRef exRef) = "http://u@a:81/b//g/?y#".toList := by
  simp only [exBase, exRef, String.reduceToList]; decide +kernel

/-- a base with dot segments in its path and an empty / fragment-only / query-only reference -/
def exBaseDots : URL := URL.ofComponents (some "http".toList) true [] [] "a".toList false 0
  "/b/../c/./d".toList (some "q".toList) none
example : AbsBase exBaseDots ∧ ¬ DotFree exBaseDots.parts ∧ RelRef exRefFrag ∧ CanonQ exRefFrag.query := by
  simp only [exBaseDots, exRefFrag, String.reduceToList]
  exact ⟨.of_head (by decide), by decide, by decide, by decide⟩
example : (URL.navigateWith true exBaseDots (URL.ofRelRef exRefFrag)).toText = "http://a/c/d?q#sec".toList := by
  simp only [exBaseDots, exRefFrag, String.reduceToList]; decide +kernel

/-- the repaired code (`if not query_params and dest._query is None`): no restriction on the reference's query marker,
    `?` and `?#s` replace the base query -/
theorem navigate_eq_rfc_repaired (b : URL) (r : Ref) (hb : AbsBase b) (hr : RelRef r)
    (hdf : r.path ≠ [] ∨ DotFree b.parts) (hcq : CanonQ r.query) :
    (URL.navigateWith true b (URL.ofRelRef r)).toRef.canon = (resolve b.toRef r).canon :=
  navigateWith_eq_rfc true b r hb hr hdf hcq (Or.inl rfl)

/-- ... which is the statement about `URL.navigate` (the version the source under test implements, flag
    regenerated on every run) as soon as that source has the repair -/
theorem navigate_eq_rfc_of_repair (hfix : C07.Gen.navHonoursEmptyQuery = true) (b : URL) (r : Ref)
    (hb : AbsBase b) (hr : RelRef r) (hdf : r.path ≠ [] ∨ DotFree b.parts) (hcq : CanonQ r.query) :
    (b.navigate (URL.ofRelRef r)).toRef.canon = (resolve b.toRef r).canon :=
  navigateWith_eq_rfc _ b r hb hr hdf hcq (Or.inl hfix)

/-- holds for the code under test whichever version it is.  The same without `hq` is false for the unrepaired code
    (`navigate_empty_query_defect`, known finding C07-empty-query) and true for the repaired one
    (`navigate_eq_rfc_repaired`). -/
theorem navigate_eq_rfc_partial (b : URL) (r : Ref) (hb : AbsBase b) (hr : RelRef r)
    (hdf : r.path ≠ [] ∨ DotFree b.parts) (hcq : CanonQ r.query)
    (hq : ¬ (r.path = [] ∧ r.query = some [] ∧ queryText b.query ≠ [])) :
    (b.navigate (URL.ofRelRef r)).toRef.canon = (resolve b.toRef r).canon :=
  navigateWith_eq_rfc _ b r hb hr hdf hcq (Or.inr hq)

theorem navigate_eq_rfc_of_base_without_query (b : URL) (r : Ref) (hb : AbsBase b) (hr : RelRef r)
    (hdf : r.path ≠ [] ∨ DotFree b.parts) (hcq : CanonQ r.query) (hbq : b.query = []) :
    (b.navigate (URL.ofRelRef r)).toRef.canon = (resolve b.toRef r).canon :=
  navigate_eq_rfc_partial b r hb hr hdf hcq (fun h => h.2.2 (by rw [hbq]; rfl))

theorem navigate_eq_rfc_of_ref_with_path (b : URL) (r : Ref) (hb : AbsBase b) (hr : RelRef r)
    (hp : r.path ≠ []) (hcq : CanonQ r.query) :
    (b.navigate (URL.ofRelRef r)).toRef.canon = (resolve b.toRef r).canon :=
  navigate_eq_rfc_partial b r hb hr (Or.inl hp) hcq (fun h => hp h.1)

/-- text-level reading: the rendering of the result and the recomposed RFC target are recompositions
    of components that agree up to empty query / fragment markers -/
theorem navigate_renders_rfc_target_partial (b : URL) (r : Ref) (hb : AbsBase b) (hr : RelRef r)
    (hdf : r.path ≠ [] ∨ DotFree b.parts) (hcq : CanonQ r.query)
    (hq : ¬ (r.path = [] ∧ r.query = some [] ∧ queryText b.query ≠ [])) :
    ∃ X Y : Ref, (b.navigate (URL.ofRelRef r)).toText = recompose X ∧
      recompose (resolve b.toRef r) = recompose Y ∧ X.canon = Y.canon :=
  ⟨_, _, toText_eq_recompose _, rfl, navigate_eq_rfc_partial b r hb hr hdf hcq hq⟩

/-- The unrestricted statement is false for the unrepaired code: `URL('http://a/b?q').navigate('?')` keeps `?q`
    (RFC target: `http://a/b?`, i.e. no query parameters). -/
theorem navigate_empty_query_defect :
    ¬ ∀ (b : URL) (r : Ref), AbsBase b → RelRef r → DotFree b.parts → CanonQ r.query →
      (URL.navigateWith false b (URL.ofRelRef r)).toRef.canon = (resolve b.toRef r).canon := by
  intro h
  let b : URL := URL.ofComponents (some "http".toList) true [] [] "a".toList false 0 "/b".toList
    (some "q".toList) none
  let r : Ref := ⟨none, none, [], some [], none⟩
  have hb : AbsBase b := .of_head (by decide)
  have := h b r hb ⟨rfl, rfl⟩ (by decide) (by decide)
  rw [hb.navigate_eq false r] at this
  have hq := congrArg Ref.query this
  rw [toRef_rooted b _ (by decide) rfl] at hq
  revert hq
  decide

/-- why: `URL('?')` and `URL('')` are the same object — in the excluded region `navigate` does what RFC 5.2
    prescribes for the same reference without its `?` (this is the known finding's trigger predicate) -/
theorem empty_query_parses_as_no_query (r : Ref) :
    { URL.ofRelRef { r with query := some [] } with hasQuery := false } = URL.ofRelRef { r with query := none } := rfl

/-- ... and the unrepaired code never looks at the one bit that differs (any base, any non-replacing reference) -/
theorem unrepaired_ignores_query_marker (b d : URL) (m : Bool) (h : ¬ (d.scheme ≠ [] ∧ d.host ≠ [])) :
    URL.navigateWith false b { d with hasQuery := m } = URL.navigateWith false b d := by
  rw [navigateWith_eq false b d h, navigateWith_eq false b { d with hasQuery := m } h]
  have hq : navQuery false b { d with hasQuery := m } = navQuery false b d := by
    simp [navQuery, URL.pathText]
  rw [hq]
  rfl

example : ¬ ((URL.ofRelRef exRef).scheme ≠ [] ∧ (URL.ofRelRef exRef).host ≠ []) := ofRelRef_not_replacing exRef

theorem query_text_roundtrip (q : Str) (h : CanonQuery q) :
    queryText (parseQsl q) = q ∧ (parseQsl q = [] ↔ q = []) :=
  ⟨queryText_parseQsl q h, parseQsl_eq_nil_iff q h⟩

example : CanonQuery "tag=x&page=2&tag=y".toList ∧ CanonQuery "k=&k&=v".toList ∧ ¬ CanonQuery "a=1;b=2".toList ∧
    ¬ CanonQuery "a=1&&b=2".toList ∧ ¬ CanonQuery "&".toList := by
  simp only [String.reduceToList]; decide +kernel
example : parseQsl "k=&j=0&k&k=2".toList =
    [("k".toList, some []), ("j".toList, some "0".toList), ("k".toList, none), ("k".toList, some "2".toList)] := by
  simp only [String.reduceToList]; decide +kernel
example : queryText (parseQsl ";a=1;;b=2&&a=3&".toList) = "a=1&b=2&a=3".toList := by
  simp only [String.reduceToList]; decide +kernel

/-- `from_parts` hands the items to `update` of the fresh URL's empty `QueryParamDict`: all of them arrive,
    in order (`update` only removes keys the receiver already had) -/
theorem from_parts_keeps_all_items (E : QPairs) : omdUpdate [] E = E := omdUpdate_nil E

example : omdUpdate (parseQsl "a=0&b=1&a=2".toList) (parseQsl "a=7&c=8&a=9".toList) =
    parseQsl "b=1&a=7&c=8&a=9".toList := by
  simp only [String.reduceToList]; decide +kernel

/-- The `query_params` of a navigation result are, item for item (order and repeated keys included), those of
    the reference - or those of the base when the reference has neither a path nor parameters (and, for the
    repaired code, no query component at all).  Any base, any reference that is not a replacing absolute URL. -/
theorem navigate_query_items (honour : Bool) (b dest : URL) (h : ¬ (dest.scheme ≠ [] ∧ dest.host ≠ [])) :
    (URL.navigateWith honour b dest).query =
      if dest.pathText = [] ∧ dest.query = [] ∧ ¬ (honour = true ∧ dest.hasQuery = true) then b.query
      else dest.query := by
  rw [navigateWith_eq honour b dest h]
  show navQuery honour b dest = _
  unfold navQuery
  by_cases hp : dest.pathText = [] <;> simp [hp]

/-- the same for `URL.navigate` of the code under test, for a reference that has parameters, a path, or no
    query component: the two versions agree there -/
theorem navigate_query_items_current (b dest : URL) (h : ¬ (dest.scheme ≠ [] ∧ dest.host ≠ []))
    (hm : dest.hasQuery = false ∨ dest.query ≠ [] ∨ dest.pathText ≠ []) :
    (b.navigate dest).query = if dest.pathText = [] ∧ dest.query = [] then b.query else dest.query := by
  rw [URL.navigate, navigate_query_items _ b dest h]
  rcases hm with hm | hm | hm <;> simp [hm]

example : (URL.ofRelRef exRefFrag).hasQuery = false ∧ (URL.ofRelRef exRefMulti).query ≠ [] := by
  simp only [exRefFrag, exRefMulti, String.reduceToList]; decide +kernel

theorem navigate_absolute_replaces (b dest : URL) (hs : dest.scheme ≠ []) (hh : dest.host ≠ []) :
    b.navigate dest = dest := by
  unfold URL.navigate URL.navigateWith; simp [hs, hh]

/-- a replacing reference is the RFC target (5.2.2, "if defined(R.scheme)") when its own path is rooted and dot-free
    (the code returns such a reference un-normalised) -/
theorem absolute_is_rfc_target (base : Ref) (dest : URL) (segs : List Str) (hs : dest.scheme ≠ [])
    (hh : dest.host ≠ []) (hp : dest.parts = [] :: segs) (hns : ∀ s ∈ segs, NoSlash s)
    (hdf : DotFree segs) : resolve base dest.toRef = dest.toRef := by
  rw [toRef_rooted dest segs hh hp]
  unfold resolve URL.refWith
  have : (optOfStr dest.scheme).isSome := by simp [optOfStr, hs]
  simp only [this, if_true]
  rw [pathText_rooted hp, removeDotSegments_flat segs hns, process_of_dotFree segs hdf]

/-- an absolute reference satisfying the hypotheses: `http://x/p/q` -/
def exAbs : URL := URL.ofComponents (some "http".toList) true [] [] "x".toList false 0 "/p/q".toList none none

example : exAbs.scheme ≠ [] ∧ exAbs.host ≠ [] ∧ exAbs.parts = [] :: ["p".toList, "q".toList] ∧
    (∀ s ∈ ["p".toList, "q".toList], NoSlash s) ∧ DotFree ["p".toList, "q".toList] := by
  simp only [exAbs, String.reduceToList]; decide +kernel

example : exBase.navigate exAbs = exAbs := by
  simp only [exAbs, String.reduceToList]; exact navigate_absolute_replaces _ _ (by decide) (by decide)

theorem resolve_dot_free (parts : List Str) : DotFree (resolvePathParts parts) :=
  resolvePathParts_dotFree parts

theorem result_dot_free (b dest : URL) (h : ¬ (dest.scheme ≠ [] ∧ dest.host ≠ [])) :
    DotFree (b.navigate dest).parts := by
  rw [URL.navigate, navigateWith_eq _ b dest h]
  exact resolvePathParts_dotFree _

example : ¬ ((URL.ofRelRef exRef).scheme ≠ [] ∧ (URL.ofRelRef exRef).host ≠ []) := ofRelRef_not_replacing exRef
example : (exBase.navigate (URL.ofRelRef exRef)).toText = "http://u@a:81/b//g/?y".toList := by
  simp only [exBase, exRef, String.reduceToList]; decide +kernel

theorem resolve_never_above_root (segs : List Str) :
    ∃ out, resolvePathParts ([] :: segs) = [] :: out :=
  ⟨_, resolvePathParts_root segs⟩

theorem process_ne_nil (stack segs : List Str) (h : segs ≠ []) : process stack segs ≠ [] :=
  process_ne_nil_of_ne_nil stack segs h

theorem never_above_root (b : URL) (r : Ref) (hb : AbsBase b) :
    ∃ out, (b.navigate (URL.ofRelRef r)).parts = [] :: out ∧
      (b.navigate (URL.ofRelRef r)).pathText = flat out := by
  obtain ⟨segs, h⟩ := hb.toRooted
  rw [URL.navigate, h.navigate_eq]
  exact ⟨_, (h.closed _ r).parts, pathText_rooted (h.closed _ r).parts⟩

theorem navigate_inherits_authority (b : URL) (r : Ref) (hb : AbsBase b) :
    let n := b.navigate (URL.ofRelRef r)
    n.scheme = b.scheme ∧ n.user = b.user ∧ n.pass = b.pass ∧ n.host = b.host ∧ n.v6 = b.v6 ∧
      n.port = b.port ∧ n.authorityText = b.authorityText := by
  rw [URL.navigate, hb.navigate_eq _ r]
  exact ⟨rfl, rfl, rfl, rfl, rfl, rfl, rfl⟩

theorem navigateWith_closed (honour : Bool) (b : URL) (r : Ref) (hb : AbsBase b) :
    AbsBase (URL.navigateWith honour b (URL.ofRelRef r)) ∧
      DotFree (URL.navigateWith honour b (URL.ofRelRef r)).parts := by
  obtain ⟨segs, h⟩ := hb.toRooted
  rw [h.navigate_eq]
  exact ⟨(h.closed honour r).absBase hb.host_ne, resolvePathParts_dotFree _⟩

theorem navigate_closed (b : URL) (r : Ref) (hb : AbsBase b) :
    AbsBase (b.navigate (URL.ofRelRef r)) ∧ DotFree (b.navigate (URL.ofRelRef r)).parts :=
  navigateWith_closed _ b r hb

theorem resolve_congr (X Y r : Ref) (hr : RelRef r) (h : X.canon = Y.canon) :
    (resolve X r).canon = (resolve Y r).canon := by
  have hs : X.scheme = Y.scheme := (congrArg Ref.scheme h :)
  have ha : X.authority = Y.authority := (congrArg Ref.authority h :)
  have hp : X.path = Y.path := (congrArg Ref.path h :)
  have hq : dropEmpty X.query = dropEmpty Y.query := (congrArg Ref.query h :)
  rw [resolve_rel X r hr, resolve_rel Y r hr]
  simp only [Ref.canon, merge, hs, ha, hp]
  by_cases h1 : r.path = []
  · cases hrq : r.query <;> simp [h1, hq]
  · simp only [h1, if_false]

/-- **chained navigation = resolving step by step** (RFC 5.2 applied to each reference in turn, starting from the base),
    for either version of the code.  For the unrepaired one no reference's query may be present-but-empty (the defect of
    `navigate_empty_query_defect` would enter at that step). -/
theorem chainedWith_eq_rfc (honour : Bool) (rs : List Ref) : ∀ (b : URL) (X : Ref), AbsBase b → DotFree b.parts →
    X.canon = b.toRef.canon →
    (∀ r ∈ rs, RelRef r ∧ (honour = true ∨ r.query ≠ some []) ∧ CanonQ r.query) →
    (URL.navigateAllWith honour b (rs.map URL.ofRelRef)).toRef.canon = (resolveAll X rs).canon := by
  intro b X hb hd hX hrs
  obtain ⟨segs, h⟩ := hb.toRooted
  obtain ⟨⟨_, hn⟩, hh, hs⟩ := ((h.stands_iff hb.host_ne).2 hX.symm).navigateAll honour rs h hd hrs
  exact (hn.stands_iff (hh ▸ hb.host_ne)).1 hs

/-- **chained navigation of the code under test = resolving step by step** -/
theorem chained_eq_rfc (b : URL) (rs : List Ref) (hb : AbsBase b) (hd : DotFree b.parts)
    (hrs : ∀ r ∈ rs, RelRef r ∧ CanonQ r.query) :
    (b.navigateAll (rs.map URL.ofRelRef)).toRef.canon = (resolveAll b.toRef rs).canon :=
  chainedWith_eq_rfc _ rs b b.toRef hb hd rfl (fun r hr => ⟨(hrs r hr).1, Or.inl navigate_is_repaired, (hrs r hr).2⟩)

example : (exBaseMulti.navigateAll ([exRefMulti, ⟨none, none, [], some [], some "s".toList⟩].map URL.ofRelRef)).toText
    = "http://a/g#s".toList := by
  simp only [exBaseMulti, exRefMulti, String.reduceToList]; decide +kernel

/-- the code under test, whichever version: no present-but-empty query in the chain -/
theorem chained_eq_rfc_partial (rs : List Ref) (b : URL) (X : Ref) (hb : AbsBase b) (hd : DotFree b.parts)
    (hX : X.canon = b.toRef.canon) (hrs : ∀ r ∈ rs, RelRef r ∧ r.query ≠ some [] ∧ CanonQ r.query) :
    (b.navigateAll (rs.map URL.ofRelRef)).toRef.canon = (resolveAll X rs).canon :=
  chainedWith_eq_rfc _ rs b X hb hd hX (fun r hr => ⟨(hrs r hr).1, Or.inr (hrs r hr).2.1, (hrs r hr).2.2⟩)

theorem chained_from_base_partial (b : URL) (rs : List Ref) (hb : AbsBase b) (hd : DotFree b.parts)
    (hrs : ∀ r ∈ rs, RelRef r ∧ r.query ≠ some [] ∧ CanonQ r.query) :
    (b.navigateAll (rs.map URL.ofRelRef)).toRef.canon = (resolveAll b.toRef rs).canon :=
  chained_eq_rfc_partial rs b b.toRef hb hd rfl hrs

/-- the repaired code: any references without scheme/authority, `?` included -/
theorem chained_eq_rfc_repaired (b : URL) (rs : List Ref) (hb : AbsBase b) (hd : DotFree b.parts)
    (hrs : ∀ r ∈ rs, RelRef r ∧ CanonQ r.query) :
    (URL.navigateAllWith true b (rs.map URL.ofRelRef)).toRef.canon = (resolveAll b.toRef rs).canon :=
  chainedWith_eq_rfc true rs b b.toRef hb hd rfl (fun r hr => ⟨(hrs r hr).1, Or.inl rfl, (hrs r hr).2⟩)

example : ∀ r ∈ [exRef, ⟨none, none, [], some [], none⟩, exRefMulti, ⟨none, none, [], some [], some "s".toList⟩],
    RelRef r ∧ CanonQ r.query := by
  simp only [exRef, exRefMulti, String.reduceToList]; decide +kernel
example : (URL.navigateAllWith true exBaseMulti ([⟨none, none, [], some [], some "s".toList⟩].map URL.ofRelRef)).toText
    = "http://a/b/c#s".toList := by
  simp only [exBaseMulti, String.reduceToList]; decide +kernel
example : (URL.navigateAllWith false exBaseMulti ([⟨none, none, [], some [], some "s".toList⟩].map URL.ofRelRef)).toText
    = "http://a/b/c?tag=x&page=2&tag=y#s".toList := by
  simp only [exBaseMulti, String.reduceToList]; decide +kernel

example : DotFree exBase.parts ∧ (∀ r ∈ [exRef, ⟨none, none, "..//x".toList, none, none⟩, exRefMulti, exRefFrag],
    RelRef r ∧ r.query ≠ some [] ∧ CanonQ r.query) := by
  simp only [exBase, exRef, exRefMulti, exRefFrag, String.reduceToList]; decide +kernel

/-- **the query PARAMETERS of the result are the parameters of the RFC target's query, for ANY query texts** (`;`
    separators, empty pairs, pairs without `=` ... - no `CanonQ`).  `bq` is the query text the base was parsed from (or
    `none`); not `b.toRef.query`, which is the re-printed query.  For the unrepaired code the reference must not be a
    path-less one whose present query holds no parameter (`?`, `?&`, `?;`) against a base with parameters. -/
theorem navigateWith_params_eq_rfc (honour : Bool) (b : URL) (bq : Option Str) (r : Ref) (hb : AbsBase b)
    (hr : RelRef r) (hbq : b.query = parseQsl (bq.getD []))
    (hq : honour = true ∨
      ¬ (r.path = [] ∧ r.query.isSome = true ∧ parseQsl (r.query.getD []) = [] ∧ b.query ≠ [])) :
    (URL.navigateWith honour b (URL.ofRelRef r)).query
      = parseQsl ((resolve { b.toRef with query := bq } r).query.getD []) := by
  rw [hb.navigate_eq honour r, relResult_query]
  rcases relQuery_cases honour b { b.toRef with query := bq } r hr with
    ⟨e1, e2⟩ | ⟨e1, e2⟩ | ⟨hh, h1, hs, hp, e1, e2⟩
  · rw [e1, e2]
    exact hbq
  · rw [e1, e2]
  · rw [e1, e2, hp]
    exact Decidable.byContradiction fun hbe => (hq.resolve_left (by simp [hh])) ⟨h1, hs, hp, hbe⟩

/-- a base parsed from `?a=1;b=2&&c` and references with `;`, empty pairs and a bare `?` -/
def exBaseSemi : URL := URL.ofComponents (some "http".toList) true [] [] "a".toList false 0
  "/b".toList (some "a=1;b=2&&c".toList) none
example : AbsBase exBaseSemi ∧ exBaseSemi.query = parseQsl ((some "a=1;b=2&&c".toList).getD []) := by
  refine ⟨?_, rfl⟩
  simp only [exBaseSemi, String.reduceToList]
  exact .of_head (by decide)
example : (URL.navigateWith true exBaseSemi (URL.ofRelRef ⟨none, none, "x".toList, some "&k;;j=&".toList, none⟩)).query
    = [("k".toList, none), ("j".toList, some [])] := by
  simp only [exBaseSemi, String.reduceToList]; decide +kernel
example : (URL.navigateWith true exBaseSemi (URL.ofRelRef ⟨none, none, [], some ";".toList, none⟩)).query = [] ∧
    (URL.navigateWith false exBaseSemi (URL.ofRelRef ⟨none, none, [], some ";".toList, none⟩)).query
      = exBaseSemi.query := by
  simp only [exBaseSemi, String.reduceToList]; decide +kernel

/-- for a text without scheme and authority the Appendix B components are the ones `URL(text)` finds in the model
    (`refOfText`), and they recompose to the text -/
theorem ref_text_parse (t : Str) (h : RelText t) :
    rfcParse t = refOfText t ∧ recompose (rfcParse t) = t ∧ RelRef (rfcParse t) := by
  have e := rfcParse_rel t h.1 h.2
  exact ⟨e, by rw [e]; exact recompose_refOfText t, h⟩

example : RelText "../g;x=1/./y?k=1&k#frag?x".toList ∧ ¬ RelText "g:h".toList ∧ ¬ RelText "//g".toList ∧
    RelText "./g:h".toList ∧ RelText "?#".toList ∧ RelText [] := by
  simp only [String.reduceToList]; decide +kernel
example : rfcParse "http://u@h:1/p?q#f".toList =
    ⟨some "http".toList, some "u@h:1".toList, "/p".toList, some "q".toList, some "f".toList⟩ := by
  simp only [String.reduceToList]; decide +kernel

/-- **navigate(text) = RFC 5.2 on the text's Appendix B components**, the code under test, every reference text without
    scheme and authority -/
theorem navigate_text_eq_rfc (b : URL) (t : Str) (hb : AbsBase b) (ht : RelText t)
    (hdf : (rfcParse t).path ≠ [] ∨ DotFree b.parts) (hcq : CanonQ (rfcParse t).query) :
    (b.navigate (URL.ofText t)).toRef.canon = (resolve b.toRef (rfcParse t)).canon := by
  rw [ofText_eq_ofRelRef t ht]
  exact navigate_eq_rfc b (rfcParse t) hb ht hdf hcq

example : (exBaseMulti.navigate (URL.ofText "?".toList)).toText = "http://a/b/c".toList := by
  simp only [exBaseMulti, String.reduceToList]; decide +kernel

/-- the repaired version of the model, whatever the code under test -/
theorem navigate_text_eq_rfc_repaired (b : URL) (t : Str) (hb : AbsBase b) (ht : RelText t)
    (hdf : (rfcParse t).path ≠ [] ∨ DotFree b.parts) (hcq : CanonQ (rfcParse t).query) :
    (URL.navigateWith true b (URL.ofText t)).toRef.canon = (resolve b.toRef (rfcParse t)).canon := by
  rw [ofText_eq_ofRelRef t ht]
  exact navigate_eq_rfc_repaired b (rfcParse t) hb ht hdf hcq

/-- ... and for the code under test whichever version it is, outside the `?`-region -/
theorem navigate_text_eq_rfc_partial (b : URL) (t : Str) (hb : AbsBase b) (ht : RelText t)
    (hdf : (rfcParse t).path ≠ [] ∨ DotFree b.parts) (hcq : CanonQ (rfcParse t).query)
    (hq : ¬ ((rfcParse t).path = [] ∧ (rfcParse t).query = some [] ∧ queryText b.query ≠ [])) :
    (b.navigate (URL.ofText t)).toRef.canon = (resolve b.toRef (rfcParse t)).canon := by
  rw [ofText_eq_ofRelRef t ht]
  exact navigate_eq_rfc_partial b (rfcParse t) hb ht hdf hcq hq

example : RelText ".././/g/.?y#".toList ∧ CanonQ (rfcParse ".././/g/.?y#".toList).query ∧
    (rfcParse ".././/g/.?y#".toList).path ≠ [] := by
  simp only [String.reduceToList]; decide +kernel
example : (URL.navigateWith true exBase (URL.ofText ".././/g/.?y#".toList)).toText = "http://u@a:81/b//g/?y".toList := by
  simp only [exBase, String.reduceToList]; decide +kernel
example : (URL.navigateWith true exBaseMulti (URL.ofText "?".toList)).toText = "http://a/b/c".toList ∧
    (URL.navigateWith false exBaseMulti (URL.ofText "?".toList)).toText = "http://a/b/c?tag=x&page=2&tag=y".toList := by
  simp only [exBaseMulti, String.reduceToList]; decide +kernel

theorem lower_eq_nil (s : Str) : lower s = [] ↔ s = [] := by simp [lower]

/-- the case of the base's scheme and host does not matter (RFC 3986 6.2.2.1) -/
theorem navigate_base_case (honour : Bool) (b dest : URL) (hs : dest.scheme = []) (hh : dest.host = []) :
    URL.navigateWith honour b dest = URL.navigateWith honour b.lowerCase dest := by
  have hn : ¬ (dest.scheme ≠ [] ∧ dest.host ≠ []) := fun h => h.1 hs
  rw [navigateWith_eq honour b dest hn, navigateWith_eq honour b.lowerCase dest hn]
  have hp : navParts b.lowerCase dest = navParts b dest := by
    simp only [navParts, URL.lowerCase, ne_eq, lower_eq_nil]
  rw [hp, hs, hh]
  show ({ scheme := lower b.scheme, host := lower b.host, .. } : URL)
    = { scheme := lower (lower b.scheme), host := lower (lower b.host), .. }
  rw [lower_idem, lower_idem]
  rfl

theorem HostBase.lower {b : URL} (hb : HostBase b) : AbsBase b.lowerCase :=
  ⟨by simpa [URL.lowerCase, lower_eq_nil] using hb.host_ne, hb.rooted, hb.noSlash,
    by simp [URL.lowerCase, lower_idem], by simp [URL.lowerCase, lower_idem]⟩

/-- **navigate = RFC 5.2 against the case-normalised base, for bases in any case** (`HTTP://A.Example/B` …) -/
theorem navigateWith_eq_rfc_anycase (honour : Bool) (b : URL) (r : Ref) (hb : HostBase b) (hr : RelRef r)
    (hdf : r.path ≠ [] ∨ DotFree b.parts) (hcq : CanonQ r.query)
    (hq : honour = true ∨ ¬ (r.path = [] ∧ r.query = some [] ∧ queryText b.query ≠ [])) :
    (URL.navigateWith honour b (URL.ofRelRef r)).toRef.canon = (resolve b.lowerCase.toRef r).canon := by
  rw [navigate_base_case honour b (URL.ofRelRef r) rfl rfl]
  exact navigateWith_eq_rfc honour b.lowerCase r hb.lower hr hdf hcq hq

def exBaseCase : URL := URL.ofComponents (some "HTtp".toList) true "Us".toList [] "A.Example".toList false 0
  "/B/c".toList none none
example : HostBase exBaseCase ∧ ¬ AbsBase exBaseCase := by
  simp only [exBaseCase, String.reduceToList]
  refine ⟨⟨by decide, ⟨_, rfl⟩, by decide⟩, fun h => ?_⟩
  exact absurd h.lowerScheme (by decide)
example : (URL.navigateWith true exBaseCase (URL.ofText "../D?k".toList)).toText = "http://Us@a.example/D?k".toList := by
  simp only [exBaseCase, String.reduceToList]; decide +kernel

/-- **chained navigation through reference TEXTS = resolving the texts step by step** (repaired code): every text
    is parsed by Appendix B (`rfcParse`) on the RFC side and by `URL(text)` on the code side -/
theorem chained_texts_eq_rfc_repaired (b : URL) (ts : List Str) (hb : AbsBase b) (hd : DotFree b.parts)
    (hts : ∀ t ∈ ts, RelText t ∧ CanonQ (rfcParse t).query) :
    (URL.navigateAllWith true b (ts.map URL.ofText)).toRef.canon = (resolveAll b.toRef (ts.map rfcParse)).canon := by
  have e : ts.map URL.ofText = (ts.map rfcParse).map URL.ofRelRef := by
    rw [List.map_map]
    exact List.map_congr_left (fun t ht => ofText_eq_ofRelRef t (hts t ht).1)
  rw [e]
  apply chained_eq_rfc_repaired b (ts.map rfcParse) hb hd
  intro r hr
  obtain ⟨t, ht, rfl⟩ := List.mem_map.1 hr
  exact ⟨(hts t ht).1, (hts t ht).2⟩

example : ∀ t ∈ ["../x/./y?k=1&k".toList, "?".toList, "#top".toList, "..//z".toList],
    RelText t ∧ CanonQ (rfcParse t).query := by
  simp only [String.reduceToList]; decide +kernel
example : (URL.navigateAllWith true exBaseMulti
      (["../x/./y?k=1&k".toList, "?".toList, "#top".toList, "..//z".toList].map URL.ofText)).toText
    = "http://a//z".toList := by
  simp only [exBaseMulti, String.reduceToList]; decide +kernel

/-- **navigate = RFC 5.2 for bases without a host** (`file:///a/b`, `foo:/a/b`, `urn:/x`: RFC 5.2.3 "merge" with an empty
    or an undefined base authority), component by component: how `to_text()` writes an empty authority is property
    C06's business.  Either version of the code; side conditions as in `navigateWith_eq_rfc`. -/
theorem navigateWith_eq_rfc_hostless (honour : Bool) (b : URL) (B r : Ref) (hb : HostlessBase b)
    (hB : RefOfBase b B) (hr : RelRef r) (hdf : r.path ≠ [] ∨ DotFree b.parts) (hcq : CanonQ r.query)
    (hq : honour = true ∨ ¬ (r.path = [] ∧ r.query = some [] ∧ queryText b.query ≠ [])) :
    optOfStr (URL.navigateWith honour b (URL.ofRelRef r)).scheme = (resolve B r).scheme ∧
    (resolve B r).authority = B.authority ∧
    ((URL.navigateWith honour b (URL.ofRelRef r)).host = [] ∧
      (URL.navigateWith honour b (URL.ofRelRef r)).user = b.user ∧
      (URL.navigateWith honour b (URL.ofRelRef r)).pass = b.pass ∧
      (URL.navigateWith honour b (URL.ofRelRef r)).port = b.port) ∧
    (URL.navigateWith honour b (URL.ofRelRef r)).pathText = (resolve B r).path ∧
    dropEmpty (optOfStr (queryText (URL.navigateWith honour b (URL.ofRelRef r)).query)) = dropEmpty (resolve B r).query ∧
    dropEmpty (optOfStr (URL.navigateWith honour b (URL.ofRelRef r)).fragment) = dropEmpty (resolve B r).fragment := by
  obtain ⟨segs, h⟩ := hb.toRooted
  have hB' := hB.hostlessSim.stands hb.host_nil
  have hs : Stands _ (resolve B r).normalized := hB'.navigate h honour r hr hcq hq
  rw [show (resolve B r).normalized = resolve B r from hB'.target_normal h r hr hdf] at hs
  refine ⟨hs.scheme, by rw [resolve_rel B r hr], ?_, hs.path, (dropEmpty_optOfStr_eq_iff _ _).2 hs.query,
    (dropEmpty_optOfStr_eq_iff _ _).2 hs.fragment⟩
  rw [h.navigate_eq]
  exact ⟨hb.host_nil, rfl, rfl, rfl⟩

/-- `file:///a/b/c?q` (authority defined and empty) and `foo:/a/b` (authority undefined) -/
def exBaseFile : URL := URL.ofComponents (some "file".toList) true [] [] [] false 0 "/a/b/c".toList (some "q".toList) none
def exBaseFoo : URL := URL.ofComponents (some "foo".toList) false [] [] [] false 0 "/a/b".toList none none

example : HostlessBase exBaseFile ∧ HostlessBase exBaseFoo := by
  simp only [exBaseFile, exBaseFoo, String.reduceToList]
  exact ⟨⟨rfl, ⟨_, _, rfl⟩, by decide, by decide⟩, ⟨rfl, ⟨_, _, rfl⟩, by decide, by decide⟩⟩
example : RefOfBase exBaseFile ⟨some "file".toList, some [], "/a/b/c".toList, some "q".toList, none⟩ ∧
    RefOfBase exBaseFoo ⟨some "foo".toList, none, "/a/b".toList, none, none⟩ := by
  simp only [exBaseFile, exBaseFoo, String.reduceToList]; decide +kernel
example : recompose (resolve ⟨some "file".toList, some [], "/a/b/c".toList, some "q".toList, none⟩ exRef)
    = "file:///a//g/?y#".toList := by
  simp only [exRef, String.reduceToList]; decide +kernel
example : (URL.navigateWith true exBaseFile (URL.ofRelRef exRef)).pathText = "/a//g/".toList ∧
    (URL.navigateWith true exBaseFoo (URL.ofRelRef ⟨none, none, "../../../x/.".toList, none, none⟩)).pathText
      = "/x/".toList := by
  simp only [exBaseFile, exBaseFoo, exRef, String.reduceToList]; decide +kernel

/-- `navigateWith_eq_rfc_hostless` as a statement about the printed text (`toRef`) for a base whose scheme takes no
    network location (`foo:/a/b`, `urn:/x`: the authority is undefined before and after; the C06 question how an EMPTY
    authority is printed does not arise) -/
theorem navigateWith_eq_rfc_nonetloc (honour : Bool) (b : URL) (r : Ref) (hb : HostlessBase b)
    (hu : b.user = []) (hsep : b.netlocSep = false) (hnn : b.usesNetloc = false) (hr : RelRef r)
    (hdf : r.path ≠ [] ∨ DotFree b.parts) (hcq : CanonQ r.query)
    (hq : honour = true ∨ ¬ (r.path = [] ∧ r.query = some [] ∧ queryText b.query ≠ [])) :
    (URL.navigateWith honour b (URL.ofRelRef r)).toRef.canon = (resolve b.toRef r).canon := by
  obtain ⟨segs, h⟩ := hb.toRooted
  have hbRef := toRef_nonetloc b hu hb.host_nil hnn
  have hB : Stands b b.toRef := hbRef ▸ b.stands_refWith none (fun hh => absurd hb.host_nil hh)
  have hs := hB.navigate h honour r hr hcq hq
  rw [hB.target_normal h r hr hdf, h.navigate_eq] at hs
  have hnn' : (relResult honour b r).usesNetloc = false := by
    rw [← hnn]
    simp only [URL.usesNetloc, relResult, hsep]
    rfl
  have ha : (resolve b.toRef r).authority = none := by rw [resolve_rel _ r hr, hbRef]; rfl
  rw [h.navigate_eq, toRef_nonetloc (relResult honour b r) hu hb.host_nil hnn', ← ha]
  exact hs.refWith_canon

example : HostlessBase exBaseFoo ∧ exBaseFoo.user = [] ∧ exBaseFoo.netlocSep = false ∧ exBaseFoo.usesNetloc = false := by
  simp only [exBaseFoo, String.reduceToList]
  exact ⟨⟨rfl, ⟨_, _, rfl⟩, by decide, by decide⟩, rfl, rfl, by decide +kernel⟩
example : (URL.navigateWith true exBaseFoo (URL.ofRelRef exRef)).toText = "foo://g/?y".toList := by
  simp only [exBaseFoo, exRef, String.reduceToList]; decide +kernel

theorem navigateWith_closed_hostless (honour : Bool) (b : URL) (r : Ref) (hb : HostlessBase b) :
    HostlessBase (URL.navigateWith honour b (URL.ofRelRef r)) ∧
      DotFree (URL.navigateWith honour b (URL.ofRelRef r)).parts := by
  obtain ⟨segs, h⟩ := hb.toRooted
  rw [h.navigate_eq]
  exact ⟨(h.closed honour r).hostlessBase hb.host_nil, resolvePathParts_dotFree _⟩

/-- **chained navigation from a hostless base = resolving step by step**, either version of the code; the authority of
    the RFC target stays the base's (undefined or empty) throughout -/
theorem chainedWith_eq_rfc_hostless (honour : Bool) (rs : List Ref) : ∀ (b : URL) (B : Ref), HostlessBase b →
    DotFree b.parts → HostlessSim b B →
    (∀ r ∈ rs, RelRef r ∧ (honour = true ∨ r.query ≠ some []) ∧ CanonQ r.query) →
    HostlessSim (URL.navigateAllWith honour b (rs.map URL.ofRelRef)) (resolveAll B rs) ∧
      (resolveAll B rs).authority = B.authority ∧
      (URL.navigateAllWith honour b (rs.map URL.ofRelRef)).host = [] := by
  intro b B hb hd hB hrs
  obtain ⟨segs, h⟩ := hb.toRooted
  -- from the first step on the base's fragment is out of the picture (`HostlessSim.stands`)
  cases rs with
  | nil => exact ⟨hB, rfl, hb.host_nil⟩
  | cons r rest =>
    obtain ⟨_, hh, hs⟩ := (hB.stands hb.host_nil).navigateAll honour (r :: rest) h hd hrs
    exact ⟨hs.hostlessSim, resolveAll_authority B _ fun r' hr' => (hrs r' hr').1, hh.trans hb.host_nil⟩

example : HostlessBase exBaseFile ∧ DotFree exBaseFile.parts ∧
    HostlessSim exBaseFile ⟨some "file".toList, some [], "/a/b/c".toList, some "q".toList, none⟩ := by
  simp only [exBaseFile, String.reduceToList]
  exact ⟨⟨rfl, ⟨_, _, rfl⟩, by decide, by decide⟩, by decide, by decide⟩
example : (URL.navigateAllWith true exBaseFile ([exRef, ⟨none, none, [], some [], none⟩, ⟨none, none, "../../../x".toList, none, none⟩].map
    URL.ofRelRef)).pathText = "/x".toList := by
  simp only [exBaseFile, exRef, String.reduceToList]; decide +kernel

theorem navigate_fragment (honour : Bool) (b dest : URL) (h : ¬ (dest.scheme ≠ [] ∧ dest.host ≠ [])) :
    (URL.navigateWith honour b dest).fragment = dest.fragment := by
  rw [navigateWith_eq honour b dest h]

/-- `dest.x or self.x` for scheme / userinfo / host / port, scheme and host then lower-cased by the final `normalize()`;
    the address family follows the host.  This covers scheme-relative references (`//host/p`) and references passed as
    edited `URL` objects too. -/
theorem navigate_authority_fields (honour : Bool) (b dest : URL) (h : ¬ (dest.scheme ≠ [] ∧ dest.host ≠ [])) :
    let n := URL.navigateWith honour b dest
    n.scheme = lower (orStr dest.scheme b.scheme) ∧ n.host = lower (orStr dest.host b.host) ∧
      n.user = orStr dest.user b.user ∧ n.pass = orStr dest.pass b.pass ∧
      n.port = (if dest.port ≠ 0 then dest.port else b.port) ∧
      n.v6 = (if dest.host ≠ [] then dest.v6 else b.v6) ∧ n.netlocSep = false ∧ n.hasQuery = false := by
  rw [navigateWith_eq honour b dest h]
  exact ⟨rfl, rfl, rfl, rfl, rfl, rfl, rfl, rfl⟩

/-- a scheme-relative reference `//h:99/p/../q` against `exBase` (`http://u@a:81/b/c/d;p?q`): host and port of the
    reference, scheme AND userinfo of the base (boltons keeps `u@`; RFC 3986 would drop it - references with an
    authority are outside the statement), path and query of the reference -/
def exSchemeRel : URL := URL.ofComponents none true [] [] "H".toList false 99 "/p/../q".toList none none
example : ¬ (exSchemeRel.scheme ≠ [] ∧ exSchemeRel.host ≠ []) := fun h => h.1 rfl
example : (URL.navigateWith true exBase exSchemeRel).toText = "http://u@h:99/q".toList ∧
    (URL.navigateWith false exBase exSchemeRel).toText = "http://u@h:99/q".toList := by
  simp only [exBase, exSchemeRel, String.reduceToList]; decide +kernel

theorem normalize_fields (u : URL) (c : Bool) :
    (u.normalize c).scheme = (if c then lower u.scheme else u.scheme) ∧
    (u.normalize c).host = (if c then lower u.host else u.host) ∧
    (u.normalize c).parts = resolvePathParts u.parts ∧
    (u.normalize c).user = u.user ∧ (u.normalize c).pass = u.pass ∧ (u.normalize c).port = u.port ∧
    (u.normalize c).query = u.query ∧ (u.normalize c).fragment = u.fragment ∧ (u.normalize c).v6 = u.v6 := by
  cases c <;> simp [URL.normalize]

theorem navigate_result_lowercase (honour : Bool) (b dest : URL) (h : ¬ (dest.scheme ≠ [] ∧ dest.host ≠ [])) :
    lower (URL.navigateWith honour b dest).scheme = (URL.navigateWith honour b dest).scheme ∧
    lower (URL.navigateWith honour b dest).host = (URL.navigateWith honour b dest).host := by
  have := navigate_authority_fields honour b dest h
  simp only at this
  rw [this.1, this.2.1]
  exact ⟨lower_idem _, lower_idem _⟩

/-- a replacing reference handed over as a `URL` object comes back as a copy made through `to_text()`: the copy prints
    the same text -/
theorem navigate_replacing_text (b dest : URL) (hs : dest.scheme ≠ []) (hh : dest.host ≠ []) :
    (b.navigate dest).toText = dest.toText := by
  rw [navigate_absolute_replaces b dest hs hh]

theorem normalize_idempotent (u : URL) (c : Bool) : (u.normalize c).normalize c = u.normalize c := by
  unfold URL.normalize
  have hp := resolvePathParts_of_dotFree _ (resolvePathParts_dotFree u.parts)
  cases c <;> simp [hp, lower_idem]

theorem navigate_result_normal (b dest : URL) (h : ¬ (dest.scheme ≠ [] ∧ dest.host ≠ [])) :
    (b.navigate dest).normalize = b.navigate dest := by
  unfold URL.navigate URL.navigateWith
  rw [if_neg h]
  exact normalize_idempotent _ true

/-- **the values the SOURCE of `navigate` computes are the model's** (NavTie.lean), for ALL object states.  The proof only
    case-splits on the atomic facts the method can look at (reference replacing? path empty / rooted? base host? base
    directory rooted? reference parameters / query marker?) and lets `simp` evaluate both sides, so re-ordered or
    re-nested branches survive. -/
theorem src_navigate_core_eq_model (self dest : URL) :
    srcCore self dest = if dest.scheme ≠ [] ∧ dest.host ≠ [] then coreOf dest else modelCore self dest := by
  obtain ⟨ds, dsep, du, dpw, dh, dv6, dport, dparts, dq, dhq, df⟩ := dest
  obtain ⟨ss, ssep, su, spw, sh, sv6, sport, sparts, sq, shq, sf⟩ := self
  simp only [srcCore, coreOf, NavSrc.navigate_core, NavSrc.navigate_core.body, modelCore, URL.pathText, orStr,
    nav_slice_take_one_chars, nav_slice_take_one_strs, nav_slice_dropLast_strs, take_one_eq_slash, take_one_ne_root,
    take_one_eq_root, cast_ite_port, fam_ite]  -- the root test in both polarities, whichever the source writes
  by_cases habs : ds ≠ [] ∧ dh ≠ []
  · simp [habs.1, habs.2]
  · have habs' : ¬ (¬ ds = [] ∧ ¬ dh = []) := habs
    by_cases hp : joinSlash dparts = []
    · by_cases hq : dq = [] <;> cases dhq <;> simp [habs', hp, hq]
    · by_cases hsl : (joinSlash dparts).head? = some '/'
      · simp [habs', hp, hsl]
      · by_cases hh : sh = [] <;> by_cases hr : sparts.dropLast.head? = some [] <;>
          simp [habs', hp, hsl, hh, hr]

/-- ... hence `from_parts(**values)`, `ret.family = …`, `ret.normalize()` applied to what the source computes IS the
    model's navigate -/
theorem src_navigate_eq_model (self dest : URL) (h : ¬ (dest.scheme ≠ [] ∧ dest.host ≠ [])) :
    ofCore (srcCore self dest) = URL.navigateWith true self dest := by
  rw [src_navigate_core_eq_model, if_neg h, ofCore_modelCore self dest h]

theorem src_navigate_replacing (self dest : URL) (hs : dest.scheme ≠ []) (hh : dest.host ≠ []) :
    srcCore self dest = coreOf dest := by
  rw [src_navigate_core_eq_model, if_pos ⟨hs, hh⟩]

/-- **the RFC statement about what the source computes** -/
theorem src_navigate_eq_rfc (b : URL) (r : Ref) (hb : AbsBase b) (hr : RelRef r)
    (hdf : r.path ≠ [] ∨ DotFree b.parts) (hcq : CanonQ r.query) :
    (ofCore (srcCore b (URL.ofRelRef r))).toRef.canon = (resolve b.toRef r).canon := by
  rw [src_navigate_eq_model b (URL.ofRelRef r) (ofRelRef_not_replacing r)]
  exact navigate_eq_rfc_repaired b r hb hr hdf hcq

/-- non-vacuity: the translated source on `http://u@a:81/b/c/d;p?q` + `.././/g/.?y#` -/
example : (ofCore (srcCore exBase (URL.ofRelRef exRef))).toText = "http://u@a:81/b//g/?y".toList := by
  simp only [exBase, exRef, String.reduceToList]; decide +kernel
example : srcCore exBase exAbs = coreOf exAbs := by
  simp only [exAbs, String.reduceToList]; exact src_navigate_replacing _ _ (by decide) (by decide)

end C07
