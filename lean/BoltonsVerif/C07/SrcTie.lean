/-
C07 — source tie of `resolve_path_parts`.  `Src.urlutils.resolve_path_parts` is generated by `harness/py2lean.py` (after
the desugaring pre-pass `harness/py2lean_prepass.py`) from the current text of `boltons.urlutils.resolve_path_parts` on
every run; `src_resolve_path_parts_eq_model` states that it IS the hand model's `C07.resolvePathParts`, for every list
of path segments.  A text (`str`) is the list of its characters on both sides.

The proof has to survive a rewritten source, so only the final theorem and the tactic `src_tie acc last inv` that proves
it mention what was generated (`resolve_path_parts`, its state record `.St` with fields `loc1, loc2, …` = the Python
locals in order of first binding, `.body`, `.loop1`).  The tactic
  * proves the loop lemma "the `for` loop is `List.foldl resolveStep` on the field `acc`" by induction on the segment
    list, deciding every branch of the generated loop body by a case split that does not look at the source (the
    segment is `.` / `..` / something else; the stack is `[]` / `['']` / `[x]`, x ≠ '' / longer) and letting `simp` +
    `omega` evaluate BOTH sides: re-ordered branches, `!=` for `==`, early `continue`, rewritten un-rooting guards
    (also as a floor index, `floorOf`) go through;
  * `last` is where the code after the loop finds "the last segment, if any" (`path_parts[-1:]` / `path_parts[-1]`
    evaluated after the loop, a list or flag computed before it, or a `last = part` variable the loop keeps - the
    term may mention `ps`, the segments still to come); `inv` is an invariant of the loop state (a hand-maintained
    `depth == len(ret)` counter, or `floor = floorOf ret` for a floor kept in a loop-carried variable);
  * handles a fast path `if '.' not in path_parts and '..' not in path_parts: return list(path_parts)`.
The final theorem tries a list of (acc, last, inv) candidates; a candidate naming a field that does not exist or has
another type fails to elaborate and the next one is tried.  A semantic change of the function makes the statement
false, so no candidate can succeed.  Source shapes seen to go through / not to go through: notes/selftest/C07.md.
-/
import BoltonsVerif.Generated.Src_urlutils
import BoltonsVerif.PyRtLemmas
import BoltonsVerif.C07.Proofs

namespace C07

open Src.urlutils

/-! ### facts about the runtime expressions the translator emits (no generated definition involved) -/

/-- `ret and (len(ret) > 1 or ret[0])` of the source is the model's "prevent unrooting" test (`src_tie` does not cite
    it: it decides the guard by cases on the stack, so that a rewritten guard goes through as well) -/
theorem src_unroot_test (ret : List Str) :
    ((ret ≠ []) ∧ ((PyRt.len ret > (1 : Int)) ∨ (PyRt.index ret (0 : Int) ≠ [])))
      ↔ (ret ≠ [] ∧ (ret.length > 1 ∨ ret.head? ≠ some [])) := by
  rcases ret with _ | ⟨x, _ | ⟨y, t⟩⟩ <;> simp [PyRt.len, PyRt.index_zero] <;> omega

/-- `list(path_parts[-1:]) in (['.'], ['..'])` of the source is the model's test on the last segment (`src_tie` is told
    where the last segment is found instead: its argument `last`) -/
theorem src_last_test (parts : List Str) :
    (PyRt.slice parts (some (-(1 : Int))) none = [(['.'] : List Char)]
        ∨ PyRt.slice parts (some (-(1 : Int))) none = [(['.', '.'] : List Char)])
      ↔ (parts.getLast? = some dot ∨ parts.getLast? = some dotdot) := by
  rw [PyRt.slice_last]
  cases parts.getLast? with
  | none => simp
  | some x => simp [dot, dotdot]

/-- "the last segment is `.` or `..`" (the model's test for the trailing `''`) -/
def lastDot (pp : List Str) : Bool := decide (pp.getLast? = some dot ∨ pp.getLast? = some dotdot)

/-- the same test on a list holding the last segment or nothing (`path_parts[-1:]`) -/
def headDot (l : List Str) : Bool := decide (l.head? = some dot ∨ l.head? = some dotdot)

/-- the same test on one segment (a `last = part` variable kept by the loop itself; `''` before the first item) -/
def isDotSeg (x : Str) : Bool := decide (x = dot ∨ x = dotdot)

theorem getLastD_cons (p d : Str) (ps : List Str) : (p :: ps).getLast?.getD d = ps.getLast?.getD p := by
  cases ps with
  | nil => simp
  | cons a t =>
    rw [List.getLast?_cons_cons]
    have h : (a :: t).getLast? = some ((a :: t).getLast (by simp)) := List.getLast?_eq_some_getLast (by simp)
    rw [h]; simp

theorem isDotSeg_getLastD (l : List Str) : isDotSeg (l.getLast?.getD []) = lastDot l := by
  unfold isDotSeg lastDot
  cases l.getLast? with
  | none => simp [dot, dotdot]
  | some v => by_cases h1 : v = ['.'] <;> by_cases h2 : v = ['.', '.'] <;> simp [dot, dotdot, h1, h2]

/-- the code after the loop, model side -/
def finishB (b : Bool) (ret : List Str) : List Str := if b then ret ++ [[]] else ret

theorem resolvePathParts_eq_finishB (parts : List Str) :
    resolvePathParts parts = finishB (lastDot parts) (parts.foldl resolveStep []) := by
  simp [resolvePathParts, finishB, lastDot]

/-- `l[-1]` (for a non-empty `l`; `default` otherwise) -/
theorem index_neg_one (l : List Str) : PyRt.index l (-1) = l.getLast?.getD default := by
  exact PyRt.index_neg_one l

theorem slice_dropLast (l : List Str) : PyRt.slice l none (some (-1)) = l.dropLast := PyRt.slice_to_neg_one l

theorem contains_iff (l : List Str) (x : Str) : PyRt.contains l x = true ↔ x ∈ l := PyRt.contains_iff l x

/-- `'.' not in path_parts and '..' not in path_parts` (a fast path) is the model's `DotFree` -/
theorem dotFree_of_not_contains (l : List Str) (h1 : ¬ PyRt.contains l ['.'] = true)
    (h2 : ¬ PyRt.contains l ['.', '.'] = true) : DotFree l := by
  intro x hx
  rw [contains_iff] at h1 h2
  constructor
  · intro e; exact h1 (by simpa [dot, e] using hx)
  · intro e; exact h2 (by simpa [dotdot, e] using hx)

/-- the floor index of a stack: `1` when it starts with the root marker `''` (which is never popped), else `0`: for a
    source that pops `if len(ret) > floor` instead of testing `len(ret) > 1 or ret[0]`.  A floor kept in a loop-carried
    variable needs the invariant `floor = floorOf ret`, one re-computed at each `..` needs none. -/
def floorOf (l : List Str) : Int := if l.head? = some [] then 1 else 0

/-- identity; in `src_tie` it keeps `simp` from rewriting the `loop1` in the else-branch of `ih2` again -/
def hold {α : Sort _} (x : α) : α := x

/-- the three kinds of segment (the inequalities in both orientations, for sources that write `'.' != part`) -/
theorem seg_cases (p : Str) : p = ['.'] ∨ p = ['.', '.'] ∨
    ((p ≠ ['.'] ∧ p ≠ ['.', '.']) ∧ (['.'] ≠ p ∧ ['.', '.'] ≠ p)) := by
  by_cases h1 : p = ['.'] <;> by_cases h2 : p = ['.', '.'] <;> simp [h1, h2, eq_comm]

theorem slice_take_one (l : List Str) : PyRt.slice l none (some 1) = l.take 1 := PyRt.slice_to_nat l 1

/-- `(pre + [x])[len(pre)]` with the length already a cast -/
theorem index_snoc_length (pre : List Str) (x : Str) : PyRt.index (pre ++ [x]) (pre.length : Int) = x := by
  have := PyRt.index_append_length pre x []
  simpa [PyRt.len] using this

/-- `l[len(l) - 1]` -/
theorem index_len_sub_one (l : List Str) : PyRt.index l (PyRt.len l - 1) = l.getLast?.getD default := by
  rw [PyRt.index_len_sub_one, PyRt.index_neg_one]

set_option hygiene false in
/-- `src_tie acc last inv`: the whole tie proof, given which state field is the segment stack (`acc`), where the
    code after the loop finds the last segment (`last`), and an invariant of the loop state (`inv`) -/
local macro "src_tie " acc:term:max ppSpace last:term:max ppSpace inv:term:max : tactic => `(tactic| (
  have hloop : ∀ (k kb : resolve_path_parts.St → List Str),
      (∀ s, $inv → k s = finishB ((fun (ps : List Str) => $last) []) $acc) →
      ∀ (ps : List Str) (s : resolve_path_parts.St), $inv →
        resolve_path_parts.loop1 k kb ps s = finishB $last (ps.foldl resolveStep $acc) := by
    intro k kb hk ps
    induction ps with
    | nil => intro s hi; simp [resolve_path_parts.loop1, hk s hi]
    | cons p ps ih =>
      intro s hi
      have ih2 : ∀ s : resolve_path_parts.St, resolve_path_parts.loop1 k kb ps s =
          if $inv then finishB $last (ps.foldl resolveStep $acc) else hold (resolve_path_parts.loop1 k kb ps) s :=
        fun s => by
          by_cases hc : $inv
          · rw [if_pos hc]; exact ih s hc
          · rw [if_neg hc]; rfl
      rcases seg_cases p with h1 | h1 | ⟨⟨h1, h2⟩, h3, h4⟩ <;>
        rcases hL : $acc with _ | ⟨x, t⟩ <;>
        (try (by_cases hx : x = [] <;> cases t)) <;>
        (try simp only [hL] at hi) <;>
        (simp [resolve_path_parts.loop1, ih2, resolveStep, dot, dotdot, h1, hL, PyRt.len, PyRt.index_zero, PyRt.popLast, floorOf,
            PyRt.append, slice_dropLast, slice_take_one, getLastD_cons, *] <;>
          (try omega) <;> (try (intros; omega)) <;> (try (by_cases hp : p = [] <;> simp [hp]; done)))
  unfold resolve_path_parts resolve_path_parts.body
  simp only []
  rw [resolvePathParts_eq_finishB]
  repeat' split
  all_goals first
    | (refine (hloop _ _ ?_ parts _ ?_).trans ?_
       · intro s hi
         first
           | (simp [finishB, lastDot, headDot, isDotSeg, PyRt.slice_last, index_neg_one, index_len_sub_one, dot, dotdot,
                PyRt.append, PyRt.index_zero]; done)
           | (simp [finishB, lastDot, headDot, isDotSeg, PyRt.slice_last, index_neg_one, index_len_sub_one, dot, dotdot,
                PyRt.append, PyRt.index_zero]
              split <;> simp_all; done)
           | (simp only [finishB, lastDot, headDot, PyRt.slice_last, index_neg_one, index_len_sub_one]
              cases s.path_parts.getLast? <;> simp [dot, dotdot, PyRt.append, PyRt.index_zero]; done)
           | (simp only [finishB, lastDot, headDot, PyRt.slice_last, index_neg_one, index_len_sub_one]
              rcases List.eq_nil_or_concat s.path_parts with hpp | ⟨i, x, hpp⟩ <;>
                simp [hpp, dot, dotdot, PyRt.append, PyRt.index_zero]; done)
           | (rcases List.eq_nil_or_concat s.path_parts with hpp | ⟨i, x, hpp⟩ <;>
                simp [finishB, lastDot, headDot, PyRt.slice_last, index_neg_one, index_len_sub_one, hpp, PyRt.len,
                  dot, dotdot, PyRt.append, PyRt.index_zero, index_snoc_length] <;> (try omega) <;> (try (intros; omega)) <;> done)
           | (simp only [finishB, lastDot, headDot, PyRt.slice_last, index_neg_one, index_len_sub_one]
              rcases hl1 : s.loc1 with _ | ⟨x, t⟩ <;> simp_all [dot, dotdot, PyRt.append, PyRt.index_zero]; done)
           | (simp only [finishB, lastDot, headDot, PyRt.slice_last, index_neg_one, index_len_sub_one]
              rcases hl2 : s.loc2 with _ | ⟨x, t⟩ <;> simp_all [dot, dotdot, PyRt.append, PyRt.index_zero]; done)
       · first
           | trivial
           | (simp [PyRt.len]; done)
       · first
           | rfl
           | (simp [isDotSeg_getLastD]; done)
           | (simp [lastDot, headDot, PyRt.slice_last]; done)
           | (simp only [lastDot, headDot, PyRt.slice_last]
              cases parts.getLast? <;> simp [dot, dotdot, PyRt.index_zero]; done))
    | (rw [← resolvePathParts_eq_finishB]
       exact (resolvePathParts_of_dotFree _ (dotFree_of_not_contains _ (by simp_all) (by simp_all))).symm)))

/-- Candidates (state field holding the stack, where the last segment is found, loop invariant), most common
    shape first; in each `s` is the loop state.  `h` (generated: "no guarded call raises") is not needed. -/
theorem src_resolve_path_parts_eq_model (parts : List Str)
    (h : resolve_path_parts_pre parts = true) :
    resolve_path_parts parts = resolvePathParts parts := by
  first
  | src_tie (s.loc1) (lastDot s.path_parts) (True)
  | src_tie (s.loc2) (lastDot s.path_parts) (True)
  | src_tie (s.loc2) (headDot s.loc1) (True)
  | src_tie (s.loc2) (s.loc1) (True)
  | src_tie (s.loc1) (headDot s.loc2) (True)
  | src_tie (s.loc1) (s.loc2) (True)
  | src_tie (s.loc1) (isDotSeg (ps.getLast?.getD s.loc2)) (True)
  | src_tie (s.loc2) (isDotSeg (ps.getLast?.getD s.loc1)) (True)
  | src_tie (s.loc1) (lastDot s.path_parts) (s.loc2 = PyRt.len s.loc1)
  | src_tie (s.loc2) (lastDot s.path_parts) (s.loc1 = PyRt.len s.loc2)
  | src_tie (s.loc2) (headDot s.loc1) (s.loc3 = PyRt.len s.loc2)
  | src_tie (s.loc2) (s.loc1) (s.loc3 = PyRt.len s.loc2)
  | src_tie (s.loc1) (headDot s.loc3) (s.loc2 = PyRt.len s.loc1)
  | src_tie (s.loc1) (headDot s.loc2) (s.loc3 = PyRt.len s.loc1)
  | src_tie (s.loc3) (headDot s.loc1) (s.loc2 = PyRt.len s.loc3)
  | src_tie (s.loc1) (lastDot s.path_parts) (s.loc2 = floorOf s.loc1)
  | src_tie (s.loc2) (lastDot s.path_parts) (s.loc1 = floorOf s.loc2)
  | src_tie (s.loc2) (s.loc1) (s.loc3 = floorOf s.loc2)
  | src_tie (s.loc3) (s.loc1) (s.loc2 = floorOf s.loc3)
  | src_tie (s.loc2) (headDot s.loc1) (s.loc3 = floorOf s.loc2)
  | src_tie (s.loc3) (headDot s.loc1) (s.loc2 = floorOf s.loc3)

/-- the source function in closed form: the fold of the model's `resolveStep`, then the trailing-'' step -/
theorem src_resolve_loop (parts : List Str) (h : resolve_path_parts_pre parts = true) :
    resolve_path_parts parts
      = finishB (lastDot parts) (parts.foldl resolveStep []) := by
  rw [src_resolve_path_parts_eq_model parts h, resolvePathParts_eq_finishB]

/-- non-vacuity: `/a/../../b/.` -/
example : resolve_path_parts_pre [[], ['a'], ['.', '.'], ['.', '.'], ['b'], ['.']] = true ∧
    resolve_path_parts [[], ['a'], ['.', '.'], ['.', '.'], ['b'], ['.']] = [[], ['b'], []] := by decide

end C07
