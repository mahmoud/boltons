/-
C14 — SOURCE TIE.  `Src.strutils.format_int_list` (and the further functions listed in notes/SRCTIE.md §1h) are
generated by `harness/py2lean.py` + the extension `harness/py2lean_c14.py` from the current text of
`boltons/strutils.py` on every run; the theorems below state that the generated definitions ARE the hand model's
functions (`C14/Model.lean`, the delimiter-parametric `…S` versions), so that the property theorems of `Props.lean`
speak about what the source computes.

The tie of a function with a loop has three layers (so that harmless refactors inside the translated subset keep it green):
(i) runtime operations (`PyRtC14.*`, `PyRt.*`) against the model's own, no generated definition involved; (ii) a TWIN of the
Python loop on Python values (`stepZ`, `tokZ`, `boundsZ`, `cmdInnerL` …) against the model; (iii) the only place that looks at
generated text: the loop fact "the generated `for` loop is the twin's loop", proved inside one tactic per function that is
given the fields of the generated state record holding the loop's variables.  Each theorem tries the plausible layouts, the
first listed being that of the source as it is; the tactics are unhygienic and use the binder names of the theorem they prove.

A generated `for` loop is `f.loopN k kb kexc items s` in continuation form: `s : f.St` holds all variables of the Python function
(parameters under their names, locals as `loc1`, `loc2`, … in the order of their first binding); `k s'` is what follows the loop
when the items run out (an `else:` clause and the rest of the function), `kb s'` what follows a `break`, `kexc e s'` where an
exception raised in the body goes.  A loop fact is stated for ALL `k`, `kb`, `kexc`, so that its induction hypothesis rewrites the
recursive call inside the unfolded body; where `k` must be known it is through `K`: `k` reads the loop's variables only,
`k s = K (out s)`.
-/
import BoltonsVerif.Generated.Src_strutils_c14
import BoltonsVerif.PyRtLemmas
import BoltonsVerif.C14.StrDelims
import BoltonsVerif.C14.Props

-- for the `decide` examples
deriving instance DecidableEq for Except

namespace C14

open Src.strutils

/-! ## `format_int_list`

### 1. runtime operations against the model's -/

abbrev castL (l : List Nat) : List Int := l.map (fun n : Nat => (n : Int))

theorem rt_digitsRev (fuel n : Nat) (h : n < fuel) : PyRtC14.digitsRev fuel n = digitsRev n := by
  induction fuel generalizing n with
  | zero => omega
  | succ f ih =>
    rw [digitsRev]
    simp only [PyRtC14.digitsRev, digitChar]
    by_cases h10 : n < 10
    · simp [h10]
    · simp only [h10, if_false]
      rw [ih (n / 10) (by omega)]

theorem rt_fmtD_natCast (n : Nat) : PyRtC14.fmtD (n : Int) = toDigits n := by
  have h : ¬ ((n : Int) < 0) := by omega
  simp [PyRtC14.fmtD, h, toDigits, rt_digitsRev]

theorem rt_join (sep : Str) (parts : List Str) : PyRtC14.join sep parts = join sep parts := by
  induction parts with
  | nil => rfl
  | cons a t ih =>
    cases t with
    | nil => rfl
    | cons b r => simp only [PyRtC14.join, join, ih]

/-- `min(l)` / `max(l)` as total functions (`0` for the empty list, which raises in Python) -/
def minZ : List Int → Int
  | [] => 0
  | x :: xs => xs.foldl (fun a b => if b < a then b else a) x
def maxZ : List Int → Int
  | [] => 0
  | x :: xs => xs.foldl (fun a b => if a < b then b else a) x

theorem minList_eq (l : List Int) (h : l ≠ []) : PyRtC14.minList? l = .ok (minZ l) := by
  cases l with
  | nil => exact absurd rfl h
  | cons x xs => rfl
theorem maxList_eq (l : List Int) (h : l ≠ []) : PyRtC14.maxList? l = .ok (maxZ l) := by
  cases l with
  | nil => exact absurd rfl h
  | cons x xs => rfl

theorem foldl_cast (f : Int → Int → Int) (g : Nat → Nat → Nat) (hfg : ∀ a b : Nat, f a b = ((g a b : Nat) : Int))
    (xs : List Nat) (x : Nat) :
    (castL xs).foldl f (x : Int) = ((xs.foldl g x : Nat) : Int) := by
  induction xs generalizing x with
  | nil => rfl
  | cons y ys ih => simp only [List.map_cons, List.foldl_cons, hfg, ih]

theorem minZ_cast (l : List Nat) : minZ (castL l) = (lmin l : Int) := by
  cases l with
  | nil => rfl
  | cons x xs => exact foldl_cast _ min (fun a b => by split <;> omega) xs x
theorem maxZ_cast (l : List Nat) : maxZ (castL l) = (lmax l : Int) := by
  cases l with
  | nil => rfl
  | cons x xs => exact foldl_cast _ max (fun a b => by split <;> omega) xs x

/-- `l[-1]`; the last element is a variable `z` with an equation because `fmt_tie` names it before `simp` runs -/
theorem index?_last {α : Type} (l : List α) (d z : α) (hz : l.getLastD d = z) (h : l ≠ []) :
    PyRt.index? l (-(1 : Int)) = .ok z := by
  rw [PyRt.index?_neg_one, ← hz, List.getLastD_eq_getLast?]
  cases hl : l.getLast? with
  | none => exact absurd (List.getLast?_eq_none_iff.mp hl) h
  | some x => rfl

theorem slice_one {α : Type} (l : List α) : PyRt.slice l (some (1 : Int)) none = l.drop 1 :=
  PyRt.slice_from_nat l 1

theorem insSorted_cast (x : Nat) (l : List Nat) :
    PyRt.insSorted (fun c : Int => c) false (x : Int) (castL l)
      = castL (insertSorted x l) := by
  induction l with
  | nil => rfl
  | cons y ys ih =>
    simp only [List.map_cons, PyRt.insSorted, insertSorted]
    by_cases h : x ≤ y
    · have h' : (x : Int) ≤ y := by omega
      simp [h, h']
    · have h' : ¬ (x : Int) ≤ y := by omega
      simp [h, h', ih]

theorem sorted_cast (l : List Nat) :
    PyRt.sorted (fun c : Int => c) false (castL l)
      = castL (isort l) := by
  induction l with
  | nil => rfl
  | cons x xs ih =>
    simp only [List.map_cons, PyRt.sorted, List.foldr_cons, isort] at ih ⊢
    rw [ih, insSorted_cast]

/-! ### 2. the model's loop on Python ints -/

def fmtRangeZ (rd : Str) (cr : List Int) : Str := PyRtC14.fmtD (minZ cr) ++ rd ++ PyRtC14.fmtD (maxZ cr)

/-- `crTokS` on Python ints -/
def crTokZ (rd : Str) (cr : List Int) : Str :=
  match cr with
  | [a] => PyRtC14.fmtD a
  | _ => fmtRangeZ rd cr

/-- `fmtStepS` on Python ints, in the shape of `fmtStepS_cons` -/
def stepZ (rd : Str) (st : List Str × List Int) (x : Int) : List Str × List Int :=
  match st.2 with
  | [] => (st.1, [x])
  | a :: t =>
    if x = (a :: t).getLastD 0 + 1 then (st.1, a :: t ++ [x])
    else if (a :: t).getLastD 0 + 1 < x then (st.1 ++ [crTokZ rd (a :: t)], [x])
    else st

/-- `fmtFinishS` on Python ints -/
def finishZ (rd : Str) (st : List Str × List Int) : List Str :=
  match st.2 with
  | [] => st.1
  | cr => st.1 ++ [crTokZ rd cr]

theorem fmtRangeZ_cast (rd : Str) (cr : List Nat) : fmtRangeZ rd (castL cr) = fmtRangeS rd cr := by
  simp [fmtRangeZ, fmtRangeS, castL, minZ_cast, maxZ_cast, rt_fmtD_natCast]

theorem crTokZ_cast (rd : Str) (cr : List Nat) : crTokZ rd (castL cr) = crTokS rd cr := by
  rcases cr with _ | ⟨a, _ | ⟨b, r⟩⟩
  · exact fmtRangeZ_cast rd []
  · exact rt_fmtD_natCast a
  · exact fmtRangeZ_cast rd (a :: b :: r)

theorem stepZ_cast (rd : Str) (out : List Str) (cr : List Nat) (x : Nat) :
    stepZ rd (out, castL cr) (x : Int) = ((fmtStepS rd (out, cr) x).1, castL (fmtStepS rd (out, cr) x).2) := by
  cases cr with
  | nil => rfl
  | cons a t =>
    have hl : (castL (a :: t)).getLastD (0 : Int) = (((a :: t).getLastD 0 : Nat) : Int) :=
      List.getLastD_map (f := fun n : Nat => (n : Int))
    have hr := crTokZ_cast rd (a :: t)
    simp only [castL, List.map_cons] at hl hr
    simp only [stepZ, fmtStepS_cons, castL, List.map_cons, hl, hr]
    generalize (a :: t).getLastD 0 = z
    -- the two conditions on Python ints are the model's on naturals
    have e1 : ((x : Int) = z + 1) ↔ (x = z + 1) := by omega
    have e2 : ((z : Int) + 1 < x) ↔ (z + 1 < x) := by omega
    simp only [e1, e2]
    split
    · simp
    · split <;> simp

theorem foldl_stepZ_cast (rd : Str) (xs : List Nat) (out : List Str) (cr : List Nat) :
    (castL xs).foldl (stepZ rd) (out, castL cr)
      = ((xs.foldl (fmtStepS rd) (out, cr)).1, castL (xs.foldl (fmtStepS rd) (out, cr)).2) := by
  induction xs generalizing out cr with
  | nil => rfl
  | cons x t ih =>
    simp only [castL, List.map_cons, List.foldl_cons] at ih ⊢
    have h := stepZ_cast rd out cr x
    simp only [castL] at h
    rw [h, ih]

theorem finishZ_cast (rd : Str) (out : List Str) (cr : List Nat) :
    finishZ rd (out, castL cr) = fmtFinishS rd (out, cr) := by
  cases cr with
  | nil => rfl
  | cons a t =>
    have hr := crTokZ_cast rd (a :: t)
    simp only [castL, List.map_cons] at hr
    simp only [finishZ, fmtFinishS_cons, castL, List.map_cons, hr]

/-! ### 3. the generated `format_int_list` -/

/-- what the code after the loop (the `else:` clause + the two `join`s) returns, as a function of the parameters
    and the loop state -/
def fmtK (d rd : Str) (sp : Bool) (st : List Str × List Int) : Except PyExc Str :=
  .ok (PyRtC14.join (if sp then d ++ [' '] else d) (finishZ rd st))

theorem fmtK_model (l : List Nat) (d rd : Str) (sp : Bool) :
    fmtK d rd sp ((PyRt.sorted (fun c => c) false (castL l)).foldl (stepZ rd) ([], []))
      = .ok (formatIntListS l sp d rd) := by
  rw [sorted_cast, show ([] : List Int) = castL [] from rfl, foldl_stepZ_cast, fmtK, finishZ_cast, rt_join]
  rfl

theorem len_eq {α : Type} (l : List α) : PyRt.len l = (l.length : Int) := rfl

/-- spellings of conditions / sums a source may use (`1 == delta`, `1 + max(...)`), normalised before the case split -/
theorem one_eq_iff (x : Int) : ((1 : Int) = x) ↔ (x = 1) := eq_comm
theorem one_add_eq (x : Int) : (1 : Int) + x = x + 1 := Int.add_comm 1 x

theorem stepZ_single (rd : Str) (o : List Str) (a x : Int) :
    stepZ rd (o, [a]) x
      = if x = a + 1 then (o, [a, x]) else if a + 1 < x then (o ++ [PyRtC14.fmtD a], [x]) else (o, [a]) := rfl

theorem stepZ_long (rd : Str) (o : List Str) (a b : Int) (r : List Int) (x z : Int)
    (hz : (a :: b :: r).getLastD 0 = z) :
    stepZ rd (o, a :: b :: r) x = if x = z + 1 then (o, a :: b :: r ++ [x])
      else if z + 1 < x then (o ++ [fmtRangeZ rd (a :: b :: r)], [x]) else (o, a :: b :: r) := by
  subst hz; rfl

/-- the loop fact for a candidate layout: the generated loop is the twin's fold.  No `K`: what follows this loop also reads
    parameters (`fmtK`). -/
def FmtLoop (out : format_int_list.St → List Str) (cr : format_int_list.St → List Int) : Prop :=
  ∀ (k kb : format_int_list.St → Except PyExc Str) (kexc : PyExc → format_int_list.St → Except PyExc Str),
    (∀ s, k s = fmtK s.delim s.range_delim s.delim_space (out s, cr s)) →
    ∀ (xs : List Int) (s : format_int_list.St),
      format_int_list.loop1 k kb kexc xs s
        = fmtK s.delim s.range_delim s.delim_space (xs.foldl (stepZ s.range_delim) (out s, cr s))

set_option hygiene false in
/-- `fmt_tie out cr` (`out`, `cr`: the fields holding `output`, `contig_range`).  `FmtLoop` by induction on the items: split on
    the SHAPE of `contig_range` (`[]` / `[a]` / longer, last element `z`), let `simp` evaluate both sides, then `omega` decides every
    remaining condition in each of the cases `x < z + 1`, `x = z + 1`, `z + 1 < x`. -/
local macro "fmt_tie " out:term:max ppSpace cr:term:max : tactic => `(tactic| (
  have hloop : FmtLoop (fun s => $out) (fun s => $cr) := by
    intro k kb kexc hk xs
    induction xs with
    | nil => intro s; simp [format_int_list.loop1, hk]
    | cons x xs ih =>
      intro s
      rcases hL : $cr with _ | ⟨a, _ | ⟨b, r⟩⟩
      · simp [format_int_list.loop1, ih, stepZ, hL, len_eq]
      · simp [format_int_list.loop1, ih, stepZ_single, hL, len_eq, PyRt.index?_zero, slice_one, one_eq_iff]
        rcases Int.lt_trichotomy x (a + 1) with h | h | h <;> simp (disch := omega) only [if_pos, if_neg]
      · obtain ⟨z, hz⟩ : ∃ z, (a :: b :: r).getLastD 0 = z := ⟨_, rfl⟩
        simp [format_int_list.loop1, ih, stepZ_long _ _ _ _ _ _ _ hz, hL, len_eq, PyRt.index?_zero, slice_one, minList_eq,
          maxList_eq, index?_last _ 0 z hz, fmtRangeZ, one_eq_iff]
        rcases Int.lt_trichotomy x (z + 1) with h | h | h <;> simp (disch := omega) only [if_pos, if_neg]
  unfold format_int_list format_int_list.body
  simp only []
  rw [hloop]
  · exact fmtK_model l d rd sp
  · intro s
    rcases hL : $cr with _ | ⟨a, _ | ⟨b, r⟩⟩ <;> cases hsp : s.delim_space <;>
      simp [fmtK, finishZ, crTokZ, hL, hsp, len_eq, PyRt.index?_zero, slice_one, minList_eq, maxList_eq, fmtRangeZ] <;>
      simp (disch := omega) only [if_pos, if_neg]))

/-- SOURCE TIE: the translated `format_int_list` on a list of non-negative ints is the model's `formatIntListS`
    (`delim`, `range_delim` arbitrary strings), and it does not raise -/
theorem src_format_int_list_eq_model (l : List Nat) (d rd : Str) (sp : Bool) :
    format_int_list (l.map (fun n : Nat => (n : Int))) d rd sp = .ok (formatIntListS l sp d rd) := by
  first
  | fmt_tie (s.loc1) (s.loc2)  -- the layout of the source as it is
  | fmt_tie (s.loc2) (s.loc1)
  | fmt_tie (s.loc1) (s.loc3)
  | fmt_tie (s.loc2) (s.loc3)
  | fail "format_int_list: no candidate layout of the generated state makes the loop the model's fold"

example : format_int_list [5, 1, 3, 2, 7, 8, 9, 9] [';'] ['.', '.'] true
    = .ok "1..3; 5; 7..9".toList := by decide

/-- `Props.int_roundtrip_strdelims` about the text the SOURCE computes -/
theorem src_format_parse_roundtrip (d rd : Str) (ok : DelimOKS d rd) (L : List Nat) (sp : Bool)
    (hsp : sp = true → rd.head? ≠ some ' ') :
    ∃ t, format_int_list (L.map (fun n : Nat => (n : Int))) d rd sp = .ok t ∧ parseIntListS t d rd = some (sortDedup L) :=
  ⟨_, src_format_int_list_eq_model L d rd sp, int_roundtrip_strdelims d rd ok L sp hsp⟩

/-! ## `parse_int_list`

### 4. `int()` / `strip()` / `split()` of the runtime against the model's, on PLAIN text -/

/-- characters on which Python and the model read numbers alike: ASCII digits, the model's blanks (blank, tab,
    newline) and every character that is inert for `int()` and `strip()` — not a sign, not an underscore, no other
    whitespace, no digit of another script.  (On `+5`, `1_0`, `\r7`, `٣` Python returns a number where the model
    says ValueError: outside the model's domain, inside the translation and its self-test.) -/
def plainChar (c : Char) : Bool :=
  isDigit c || isWs c ||
    !(c = '+' || c = '-' || c = '_' || PyRtC14.isStrSpace c || (PyRtC14.digitVal? c).isSome)

def Plain (t : Str) : Prop := ∀ c ∈ t, plainChar c = true

instance (t : Str) : Decidable (Plain t) := by unfold Plain; infer_instance

theorem isWs_cases (c : Char) (h : isWs c = true) : c = ' ' ∨ c = '\t' ∨ c = '\n' := by
  simp only [isWs, Bool.or_eq_true, decide_eq_true_eq] at h
  rcases h with (h | h) | h <;> simp [h]

theorem digit_toNat (c : Char) (h : isDigit c = true) : 48 ≤ c.toNat ∧ c.toNat ≤ 57 := by
  simpa [isDigit] using h

/-- the three kinds of plain character: digit, blank of the model, inert -/
theorem plainChar_cases (c : Char) (h : plainChar c = true) :
    isDigit c = true ∨ (c = ' ' ∨ c = '\t' ∨ c = '\n') ∨
      (isDigit c = false ∧ isWs c = false ∧ PyRtC14.isStrSpace c = false ∧ PyRtC14.digitVal? c = none) := by
  cases hd : isDigit c with
  | true => exact Or.inl rfl
  | false =>
    cases hw : isWs c with
    | true => exact Or.inr (Or.inl (isWs_cases c hw))
    | false =>
      simp only [plainChar, hd, hw, Bool.or_self, Bool.false_or, Bool.not_eq_true', Bool.or_eq_false_iff] at h
      exact Or.inr (Or.inr ⟨rfl, rfl, h.1.2, by simpa using h.2⟩)

theorem plain_space (c : Char) (h : plainChar c = true) :
    PyRtC14.isStrSpace c = isWs c ∧ PyRtC14.isIntSpace c = isWs c := by
  rcases plainChar_cases c h with hd | hb | ⟨-, hw, hs, -⟩
  · have hn := digit_toNat c hd
    have h2 : PyRtC14.isIntSpace c = false := by
      simp only [PyRtC14.isIntSpace, Bool.or_eq_false_iff, Bool.and_eq_false_iff, decide_eq_false_iff_not]
      omega
    have h3 : PyRtC14.isStrSpace c = false := by
      simp only [PyRtC14.isStrSpace, h2, Bool.false_or, Bool.and_eq_false_iff, decide_eq_false_iff_not]
      omega
    simp [digit_not_ws hd, h2, h3]
  · rcases hb with rfl | rfl | rfl <;> decide
  · have hi : PyRtC14.isIntSpace c = false := by
      simp only [PyRtC14.isStrSpace, Bool.or_eq_false_iff] at hs
      exact hs.1
    simp [hs, hi, hw]

theorem plain_digitVal (c : Char) (h : plainChar c = true) :
    PyRtC14.digitVal? c = if isDigit c = true then some (c.toNat - 48) else none := by
  rcases plainChar_cases c h with hd | hb | ⟨hd, -, -, hv⟩
  · have hn := digit_toNat c hd
    have : (decide (48 ≤ c.toNat) && decide (c.toNat < 48 + 10)) = true := by simp; omega
    unfold PyRtC14.digitVal? PyRtC14.zeroDigits
    simp only [List.findSome?_cons, this, if_true, hd]
  · rcases hb with rfl | rfl | rfl <;> decide
  · simp [hd, hv]

theorem plain_not_sign (c : Char) (h : plainChar c = true) : c ≠ '-' ∧ c ≠ '+' ∧ c ≠ '_' := by
  refine ⟨?_, ?_, ?_⟩ <;> (intro e; subst e; revert h; decide)

theorem dropWhile_congr {p q : Char → Bool} (l : Str) (h : ∀ c ∈ l, p c = q c) : l.dropWhile p = l.dropWhile q := by
  induction l with
  | nil => rfl
  | cons a t ih =>
    have ha := h a (by simp)
    simp only [List.dropWhile_cons, ha]
    split
    · exact ih (fun c hc => h c (by simp [hc]))
    · rfl

theorem plain_dropWhile (p : Char → Bool) (t : Str) (h : Plain t) : Plain (t.dropWhile p) :=
  fun c hc => h c ((List.dropWhile_sublist p).subset hc)

theorem stripBy_plain (p : Char → Bool) (t : Str) (h : Plain t) (hp : ∀ c, plainChar c = true → p c = isWs c) :
    PyRtC14.stripBy p t = strip t := by
  unfold PyRtC14.stripBy strip
  rw [dropWhile_congr t (fun c hc => hp c (h c hc))]
  have h2 : Plain (t.dropWhile isWs).reverse := fun c hc => plain_dropWhile isWs t h c (by simpa using hc)
  rw [dropWhile_congr _ (fun c hc => hp c (h2 c hc))]

theorem plain_strip (t : Str) (h : Plain t) : Plain (strip t) := by
  intro c hc
  unfold strip at hc
  have h1 : c ∈ ((t.dropWhile isWs).reverse.dropWhile isWs) := by simpa using hc
  have h2 := (List.dropWhile_sublist isWs).subset h1
  exact plain_dropWhile isWs t h c (by simpa using h2)

theorem rt_strip_plain (t : Str) (h : Plain t) : PyRtC14.strip t = strip t :=
  stripBy_plain _ t h (fun c hc => (plain_space c hc).1)

theorem digitsVal_plain (u : Str) (hu : Plain u) (acc : Nat) (pd : Bool) :
    PyRtC14.digitsVal? u acc pd =
      if u.all isDigit = true then
        (if u.isEmpty && !pd then none else some (u.foldl (fun a c => a * 10 + (c.toNat - 48)) acc))
      else none := by
  induction u generalizing acc pd with
  | nil => cases pd <;> simp [PyRtC14.digitsVal?]
  | cons c cs ih =>
    have hc := hu c (by simp)
    have hcs : Plain cs := fun x hx => hu x (by simp [hx])
    have hne := (plain_not_sign c hc).2.2
    simp only [PyRtC14.digitsVal?, hne, if_false, plain_digitVal c hc]
    by_cases hd : isDigit c = true
    · simp [hd, ih hcs]
    · simp [hd]

theorem rt_intOfStr_plain (t : Str) (h : Plain t) :
    PyRtC14.intOfStr? t = match pyInt? t with
      | some n => .ok (n : Int)
      | none => .error PyExc.ValueError := by
  have hs : PyRtC14.stripBy PyRtC14.isIntSpace t = strip t :=
    stripBy_plain _ t h (fun c hc => (plain_space c hc).2)
  have hp := plain_strip t h
  unfold PyRtC14.intOfStr? pyInt?
  simp only [hs]
  generalize strip t = u at hp ⊢
  have hsign : PyRtC14.signSplit u = (false, u) := by
    cases u with
    | nil => rfl
    | cons c r =>
      have hc := plain_not_sign c (hp c (by simp))
      simp [PyRtC14.signSplit, hc.1, hc.2.1]
  simp only [hsign, digitsVal_plain u hp, ofDigits]
  cases u with
  | nil => simp
  | cons c r => by_cases ha : (c :: r).all isDigit = true <;> simp [ha]

theorem rt_mapInt_plain (ps : List Str) (h : ∀ p ∈ ps, Plain p) :
    PyRtC14.mapInt? ps = match mapM? pyInt? ps with
      | some ns => .ok (castL ns)
      | none => .error PyExc.ValueError := by
  induction ps with
  | nil => rfl
  | cons p t ih =>
    have ih' := ih (fun q hq => h q (by simp [hq]))
    simp only [PyRtC14.mapInt?, mapM?, rt_intOfStr_plain p (h p (by simp)), ih']
    cases pyInt? p <;> cases mapM? pyInt? t <;> simp [castL]

theorem rt_isPrefix (a b : Str) : PyRtC14.isPrefix a b = isPre a b := by
  induction a generalizing b with
  | nil => cases b <;> rfl
  | cons x xs ih => cases b with
    | nil => rfl
    | cons y ys => simp [PyRtC14.isPrefix, isPre, ih]

theorem rt_splitGo (d : Str) (k : Nat) (cur s : Str) : PyRtC14.splitGo d k cur s = splitGo d k cur s := by
  induction s generalizing k cur with
  | nil => cases k <;> simp [PyRtC14.splitGo, splitGo]
  | cons c cs ih =>
    cases k with
    | zero => simp [PyRtC14.splitGo, splitGo, rt_isPrefix, ih]
    | succ k => simp [PyRtC14.splitGo, splitGo, ih]

theorem rt_split (s d : Str) (hd : d ≠ []) : PyRtC14.split? s d = .ok (splitOnS d s) := by
  cases d with
  | nil => exact absurd rfl hd
  | cons a r => simp [PyRtC14.split?, splitOnS, rt_splitGo]

theorem rt_containsSub (d s : Str) : PyRtC14.containsSub d s = containsS d s := by
  induction s with
  | nil => simp [PyRtC14.containsSub, containsS, rt_isPrefix]
  | cons c cs ih => simp [PyRtC14.containsSub, containsS, rt_isPrefix, ih]

theorem plain_split (d s : Str) (h : Plain s) : ∀ p ∈ splitOnS d s, Plain p := by
  intro p hp c hc
  rcases splitGo_mem d s 0 [] p hp c hc with h' | h'
  · simp at h'
  · exact h c h'

theorem range_natCast (lo stop : Nat) : PyRt.range (lo : Int) (stop : Int) 1 = castL (List.range' lo (stop - lo)) := by
  generalize hk : stop - lo = k
  induction k generalizing lo with
  | zero => rw [PyRt.range_from, if_neg (by omega)]; rfl
  | succ k ih =>
    rw [PyRt.range_from, if_pos (by omega), List.range'_succ]
    exact congrArg _ (ih (lo + 1) (by omega))

theorem range_succ_rangeIncl (lo hi : Nat) : PyRt.range (lo : Int) ((hi : Int) + 1) 1 = castL (rangeIncl lo hi) :=
  range_natCast lo (hi + 1)

/-! ### 5. the loop of `parse_int_list` on Python ints, against the model -/

/-- what one token contributes (the body of the `for x in …` loop) -/
def tokZ (rd t : Str) : Except PyExc (List Int) :=
  if PyRtC14.containsSub rd t = true then
    (PyRtC14.split? t rd).bind fun ps => (PyRtC14.mapInt? ps).bind fun lims =>
      (PyRtC14.minList? lims).bind fun lo => (PyRtC14.maxList? lims).bind fun hi =>
        .ok (PyRt.range lo (hi + 1) 1)
  else if t = [] then .ok []
  else (PyRtC14.intOfStr? t).bind fun n => .ok [n]

def parseLoopZ (rd : Str) : List Str → List Int → Except PyExc (List Int)
  | [], out => .ok out
  | t :: ts, out => match tokZ rd t with
    | .error e => .error e
    | .ok l => parseLoopZ rd ts (out ++ l)

def ofOpt (o : Option (List Nat)) : Except PyExc (List Int) :=
  match o with
  | some l => .ok (castL l)
  | none => .error PyExc.ValueError

theorem tokZ_model (rd t : Str) (hrd : rd ≠ []) (h : Plain t) : tokZ rd t = ofOpt (parseTokS rd t) := by
  unfold tokZ parseTokS
  rw [rt_containsSub]
  by_cases hc : containsS rd t = true
  · simp only [hc, if_true, rt_split t rd hrd, Except.bind, rt_mapInt_plain _ (plain_split rd t h)]
    cases hm : mapM? pyInt? (splitOnS rd t) with
    | none => rfl
    | some lims =>
      have hlen := mapM?_length _ _ _ hm
      have hne : lims ≠ [] := by
        intro e; subst e
        exact splitGo_ne_nil rd t 0 [] (List.length_eq_zero_iff.mp hlen.symm)
      have hne' : castL lims ≠ [] := by simpa [castL] using hne
      simp only [minList_eq _ hne', maxList_eq _ hne', castL, minZ_cast, maxZ_cast, range_succ_rangeIncl, ofOpt]
  · simp only [hc]
    by_cases he : t = []
    · subst he; rfl
    · have he' : t.isEmpty = false := List.isEmpty_eq_false_iff.mpr he
      simp only [if_neg he, he', rt_intOfStr_plain t h, Except.bind]
      cases pyInt? t <;> simp [ofOpt, castL]

theorem parseLoopZ_model (rd : Str) (hrd : rd ≠ []) (toks : List Str) (h : ∀ t ∈ toks, Plain t) (out : List Int) :
    parseLoopZ rd toks out = match mapM? (parseTokS rd) toks with
      | some ls => .ok (out ++ castL ls.flatten)
      | none => .error PyExc.ValueError := by
  induction toks generalizing out with
  | nil => simp [parseLoopZ, mapM?, castL]
  | cons t ts ih =>
    have ih' := fun o => ih (fun q hq => h q (by simp [hq])) o
    simp only [parseLoopZ, mapM?, tokZ_model rd t hrd (h t (by simp))]
    cases parseTokS rd t with
    | none => simp [ofOpt]
    | some l =>
      simp only [ofOpt, ih']
      cases mapM? (parseTokS rd) ts <;> simp [castL]

/-! ### 6. the generated `parse_int_list` -/

def ParseLoop (out : parse_int_list.St → List Int) : Prop :=
  ∀ (k kb : parse_int_list.St → Except PyExc (List Int)) (kexc : PyExc → parse_int_list.St → Except PyExc (List Int))
    (K : List Int → Except PyExc (List Int)), (∀ s, k s = K (out s)) → (∀ e s, kexc e s = .error e) →
    ∀ (toks : List Str) (s : parse_int_list.St),
      parse_int_list.loop1 k kb kexc toks s
        = (match parseLoopZ s.range_delim toks (out s) with
           | .error e => .error e
           | .ok o => K o)

theorem parseLoopZ_sorted (s d rd : Str) (hrd : rd ≠ []) (hs : Plain s) :
    (match parseLoopZ rd (splitOnS d (strip s)) [] with
      | .error e => .error e
      | .ok o => .ok (PyRt.sorted (fun c => c) false o)) = ofOpt (parseIntListS s d rd) := by
  simp only [parseLoopZ_model rd hrd _ (plain_split d _ (plain_strip s hs)), parseIntListS]
  cases mapM? (parseTokS rd) (splitOnS d (strip s)) with
  | none => rfl
  | some ls => simp only [List.nil_append, ofOpt, sorted_cast]

set_option hygiene false in
/-- `parse_tie out`: the tie proof, given which field of the generated state record holds `output` -/
local macro "parse_tie " out:term:max : tactic => `(tactic| (
  have hloop : ParseLoop fun s => $out := by
    intro k kb kexc K hk hexc toks
    induction toks with
    | nil => intro s; simp [parse_int_list.loop1, parseLoopZ, hk]
    | cons t ts ih =>
      intro s
      -- by the outcome of every runtime call of `tokZ`, in turn
      by_cases hc : PyRtC14.containsSub s.range_delim t = true
      · simp [parse_int_list.loop1, parseLoopZ, tokZ, ih, hexc, Except.bind, one_add_eq, hc]
        rcases PyRtC14.split? t s.range_delim with e | ps <;> dsimp only
        rcases PyRtC14.mapInt? ps with e | lims <;> dsimp only
        rcases PyRtC14.minList? lims with e | lo <;> dsimp only
        rcases PyRtC14.maxList? lims with e | hi <;> rfl
      · by_cases he : t = []
        · subst he
          simp [parse_int_list.loop1, parseLoopZ, tokZ, ih, hexc, Except.bind, hc]
        · simp [parse_int_list.loop1, parseLoopZ, tokZ, ih, hexc, Except.bind, hc, he]
          rcases PyRtC14.intOfStr? t with e | n <;> rfl
  unfold parse_int_list parse_int_list.body
  simp only [rt_strip_plain s hs, rt_split _ d hd]
  rw [hloop _ _ _ (fun o => .ok (PyRt.sorted (fun c => c) false o)) (fun _ => rfl) (fun _ _ => rfl)]
  exact parseLoopZ_sorted s d rd hrd hs))

/-- SOURCE TIE: on plain text (`Plain`) and non-empty delimiters the translated `parse_int_list` is the model's
    `parseIntListS`: the same sorted list, `ValueError` exactly when the model says so -/
theorem src_parse_int_list_eq_model (s d rd : Str) (hd : d ≠ []) (hrd : rd ≠ []) (hs : Plain s) :
    parse_int_list s d rd = ofOpt (parseIntListS s d rd) := by
  first
  | parse_tie (s.loc1)
  | parse_tie (s.loc2)
  | parse_tie (s.loc3)
  | fail "parse_int_list: no candidate layout of the generated state makes the loop the model's token loop"

/-- plain text with blanks, string delimiters, a reversed range, an empty token; and a ValueError -/
example : Plain " 1;3; 8..5;;10..11 ".toList := by decide
example : parse_int_list " 1;3; 8..5;;10..11 ".toList [';'] ['.', '.'] = .ok [1, 3, 5, 6, 7, 8, 10, 11] := by
  decide +kernel
example : parse_int_list "1,x".toList [','] ['-'] = .error PyExc.ValueError := by decide +kernel
-- outside `Plain`, inside the translation: Python accepts a sign, an underscore, digits of other scripts
example : ¬ Plain "+1_0".toList := by decide
example : parse_int_list "+1_0,٣".toList [','] ['-'] = .ok [3, 10] := by decide +kernel

/-- the SOURCE raises `ValueError` exactly when the model's `parseIntListS` is `none` -/
theorem src_parse_raises_iff (s d rd : Str) (hd : d ≠ []) (hrd : rd ≠ []) (hs : Plain s) :
    parse_int_list s d rd = .error PyExc.ValueError ↔ parseIntListS s d rd = none := by
  rw [src_parse_int_list_eq_model s d rd hd hrd hs]
  cases parseIntListS s d rd <;> simp [ofOpt]

/-! ## `complement_int_list`

### 7. sets of Python ints (`PyRt.Set`, `PyRtC14.setDiff`) against lists of naturals -/

theorem add_of_mem (s : PyRt.Set Int) (y : Int) (h : y ∈ PyRt.Set.toList s) : PyRt.Set.add s y = s := if_pos h

theorem toList_add_of_not_mem (s : PyRt.Set Int) (y : Int) (h : ¬ y ∈ PyRt.Set.toList s) :
    PyRt.Set.toList (PyRt.Set.add s y) = PyRt.Set.toList s ++ [y] := by
  have e : PyRt.Set.add s y = (PyRt.Set.toList s ++ [y] : List Int) := if_neg h
  rw [e]; rfl

theorem mem_add (s : PyRt.Set Int) (y x : Int) :
    x ∈ PyRt.Set.toList (PyRt.Set.add s y) ↔ x ∈ PyRt.Set.toList s ∨ x = y := by
  by_cases hy : y ∈ PyRt.Set.toList s
  · rw [add_of_mem _ _ hy]; exact ⟨Or.inl, fun h => h.elim id (· ▸ hy)⟩
  · rw [toList_add_of_not_mem _ _ hy, List.mem_append, List.mem_singleton]

theorem mem_foldl_add (l : List Int) (x : Int) : ∀ acc : PyRt.Set Int,
    x ∈ PyRt.Set.toList (l.foldl (fun acc y => PyRt.Set.add acc y) acc) ↔ x ∈ PyRt.Set.toList acc ∨ x ∈ l := by
  induction l with
  | nil => intro acc; simp
  | cons y t ih => intro acc; rw [List.foldl_cons, ih, mem_add, List.mem_cons, or_assoc]

theorem mem_ofList (l : List Int) (x : Int) : x ∈ PyRt.Set.toList (PyRt.Set.ofList l) ↔ x ∈ l := by
  unfold PyRt.Set.ofList
  rw [mem_foldl_add]
  simp [PyRt.Set.empty, PyRt.Set.toList]

theorem mem_castL (l : List Nat) (x : Nat) : (x : Int) ∈ castL l ↔ x ∈ l := by
  simp only [castL, List.mem_map]
  constructor
  · rintro ⟨a, ha, e⟩
    have : a = x := by omega
    exact this ▸ ha
  · exact fun h => ⟨x, h, rfl⟩

theorem ofList_range (n : Nat) : PyRt.Set.toList (PyRt.Set.ofList (castL (List.range n))) = castL (List.range n) := by
  induction n with
  | zero => rfl
  | succ n ih =>
    have hn : ¬ (n : Int) ∈ PyRt.Set.toList (PyRt.Set.ofList (castL (List.range n))) := by
      rw [mem_ofList, mem_castL]; simp
    simp only [List.range_succ, castL, List.map_append, List.map_cons, List.map_nil, PyRt.Set.ofList,
      List.foldl_append, List.foldl_cons, List.foldl_nil] at ih hn ⊢
    rw [toList_add_of_not_mem _ _ hn, ih]

theorem range_zero_toNat (E : Int) : PyRt.range 0 E 1 = castL (List.range E.toNat) := by
  by_cases h : 0 ≤ E
  · have := range_natCast 0 E.toNat
    rwa [Int.toNat_of_nonneg h, Nat.sub_zero, ← List.range_eq_range'] at this
  · rw [PyRt.range_from, if_neg (by omega), show E.toNat = 0 by omega]; rfl

/-- the set expression of `complement_int_list`, as a list -/
theorem complement_values (l : List Nat) (E a : Int) :
    PyRt.Set.toList (PyRtC14.setDiff (PyRtC14.setDiff (PyRt.Set.ofList (PyRt.range 0 E 1)) (PyRt.Set.ofList (castL l)))
      (PyRt.Set.ofList (PyRt.range 0 a 1)))
      = castL (windowGaps l a E) := by
  simp only [range_zero_toNat, windowGaps]
  unfold PyRtC14.setDiff
  -- a set difference filters the list of its left operand; a range has no repeats, so the set made of it lists it in order
  show List.filter _ (List.filter _ (PyRt.Set.toList (PyRt.Set.ofList (castL (List.range E.toNat))))) = _
  rw [ofList_range]
  simp only [castL, List.filter_map, List.filter_filter]
  congr 1
  apply List.filter_congr
  intro x _
  have h1 : PyRt.Set.contains (PyRt.Set.ofList (castL l)) (x : Int) = l.contains x := by
    simp only [PyRt.Set.contains]
    rw [Bool.eq_iff_iff]
    simp only [decide_eq_true_eq, mem_ofList, mem_castL, List.contains_iff_mem]
  have h2 : PyRt.Set.contains (PyRt.Set.ofList (castL (List.range a.toNat))) (x : Int) = decide ((x : Int) < a) := by
    simp only [PyRt.Set.contains]
    rw [Bool.eq_iff_iff]
    simp only [decide_eq_true_eq, mem_ofList, mem_castL, List.mem_range]
    omega
  simp only [castL] at h1 h2
  simp only [Function.comp, h1, h2, Bool.and_comm]

theorem maxZ_eq_iff (m : List Int) (h : m ≠ []) (a : Int) : maxZ m = a ↔ a ∈ m ∧ ∀ b ∈ m, b ≤ a := by
  have e : (fun a b : Int => if a < b then b else a) = max := by
    funext a b; rw [Int.max_def]; split <;> split <;> omega
  cases m with
  | nil => exact absurd rfl h
  | cons x xs => rw [← List.max?_eq_some_iff, List.max?_cons', Option.some.injEq, maxZ, e]

/-- `max(int_list)`, `int_list` being the set of `l` -/
theorem set_max (l : List Nat) (h : l ≠ []) :
    PyRtC14.maxList? (PyRt.Set.toList (PyRt.Set.ofList (castL l))) = .ok ((lmax l : Nat) : Int) := by
  obtain ⟨hm, hub⟩ := (lmax_eq_iff l h _).mp rfl
  have hmem : ((lmax l : Nat) : Int) ∈ PyRt.Set.toList (PyRt.Set.ofList (castL l)) :=
    (mem_ofList _ _).mpr ((mem_castL l _).mpr hm)
  rw [maxList_eq _ (List.ne_nil_of_mem hmem), (maxZ_eq_iff _ (List.ne_nil_of_mem hmem) _).mpr ⟨hmem, fun b hb => ?_⟩]
  obtain ⟨n, hn, rfl⟩ := List.mem_map.mp ((mem_ofList _ _).mp hb)
  exact Int.ofNat_le.mpr (hub n hn)

theorem set_isEmpty (l : List Nat) : PyRt.Set.isEmpty (PyRt.Set.ofList (castL l)) = l.isEmpty := by
  cases l with
  | nil => rfl
  | cons a t =>
    have := (mem_ofList (castL (a :: t)) (a : Int)).mpr (by simp [castL])
    simp only [PyRt.Set.isEmpty, List.isEmpty_cons]
    cases hq : PyRt.Set.toList (PyRt.Set.ofList (castL (a :: t))) with
    | nil => rw [hq] at this; exact absurd this (by simp)
    | cons _ _ => rfl

def ofOptS (o : Option Str) : Except PyExc Str :=
  match o with
  | some t => .ok t
  | none => .error PyExc.ValueError

/-- SOURCE TIE: `complement_int_list` (a call of the translated `parse_int_list`, set arithmetic, a call of the
    translated `format_int_list`) is the model's `complementIntListS`, through the two ties above -/
theorem src_complement_int_list_eq_model (s d rd : Str) (a : Int) (e : Option Int) (hd : d ≠ []) (hrd : rd ≠ [])
    (hs : Plain s) :
    complement_int_list s a e d rd = ofOptS (complementIntListS s a e d rd) := by
  unfold complement_int_list complement_int_list.body complementIntListS
  simp only [src_parse_int_list_eq_model s d rd hd hrd hs]
  cases parseIntListS s d rd with
  | none => rfl
  | some l =>
    have hfmt := fun (m : List Nat) => src_format_int_list_eq_model m d rd false
    cases e with
    | some E =>
      simp [ofOpt, ofOptS, complement_values, windowGaps, PyRt.unwrap, hfmt, castL]
    | none =>
      by_cases hl : l = []
      · subst hl
        have hc0 := complement_values [] a a
        have he0 := set_isEmpty []
        simp only [castL, List.map_nil] at hc0 he0
        simp [ofOpt, ofOptS, hc0, he0, windowGaps, hfmt, castL]
      · have hl' : l.isEmpty = false := List.isEmpty_eq_false_iff.mpr hl
        have hm := set_max l hl
        have hc := complement_values l ((lmax l : Int) + 1) a
        simp [ofOpt, ofOptS, hc, windowGaps, hfmt, castL, set_isEmpty, hl', hm]

/-- the docstring examples of the source -/
example : complement_int_list "1,3,5-8,10-11,15".toList 0 none [','] ['-'] = .ok "0,2,4,9,12-14".toList := by
  decide +kernel
example : complement_int_list "1,3,5-8,10-11,15".toList 2 (some 20) [','] ['-'] = .ok "2,4,9,12-14,16-19".toList := by
  decide +kernel
example : complement_int_list "1,x".toList 0 none [','] ['-'] = .error PyExc.ValueError := by decide +kernel

/-- the SOURCE returns the model's text, the `t` of `Props.complement_exact_strdelims` -/
theorem src_complement_exact (d rd : Str) (ok : DelimOKS d rd) (s : Str) (l : List Nat) (a e : Int) (hs : Plain s)
    (hd : d ≠ []) (hrd : rd ≠ []) (h : parseIntListS s d rd = some l) :
    ∃ t, complement_int_list s a (some e) d rd = .ok t ∧ complementIntListS s a (some e) d rd = some t := by
  rw [src_complement_int_list_eq_model s d rd a (some e) hd hrd hs]
  simp only [complementIntListS, h]
  exact ⟨_, rfl, rfl⟩

/-! ## `int_ranges_from_int_list`

### 8. the `bounds` loop on Python ints, against the model's `boundsTok` -/

theorem plain_of_digits (t : Str) (h : ∀ c ∈ t, isDigit c = true) : Plain t :=
  fun c hc => by simp [plainChar, h c hc]

/-- one `bounds` token (the body of the `for bounds in …` loop) -/
def boundsZ (b : Str) : Except PyExc (Int × Int) :=
  if PyRtC14.containsSub ['-'] b = true then
    (PyRtC14.split? b ['-']).bind fun ps => (PyRtC14.unpack2? ps).bind fun p =>
      (PyRtC14.intOfStr? p.1).bind fun x => (PyRtC14.intOfStr? p.2).bind fun y => .ok (x, y)
  else (PyRtC14.intOfStr? b).bind fun x => (PyRtC14.intOfStr? b).bind fun y => .ok (x, y)

def rangesLoopZ : List Str → List (Int × Int) → Except PyExc (List (Int × Int))
  | [], out => .ok out
  | b :: bs, out => match boundsZ b with
    | .error e => .error e
    | .ok r => rangesLoopZ bs (out ++ [r])

abbrev castP (rs : List (Nat × Nat)) : List (Int × Int) := rs.map fun r => ((r.1 : Int), (r.2 : Int))

theorem boundsZ_model (b : Str) (hb : ∀ p ∈ splitOn '-' b, Plain p) :
    boundsZ b = match boundsTok b with
      | some r => .ok ((r.1 : Int), (r.2 : Int))
      | none => .error PyExc.ValueError := by
  unfold boundsZ boundsTok
  rw [rt_containsSub, containsS_single]
  by_cases hc : b.contains '-' = true
  · simp only [hc, if_true, rt_split b ['-'] (by simp), splitOnS_single, Except.bind]
    rcases hq : splitOn '-' b with _ | ⟨x, _ | ⟨y, _ | ⟨z, r⟩⟩⟩
    · rfl
    · rfl
    · rw [hq] at hb
      simp only [PyRtC14.unpack2?, rt_intOfStr_plain x (hb x (by simp)), rt_intOfStr_plain y (hb y (by simp))]
      cases pyInt? x <;> cases pyInt? y <;> rfl
    · rfl
  · have hp : Plain b := hb b (by rw [splitOn_none '-' b (by simpa using hc)]; simp)
    simp only [hc, rt_intOfStr_plain b hp, Except.bind]
    cases pyInt? b <;> rfl

theorem rangesLoopZ_model (toks : List Str) (h : ∀ b ∈ toks, ∀ p ∈ splitOn '-' b, Plain p) (out : List (Int × Int)) :
    rangesLoopZ toks out = match mapM? boundsTok toks with
      | some rs => .ok (out ++ castP rs)
      | none => .error PyExc.ValueError := by
  induction toks generalizing out with
  | nil => simp [rangesLoopZ, mapM?, castP]
  | cons b bs ih =>
    have ih' := fun o => ih (fun q hq => h q (by simp [hq])) o
    simp only [rangesLoopZ, mapM?, boundsZ_model b (h b (by simp))]
    cases boundsTok b with
    | none => simp
    | some r =>
      simp only [ih']
      cases mapM? boundsTok bs <;> simp [castP]

/-- the pieces of the tokens of `format_int_list(l)` (default delimiters) are decimal numerals -/
theorem format_tokens_plain (l : List Nat) (he : formatIntList l ≠ []) :
    ∀ b ∈ splitOn ',' (formatIntList l), ∀ p ∈ splitOn '-' b, Plain p := by
  rw [splitOn_format l he]
  intro b hb p hp
  obtain ⟨r, -, rfl⟩ := List.mem_map.mp hb
  rw [renderRange_eq, splitOn_renderRange '-' (by decide)] at hp
  apply plain_of_digits
  split at hp <;> simp only [List.mem_cons, List.mem_nil_iff, or_false] at hp
  · subst hp; exact toDigits_digits _
  · rcases hp with rfl | rfl <;> exact toDigits_digits _

def ofOptP (o : Option (List (Nat × Nat))) : Except PyExc (List (Int × Int)) :=
  match o with
  | some rs => .ok (castP rs)
  | none => .error PyExc.ValueError

/-! ### 9. the generated `int_ranges_from_int_list` -/

def RangesLoop (out : int_ranges_from_int_list.St → List (Int × Int)) : Prop :=
  ∀ (k kb : int_ranges_from_int_list.St → Except PyExc (List (Int × Int)))
    (kexc : PyExc → int_ranges_from_int_list.St → Except PyExc (List (Int × Int)))
    (K : List (Int × Int) → Except PyExc (List (Int × Int))), (∀ s, k s = K (out s)) → (∀ e s, kexc e s = .error e) →
    ∀ (toks : List Str) (s : int_ranges_from_int_list.St),
      int_ranges_from_int_list.loop1 k kb kexc toks s
        = (match rangesLoopZ toks (out s) with
           | .error e => .error e
           | .ok o => K o)

theorem rangesLoopZ_format (l : List Nat) (he : formatIntList l ≠ []) :
    (match rangesLoopZ (splitOn ',' (formatIntList l)) [] with
      | .error e => .error e
      | .ok o => .ok o) = ofOptP (mapM? boundsTok (splitOn ',' (formatIntList l))) := by
  simp only [rangesLoopZ_model _ (format_tokens_plain l he)]
  cases mapM? boundsTok (splitOn ',' (formatIntList l)) <;> simp [ofOptP]

set_option hygiene false in
local macro "ranges_tie " out:term:max : tactic => `(tactic| (
  have hloop : RangesLoop fun s => $out := by
    intro k kb kexc K hk hexc toks
    induction toks with
    | nil => intro s; simp [int_ranges_from_int_list.loop1, rangesLoopZ, hk]
    | cons t ts ih =>
      intro s
      by_cases hc : PyRtC14.containsSub ['-'] t = true
      · simp [int_ranges_from_int_list.loop1, rangesLoopZ, boundsZ, ih, hexc, Except.bind, hc]
        rcases PyRtC14.split? t ['-'] with e | ps <;> dsimp only
        rcases PyRtC14.unpack2? ps with e | p <;> dsimp only
        rcases PyRtC14.intOfStr? p.1 with e | x <;> dsimp only
        rcases PyRtC14.intOfStr? p.2 with e | y <;> rfl
      · simp [int_ranges_from_int_list.loop1, rangesLoopZ, boundsZ, ih, hexc, Except.bind, hc]
        rcases PyRtC14.intOfStr? t with e | x <;> rfl
  unfold int_ranges_from_int_list int_ranges_from_int_list.body intRangesS
  simp only [src_parse_int_list_eq_model s d rd hd hrd hs]
  cases parseIntListS s d rd with
  | none => rfl
  | some l =>
    have hfmt := src_format_int_list_eq_model l [','] ['-'] false
    simp only [ofOpt, castL, hfmt, formatS_single]
    by_cases he : formatIntList l = []
    · simp [he, ofOptP, castP]
    · have he' : (formatIntList l).isEmpty = false := by simpa using he
      simp only [he, he', rt_split _ [','] (by simp), splitOnS_single, ne_eq, not_false_eq_true, if_true]
      rw [hloop _ _ _ (fun o => .ok o) (fun _ => rfl) (fun _ _ => rfl)]
      exact rangesLoopZ_format l he))

/-- SOURCE TIE: `int_ranges_from_int_list` (calls of the translated `parse_int_list` and `format_int_list`, then the
    `bounds` loop over the normalised text) is the model's `intRangesS` -/
theorem src_int_ranges_from_int_list_eq_model (s d rd : Str) (hd : d ≠ []) (hrd : rd ≠ []) (hs : Plain s) :
    int_ranges_from_int_list s d rd = ofOptP (intRangesS s d rd) := by
  first
  | ranges_tie (s.loc1)
  | ranges_tie (s.loc2)
  | fail "int_ranges_from_int_list: no candidate layout of the generated state works"

example : int_ranges_from_int_list "1,3,5-8,10-11,15".toList [','] ['-']
    = .ok [(1, 1), (3, 3), (5, 8), (10, 11), (15, 15)] := by decide +kernel
example : int_ranges_from_int_list "".toList [','] ['-'] = .ok [] := by decide +kernel

/-- `Props.int_ranges_exact_strdelims` about what the SOURCE returns: canonical runs covering exactly the parsed numbers -/
theorem src_int_ranges_exact (d rd : Str) (s : Str) (l : List Nat) (hd : d ≠ []) (hrd : rd ≠ []) (hs : Plain s)
    (h : parseIntListS s d rd = some l) :
    ∃ rs, int_ranges_from_int_list s d rd = .ok (castP rs) ∧ Canon rs ∧ ∀ x, Covers rs x ↔ x ∈ l := by
  obtain ⟨rs, h1, h2, h3⟩ := int_ranges_exact_strdelims d rd s l h
  exact ⟨rs, by rw [src_int_ranges_from_int_list_eq_model s d rd hd hrd hs, h1]; rfl, h2, h3⟩

/-! ## `args2sh`

### 10. `str.replace`, the regenerated character class -/

theorem rt_replaceGo_sq (splice a : Str) : PyRtC14.replaceGo ['\''] splice 0 a = replSqWith splice a := by
  induction a with
  | nil => rfl
  | cons c cs ih =>
    by_cases hc : c = '\''
    · subst hc; simp [PyRtC14.replaceGo, PyRtC14.isPrefix, replSqWith, sq, ih]
    · have hc' : ¬ ('\'' = c) := fun e => hc e.symm
      simp [PyRtC14.replaceGo, PyRtC14.isPrefix, replSqWith, sq, ih, hc, hc']

theorem rt_replace_sq (splice a : Str) : PyRtC14.replace a ['\''] splice = replSqWith splice a := by
  simp [PyRtC14.replace, rt_replaceGo_sq]

/-- the table the translator computes from the regex (`allInRanges <table>`) against the model's `allSafe`, whose table
    `Gen.shSafeRanges` the C14 harness regenerates from the same regex: equal as soon as the two tables are -/
theorem rt_allInRanges (rs : List (Nat × Nat)) (h : rs = Gen.shSafeRanges) (a : Str) :
    PyRtC14.allInRanges rs a = allSafe a := by
  subst h; rfl

/-! ### 11. the generated `args2sh` -/

set_option hygiene false in
local macro "sh_tie " out:term:max : tactic => `(tactic| (
  refine (fun (hloop : ∀ (k kb : args2sh.St → Except PyExc Str) (kexc : PyExc → args2sh.St → Except PyExc Str)
      (K : List Str → Except PyExc Str), (∀ s : args2sh.St, k s = K $out) →
      ∀ (xs : List Str) (s : args2sh.St), args2sh.loop1 k kb kexc xs s = K ($out ++ xs.map shQuote)) => ?_) ?_
  · unfold Src.strutils.args2sh args2sh.body
    simp only []
    rw [hloop _ _ _ (fun o => .ok (PyRtC14.join [' '] o)) (fun _ => rfl)]
    simp [rt_join, C14.args2sh]
  · intro k kb kexc K hk xs
    induction xs with
    | nil => intro s; simp [args2sh.loop1, hk]
    | cons x xs ih =>
      intro s
      -- the model's class test, spelled with the regenerated table as a literal (what the generated text contains)
      have hs2 := (rt_allInRanges Gen.shSafeRanges rfl x).symm
      simp only [Gen.shSafeRanges] at hs2
      by_cases hx : x = [] <;> by_cases hsafe : allSafe x = true <;>
        (try rw [hs2] at hsafe) <;>
        simp [args2sh.loop1, ih, shQuote, shQuoteWith, sq, sqSplice, Gen.shSqSplice, rt_replace_sq,
          hs2, hx, hsafe, List.append_assoc]))

/-- SOURCE TIE: the translated `args2sh` is the model's `args2sh` (the `sep` parameter is ignored by the code), with
    the character class read off the regex by the translator and the splice text as written in the source -/
theorem src_args2sh_eq_model (args : List Str) (sep : Str) :
    Src.strutils.args2sh args sep = .ok (C14.args2sh args) := by
  first
  | sh_tie (s.loc1)
  | sh_tie (s.loc2)
  | fail "args2sh: no candidate layout of the generated state works"

example : Src.strutils.args2sh ["aa".toList, "[bb]".toList, "cc'cc".toList, "dd\"dd".toList, []] [' ']
    = .ok "aa '[bb]' 'cc'\"'\"'cc' 'dd\"dd' ''".toList := by decide +kernel

/-- `Props.sh_roundtrip` about the text the SOURCE produces: a POSIX shell reads it back as exactly `args` -/
theorem src_args2sh_parses_back (args : List Str) (h : NoNul args) (sep : Str) :
    ∃ t, Src.strutils.args2sh args sep = .ok t ∧ shSplit t = some args ∧ shAccepts t args = true :=
  ⟨_, src_args2sh_eq_model args sep, sh_roundtrip args h, sh_model_accepted args h⟩

/-! ## `args2cmd`

### 12. the generated `args2cmd`

`result` is a LIST of strings joined at the end and `bs_buf` a list of one-character strings, so the twin works
on PIECES (`cmdInnerL` / `cmdArgL` / `cmdOuterL`); two loop facts, proved inside the tactic `cmd_tie r b c` for a candidate
layout of the generated state record, say "the generated loops compute the twin" (the inner loop hands its continuation
the state with `result` / `bs_buf` / `c` replaced; the outer loop, for a continuation that reads `result` only, returns
`K (cmdOuterL result args)`) — case split on the DATA (which character, is `bs_buf` empty, does the argument need quotes),
`simp` evaluates both sides; the rest is model against twin: flattening the pieces gives `cmdGo` / `cmdArgQ needQuote` /
`args2cmdQ needQuote`. -/

/-- `'\\' * (2 * len(bs_buf))` -/
def bsPiece (b : List Str) : Str := List.replicate (2 * b.length) '\\'

/-- twin of the `for c in arg` loop of `args2cmd` on PIECES: `r` = `result` (a list of strings, joined at the end),
    `b` = `bs_buf` (a list of one-character strings) -/
def cmdInnerL : List Str → List Str → Str → List Str × List Str
  | r, b, [] => (r, b)
  | r, b, c :: cs =>
    if c = '\\' then cmdInnerL r (b ++ [[c]]) cs
    else if c = '"' then cmdInnerL (r ++ [bsPiece b] ++ [['\\', '"']]) [] cs
    else cmdInnerL ((if b ≠ [] then r ++ b else r) ++ [[c]]) [] cs

/-- the spellings of "twice as many backslashes as `bs_buf` holds" -/
theorem rt_bs2_a (b : List Str) : PyRtC14.repeatStr (PyRtC14.repeatStr ['\\'] (PyRt.len b)) 2 = bsPiece b := by
  have e2 : (2 : Int).toNat = 2 := rfl
  simp [PyRtC14.repeatStr, len_eq, e2, bsPiece, List.replicate_succ, Nat.two_mul]
theorem rt_bs2_b (b : List Str) : PyRtC14.repeatStr ['\\'] (2 * PyRt.len b) = bsPiece b := by
  have e : ((2 : Int) * (b.length : Int)).toNat = 2 * b.length := by omega
  simp [PyRtC14.repeatStr, len_eq, e, bsPiece]
theorem rt_bs2_c (b : List Str) : PyRtC14.repeatStr ['\\'] (PyRt.len b * 2) = bsPiece b := by
  have e : ((b.length : Int) * 2).toNat = 2 * b.length := by omega
  simp [PyRtC14.repeatStr, len_eq, e, bsPiece]

/-- the loop variable after `for c in <string>` -/
def lastC : Str → Str → Str
  | d, [] => d
  | _, c :: cs => lastC [c] cs

/-- one iteration of `for arg in args` (after the separating blank) -/
def cmdArgL (r : List Str) (a : Str) : List Str :=
  let p := cmdInnerL (if needQuote a = true then r ++ [['"']] else r) [] a
  let r1 := if p.2 ≠ [] then p.1 ++ p.2 else p.1
  if needQuote a = true then r1 ++ p.2 ++ [['"']] else r1

def cmdOuterL : List Str → List Str → List Str
  | r, [] => r
  | r, a :: as => cmdOuterL (cmdArgL (if r ≠ [] then r ++ [[' ']] else r) a) as

theorem chars_cons (c : Char) (cs : Str) : PyRtC14.chars (c :: cs) = [c] :: PyRtC14.chars cs := rfl

theorem needquote_src (a : Str) :
    decide ((PyRtC14.containsSub [' '] a = true) ∨ (PyRtC14.containsSub [Char.ofNat 9] a = true) ∨ (¬ (a ≠ [])))
      = needQuote a := by
  cases a <;> simp [rt_containsSub, containsS_single, needQuote]

theorem bsPiece_replicate (n : Nat) : bsPiece (List.replicate n ['\\']) = bs (n * 2) := by
  simp [bsPiece, bs, bsl, Nat.mul_comm]

theorem ite_ne_nil_append {α : Type} (r b : List α) : (if b ≠ [] then r ++ b else r) = r ++ b := by
  cases b <;> simp

/-- the text written once the `for c in arg` loop is over and `bs_buf` is flushed (a second time before the closing quote, when
    quoting); `p` = (`result`, `bs_buf`) -/
def cmdFlushL (q : Bool) (p : List Str × List Str) : Str :=
  p.1.flatten ++ p.2.flatten ++ (if q = true then p.2.flatten ++ [dq] else [])

/-- `bs_buf` is always a run of backslashes, `n` of them where the loop starts -/
theorem cmdInnerL_spec (q : Bool) (cs : Str) : ∀ (r : List Str) (n : Nat),
    cmdFlushL q (cmdInnerL r (List.replicate n ['\\']) cs) = r.flatten ++ cmdGo q n cs := by
  induction cs with
  | nil => intro r n; simp [cmdFlushL, cmdInnerL, cmdGo, bs, bsl]
  | cons c cs ih =>
    intro r n
    by_cases h1 : c = '\\'
    · subst h1
      simpa [cmdInnerL, List.replicate_succ', cmdGo, bsl] using ih r (n + 1)
    · by_cases h2 : c = '"'
      · subst h2
        simpa [cmdInnerL, bsPiece_replicate, cmdGo, bsl, dq, List.append_assoc] using
          ih (r ++ [bs (n * 2)] ++ [['\\', '"']]) 0
      · simp only [cmdInnerL, h1, h2, if_false, ite_ne_nil_append]
        simpa [cmdGo, h1, h2, bsl, dq, bs, List.append_assoc] using ih (r ++ List.replicate n ['\\'] ++ [[c]]) 0

theorem cmdArgL_flatten (r : List Str) (a : Str) :
    (cmdArgL r a).flatten = r.flatten ++ cmdArgQ needQuote a := by
  unfold cmdArgL cmdArgQ
  simp only [ite_ne_nil_append]
  by_cases hq : needQuote a = true
  · simpa [hq, cmdFlushL, dq] using cmdInnerL_spec true a (r ++ [['"']]) 0
  · simpa [hq, cmdFlushL] using cmdInnerL_spec false a r 0

theorem cmdOuterL_flatten : ∀ (as : List Str) (r : List Str), r.flatten ≠ [] →
    (cmdOuterL r as).flatten = join [' '] (r.flatten :: as.map (cmdArgQ needQuote)) := by
  intro as
  induction as with
  | nil => intro r _; rfl
  | cons a as ih =>
    intro r hr
    have hr2 : r ≠ [] := by intro h; subst h; simp at hr
    simp only [cmdOuterL, hr2, ne_eq, not_false_eq_true, if_true]
    rw [ih _ (by rw [cmdArgL_flatten]; simp), cmdArgL_flatten, List.map_cons, ← join_absorb]
    simp

theorem cmdOuterL_nil (args : List Str) : (cmdOuterL [] args).flatten = args2cmdQ needQuote args := by
  cases args with
  | nil => rfl
  | cons a as =>
    have hne : (cmdArgL [] a).flatten ≠ [] := by
      rw [cmdArgL_flatten]; simpa using cmdArgQ_ne_nil needQuote (fun _ h => h) a
    simp only [cmdOuterL, ne_eq, not_true_eq_false, if_false]
    rw [cmdOuterL_flatten _ _ hne, cmdArgL_flatten]
    rfl

theorem rt_join_nil (l : List Str) : PyRtC14.join [] l = l.flatten := by
  induction l with
  | nil => rfl
  | cons a t ih =>
    cases t with
    | nil => simp [PyRtC14.join]
    | cons b r => simp only [PyRtC14.join, ih]; simp

open Lean in
set_option hygiene false in
/-- `cmd_tie r b c`: the tie of `args2cmd` for the layout of the generated state record in which the fields `r` / `b` / `c`
    hold `result` / `bs_buf` / the inner loop variable -/
local macro "cmd_tie " r:ident b:ident c:ident : tactic => do
  let sr := mkIdent (`s ++ r.getId)
  let sb := mkIdent (`s ++ b.getId)
  let sc := mkIdent (`s ++ c.getId)
  `(tactic| (
    -- the inner loop hands its continuation the state with `result` / `bs_buf` / `c` replaced by the twin's values
    have h2 : ∀ (k kb : args2cmd.St → Except PyExc Str) (kexc : PyExc → args2cmd.St → Except PyExc Str)
        (cs : Str) (s : args2cmd.St), args2cmd.loop2 k kb kexc (PyRtC14.chars cs) s =
          k { s with $r:ident := (cmdInnerL $sr $sb cs).1, $b:ident := (cmdInnerL $sr $sb cs).2,
                     $c:ident := lastC $sc cs } := by
      intro k kb kexc cs
      induction cs with
      | nil => intro s; simp [PyRtC14.chars, args2cmd.loop2, cmdInnerL, lastC]
      | cons c cs ih =>
        intro s
        rw [chars_cons]
        by_cases h1 : c = '\\' <;> by_cases h2 : c = '"' <;> by_cases h3 : $sb = [] <;>
          simp [args2cmd.loop2, ih, cmdInnerL, lastC, rt_bs2_a, rt_bs2_b, rt_bs2_c, h1, h2, h3]
    -- the outer loop, for a continuation that reads `result` only
    have h1 : ∀ (k kb : args2cmd.St → Except PyExc Str) (kexc : PyExc → args2cmd.St → Except PyExc Str)
        (K : List Str → Except PyExc Str), (∀ s : args2cmd.St, k s = K $sr) →
        ∀ (xs : List Str) (s : args2cmd.St), args2cmd.loop1 k kb kexc xs s = K (cmdOuterL $sr xs) := by
      intro k kb kexc K hk xs
      induction xs with
      | nil => intro s; simp [args2cmd.loop1, hk, cmdOuterL]
      | cons x xs ih =>
        intro s
        simp only [args2cmd.loop1, h2, ih, cmdOuterL, cmdArgL]
        first
        | (simp only [needquote_src]
           by_cases hr : $sr = [] <;> by_cases hq : needQuote x = true <;> simp [hr, hq] <;>
             split <;> simp_all)
        | (-- the decision spelled differently: decide it atom by atom
           have ht : Char.ofNat 9 = '\t' := rfl
           by_cases hr : $sr = [] <;> by_cases ha : ' ' ∈ x <;> by_cases hb : '\t' ∈ x <;> by_cases hc : x = [] <;>
             simp [needQuote, rt_containsSub, containsS_single, ht, hr, ha, hb, hc] <;>
             (try (split <;> simp_all)))
    unfold Src.strutils.args2cmd args2cmd.body
    simp only []
    rw [h1 _ _ _ (fun o => .ok (PyRtC14.join [] o)) (fun _ => rfl)]
    simp [rt_join_nil, cmdOuterL_nil]))

/-- SOURCE TIE: the translated `args2cmd` never raises and writes the model's text, with the SOURCE's own
    "wrap in double quotes" decision (`(" " in arg) or ("\t" in arg) or not arg` = `needQuote`); `sep` is ignored by
    the code.  No regenerated table is involved.  The candidates are layouts of the generated state record (locals are
    numbered in the order of their first binding). -/
theorem src_args2cmd_eq_modelQ (args : List Str) (sep : Str) :
    Src.strutils.args2cmd args sep = .ok (args2cmdQ needQuote args) := by
  first
  | cmd_tie loc1 loc4 loc5
  | cmd_tie loc1 loc3 loc5
  | cmd_tie loc1 loc3 loc4
  | cmd_tie loc1 loc2 loc5
  | cmd_tie loc1 loc2 loc4
  | fail "args2cmd: no candidate layout of the generated state works"

/-- the class the C14 harness regenerates by evaluating `args2cmd([c])` on every code point is the class the source
    text spells out (blank, tab) -/
theorem cmdNeedQuote_eq_needQuote (a : Str) : cmdNeedQuote a = needQuote a := by
  cases h : needQuote a with
  | true => exact cmd_quote_table_sound a h
  | false =>
    cases h2 : cmdNeedQuote a with
    | false => rfl
    | true =>
      exfalso
      simp only [cmdNeedQuote, Bool.or_eq_true, List.any_eq_true] at h2
      simp only [needQuote, Bool.or_eq_false_iff] at h
      rcases h2 with h2 | ⟨c, hc, hq⟩
      · rw [h2] at h; simp at h
      · have hc2 : c.toNat = 9 ∨ c.toNat = 32 := by
          simp only [cmdQuoteChar, inRanges, Gen.cmdQuoteRanges, List.any_cons, List.any_nil, Bool.or_false,
            Bool.or_eq_true, Bool.and_eq_true, decide_eq_true_eq] at hq
          omega
        have hcc := Char.ofNat_toNat c
        rcases hc2 with e | e
        · rw [e] at hcc
          have : '\t' ∈ a := hcc ▸ hc
          simp [this] at h
        · rw [e] at hcc
          have : ' ' ∈ a := hcc ▸ hc
          simp [this] at h

theorem src_args2cmd_eq_model (args : List Str) (sep : Str) :
    Src.strutils.args2cmd args sep = .ok (C14.args2cmd args) := by
  rw [src_args2cmd_eq_modelQ, args2cmd_is_instance]
  have : cmdNeedQuote = needQuote := funext cmdNeedQuote_eq_needQuote
  rw [this]

example : Src.strutils.args2cmd ["aa".toList, "[bb]".toList, "cc'cc".toList, "dd\"dd".toList, [], "a b\\".toList,
      "x\\\\\"y\\".toList] ['|']
    = .ok "aa [bb] cc'cc dd\\\"dd \"\" \"a b\\\\\" x\\\\\\\\\\\"y\\".toList := by decide +kernel

/-- the `CommandLineToArgvW` / MS C runtime parse-back theorem about the text the SOURCE produces: every variant of
    the CRT rules splits it into exactly `args` -/
theorem src_args2cmd_parses_back (args : List Str) (h : NoNul args) (sep : Str) :
    ∃ t, Src.strutils.args2cmd args sep = .ok t ∧ (∀ v, crtSplit v t = args) ∧ crtAccepts t args = true :=
  ⟨_, src_args2cmd_eq_modelQ args sep,
    (crt_accepts_iff _ _).1 (cmd_roundtrip_anyquote needQuote (fun _ h => h) args h),
    cmd_roundtrip_anyquote needQuote (fun _ h => h) args h⟩

/-! ## `escape_shell_args`

### 13. the generated `escape_shell_args` -/

/-- SOURCE TIE: the translated `escape_shell_args` (calls of the translated `args2sh` / `args2cmd`, used through their
    tie theorems only) is the model's `escapeShellArgs`; `sys.platform` is a spec-declared external input (`plat`),
    the model's `win32` flag is `plat == 'win32'`; a falsy style is the empty string; `ValueError` = `none` -/
theorem src_escape_shell_args_eq_model (args : List Str) (sep style plat : Str) :
    Src.strutils.escape_shell_args args sep style plat
      = ofOptS (escapeShellArgs style args (decide (plat = ['w', 'i', 'n', '3', '2']))) := by
  unfold Src.strutils.escape_shell_args escape_shell_args.body escapeShellArgs
  by_cases h0 : style = []
  · subst h0
    by_cases hp : plat = ['w', 'i', 'n', '3', '2'] <;>
      simp [hp, src_args2sh_eq_model, src_args2cmd_eq_model, ofOptS]
  · by_cases h1 : style = ['s', 'h']
    · subst h1; simp [src_args2sh_eq_model, ofOptS]
    · by_cases h2 : style = ['c', 'm', 'd']
      · subst h2; simp [src_args2cmd_eq_model, ofOptS]
      · simp [h0, h1, h2, ofOptS]

example : Src.strutils.escape_shell_args ["a b".toList] [' '] [] "win32".toList = .ok "\"a b\"".toList := by
  decide +kernel
example : Src.strutils.escape_shell_args ["a b".toList] [' '] [] "linux".toList = .ok "'a b'".toList := by
  decide +kernel
example : Src.strutils.escape_shell_args ["a".toList] [' '] "bash".toList "linux".toList = .error PyExc.ValueError := by
  decide +kernel

/-- the round-trip theorems about the SOURCE's `escape_shell_args`: whichever reader the style (and, for a falsy style,
    the platform) selects reads the text back as exactly `args`; any other style is a `ValueError` -/
theorem src_escape_shell_args_parses_back (args : List Str) (h : NoNul args) (sep style plat : Str) :
    match styleOf style (decide (plat = ['w', 'i', 'n', '3', '2'])) with
    | some .sh => ∃ t, Src.strutils.escape_shell_args args sep style plat = .ok t ∧ shAccepts t args = true
    | some .cmd => ∃ t, Src.strutils.escape_shell_args args sep style plat = .ok t ∧ crtAccepts t args = true
    | none => Src.strutils.escape_shell_args args sep style plat = .error PyExc.ValueError := by
  have hm := esa_accepted style (decide (plat = ['w', 'i', 'n', '3', '2'])) args h
  rw [src_escape_shell_args_eq_model]
  split at hm <;> rename_i hs <;> rw [hs] <;> simp only []
  · obtain ⟨t, e, a⟩ := hm; exact ⟨t, by rw [e]; rfl, a⟩
  · obtain ⟨t, e, a⟩ := hm; exact ⟨t, by rw [e]; rfl, a⟩
  · rw [hm]; rfl

end C14
