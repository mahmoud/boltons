import BoltonsVerif.Generated.C14_ShTables
/-
C14 — executable model of the anchored encoders of `boltons/strutils.py`
(`args2sh`, `args2cmd`, `format_int_list`, `parse_int_list`,
`complement_int_list`, `int_ranges_from_int_list`) and of the two REFERENCE
lexers the property statement refers to:

  * `shSplit`   POSIX `sh` word splitting of an argument text, "nothing expanded":
                quotes, backslash, blank separation; every unquoted character that
                is not in a small set of characters known to be inert in every
                POSIX shell makes the result `none` (= "the shell would do more
                than split");
  * `crtSplit`  the Microsoft C runtime `parse_cmdline` rules for the arguments
                after `argv[0]` (2n / 2n+1 backslashes before a quote), in the
                three historical variants of the `""`-inside-quotes rule.

Text is `List Char` (`Str`); Python `str` = sequence of Unicode scalar values.
Core Lean only.  Every function is total; Python's `ValueError` is `none`.
-/
namespace C14

abbrev Str := List Char

def sq  : Char := '\''
def dq  : Char := '"'
def bsl : Char := '\\'
def nul : Char := Char.ofNat 0

/-- `sep.join(parts)` -/
def join (sep : Str) : List Str → Str
  | [] => []
  | [a] => a
  | a :: b :: r => a ++ sep ++ join sep (b :: r)

/-! ## args2sh -/

/-- `_find_sh_unsafe(c) is None` for the one-character string `c` (table generated from the source regex) -/
def isSafeNat (n : Nat) : Bool := Gen.shSafeRanges.any fun r => r.1 ≤ n && n ≤ r.2
def isSafeChar (c : Char) : Bool := isSafeNat c.toNat

/-- `_find_sh_unsafe(arg) is None` : the regex is one negated character class -/
def allSafe (a : Str) : Bool := a.all isSafeChar

/-- `arg.replace("'", splice)` -/
def replSqWith (splice : Str) : Str → Str
  | [] => []
  | c :: cs => if c = sq then splice ++ replSqWith splice cs else c :: replSqWith splice cs

/-- one iteration of the `for arg in args` loop of `args2sh`, with the text that stands for an embedded
    single quote (`splice`) and the decision "leave this argument bare" (`bare`) as parameters -/
def shQuoteWith (bare : Str → Bool) (splice : Str) (a : Str) : Str :=
  if a.isEmpty then [sq, sq]
  else if bare a then a
  else sq :: (replSqWith splice a ++ [sq])

def args2shWith (bare : Str → Bool) (splice : Str) (args : List Str) : Str :=
  join [' '] (args.map (shQuoteWith bare splice))

/-- the replacement text of `arg.replace("'", …)` in the source, regenerated on every run by evaluating
    `args2sh(["a'b"])` (`'"'"'` in the code as it is) -/
def sqSplice : Str := Gen.shSqSplice.map Char.ofNat

/-- `arg.replace("'", "'\"'\"'")` -/
def replSq (a : Str) : Str := replSqWith sqSplice a

/-- one iteration of the `for arg in args` loop of `args2sh` -/
def shQuote (a : Str) : Str := shQuoteWith allSafe sqSplice a

/-- `args2sh(args)` (the `sep` parameter is ignored by the code: `' '.join`) -/
def args2sh (args : List Str) : Str := join [' '] (args.map shQuote)

/-! ## args2cmd -/

def bs (n : Nat) : Str := List.replicate n bsl

/-- `(" " in arg) or ("\t" in arg) or not arg`: the MINIMAL needs-quotes predicate (what the MS C runtime
    rules require); the code's own predicate is `cmdNeedQuote` below -/
def needQuote (a : Str) : Bool := a.contains ' ' || a.contains '\t' || a.isEmpty

/-- the `for c in arg` loop plus the two "remaining backslashes" statements and the closing
    quote; `n = len(bs_buf)`, the result is what gets appended to `result` -/
def cmdGo (q : Bool) : Nat → Str → Str
  | n, [] => bs n ++ (if q then bs n ++ [dq] else [])
  | n, c :: cs =>
    if c = bsl then cmdGo q (n + 1) cs
    else if c = dq then bs (n * 2) ++ bsl :: dq :: cmdGo q 0 cs
    else bs n ++ c :: cmdGo q 0 cs

def inRanges (rs : List (Nat × Nat)) (n : Nat) : Bool := rs.any fun r => r.1 ≤ n && n ≤ r.2

/-- a character whose presence makes `args2cmd` wrap the argument in double quotes: the class is
    regenerated on every run by evaluating `args2cmd([c])` on every code point (blank and tab in the code
    as it is) -/
def cmdQuoteChar (c : Char) : Bool := inRanges Gen.cmdQuoteRanges c.toNat

/-- the code's `needquote` -/
def cmdNeedQuote (a : Str) : Bool := a.isEmpty || a.any cmdQuoteChar

/-- `args2cmd`'s per-argument text with the decision "wrap this argument in double quotes" left open: `qp` -/
def cmdArgQ (qp : Str → Bool) (a : Str) : Str :=
  if qp a then dq :: cmdGo true 0 a else cmdGo false 0 a

def args2cmdQ (qp : Str → Bool) (args : List Str) : Str := join [' '] (args.map (cmdArgQ qp))

def cmdArg (a : Str) : Str := cmdArgQ cmdNeedQuote a

/-- the outer loop: `if result: result.append(' ')` then the argument -/
def cmdLoop : Str → List Str → Str
  | res, [] => res
  | res, a :: as => cmdLoop ((if res.isEmpty then res else res ++ [' ']) ++ cmdArg a) as

def args2cmd (args : List Str) : Str := cmdLoop [] args

/-! ## escape_shell_args -/

/-- `escape_shell_args(args, style=style)`; the empty string stands for a falsy style (`None` or `''`),
    which the code replaces by `'cmd'` when `sys.platform == 'win32'` (`win32 = true`) and by `'sh'`
    otherwise; `none` = ValueError -/
def escapeShellArgs (style : Str) (args : List Str) (win32 : Bool := false) : Option Str :=
  let st := if style.isEmpty then (if win32 then ['c', 'm', 'd'] else ['s', 'h']) else style
  if st = ['s', 'h'] then some (args2sh args)
  else if st = ['c', 'm', 'd'] then some (args2cmd args)
  else none

/-! ## reference lexer 1: POSIX sh word splitting, nothing expanded -/

/-- characters that are inert in every POSIX shell when they appear unquoted in an argument
    word (ASCII letters, digits, `_ @ % + = : , . / -`).  Written down independently of the
    source; the generated table must be a subset (`safe_sub_literal` in `Accept.lean`). -/
def shLiteralNat (n : Nat) : Bool :=
  (97 ≤ n && n ≤ 122) || (65 ≤ n && n ≤ 90) || (48 ≤ n && n ≤ 57) ||
  n = 95 || n = 64 || n = 37 || n = 43 || n = 61 || n = 58 || n = 44 || n = 46 || n = 47 || n = 45
def shLiteral (c : Char) : Bool := shLiteralNat c.toNat

inductive ShMode where
  | unq | sgl | dbl
deriving DecidableEq, Repr

/-- `shLex mode inWord cur rest`: `none` = not a plain list of words (unterminated quote,
    an unquoted character outside `shLiteral`, `$`/backquote inside double quotes, NUL). -/
def shLex : ShMode → Bool → Str → Str → Option (List Str)
  | .unq, w, cur, [] => some (if w then [cur] else [])
  | .sgl, _, _, [] => none
  | .dbl, _, _, [] => none
  | .unq, w, cur, c :: cs =>
    if c = ' ' || c = '\t' then
      (if w then (shLex .unq false [] cs).map (cur :: ·) else shLex .unq false [] cs)
    else if c = sq then shLex .sgl true cur cs
    else if c = dq then shLex .dbl true cur cs
    else if c = bsl then
      match cs with
      | [] => none
      | c' :: cs' =>
        if c' = '\n' then shLex .unq w cur cs'
        else if c' = nul then none
        else shLex .unq true (cur ++ [c']) cs'
    else if shLiteral c then shLex .unq true (cur ++ [c]) cs
    else none
  | .sgl, _, cur, c :: cs =>
    if c = sq then shLex .unq true cur cs
    else if c = nul then none
    else shLex .sgl true (cur ++ [c]) cs
  | .dbl, _, cur, c :: cs =>
    if c = dq then shLex .unq true cur cs
    else if c = bsl then
      match cs with
      | [] => none
      | c' :: cs' =>
        if c' = '$' || c' = '`' || c' = dq || c' = bsl then shLex .dbl true (cur ++ [c']) cs'
        else if c' = '\n' then shLex .dbl true cur cs'
        else if c' = nul then none
        else shLex .dbl true (cur ++ [bsl, c']) cs'
    else if c = '$' || c = '`' || c = nul then none
    else shLex .dbl true (cur ++ [c]) cs

def shSplit (s : Str) : Option (List Str) := shLex .unq false [] s

/-! ## reference lexer 2: Microsoft C runtime argv rules (arguments after argv[0]) -/

/-- treatment of `""` while inside a quoted part:
    `documented` = no special rule (the five rules quoted in the source comment),
    `legacy` = pre-2008 msvcrt (literal quote, quoted part ends),
    `modern` = msvcr90+/UCRT (literal quote, quoted part continues) -/
inductive CrtVariant where
  | documented | legacy | modern
deriving DecidableEq, Repr

def isBlank (c : Char) : Bool := c = ' ' || c = '\t'

/-- `crt v inArg inQuote numslash cur rest` -/
def crt (v : CrtVariant) : Bool → Bool → Nat → Str → Str → List Str
  | ia, _, n, cur, [] => if ia then [cur ++ bs n] else []
  | ia, q, n, cur, c :: cs =>
    if c = nul then (if ia then [cur ++ bs n] else [])
    else if !ia && isBlank c then crt v false q 0 [] cs
    else if c = bsl then crt v true q (n + 1) cur cs
    else if c = dq then
      if n % 2 = 0 then
        match cs with
        | [] => crt v true (!q) 0 (cur ++ bs (n / 2)) []
        | c2 :: cs' =>
          if q && c2 = dq && v != .documented then
            crt v true (v == .modern) 0 (cur ++ bs (n / 2) ++ [dq]) cs'
          else crt v true (!q) 0 (cur ++ bs (n / 2)) (c2 :: cs')
      else crt v true q 0 (cur ++ bs (n / 2) ++ [dq]) cs
    else if !q && isBlank c then (cur ++ bs n) :: crt v false false 0 [] cs
    else crt v true q 0 (cur ++ bs n ++ [c]) cs
termination_by _ _ _ _ l => l.length

def crtSplit (v : CrtVariant) (s : Str) : List Str := crt v false false 0 [] s

/-! ## decimal integers -/

def digitChar (d : Nat) : Char := Char.ofNat (48 + d)

def digitsRev (n : Nat) : Str :=
  if n < 10 then [digitChar n] else digitChar (n % 10) :: digitsRev (n / 10)
decreasing_by omega

/-- `'{:d}'.format(n)` for `n ≥ 0` -/
def toDigits (n : Nat) : Str := (digitsRev n).reverse

def isDigit (c : Char) : Bool := 48 ≤ c.toNat && c.toNat ≤ 57

def ofDigits (s : Str) : Nat := s.foldl (fun acc c => acc * 10 + (c.toNat - 48)) 0

/-- whitespace accepted by `str.strip()` / `int()` inside the model's domain -/
def isWs (c : Char) : Bool := c = ' ' || c = '\t' || c = '\n'

def strip (s : Str) : Str := ((s.dropWhile isWs).reverse.dropWhile isWs).reverse

/-- `int(x)` restricted to the model's alphabet (ASCII digits, surrounding blanks);
    `none` = ValueError -/
def pyInt? (s : Str) : Option Nat :=
  let t := strip s
  if !t.isEmpty && t.all isDigit then some (ofDigits t) else none

/-! ## integer lists -/

def insertSorted (x : Nat) : List Nat → List Nat
  | [] => [x]
  | y :: ys => if x ≤ y then x :: y :: ys else y :: insertSorted x ys

/-- `sorted(...)` on integers -/
def isort : List Nat → List Nat
  | [] => []
  | x :: xs => insertSorted x (isort xs)

/-- `min(seq)` / `max(seq)` (0 for the empty sequence, which the code never asks for) -/
def lmin : List Nat → Nat
  | [] => 0
  | x :: xs => xs.foldl min x
def lmax : List Nat → Nat
  | [] => 0
  | x :: xs => xs.foldl max x

/-- `'{:d}{}{:d}'.format(min(contig_range), range_delim, max(contig_range))`
    (`rd` = `range_delim`, a one-character string in the model) -/
def fmtRange (rd : Char) (cr : List Nat) : Str := toDigits (lmin cr) ++ rd :: toDigits (lmax cr)

/-- one iteration of `for x in sorted(int_list)`: state = (`output`, `contig_range`) -/
def fmtStep (rd : Char) (st : List Str × List Nat) (x : Nat) : List Str × List Nat :=
  match st.2 with
  | [] => (st.1, [x])
  | [a] =>
    if x = a + 1 then (st.1, [a, x])
    else if a + 1 < x then (st.1 ++ [toDigits a], [x])
    else st
  | a :: b :: r =>
    if x = (a :: b :: r).getLastD 0 + 1 then (st.1, st.2 ++ [x])
    else if (a :: b :: r).getLastD 0 + 1 < x then (st.1 ++ [fmtRange rd st.2], [x])
    else st

/-- the `else:` clause of the `for` loop ("handle the last value") -/
def fmtFinish (rd : Char) (st : List Str × List Nat) : List Str :=
  match st.2 with
  | [] => st.1
  | [a] => st.1 ++ [toDigits a]
  | _ => st.1 ++ [fmtRange rd st.2]

def fmtTokens (rd : Char) (l : List Nat) : List Str := fmtFinish rd ((isort l).foldl (fmtStep rd) ([], []))

/-- `format_int_list(int_list, delim=d, range_delim=rd, delim_space=sp)`; the delimiters are
    one-character strings in the model (defaults `,` and `-`) -/
def formatIntList (l : List Nat) (sp : Bool := false) (d : Char := ',') (rd : Char := '-') : Str :=
  join (if sp then [d, ' '] else [d]) (fmtTokens rd l)

/-- `s.split(d)` for a one-character delimiter -/
def splitOn (d : Char) : Str → List Str
  | [] => [[]]
  | c :: cs =>
    if c = d then [] :: splitOn d cs
    else match splitOn d cs with
      | [] => [[c]]
      | t :: ts => (c :: t) :: ts

/-- `list(range(lo, hi + 1))` -/
def rangeIncl (lo hi : Nat) : List Nat := List.range' lo (hi + 1 - lo)

def mapM? {α β : Type} (f : α → Option β) : List α → Option (List β)
  | [] => some []
  | a :: as => match f a, mapM? f as with
    | some b, some bs => some (b :: bs)
    | _, _ => none

/-- one `x` of `range_string.strip().split(delim)`: the integers it contributes, `none` = ValueError -/
def parseTok (rd : Char) (t : Str) : Option (List Nat) :=
  if t.contains rd then
    match mapM? pyInt? (splitOn rd t) with
    | some lims => some (rangeIncl (lmin lims) (lmax lims))
    | none => none
  else if t.isEmpty then some []
  else match pyInt? t with
    | some n => some [n]
    | none => none

/-- `parse_int_list(range_string, delim=d, range_delim=rd)` -/
def parseIntList (s : Str) (d : Char := ',') (rd : Char := '-') : Option (List Nat) :=
  match mapM? (parseTok rd) (splitOn d (strip s)) with
  | some ls => some (isort ls.flatten)
  | none => none

/-- `complement_int_list(range_string, range_start, range_end, delim=d, range_delim=rd)`;
    `e = none` is `range_end=None` -/
def complementIntList (s : Str) (a : Int) (e : Option Int) (d : Char := ',') (rd : Char := '-') : Option Str :=
  match parseIntList s d rd with
  | none => none
  | some l =>
    let e' : Int := match e with
      | some e => e
      | none => if l.isEmpty then a else (lmax l : Int) + 1
    some (formatIntList ((List.range e'.toNat).filter fun x => !l.contains x && !decide ((x : Int) < a)) false d rd)

/-- one `bounds` of `range_string.split(',')` in `int_ranges_from_int_list` -/
def boundsTok (b : Str) : Option (Nat × Nat) :=
  if b.contains '-' then
    match splitOn '-' b with
    | [s, e] => match pyInt? s, pyInt? e with
      | some x, some y => some (x, y)
      | _, _ => none
    | _ => none
  else match pyInt? b with
    | some x => some (x, x)
    | none => none

/-- `int_ranges_from_int_list(range_string, delim=d, range_delim=rd)`: the delimiters are used for
    reading only; the normalised text is written and re-read with the defaults -/
def intRanges (s : Str) (d : Char := ',') (rd : Char := '-') : Option (List (Nat × Nat)) :=
  match parseIntList s d rd with
  | none => none
  | some l =>
    let t := formatIntList l
    if t.isEmpty then some [] else mapM? boundsTok (splitOn ',' t)

/-! ## acceptance: what it means for ANY text to be a correct quoting of an argument list

The property statement does not fix the text the encoders produce, only how it is read back.
`shAccepts t args` / `crtAccepts t args` say that the reference lexer reads `t` as exactly `args`
(the CRT one in all three historical variants).  The correspondence check applies these to the text
the IMPLEMENTATION produced (driver operations `shv` / `cmdv` / `esav`), so an implementation that
switches to another correct quoting still corresponds. -/

def shAccepts (t : Str) (args : List Str) : Bool := shSplit t == some args

def crtAccepts (t : Str) (args : List Str) : Bool :=
  crtSplit .documented t == args && crtSplit .legacy t == args && crtSplit .modern t == args

inductive ShellStyle where
  | sh | cmd
deriving DecidableEq, Repr

/-- which reader the text of `escape_shell_args(args, style=style)` is meant for (`none` = ValueError) -/
def styleOf (style : Str) (win32 : Bool) : Option ShellStyle :=
  let st := if style.isEmpty then (if win32 then ['c', 'm', 'd'] else ['s', 'h']) else style
  if st = ['s', 'h'] then some .sh
  else if st = ['c', 'm', 'd'] then some .cmd
  else none

/-! ## pieces: a syntactic class of shell words that is always read back literally

A shell word written as a sequence of pieces - a single-quoted part, a backslash-escaped character,
a double-quoted part without `"` `\` `$` backquote, a bare run of inert characters - denotes the
concatenation of the piece values (`Props.sh_pieces_sound`). -/

inductive ShPiece where
  | sgl (s : Str)     -- `'s'`
  | esc (c : Char)    -- `\c`
  | dbl (s : Str)     -- `"s"`
  | bare (s : Str)    -- `s`
deriving DecidableEq, Repr

def dblPlain (c : Char) : Bool := c != dq && c != bsl && c != '$' && c != '`' && c != nul

def ShPiece.ok : ShPiece → Bool
  | .sgl s => s.all fun c => c != sq && c != nul
  | .esc c => c != '\n' && c != nul
  | .dbl s => s.all dblPlain
  | .bare s => !s.isEmpty && s.all shLiteral

def ShPiece.render : ShPiece → Str
  | .sgl s => sq :: (s ++ [sq])
  | .esc c => [bsl, c]
  | .dbl s => dq :: (s ++ [dq])
  | .bare s => s

def ShPiece.value : ShPiece → Str
  | .sgl s => s
  | .esc c => [c]
  | .dbl s => s
  | .bare s => s

/-- a word = a non-empty list of pieces -/
def wordRender (w : List ShPiece) : Str := (w.map ShPiece.render).flatten
def wordValue (w : List ShPiece) : Str := (w.map ShPiece.value).flatten
def wordOk (w : List ShPiece) : Bool := !w.isEmpty && w.all ShPiece.ok

/-- the decidable side condition on a splice: it is `'` + (pieces denoting one single quote) + `'`,
    i.e. it closes the quoted part, writes a single quote in some valid way, and reopens -/
def spliceOk (splice : Str) (ps : List ShPiece) : Bool :=
  (ps.all ShPiece.ok) && wordValue ps == [sq] && splice == sq :: (wordRender ps ++ [sq])

/-- the decomposition of the regenerated splice into pieces proposed by the translator
    (kind 0 = `'…'`, 1 = `\c`, 2 = `"…"`, other = bare run); CHECKED by `Proofs.spliceTable_ok` -/
def splicePieces : List ShPiece := Gen.shSqSplicePieces.map fun p =>
  let s : Str := p.2.map Char.ofNat
  match p.1 with
  | 0 => .sgl s
  | 1 => .esc (s.headD nul)
  | 2 => .dbl s
  | _ => .bare s

/-- the defaults of `delim` / `range_delim` in the signatures of the integer-list functions (regenerated) -/
def defaultDelim : Char := Char.ofNat Gen.intDelim
def defaultRangeDelim : Char := Char.ofNat Gen.intRangeDelim

/-! ## multi-character delimiters (round 3)

`format_int_list`, `parse_int_list`, `complement_int_list`, `int_ranges_from_int_list` with `delim` /
`range_delim` arbitrary NON-EMPTY strings (the functions of `Model.lean` have one-character delimiters). -/

/-- `s.startswith(d)` -/
def isPre : Str → Str → Bool
  | [], _ => true
  | _ :: _, [] => false
  | a :: as, b :: bs => a = b && isPre as bs

/-- the scanning loop of `s.split(d)`: `k` = characters of a matched separator still to skip,
    `cur` = the current piece, reversed -/
def splitGo (d : Str) : Nat → Str → Str → List Str
  | _, cur, [] => [cur.reverse]
  | k + 1, cur, _ :: cs => splitGo d k cur cs
  | 0, cur, c :: cs =>
    if isPre d (c :: cs) then cur.reverse :: splitGo d (d.length - 1) [] cs
    else splitGo d 0 (c :: cur) cs

/-- `s.split(d)` for a non-empty separator (leftmost, non-overlapping occurrences) -/
def splitOnS (d s : Str) : List Str := splitGo d 0 [] s

/-- `d in s` -/
def containsS (d : Str) : Str → Bool
  | [] => isPre d []
  | c :: cs => isPre d (c :: cs) || containsS d cs

def fmtRangeS (rd : Str) (cr : List Nat) : Str := toDigits (lmin cr) ++ rd ++ toDigits (lmax cr)

def fmtStepS (rd : Str) (st : List Str × List Nat) (x : Nat) : List Str × List Nat :=
  match st.2 with
  | [] => (st.1, [x])
  | [a] =>
    if x = a + 1 then (st.1, [a, x])
    else if a + 1 < x then (st.1 ++ [toDigits a], [x])
    else st
  | a :: b :: r =>
    if x = (a :: b :: r).getLastD 0 + 1 then (st.1, st.2 ++ [x])
    else if (a :: b :: r).getLastD 0 + 1 < x then (st.1 ++ [fmtRangeS rd st.2], [x])
    else st

def fmtFinishS (rd : Str) (st : List Str × List Nat) : List Str :=
  match st.2 with
  | [] => st.1
  | [a] => st.1 ++ [toDigits a]
  | _ => st.1 ++ [fmtRangeS rd st.2]

def fmtTokensS (rd : Str) (l : List Nat) : List Str := fmtFinishS rd ((isort l).foldl (fmtStepS rd) ([], []))

/-- `format_int_list(int_list, delim=d, range_delim=rd, delim_space=sp)` -/
def formatIntListS (l : List Nat) (sp : Bool) (d rd : Str) : Str :=
  join (if sp then d ++ [' '] else d) (fmtTokensS rd l)

def parseTokS (rd : Str) (t : Str) : Option (List Nat) :=
  if containsS rd t then
    match mapM? pyInt? (splitOnS rd t) with
    | some lims => some (rangeIncl (lmin lims) (lmax lims))
    | none => none
  else if t.isEmpty then some []
  else match pyInt? t with
    | some n => some [n]
    | none => none

/-- `parse_int_list(range_string, delim=d, range_delim=rd)` (`d`, `rd` non-empty) -/
def parseIntListS (s : Str) (d rd : Str) : Option (List Nat) :=
  match mapM? (parseTokS rd) (splitOnS d (strip s)) with
  | some ls => some (isort ls.flatten)
  | none => none

def complementIntListS (s : Str) (a : Int) (e : Option Int) (d rd : Str) : Option Str :=
  match parseIntListS s d rd with
  | none => none
  | some l =>
    let e' : Int := match e with
      | some e => e
      | none => if l.isEmpty then a else (lmax l : Int) + 1
    some (formatIntListS ((List.range e'.toNat).filter fun x => !l.contains x && !decide ((x : Int) < a)) false d rd)

def intRangesS (s : Str) (d rd : Str) : Option (List (Nat × Nat)) :=
  match parseIntListS s d rd with
  | none => none
  | some l =>
    let t := formatIntList l
    if t.isEmpty then some [] else mapM? boundsTok (splitOn ',' t)

end C14
