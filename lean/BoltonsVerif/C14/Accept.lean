import BoltonsVerif.C14.Model
/-
C14 helper lemmas for shell quoting.  First the POSIX sh lexer: its one-step lemmas; it is compositional over blanks; the piece
grammar; `args2sh` with arbitrary splice and bare predicate read back.  Then the MS C runtime parser: its one-step lemmas and the
documented backslash rules; `args2cmd`'s character loop read by these rules; `args2cmd` with an arbitrary needs-quotes predicate
read back.
-/
namespace C14

def NoNul (args : List Str) : Prop := ∀ a ∈ args, ∀ c ∈ a, c ≠ nul

instance (args : List Str) : Decidable (NoNul args) := by unfold NoNul; infer_instance

/-- decidable obligation on the generated table: every code point of every safe run is in the lexer's literal set -/
def tableOk : Bool :=
  Gen.shSafeRanges.all fun r => (List.range' r.1 (r.2 + 1 - r.1)).all shLiteralNat

theorem tableOk_holds : tableOk = true := by decide +kernel

theorem safe_sub_literal (c : Char) (hs : isSafeChar c = true) : shLiteral c = true := by
  have h := tableOk_holds
  simp only [tableOk, List.all_eq_true] at h
  simp only [isSafeChar, isSafeNat, List.any_eq_true, Bool.and_eq_true, decide_eq_true_eq] at hs
  obtain ⟨r, hr, h1, h2⟩ := hs
  exact h r hr c.toNat (by simp [List.mem_range'_1]; omega)

theorem literal_ne {c : Char} (h : shLiteral c = true) :
    c ≠ ' ' ∧ c ≠ '\t' ∧ c ≠ sq ∧ c ≠ dq ∧ c ≠ bsl := by
  refine ⟨?_, ?_, ?_, ?_, ?_⟩ <;> (intro e; subst e; revert h; decide)

theorem shLex_unq_lit {w : Bool} {cur : Str} {c : Char} {cs : Str} (h : shLiteral c = true) :
    shLex .unq w cur (c :: cs) = shLex .unq true (cur ++ [c]) cs := by
  obtain ⟨h1, h2, h3, h4, h5⟩ := literal_ne h
  rw [shLex.eq_def]; simp [h1, h2, h3, h4, h5, h]

theorem shLex_unq_sq (w : Bool) (cur cs : Str) :
    shLex .unq w cur (sq :: cs) = shLex .sgl true cur cs := by
  rw [shLex.eq_def]; simp [sq]

theorem shLex_unq_dq (w : Bool) (cur cs : Str) :
    shLex .unq w cur (dq :: cs) = shLex .dbl true cur cs := by
  rw [shLex.eq_def]; simp [sq, dq]

theorem shLex_unq_blank (cur cs : Str) :
    shLex .unq true cur (' ' :: cs) = (shLex .unq false [] cs).map (cur :: ·) := by
  rw [shLex.eq_def]; simp

theorem shLex_sgl_sq (w : Bool) (cur cs : Str) :
    shLex .sgl w cur (sq :: cs) = shLex .unq true cur cs := by
  rw [shLex.eq_def]; simp

theorem shLex_sgl_char {w : Bool} {cur : Str} {c : Char} {cs : Str} (h1 : c ≠ sq) (h2 : c ≠ nul) :
    shLex .sgl w cur (c :: cs) = shLex .sgl true (cur ++ [c]) cs := by
  rw [shLex.eq_def]; simp [h1, h2]

theorem shLex_dbl_sq (w : Bool) (cur cs : Str) :
    shLex .dbl w cur (sq :: cs) = shLex .dbl true (cur ++ [sq]) cs := by
  rw [shLex.eq_def]; simp [sq, dq, bsl, nul]

theorem shLex_dbl_dq (w : Bool) (cur cs : Str) :
    shLex .dbl w cur (dq :: cs) = shLex .unq true cur cs := by
  rw [shLex.eq_def]; simp

theorem shLex_unq_esc (w : Bool) (cur : Str) (c : Char) (cs : Str) (h1 : c ≠ '\n') (h2 : c ≠ nul) :
    shLex .unq w cur (bsl :: c :: cs) = shLex .unq true (cur ++ [c]) cs := by
  rw [shLex.eq_def]; simp [h1, h2, bsl, sq, dq]

theorem shLex_unq_end (cur : Str) : shLex .unq true cur [] = some [cur] := by
  simp [shLex]

theorem shLex_run (m : ShMode) (s : Str)
    (hs : ∀ c ∈ s, ∀ (w : Bool) (cur cs : Str), shLex m w cur (c :: cs) = shLex m true (cur ++ [c]) cs)
    (w : Bool) (cur tail : Str) :
    shLex m w cur (s ++ tail) = shLex m (w || !s.isEmpty) (cur ++ s) tail := by
  induction s generalizing w cur with
  | nil => simp
  | cons c cs ih =>
    rw [List.cons_append, hs c (by simp), ih (fun x hx => hs x (by simp [hx]))]
    simp

theorem shLex_sgl_run (s : Str) (hs : ∀ c ∈ s, c ≠ sq ∧ c ≠ nul) (w : Bool) (cur tail : Str) :
    shLex .sgl w cur (s ++ sq :: tail) = shLex .unq true (cur ++ s) tail := by
  rw [shLex_run .sgl s (fun c hc _ _ _ => shLex_sgl_char (hs c hc).1 (hs c hc).2), shLex_sgl_sq]

theorem shLex_dbl_plain {w : Bool} {cur : Str} {c : Char} {cs : Str} (h : dblPlain c = true) :
    shLex .dbl w cur (c :: cs) = shLex .dbl true (cur ++ [c]) cs := by
  simp only [dblPlain, Bool.and_eq_true, bne_iff_ne, ne_eq] at h
  obtain ⟨⟨⟨⟨h1, h2⟩, h3⟩, h4⟩, h5⟩ := h
  rw [shLex.eq_def]; simp [h1, h2, h3, h4, h5]

theorem shLex_dbl_run (s : Str) (hs : ∀ c ∈ s, dblPlain c = true) (w : Bool) (cur tail : Str) :
    shLex .dbl w cur (s ++ dq :: tail) = shLex .unq true (cur ++ s) tail := by
  rw [shLex_run .dbl s (fun c hc _ _ _ => shLex_dbl_plain (hs c hc)), shLex_dbl_dq]

theorem shLex_literal_run (cs : Str) (hl : ∀ c ∈ cs, shLiteral c = true) (w : Bool) (cur tail : Str) :
    shLex .unq w cur (cs ++ tail) = shLex .unq (w || !cs.isEmpty) (cur ++ cs) tail :=
  shLex_run .unq cs (fun c hc _ _ _ => shLex_unq_lit (hl c hc)) w cur tail

/-! ## the sh lexer is compositional: what follows a blank is read independently -/

theorem shLex_append_blank (tail : Str) (m : ShMode) (w : Bool) (cur p : Str) :
    ∀ ws, shLex m w cur p = some ws →
      shLex m w cur (p ++ ' ' :: tail) = (shLex .unq false [] tail).map (ws ++ ·) := by
  -- a step of the lexer looks at the head of the text only, so on `p ++ ' ' :: tail` it takes the steps it takes on `p`; the
  -- appended blank is met where `p` ends, which (`h`) is outside quotes, where a blank closes the word
  fun_induction shLex m w cur p <;> intro ws h
  case case1 w cur =>  -- end of the text, outside quotes
    simp only [List.nil_append]; rw [shLex.eq_def]
    simp only [Option.some.injEq] at h
    subst h
    cases w <;> simp <;> (generalize shLex .unq false [] tail = r; cases r <;> simp)
  case case4 cur c cs hb ih =>  -- an unquoted blank inside a word
    simp only [List.cons_append]; rw [shLex.eq_def]
    obtain ⟨a, h1, rfl⟩ := Option.map_eq_some_iff.mp h
    simp only [hb, if_true]
    rw [ih a h1]
    generalize shLex .unq false [] tail = r
    cases r <;> simp
  -- the lexer stopped (`h` is absurd), or it takes the step the case hypotheses select and `ih` applies
  all_goals first
    | cases h
    | (simp only [List.cons_append]; rw [shLex.eq_def]; simp_all)

theorem shSplit_append_blank (p q : Str) (a : List Str) (h : shSplit p = some a) :
    shSplit (p ++ ' ' :: q) = (shSplit q).map (a ++ ·) :=
  shLex_append_blank q .unq false [] p a h

theorem shSplit_join (pas : List (Str × List Str)) (h : ∀ pa ∈ pas, shSplit pa.1 = some pa.2) :
    shSplit (join [' '] (pas.map (·.1))) = some (pas.map (·.2)).flatten := by
  induction pas with
  | nil => simp [join, shSplit, shLex]
  | cons pa r ih =>
    have hpa := h pa (by simp)
    have ih' := ih (fun x hx => h x (by simp [hx]))
    cases r with
    | nil => simpa [join] using hpa
    | cons p2 ps2 =>
      simp only [List.map_cons, join] at ih' ⊢
      rw [List.append_assoc, List.singleton_append, shSplit_append_blank pa.1 _ pa.2 hpa, ih']
      simp

theorem shLex_piece (p : ShPiece) (hp : p.ok = true) (w : Bool) (cur tail : Str) :
    shLex .unq w cur (p.render ++ tail) = shLex .unq true (cur ++ p.value) tail := by
  cases p with
  | sgl s =>
    simp only [ShPiece.ok, List.all_eq_true, Bool.and_eq_true, bne_iff_ne, ne_eq] at hp
    simp only [ShPiece.render, ShPiece.value, List.cons_append, List.append_assoc]
    rw [shLex_unq_sq, shLex_sgl_run s hp]; simp
  | esc c =>
    simp only [ShPiece.ok, Bool.and_eq_true, bne_iff_ne, ne_eq] at hp
    simp only [ShPiece.render, ShPiece.value, List.cons_append, List.nil_append]
    exact shLex_unq_esc w cur c tail hp.1 hp.2
  | dbl s =>
    simp only [ShPiece.ok, List.all_eq_true] at hp
    simp only [ShPiece.render, ShPiece.value, List.cons_append, List.append_assoc]
    rw [shLex_unq_dq, shLex_dbl_run s hp]; simp
  | bare s =>
    simp only [ShPiece.ok, Bool.and_eq_true, Bool.not_eq_true', List.all_eq_true] at hp
    simp only [ShPiece.render, ShPiece.value]
    rw [shLex_literal_run s hp.2, hp.1]; simp

theorem shLex_pieces (ps : List ShPiece) (hp : ∀ p ∈ ps, p.ok = true) (w : Bool) (cur tail : Str) :
    shLex .unq w cur (wordRender ps ++ tail) = shLex .unq (w || !ps.isEmpty) (cur ++ wordValue ps) tail := by
  induction ps generalizing w cur with
  | nil => simp [wordRender, wordValue]
  | cons p ps ih =>
    simp only [wordRender, wordValue, List.map_cons, List.flatten_cons, List.append_assoc] at ih ⊢
    rw [shLex_piece p (hp p (by simp)), ih (fun x hx => hp x (by simp [hx]))]
    simp

theorem shLex_word (ps : List ShPiece) (hp : wordOk ps = true) (tail : Str) :
    shLex .unq false [] (wordRender ps ++ tail) = shLex .unq true (wordValue ps) tail := by
  simp only [wordOk, Bool.and_eq_true, Bool.not_eq_true', List.all_eq_true] at hp
  rw [shLex_pieces ps hp.2, hp.1]; simp

theorem shLex_join_words {α : Type} (f g : α → Str) (xs : List α)
    (h : ∀ x ∈ xs, ∀ tail, shLex .unq false [] (f x ++ tail) = shLex .unq true (g x) tail) :
    shLex .unq false [] (join [' '] (xs.map f)) = some (xs.map g) := by
  have := shSplit_join (xs.map fun x => (f x, [g x])) (by
    intro pa hpa
    obtain ⟨x, hx, rfl⟩ := List.mem_map.mp hpa
    simpa [shSplit, shLex_unq_end] using h x hx [])
  simpa [shSplit, List.map_map, Function.comp_def, ← List.flatMap_def, ← List.map_eq_flatMap] using this

theorem shLex_sgl_splice (splice : Str) (ps : List ShPiece) (h : spliceOk splice ps = true)
    (w : Bool) (cur tail : Str) :
    shLex .sgl w cur (splice ++ tail) = shLex .sgl true (cur ++ [sq]) tail := by
  simp only [spliceOk, Bool.and_eq_true, List.all_eq_true, beq_iff_eq] at h
  obtain ⟨⟨h1, h2⟩, h3⟩ := h
  subst h3
  simp only [List.cons_append, List.append_assoc]
  rw [shLex_sgl_sq, shLex_pieces ps h1, h2, shLex_unq_sq]; simp

theorem shLex_sgl_replWith (splice : Str) (ps : List ShPiece) (h : spliceOk splice ps = true)
    (cs : Str) (hn : ∀ c ∈ cs, c ≠ nul) (cur tail : Str) (w : Bool) :
    shLex .sgl w cur (replSqWith splice cs ++ sq :: tail) = shLex .unq true (cur ++ cs) tail := by
  induction cs generalizing cur w with
  | nil => simp [replSqWith, shLex_sgl_sq]
  | cons c cs ih =>
    have hc := hn c (by simp)
    have ih' := fun cur w => ih (fun x hx => hn x (by simp [hx])) cur w
    by_cases hq : c = sq
    · subst hq
      simp only [replSqWith, if_true, List.append_assoc]
      rw [shLex_sgl_splice splice ps h, ih']; simp
    · simp only [replSqWith, hq, if_false, List.cons_append]
      rw [shLex_sgl_char hq hc, ih']; simp

theorem shLex_quoteWith (bare : Str → Bool) (hb : ∀ a, bare a = true → ∀ c ∈ a, shLiteral c = true)
    (splice : Str) (ps : List ShPiece) (h : spliceOk splice ps = true)
    (a : Str) (hn : ∀ c ∈ a, c ≠ nul) (tail : Str) :
    shLex .unq false [] (shQuoteWith bare splice a ++ tail) = shLex .unq true a tail := by
  unfold shQuoteWith
  split
  · rename_i he
    have : a = [] := by simpa using he
    subst this
    simp [shLex_unq_sq, shLex_sgl_sq]
  · rename_i he
    split
    · rename_i hs
      rw [shLex_literal_run a (hb a hs)]; simp [he]
    · simp only [List.cons_append, List.append_assoc]
      rw [shLex_unq_sq, shLex_sgl_replWith splice ps h a hn]; simp

theorem shSplit_args2shWith (bare : Str → Bool) (hb : ∀ a, bare a = true → ∀ c ∈ a, shLiteral c = true)
    (splice : Str) (ps : List ShPiece) (h : spliceOk splice ps = true)
    (args : List Str) (hn : NoNul args) :
    shSplit (args2shWith bare splice args) = some args := by
  have := shLex_join_words (shQuoteWith bare splice) id args
    (fun a ha tail => shLex_quoteWith bare hb splice ps h a (hn a ha) tail)
  simpa [args2shWith, shSplit] using this

/-- translator obligation on the regenerated splice and the piece decomposition the translator proposes for it -/
theorem spliceTable_ok : spliceOk sqSplice splicePieces = true := by decide +kernel

theorem allSafe_literal (a : Str) (ha : allSafe a = true) : ∀ c ∈ a, shLiteral c = true :=
  fun c hc => safe_sub_literal c (by simp only [allSafe, List.all_eq_true] at ha; exact ha c hc)

/-! ## `args2cmd` read back by the MS C runtime rules -/

theorem bs_succ (n : Nat) : bs (n + 1) = bsl :: bs n := by simp [bs, List.replicate_succ]
theorem bs_succ' (n : Nat) : bs (n + 1) = bs n ++ [bsl] := by simp [bs, List.replicate_succ']
theorem bs_zero : bs 0 = [] := rfl
theorem bs_add (m n : Nat) : bs (m + n) = bs m ++ bs n := by simp [bs, List.replicate_append_replicate]

theorem crt_nil_in (v : CrtVariant) (q : Bool) (n : Nat) (cur : Str) :
    crt v true q n cur [] = [cur ++ bs n] := by
  rw [crt.eq_def]; simp

theorem crt_nil_out (v : CrtVariant) (q : Bool) (n : Nat) (cur : Str) :
    crt v false q n cur [] = [] := by
  rw [crt.eq_def]; simp

theorem crt_bsl (v : CrtVariant) (ia q : Bool) (n : Nat) (cur cs : Str) :
    crt v ia q n cur (bsl :: cs) = crt v true q (n + 1) cur cs := by
  rw [crt.eq_def]; simp [bsl, nul, isBlank]

/-- `h`: the right side is inside an argument; the left side was, or its first backslash opens one -/
theorem crt_bs_run {v : CrtVariant} {ia q : Bool} {m n : Nat} {cur rest : Str} (h : ia = true ∨ 0 < n) :
    crt v ia q m cur (bs n ++ rest) = crt v true q (m + n) cur rest := by
  induction n generalizing ia m with
  | zero =>
    have : ia = true := by simpa using h
    subst this; simp [bs_zero]
  | succ n ih =>
    rw [bs_succ, List.cons_append, crt_bsl, ih (ia := true) (m := m + 1) (Or.inl rfl)]
    congr 1; omega

theorem crt_dq_odd {v : CrtVariant} {ia q : Bool} {n : Nat} {cur cs : Str} (h : n % 2 = 1) :
    crt v ia q n cur (dq :: cs) = crt v true q 0 (cur ++ bs (n / 2) ++ [dq]) cs := by
  rw [crt.eq_def]; simp [dq, bsl, nul, isBlank, h]

theorem crt_dq_even {v : CrtVariant} {ia q : Bool} {n : Nat} {cur cs : Str} (h : n % 2 = 0)
    (hcs : q = false ∨ cs.head? ≠ some dq) :
    crt v ia q n cur (dq :: cs) = crt v true (!q) 0 (cur ++ bs (n / 2)) cs := by
  rw [crt.eq_def]
  cases cs with
  | nil => simp [dq, bsl, nul, isBlank, h]
  | cons c2 cs' =>
    have : (q && decide (c2 = dq) && (v != CrtVariant.documented)) = false := by
      rcases hcs with h1 | h1
      · simp [h1]
      · have : c2 ≠ dq := by simpa using h1
        simp [this]
    -- the `""` branch of the parser is excluded by `hcs`
    simp only [this, Bool.false_eq_true, if_false]
    simp [dq, bsl, nul, isBlank, h]

/-- `h3`: a blank is an ordinary character only inside the quotes of an argument (outside an argument it is skipped) -/
theorem crt_plain {v : CrtVariant} {ia q : Bool} {n : Nat} {cur : Str} {c : Char} {cs : Str}
    (h0 : c ≠ nul) (h1 : c ≠ bsl) (h2 : c ≠ dq) (h3 : isBlank c = false ∨ (ia = true ∧ q = true)) :
    crt v ia q n cur (c :: cs) = crt v true q 0 (cur ++ bs n ++ [c]) cs := by
  rw [crt.eq_def]
  rcases h3 with h3 | ⟨h3, h4⟩
  · simp [h0, h1, h2, h3]
  · subst h3; subst h4; simp [h0, h1, h2]

theorem crt_blank_end (v : CrtVariant) (n : Nat) (cur cs : Str) :
    crt v true false n cur (' ' :: cs) = (cur ++ bs n) :: crt v false false 0 [] cs := by
  rw [crt.eq_def]; simp [nul, bsl, dq, isBlank]

theorem crt_bs_dq_even {v : CrtVariant} {ia q : Bool} {cur cs : Str} (n : Nat)
    (hcs : q = false ∨ cs.head? ≠ some dq) :
    crt v ia q 0 cur (bs (2 * n) ++ dq :: cs) = crt v true (!q) 0 (cur ++ bs n) cs := by
  cases n with
  | zero => simpa [bs_zero] using crt_dq_even (v := v) (ia := ia) (q := q) (n := 0) (cur := cur) (by omega) hcs
  | succ k =>
    rw [crt_bs_run (Or.inr (by omega)), crt_dq_even (by omega) hcs]
    congr 3; omega

theorem crt_bs_dq_odd {v : CrtVariant} {ia q : Bool} {cur cs : Str} (n : Nat) :
    crt v ia q 0 cur (bs (2 * n + 1) ++ dq :: cs) = crt v true q 0 (cur ++ bs n ++ [dq]) cs := by
  rw [crt_bs_run (Or.inr (by omega)), crt_dq_odd (by omega)]
  congr 4; omega

theorem crt_bs_plain {v : CrtVariant} {ia q : Bool} {cur : Str} {c : Char} {cs : Str} (n : Nat)
    (h0 : c ≠ nul) (h1 : c ≠ bsl) (h2 : c ≠ dq) (h3 : isBlank c = false ∨ ((ia = true ∨ 0 < n) ∧ q = true)) :
    crt v ia q 0 cur (bs n ++ c :: cs) = crt v true q 0 (cur ++ bs n ++ [c]) cs := by
  cases n with
  | zero =>
    simpa [bs_zero] using crt_plain (v := v) (n := 0) (cur := cur) (cs := cs) h0 h1 h2
      (h3.imp id fun h => ⟨by simpa using h.1, h.2⟩)
  | succ k =>
    rw [crt_bs_run (Or.inr (by omega)), crt_plain h0 h1 h2 (h3.imp id fun h => ⟨rfl, h.2⟩)]
    simp

/-- what may follow an encoded argument: the end of the text or the separating space -/
def IsTail (t : Str) : Prop := t = [] ∨ ∃ more, t = ' ' :: more

theorem crt_finish {v : CrtVariant} {n : Nat} {cur t : Str} (ht : IsTail t) :
    crt v true false n cur t = (cur ++ bs n) :: crt v false false 0 [] (t.drop 1) := by
  rcases ht with rfl | ⟨more, rfl⟩
  · simp [crt_nil_in, crt_nil_out]
  · simp [crt_blank_end]

theorem IsTail.head_ne_dq {t : Str} (ht : IsTail t) : t.head? ≠ some dq := by
  rcases ht with rfl | ⟨more, rfl⟩ <;> simp [dq]

theorem join_cons_tail (f : Str → Str) (a : Str) (as : List Str) :
    ∃ t, join [' '] ((a :: as).map f) = f a ++ t ∧ IsTail t ∧ t.drop 1 = join [' '] (as.map f) := by
  cases as with
  | nil => exact ⟨[], by simp [join], Or.inl rfl, by simp [join]⟩
  | cons b r => exact ⟨' ' :: join [' '] ((b :: r).map f), by simp [join], Or.inr ⟨_, rfl⟩, by simp⟩

/-- the encoder's character loop, read by the parser: whatever the encoder emits is read by one of `crt_bs_dq_even`,
    `crt_bs_dq_odd`, `crt_bs_plain`.  `n` backslashes are pending in the encoder (`bs_buf`), none in the parser.  `hia`: outside
    an argument nothing is quoted yet and something is still to be emitted. -/
theorem crt_cmdGo (v : CrtVariant) (q : Bool) (cs : Str) (n : Nat) (cur : Str) (ia : Bool) (t : Str)
    (hq : q = false → ∀ c ∈ cs, isBlank c = false) (hn : ∀ c ∈ cs, c ≠ nul)
    (hia : ia = false → q = false ∧ (0 < n ∨ cs ≠ [])) (ht : IsTail t) :
    crt v ia q 0 cur (cmdGo q n cs ++ t) = (cur ++ bs n ++ cs) :: crt v false false 0 [] (t.drop 1) := by
  induction cs generalizing n cur ia with
  | nil =>
    simp only [cmdGo]
    cases q with
    | false =>
      have hian : ia = true ∨ 0 < n := by
        cases ia with
        | true => exact Or.inl rfl
        | false => have := (hia rfl).2; simp at this; exact Or.inr this
      simp only [Bool.false_eq_true, if_false, List.append_nil]
      rw [crt_bs_run hian, crt_finish ht]; simp
    | true =>
      have e : bs n ++ (bs n ++ [dq]) ++ t = bs (2 * n) ++ dq :: t := by simp [Nat.two_mul, bs_add]
      simp only [if_true]
      rw [e, crt_bs_dq_even n (Or.inr ht.head_ne_dq), Bool.not_true, crt_finish ht]; simp [bs_zero]
  | cons c cs ih =>
    have hn' : ∀ x ∈ cs, x ≠ nul := fun x hx => hn x (by simp [hx])
    have hq' : q = false → ∀ x ∈ cs, isBlank x = false := fun h x hx => hq h x (by simp [hx])
    simp only [cmdGo]
    split
    · subst_vars
      rw [ih (n + 1) cur ia hq' hn' (fun h => ⟨(hia h).1, Or.inl (by omega)⟩)]
      simp [bs_succ']
    · rename_i h1
      split
      · subst_vars
        have e : bs (n * 2) ++ bsl :: dq :: cmdGo q 0 cs ++ t = bs (2 * n + 1) ++ dq :: (cmdGo q 0 cs ++ t) := by
          simp [bs_succ', Nat.mul_comm]
        rw [e, crt_bs_dq_odd n, ih 0 _ true hq' hn' (by simp)]
        simp [bs_zero]
      · rename_i h2
        have h3 : isBlank c = false ∨ ((ia = true ∨ 0 < n) ∧ q = true) := by
          cases q with
          | false => exact Or.inl (hq rfl c (by simp))
          | true => cases ia with
            | true => exact Or.inr ⟨Or.inl rfl, rfl⟩
            | false => exact absurd (hia rfl).1 (by simp)
        rw [List.append_assoc, List.cons_append, crt_bs_plain n (hn c (by simp)) h1 h2 h3, ih 0 _ true hq' hn' (by simp)]
        simp [bs_zero]

theorem needQuote_false {a : Str} (h : needQuote a = false) : a ≠ [] ∧ ∀ c ∈ a, isBlank c = false := by
  simp only [needQuote, Bool.or_eq_false_iff] at h
  obtain ⟨⟨h1, h2⟩, h3⟩ := h
  refine ⟨by simpa using h3, fun c hc => ?_⟩
  simp only [isBlank, Bool.or_eq_false_iff, decide_eq_false_iff_not]
  constructor
  · intro e; subst e; simp_all
  · intro e; subst e; simp_all

theorem needQuote_of_not_qp {qp : Str → Bool} (hq : ∀ a, needQuote a = true → qp a = true) {a : Str}
    (h : qp a = false) : needQuote a = false := by
  cases h' : needQuote a with
  | false => rfl
  | true => rw [hq a h'] at h; cases h

theorem crt_cmdArgQ (v : CrtVariant) (qp : Str → Bool) (hq : ∀ a, needQuote a = true → qp a = true)
    (a : Str) (hn : ∀ c ∈ a, c ≠ nul) (t : Str) (ht : IsTail t) :
    crt v false false 0 [] (cmdArgQ qp a ++ t) = a :: crt v false false 0 [] (t.drop 1) := by
  unfold cmdArgQ
  cases hqa : qp a with
  | true =>
    simp only [if_true, List.cons_append]
    rw [crt_dq_even (by omega) (Or.inl rfl)]
    show crt v true true 0 [] (cmdGo true 0 a ++ t) = _
    rw [crt_cmdGo v true a 0 [] true t (by simp) hn (by simp) ht]; simp [bs_zero]
  | false =>
    obtain ⟨hne, hb⟩ := needQuote_false (needQuote_of_not_qp hq hqa)
    simp only [Bool.false_eq_true, if_false]
    rw [crt_cmdGo v false a 0 [] false t (fun _ => hb) hn (fun _ => ⟨rfl, Or.inr hne⟩) ht]; simp [bs_zero]

theorem crtSplit_args2cmdQ (v : CrtVariant) (qp : Str → Bool)
    (hq : ∀ a, needQuote a = true → qp a = true) (args : List Str) (hn : NoNul args) :
    crtSplit v (args2cmdQ qp args) = args := by
  unfold crtSplit args2cmdQ
  induction args with
  | nil => simp [join, crt_nil_out]
  | cons a as ih =>
    obtain ⟨t, h1, h2, h3⟩ := join_cons_tail (cmdArgQ qp) a as
    rw [h1, crt_cmdArgQ v qp hq a (hn a (by simp)) t h2, h3, ih (fun b hb => hn b (by simp [hb]))]

/-- translator obligation on the regenerated class of quote-forcing characters: blank and tab are in it -/
def cmdTableOk : Bool := cmdQuoteChar ' ' && cmdQuoteChar '\t'

theorem cmdTableOk_holds : cmdTableOk = true := by decide +kernel

theorem cmdNeedQuote_of_needQuote (a : Str) (h : needQuote a = true) : cmdNeedQuote a = true := by
  have ht := cmdTableOk_holds
  simp only [cmdTableOk, Bool.and_eq_true] at ht
  simp only [needQuote, Bool.or_eq_true, List.contains_iff_mem] at h
  simp only [cmdNeedQuote, Bool.or_eq_true, List.any_eq_true]
  rcases h with (h | h) | h
  · exact Or.inr ⟨' ', h, ht.1⟩
  · exact Or.inr ⟨'\t', h, ht.2⟩
  · exact Or.inl h

theorem cmdGo_ne_nil (q : Bool) (cs : Str) (n : Nat) (h : 0 < n ∨ cs ≠ []) : cmdGo q n cs ≠ [] := by
  induction cs generalizing n with
  | nil =>
    have hn : 0 < n := by simpa using h
    obtain ⟨k, rfl⟩ : ∃ k, n = k + 1 := ⟨n - 1, by omega⟩
    simp [cmdGo, bs_succ]
  | cons c cs ih =>
    simp only [cmdGo]
    split
    · exact ih (n + 1) (Or.inl (by omega))
    · split <;> simp

theorem cmdArgQ_ne_nil (qp : Str → Bool) (hq : ∀ a, needQuote a = true → qp a = true) (a : Str) :
    cmdArgQ qp a ≠ [] := by
  unfold cmdArgQ
  split
  · simp
  · rename_i h
    exact cmdGo_ne_nil _ _ _ (Or.inr (needQuote_false (needQuote_of_not_qp hq (by simpa using h))).1)

theorem cmdArg_ne_nil (a : Str) : cmdArg a ≠ [] := cmdArgQ_ne_nil cmdNeedQuote cmdNeedQuote_of_needQuote a

theorem join_absorb (sep x y : Str) (r : List Str) : join sep ((x ++ sep ++ y) :: r) = join sep (x :: y :: r) := by
  cases r <;> simp [join]

/-- the outer loop (`if result: result.append(' ')`) joins with blanks, once `result` is non-empty -/
theorem cmdLoop_join (res : Str) (h : res ≠ []) (as : List Str) :
    cmdLoop res as = join [' '] (res :: as.map cmdArg) := by
  induction as generalizing res with
  | nil => rfl
  | cons a as ih =>
    have hr : res.isEmpty = false := List.isEmpty_eq_false_iff.mpr h
    simp only [cmdLoop, hr, Bool.false_eq_true, if_false, List.map_cons]
    rw [ih _ (by simp), join_absorb]

theorem args2cmd_eq_Q (args : List Str) : args2cmd args = args2cmdQ cmdNeedQuote args := by
  cases args with
  | nil => rfl
  | cons a as => exact cmdLoop_join _ (cmdArg_ne_nil a) as

end C14
