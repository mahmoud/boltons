import BoltonsVerif.C14.Model
/-
C14 helper lemmas for the integer-list functions: decimal numerals, `strip`, `int()`, sorting, `min` / `max`, `mapM?`; the
range-collapsing loop of `format_int_list` refined to the maximal runs of the sorted list; canonical run lists and their uniqueness.
Suffixes of names: none = the default delimiters `,` `-`; `D` = one-character delimiters; `S` = string delimiters.
-/
namespace C14

/-! The notions in which the integer-list theorems of `Props.lean` are stated (down to `DelimOKS`). -/

/-- the Python loop state as runs: (closed runs, open run) -/
abbrev RState := List (Nat × Nat) × Option (Nat × Nat)

/-- one iteration of `for x in sorted(int_list)`, on runs -/
def rStep (st : RState) (x : Nat) : RState :=
  match st.2 with
  | none => (st.1, some (x, x))
  | some r =>
    if x = r.2 + 1 then (st.1, some (r.1, x))
    else if r.2 + 1 < x then (st.1 ++ [r], some (x, x))
    else st

def rFinish (st : RState) : List (Nat × Nat) :=
  match st.2 with
  | none => st.1
  | some r => st.1 ++ [r]

/-- the maximal runs of a sorted list -/
def runs (s : List Nat) : List (Nat × Nat) := rFinish (s.foldl rStep ([], none))

/-- `n` or `lo<rd>hi` -/
def renderRangeD (rd : Char) (r : Nat × Nat) : Str :=
  if r.1 = r.2 then toDigits r.1 else toDigits r.1 ++ rd :: toDigits r.2

/-- `n` or `lo-hi` -/
def renderRange (r : Nat × Nat) : Str := renderRangeD '-' r

theorem renderRange_eq : renderRange = renderRangeD '-' := rfl

/-- `n` or `lo<rd>hi` -/
def renderRangeS (rd : Str) (r : Nat × Nat) : Str :=
  if r.1 = r.2 then toDigits r.1 else toDigits r.1 ++ rd ++ toDigits r.2

/-- canonical = every run non-empty, runs increasing and separated by a gap (so none can be merged) -/
def Canon (rs : List (Nat × Nat)) : Prop :=
  (∀ r ∈ rs, r.1 ≤ r.2) ∧ rs.Pairwise (fun r s => r.2 + 2 ≤ s.1)

def Covers (rs : List (Nat × Nat)) (x : Nat) : Prop := ∃ r ∈ rs, r.1 ≤ x ∧ x ≤ r.2

/-- the integers a list of runs denotes, in order -/
def expand (rs : List (Nat × Nat)) : List Nat := (rs.map fun r => rangeIncl r.1 r.2).flatten

/-- the sorted list of the distinct integers of `L`, written down directly -/
def sortDedup (L : List Nat) : List Nat := (List.range (lmax L + 1)).filter fun x => L.contains x

/-- the delimiters for which the integer-list theorems are stated: `delim` and `range_delim` are two
    different characters, neither a decimal digit nor white space that `str.strip()` / `int()` remove (`isWs`) -/
structure DelimOK (d rd : Char) : Prop where
  ne : d ≠ rd
  d_nd : isDigit d = false
  r_nd : isDigit rd = false
  d_nws : isWs d = false
  r_nws : isWs rd = false

instance (d rd : Char) : Decidable (DelimOK d rd) :=
  if h : d ≠ rd ∧ isDigit d = false ∧ isDigit rd = false ∧ isWs d = false ∧ isWs rd = false
  then isTrue ⟨h.1, h.2.1, h.2.2.1, h.2.2.2.1, h.2.2.2.2⟩
  else isFalse fun ⟨a, b, c, e, f⟩ => h ⟨a, b, c, e, f⟩

theorem delimOK_default : DelimOK ',' '-' := by decide

/-- the delimiter pairs for which the theorems are stated: both non-empty; the FIRST character of `delim`
    is not a digit, not a space and does not occur in `range_delim`; the first character of `range_delim`
    is not a digit (and, where `delim_space=True` is involved, not a space: hypothesis `hsp` of the theorems);
    first characters suffice, a token is cut only where the head of the separator occurs (`splitGo_tok`) -/
def DelimOKS (d rd : Str) : Prop :=
  match d, rd with
  | h :: _, g :: _ => isDigit h = false ∧ h ≠ ' ' ∧ h ∉ rd ∧ isDigit g = false
  | _, _ => False

instance (d rd : Str) : Decidable (DelimOKS d rd) := by
  unfold DelimOKS; split <;> infer_instance

def dval (c : Char) : Nat := c.toNat - 48

theorem dval_digitChar : ∀ d, d < 10 → dval (digitChar d) = d := by decide
theorem isDigit_digitChar : ∀ d, d < 10 → isDigit (digitChar d) = true := by decide

def ofRev : Str → Nat
  | [] => 0
  | c :: cs => ofRev cs * 10 + dval c

theorem ofDigits_reverse (s : Str) : ofDigits s.reverse = ofRev s := by
  unfold ofDigits
  rw [List.foldl_reverse]
  induction s with
  | nil => rfl
  | cons c cs ih => simp [ofRev, ← ih, dval]

theorem ofRev_digitsRev (n : Nat) : ofRev (digitsRev n) = n := by
  induction n using Nat.strongRecOn with
  | _ n ih =>
    rw [digitsRev]
    split
    · simp [ofRev, dval_digitChar n (by omega)]
    · simp only [ofRev]
      rw [ih (n / 10) (by omega), dval_digitChar _ (by omega)]; omega

theorem ofDigits_toDigits (n : Nat) : ofDigits (toDigits n) = n := by
  rw [toDigits, ofDigits_reverse, ofRev_digitsRev]

theorem digitsRev_digits (n : Nat) : ∀ c ∈ digitsRev n, isDigit c = true := by
  induction n using Nat.strongRecOn with
  | _ n ih =>
    rw [digitsRev]
    split
    · simp [isDigit_digitChar n (by omega)]
    · intro c hc
      simp only [List.mem_cons] at hc
      rcases hc with rfl | hc
      · exact isDigit_digitChar _ (by omega)
      · exact ih (n / 10) (by omega) c hc

theorem digitsRev_ne_nil (n : Nat) : digitsRev n ≠ [] := by
  rw [digitsRev]; split <;> simp

theorem toDigits_digits (n : Nat) : ∀ c ∈ toDigits n, isDigit c = true := by
  intro c hc; exact digitsRev_digits n c (by simpa [toDigits] using hc)

theorem toDigits_ne_nil (n : Nat) : toDigits n ≠ [] := by
  simp [toDigits, digitsRev_ne_nil]

theorem toDigits_not_mem (n : Nat) (d : Char) (hd : isDigit d = false) : d ∉ toDigits n := by
  intro h; have := toDigits_digits n d h; simp [hd] at this

theorem digit_not_ws {c : Char} (h : isDigit c = true) : isWs c = false := by
  simp only [isWs, Bool.or_eq_false_iff, decide_eq_false_iff_not]
  refine ⟨⟨?_, ?_⟩, ?_⟩ <;> (intro e; subst e; revert h; decide)

theorem digit_ne {c : Char} (h : isDigit c = true) : c ≠ ',' ∧ c ≠ '-' := by
  constructor <;> (intro e; subst e; revert h; decide)

/-- what makes `strip` the identity (`strip_goodEnds`) and is kept by `join`: the first and the last character are not white space -/
structure GoodEnds (s : Str) : Prop where
  head : ∃ c, s.head? = some c ∧ isWs c = false
  last : ∃ d, s.getLast? = some d ∧ isWs d = false

theorem GoodEnds.ne_nil {s : Str} (h : GoodEnds s) : s ≠ [] := by
  rintro rfl; obtain ⟨c, hc, -⟩ := h.head; cases hc

theorem dropWhile_isWs_head (s : Str) (h : ∃ c, s.head? = some c ∧ isWs c = false) : s.dropWhile isWs = s := by
  obtain ⟨c, hc, hw⟩ := h
  cases s with
  | nil => cases hc
  | cons a as => cases hc; simp [List.dropWhile, hw]

theorem strip_goodEnds (s : Str) (h : GoodEnds s) : strip s = s := by
  unfold strip
  rw [dropWhile_isWs_head s h.head, dropWhile_isWs_head s.reverse (by simpa [List.head?_reverse] using h.last)]
  simp

theorem goodEnds_of_all (s : Str) (hne : s ≠ []) (h : ∀ c ∈ s, isWs c = false) : GoodEnds s := by
  constructor
  · cases s with
    | nil => exact absurd rfl hne
    | cons a as => exact ⟨a, rfl, h a (by simp)⟩
  · cases hl : s.getLast? with
    | none => simp at hl; exact absurd hl hne
    | some d => exact ⟨d, rfl, h d (List.mem_of_getLast? hl)⟩

theorem goodEnds_append_append (a m b : Str) (ha : GoodEnds a) (hb : GoodEnds b) : GoodEnds (a ++ m ++ b) := by
  obtain ⟨c, hc, hcw⟩ := ha.head
  obtain ⟨d, hd, hdw⟩ := hb.last
  constructor
  · refine ⟨c, ?_, hcw⟩
    cases a with
    | nil => simp at hc
    | cons x xs => simpa using hc
  · refine ⟨d, ?_, hdw⟩
    cases hb' : b with
    | nil => rw [hb'] at hd; simp at hd
    | cons x xs =>
      rw [hb'] at hd
      simp [List.getLast?_append] at *
      simp [hd]

theorem goodEnds_join (sep : Str) (toks : List Str) (hne : toks ≠ []) (h : ∀ t ∈ toks, GoodEnds t) :
    GoodEnds (join sep toks) := by
  induction toks with
  | nil => exact absurd rfl hne
  | cons a r ih =>
    cases r with
    | nil => simpa [join] using h a (by simp)
    | cons b r' =>
      simp only [join]
      exact goodEnds_append_append _ _ _ (h a (by simp)) (ih (by simp) (fun t ht => h t (by simp [ht])))

theorem goodEnds_digits (n : Nat) : GoodEnds (toDigits n) :=
  goodEnds_of_all _ (toDigits_ne_nil n) (fun c hc => digit_not_ws (toDigits_digits n c hc))

theorem strip_cons_ws (c : Char) (s : Str) (hc : isWs c = true) : strip (c :: s) = strip s := by
  simp [strip, List.dropWhile, hc]

theorem pyInt_toDigits (n : Nat) : pyInt? (toDigits n) = some n := by
  unfold pyInt?
  have hs : strip (toDigits n) = toDigits n := strip_goodEnds _ (goodEnds_digits n)
  have h1 : (toDigits n).isEmpty = false := List.isEmpty_eq_false_iff.mpr (toDigits_ne_nil n)
  have h2 : (toDigits n).all isDigit = true := by
    simp only [List.all_eq_true]; exact toDigits_digits n
  simp [hs, h1, h2, ofDigits_toDigits]

theorem pyInt_space_toDigits (n : Nat) : pyInt? (' ' :: toDigits n) = some n := by
  have h := pyInt_toDigits n
  unfold pyInt? at h ⊢
  rwa [strip_cons_ws ' ' _ (by decide)]

theorem ws_space : isWs ' ' = true := by decide

theorem mem_insertSorted (x y : Nat) (l : List Nat) : y ∈ insertSorted x l ↔ y = x ∨ y ∈ l := by
  induction l with
  | nil => simp [insertSorted]
  | cons a as ih =>
    simp only [insertSorted]
    split
    · simp
    · simp [ih]; grind

theorem mem_isort (y : Nat) (l : List Nat) : y ∈ isort l ↔ y ∈ l := by
  induction l with
  | nil => simp [isort]
  | cons a as ih => simp [isort, mem_insertSorted, ih]

theorem insertSorted_sorted (x : Nat) (l : List Nat) (h : l.Pairwise (· ≤ ·)) :
    (insertSorted x l).Pairwise (· ≤ ·) := by
  induction l with
  | nil => simp [insertSorted]
  | cons a as ih =>
    simp only [insertSorted]
    have ⟨h1, h2⟩ := List.pairwise_cons.mp h
    split
    · rename_i hle
      refine List.pairwise_cons.mpr ⟨?_, h⟩
      intro y hy
      simp only [List.mem_cons] at hy
      rcases hy with rfl | hy
      · exact hle
      · exact Nat.le_trans hle (h1 y hy)
    · rename_i hle
      refine List.pairwise_cons.mpr ⟨?_, ih h2⟩
      intro y hy
      rcases (mem_insertSorted x y as).mp hy with rfl | hy
      · omega
      · exact h1 y hy

theorem isort_sorted (l : List Nat) : (isort l).Pairwise (· ≤ ·) := by
  induction l with
  | nil => simp [isort]
  | cons a as ih => exact insertSorted_sorted a _ ih

theorem insertSorted_of_le (x : Nat) (l : List Nat) (h : ∀ y ∈ l, x ≤ y) : insertSorted x l = x :: l := by
  cases l with
  | nil => rfl
  | cons a as => simp [insertSorted, h a (by simp)]

theorem isort_id (l : List Nat) (h : l.Pairwise (· ≤ ·)) : isort l = l := by
  induction l with
  | nil => rfl
  | cons a as ih =>
    have ⟨h1, h2⟩ := List.pairwise_cons.mp h
    rw [isort, ih h2, insertSorted_of_le a as h1]

theorem isort_eq_nil (l : List Nat) : isort l = [] ↔ l = [] := by
  constructor
  · intro h
    cases l with
    | nil => rfl
    | cons a as =>
      have : a ∈ isort (a :: as) := (mem_isort a _).mpr (by simp)
      rw [h] at this; simp at this
  · rintro rfl; rfl

/-- `lmax` of a non-empty list is core's `List.max?` -/
theorem lmax_eq_iff (l : List Nat) (h : l ≠ []) (a : Nat) : lmax l = a ↔ a ∈ l ∧ ∀ b ∈ l, b ≤ a := by
  cases l with
  | nil => exact absurd rfl h
  | cons x xs => rw [← List.max?_eq_some_iff, List.max?_cons', Option.some.injEq, lmax]

theorem lmin_eq_iff (l : List Nat) (h : l ≠ []) (a : Nat) : lmin l = a ↔ a ∈ l ∧ ∀ b ∈ l, a ≤ b := by
  cases l with
  | nil => exact absurd rfl h
  | cons x xs => rw [← List.min?_eq_some_iff, List.min?_cons', Option.some.injEq, lmin]

theorem le_lmax (L : List Nat) (x : Nat) (h : x ∈ L) : x ≤ lmax L :=
  ((lmax_eq_iff L (List.ne_nil_of_mem h) _).mp rfl).2 x h

theorem lmin_range' (lo k : Nat) : lmin (List.range' lo (k + 1)) = lo :=
  (lmin_eq_iff _ (by simp) lo).mpr
    ⟨by simp [List.mem_range'_1], fun b hb => by simp [List.mem_range'_1] at hb; omega⟩

theorem lmax_range' (lo k : Nat) : lmax (List.range' lo (k + 1)) = lo + k :=
  (lmax_eq_iff _ (by simp) _).mpr
    ⟨by simp [List.mem_range'_1], fun b hb => by simp [List.mem_range'_1] at hb; omega⟩

theorem getLastD_range' (lo k d : Nat) : (List.range' lo (k + 1)).getLastD d = lo + k := by
  simp [List.getLastD_eq_getLast?, List.getLast?_range']

theorem mapM?_eq_none_iff {α β : Type} (f : α → Option β) (l : List α) :
    mapM? f l = none ↔ ∃ a ∈ l, f a = none := by
  induction l with
  | nil => simp [mapM?]
  | cons a as ih =>
    simp only [mapM?, List.mem_cons, exists_eq_or_imp]
    cases h1 : f a with
    | none => simp
    | some b =>
      cases h2 : mapM? f as with
      | none => simp [ih.mp h2]
      | some bs =>
        have : ¬ ∃ a ∈ as, f a = none := fun h => by rw [ih.mpr h] at h2; cases h2
        simp [this]

theorem mapM?_isSome_iff {α β : Type} (f : α → Option β) (l : List α) :
    (∃ r, mapM? f l = some r) ↔ ∀ a ∈ l, ∃ b, f a = some b := by
  constructor
  · rintro ⟨r, hr⟩ a ha
    cases h : f a with
    | some b => exact ⟨b, rfl⟩
    | none => rw [(mapM?_eq_none_iff f l).mpr ⟨a, ha, h⟩] at hr; cases hr
  · intro h
    cases hm : mapM? f l with
    | some r => exact ⟨r, rfl⟩
    | none =>
      obtain ⟨a, ha, hn⟩ := (mapM?_eq_none_iff f l).mp hm
      obtain ⟨b, hb⟩ := h a ha
      rw [hb] at hn; cases hn

theorem mapM?_length {α β : Type} (f : α → Option β) (l : List α) (r : List β) (h : mapM? f l = some r) :
    r.length = l.length := by
  induction l generalizing r with
  | nil => simp [mapM?] at h; subst h; rfl
  | cons a t ih =>
    simp only [mapM?] at h
    cases ha : f a with
    | none => simp [ha] at h
    | some b =>
      cases ht : mapM? f t with
      | none => simp [ha, ht] at h
      | some bs =>
        simp [ha, ht] at h
        subst h
        simp [ih bs ht]

theorem mapM?_map {α β γ : Type} (f : β → Option γ) (g : α → β) (h : α → γ) (l : List α)
    (hf : ∀ x ∈ l, f (g x) = some (h x)) : mapM? f (l.map g) = some (l.map h) := by
  induction l with
  | nil => rfl
  | cons a as ih =>
    simp [mapM?, hf a (by simp), ih (fun x hx => hf x (by simp [hx]))]

/-- the token written when a non-empty `contig_range` is closed -/
def crTokS (rd : Str) (cr : List Nat) : Str :=
  match cr with
  | [a] => toDigits a
  | _ => fmtRangeS rd cr

/-- the loop body on a non-empty `contig_range`, whatever its length: `x` against the last element + 1 -/
theorem fmtStepS_cons (rd : Str) (out : List Str) (a : Nat) (t : List Nat) (x : Nat) :
    fmtStepS rd (out, a :: t) x =
      if x = (a :: t).getLastD 0 + 1 then (out, a :: t ++ [x])
      else if (a :: t).getLastD 0 + 1 < x then (out ++ [crTokS rd (a :: t)], [x])
      else (out, a :: t) := by
  cases t <;> rfl

theorem fmtFinishS_cons (rd : Str) (out : List Str) (a : Nat) (t : List Nat) :
    fmtFinishS rd (out, a :: t) = out ++ [crTokS rd (a :: t)] := by
  cases t <;> rfl

theorem crTokS_range (rd : Str) (lo k : Nat) :
    crTokS rd (lo :: List.range' (lo + 1) k) = renderRangeS rd (lo, lo + k) := by
  cases k with
  | zero => simp [crTokS, renderRangeS]
  | succ k =>
    have h1 : ¬ (lo = lo + (k + 1)) := by omega
    simp only [renderRangeS, h1, if_false, crTokS, List.range'_succ, fmtRangeS]
    rw [← List.range'_succ, ← List.range'_succ, lmin_range', lmax_range']

/-- the Python loop state (`output`, `contig_range`) represents the state on runs: the closed runs are written out, `contig_range`
    lists the open run -/
inductive RelS (rd : Str) : List Str × List Nat → RState → Prop
  | noRun (cl : List (Nat × Nat)) : RelS rd (cl.map (renderRangeS rd), []) (cl, none)
  | inRun (cl : List (Nat × Nat)) (lo k : Nat) :
      RelS rd (cl.map (renderRangeS rd), lo :: List.range' (lo + 1) k) (cl, some (lo, lo + k))

theorem fmtStepS_rel (rd : Str) (st : List Str × List Nat) (rs : RState) (x : Nat) (h : RelS rd st rs) :
    RelS rd (fmtStepS rd st x) (rStep rs x) := by
  cases h with
  | noRun cl => exact .inRun cl x 0
  | inRun cl lo k =>
    have hlast : (lo :: List.range' (lo + 1) k).getLastD 0 = lo + k := by
      simpa [List.range'_succ] using getLastD_range' lo k 0
    simp only [rStep, fmtStepS_cons, hlast]
    split
    · subst_vars
      have e : lo + 1 + 1 * k = lo + k + 1 := by omega
      have := RelS.inRun (rd := rd) cl lo (k + 1)
      rwa [List.range'_concat, e] at this
    · split
      · simpa [crTokS_range] using RelS.inRun (rd := rd) (cl ++ [(lo, lo + k)]) x 0
      · exact .inRun cl lo k

theorem foldlS_rel (rd : Str) (s : List Nat) (st : List Str × List Nat) (rs : RState) (h : RelS rd st rs) :
    RelS rd (s.foldl (fmtStepS rd) st) (s.foldl rStep rs) := by
  induction s generalizing st rs with
  | nil => exact h
  | cons x xs ih => exact ih _ _ (fmtStepS_rel rd st rs x h)

theorem fmtFinishS_rel (rd : Str) (st : List Str × List Nat) (rs : RState) (h : RelS rd st rs) :
    fmtFinishS rd st = (rFinish rs).map (renderRangeS rd) := by
  cases h with
  | noRun cl => rfl
  | inRun cl lo k => simp [rFinish, fmtFinishS_cons, crTokS_range]

theorem fmtTokensS_eq (rd : Str) (l : List Nat) : fmtTokensS rd l = (runs (isort l)).map (renderRangeS rd) := by
  unfold fmtTokensS runs
  exact fmtFinishS_rel rd _ _ (foldlS_rel rd _ _ _ (.noRun []))

theorem formatS_eq (d rd : Str) (l : List Nat) (sp : Bool) :
    formatIntListS l sp d rd = join (if sp then d ++ [' '] else d) ((runs (isort l)).map (renderRangeS rd)) := by
  simp [formatIntListS, fmtTokensS_eq]

/-- invariant of the loop on runs once the elements `seen` have gone through it: canonical so far, no run is closed before one is
    open, and the runs cover exactly `seen` -/
structure RunsInv (seen : List Nat) (st : RState) : Prop where
  canon : Canon (rFinish st)
  closed_nil : st.2 = none → st.1 = []
  covers : ∀ y, Covers (rFinish st) y ↔ y ∈ seen

theorem Canon.lo_le_hi {rs : List (Nat × Nat)} (h : Canon rs) : ∀ r ∈ rs, r.1 ≤ r.2 := h.1

theorem canon_snoc (cl : List (Nat × Nat)) (r : Nat × Nat) :
    Canon (cl ++ [r]) ↔ Canon cl ∧ r.1 ≤ r.2 ∧ ∀ s ∈ cl, s.2 + 2 ≤ r.1 := by
  simp only [Canon, List.pairwise_append, List.mem_append, List.mem_singleton]
  constructor
  · rintro ⟨h1, h2, -, h4⟩
    exact ⟨⟨fun s hs => h1 s (Or.inl hs), h2⟩, h1 r (Or.inr rfl), fun s hs => h4 s hs r rfl⟩
  · rintro ⟨⟨h1, h2⟩, h3, h4⟩
    refine ⟨?_, h2, by simp, ?_⟩
    · rintro s (hs | rfl)
      · exact h1 s hs
      · exact h3
    · intro s hs t ht; subst ht; exact h4 s hs

theorem covers_snoc (cl : List (Nat × Nat)) (r : Nat × Nat) (y : Nat) :
    Covers (cl ++ [r]) y ↔ Covers cl y ∨ (r.1 ≤ y ∧ y ≤ r.2) := by
  simp only [Covers, List.mem_append, List.mem_singleton]
  constructor
  · rintro ⟨s, hs | rfl, h⟩
    · exact Or.inl ⟨s, hs, h⟩
    · exact Or.inr h
  · rintro (⟨s, hs, h⟩ | h)
    · exact ⟨s, Or.inl hs, h⟩
    · exact ⟨r, Or.inr rfl, h⟩

theorem covers_cons (r : Nat × Nat) (rs : List (Nat × Nat)) (x : Nat) :
    Covers (r :: rs) x ↔ (r.1 ≤ x ∧ x ≤ r.2) ∨ Covers rs x := by
  simp [Covers]

theorem canon_cons (r : Nat × Nat) (rs : List (Nat × Nat)) :
    Canon (r :: rs) ↔ r.1 ≤ r.2 ∧ (∀ s ∈ rs, r.2 + 2 ≤ s.1) ∧ Canon rs := by
  simp only [Canon, List.pairwise_cons, List.mem_cons, forall_eq_or_imp]
  constructor
  · rintro ⟨⟨h1, h2⟩, h3, h4⟩; exact ⟨h1, h3, h2, h4⟩
  · rintro ⟨h1, h3, h2, h4⟩; exact ⟨⟨h1, h2⟩, h3, h4⟩

theorem rStep_inv (seen : List Nat) (st : RState) (x : Nat) (hinv : RunsInv seen st) (hx : ∀ y ∈ seen, y ≤ x) :
    RunsInv (seen ++ [x]) (rStep st x) := by
  obtain ⟨cl, cur⟩ := st
  have hcov := hinv.covers
  cases cur with
  | none =>
    have hcl : cl = [] := hinv.closed_nil rfl
    subst hcl
    refine ⟨by simp [rStep, rFinish, Canon], by simp [rStep], fun y => ?_⟩
    have := hcov y
    simp [rStep, rFinish, Covers] at this ⊢
    simp only [this, false_or]; omega
  | some r =>
    obtain ⟨lo, hi⟩ := r
    have hc := hinv.canon
    simp only [rFinish, covers_snoc] at hc hcov
    rw [canon_snoc] at hc
    obtain ⟨hc1, hc2, hc3⟩ := hc
    simp only at hc2 hc3
    -- the end of the open run has been seen, so `x` is not below it (`hx`): the run grows (`x = hi + 1`), or it is closed and the
    -- gap `Canon` asks for is there (`hi + 1 < x`), or `x = hi` is a repeated element and nothing changes
    have hle : hi ≤ x := hx hi ((hcov hi).mp (Or.inr ⟨hc2, Nat.le_refl _⟩))
    simp only [rStep]
    split
    · rename_i he
      refine ⟨?_, by simp, fun y => ?_⟩
      · simp only [rFinish]; rw [canon_snoc]; exact ⟨hc1, by simp; omega, hc3⟩
      · simp only [rFinish, covers_snoc, List.mem_append, List.mem_singleton, ← hcov y]; subst he; grind
    · split
      · rename_i hne hlt
        refine ⟨?_, by simp, fun y => ?_⟩
        · simp only [rFinish]; rw [canon_snoc, canon_snoc]
          refine ⟨⟨hc1, hc2, hc3⟩, by simp, ?_⟩
          intro s hs
          simp only [List.mem_append, List.mem_singleton] at hs
          rcases hs with hs | rfl
          · have := hc3 s hs; simp; omega
          · simp; omega
        · simp only [rFinish, covers_snoc, List.mem_append, List.mem_singleton, ← hcov y]; grind
      · rename_i hne hlt
        have : x = hi := by omega
        subst this
        refine ⟨hinv.canon, by simp, fun y => ?_⟩
        simp only [rFinish, covers_snoc, List.mem_append, List.mem_singleton, ← hcov y]; grind

theorem foldl_rStep_inv (s seen : List Nat) (st : RState) (hs : (seen ++ s).Pairwise (· ≤ ·)) (hinv : RunsInv seen st) :
    RunsInv (seen ++ s) (s.foldl rStep st) := by
  induction s generalizing seen st with
  | nil => simpa using hinv
  | cons x xs ih =>
    have hx : ∀ y ∈ seen, y ≤ x := fun y hy => (List.pairwise_append.mp hs).2.2 y hy x (by simp)
    have := ih (seen ++ [x]) (rStep st x) (by simpa using hs) (rStep_inv seen st x hinv hx)
    simpa using this

theorem runs_inv (s : List Nat) (hs : s.Pairwise (· ≤ ·)) : RunsInv s (s.foldl rStep ([], none)) := by
  simpa using foldl_rStep_inv s [] ([], none) (by simpa using hs) ⟨by simp [rFinish, Canon], by simp, by simp [rFinish, Covers]⟩

theorem canon_runs_isort (l : List Nat) : Canon (runs (isort l)) :=
  (runs_inv (isort l) (isort_sorted l)).canon

theorem covers_runs_isort (l : List Nat) (y : Nat) : Covers (runs (isort l)) y ↔ y ∈ l := by
  rw [runs, (runs_inv (isort l) (isort_sorted l)).covers, mem_isort]

theorem mem_expand (rs : List (Nat × Nat)) (x : Nat) : x ∈ expand rs ↔ Covers rs x := by
  simp only [expand, List.mem_flatten, List.mem_map, Covers, rangeIncl]
  constructor
  · rintro ⟨l, ⟨r, hr, rfl⟩, hx⟩
    refine ⟨r, hr, ?_⟩
    simp [List.mem_range'_1] at hx; omega
  · rintro ⟨r, hr, h1, h2⟩
    refine ⟨_, ⟨r, hr, rfl⟩, ?_⟩
    simp [List.mem_range'_1]; omega

theorem expand_sorted (rs : List (Nat × Nat)) (h : Canon rs) : (expand rs).Pairwise (· < ·) := by
  unfold expand
  rw [List.pairwise_flatten]
  constructor
  · intro l hl
    simp only [List.mem_map] at hl
    obtain ⟨r, -, rfl⟩ := hl
    exact List.pairwise_lt_range'
  · rw [List.pairwise_map]
    refine h.2.imp_of_mem ?_
    intro r s hr hs hrs x hx y hy
    simp [rangeIncl, List.mem_range'_1] at hx hy
    omega

theorem mem_isort_expand (rs : List (Nat × Nat)) (x : Nat) : x ∈ isort (expand rs) ↔ Covers rs x := by
  rw [mem_isort, mem_expand]

theorem isort_expand_of_canon (rs : List (Nat × Nat)) (h : Canon rs) : isort (expand rs) = expand rs :=
  isort_id _ ((expand_sorted rs h).imp Nat.le_of_lt)

theorem sortDedup_sorted (L : List Nat) : (sortDedup L).Pairwise (· < ·) :=
  List.Pairwise.filter _ List.pairwise_lt_range

theorem mem_sortDedup (L : List Nat) (x : Nat) : x ∈ sortDedup L ↔ x ∈ L := by
  simp only [sortDedup, List.mem_filter, List.mem_range, List.contains_eq_mem, decide_eq_true_eq]
  constructor
  · exact fun h => h.2
  · exact fun h => ⟨by have := le_lmax L x h; omega, h⟩

/-- the list `complement_int_list` formats (the model's expression, word for word: `complementS_of_parse`): the non-negative
    integers of the window `[a, e)` that `l` lacks -/
def windowGaps (l : List Nat) (a e : Int) : List Nat :=
  (List.range e.toNat).filter fun x => !l.contains x && !decide ((x : Int) < a)

theorem mem_windowGaps (l : List Nat) (a e : Int) (x : Nat) :
    x ∈ windowGaps l a e ↔ (a ≤ (x : Int) ∧ (x : Int) < e ∧ x ∉ l) := by
  simp only [windowGaps, List.mem_filter, List.mem_range, Bool.and_eq_true, Bool.not_eq_true',
    List.contains_eq_mem, decide_eq_false_iff_not]
  constructor
  · rintro ⟨h1, h2, h3⟩; exact ⟨by omega, by omega, by simpa using h2⟩
  · rintro ⟨h1, h2, h3⟩; exact ⟨by omega, by simpa using h3, by omega⟩

theorem sorted_eq_of_mem_iff (A B : List Nat) (hA : A.Pairwise (· < ·)) (hB : B.Pairwise (· < ·))
    (h : ∀ x, x ∈ A ↔ x ∈ B) : A = B :=
  ((List.perm_ext_iff_of_nodup (hA.imp Nat.ne_of_lt) (hB.imp Nat.ne_of_lt)).mpr h).eq_of_pairwise
    (fun _ _ _ _ h1 h2 => absurd h1 (Nat.lt_asymm h2)) hA hB

theorem expand_runs_eq (L : List Nat) : expand (runs (isort L)) = sortDedup L := by
  exact sorted_eq_of_mem_iff _ _ (expand_sorted _ (canon_runs_isort L)) (sortDedup_sorted L)
    (fun x => by rw [mem_expand, covers_runs_isort, mem_sortDedup])

theorem covers_head {al ah x : Nat} (as : List (Nat × Nat)) (h1 : al ≤ x) (h2 : x ≤ ah) : Covers ((al, ah) :: as) x :=
  (covers_cons _ _ _).mpr (Or.inl ⟨h1, h2⟩)

theorem canon_head_le {al ah x : Nat} {as : List (Nat × Nat)} (h : Canon ((al, ah) :: as))
    (hx : Covers ((al, ah) :: as) x) : al ≤ x := by
  obtain ⟨h1, h2, -⟩ := (canon_cons _ _).mp h
  rcases (covers_cons _ _ _).mp hx with h' | ⟨s, hs, h', _⟩
  · exact h'.1
  · have := h2 s hs; simp only at h1 this; omega

theorem canon_gap {al ah : Nat} {as : List (Nat × Nat)} (h : Canon ((al, ah) :: as)) :
    ¬ Covers ((al, ah) :: as) (ah + 1) := by
  obtain ⟨-, h2, -⟩ := (canon_cons _ _).mp h
  intro hx
  rcases (covers_cons _ _ _).mp hx with h' | ⟨s, hs, h', _⟩
  · simp at h'; omega
  · have := h2 s hs; simp only at this; omega

theorem covers_tail_iff {al ah : Nat} {as : List (Nat × Nat)} (h : Canon ((al, ah) :: as)) (x : Nat) :
    Covers as x ↔ Covers ((al, ah) :: as) x ∧ ah < x := by
  obtain ⟨-, h2, -⟩ := (canon_cons _ _).mp h
  rw [covers_cons]
  constructor
  · rintro ⟨s, hs, h', h''⟩
    have := h2 s hs
    simp only at this
    exact ⟨Or.inr ⟨s, hs, h', h''⟩, by omega⟩
  · rintro ⟨h' | h', hlt⟩
    · simp at h'; omega
    · exact h'

theorem canon_unique (A B : List (Nat × Nat)) (hA : Canon A) (hB : Canon B)
    (h : ∀ x, Covers A x ↔ Covers B x) : A = B := by
  induction A generalizing B with
  | nil =>
    cases B with
    | nil => rfl
    | cons b bs =>
      have hb := ((canon_cons b bs).mp hB).1
      exact absurd ((h b.1).mpr (covers_head bs (Nat.le_refl _) hb)) (by simp [Covers])
  | cons a as ih =>
    cases B with
    | nil =>
      have ha := ((canon_cons a as).mp hA).1
      exact absurd ((h a.1).mp (covers_head as (Nat.le_refl _) ha)) (by simp [Covers])
    | cons b bs =>
      obtain ⟨al, ah⟩ := a
      obtain ⟨bl, bh⟩ := b
      obtain ⟨ha1, -, ha3⟩ := (canon_cons _ _).mp hA
      obtain ⟨hb1, -, hb3⟩ := (canon_cons _ _).mp hB
      simp only at ha1 hb1
      -- the low ends agree: each is covered by the other list, hence not below its head
      have hlo : al = bl := Nat.le_antisymm
        (canon_head_le hA ((h bl).mpr (covers_head bs (Nat.le_refl _) hb1)))
        (canon_head_le hB ((h al).mp (covers_head as (Nat.le_refl _) ha1)))
      subst hlo
      -- the high ends agree: the point just above the shorter head would be covered by the other list only
      have hhi : ah = bh := by
        rcases Nat.lt_trichotomy ah bh with hlt | heq | hgt
        · exact absurd ((h (ah + 1)).mpr (covers_head bs (by omega) (by omega))) (canon_gap hA)
        · exact heq
        · exact absurd ((h (bh + 1)).mp (covers_head as (by omega) (by omega))) (canon_gap hB)
      subst hhi
      rw [ih bs ha3 hb3 (fun x => by rw [covers_tail_iff hA, covers_tail_iff hB, h x])]

theorem runs_unique (L : List Nat) (rs : List (Nat × Nat)) (hc : Canon rs) (hm : ∀ x, Covers rs x ↔ x ∈ L) :
    runs (isort L) = rs :=
  canon_unique _ _ (canon_runs_isort L) hc (fun x => by rw [covers_runs_isort, hm])

end C14
