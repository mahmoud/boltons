import BoltonsVerif.C14.Proofs
/-
C14 helper lemmas: the integer-list functions with multi-character (string) delimiters; one-character delimiters as the
instances at `[d]`, `[rd]`; what `int_ranges_from_int_list` reads back from the text written with the defaults.
-/
namespace C14

theorem isPre_append (d rest : Str) : isPre d (d ++ rest) = true := by
  induction d with
  | nil => simp [isPre]
  | cons a as ih => simp [isPre, ih]

theorem isPre_head_ne (d0 : Char) (d' : Str) (c : Char) (cs : Str) (hc : c ≠ d0) :
    isPre (d0 :: d') (c :: cs) = false := by
  simp [isPre, Ne.symm hc]

theorem splitGo_skip (d : Str) (x : Str) (cur rest : Str) :
    splitGo d x.length cur (x ++ rest) = splitGo d 0 cur rest := by
  induction x with
  | nil => simp
  | cons c cs ih => simp [splitGo, ih]

theorem splitGo_tok (d0 : Char) (d' : Str) (t : Str) (ht : d0 ∉ t) (cur rest : Str) :
    splitGo (d0 :: d') 0 cur (t ++ rest) = splitGo (d0 :: d') 0 (t.reverse ++ cur) rest := by
  induction t generalizing cur with
  | nil => simp
  | cons c cs ih =>
    have hc : c ≠ d0 := fun e => ht (by simp [e])
    have hcs : d0 ∉ cs := fun e => ht (by simp [e])
    simp only [List.cons_append, splitGo, isPre_head_ne d0 d' c _ hc, Bool.false_eq_true, if_false]
    rw [ih hcs]; simp

theorem splitGo_sep (d0 : Char) (d' : Str) (cur rest : Str) :
    splitGo (d0 :: d') 0 cur ((d0 :: d') ++ rest) = cur.reverse :: splitGo (d0 :: d') 0 [] rest := by
  have hp : isPre (d0 :: d') (d0 :: (d' ++ rest)) = true := isPre_append (d0 :: d') rest
  simp only [List.cons_append, splitGo, hp, if_true, List.length_cons, Nat.add_sub_cancel]
  rw [splitGo_skip]

theorem splitGo_end (d cur : Str) (k : Nat) : splitGo d k cur [] = [cur.reverse] := by
  cases k <;> simp [splitGo]

theorem splitOnS_join (d0 : Char) (d' : Str) (toks : List Str) (hne : toks ≠ []) (ht : ∀ t ∈ toks, d0 ∉ t) :
    splitOnS (d0 :: d') (join (d0 :: d') toks) = toks := by
  show splitGo (d0 :: d') 0 [] (join (d0 :: d') toks) = toks
  induction toks with
  | nil => exact absurd rfl hne
  | cons t r ih =>
    have h1 := ht t (by simp)
    cases r with
    | nil =>
      have := splitGo_tok d0 d' t h1 [] []
      simp only [List.append_nil] at this
      simp [join, this, splitGo_end]
    | cons t2 r2 =>
      simp only [join]
      rw [List.append_assoc, splitGo_tok d0 d' t h1, splitGo_sep, ih (by simp) (fun x hx => ht x (by simp [hx]))]
      simp

theorem splitGo_mem (d : Str) (s : Str) : ∀ (k : Nat) (cur : Str), ∀ p ∈ splitGo d k cur s, ∀ c ∈ p, c ∈ cur ∨ c ∈ s := by
  induction s with
  | nil => intro k cur p hp c hc; cases k <;> simp [splitGo] at hp <;> (subst hp; left; simpa using hc)
  | cons x xs ih =>
    intro k cur p hp c hc
    cases k with
    | succ k =>
      simp only [splitGo] at hp
      rcases ih k cur p hp c hc with h | h
      · exact Or.inl h
      · exact Or.inr (by simp [h])
    | zero =>
      simp only [splitGo] at hp
      split at hp
      · rcases List.mem_cons.mp hp with e | hp'
        · subst e; left; simpa using hc
        · rcases ih _ [] p hp' c hc with h | h
          · simp at h
          · exact Or.inr (by simp [h])
      · rcases ih 0 (x :: cur) p hp c hc with h | h
        · rcases List.mem_cons.mp h with e | h'
          · exact Or.inr (by simp [e])
          · exact Or.inl h'
        · exact Or.inr (by simp [h])

theorem splitGo_ne_nil (d : Str) (s : Str) : ∀ (k : Nat) (cur : Str), splitGo d k cur s ≠ [] := by
  induction s with
  | nil => intro k cur; cases k <;> simp [splitGo]
  | cons x xs ih =>
    intro k cur
    cases k with
    | succ k => simpa [splitGo] using ih k cur
    | zero =>
      simp only [splitGo]
      split
      · simp
      · exact ih 0 _

theorem containsS_none (d0 : Char) (d' : Str) (s : Str) (hs : d0 ∉ s) : containsS (d0 :: d') s = false := by
  induction s with
  | nil => simp [containsS, isPre]
  | cons c cs ih =>
    have hc : c ≠ d0 := fun e => hs (by simp [e])
    simp [containsS, isPre_head_ne d0 d' c cs hc, ih (fun e => hs (by simp [e]))]

theorem containsS_mid (d a b : Str) : containsS d (a ++ d ++ b) = true := by
  induction a with
  | nil =>
    simp only [List.nil_append]
    cases hdb : d ++ b with
    | nil =>
      have hd0 : d = [] := (List.append_eq_nil_iff.mp hdb).1
      subst hd0; simp [containsS, isPre]
    | cons c cs =>
      simp only [containsS, Bool.or_eq_true]
      left; rw [← hdb]; exact isPre_append d b
  | cons c cs ih =>
    simp only [List.cons_append, List.append_assoc, containsS, Bool.or_eq_true] at ih ⊢
    right; exact ih

theorem goodEnds_renderS (rd : Str) (r : Nat × Nat) : GoodEnds (renderRangeS rd r) := by
  unfold renderRangeS; split
  · exact goodEnds_digits _
  · exact goodEnds_append_append _ _ _ (goodEnds_digits _) (goodEnds_digits _)

/-- `pre` is what `delim_space` leaves in front of a token: `[]` or `[' ']` -/
theorem parseTokS_render (g : Char) (r' : Str) (hg : isDigit g = false) (pre : Str) (hp1 : g ∉ pre)
    (hp2 : ∀ n, pyInt? (pre ++ toDigits n) = some n) (r : Nat × Nat) (h : r.1 ≤ r.2) :
    parseTokS (g :: r') (pre ++ renderRangeS (g :: r') r) = some (rangeIncl r.1 r.2) := by
  obtain ⟨lo, hi⟩ := r
  simp only at h
  have hno := fun n => toDigits_not_mem n g hg
  unfold renderRangeS
  split
  · rename_i he
    simp only at he; subst he
    have hn : g ∉ pre ++ toDigits lo := by simp [hp1, hno lo]
    have hne : (pre ++ toDigits lo).isEmpty = false :=
      List.isEmpty_eq_false_iff.mpr fun hh => toDigits_ne_nil lo (List.append_eq_nil_iff.mp hh).2
    simp [parseTokS, containsS_none g r' _ hn, hne, hp2, rangeIncl]
  · have h1 : containsS (g :: r') (pre ++ (toDigits lo ++ (g :: r') ++ toDigits hi)) = true := by
      have := containsS_mid (g :: r') (pre ++ toDigits lo) (toDigits hi)
      simpa [List.append_assoc] using this
    simp only [parseTokS, h1, if_true]
    have hj : pre ++ (toDigits lo ++ (g :: r') ++ toDigits hi) = join (g :: r') [pre ++ toDigits lo, toDigits hi] := by
      simp [join, List.append_assoc]
    rw [hj, splitOnS_join g r' _ (by simp) (by
      intro t ht
      simp only [List.mem_cons, List.mem_nil_iff, or_false] at ht
      rcases ht with rfl | rfl
      · simp [hp1, hno lo]
      · exact hno hi)]
    have e0 : pyInt? (toDigits hi) = some hi := pyInt_toDigits hi
    simp only [mapM?, hp2, e0, lmin, lmax, List.foldl_cons, List.foldl_nil]
    rw [Nat.min_eq_left h, Nat.max_eq_right h]

/-- the pieces `s.split(delim)` sees when the separator was `delim + pre` -/
def preTail (pre : Str) : List Str → List Str
  | [] => []
  | t :: ts => t :: ts.map (pre ++ ·)

theorem join_preTail (d pre : Str) (toks : List Str) : join (d ++ pre) toks = join d (preTail pre toks) := by
  induction toks with
  | nil => rfl
  | cons a r ih =>
    cases r with
    | nil => rfl
    | cons b r' =>
      simp only [preTail, List.map_cons, join] at ih ⊢
      cases r' with
      | nil => simp [join]
      | cons c r'' =>
        simp only [join, List.map_cons] at ih ⊢
        simp only [List.append_assoc] at ih ⊢
        rw [ih]

theorem renderS_head_not_mem (h g : Char) (r' : Str) (hh : isDigit h = false) (hr : h ∉ g :: r') (r : Nat × Nat) :
    h ∉ renderRangeS (g :: r') r := by
  have hno := fun n => toDigits_not_mem n h hh
  unfold renderRangeS; split
  · exact hno _
  · simp only [List.mem_append, not_or]; exact ⟨⟨hno _, hr⟩, hno _⟩

theorem parse_renderS (d rd : Str) (ok : DelimOKS d rd) (sp : Bool) (hsp : sp = true → rd.head? ≠ some ' ')
    (rs : List (Nat × Nat)) (h : ∀ r ∈ rs, r.1 ≤ r.2) :
    parseIntListS (join (if sp then d ++ [' '] else d) (rs.map (renderRangeS rd))) d rd = some (isort (expand rs)) := by
  cases d with
  | nil => exact absurd ok (by simp [DelimOKS])
  | cons d0 d' =>
  cases rd with
  | nil => exact absurd ok (by simp [DelimOKS])
  | cons g r' =>
  obtain ⟨hd0_nd, hd0_nsp, hd0_nrd, hg_nd⟩ := ok
  -- what `delim_space` puts behind the delimiter, hence in front of every token but the first
  obtain ⟨pre, hpre, hp0, hp1, hp2⟩ : ∃ pre : Str, (if sp then d0 :: d' ++ [' '] else d0 :: d') = d0 :: d' ++ pre ∧
      d0 ∉ pre ∧ g ∉ pre ∧ ∀ n, pyInt? (pre ++ toDigits n) = some n := by
    cases sp with
    | false => exact ⟨[], by simp, by simp, by simp, pyInt_toDigits⟩
    | true => exact ⟨[' '], by simp, by simpa using hd0_nsp, by simpa using hsp rfl, pyInt_space_toDigits⟩
  have tok := fun (p : Str) hp hp' x hx => parseTokS_render g r' hg_nd p hp hp' x (h x hx)
  have hd0 := fun x => renderS_head_not_mem d0 g r' hd0_nd hd0_nrd x
  unfold parseIntListS
  cases rs with
  | nil => cases sp <;> simp [join, strip, splitOnS, splitGo, mapM?, parseTokS, containsS, isPre, expand, isort]
  | cons r rs' =>
    -- `strip` leaves the text alone (`GoodEnds`); `split(d)` gives the tokens back, `d0` occurring in none; each token parses
    rw [strip_goodEnds _ (goodEnds_join _ _ (by simp) (by
      intro t ht; obtain ⟨x, -, rfl⟩ := List.mem_map.mp ht; exact goodEnds_renderS _ x)), hpre, join_preTail,
      splitOnS_join d0 d' _ (by simp [preTail]) (by
        intro t ht
        simp only [List.map_cons, preTail, List.mem_cons, List.mem_map] at ht
        rcases ht with rfl | ⟨t', ⟨x, -, rfl⟩, rfl⟩
        · exact hd0 r
        · simp [hd0 x, hp0])]
    simp only [List.map_cons, preTail, mapM?, List.map_map]
    rw [show parseTokS (g :: r') (renderRangeS (g :: r') r) = some (rangeIncl r.1 r.2) by
        simpa using tok [] (by simp) pyInt_toDigits r (by simp),
      mapM?_map (parseTokS (g :: r')) ((pre ++ ·) ∘ renderRangeS (g :: r')) (fun r => rangeIncl r.1 r.2) rs'
        (fun x hx => tok pre hp1 hp2 x (by simp [hx]))]
    rfl

theorem parse_formatS (d rd : Str) (ok : DelimOKS d rd) (l : List Nat) (sp : Bool)
    (hsp : sp = true → rd.head? ≠ some ' ') :
    parseIntListS (formatIntListS l sp d rd) d rd = some (sortDedup l) := by
  have hc := canon_runs_isort l
  rw [formatS_eq, parse_renderS d rd ok sp hsp _ hc.lo_le_hi, isort_expand_of_canon _ hc, expand_runs_eq]

theorem complementS_of_parse (d rd s : Str) (l : List Nat) (a e : Int) (h : parseIntListS s d rd = some l) :
    complementIntListS s a (some e) d rd = some (formatIntListS (windowGaps l a e) false d rd) := by
  simp only [complementIntListS, h, windowGaps]

theorem complement_exactS (d rd : Str) (ok : DelimOKS d rd) (s : Str) (l : List Nat) (a e : Int)
    (h : parseIntListS s d rd = some l) :
    ∃ t R, complementIntListS s a (some e) d rd = some t ∧ parseIntListS t d rd = some R ∧
      R.Pairwise (· < ·) ∧ (∀ x : Nat, x ∈ R ↔ (a ≤ (x : Int) ∧ (x : Int) < e ∧ x ∉ l)) ∧
      ∃ rs, t = join d (rs.map (renderRangeS rd)) ∧ Canon rs :=
  let M := windowGaps l a e
  ⟨formatIntListS M false d rd, sortDedup M, complementS_of_parse d rd s l a e h,
    parse_formatS d rd ok M false (by simp), sortDedup_sorted M,
    fun x => (mem_sortDedup M x).trans (mem_windowGaps l a e x), runs (isort M),
    formatS_eq d rd M false, canon_runs_isort M⟩

/-! The model's functions with one-character delimiters are the string-delimiter functions at `[d]`, `[rd]` (`…_single`,
`DelimOK.toS` for the side condition): what is proved for strings holds for characters by rewriting with these. -/

theorem splitOn_ne_nil (d : Char) (s : Str) : splitOn d s ≠ [] := by
  induction s with
  | nil => simp [splitOn]
  | cons c cs ih =>
    simp only [splitOn]
    split
    · simp
    · split <;> simp

/-- `cur` (reversed) is what has been read of the first piece -/
theorem splitGo_single (d : Char) (s : Str) (cur : Str) :
    splitGo [d] 0 cur s = match splitOn d s with
      | [] => [cur.reverse]
      | t :: ts => (cur.reverse ++ t) :: ts := by
  induction s generalizing cur with
  | nil => simp [splitGo, splitOn]
  | cons c cs ih =>
    by_cases hc : c = d
    · subst hc
      have hp : isPre [c] (c :: cs) = true := by simp [isPre]
      simp only [splitGo, hp, if_true, List.length_singleton, Nat.sub_self, splitOn]
      rw [ih []]
      have := splitOn_ne_nil c cs
      cases hsp : splitOn c cs with
      | nil => exact absurd hsp this
      | cons t ts => simp
    · have hp : isPre [d] (c :: cs) = false := by simp [isPre, Ne.symm hc]
      simp only [splitGo, hp, Bool.false_eq_true, if_false, splitOn, hc]
      rw [ih (c :: cur)]
      have := splitOn_ne_nil d cs
      cases hsp : splitOn d cs with
      | nil => exact absurd hsp this
      | cons t ts => simp

theorem splitOnS_single (d : Char) (s : Str) : splitOnS [d] s = splitOn d s := by
  unfold splitOnS
  rw [splitGo_single]
  have := splitOn_ne_nil d s
  cases hsp : splitOn d s with
  | nil => exact absurd hsp this
  | cons t ts => simp

theorem containsS_single (d : Char) (s : Str) : containsS [d] s = s.contains d := by
  induction s with
  | nil => simp [containsS, isPre]
  | cons c cs ih =>
    simp only [containsS, ih, isPre, Bool.and_true, List.contains_cons]
    by_cases hc : d = c
    · subst hc; simp
    · simp [hc]

theorem parseTokS_single (rd : Char) (t : Str) : parseTokS [rd] t = parseTok rd t := by
  simp only [parseTokS, parseTok, containsS_single, splitOnS_single] <;> rfl

theorem parseS_single (d rd : Char) (s : Str) : parseIntListS s [d] [rd] = parseIntList s d rd := by
  have : parseTokS [rd] = parseTok rd := funext (parseTokS_single rd)
  simp only [parseIntListS, parseIntList, splitOnS_single, this] <;> rfl

theorem renderRangeS_single (rd : Char) : renderRangeS [rd] = renderRangeD rd := by
  funext r; simp [renderRangeS, renderRangeD]

theorem renderRangeS_dash : renderRangeS ['-'] = renderRange := renderRangeS_single '-'

theorem fmtRangeS_single (rd : Char) (cr : List Nat) : fmtRangeS [rd] cr = fmtRange rd cr := by
  simp [fmtRangeS, fmtRange]

theorem fmtStepS_single (rd : Char) : fmtStepS [rd] = fmtStep rd := by
  funext st x
  rcases st with ⟨out, _ | ⟨a, _ | ⟨b, r⟩⟩⟩ <;> simp only [fmtStepS, fmtStep, fmtRangeS_single]

theorem fmtFinishS_single (rd : Char) : fmtFinishS [rd] = fmtFinish rd := by
  funext st
  rcases st with ⟨out, _ | ⟨a, _ | ⟨b, r⟩⟩⟩ <;> simp only [fmtFinishS, fmtFinish, fmtRangeS_single]

theorem formatS_single (d rd : Char) (l : List Nat) (sp : Bool) :
    formatIntListS l sp [d] [rd] = formatIntList l sp d rd := by
  simp only [formatIntListS, formatIntList, fmtTokensS, fmtTokens, fmtStepS_single, fmtFinishS_single]
  cases sp <;> rfl

theorem complementS_single (d rd : Char) (s : Str) (a : Int) (e : Option Int) :
    complementIntListS s a e [d] [rd] = complementIntList s a e d rd := by
  simp only [complementIntListS, complementIntList, parseS_single, formatS_single]

theorem intRangesS_single (d rd : Char) (s : Str) : intRangesS s [d] [rd] = intRanges s d rd := by
  simp only [intRangesS, intRanges, parseS_single]

/-- `DelimOK d rd` asks more than `DelimOKS [d] [rd]` needs: no white space of any kind in `d`, `rd` (`DelimOKS`: `d` not a blank;
    `rd` not a blank only where `delim_space` is used, `head_ne_space`) -/
theorem DelimOK.toS {d rd : Char} (ok : DelimOK d rd) : DelimOKS [d] [rd] :=
  ⟨ok.d_nd, fun e => absurd (e ▸ ok.d_nws) (by decide), by simpa using ok.ne, ok.r_nd⟩

theorem DelimOK.head_ne_space {d rd : Char} (ok : DelimOK d rd) : [rd].head? ≠ some ' ' :=
  fun e => absurd (Option.some.inj e ▸ ok.r_nws) (by decide)

theorem splitOn_join (d : Char) (toks : List Str) (hne : toks ≠ []) (h : ∀ t ∈ toks, d ∉ t) :
    splitOn d (join [d] toks) = toks := by
  rw [← splitOnS_single]; exact splitOnS_join d [] toks hne h

theorem splitOn_none (d : Char) (t : Str) (h : d ∉ t) : splitOn d t = [t] :=
  splitOn_join d [t] (by simp) (by simpa using h)

theorem format_eqD (d rd : Char) (l : List Nat) (sp : Bool) :
    formatIntList l sp d rd = join (if sp then [d, ' '] else [d]) ((runs (isort l)).map (renderRangeD rd)) := by
  rw [← formatS_single, formatS_eq, renderRangeS_single]
  cases sp <;> rfl

theorem format_eq (l : List Nat) :
    formatIntList l = join [','] ((runs (isort l)).map renderRange) := format_eqD ',' '-' l false

theorem parse_renderD (d rd : Char) (ok : DelimOK d rd) (sp : Bool) (rs : List (Nat × Nat)) (h : ∀ r ∈ rs, r.1 ≤ r.2) :
    parseIntList (join (if sp then [d, ' '] else [d]) (rs.map (renderRangeD rd))) d rd = some (isort (expand rs)) := by
  have := parse_renderS [d] [rd] ok.toS sp (fun _ => ok.head_ne_space) rs h
  rwa [parseS_single, renderRangeS_single] at this

theorem parse_render (rs : List (Nat × Nat)) (h : ∀ r ∈ rs, r.1 ≤ r.2) :
    parseIntList (join [','] (rs.map renderRange)) = some (isort (expand rs)) :=
  parse_renderD ',' '-' delimOK_default false rs h

theorem parse_formatD (d rd : Char) (ok : DelimOK d rd) (l : List Nat) (sp : Bool) :
    parseIntList (formatIntList l sp d rd) d rd = some (sortDedup l) := by
  rw [← formatS_single, ← parseS_single]
  exact parse_formatS [d] [rd] ok.toS l sp (fun _ => ok.head_ne_space)

/-- what `split(range_delim)` sees in a rendered run -/
theorem splitOn_renderRange (rd : Char) (hrd : isDigit rd = false) (r : Nat × Nat) :
    splitOn rd (renderRangeD rd r) = if r.1 = r.2 then [toDigits r.1] else [toDigits r.1, toDigits r.2] := by
  have hno := fun n => toDigits_not_mem n rd hrd
  unfold renderRangeD
  split
  · exact splitOn_none rd _ (hno r.1)
  · simpa [join] using splitOn_join rd [toDigits r.1, toDigits r.2] (by simp) (by simp [hno])

theorem boundsTok_render (r : Nat × Nat) : boundsTok (renderRange r) = some r := by
  obtain ⟨lo, hi⟩ := r
  have hno := fun n => toDigits_not_mem n '-' (by decide)
  unfold boundsTok
  rw [renderRange_eq, splitOn_renderRange '-' (by decide)]
  unfold renderRangeD
  split
  · rename_i he
    simp only at he; subst he
    simp [hno lo, pyInt_toDigits]
  · simp [pyInt_toDigits]

theorem formatIntList_eq_nil (l : List Nat) (h : formatIntList l = []) : runs (isort l) = [] := by
  rw [format_eq] at h
  cases hr : runs (isort l) with
  | nil => rfl
  | cons r rs =>
    have := (goodEnds_join [','] ((r :: rs).map renderRange) (by simp) (fun t ht => by
      obtain ⟨r, -, rfl⟩ := List.mem_map.mp ht
      rw [← renderRangeS_dash]; exact goodEnds_renderS ['-'] r)).ne_nil
    rw [← hr, h] at this; exact absurd rfl this

/-- the tokens `int_ranges_from_int_list` iterates over -/
theorem splitOn_format (l : List Nat) (he : formatIntList l ≠ []) :
    splitOn ',' (formatIntList l) = (runs (isort l)).map renderRange := by
  rw [format_eq] at he ⊢
  refine splitOn_join ',' _ (by intro hn; rw [hn] at he; exact he rfl) fun t ht => ?_
  obtain ⟨r, -, rfl⟩ := List.mem_map.mp ht
  rw [← renderRangeS_dash]
  exact renderS_head_not_mem ',' '-' [] (by decide) (by decide) r

/-- `int_ranges_from_int_list` re-reads `format_int_list(l)` with the default delimiters, whatever `l` was read with -/
theorem intRangesS_of_parse (d rd s : Str) (l : List Nat) (h : parseIntListS s d rd = some l) :
    intRangesS s d rd = some (runs (isort l)) := by
  simp only [intRangesS, h]
  split
  · rename_i he
    rw [formatIntList_eq_nil l (by simpa using he)]
  · rename_i he
    rw [splitOn_format l (by simpa using he), mapM?_map boundsTok renderRange id _ (fun x _ => boundsTok_render x)]
    simp

theorem intRanges_of_parseD (d rd : Char) (s : Str) (l : List Nat) (h : parseIntList s d rd = some l) :
    intRanges s d rd = some (runs (isort l)) := by
  rw [← intRangesS_single]; exact intRangesS_of_parse [d] [rd] s l (by rwa [parseS_single])

end C14
