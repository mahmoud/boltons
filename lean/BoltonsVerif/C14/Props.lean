import BoltonsVerif.C14.Accept
import BoltonsVerif.C14.StrDelims
/-
C14 — property theorems for the model of the `boltons.strutils` encoders.

Vocabulary (definitions in `Model.lean`; `NoNul` at the head of `Accept.lean`, the integer-list notions at the head of
`Proofs.lean`):
  `Str = List Char`; `NoNul args` = no argument contains U+0000;
  `shSplit`  = reference POSIX-sh word splitter, `none` when the shell would do anything
               other than split into literal words (unquoted character outside the inert set,
               `$`/backquote in double quotes, unterminated quote, NUL);
  `crtSplit v` = the MS C runtime `parse_cmdline` rules, `v` ∈ {documented, legacy, modern};
  `renderRange (lo, hi)` = `lo` if `lo = hi` else `lo-hi` (decimal); `renderRangeD rd` = the same with
               the range delimiter `rd`, `renderRangeS rd` with a string `rd`; `DelimOK d rd` = `d ≠ rd`, neither
               a digit nor white space; `DelimOKS d rd` = the condition on string delimiters (see its definition);
  `runs`, `expand` = the maximal runs of a sorted list / the integers a run list denotes;
  `sortDedup L` = the members of `L` among `0 .. max L`, in increasing order;
  `Canon rs`  = every run has `lo ≤ hi`, and each later run starts at least 2 above every
               earlier run's end (strictly increasing, not mergeable = maximal ranges);
  `Covers rs x` = `x` lies in one of the runs.
The gzip clause of the property is about zlib (external C code): it is covered by a
differential round-trip test in the harness, not by a theorem.
-/
namespace C14

/-- translator obligation (re-proved against the table regenerated from the current source):
    every character `args2sh` leaves unquoted is one the reference lexer knows to be inert -/
theorem sh_table_sound (c : Char) (h : isSafeChar c = true) : shLiteral c = true :=
  safe_sub_literal c h

/-- `args2sh` / `escape_shell_args(style='sh')`: a POSIX shell splits the text into exactly the
    arguments, nothing expanded — for every list of NUL-free strings -/
theorem sh_roundtrip (args : List Str) (h : NoNul args) : shSplit (args2sh args) = some args :=
  shSplit_args2shWith allSafe allSafe_literal sqSplice splicePieces spliceTable_ok args h

example : NoNul ["a b".toList, [], "it's $HOME; `x` \\ \"q\" *~\n".toList, "é".toList] := by decide +kernel
example : shSplit "a 'b c'\"\\\"d\" e\\ f".toList = some ["a".toList, "b c\"d".toList, "e f".toList] := by decide +kernel
example : shSplit "a $b".toList = none := by decide +kernel
-- the NUL hypothesis is needed: no shell word can carry U+0000
example : shSplit (args2sh [[nul]]) = none := by decide +kernel

/-- `args2cmd` / `escape_shell_args(style='cmd')`: the MS C runtime rules (in each of the three
    historical variants of the `""` rule) split the text into exactly the arguments -/
theorem cmd_roundtrip (v : CrtVariant) (args : List Str) (h : NoNul args) :
    crtSplit v (args2cmd args) = args := by
  rw [args2cmd_eq_Q]
  exact crtSplit_args2cmdQ v cmdNeedQuote cmdNeedQuote_of_needQuote args h

example : crtSplit .modern (args2cmd ["a\\\\\"b c\\".toList, [], "\"".toList]) =
    ["a\\\\\"b c\\".toList, [], "\"".toList] := by decide +kernel

/-- `escape_shell_args(style='sh')`, and `style=None` (the empty style) on a non-win32 platform, is `args2sh` -/
theorem esa_sh_roundtrip (args : List Str) (h : NoNul args) :
    ∃ t, escapeShellArgs ['s', 'h'] args = some t ∧ escapeShellArgs [] args = some t ∧
      shSplit t = some args :=
  ⟨args2sh args, rfl, rfl, sh_roundtrip args h⟩

/-- `escape_shell_args(style='cmd')` is `args2cmd` -/
theorem esa_cmd_roundtrip (v : CrtVariant) (args : List Str) (h : NoNul args) :
    ∃ t, escapeShellArgs ['c', 'm', 'd'] args = some t ∧ crtSplit v t = args :=
  ⟨args2cmd args, rfl, cmd_roundtrip v args h⟩

/-- `style=None` (or any falsy style) on win32 means `cmd`: the text is then read back by the MS C
    runtime rules (the non-win32 case is `esa_sh_roundtrip`) -/
theorem esa_none_win32_roundtrip (v : CrtVariant) (args : List Str) (h : NoNul args) :
    ∃ t, escapeShellArgs [] args true = some t ∧ escapeShellArgs ['c', 'm', 'd'] args true = some t ∧
      crtSplit v t = args :=
  ⟨args2cmd args, rfl, rfl, cmd_roundtrip v args h⟩

/-- an explicit style never looks at the platform -/
theorem esa_platform_only_for_none (style : Str) (hs : style ≠ []) (args : List Str) (w : Bool) :
    escapeShellArgs style args w = escapeShellArgs style args false := by
  cases style with
  | nil => exact absurd rfl hs
  | cons c cs => simp [escapeShellArgs]

/-- exactly the styles `sh`, `cmd` and the falsy one are accepted (anything else is ValueError) -/
theorem esa_valueError_iff (style : Str) (args : List Str) (w : Bool) :
    escapeShellArgs style args w = none ↔ (style ≠ [] ∧ style ≠ ['s', 'h'] ∧ style ≠ ['c', 'm', 'd']) := by
  cases style with
  | nil => cases w <;> simp [escapeShellArgs]
  | cons c cs =>
    simp only [escapeShellArgs, List.isEmpty_cons, Bool.false_eq_true, if_false]
    by_cases h1 : c :: cs = ['s', 'h']
    · simp [h1]
    · by_cases h2 : c :: cs = ['c', 'm', 'd']
      · simp [h2]
      · simp [h1, h2]

example : escapeShellArgs [] ["a b".toList] true = some "\"a b\"".toList := by decide +kernel
example : escapeShellArgs [] ["a b".toList] false = some "'a b'".toList := by decide +kernel
example : escapeShellArgs "bogus".toList ["a".toList] true = none := by decide +kernel

/-! ### acceptance: ANY text that reads back as the arguments is a correct quoting

The statement constrains how the text is READ, not the text.  `shAccepts t args` (the reference POSIX
lexer reads `t` as exactly `args`, nothing expanded) and `crtAccepts t args` (the MS C runtime rules, all
three variants, read `t` as exactly `args`) are that clause for an arbitrary text `t`; the correspondence
check evaluates them on the text the implementation produced. -/

theorem sh_accepts_iff (t : Str) (args : List Str) : shAccepts t args = true ↔ shSplit t = some args := by
  simp [shAccepts]

theorem crt_accepts_iff (t : Str) (args : List Str) :
    crtAccepts t args = true ↔ ∀ v, crtSplit v t = args := by
  simp only [crtAccepts, Bool.and_eq_true, beq_iff_eq]
  constructor
  · rintro ⟨⟨h1, h2⟩, h3⟩ v; cases v <;> assumption
  · intro h; exact ⟨⟨h _, h _⟩, h _⟩

theorem sh_model_accepted (args : List Str) (h : NoNul args) : shAccepts (args2sh args) args = true :=
  (sh_accepts_iff _ _).2 (sh_roundtrip args h)

theorem cmd_model_accepted (args : List Str) (h : NoNul args) : crtAccepts (args2cmd args) args = true :=
  (crt_accepts_iff _ _).2 (fun v => cmd_roundtrip v args h)

/-- a text is a correct quoting of at most one argument list -/
theorem sh_accepts_unique (t : Str) (a b : List Str) (ha : shAccepts t a = true) (hb : shAccepts t b = true) :
    a = b := by
  rw [sh_accepts_iff] at ha hb
  rw [ha] at hb
  exact Option.some.inj hb

theorem crt_accepts_unique (t : Str) (a b : List Str) (ha : crtAccepts t a = true)
    (hb : crtAccepts t b = true) : a = b := by
  rw [crt_accepts_iff] at ha hb
  rw [← ha .modern, ← hb .modern]

/-- hence EVERY encoder whose output is accepted is injective - whatever text it chooses -/
theorem sh_accepted_encoder_injective (enc : List Str → Str)
    (h : ∀ args, NoNul args → shAccepts (enc args) args = true)
    (a b : List Str) (ha : NoNul a) (hb : NoNul b) (e : enc a = enc b) : a = b :=
  sh_accepts_unique (enc a) a b (h a ha) (e ▸ h b hb)

theorem crt_accepted_encoder_injective (enc : List Str → Str)
    (h : ∀ args, NoNul args → crtAccepts (enc args) args = true)
    (a b : List Str) (ha : NoNul a) (hb : NoNul b) (e : enc a = enc b) : a = b :=
  crt_accepts_unique (enc a) a b (h a ha) (e ▸ h b hb)

/-- in particular the model's two encoders: different argument lists never produce the same text -/
theorem sh_injective (a b : List Str) (ha : NoNul a) (hb : NoNul b) (h : args2sh a = args2sh b) : a = b :=
  sh_accepted_encoder_injective args2sh sh_model_accepted a b ha hb h

theorem cmd_injective (a b : List Str) (ha : NoNul a) (hb : NoNul b) (h : args2cmd a = args2cmd b) : a = b :=
  crt_accepted_encoder_injective args2cmd cmd_model_accepted a b ha hb h

/-- acceptance is compositional: accepted texts joined by single blanks are accepted for the
    concatenated argument lists (so a quoting may be judged one argument at a time) -/
theorem sh_accepts_join (pas : List (Str × List Str)) (h : ∀ pa ∈ pas, shAccepts pa.1 pa.2 = true) :
    shAccepts (join [' '] (pas.map (·.1))) (pas.map (·.2)).flatten = true :=
  (sh_accepts_iff _ _).2 (shSplit_join pas (fun pa hpa => (sh_accepts_iff _ _).1 (h pa hpa)))

example : shAccepts (join [' '] ["'a b'".toList, "c\\ d e".toList]) ["a b".toList, "c d".toList, "e".toList] = true := by
  decide +kernel

/-- the piece grammar: a word written as a non-empty sequence of pieces - `'…'` (no `'`), `\c`
    (c not a newline), `"…"` (no `"` `\` `$` backquote), a non-empty bare run of inert characters - is
    read as the concatenation of the piece values; words separated by single blanks -/
theorem sh_pieces_sound (ws : List (List ShPiece)) (h : ∀ w ∈ ws, wordOk w = true) :
    shAccepts (join [' '] (ws.map wordRender)) (ws.map wordValue) = true :=
  (sh_accepts_iff _ _).2
    (shLex_join_words wordRender wordValue ws (fun w hw tail => shLex_word w (h w hw) tail))

example : wordOk [.sgl "a $b".toList, .esc '\'', .dbl "c'* d".toList, .bare "e=f".toList] = true := by
  decide +kernel
example : wordRender [.sgl "a $b".toList, .esc '\'', .dbl "c'* d".toList, .bare "e=f".toList] =
    "'a $b'\\'\"c'* d\"e=f".toList := by decide +kernel
example : wordValue [.sgl "a $b".toList, .esc '\'', .dbl "c'* d".toList, .bare "e=f".toList] =
    "a $b'c'* de=f".toList := by decide +kernel

/-- `args2sh` with ANY splice for an embedded single quote that has the shape
    `'` + pieces denoting one `'` + `'` (decidable side condition `spliceOk`), and ANY predicate `bare`
    that leaves only arguments made of inert characters unquoted, round-trips -/
theorem sh_roundtrip_with (bare : Str → Bool) (hb : ∀ a, bare a = true → ∀ c ∈ a, shLiteral c = true)
    (splice : Str) (ps : List ShPiece) (hs : spliceOk splice ps = true)
    (args : List Str) (h : NoNul args) :
    shAccepts (args2shWith bare splice args) args = true :=
  (sh_accepts_iff _ _).2 (shSplit_args2shWith bare hb splice ps hs args h)

-- the splice of the code as it is (`'"'"'`), the backslash splice (`'\''`), and one that is refused
example : spliceOk "'\"'\"'".toList [.dbl [sq]] = true := by decide +kernel
example : spliceOk "'\\''".toList [.esc sq] = true := by decide +kernel
example : spliceOk "\\'".toList [] = false := by decide +kernel

/-- translator obligation (re-proved against the table regenerated from the current source): the text the code
    splices in for an embedded single quote is a valid way of writing one (`spliceOk`, with the piece decomposition
    proposed by the translator) -/
theorem sh_splice_table_sound : spliceOk sqSplice splicePieces = true := spliceTable_ok

/-- translator obligation: the regenerated class of characters that make `args2cmd` wrap an argument in double
    quotes contains blank and tab -/
theorem cmd_quote_table_sound (a : Str) (h : needQuote a = true) : cmdNeedQuote a = true :=
  cmdNeedQuote_of_needQuote a h

theorem args2sh_is_instance (args : List Str) : args2sh args = args2shWith allSafe sqSplice args := rfl

-- whatever the regenerated splice is, a quote inside an argument comes back as that quote
example : shSplit (args2sh ["it's".toList, "''".toList]) = some ["it's".toList, "''".toList] := by decide +kernel

/-- the same encoder with the backslash splice `'\''` (what `shlex.quote`-style code writes) is correct too -/
theorem sh_roundtrip_backslash_splice (args : List Str) (h : NoNul args) :
    shAccepts (args2shWith allSafe [sq, bsl, sq, sq] args) args = true :=
  sh_roundtrip_with allSafe allSafe_literal _ [.esc sq] (by decide +kernel) args h

example : args2shWith (fun _ => false) [sq, bsl, sq, sq] ["it's".toList, "x".toList] = "'it'\\''s' 'x'".toList := by
  decide +kernel

/-- `args2cmd` with ANY "wrap in double quotes" predicate that is true at least for empty arguments and
    arguments containing a blank or a tab round-trips, in every variant of the CRT rules -/
theorem cmd_roundtrip_anyquote (qp : Str → Bool) (hq : ∀ a, needQuote a = true → qp a = true)
    (args : List Str) (h : NoNul args) : crtAccepts (args2cmdQ qp args) args = true :=
  (crt_accepts_iff _ _).2 (fun v => crtSplit_args2cmdQ v qp hq args h)

theorem args2cmd_is_instance (args : List Str) : args2cmd args = args2cmdQ cmdNeedQuote args :=
  args2cmd_eq_Q args

example : args2cmdQ (fun a => needQuote a || a.contains '&') ["x&y".toList, "tail\\".toList, "a&\\".toList] =
    "\"x&y\" tail\\ \"a&\\\\\"".toList := by decide +kernel
-- the hypothesis is needed: an unquoted blank splits the argument
example : crtSplit .modern (args2cmdQ (fun _ => false) ["a b".toList]) = ["a".toList, "b".toList] := by
  decide +kernel

/-- `escape_shell_args`: the style (and, for a falsy style, the platform) selects the reader, and the text
    is accepted by that reader -/
theorem esa_accepted (style : Str) (w : Bool) (args : List Str) (h : NoNul args) :
    match styleOf style w with
    | some .sh => ∃ t, escapeShellArgs style args w = some t ∧ shAccepts t args = true
    | some .cmd => ∃ t, escapeShellArgs style args w = some t ∧ crtAccepts t args = true
    | none => escapeShellArgs style args w = none := by
  simp only [styleOf, escapeShellArgs]
  generalize (if style.isEmpty = true then (if w = true then ['c', 'm', 'd'] else ['s', 'h']) else style) = st
  by_cases h1 : st = ['s', 'h']
  · simp only [h1, if_true]
    exact ⟨_, rfl, sh_model_accepted args h⟩
  · by_cases h2 : st = ['c', 'm', 'd']
    · subst h2
      simp only [if_true]
      exact ⟨_, by simp, cmd_model_accepted args h⟩
    · simp only [h1, h2, if_false]

/-! ### the documented MS C runtime rules hold for the reference parser `crt`

(the five rules quoted in the source comment of `args2cmd`; `crt v inArg inQuote pendingBackslashes cur rest`) -/

/-- "2n backslashes followed by a quotation mark produce n backslashes, and the quotation mark toggles
    quoting" (`cs` does not start with a second quotation mark while inside quotes: the `""` rule) -/
theorem crt_rule_2n_backslashes_quote (v : CrtVariant) (ia q : Bool) (n : Nat) (cur cs : Str)
    (hcs : q = false ∨ cs.head? ≠ some dq) :
    crt v ia q 0 cur (bs (2 * n) ++ dq :: cs) = crt v true (!q) 0 (cur ++ bs n) cs :=
  crt_bs_dq_even n hcs

/-- "2n+1 backslashes followed by a quotation mark produce n backslashes and a literal quotation mark" -/
theorem crt_rule_2n1_backslashes_quote (v : CrtVariant) (ia q : Bool) (n : Nat) (cur cs : Str) :
    crt v ia q 0 cur (bs (2 * n + 1) ++ dq :: cs) = crt v true q 0 (cur ++ bs n ++ [dq]) cs :=
  crt_bs_dq_odd n

/-- "backslashes are interpreted literally, unless they immediately precede a quotation mark" -/
theorem crt_rule_backslashes_literal (v : CrtVariant) (ia q : Bool) (n : Nat) (cur : Str) (c : Char) (cs : Str)
    (h0 : c ≠ nul) (h1 : c ≠ bsl) (h2 : c ≠ dq) (h3 : isBlank c = false) (hn : 0 < n) :
    crt v ia q 0 cur (bs n ++ c :: cs) = crt v true q 0 (cur ++ bs n ++ [c]) cs :=
  crt_bs_plain n h0 h1 h2 (Or.inl h3)

/-- "arguments are delimited by white space" outside quotes, and a blank inside quotes is literal -/
theorem crt_rule_blank (v : CrtVariant) (n : Nat) (cur cs : Str) :
    crt v true false n cur (' ' :: cs) = (cur ++ bs n) :: crt v false false 0 [] cs ∧
    crt v true true n cur (' ' :: cs) = crt v true true 0 (cur ++ bs n ++ [' ']) cs :=
  ⟨crt_blank_end v n cur cs,
   crt_plain (by decide) (by decide) (by decide) (Or.inr ⟨rfl, rfl⟩)⟩

example : crtSplit .documented "a\\\\\\\"b \"c d\\\\\" e\\f".toList =
    ["a\\\"b".toList, "c d\\".toList, "e\\f".toList] := by decide +kernel


/-- the round trip against the directly written specification `sortDedup L` -/
theorem int_roundtrip_eq (L : List Nat) : parseIntList (formatIntList L) = some (sortDedup L) :=
  parse_formatD ',' '-' delimOK_default L false

/-- `parse_int_list(format_int_list(L))` is the sorted list of the distinct integers of `L`:
    strictly increasing, with exactly the members of `L` -/
theorem int_roundtrip (L : List Nat) :
    ∃ R, parseIntList (formatIntList L) = some R ∧ R.Pairwise (· < ·) ∧ ∀ x, x ∈ R ↔ x ∈ L :=
  ⟨sortDedup L, int_roundtrip_eq L, sortDedup_sorted L, mem_sortDedup L⟩

/-- `format_int_list` output is canonical: it is the rendering of maximal ranges covering exactly `L` -/
theorem format_canonical (L : List Nat) :
    ∃ rs, formatIntList L = join [','] (rs.map renderRange) ∧ Canon rs ∧ ∀ x, Covers rs x ↔ x ∈ L :=
  ⟨_, format_eqD ',' '-' L false, canon_runs_isort L, covers_runs_isort L⟩

/-- the round trip also holds for `format_int_list(L, delim_space=True)` (`", "` separators) -/
theorem int_roundtrip_delim_space (L : List Nat) :
    parseIntList (formatIntList L true) = some (sortDedup L) :=
  parse_formatD ',' '-' delimOK_default L true

/-- canonical run lists are unique, hence `format_int_list(L)` is THE canonical range string of the
    set of `L`: any canonical run list covering exactly `L` renders to the same text -/
theorem format_canonical_unique (L : List Nat) (rs : List (Nat × Nat)) (hc : Canon rs)
    (hm : ∀ x, Covers rs x ↔ x ∈ L) : formatIntList L = join [','] (rs.map renderRange) := by
  rw [format_eq, runs_unique L rs hc hm]

example : Canon [(1, 1), (3, 3), (5, 8), (10, 11), (15, 15)] := by
  refine ⟨by decide, ?_⟩; simp

/-- the text depends only on the set of integers (order and repetitions are irrelevant) -/
theorem format_members_only (L M : List Nat) (h : ∀ x, x ∈ L ↔ x ∈ M) :
    formatIntList L = formatIntList M := by
  obtain ⟨rs, h1, h2, h3⟩ := format_canonical M
  rw [h1]
  exact format_canonical_unique L rs h2 (fun x => by rw [h3, h])

/-- `format ∘ parse` is the identity on `format_int_list` output (it is a normal form) -/
theorem format_parse_format (L R : List Nat) (h : parseIntList (formatIntList L) = some R) :
    formatIntList R = formatIntList L := by
  obtain ⟨R', h1, -, h3⟩ := int_roundtrip L
  rw [h1] at h
  cases h
  exact format_members_only _ _ h3

/-- `parse_int_list` reads EVERY well-formed range string (any list of `n` / `lo-hi` tokens with
    `lo ≤ hi`, in any order, overlapping or not) as the sorted list of the integers it denotes
    (with repetitions where tokens overlap) -/
theorem parse_range_string (rs : List (Nat × Nat)) (h : ∀ r ∈ rs, r.1 ≤ r.2) :
    ∃ R, parseIntList (join [','] (rs.map renderRange)) = some R ∧ R.Pairwise (· ≤ ·) ∧
      ∀ x, x ∈ R ↔ Covers rs x :=
  ⟨_, parse_render rs h, isort_sorted _, mem_isort_expand rs⟩

example : parseIntList (join [','] ([(5, 8), (1, 1), (7, 9)].map renderRange)) =
    some [1, 5, 6, 7, 7, 8, 8, 9] := by decide +kernel

/-! ### the same clauses for arbitrary delimiters

For every pair of one-character `delim` / `range_delim` with `DelimOK d rd` (different characters, neither a decimal
digit nor white space `isWs`) all clauses hold as for the defaults `,` and `-`; `delim_space` is `sp`. -/

/-- round trip for every admissible delimiter pair, with or without `delim_space` -/
theorem int_roundtrip_delims (d rd : Char) (ok : DelimOK d rd) (L : List Nat) (sp : Bool) :
    parseIntList (formatIntList L sp d rd) d rd = some (sortDedup L) :=
  parse_formatD d rd ok L sp

example : DelimOK ';' ':' := by decide
example : DelimOK '/' '~' := by decide
example : ¬ DelimOK ',' ',' := by decide
example : ¬ DelimOK ' ' '-' := by decide
example : formatIntList [8, 1, 3, 5, 7, 6, 3, 10, 11, 15] true ';' ':' = "1; 3; 5:8; 10:11; 15".toList := by
  decide +kernel
-- the hypothesis is needed: with `delim = range_delim` a range token is cut in two
example : parseIntList (formatIntList [1, 2, 3] false ',' ',') ',' ',' = some [1, 3] := by decide +kernel

/-- canonical output for every delimiter pair (no hypothesis on the delimiters is needed for this) -/
theorem format_canonical_delims (d rd : Char) (L : List Nat) (sp : Bool) :
    ∃ rs, formatIntList L sp d rd = join (if sp then [d, ' '] else [d]) (rs.map (renderRangeD rd)) ∧
      Canon rs ∧ ∀ x, Covers rs x ↔ x ∈ L :=
  ⟨runs (isort L), format_eqD d rd L sp, canon_runs_isort L, covers_runs_isort L⟩

/-- ... and it is THE canonical rendering: any canonical run list covering exactly `L` gives the same text -/
theorem format_canonical_unique_delims (d rd : Char) (L : List Nat) (sp : Bool) (rs : List (Nat × Nat))
    (hc : Canon rs) (hm : ∀ x, Covers rs x ↔ x ∈ L) :
    formatIntList L sp d rd = join (if sp then [d, ' '] else [d]) (rs.map (renderRangeD rd)) := by
  rw [format_eqD, runs_unique L rs hc hm]

/-- canonical output also with `delim_space=True` and the default delimiters (`", "` separators) -/
theorem format_canonical_delim_space (L : List Nat) :
    ∃ rs, formatIntList L true = join [',', ' '] (rs.map renderRange) ∧ Canon rs ∧ ∀ x, Covers rs x ↔ x ∈ L :=
  format_canonical_delims ',' '-' L true

/-- every well-formed range string, written with any admissible delimiters (with or without a
    blank after the delimiter), is read as the sorted list of the integers it denotes -/
theorem parse_range_string_delims (d rd : Char) (ok : DelimOK d rd) (sp : Bool) (rs : List (Nat × Nat))
    (h : ∀ r ∈ rs, r.1 ≤ r.2) :
    ∃ R, parseIntList (join (if sp then [d, ' '] else [d]) (rs.map (renderRangeD rd))) d rd = some R ∧
      R.Pairwise (· ≤ ·) ∧ ∀ x, x ∈ R ↔ Covers rs x :=
  ⟨isort (expand rs), parse_renderD d rd ok sp rs h, isort_sorted _, mem_isort_expand rs⟩

/-- `parse` and `format` are mutually inverse on canonical range strings: a canonical string is read
    as the strictly increasing list of what it covers, and formatting that list gives the string back -/
theorem format_parse_canonical (d rd : Char) (ok : DelimOK d rd) (rs : List (Nat × Nat)) (hc : Canon rs) :
    ∃ R, parseIntList (join [d] (rs.map (renderRangeD rd))) d rd = some R ∧ R.Pairwise (· < ·) ∧
      (∀ x, x ∈ R ↔ Covers rs x) ∧ formatIntList R false d rd = join [d] (rs.map (renderRangeD rd)) := by
  refine ⟨expand rs, ?_, expand_sorted rs hc, mem_expand rs, ?_⟩
  · have hp : parseIntList (join [d] (rs.map (renderRangeD rd))) d rd = some (isort (expand rs)) :=
      parse_renderD d rd ok false rs hc.lo_le_hi
    rw [hp, isort_expand_of_canon rs hc]
  · exact format_canonical_unique_delims d rd (expand rs) false rs hc (fun x => (mem_expand rs x).symm)

example : Canon [(0, 0), (2, 4), (9, 9)] := by refine ⟨by decide, ?_⟩; simp

/-- `complement_int_list(s, a, e, delim, range_delim)`: exactly the missing integers of the window,
    as a canonical range string in the same delimiters -/
theorem complement_exact_delims (d rd : Char) (ok : DelimOK d rd) (s : Str) (l : List Nat) (a e : Int)
    (h : parseIntList s d rd = some l) :
    ∃ t R, complementIntList s a (some e) d rd = some t ∧ parseIntList t d rd = some R ∧
      R.Pairwise (· < ·) ∧ (∀ x : Nat, x ∈ R ↔ (a ≤ (x : Int) ∧ (x : Int) < e ∧ x ∉ l)) ∧
      ∃ rs, t = join [d] (rs.map (renderRangeD rd)) ∧ Canon rs := by
  simpa only [complementS_single, parseS_single, renderRangeS_single] using
    complement_exactS [d] [rd] ok.toS s l a e (by rwa [parseS_single])

example : complementIntList "1;3;5:8".toList 2 (some 11) ';' ':' = some "2;4;9:10".toList := by decide +kernel

/-- `complement_int_list(s, a, e)` returns exactly the integers of the window `[a, e)` (clipped at 0,
    integers being non-negative) that are missing from `s`, as a canonical range string -/
theorem complement_exact (s : Str) (l : List Nat) (a e : Int) (h : parseIntList s = some l) :
    ∃ t R, complementIntList s a (some e) = some t ∧ parseIntList t = some R ∧ R.Pairwise (· < ·) ∧
      (∀ x : Nat, x ∈ R ↔ (a ≤ (x : Int) ∧ (x : Int) < e ∧ x ∉ l)) ∧
      ∃ rs, t = join [','] (rs.map renderRange) ∧ Canon rs :=
  complement_exact_delims ',' '-' delimOK_default s l a e h

/-- `range_end=None` with any delimiters: the window ends just above the largest listed integer -/
theorem complement_default_end_delims (d rd : Char) (s : Str) (l : List Nat) (a : Int)
    (h : parseIntList s d rd = some l) :
    complementIntList s a none d rd =
      complementIntList s a (some (if l.isEmpty then a else (lmax l : Int) + 1)) d rd := by
  simp [complementIntList, h]

/-- with `range_end=None` the window ends just above the largest listed integer
    (and is empty when nothing is listed) -/
theorem complement_default_end (s : Str) (l : List Nat) (a : Int) (h : parseIntList s = some l) :
    complementIntList s a none =
      complementIntList s a (some (if l.isEmpty then a else (lmax l : Int) + 1)) :=
  complement_default_end_delims ',' '-' s l a h

example : complementIntList "1;3;5:8".toList 0 none ';' ':' = some "0;2;4".toList := by decide +kernel

/-- complementing twice within the same window `[0, e)` gives back the listed integers below `e`
    (in canonical form): the complement really is "the missing integers" and nothing else -/
theorem complement_involution (s : Str) (l : List Nat) (e : Int) (h : parseIntList s = some l) :
    ∃ t t2 R, complementIntList s 0 (some e) = some t ∧ complementIntList t 0 (some e) = some t2 ∧
      parseIntList t2 = some R ∧ R.Pairwise (· < ·) ∧ ∀ x : Nat, x ∈ R ↔ ((x : Int) < e ∧ x ∈ l) := by
  obtain ⟨t, R1, h1, h2, -, h4, -⟩ := complement_exact s l 0 e h
  obtain ⟨t2, R2, g1, g2, g3, g4, -⟩ := complement_exact t R1 0 e h2
  refine ⟨t, t2, R2, h1, g1, g2, g3, fun x => ?_⟩
  rw [g4, h4]
  constructor
  · rintro ⟨-, hx, hn⟩
    refine ⟨hx, ?_⟩
    apply Classical.byContradiction
    intro hl; exact hn ⟨by omega, hx, hl⟩
  · rintro ⟨hx, hl⟩
    exact ⟨by omega, hx, fun hh => hh.2.2 hl⟩

example : complementIntList "0,2,4,9,12-14".toList 0 (some 16) = some "1,3,5-8,10-11,15".toList := by
  decide +kernel

/-- `int_ranges_from_int_list(s, delim, range_delim)`: the maximal ranges of what `s` denotes, whatever
    delimiters `s` is read with -/
theorem int_ranges_exact_delims (d rd : Char) (s : Str) (l : List Nat) (h : parseIntList s d rd = some l) :
    ∃ rs, intRanges s d rd = some rs ∧ Canon rs ∧ ∀ x, Covers rs x ↔ x ∈ l :=
  ⟨_, intRanges_of_parseD d rd s l h, canon_runs_isort l, covers_runs_isort l⟩

/-- `int_ranges_from_int_list(s)` is the list of maximal ranges of the integers `s` denotes -/
theorem int_ranges_exact (s : Str) (l : List Nat) (h : parseIntList s = some l) :
    ∃ rs, intRanges s = some rs ∧ Canon rs ∧ ∀ x, Covers rs x ↔ x ∈ l :=
  int_ranges_exact_delims ',' '-' s l h

/-- on `format_int_list` output the tuple of ranges is exactly the run list the text renders -/
theorem int_ranges_of_format (d rd : Char) (ok : DelimOK d rd) (L : List Nat) (sp : Bool) :
    ∃ rs, intRanges (formatIntList L sp d rd) d rd = some rs ∧
      formatIntList L sp d rd = join (if sp then [d, ' '] else [d]) (rs.map (renderRangeD rd)) ∧
      Canon rs ∧ ∀ x, Covers rs x ↔ x ∈ L := by
  obtain ⟨rs, h1, h2, h3⟩ := int_ranges_exact_delims d rd _ _ (int_roundtrip_delims d rd ok L sp)
  refine ⟨rs, h1, ?_, h2, fun x => by rw [h3, mem_sortDedup]⟩
  exact format_canonical_unique_delims d rd L sp rs h2 (fun x => by rw [h3, mem_sortDedup])

example : intRanges "1; 3; 5:8".toList ';' ':' = some [(1, 1), (3, 3), (5, 8)] := by decide +kernel

/-! ### exactly when the integer-list readers raise ValueError

(the statement is silent about malformed range strings; these theorems pin down the error behaviour of the
model, which the correspondence compares with the code's on every text over digits, the two delimiters and
blanks: `none` = ValueError) -/

/-- `int(x)` (on the model's alphabet) fails exactly on a blank-only / empty string or one with a non-digit inside -/
theorem int_literal_valueError_iff (s : Str) :
    pyInt? s = none ↔ (strip s = [] ∨ ∃ c ∈ strip s, isDigit c = false) := by
  simp only [pyInt?]
  cases hs : strip s with
  | nil => simp
  | cons c cs =>
    by_cases hall : (c :: cs).all isDigit = true
    · simp only [List.isEmpty_cons, Bool.not_false, Bool.true_and, hall, if_true]
      simp only [List.all_eq_true] at hall
      simp only [reduceCtorEq, false_iff, not_or, not_exists, not_and]
      exact ⟨by simp, fun x hx => by simp [hall x hx]⟩
    · simp only [List.isEmpty_cons, Bool.not_false, Bool.true_and, hall]
      simp only [Bool.false_eq_true, if_false, true_iff]
      refine Or.inr (Classical.byContradiction fun hno => hall ?_)
      simp only [List.all_eq_true]
      intro x hx
      cases hd : isDigit x with
      | true => rfl
      | false => exact absurd ⟨x, hx, hd⟩ hno

/-- a token fails exactly when it is a range token one of whose parts is not an integer, or a non-empty
    non-range token that is not an integer (the EMPTY token is skipped, not an error) -/
theorem parse_token_valueError_iff (rd : Char) (t : Str) :
    parseTok rd t = none ↔
      ((rd ∈ t ∧ ∃ p ∈ splitOn rd t, pyInt? p = none) ∨ (rd ∉ t ∧ t ≠ [] ∧ pyInt? t = none)) := by
  simp only [← mapM?_eq_none_iff, parseTok, List.contains_iff_mem]
  by_cases hc : rd ∈ t
  · cases mapM? pyInt? (splitOn rd t) <;> simp [hc]
  · cases t with
    | nil => simp
    | cons c cs => cases pyInt? (c :: cs) <;> simp [hc]

/-- `parse_int_list` raises exactly when some token of the stripped text fails; no other source of errors -/
theorem parse_valueError_iff (s : Str) (d rd : Char) :
    parseIntList s d rd = none ↔ ∃ t ∈ splitOn d (strip s), parseTok rd t = none := by
  rw [← mapM?_eq_none_iff, parseIntList]
  cases mapM? (parseTok rd) (splitOn d (strip s)) <;> simp

/-- `complement_int_list` and `int_ranges_from_int_list` raise exactly when `parse_int_list` does
    (whatever the window) -/
theorem complement_valueError_iff (s : Str) (a : Int) (e : Option Int) (d rd : Char) :
    complementIntList s a e d rd = none ↔ parseIntList s d rd = none := by
  simp only [complementIntList]
  cases parseIntList s d rd <;> simp

theorem int_ranges_valueError_iff (s : Str) (d rd : Char) :
    intRanges s d rd = none ↔ parseIntList s d rd = none := by
  cases h : parseIntList s d rd with
  | none => simp [intRanges, h]
  | some l => simp [intRanges_of_parseD d rd s l h]

example : parseIntList "1,,3".toList = some [1, 3] := by decide +kernel
example : parseIntList "1,x".toList = none := by decide +kernel
example : parseIntList "1-,3".toList = none := by decide +kernel
example : parseIntList " 1 , 2-4 \n".toList = some [1, 2, 3, 4] := by decide +kernel
example : parseIntList "1 2".toList = none := by decide +kernel
example : parseIntList "3-1-2".toList = some [1, 2, 3] := by decide +kernel

/-! ### multi-character delimiters

`delim` / `range_delim` may be arbitrary non-empty strings (`'; '`, `' to '`, `'..'`): the `…S` functions of the model
(`str.split` with a string separator, `range_delim in x`), which for one-character strings are the functions above
(`strdelims_extend_chars`).  The clauses hold for every pair with `DelimOKS d rd`, with `hsp` (the first character of
`range_delim` is not a space) where `delim_space=True` is used. -/

/-- round trip for every admissible pair of string delimiters, with or without `delim_space` -/
theorem int_roundtrip_strdelims (d rd : Str) (ok : DelimOKS d rd) (L : List Nat) (sp : Bool)
    (hsp : sp = true → rd.head? ≠ some ' ') :
    parseIntListS (formatIntListS L sp d rd) d rd = some (sortDedup L) :=
  parse_formatS d rd ok L sp hsp

example : DelimOKS "; ".toList " to ".toList := by decide
example : DelimOKS ",".toList "..".toList := by decide
example : ¬ DelimOKS "-x".toList "-".toList := by decide
example : ¬ DelimOKS "".toList "-".toList := by decide
example : formatIntListS [8, 1, 3, 5, 7, 6, 3, 10, 11, 15] false "; ".toList "..".toList =
    "1; 3; 5..8; 10..11; 15".toList := by decide +kernel
-- the hypothesis is needed: a delimiter whose first character occurs in the range delimiter cuts range tokens apart
example : ¬ DelimOKS "-".toList "->".toList := by decide
example : parseIntListS (formatIntListS [1, 2, 3, 7] false "-".toList "->".toList) "-".toList "->".toList = none := by
  decide +kernel

/-- canonical output for every pair of string delimiters (no hypothesis needed) -/
theorem format_canonical_strdelims (d rd : Str) (L : List Nat) (sp : Bool) :
    ∃ rs, formatIntListS L sp d rd = join (if sp then d ++ [' '] else d) (rs.map (renderRangeS rd)) ∧
      Canon rs ∧ ∀ x, Covers rs x ↔ x ∈ L :=
  ⟨runs (isort L), formatS_eq d rd L sp, canon_runs_isort L, covers_runs_isort L⟩

/-- ... and it is THE canonical rendering -/
theorem format_canonical_unique_strdelims (d rd : Str) (L : List Nat) (sp : Bool) (rs : List (Nat × Nat))
    (hc : Canon rs) (hm : ∀ x, Covers rs x ↔ x ∈ L) :
    formatIntListS L sp d rd = join (if sp then d ++ [' '] else d) (rs.map (renderRangeS rd)) := by
  rw [formatS_eq, runs_unique L rs hc hm]

/-- every well-formed range string written with admissible string delimiters is read as the sorted list of
    the integers it denotes -/
theorem parse_range_string_strdelims (d rd : Str) (ok : DelimOKS d rd) (sp : Bool)
    (hsp : sp = true → rd.head? ≠ some ' ') (rs : List (Nat × Nat)) (h : ∀ r ∈ rs, r.1 ≤ r.2) :
    ∃ R, parseIntListS (join (if sp then d ++ [' '] else d) (rs.map (renderRangeS rd))) d rd = some R ∧
      R.Pairwise (· ≤ ·) ∧ ∀ x, x ∈ R ↔ Covers rs x :=
  ⟨isort (expand rs), parse_renderS d rd ok sp hsp rs h, isort_sorted _, mem_isort_expand rs⟩

/-- `complement_int_list` with string delimiters: exactly the missing integers of the window, canonical -/
theorem complement_exact_strdelims (d rd : Str) (ok : DelimOKS d rd) (s : Str) (l : List Nat) (a e : Int)
    (h : parseIntListS s d rd = some l) :
    ∃ t R, complementIntListS s a (some e) d rd = some t ∧ parseIntListS t d rd = some R ∧
      R.Pairwise (· < ·) ∧ (∀ x : Nat, x ∈ R ↔ (a ≤ (x : Int) ∧ (x : Int) < e ∧ x ∉ l)) ∧
      ∃ rs, t = join d (rs.map (renderRangeS rd)) ∧ Canon rs :=
  complement_exactS d rd ok s l a e h

example : complementIntListS "1; 3; 5 to 8".toList 2 (some 11) "; ".toList " to ".toList =
    some "2; 4; 9 to 10".toList := by decide +kernel

/-- `int_ranges_from_int_list` with string delimiters: the maximal ranges of what the text denotes -/
theorem int_ranges_exact_strdelims (d rd : Str) (s : Str) (l : List Nat) (h : parseIntListS s d rd = some l) :
    ∃ rs, intRangesS s d rd = some rs ∧ Canon rs ∧ ∀ x, Covers rs x ↔ x ∈ l :=
  ⟨_, intRangesS_of_parse d rd s l h, canon_runs_isort l, covers_runs_isort l⟩

/-- with one-character delimiters the string-delimiter functions ARE the functions of the earlier sections -/
theorem strdelims_extend_chars (d rd : Char) (L : List Nat) (sp : Bool) (s : Str) :
    formatIntListS L sp [d] [rd] = formatIntList L sp d rd ∧
    parseIntListS s [d] [rd] = parseIntList s d rd :=
  ⟨formatS_single d rd L sp, parseS_single d rd s⟩

/-- translator obligation: the default `delim` / `range_delim` of the integer-list functions (read from the
    signatures on every run) form an admissible pair, so every `_delims` theorem applies to the defaults
    whatever they are -/
theorem int_defaults_ok : DelimOK defaultDelim defaultRangeDelim := by decide +kernel

theorem int_roundtrip_defaults (L : List Nat) (sp : Bool) :
    parseIntList (formatIntList L sp defaultDelim defaultRangeDelim) defaultDelim defaultRangeDelim =
      some (sortDedup L) :=
  int_roundtrip_delims _ _ int_defaults_ok L sp

example : parseIntList (formatIntList [3, 1, 2, 9] false defaultDelim defaultRangeDelim) defaultDelim defaultRangeDelim =
    some [1, 2, 3, 9] := by decide +kernel

example : parseIntList "1,3,5-8,10-11,15".toList = some [1, 3, 5, 6, 7, 8, 10, 11, 15] := by decide +kernel
example : formatIntList [8, 1, 3, 5, 7, 6, 3, 10, 11, 15] = "1,3,5-8,10-11,15".toList := by decide +kernel

end C14
