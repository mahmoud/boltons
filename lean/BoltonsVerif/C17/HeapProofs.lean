import BoltonsVerif.C17.Heap
import BoltonsVerif.C17.Proofs
/-
C17 — the heap-level ManyToMany machine (`Heap.lean`): footprint of every operation (which cells it may
write, which ids it may store), the separation invariant (no set object referenced twice), and the
simulation of the by-value machine of `Model.lean`.
-/
namespace C17

section cells
variable {α : Type} [DecidableEq α]

theorem cell_set (h : Heap α) (i j : Nat) (vs : List α) :
    cell (h.set i vs) j = if i = j ∧ i < h.length then vs else cell h j := by
  unfold cell
  rw [List.getElem?_set]
  by_cases e : i = j
  · subst e
    by_cases hl : i < h.length
    · simp [hl]
    · simp [hl]
  · simp [e]

theorem cell_set_ne (h : Heap α) (i j : Nat) (vs : List α) (e : i ≠ j) : cell (h.set i vs) j = cell h j := by
  rw [cell_set]; simp [e]

theorem cell_set_self (h : Heap α) (i : Nat) (vs : List α) (hl : i < h.length) : cell (h.set i vs) i = vs := by
  rw [cell_set]; simp [hl]

theorem cell_append_left (h x : Heap α) (j : Nat) (hj : j < h.length) : cell (h ++ x) j = cell h j := by
  unfold cell; rw [List.getElem?_append_left hj]

theorem cell_append_length (h : Heap α) (vs : List α) : cell (h ++ [vs]) h.length = vs := by
  unfold cell; simp

theorem ids_append (d e : Dict α Nat) : ids (d ++ e) = ids d ++ ids e := by simp [ids]

theorem mem_ids_of_lookup {k : α} {d : Dict α Nat} {i : Nat} (h : lookup k d = some i) : i ∈ ids d := by
  induction d with
  | nil => simp [lookup] at h
  | cons p r ih =>
    obtain ⟨a, j⟩ := p
    simp only [lookup] at h
    split at h
    · injection h with h; simp [ids, h]
    · simp only [ids, List.map_cons, List.mem_cons]; exact Or.inr (ih h)

theorem lookup_deref (h : Heap α) (k : α) (d : Dict α Nat) : lookup k (deref h d) = (lookup k d).map (cell h) :=
  lookup_mapVal (cell h) k d

theorem keys_deref (h : Heap α) (d : Dict α Nat) : keys (deref h d) = keys d := by
  simp [keys, deref, Function.comp_def]

theorem nodupKeys_of_deref {h : Heap α} {d : Dict α Nat} (g : NodupKeys (deref h d)) : NodupKeys d := by
  unfold NodupKeys at *; rwa [keys_deref] at g

theorem hasKey_deref (h : Heap α) (k : α) (d : Dict α Nat) : hasKey k (deref h d) = hasKey k d :=
  hasKey_mapVal (cell h) k d

theorem getSet_deref (h : Heap α) (k : α) (d : Dict α Nat) :
    getSet k (deref h d) = match lookup k d with | some i => cell h i | none => [] := by
  unfold getSet; rw [lookup_deref]; cases lookup k d <;> rfl

theorem deref_erase (h : Heap α) (k : α) (d : Dict α Nat) : deref h (erase k d) = erase k (deref h d) :=
  (erase_mapVal (cell h) k d).symm

theorem deref_append (h : Heap α) (d e : Dict α Nat) : deref h (d ++ e) = deref h d ++ deref h e := by
  simp [deref]

theorem deref_congr (h h' : Heap α) (d : Dict α Nat) (hc : ∀ j ∈ ids d, cell h' j = cell h j) :
    deref h' d = deref h d := by
  unfold deref
  apply List.map_congr_left
  intro p hp
  rw [hc p.2 (List.mem_map_of_mem (f := Prod.snd) hp)]

theorem ids_erase_sublist (k : α) (d : Dict α Nat) : (ids (erase k d)).Sublist (ids d) := by
  induction d with
  | nil => simp [erase, ids]
  | cons p r ih =>
    obtain ⟨a, j⟩ := p
    simp only [erase]
    split
    · exact List.Sublist.cons _ ih
    · simp only [ids, List.map_cons] at ih ⊢
      exact List.Sublist.cons_cons _ ih

/-- writing the cell a key refers to = `d[k] = newset` by value (no other entry refers to that cell) -/
theorem deref_set_own (h : Heap α) (k : α) (d : Dict α Nat) (i : Nat) (vs : List α)
    (hk : lookup k d = some i) (hn : (ids d).Nodup) (hl : i < h.length) :
    deref (h.set i vs) d = put k vs (deref h d) := by
  induction d with
  | nil => simp [lookup] at hk
  | cons p r ih =>
    obtain ⟨a, j⟩ := p
    simp only [ids, List.map_cons, List.nodup_cons] at hn
    simp only [lookup] at hk
    split at hk
    · next e =>
      injection hk with hk
      subst hk
      have : deref (h.set j vs) r = deref h r := by
        apply deref_congr
        intro x hx
        exact cell_set_ne _ _ _ _ (fun e' => hn.1 (e' ▸ hx))
      simp only [deref, List.map_cons, put] at this ⊢
      rw [if_pos e, this, cell_set_self _ _ _ hl]
    · next e =>
      have hi : i ∈ ids r := mem_ids_of_lookup hk
      have hne : i ≠ j := fun e' => hn.1 (e' ▸ hi)
      have := ih hk hn.2
      simp only [deref, List.map_cons, put] at this ⊢
      rw [if_neg e, this, cell_set_ne _ _ _ _ hne]

end cells

section steps
variable {α : Type} [DecidableEq α]

/-! the notions the statements of `Props.lean` are about -/

/-- every set object is referenced from exactly one place - one key of one side of one instance - and every
    reference points into the heap -/
structure HSep (st : HState α) : Prop where
  good : ∀ (r : Nat) (s : HInst α), st.regs[r]? = some s → (idsI s).Nodup ∧ ∀ j ∈ idsI s, j < st.heap.length
  disj : ∀ (r₁ r₂ : Nat) (s₁ s₂ : HInst α), r₁ ≠ r₂ → st.regs[r₁]? = some s₁ → st.regs[r₂]? = some s₂ →
    ∀ j ∈ idsI s₁, j ∉ idsI s₂

/-- every register other than `r` still holds the same references, and the set objects they point to are untouched -/
def Frame (st st' : HState α) (r : Nat) : Prop :=
  ∀ (r' : Nat) (s' : HInst α), r' ≠ r → st.regs[r']? = some s' →
    st'.regs[r']? = some s' ∧ ∀ j ∈ idsI s', cell st'.heap j = cell st.heap j

/-- the register a command writes to (a constructor writes to the new register) -/
def M2MCmd.target (n : Nat) : M2MCmd α → Nat
  | .new _ => n
  | .newFrom _ _ => n
  | .op r _ _ => r
  | .updateFrom r _ _ _ => r

/-- the commands other than `x.update(x)` / `x.update(x.inv)`; no statement is restricted to them (`hm2mCmd_sim` covers all) -/
def M2MCmd.NoSelfUpdate : M2MCmd α → Prop
  | .updateFrom r _ r2 _ => r ≠ r2
  | _ => True

instance (c : M2MCmd α) : Decidable c.NoSelfUpdate := by
  cases c <;> simp only [M2MCmd.NoSelfUpdate] <;> infer_instance

abbrev Step (α σ : Type) := Heap α → σ → Heap α × σ

section generic
variable {σ τ : Type} (idsOf : σ → List Nat) (absOf : Heap α → σ → τ)

/-- the footprint of the step `f` at `(h, x)`: it never shrinks the heap, writes only cells `x` refers to (or new ones),
    stores only ids `x` already had or ids of cells it has just allocated; and what it is by value: `g`, provided `pre`
    (a step that reads another object's cells live is `g` only when nobody writes them meanwhile) -/
structure RefAt (pre : Prop) (f : Step α σ) (g : τ → τ) (h : Heap α) (x : σ) : Prop where
  len : h.length ≤ (f h x).1.length
  frame : ∀ j, j < h.length → j ∉ idsOf x → cell (f h x).1 j = cell h j
  ids_sub : ∀ j, j ∈ idsOf (f h x).2 → j ∈ idsOf x ∨ (h.length ≤ j ∧ j < (f h x).1.length)
  nodup : (idsOf x).Nodup → (∀ j ∈ idsOf x, j < h.length) → (idsOf (f h x).2).Nodup
  sim : pre → (idsOf x).Nodup → (∀ j ∈ idsOf x, j < h.length) → absOf (f h x).1 (f h x).2 = g (absOf h x)

variable {idsOf absOf}

theorem RefAt.inRange {p : Prop} {f : Step α σ} {g : τ → τ} {h : Heap α} {x : σ} (r : RefAt idsOf absOf p f g h x)
    (hr : ∀ j ∈ idsOf x, j < h.length) : ∀ j ∈ idsOf (f h x).2, j < (f h x).1.length := by
  intro j hj
  rcases r.ids_sub j hj with h1 | h1
  · exact Nat.lt_of_lt_of_le (hr j h1) r.len
  · exact h1.2

theorem RefAt.with_sim {p q : Prop} {f : Step α σ} {g g' : τ → τ} {h : Heap α} {x : σ} (r : RefAt idsOf absOf q f g' h x)
    (sm : p → (idsOf x).Nodup → (∀ j ∈ idsOf x, j < h.length) → absOf (f h x).1 (f h x).2 = g (absOf h x)) :
    RefAt idsOf absOf p f g h x :=
  ⟨r.len, r.frame, r.ids_sub, r.nodup, sm⟩

/-- a claim is about ONE point `(h, x)`: the primitives below are proved, case by case, from the constant step that
    returns the result of the case -/
theorem RefAt.of_eq {p : Prop} {f f' : Step α σ} {g g' : τ → τ} {h : Heap α} {x : σ} (e : f h x = f' h x)
    (eg : g (absOf h x) = g' (absOf h x)) (r : RefAt idsOf absOf p f' g' h x) : RefAt idsOf absOf p f g h x := by
  constructor
  · rw [e]; exact r.len
  · rw [e]; exact r.frame
  · rw [e]; exact r.ids_sub
  · rw [e]; exact r.nodup
  · rw [e, eg]; exact r.sim

/-- the step does nothing at `(h, x)`, on either level -/
theorem RefAt.skip {p : Prop} {f : Step α σ} {g : τ → τ} {h : Heap α} {x : σ} (e : f h x = (h, x))
    (eg : g (absOf h x) = absOf h x) : RefAt idsOf absOf p f g h x :=
  RefAt.of_eq (f' := fun _ _ => (h, x)) (g' := fun D => D) e eg
    ⟨Nat.le_refl _, fun _ _ _ => rfl, fun _ hj => Or.inl hj, fun hn _ => hn, fun _ _ _ => rfl⟩

def sSeq (f₁ f₂ : Step α σ) : Step α σ := fun h x => f₂ (f₁ h x).1 (f₁ h x).2

theorem RefAt.seq {p : Prop} {f₁ f₂ : Step α σ} {g₁ g₂ : τ → τ} {h : Heap α} {x : σ} (a : RefAt idsOf absOf p f₁ g₁ h x)
    (b : RefAt idsOf absOf p f₂ g₂ (f₁ h x).1 (f₁ h x).2) : RefAt idsOf absOf p (sSeq f₁ f₂) (fun D => g₂ (g₁ D)) h x := by
  refine ⟨Nat.le_trans a.len b.len, ?_, ?_, ?_, ?_⟩
  · intro j hj hn
    have h1 : j < (f₁ h x).1.length := Nat.lt_of_lt_of_le hj a.len
    have h2 : j ∉ idsOf (f₁ h x).2 := by
      intro hm
      rcases a.ids_sub j hm with h3 | h3
      · exact hn h3
      · omega
    show cell (f₂ (f₁ h x).1 (f₁ h x).2).1 j = cell h j
    rw [b.frame j h1 h2, a.frame j hj hn]
  · intro j hj
    rcases b.ids_sub j hj with h1 | h1
    · rcases a.ids_sub j h1 with h2 | h2
      · exact Or.inl h2
      · exact Or.inr ⟨h2.1, Nat.lt_of_lt_of_le h2.2 b.len⟩
    · exact Or.inr ⟨Nat.le_trans a.len h1.1, h1.2⟩
  · intro hn hr
    exact b.nodup (a.nodup hn hr) (a.inRange hr)
  · intro hp hn hr
    show absOf (f₂ (f₁ h x).1 (f₁ h x).2).1 (f₂ (f₁ h x).1 (f₁ h x).2).2 = g₂ (g₁ (absOf h x))
    rw [b.sim hp (a.nodup hn hr) (a.inRange hr), a.sim hp hn hr]

theorem sFold_cons {β : Type} (f : β → Step α σ) (b : β) (l : List β) (h : Heap α) (x : σ) :
    sFold f (b :: l) h x = sFold f l (f b h x).1 (f b h x).2 := rfl

theorem sFold_ref {p : Prop} {β : Type} (f : β → Step α σ) (g : β → τ → τ)
    (hf : ∀ b h x, RefAt idsOf absOf p (f b) (g b) h x) (l : List β) :
    ∀ h x, RefAt idsOf absOf p (sFold f l) (fun D => l.foldl (fun D b => g b D) D) h x := by
  induction l with
  | nil => intro h x; exact RefAt.skip rfl rfl
  | cons b l ih =>
    intro h x
    exact RefAt.of_eq (f' := sSeq (f b) (sFold f l)) (sFold_cons f b l h x) rfl (RefAt.seq (hf b h x) (ih _ _))

end generic

abbrev DRefAt (p : Prop) (f : Step α (Dict α Nat)) (g : Dict α (List α) → Dict α (List α)) (h : Heap α) (d : Dict α Nat) :
    Prop := RefAt ids deref p f g h d
def DRef (f : Step α (Dict α Nat)) (g : Dict α (List α) → Dict α (List α)) : Prop := ∀ h d, DRefAt True f g h d
abbrev InRange (h : Heap α) (d : Dict α Nat) : Prop := ∀ j ∈ ids d, j < h.length

theorem dref_set (h : Heap α) (d : Dict α Nat) (k : α) (i : Nat) (vs : List α) (hk : lookup k d = some i) :
    DRefAt True (fun _ _ => (h.set i vs, d)) (put k vs) h d := by
  refine ⟨by simp, ?_, fun j hj => Or.inl hj, fun hn _ => hn,
    fun _ hn hr => deref_set_own h k d i vs hk hn (hr i (mem_ids_of_lookup hk))⟩
  intro j _ hj
  exact cell_set_ne _ _ _ _ (fun e => hj (e ▸ mem_ids_of_lookup hk))

theorem dref_alloc (h : Heap α) (d : Dict α Nat) (k : α) (vs : List α) (hk : lookup k d = none) :
    DRefAt True (fun _ _ => (h ++ [vs], d ++ [(k, h.length)])) (put k vs) h d := by
  refine ⟨by simp, ?_, ?_, ?_, ?_⟩
  · intro j hj _; exact cell_append_left _ _ _ hj
  · intro j hj
    simp only [ids_append, List.mem_append] at hj
    rcases hj with hj | hj
    · exact Or.inl hj
    · simp only [ids, List.map_cons, List.map_nil, List.mem_singleton] at hj
      subst hj; right; simp
  · intro hn hr
    rw [ids_append]
    exact nodup_concat hn (fun hm => Nat.lt_irrefl _ (hr _ hm))
  · intro _ _ hr
    show deref (h ++ [vs]) (d ++ [(k, h.length)]) = put k vs (deref h d)
    rw [put_of_not_mem, deref_append]
    · congr 1
      · exact deref_congr _ _ _ (fun j hj => cell_append_left _ _ _ (hr j hj))
      · simp [deref, cell_append_length]
    · rw [keys_deref]; exact (lookup_none_iff k d).1 hk

theorem dref_set_erase (h : Heap α) (d : Dict α Nat) (k : α) (i : Nat) (vs : List α) (hk : lookup k d = some i) :
    DRefAt True (fun _ _ => (h.set i vs, erase k d)) (erase k) h d := by
  refine ⟨by simp, ?_, fun j hj => Or.inl ((ids_erase_sublist k d).subset hj),
    fun hn _ => (ids_erase_sublist k d).nodup hn, fun _ hn hr => ?_⟩
  · intro j _ hj
    exact cell_set_ne _ _ _ _ (fun e => hj (e ▸ mem_ids_of_lookup hk))
  · show deref (h.set i vs) (erase k d) = erase k (deref h d)
    rw [deref_erase, deref_set_own h k d i _ hk hn (hr i (mem_ids_of_lookup hk)), erase_put_same]

theorem hAddTo_ref (k v : α) : DRef (hAddTo k v) (addTo k v) := by
  intro h d
  cases hk : lookup k d with
  | some i =>
    exact RefAt.of_eq (f' := fun _ _ => (h.set i (insertSet v (cell h i)), d)) (by simp [hAddTo, hk])
      (by rw [addTo, getSet_deref, hk]) (dref_set h d k i _ hk)
  | none =>
    exact RefAt.of_eq (f' := fun _ _ => (h ++ [insertSet v []], d ++ [(k, h.length)])) (by simp [hAddTo, hk])
      (by rw [addTo, getSet_deref, hk]) (dref_alloc h d k _ hk)

theorem hRemoveFrom_ref (k v : α) : DRef (hRemoveFrom k v) (removeFrom k v) := by
  intro h d
  cases hk : lookup k d with
  | some i =>
    by_cases he : removeElem v (cell h i) = []
    · exact RefAt.of_eq (f' := fun _ _ => (h.set i [], erase k d)) (by simp [hRemoveFrom, hk, he])
        (by rw [removeFrom, getSet_deref, hk]; simp only [he, if_true]) (dref_set_erase h d k i [] hk)
    · exact RefAt.of_eq (f' := fun _ _ => (h.set i (removeElem v (cell h i)), d)) (by simp [hRemoveFrom, hk, he])
        (by rw [removeFrom, getSet_deref, hk]; simp only [he, if_false]) (dref_set h d k i _ hk)
  | none =>
    refine RefAt.skip (by simp [hRemoveFrom, hk]) ?_
    rw [removeFrom, getSet_deref, hk]
    simp only [removeElem, List.filter_nil, if_true]
    rw [erase_of_lookup_none]
    rw [lookup_deref, hk]; rfl

theorem hMergeKey_ref (k : α) (vs : List α) : DRef (hMergeKey k vs) (mergeKey k vs) := by
  intro h d
  cases hk : lookup k d with
  | some i =>
    exact RefAt.of_eq (f' := fun _ _ => (h.set i (unionSet (cell h i) vs), d)) (by simp [hMergeKey, hk])
      (by rw [mergeKey_eq, getSet_deref, hk]) (dref_set h d k i _ hk)
  | none =>
    exact RefAt.of_eq (f' := fun _ _ => (h ++ [toSet vs], d ++ [(k, h.length)])) (by simp [hMergeKey, hk])
      (by rw [mergeKey_eq, getSet_deref, hk]; rfl) (dref_alloc h d k _ hk)

theorem hRenameIn_ref (v k nk : α) : DRef (hRenameIn v k nk) (renameIn v k nk) := by
  intro h d
  cases hk : lookup v d with
  | some i =>
    exact RefAt.of_eq (f' := fun _ _ => (h.set i (insertSet nk (removeElem k (cell h i))), d)) (by simp [hRenameIn, hk])
      (by rw [renameIn, hasKey_deref, getSet_deref, hasKey_of_lookup_some hk, hk]; rfl)
      (dref_set h d v i _ hk)
  | none =>
    exact RefAt.skip (by simp [hRenameIn, hk]) (by rw [renameIn, hasKey_deref, hasKey_of_lookup_none hk]; rfl)

theorem hErase_ref (k : α) : DRef (hErase k) (erase k) := by
  intro h d
  exact ⟨Nat.le_refl _, fun _ _ _ => rfl, fun j hj => Or.inl ((ids_erase_sublist k d).subset hj),
    fun hn _ => (ids_erase_sublist k d).nodup hn, fun _ _ _ => deref_erase h k d⟩

/-- the other dict's cells are read live: when they are none of this dict's, what is read is what was there at the start -/
theorem hMergeAll_sim (od : Dict α Nat) (h : Heap α) (d : Dict α Nat) (hn : (ids d).Nodup) (hr : InRange h d)
    (hro : InRange h od) (hd : ∀ j ∈ ids od, j ∉ ids d) :
    deref (hMergeAll od h d).1 (hMergeAll od h d).2 = (deref h od).foldl (fun D p => mergeKey p.1 p.2 D) (deref h d) := by
  induction od generalizing h d with
  | nil => rfl
  | cons e rest ih =>
    have ft := hMergeKey_ref e.1 (cell h e.2) h d
    have e1 : hMergeAll (e :: rest) h d = hMergeAll rest (hMergeKey e.1 (cell h e.2) h d).1 (hMergeKey e.1 (cell h e.2) h d).2 := rfl
    rw [e1]
    have hro' : InRange h rest := fun j hj => hro j (List.mem_cons_of_mem _ hj)
    have hd' : ∀ j ∈ ids rest, j ∉ ids d := fun j hj => hd j (List.mem_cons_of_mem _ hj)
    rw [ih _ _ (ft.nodup hn hr) (ft.inRange hr)
      (fun j hj => Nat.lt_of_lt_of_le (hro' j hj) ft.len)
      (by
        intro j hj hm
        rcases ft.ids_sub j hm with h1 | h1
        · exact hd' j hj h1
        · have := hro' j hj; omega)]
    rw [ft.sim trivial hn hr]
    have hc : deref (hMergeKey e.1 (cell h e.2) h d).1 rest = deref h rest :=
      deref_congr _ _ _ (fun j hj => ft.frame j (hro' j hj) (hd' j hj))
    rw [hc]
    rfl

theorem hMergeAll_ref (od : Dict α Nat) (h : Heap α) (d : Dict α Nat) :
    DRefAt (InRange h od ∧ ∀ j ∈ ids od, j ∉ ids d) (hMergeAll od)
      (fun D => (deref h od).foldl (fun D p => mergeKey p.1 p.2 D) D) h d := by
  -- the footprint comes from `sFold_ref`, run with `p := False` so that no by-value reading of the single steps is
  -- needed (each reads `cell h e.2` live); the simulation clause is then replaced by `hMergeAll_sim`
  have ft := sFold_ref (idsOf := ids) (absOf := deref) (p := False)
    (fun (e : α × Nat) h d => hMergeKey e.1 (cell h e.2) h d) (fun _ D => D)
    (fun e h d => RefAt.of_eq (f' := hMergeKey e.1 (cell h e.2)) (g' := fun D => D) rfl rfl
      ((hMergeKey_ref _ _ h d).with_sim (fun hf => hf.elim))) od h d
  exact ft.with_sim (fun hp hn hr => hMergeAll_sim od h d hn hr hp.1 hp.2)

abbrev IRefAt (p : Prop) (F : Step α (HInst α)) (G : M2M α → M2M α) (h : Heap α) (s : HInst α) : Prop :=
  RefAt idsI HInst.abs p F G h s

theorem mem_idsI (s : HInst α) (j : Nat) : j ∈ idsI s ↔ j ∈ ids s.data ∨ j ∈ ids s.inv := by
  simp [idsI]

def onData (f : Step α (Dict α Nat)) : Step α (HInst α) := fun h s => ((f h s.data).1, ⟨(f h s.data).2, s.inv⟩)

/-- the cells of the inverse dict are none of the forward dict's, so the step leaves them alone -/
theorem onData_ref {p : Prop} {f : Step α (Dict α Nat)} {gf : Dict α (List α) → Dict α (List α)} {h : Heap α}
    {s : HInst α} (a : DRefAt p f gf h s.data) : IRefAt p (onData f) (fun m => ⟨gf m.data, m.inv⟩) h s := by
  refine ⟨a.len, fun j hj hn => a.frame j hj (fun hm => hn ((mem_idsI s j).2 (Or.inl hm))), ?_, ?_, ?_⟩
  · intro j hj
    rcases (mem_idsI _ j).1 hj with hj | hj
    · exact (a.ids_sub j hj).imp (fun h1 => (mem_idsI s j).2 (Or.inl h1)) id
    · exact Or.inl ((mem_idsI s j).2 (Or.inr hj))
  · intro hn hr
    obtain ⟨n1, n2, n3⟩ := List.nodup_append.1 hn
    refine List.nodup_append.2 ⟨a.nodup n1 (fun j hj => hr j ((mem_idsI s j).2 (Or.inl hj))), n2, ?_⟩
    intro x hx y hy e
    subst e
    -- an id the step stored is an old id of the forward dict, or a fresh cell, out of the inverse dict's range
    rcases a.ids_sub x hx with h1 | h1
    · exact n3 x h1 x hy rfl
    · have := hr x ((mem_idsI s x).2 (Or.inr hy)); omega
  · intro hp hn hr
    obtain ⟨n1, _, n3⟩ := List.nodup_append.1 hn
    have r1 : InRange h s.data := fun j hj => hr j ((mem_idsI s j).2 (Or.inl hj))
    show (⟨deref (f h s.data).1 (f h s.data).2, deref (f h s.data).1 s.inv⟩ : M2M α) = ⟨gf (deref h s.data), deref h s.inv⟩
    rw [a.sim hp n1 r1, deref_congr _ _ s.inv (fun j hj =>
      a.frame j (hr j ((mem_idsI s j).2 (Or.inr hj))) (fun hm => n3 j hm j hj rfl))]

theorem mem_idsI_side (s : HInst α) (b : Bool) (j : Nat) : j ∈ idsI (s.side b) ↔ j ∈ idsI s := by
  cases b
  · rfl
  · simp only [HInst.side, HInst.flip, if_true, mem_idsI]; exact Or.comm

theorem nodup_idsI_side (s : HInst α) (b : Bool) : (idsI (s.side b)).Nodup ↔ (idsI s).Nodup := by
  cases b
  · rfl
  · simp only [HInst.side, HInst.flip, if_true, idsI]
    exact List.perm_append_comm.nodup_iff

theorem side_side (s : HInst α) (b : Bool) : (s.side b).side b = s := by
  cases b <;> rfl

theorem side_not_data (s : HInst α) (b : Bool) : (s.side (!b)).data = (s.side b).inv := by cases b <;> rfl

theorem abs_side (h : Heap α) (s : HInst α) (b : Bool) : (s.side b).abs h = (s.abs h).side b := by
  cases b <;> rfl

theorem sided_ref (b : Bool) {p : Prop} {F : Step α (HInst α)} {G : M2M α → M2M α} {h : Heap α} {s : HInst α}
    (r : IRefAt p F G h (s.side b)) : IRefAt p (sided b F) (fun m => (G (m.side b)).side b) h s := by
  refine ⟨r.len, ?_, ?_, ?_, ?_⟩
  · intro j hj hn
    exact r.frame j hj (fun hm => hn ((mem_idsI_side s b j).1 hm))
  · intro j hj
    have := r.ids_sub j ((mem_idsI_side _ b j).1 hj)
    rwa [mem_idsI_side] at this
  · intro hn hr
    show (idsI ((F h (s.side b)).2.side b)).Nodup
    rw [nodup_idsI_side]
    exact r.nodup ((nodup_idsI_side s b).2 hn) (fun j hj => hr j ((mem_idsI_side s b j).1 hj))
  · intro hp hn hr
    show ((F h (s.side b)).2.side b).abs (F h (s.side b)).1 = (G ((s.abs h).side b)).side b
    rw [abs_side, r.sim hp ((nodup_idsI_side s b).2 hn) (fun j hj => hr j ((mem_idsI_side s b j).1 hj)), abs_side]

/-- forward dict, then inverse dict: the second step is a step on the forward dict of the instance seen from `.inv` -/
theorem onBoth_ref {p : Prop} {f g : Step α (Dict α Nat)} {gf gg : Dict α (List α) → Dict α (List α)} {h : Heap α}
    {s : HInst α} (a : DRefAt p f gf h s.data) (b : DRefAt p g gg (f h s.data).1 s.inv) :
    IRefAt p (onBoth f g) (fun m => ⟨gf m.data, gg m.inv⟩) h s :=
  have b' : IRefAt p (onData g) _ (onData f h s).1 ((onData f h s).2.side true) := onData_ref b
  RefAt.of_eq rfl rfl (RefAt.seq (onData_ref a) (sided_ref true b'))

theorem getSet_abs (h : Heap α) (s : HInst α) (k : α) : s.getSet h k = getSet k (s.abs h).data := by
  show _ = getSet k (deref h s.data)
  rw [getSet_deref]; rfl

theorem hasKey_abs (h : Heap α) (s : HInst α) (k : α) : hasKey k (s.abs h).data = hasKey k s.data :=
  hasKey_deref h k s.data

theorem add_ref (k v : α) (h : Heap α) (s : HInst α) : IRefAt True (HInst.add k v) (fun m => m.add k v) h s :=
  (onBoth_ref (hAddTo_ref k v _ _) (hAddTo_ref v k _ _))

theorem removeRaw_ref (k v : α) (h : Heap α) (s : HInst α) :
    IRefAt True (HInst.removeRaw k v) (fun m => m.removeRaw k v) h s :=
  (onBoth_ref (hRemoveFrom_ref k v _ _) (hRemoveFrom_ref v k _ _))

theorem setitem_ref (k : α) (vals : List α) (h : Heap α) (s : HInst α) :
    IRefAt True (HInst.setitem k vals) (fun m => m.setitem k vals) h s := by
  have addAll := fun l => sFold_ref (idsOf := idsI) (absOf := HInst.abs) _ (fun v (D : M2M α) => D.add k v)
    (fun b h x => add_ref k b h x) l
  by_cases hk : hasKey k s.data = true
  · refine RefAt.of_eq (f' := sSeq
      (sFold (fun v => HInst.removeRaw k v) ((s.getSet h k).filter (fun v => !(toSet vals).contains v)))
      (sFold (fun v => HInst.add k v) ((toSet vals).filter (fun v => !(s.getSet h k).contains v))))
      (g' := fun (D : M2M α) => ((toSet vals).filter (fun v => !(s.getSet h k).contains v)).foldl (fun (D : M2M α) v => D.add k v)
        (((s.getSet h k).filter (fun v => !(toSet vals).contains v)).foldl (fun (D : M2M α) v => D.removeRaw k v) D)) ?_ ?_
      (RefAt.seq (sFold_ref _ (fun v (D : M2M α) => D.removeRaw k v) (fun b h x => removeRaw_ref k b h x) _ _ _)
        (addAll _ _ _))
    · simp [HInst.setitem, hk, sSeq]
    · simp only [M2M.setitem, hasKey_abs, hk, if_true, getSet_abs]
  · refine RefAt.of_eq (f' := sFold (fun v => HInst.add k v) (toSet vals))
      (g' := fun (D : M2M α) => (toSet vals).foldl (fun (D : M2M α) v => D.add k v) D) ?_ ?_ (addAll _ _ _)
    · simp [HInst.setitem, hk]
    · simp only [M2M.setitem, hasKey_abs, hk]; rfl

theorem delitemBody_ref (k : α) (l : List α) (h : Heap α) (s : HInst α) :
    IRefAt True (onBoth (hErase k) (sFold (fun v => hRemoveFrom v k) l))
      (fun m => ⟨erase k m.data, l.foldl (fun i v => removeFrom v k i) m.inv⟩) h s :=
  (onBoth_ref (hErase_ref k _ _)
    (sFold_ref _ (fun v D => removeFrom v k D) (fun b h x => hRemoveFrom_ref b k h x) _ _ _))

theorem updatePairs_ref (ps : List (α × α)) (h : Heap α) (s : HInst α) :
    IRefAt True (HInst.updatePairs ps) (fun m => m.updatePairs ps) h s :=
  sFold_ref _ (fun (p : α × α) (D : M2M α) => D.add p.1 p.2) (fun b h x => add_ref b.1 b.2 h x) _ _ _

theorem replaceBody_ref (k nk : α) (l : List α) (h : Heap α) (s : HInst α) :
    IRefAt True (onBoth (fun h' d => hMergeKey nk l h' (erase k d)) (sFold (fun v => hRenameIn v k nk) l))
      (fun m => ⟨mergeKey nk l (erase k m.data), l.foldl (fun i v => renameIn v k nk i) m.inv⟩) h s :=
  (onBoth_ref (gf := fun D => mergeKey nk l (erase k D)) (gg := fun D => l.foldl (fun i v => renameIn v k nk i) D)
    (RefAt.of_eq (f' := sSeq (hErase k) (hMergeKey nk l)) rfl rfl (RefAt.seq (hErase_ref k _ _) (hMergeKey_ref nk l _ _)))
    (sFold_ref _ (fun v D => renameIn v k nk D) (fun b h x => hRenameIn_ref b k nk h x) _ _ _))

theorem step_ref (op : M2MOp α) (h : Heap α) (s : HInst α) :
    IRefAt True (fun h s => (s.step h op).1) (fun m => (m.step op).1) h s := by
  cases op with
  | add k v => exact add_ref k v h s
  | remove k v =>
    by_cases hv : v ∈ s.getSet h k
    · exact RefAt.of_eq (f' := HInst.removeRaw k v) (g' := fun m => m.removeRaw k v)
        (by simp only [HInst.step, HInst.remove, hv, ↓reduceIte])
        (by simp only [M2M.step, M2M.remove, ← getSet_abs, hv, ↓reduceIte]) (removeRaw_ref k v h s)
    · exact RefAt.skip (by simp only [HInst.step, HInst.remove, hv, ↓reduceIte])
        (by simp only [M2M.step, M2M.remove, ← getSet_abs, hv, ↓reduceIte])
  | setitem k vals => exact setitem_ref k vals h s
  | delitem k =>
    by_cases hk : hasKey k s.data = true
    · exact RefAt.of_eq (f' := onBoth (hErase k) (sFold (fun v => hRemoveFrom v k) (s.getSet h k)))
        (g' := fun m => ⟨erase k m.data, (s.getSet h k).foldl (fun i v => removeFrom v k i) m.inv⟩)
        (by simp only [HInst.step, HInst.delitem, hk, ↓reduceIte])
        (by simp only [M2M.step, M2M.delitem, hasKey_abs, hk, ↓reduceIte, getSet_abs]) (delitemBody_ref k _ h s)
    · exact RefAt.skip (by simp only [HInst.step, HInst.delitem, hk, Bool.false_eq_true, ↓reduceIte])
        (by simp only [M2M.step, M2M.delitem, hasKey_abs, hk, Bool.false_eq_true, ↓reduceIte])
  | update ps => exact updatePairs_ref ps h s
  | replace k nk =>
    by_cases hk : hasKey k s.data = true
    · exact RefAt.of_eq (f' := onBoth (fun h' d => hMergeKey nk (s.getSet h k) h' (erase k d))
          (sFold (fun v => hRenameIn v k nk) (s.getSet h k)))
        (g' := fun m => ⟨mergeKey nk (s.getSet h k) (erase k m.data),
          (s.getSet h k).foldl (fun i v => renameIn v k nk i) m.inv⟩)
        (by simp only [HInst.step, HInst.replace, hk, ↓reduceIte])
        (by simp only [M2M.step, M2M.replace, hasKey_abs, hk, ↓reduceIte, getSet_abs]) (replaceBody_ref k nk _ h s)
    · exact RefAt.skip (by simp only [HInst.step, HInst.replace, hk, Bool.false_eq_true, ↓reduceIte])
        (by simp only [M2M.step, M2M.replace, hasKey_abs, hk, Bool.false_eq_true, ↓reduceIte])

theorem step_ret (op : M2MOp α) (h : Heap α) (s : HInst α) : (s.step h op).2 = ((s.abs h).step op).2 := by
  cases op with
  | remove k v => simp only [HInst.step, HInst.remove, M2M.step, M2M.remove, getSet_abs]; split <;> rfl
  | delitem k => simp only [HInst.step, HInst.delitem, M2M.step, M2M.delitem, hasKey_abs]; split <;> rfl
  | _ => rfl

theorem HSep.empty : HSep (HState.empty : HState α) :=
  ⟨fun r s h => by simp [HState.empty] at h, fun r₁ r₂ s₁ s₂ _ h => by simp [HState.empty] at h⟩

theorem getElem?_push (st : HState α) (r : Nat) (s : HInst α) (h : st.push.regs[r]? = some s) :
    st.regs[r]? = some s ∨ (r = st.regs.length ∧ s = HInst.empty) := by
  simp only [HState.push, List.getElem?_append, List.getElem?_singleton] at h
  split at h
  · exact Or.inl h
  · split at h
    · exact Or.inr ⟨by omega, (Option.some.inj h).symm⟩
    · simp at h

theorem push_getElem?_length (st : HState α) : st.push.regs[st.regs.length]? = some HInst.empty := by
  simp [HState.push]

theorem push_getElem?_lt (st : HState α) {r : Nat} (hr : r < st.regs.length) : st.push.regs[r]? = st.regs[r]? :=
  List.getElem?_append_left hr

theorem HSep.push {st : HState α} (hs : HSep st) : HSep st.push := by
  constructor
  · intro r s h
    rcases getElem?_push st r s h with h1 | ⟨_, h1⟩
    · exact hs.good r s h1
    · subst h1; simp [HInst.empty, idsI, ids]
  · intro r₁ r₂ s₁ s₂ hne h₁ h₂ j hj
    rcases getElem?_push st r₁ s₁ h₁ with h1 | ⟨_, h1⟩
    · rcases getElem?_push st r₂ s₂ h₂ with h2 | ⟨_, h2⟩
      · exact hs.disj r₁ r₂ s₁ s₂ hne h1 h2 j hj
      · subst h2; simp [HInst.empty, idsI, ids]
    · subst h1; simp [HInst.empty, idsI, ids] at hj

theorem Frame.trans {st st₁ st₂ : HState α} {r : Nat} (a : Frame st st₁ r) (b : Frame st₁ st₂ r) : Frame st st₂ r := by
  intro r' s' hne h
  obtain ⟨h1, c1⟩ := a r' s' hne h
  obtain ⟨h2, c2⟩ := b r' s' hne h1
  exact ⟨h2, fun j hj => (c2 j hj).trans (c1 j hj)⟩

theorem Frame.of_push {st st' : HState α} {r : Nat} (f : Frame st.push st' r) : Frame st st' r :=
  fun r' s' hne h => f r' s' hne ((push_getElem?_lt st (getElem?_lt h)).trans h)

structure SepStep (st st' : HState α) (r : Nat) : Prop where
  sep : HSep st'
  grows : st.heap.length ≤ st'.heap.length
  frame : Frame st st' r

theorem SepStep.trans {st st₁ st₂ : HState α} {r : Nat} (a : SepStep st st₁ r) (b : SepStep st₁ st₂ r) : SepStep st st₂ r :=
  ⟨b.sep, Nat.le_trans a.grows b.grows, a.frame.trans b.frame⟩

theorem SepStep.of_push {st st' : HState α} {r : Nat} (a : SepStep st.push st' r) : SepStep st st' r :=
  ⟨a.sep, a.grows, a.frame.of_push⟩

theorem stepAt_some {st st' : HState α} {r : Nat} {F : Step α (HInst α)} (h : st.stepAt r F = some st') :
    ∃ s, st.regs[r]? = some s ∧ st' = ⟨(F st.heap s).1, st.regs.set r (F st.heap s).2⟩ := by
  simp only [HState.stepAt, Option.map_eq_some_iff] at h
  obtain ⟨s, hr, e⟩ := h
  exact ⟨s, hr, e.symm⟩

theorem stepAt_sep {st st' : HState α} (hs : HSep st) {r : Nat} {p : HInst α → Prop} {F : Step α (HInst α)}
    {G : M2M α → M2M α} (hF : ∀ s, st.regs[r]? = some s → IRefAt (p s) F G st.heap s) (h : st.stepAt r F = some st') :
    SepStep st st' r := by
  obtain ⟨s, hr, rfl⟩ := stepAt_some h
  have ft := hF s hr
  obtain ⟨gn, gr⟩ := hs.good r s hr
  refine ⟨⟨?_, ?_⟩, ft.len, ?_⟩
  · intro r' s' h'
    rcases getElem?_set_cases _ _ _ _ _ h' with ⟨_, e⟩ | ⟨hne, h1⟩
    · subst e
      exact ⟨ft.nodup gn gr, ft.inRange gr⟩
    · obtain ⟨a, b⟩ := hs.good r' s' h1
      exact ⟨a, fun j hj => Nat.lt_of_lt_of_le (b j hj) ft.len⟩
  · -- an id the step stored is an old id of `s` (disjoint from the others before) or a fresh cell (out of their range)
    have new_vs_old : ∀ r' s', r' ≠ r → st.regs[r']? = some s' → ∀ j ∈ idsI (F st.heap s).2, j ∉ idsI s' := by
      intro r' s' hne h' j hj hm
      rcases ft.ids_sub j hj with h3 | h3
      · exact hs.disj r r' s s' (fun e => hne e.symm) hr h' j h3 hm
      · have := (hs.good r' s' h').2 j hm; omega
    intro r₁ r₂ s₁ s₂ hne h₁ h₂ j hj hm
    rcases getElem?_set_cases _ _ _ _ _ h₁ with ⟨e1, e1'⟩ | ⟨n1, h1⟩ <;>
      rcases getElem?_set_cases _ _ _ _ _ h₂ with ⟨e2, e2'⟩ | ⟨n2, h2⟩
    · exact hne (e1.trans e2.symm)
    · subst e1'; exact new_vs_old r₂ s₂ n2 h2 j hj hm
    · subst e2'; exact new_vs_old r₁ s₁ n1 h1 j hm hj
    · exact hs.disj r₁ r₂ s₁ s₂ hne h1 h2 j hj hm
  · intro r' s' hne h'
    refine ⟨?_, fun j hj => ft.frame j ((hs.good r' s' h').2 j hj) (fun hm => hs.disj r' r s' s hne h' hr j hj hm)⟩
    show (st.regs.set r (F st.heap s).2)[r']? = some s'
    rw [List.getElem?_set, if_neg (fun e : r = r' => hne e.symm)]
    exact h'

/-- by value, one loop of `update(other)`: the dict `o` merged key by key into the forward dict -/
def M2M.mergeData (m : M2M α) (o : Dict α (List α)) : M2M α := ⟨o.foldl (fun D p => mergeKey p.1 p.2 D) m.data, m.inv⟩

/-- `x.update(other)` by value: loop 1 into the forward dict, loop 2, made from the other side, into the inverse dict.
    The right side is what two `mergeAt_abs`, made through sides `b` and `!b`, leave (`(m.side b).side (!b)` is `m.flip`) -/
theorem M2M.updateFrom_eq_mergeData (A o : M2M α) (b : Bool) :
    (A.updateFrom o).side b = ((((A.mergeData o.data).side b).side (!b)).mergeData o.inv).side (!b) := by
  cases b <;> rfl

/-- `x.update(x.inv)` by value: loop 2 merges the inverse dict of what loop 1 has left, seen from the other side -/
theorem selfMerge_eq_mergeData (A : M2M α) (b : Bool) :
    (selfMerge A).side b =
      ((((A.mergeData A.inv).side b).side (!b)).mergeData (((A.mergeData A.inv).side b).side (!b)).inv).side (!b) := by
  cases b <;> rfl

theorem mergeLoop_ref (od : Dict α Nat) (b : Bool) (h : Heap α) (s : HInst α) :
    IRefAt (InRange h od ∧ ∀ j ∈ ids od, j ∉ ids (s.side b).data) (sided b (onBoth (hMergeAll od) dId))
      (fun m => ((m.side b).mergeData (deref h od)).side b) h s :=
  sided_ref b (G := fun m => m.mergeData (deref h od)) (onData_ref (hMergeAll_ref od _ _))

/-- the second loop (into the inverse dict) is the first loop seen from the other side, so one lemma about a loop
    (`mergeLoop_ref`, `mergeAt_abs`) serves both -/
theorem sided_onBoth_dId (b : Bool) (g : Step α (Dict α Nat)) : sided b (onBoth dId g) = sided (!b) (onBoth g dId) := by
  cases b <;> rfl

theorem hUpdateFrom_some {st st' : HState α} {r r2 : Nat} {side side2 : Bool}
    (h : hUpdateFrom st r side r2 side2 = some st') :
    ∃ o st1 o1, st.regs[r2]? = some o ∧
      st.stepAt r (sided side (onBoth (hMergeAll (o.side side2).data) dId)) = some st1 ∧ st1.regs[r2]? = some o1 ∧
      st1.stepAt r (sided (!side) (onBoth (hMergeAll (o1.side side2).inv) dId)) = some st' := by
  simp only [hUpdateFrom, Option.bind_eq_some_iff] at h
  obtain ⟨o, ho, st1, h1, o1, ho1, h2⟩ := h
  exact ⟨o, st1, o1, ho, h1, ho1, by rw [← sided_onBoth_dId]; exact h2⟩

theorem hUpdateFrom_sep {st st' : HState α} (hs : HSep st) (r : Nat) (side : Bool) (r2 : Nat) (side2 : Bool)
    (h : hUpdateFrom st r side r2 side2 = some st') : SepStep st st' r := by
  obtain ⟨o, st1, o1, _, h1, _, h2⟩ := hUpdateFrom_some h
  have loop1 := stepAt_sep hs (fun s _ => mergeLoop_ref _ side st.heap s) h1
  exact loop1.trans (stepAt_sep loop1.sep (fun s _ => mergeLoop_ref _ (!side) st1.heap s) h2)

theorem hm2mCmd_some {st st' : HState α} {c : M2MCmd α} {ret : Ret α} (h : hm2mCmd st c = some (st', ret)) :
    match c with
    | .new ps => st.push.stepAt st.regs.length (HInst.updatePairs ps) = some st' ∧ ret = .none
    | .newFrom r side => r < st.regs.length ∧ hUpdateFrom st.push st.regs.length false r side = some st' ∧ ret = .none
    | .op r side op => ∃ s, st.regs[r]? = some s ∧ st.stepAt r (sided side fun h s => (s.step h op).1) = some st' ∧
        ret = ((s.side side).step st.heap op).2
    | .updateFrom r side r2 side2 => hUpdateFrom st r side r2 side2 = some st' ∧ ret = .none := by
  cases c with
  | new ps =>
    simp only [hm2mCmd, Option.map_eq_some_iff, Prod.mk.injEq] at h
    obtain ⟨_, h1, rfl, rfl⟩ := h
    exact ⟨h1, rfl⟩
  | newFrom r side =>
    simp only [hm2mCmd] at h
    split at h
    · next hr =>
      simp only [Option.map_eq_some_iff, Prod.mk.injEq] at h
      obtain ⟨_, h1, rfl, rfl⟩ := h
      exact ⟨hr, h1, rfl⟩
    · simp at h
  | op r side op =>
    simp only [hm2mCmd, Option.bind_eq_some_iff, Option.map_eq_some_iff, Prod.mk.injEq] at h
    obtain ⟨s, hr, _, h1, rfl, rfl⟩ := h
    exact ⟨s, hr, h1, rfl⟩
  | updateFrom r side r2 side2 =>
    simp only [hm2mCmd, Option.map_eq_some_iff, Prod.mk.injEq] at h
    obtain ⟨_, h1, rfl, rfl⟩ := h
    exact ⟨h1, rfl⟩

theorem hm2mCmd_sep {st st' : HState α} {c : M2MCmd α} {ret : Ret α} (hs : HSep st)
    (h : hm2mCmd st c = some (st', ret)) : SepStep st st' (c.target st.regs.length) := by
  cases c with
  | new ps => exact (stepAt_sep hs.push (fun s _ => updatePairs_ref ps _ s) (hm2mCmd_some h).1).of_push
  | newFrom r side => exact (hUpdateFrom_sep hs.push _ _ _ _ (hm2mCmd_some h).2.1).of_push
  | op r side op =>
    obtain ⟨_, _, h1, _⟩ := hm2mCmd_some h
    exact stepAt_sep hs (fun s _ => sided_ref side (step_ref op st.heap (s.side side))) h1
  | updateFrom r side r2 side2 => exact hUpdateFrom_sep hs _ _ _ _ (hm2mCmd_some h).1

theorem hm2mRun_cons {st st' : HState α} {c : M2MCmd α} {cs : List (M2MCmd α)} (h : hm2mRun st (c :: cs) = some st') :
    ∃ st1 ret, hm2mCmd st c = some (st1, ret) ∧ hm2mRun st1 cs = some st' := by
  simp only [hm2mRun] at h
  split at h
  · next st1 ret hc => exact ⟨st1, ret, hc, h⟩
  · simp at h

theorem hm2mRun_sep {st st' : HState α} (cs : List (M2MCmd α)) (hs : HSep st) (h : hm2mRun st cs = some st') :
    HSep st' :=
  run_inv hm2mCmd hm2mRun (fun _ => rfl) (fun s c _ => by rw [hm2mRun]; cases hm2mCmd s c <;> rfl)
    (fun hs hc => (hm2mCmd_sep hs hc).sep) cs hs h

theorem abs_congr (h h' : Heap α) (s : HInst α) (hc : ∀ j ∈ idsI s, cell h' j = cell h j) : s.abs h' = s.abs h := by
  show (⟨deref h' s.data, deref h' s.inv⟩ : M2M α) = ⟨deref h s.data, deref h s.inv⟩
  rw [deref_congr h h' s.data (fun j hj => hc j ((mem_idsI s j).2 (Or.inl hj))),
    deref_congr h h' s.inv (fun j hj => hc j ((mem_idsI s j).2 (Or.inr hj)))]

theorem abs_getElem? (st : HState α) (r : Nat) : st.abs[r]? = (st.regs[r]?).map (HInst.abs st.heap) := by
  simp [HState.abs]

theorem stepAt_abs {st st' : HState α} (hs : HSep st) {r : Nat} {s : HInst α} (hr : st.regs[r]? = some s)
    {p : Prop} {F : Step α (HInst α)} {G : M2M α → M2M α} (rf : IRefAt p F G st.heap s) (hp : p)
    (h : st.stepAt r F = some st') :
    ∃ s', st'.regs[r]? = some s' ∧ s'.abs st'.heap = G (s.abs st.heap) ∧ st'.abs = st.abs.set r (G (s.abs st.heap)) := by
  have fr := (stepAt_sep hs (fun s' hs' => Option.some.inj (hr.symm.trans hs') ▸ rf) h).frame
  obtain ⟨s0, hr0, rfl⟩ := stepAt_some h
  obtain rfl : s = s0 := Option.some.inj (hr.symm.trans hr0)
  obtain ⟨gn, gr⟩ := hs.good r s hr
  have hsim : (F st.heap s).2.abs (F st.heap s).1 = G (s.abs st.heap) := rf.sim hp gn gr
  have hnew : (st.regs.set r (F st.heap s).2)[r]? = some (F st.heap s).2 := by simp [getElem?_lt hr]
  refine ⟨_, hnew, hsim, List.ext_getElem? fun i => ?_⟩
  rw [abs_getElem?, List.getElem?_set, List.getElem?_set, abs_getElem?]
  by_cases e : r = i
  · simp only [e, if_true, List.length_map, HState.abs, getElem?_lt (e ▸ hr), Option.map_some, hsim]
  · simp only [e, if_false]
    cases hi : st.regs[i]? with
    | none => rfl
    | some s' => exact congrArg some (abs_congr _ _ _ ((fr i s' (fun e' => e e'.symm) hi).2))

theorem stepSide_eq (m : M2M α) (b : Bool) (op : M2MOp α) :
    (m.stepSide b op).1 = ((m.side b).step op).1.side b ∧ (m.stepSide b op).2 = ((m.side b).step op).2 := by
  cases b <;> exact ⟨rfl, rfl⟩

theorem push_abs (st : HState α) : st.push.abs = st.abs ++ [M2M.empty] := by
  simp [HState.push, HState.abs, HInst.abs, HInst.empty, M2M.empty, deref]

theorem mem_idsI_of_side {s : HInst α} {b : Bool} {j : Nat} (hj : j ∈ ids (s.side b).data ∨ j ∈ ids (s.side b).inv) :
    j ∈ idsI s :=
  (mem_idsI_side s b j).1 ((mem_idsI _ j).2 hj)

theorem data_inv_disjoint {s : HInst α} (hn : (idsI s).Nodup) (b : Bool) :
    ∀ j ∈ ids (s.side b).data, j ∉ ids (s.side b).inv := by
  have hn' := (nodup_idsI_side s b).2 hn
  unfold idsI at hn'
  rw [List.nodup_append] at hn'
  exact fun j hj hm => hn'.2.2 j hj j hm rfl

theorem mergeAt_abs {st st' : HState α} (hs : HSep st) {r : Nat} {s : HInst α} (hsr : st.regs[r]? = some s)
    (b : Bool) (od : Dict α Nat) (hro : InRange st.heap od) (hd : ∀ j ∈ ids od, j ∉ ids (s.side b).data)
    (h : st.stepAt r (sided b (onBoth (hMergeAll od) dId)) = some st') :
    SepStep st st' r ∧
    ∃ s', st'.regs[r]? = some s' ∧ s'.abs st'.heap = (((s.abs st.heap).side b).mergeData (deref st.heap od)).side b ∧
      st'.abs = st.abs.set r (s'.abs st'.heap) := by
  obtain ⟨s', hs', e, habs⟩ := stepAt_abs hs hsr (mergeLoop_ref od b st.heap s) ⟨hro, hd⟩ h
  exact ⟨stepAt_sep hs (fun s _ => mergeLoop_ref od b st.heap s) h, s', hs', e, e ▸ habs⟩

theorem hUpdateFrom_other {st st' : HState α} (hs : HSep st) (r : Nat) (side : Bool) (r2 : Nat) (side2 : Bool)
    (hne : r ≠ r2) (h : hUpdateFrom st r side r2 side2 = some st') :
    ∃ s o, st.regs[r]? = some s ∧ st.regs[r2]? = some o ∧
      st'.abs = st.abs.set r ((((s.abs st.heap).side side).updateFrom ((o.abs st.heap).side side2)).side side) := by
  obtain ⟨o, st1, o1, ho, h1, ho1, h2⟩ := hUpdateFrom_some h
  obtain ⟨s, hsr, _⟩ := stepAt_some h1
  have orange : ∀ j ∈ idsI o, j < st.heap.length := (hs.good r2 o ho).2
  -- loop 1: the other instance's cells are none of the target's
  obtain ⟨loop1, s1, hs1r, e1, habs1⟩ := mergeAt_abs hs hsr side (o.side side2).data
    (fun j hj => orange j (mem_idsI_of_side (.inl hj)))
    (fun j hj hm => hs.disj r2 r o s hne.symm ho hsr j (mem_idsI_of_side (.inl hj)) (mem_idsI_of_side (.inl hm))) h1
  -- loop 1 has not touched the other instance
  obtain ⟨ho1', co1⟩ := loop1.frame r2 o hne.symm ho
  obtain rfl : o = o1 := Option.some.inj (ho1'.symm.trans ho1)
  obtain ⟨_, s2, _, e2, habs2⟩ := mergeAt_abs loop1.sep hs1r (!side) (o.side side2).inv
    (fun j hj => Nat.lt_of_lt_of_le (orange j (mem_idsI_of_side (.inr hj))) loop1.grows)
    (fun j hj hm => loop1.sep.disj r2 r o s1 hne.symm ho1 hs1r j (mem_idsI_of_side (.inr hj)) (mem_idsI_of_side (.inl hm))) h2
  refine ⟨s, o, hsr, ho, ?_⟩
  rw [habs2, habs1, List.set_set, e2, e1, deref_congr _ _ _ (fun j hj => co1 j (mem_idsI_of_side (.inr hj))), ← abs_side _ o,
    M2M.updateFrom_eq_mergeData]
  rfl

/-- `for k in d: d[k].update(d[k])`: no reference changes, no set object changes -/
theorem hMergeAll_self (l : Dict α Nat) (h : Heap α) (d : Dict α Nat) (hl : ∀ e ∈ l, lookup e.1 d = some e.2) :
    (hMergeAll l h d).2 = d ∧ ∀ j, cell (hMergeAll l h d).1 j = cell h j := by
  induction l generalizing h with
  | nil => exact ⟨rfl, fun _ => rfl⟩
  | cons e r ih =>
    have hk := hl e (by simp)
    have e1 : hMergeAll (e :: r) h d = hMergeAll r (hMergeKey e.1 (cell h e.2) h d).1 (hMergeKey e.1 (cell h e.2) h d).2 := rfl
    have e2 : hMergeKey e.1 (cell h e.2) h d = (h.set e.2 (cell h e.2), d) := by
      simp [hMergeKey, hk, unionSet_of_subset _ _ (fun v hv => hv)]
    rw [e1, e2]
    obtain ⟨a, c⟩ := ih (h.set e.2 (cell h e.2)) (fun x hx => hl x (List.mem_cons_of_mem _ hx))
    refine ⟨a, fun j => ?_⟩
    rw [c j, cell_set]
    split
    · next hj => rw [hj.1]
    · rfl

theorem mergeAt_self {st st' : HState α} {r : Nat} {s : HInst α} (hsr : st.regs[r]? = some s) (b : Bool)
    (kd : NodupKeys (s.side b).data) (h : st.stepAt r (sided b (onBoth (hMergeAll (s.side b).data) dId)) = some st') :
    st'.regs = st.regs ∧ ∀ j, cell st'.heap j = cell st.heap j := by
  obtain ⟨s0, hr0, rfl⟩ := stepAt_some h
  obtain rfl : s = s0 := Option.some.inj (hsr.symm.trans hr0)
  obtain ⟨a, c⟩ := hMergeAll_self (s.side b).data st.heap (s.side b).data
    (fun e he => (mem_iff_lookup _ kd e.1 e.2).1 he)
  have f : (sided b (onBoth (hMergeAll (s.side b).data) dId) st.heap s).2 = s := by
    simp only [sided, onBoth, dId, a]
    exact side_side s b
  exact ⟨by simp only [f, set_same hsr], c⟩

theorem hUpdateFrom_self_same {st st' : HState α} (r : Nat) (side : Bool) (s : HInst α) (hsr : st.regs[r]? = some s)
    (hw : (s.abs st.heap).WF) (h : hUpdateFrom st r side r side = some st') : st'.abs = st.abs := by
  have kd : ∀ b, NodupKeys (s.side b).data := by
    intro b; cases b
    · exact nodupKeys_of_deref hw.gd.nk
    · exact nodupKeys_of_deref hw.gi.nk
  obtain ⟨o, st1, o1, ho, h1, ho1, h2⟩ := hUpdateFrom_some h
  obtain rfl : s = o := Option.some.inj (hsr.symm.trans ho)
  obtain ⟨a1, c1⟩ := mergeAt_self hsr side (kd side) h1
  obtain rfl : s = o1 := Option.some.inj ((a1 ▸ hsr).symm.trans ho1)
  rw [← side_not_data] at h2
  obtain ⟨a2, c2⟩ := mergeAt_self ho1 (!side) (kd (!side)) h2
  unfold HState.abs
  rw [a2, a1]
  exact List.map_congr_left fun x _ => abs_congr _ _ _ (fun j _ => (c2 j).trans (c1 j))

theorem hUpdateFrom_self_opp {st st' : HState α} (hs : HSep st) (r : Nat) (side : Bool)
    (h : hUpdateFrom st r side r (!side) = some st') :
    ∃ s, st.regs[r]? = some s ∧ st'.abs = st.abs.set r ((selfMerge ((s.abs st.heap).side side)).side side) := by
  obtain ⟨s, st1, o1, hsr, h1, ho1, h2⟩ := hUpdateFrom_some h
  obtain ⟨gn, gr⟩ := hs.good r s hsr
  -- loop 1 merges the inverse dict into the forward dict: two dicts of one instance
  rw [side_not_data] at h1
  obtain ⟨loop1, s1, hs1r, e1, habs1⟩ := mergeAt_abs hs hsr side (s.side side).inv
    (fun j hj => gr j (mem_idsI_of_side (.inr hj))) (fun j hj hm => data_inv_disjoint gn side j hm hj) h1
  -- loop 2 reads the instance as loop 1 left it
  obtain rfl : s1 = o1 := Option.some.inj (hs1r.symm.trans ho1)
  obtain ⟨gn1, gr1⟩ := loop1.sep.good r s1 hs1r
  obtain ⟨_, s2, _, e2, habs2⟩ := mergeAt_abs loop1.sep hs1r (!side) (s1.side (!side)).inv
    (fun j hj => gr1 j (mem_idsI_of_side (.inr hj))) (fun j hj hm => data_inv_disjoint gn1 (!side) j hm hj) h2
  refine ⟨s, hsr, ?_⟩
  have e3 : deref st1.heap (s1.side (!side)).inv = ((s1.abs st1.heap).side (!side)).inv := by rw [← abs_side]; rfl
  have e4 : deref st.heap (s.side side).inv = ((s.abs st.heap).side side).inv := by rw [← abs_side]; rfl
  rw [habs2, habs1, List.set_set, e2, e3, e1, e4, selfMerge_eq_mergeData]

theorem hUpdateFrom_abs {st st' : HState α} (hs : HSep st) (hw : AllWFm st.abs) {r r2 : Nat} {side side2 : Bool}
    (h : hUpdateFrom st r side r2 side2 = some st') :
    ∃ s o, st.regs[r]? = some s ∧ st.regs[r2]? = some o ∧
      st'.abs = st.abs.set r ((s.abs st.heap).updateFromReg (o.abs st.heap) (decide (r = r2)) side side2) := by
  by_cases hne : r = r2
  · subst hne
    obtain ⟨s, _, _, hsr, _⟩ := hUpdateFrom_some h
    refine ⟨s, s, hsr, hsr, ?_⟩
    have hg : st.abs[r]? = some (s.abs st.heap) := by rw [abs_getElem?, hsr]; rfl
    simp only [decide_true]
    by_cases es : side2 = side
    · subst es
      rw [M2M.updateFromReg_same, set_same hg]
      exact hUpdateFrom_self_same r side2 s hsr (hw _ (List.mem_of_getElem? hg)) h
    · obtain rfl : side2 = !side := Bool.eq_not_of_ne es
      obtain ⟨s', hsr', habs⟩ := hUpdateFrom_self_opp hs r side h
      obtain rfl : s = s' := Option.some.inj (hsr.symm.trans hsr')
      rw [M2M.updateFromReg_opp, habs]
  · obtain ⟨s, o, hsr, hor, habs⟩ := hUpdateFrom_other hs r side r2 side2 hne h
    refine ⟨s, o, hsr, hor, ?_⟩
    simp only [hne, decide_false, M2M.updateFromReg_other, habs]

/-- `hw` serves one case, `x.update(x)` (`hUpdateFrom_self_same`): the loop then reads the dict it writes, and leaves it as
    it is only when no key repeats; separation and every other case need `hs` alone -/
theorem hm2mCmd_sim {st st' : HState α} {c : M2MCmd α} {ret : Ret α} (hs : HSep st) (hw : AllWFm st.abs)
    (h : hm2mCmd st c = some (st', ret)) : m2mCmd st.abs c = some (st'.abs, ret) := by
  have hlen : st.abs.length = st.regs.length := by simp [HState.abs]
  cases c with
  | new ps =>
    obtain ⟨h1, rfl⟩ := hm2mCmd_some h
    obtain ⟨_, _, _, habs⟩ := stepAt_abs hs.push (push_getElem?_length st) (updatePairs_ref ps _ _) trivial h1
    simp only [m2mCmd, Option.some.injEq, Prod.mk.injEq, and_true]
    rw [habs, push_abs, ← hlen, set_append_length]
    rfl
  | newFrom r side =>
    obtain ⟨hr, h1, rfl⟩ := hm2mCmd_some h
    obtain ⟨s, o, hsr, hor, habs⟩ := hUpdateFrom_other hs.push st.regs.length false r side (by omega) h1
    obtain rfl : HInst.empty = s := Option.some.inj ((push_getElem?_length st).symm.trans hsr)
    rw [push_getElem?_lt st hr] at hor
    simp only [m2mCmd, abs_getElem?, hor, Option.map_some, Option.some.injEq, Prod.mk.injEq, and_true]
    rw [habs, push_abs, ← hlen, set_append_length]
    rfl
  | op r side op =>
    obtain ⟨s, hr, h1, rfl⟩ := hm2mCmd_some h
    obtain ⟨_, _, _, habs⟩ := stepAt_abs hs hr (sided_ref side (step_ref op st.heap (s.side side))) trivial h1
    have hret := step_ret op st.heap (s.side side)
    rw [abs_side] at hret
    obtain ⟨q1, q2⟩ := stepSide_eq (s.abs st.heap) side op
    simp only [m2mCmd, abs_getElem?, hr, Option.map_some, q1, q2, habs, hret]
  | updateFrom r side r2 side2 =>
    obtain ⟨h1, rfl⟩ := hm2mCmd_some h
    obtain ⟨s, o, hsr, hor, habs⟩ := hUpdateFrom_abs hs hw h1
    simp only [m2mCmd, abs_getElem?, hsr, hor, Option.map_some, habs]

theorem hm2mRun_sim {st st' : HState α} (cs : List (M2MCmd α)) (hs : HSep st) (hw : AllWFm st.abs)
    (h : hm2mRun st cs = some st') : m2mRun st.abs cs = some st'.abs := by
  induction cs generalizing st with
  | nil => simp only [hm2mRun, Option.some.injEq] at h; subst h; rfl
  | cons c cs ih =>
    obtain ⟨st1, ret, hc, h1⟩ := hm2mRun_cons h
    have := hm2mCmd_sim hs hw hc
    simp only [m2mRun, this]
    exact ih (hm2mCmd_sep hs hc).sep (m2mCmd_wf hw this) h1

theorem hm2mRun_wf {st st' : HState α} (cs : List (M2MCmd α)) (hs : HSep st) (hw : AllWFm st.abs)
    (h : hm2mRun st cs = some st') : AllWFm st'.abs :=
  m2mRun_wf cs hw (hm2mRun_sim cs hs hw h)

end steps
end C17
