import BoltonsVerif.C17.Args
import BoltonsVerif.C17.HeapProofs
/- C17 - the caller-level OneToOne and ManyToMany machines (`Args.lean`) against `Model.lean` / `Heap.lean`. -/
namespace C17
section argsp
variable {α : Type} [DecidableEq α]

/-- the witness is the lowered history: every argument materialised by the callee's one pass -/
theorem otoRunA_lower {st st' : OtoSt α} (cs : List (OtoCmdA α)) (h : otoRunA st cs = some st') :
    ∃ cs', otoRun st.regs cs' = some st'.regs := by
  induction cs generalizing st with
  | nil => simp only [otoRunA, Option.some.injEq] at h; subst h; exact ⟨[], rfl⟩
  | cons c cs ih =>
    simp only [otoRunA] at h
    cases hc : otoCmdA st c with
    | none => rw [hc] at h; simp at h
    | some p =>
      obtain ⟨st1, ret⟩ := p
      rw [hc] at h
      obtain ⟨cs', hcs'⟩ := ih h
      unfold otoCmdA at hc
      split at hc
      · next c' its hl =>
        simp only [Option.map_eq_some_iff, Prod.mk.injEq] at hc
        obtain ⟨q, hq, e1, _⟩ := hc
        subst e1
        refine ⟨c' :: cs', ?_⟩
        obtain ⟨q1, q2⟩ := q
        simp only [otoRun, hq]
        exact hcs'
      · next its hl =>
        simp only [Option.some.injEq, Prod.mk.injEq] at hc
        obtain ⟨e1, _⟩ := hc
        subst e1
        exact ⟨cs', hcs'⟩
      · simp at hc

/-- a held one-shot iterator gives to the first pass what it has left; a second pass over the same object gets
    nothing; no other iterator is touched -/
theorem takePairs_iter_one_shot (its its' : List (List (α × α))) (i : Nat) (ps : List (α × α))
    (h : takePairs its (.iter i) = some (ps, its')) :
    its[i]? = some ps ∧ its'[i]? = some [] ∧ (∀ j, j ≠ i → its'[j]? = its[j]?) ∧
    takePairs its' (.iter i) = some ([], its') := by
  simp only [takePairs, Option.map_eq_some_iff, Prod.mk.injEq] at h
  obtain ⟨rest, hr, rfl, rfl⟩ := h
  have hlt : i < its.length := getElem?_lt hr
  refine ⟨hr, by simp [hlt], fun j hj => by simp [Ne.symm hj], ?_⟩
  simp [takePairs, hlt]

theorem m2mRunA_eq (st : M2MSt α) (cs : List (M2MCmdA α)) :
    m2mRunA st cs = (lowerAll st.iters cs).bind fun p => (m2mRun st.regs p.1).map fun r => ⟨r, p.2⟩ := by
  induction cs generalizing st with
  | nil => rfl
  | cons c cs ih =>
    simp only [m2mRunA, m2mCmdA, lowerAll]
    cases hl : lowerM st.iters c with
    | none => rfl
    | some q =>
      obtain ⟨oc, its1⟩ := q
      cases oc with
      | none => simp only [ih, Option.bind_map, Function.comp_def]
      | some c' =>
        dsimp only
        cases hc : m2mCmd st.regs c' with
        | none =>
          cases lowerAll its1 cs with
          | none => rfl
          | some p => simp [m2mRun, hc]
        | some w => simp [ih, m2mRun, hc, Option.bind_map, Function.comp_def]

theorem hm2mRunA_eq (s : HM2MSt α) (cs : List (M2MCmdA α)) :
    hm2mRunA s cs = (lowerAll s.iters cs).bind fun p => (hm2mRun s.st p.1).map fun st => ⟨st, p.2⟩ := by
  induction cs generalizing s with
  | nil => rfl
  | cons c cs ih =>
    simp only [hm2mRunA, hm2mCmdA, lowerAll]
    cases hl : lowerM s.iters c with
    | none => rfl
    | some q =>
      obtain ⟨oc, its1⟩ := q
      cases oc with
      | none => simp only [ih, Option.bind_map, Function.comp_def]
      | some c' =>
        dsimp only
        cases hc : hm2mCmd s.st c' with
        | none =>
          cases lowerAll its1 cs with
          | none => rfl
          | some p => simp [hm2mRun, hc]
        | some w => simp [ih, hm2mRun, hc, Option.bind_map, Function.comp_def]

end argsp
end C17
