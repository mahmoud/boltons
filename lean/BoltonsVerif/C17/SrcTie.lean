/-
C17 — source tie for `boltons.dictutils.OneToOne` and for the translated methods of `ManyToMany`.  `Src.dictutils.OneToOne.*` are generated by
`harness/py2lean.py` from the current text of the class's methods on every run (raising mode; the object
and its `.inv` are ONE state record `OneToOne.St` with the two dicts `fwd` / `inv`, `St.swap` = the same
record seen from `.inv` — the convention of `C17/Model.lean`).  The theorems state that on every state
satisfying the model's invariant `OTO.WF` the generated method IS the hand model's function: same
exception class or return value, same two dicts afterwards (same order), and lift that to histories
(`src_oto_history_refines`), so that the invariant theorems of `Props.lean` hold of what the source
computes.  Outside `WF` (two dicts that are not inverse to each other) the source raises `KeyError` in the
middle of an update where the model's `erase` is silent: outside the tie (the self-test compares those
states with CPython).
-/
import BoltonsVerif.Generated.Src_dictutils
import BoltonsVerif.PyRtLemmas
import BoltonsVerif.C17.Props

namespace C17

open Src.dictutils

-- `Inhabited`: the generated state records initialise their locals with `default`
variable {α : Type} [DecidableEq α] [Inhabited α]

/-- a model object as the state record of the generated methods (the dicts are the same lists) -/
def concO (s : OTO α) : OneToOne.St α := { fwd := s.fwd, inv := s.inv }

omit [DecidableEq α] [Inhabited α] in
theorem swap_concO (s : OTO α) : OneToOne.St.swap (concO s) = concO s.flip := rfl

omit [Inhabited α] in
theorem find_eq_lookup {β : Type} (d : Dict α β) (k : α) : PyRt.Dict.find d k = lookup k d := by
  induction d with
  | nil => rfl
  | cons p d ih => obtain ⟨a, b⟩ := p; simp only [PyRt.Dict.find, lookup, ih]

omit [Inhabited α] in
theorem set_eq_put {β : Type} (d : Dict α β) (k : α) (v : β) : PyRt.Dict.set d k v = put k v d := by
  induction d with
  | nil => rfl
  | cons p d ih => obtain ⟨a, b⟩ := p; simp only [PyRt.Dict.set, put, ih]

omit [Inhabited α] in
theorem erase_eq_erase {β : Type} (d : Dict α β) (k : α) : PyRt.Dict.erase d k = erase k d := by
  induction d with
  | nil => rfl
  | cons p d ih =>
    obtain ⟨a, b⟩ := p
    unfold PyRt.Dict.erase at ih ⊢
    simp only [List.filter_cons, erase]
    by_cases h : a = k
    · simp [h, ih]
    · simp [h, ih]

omit [Inhabited α] in
theorem contains_eq_hasKey {β : Type} (d : Dict α β) (k : α) : PyRt.Dict.contains d k = hasKey k d := by
  simp [PyRt.Dict.contains, hasKey, find_eq_lookup]

omit [Inhabited α] in
theorem hasKey_iff_lookup {β : Type} (d : Dict α β) (k : α) : hasKey k d = true ↔ ∃ v, lookup k d = some v := by
  unfold hasKey
  cases lookup k d <;> simp

omit [Inhabited α] in
theorem get?_eq {β : Type} (d : Dict α β) (k : α) : PyRt.Dict.get? d k = match lookup k d with
    | some v => .ok v
    | none => .error PyExc.KeyError := by
  simp only [PyRt.Dict.get?, find_eq_lookup]
  cases lookup k d <;> rfl

omit [Inhabited α] in
theorem del?_eq {β : Type} (d : Dict α β) (k : α) : PyRt.Dict.del? d k =
    if hasKey k d then .ok (erase k d) else .error PyExc.KeyError := by
  simp only [PyRt.Dict.del?, contains_eq_hasKey, erase_eq_erase]

omit [Inhabited α] in
theorem pop?_eq {β : Type} (d : Dict α β) (k : α) : PyRt.Dict.pop? d k = match lookup k d with
    | some v => .ok (v, erase k d)
    | none => .error PyExc.KeyError := by
  simp only [PyRt.Dict.pop?, find_eq_lookup, erase_eq_erase]
  cases lookup k d <;> rfl

/-- a `Ret` of the model as the raising-mode result of a method returning `None` -/
def retUnit : Ret α → Except PyExc Unit
  | .err .KeyError => .error PyExc.KeyError
  | .err .ValueError => .error PyExc.ValueError
  | .err .TypeError => .error PyExc.TypeError
  | .err .FrozenHashError => .error PyExc.Other
  | _ => .ok ()

omit [Inhabited α] in
theorem hasKey_inv_of_fwd {s : OTO α} (w : s.WF) {k v : α} (h : lookup k s.fwd = some v) :
    hasKey v s.inv = true :=
  hasKey_of_lookup_some ((w.inverse k v).1 h)

theorem src_oto_delitem_eq_model (s : OTO α) (w : s.WF) (k : α) :
    OneToOne.delitem (concO s) k = (retUnit (s.delitem k).2, concO (s.delitem k).1) := by
  unfold OneToOne.delitem OneToOne.delitem.body OTO.delitem
  cases hl : lookup k s.fwd with
  | none => simp [concO, get?_eq, hl, retUnit]
  | some v =>
    have hi := hasKey_inv_of_fwd w hl
    have hk := hasKey_of_lookup_some hl
    simp [concO, get?_eq, del?_eq, hl, hi, hk, retUnit]

theorem src_oto_clear_eq_model (s : OTO α) : OneToOne.clear (concO s) = (.ok (), concO s.clear) := by
  simp [OneToOne.clear, OneToOne.clear.body, concO, OTO.clear]

def retVal : Ret α → Except PyExc α
  | .val v => .ok v
  | .err .KeyError => .error PyExc.KeyError
  | .err .ValueError => .error PyExc.ValueError
  | .err .TypeError => .error PyExc.TypeError
  | _ => .error PyExc.Other

theorem src_oto_pop_eq_model (s : OTO α) (w : s.WF) (k : α) (d : Option α) :
    OneToOne.pop (concO s) k d = (retVal (s.pop k d).2, concO (s.pop k d).1) := by
  unfold OneToOne.pop OneToOne.pop.body OTO.pop
  cases hl : lookup k s.fwd with
  | none =>
    have hk := hasKey_of_lookup_none hl
    cases d <;> simp [concO, contains_eq_hasKey, hk, retVal, PyRt.unwrap]
  | some v =>
    have hi := hasKey_inv_of_fwd w hl
    have hk := hasKey_of_lookup_some hl
    simp [concO, contains_eq_hasKey, get?_eq, del?_eq, pop?_eq, hl, hi, hk, retVal]

def retPair : Ret α → Except PyExc (α × α)
  | .pair k v => .ok (k, v)
  | .err .KeyError => .error PyExc.KeyError
  | _ => .error PyExc.Other

theorem src_oto_popitem_eq_model (s : OTO α) (w : s.WF) :
    OneToOne.popitem (concO s) = (retPair s.popitem.2, concO s.popitem.1) := by
  unfold OneToOne.popitem OneToOne.popitem.body OTO.popitem
  cases hl : s.fwd.getLast? with
  | none => simp [concO, PyRt.Dict.popitem?, hl, retPair]
  | some p =>
    obtain ⟨k, v⟩ := p
    have hi := hasKey_inv_of_fwd w (lookup_getLast s.fwd k v w.nf hl)
    simp [concO, PyRt.Dict.popitem?, hl, del?_eq, hi, retPair]

/-- `__delitem__` on ANY pair of dicts in which the key's value is a key of the other dict (the
    intermediate states of `__setitem__` are not `WF`) -/
theorem src_oto_delitem_raw (t : OTO α) (k v : α) (hl : lookup k t.fwd = some v) (hi : hasKey v t.inv = true) :
    OneToOne.delitem (concO t) k = (.ok (), concO ⟨erase k t.fwd, erase v t.inv⟩) := by
  unfold OneToOne.delitem OneToOne.delitem.body
  have hk := hasKey_of_lookup_some hl
  simp [concO, get?_eq, del?_eq, hl, hi, hk]

theorem src_oto_setitem_eq_model (s : OTO α) (w : s.WF) (k v : α) :
    OneToOne.setitem (concO s) k v = (.ok (), concO (s.setitem k v)) := by
  unfold OneToOne.setitem OneToOne.setitem.body OTO.setitem
  -- `k'`, the key the value `v` is stored under after step 1, is a key of the forward dict
  have hfwd : ∀ k', lookup v (s.dropOld k) = some k' → hasKey k' s.fwd = true := by
    intro k' hv
    have hinv : lookup v s.inv = some k' := by
      rw [OTO.dropOld_lookup] at hv
      by_cases hc : lookup k s.fwd = some v
      · simp [hc] at hv
      · simpa [hc] using hv
    exact hasKey_of_lookup_some ((w.inverse k' v).2 hinv)
  cases hl : lookup k s.fwd with
  | none =>
    -- `key` is new: step 1 (`if key in self: …`) does nothing
    have hk := hasKey_of_lookup_none hl
    have hdrop : s.dropOld k = s.inv := by simp [OTO.dropOld, hl]
    rw [hdrop] at hfwd ⊢
    cases hv : lookup v s.inv with
    | none =>
      have hkv := hasKey_of_lookup_none hv
      simp [concO, contains_eq_hasKey, hk, hkv, set_eq_put]
    | some k' =>
      have hkv := hasKey_of_lookup_some hv
      have hd := src_oto_delitem_raw (⟨s.inv, s.fwd⟩ : OTO α) v k' hv (hfwd k' hv)
      simp only [concO] at hd
      -- written to survive either shape of the source: `hd` serves an eviction made by the peer's own `__delitem__`,
      -- `get?_eq, del?_eq, hv, hfwd` the same two deletions written out as `dict.__delitem__` calls in place
      simp [concO, contains_eq_hasKey, hk, hkv, OneToOne.St.swap, hd, set_eq_put, get?_eq, del?_eq, hv, hfwd k' hv]
  | some v0 =>
    -- `key` had the value `v0`: step 1 removes `v0` from the inverse dict
    have hk := hasKey_of_lookup_some hl
    have hi := hasKey_inv_of_fwd w hl
    have hdrop : s.dropOld k = erase v0 s.inv := by simp [OTO.dropOld, hl]
    rw [hdrop] at hfwd ⊢
    cases hv : lookup v (erase v0 s.inv) with
    | none =>
      have hkv := hasKey_of_lookup_none hv
      simp [concO, contains_eq_hasKey, hk, get?_eq, del?_eq, hl, hi, hkv, set_eq_put]
    | some k' =>
      have hkv := hasKey_of_lookup_some hv
      have hd := src_oto_delitem_raw (⟨erase v0 s.inv, s.fwd⟩ : OTO α) v k' hv (hfwd k' hv)
      simp only [concO] at hd
      simp [concO, contains_eq_hasKey, hk, get?_eq, del?_eq, hl, hi, hkv, OneToOne.St.swap, hd, set_eq_put, hv,
        hfwd k' hv]

theorem src_oto_setdefault_eq_model (s : OTO α) (w : s.WF) (k d : α) :
    OneToOne.setdefault (concO s) k d = (retVal (s.setdefault k d).2, concO (s.setdefault k d).1) := by
  unfold OneToOne.setdefault OneToOne.setdefault.body OTO.setdefault
  cases hl : lookup k s.fwd with
  | some v =>
    have hk := hasKey_of_lookup_some hl
    simp [concO, contains_eq_hasKey, hk, get?_eq, hl, retVal]
  | none =>
    have hk := hasKey_of_lookup_none hl
    have hs := src_oto_setitem_eq_model s w k d
    simp only [concO] at hs
    simp only [concO, contains_eq_hasKey, hk, hs, get?_eq]
    cases lookup k (s.setitem k d).fwd <;> simp [retVal]

/-! `loop<n>` is the n-th `for` of the method, in continuation form: `loop<n> k kb kexc xs st` runs the rounds for `xs` from the
    state `st`, then `k` (`kb` after a `break`, `kexc` on an exception).  Each is met with `PyRt.for_loop`, the invariant over the
    items left stated on the spot. -/

theorem src_oto_update_pairs_eq_model (s : OTO α) (w : s.WF) (ps kw : List (α × α)) :
    OneToOne.update_pairs (concO s) ps kw = (.ok (), concO (s.update (ps ++ kw))) := by
  unfold OneToOne.update_pairs OneToOne.update_pairs.body
  -- the first two loops only call `hash(...)`: they keep `self`, `keys_vals` and `kw`
  refine PyRt.for_loop (OneToOne.update_pairs.loop1 _ _ _) (fun _ st => st.self = concO s ∧ st.loc1 = ps ∧ st.kw = kw) _
    (fun ⟨_, _⟩ _ _ h => ⟨_, rfl, h⟩) ?_ _ _ ⟨rfl, rfl, rfl⟩
  intro st1 h1
  refine PyRt.for_loop (OneToOne.update_pairs.loop2 _ _ _) (fun _ st => st.self = concO s ∧ st.loc1 = ps ∧ st.kw = kw) _
    (fun _ _ _ h => ⟨_, rfl, h⟩) ?_ _ _ h1
  intro st2 ⟨h2, h3, h4⟩
  -- the loop of `__setitem__` calls is the model's `update`: `self` is some `t` whose `update` with the items left is the end state.
  -- The state record is left to unification: the proof does not name its `loc<k>` fields
  refine PyRt.for_loop (OneToOne.update_pairs.loop3 _ _ _)
    (fun xs st => ∃ t : OTO α, st.self = concO t ∧ t.WF ∧ t.update xs = s.update (ps ++ kw)) _ ?_ ?_ _ _
    ⟨s, h2, w, by rw [h3, h4, PyRt.Dict.items_eq]⟩
  · intro ⟨a, b⟩ xs st ⟨t, ht, wt, e⟩
    simp only [OneToOne.update_pairs.loop3, ht, src_oto_setitem_eq_model t wt a b]
    exact ⟨_, rfl, t.setitem a b, rfl, wt.setitem a b, e⟩
  · intro st3 ⟨t, ht, _, e⟩
    simp only [OneToOne.update_pairs.loop3, ht, ← e]; rfl

theorem src_oto_update_dict_eq_model (s : OTO α) (w : s.WF) (d kw : List (α × α)) :
    OneToOne.update_dict (concO s) d kw = (.ok (), concO (s.update (d ++ kw))) := by
  unfold OneToOne.update_dict OneToOne.update_dict.body
  -- the loop over the dict's values (a `hash(...)` each) sets `keys_vals` to the dict's items in every round: afterwards it
  -- holds them, or is still empty and so was the dict
  refine PyRt.for_loop (OneToOne.update_dict.loop1 _ _ _) (fun vs st => st.self = concO s ∧ st.kw = kw ∧
      st.dict_or_iterable = d ∧ (st.loc1 = d ∨ (st.loc1 = [] ∧ vs.length = d.length))) _
    (fun _ _ _ ⟨hself, hkw, hd, _⟩ => ⟨_, rfl, hself, hkw, hd, Or.inl (by simp only [hd, PyRt.Dict.items_eq])⟩) ?_ _ _
    ⟨rfl, rfl, rfl, Or.inr ⟨rfl, by simp [PyRt.Dict.values]⟩⟩
  intro st1 ⟨h1, h2, _, h3⟩
  have h3 : st1.loc1 = d := h3.elim id (fun ⟨h, e⟩ => by rw [h, List.eq_nil_of_length_eq_zero e.symm])
  refine PyRt.for_loop (OneToOne.update_dict.loop2 _ _ _) (fun _ st => st.self = concO s ∧ st.loc1 = d ∧ st.kw = kw) _
    (fun _ _ _ h => ⟨_, rfl, h⟩) ?_ _ _ ⟨h1, h3, h2⟩
  intro st2 ⟨h2, h3, h4⟩
  refine PyRt.for_loop (OneToOne.update_dict.loop3 _ _ _)
    (fun xs st => ∃ t : OTO α, st.self = concO t ∧ t.WF ∧ t.update xs = s.update (d ++ kw)) _ ?_ ?_ _ _
    ⟨s, h2, w, by rw [h3, h4, PyRt.Dict.items_eq]⟩
  · intro ⟨a, b⟩ xs st ⟨t, ht, wt, e⟩
    simp only [OneToOne.update_dict.loop3, ht, src_oto_setitem_eq_model t wt a b]
    exact ⟨_, rfl, t.setitem a b, rfl, wt.setitem a b, e⟩
  · intro st3 ⟨t, ht, _, e⟩
    simp only [OneToOne.update_dict.loop3, ht, ← e]; rfl

/-- only whether (and which) exception a call raised -/
def raisedOf {β : Type} (r : Except PyExc β × OneToOne.St α) : Option PyExc × OneToOne.St α :=
  (match r.1 with | .ok _ => none | .error e => some e, r.2)

def errOf : Ret α → Option PyExc
  | .err .KeyError => some PyExc.KeyError
  | .err .ValueError => some PyExc.ValueError
  | .err .TypeError => some PyExc.TypeError
  | .err .FrozenHashError => some PyExc.Other
  | _ => none

/-- one mutating call, as the generated definitions run it (`popitemAs` is a device of the model's
    correspondence, not a call of the class: it is run as `popitem`) -/
def srcOtoStep (st : OneToOne.St α) : OtoOp α → Option PyExc × OneToOne.St α
  | .setitem k v => raisedOf (OneToOne.setitem st k v)
  | .delitem k => raisedOf (OneToOne.delitem st k)
  | .update ps => raisedOf (OneToOne.update_pairs st ps [])
  | .setdefault k d => raisedOf (OneToOne.setdefault st k d)
  | .pop k d => raisedOf (OneToOne.pop st k d)
  | .popitem => raisedOf (OneToOne.popitem st)
  | .popitemAs _ _ => raisedOf (OneToOne.popitem st)
  | .clear => raisedOf (OneToOne.clear st)

def srcOtoStepSide (st : OneToOne.St α) (side : Bool) (op : OtoOp α) : Option PyExc × OneToOne.St α :=
  if side then ((srcOtoStep (OneToOne.St.swap st) op).1, OneToOne.St.swap (srcOtoStep (OneToOne.St.swap st) op).2)
  else srcOtoStep st op

def IsCall : OtoOp α → Prop
  | .popitemAs _ _ => False
  | _ => True

theorem src_oto_step_eq_model (s : OTO α) (w : s.WF) (op : OtoOp α) (hc : IsCall op) :
    srcOtoStep (concO s) op = (errOf (s.step op).2, concO (s.step op).1) := by
  cases op with
  | setitem k v => simp [srcOtoStep, raisedOf, src_oto_setitem_eq_model s w, OTO.step, errOf]
  | delitem k =>
    simp only [srcOtoStep, raisedOf, src_oto_delitem_eq_model s w, OTO.step]
    unfold OTO.delitem
    cases lookup k s.fwd <;> simp [retUnit, errOf]
  | update ps =>
    have := src_oto_update_pairs_eq_model s w ps []
    simp only [List.append_nil] at this
    simp [srcOtoStep, raisedOf, this, OTO.step, errOf]
  | setdefault k d =>
    simp only [srcOtoStep, raisedOf, src_oto_setdefault_eq_model s w, OTO.step]
    unfold OTO.setdefault
    cases lookup k s.fwd with
    | some v => simp [retVal, errOf]
    | none =>
      simp only
      cases lookup k (s.setitem k d).fwd <;> simp [retVal, errOf]
  | pop k d =>
    simp only [srcOtoStep, raisedOf, src_oto_pop_eq_model s w, OTO.step]
    unfold OTO.pop
    cases lookup k s.fwd with
    | some v => simp [retVal, errOf]
    | none => cases d <;> simp [retVal, errOf]
  | popitem =>
    simp only [srcOtoStep, raisedOf, src_oto_popitem_eq_model s w, OTO.step]
    unfold OTO.popitem
    cases s.fwd.getLast? with
    | none => simp [retPair, errOf]
    | some p => obtain ⟨a, b⟩ := p; simp [retPair, errOf]
  | popitemAs k v => exact absurd hc (by simp [IsCall])
  | clear => simp [srcOtoStep, raisedOf, src_oto_clear_eq_model, OTO.step, errOf]

theorem src_oto_stepSide_eq_model (s : OTO α) (w : s.WF) (side : Bool) (op : OtoOp α) (hc : IsCall op) :
    srcOtoStepSide (concO s) side op = (errOf (s.stepSide side op).2, concO (s.stepSide side op).1) := by
  unfold srcOtoStepSide OTO.stepSide
  cases side with
  | false => simpa using src_oto_step_eq_model s w op hc
  | true =>
    simp only [if_true, swap_concO, src_oto_step_eq_model s.flip w.flip op hc]

/-- a history of calls on the object and on its `.inv`; a call that raises leaves the object as it is and
    the history goes on (as a program that catches the `KeyError` would) -/
def srcOtoRun (st : OneToOne.St α) (ops : List (Bool × OtoOp α)) : OneToOne.St α :=
  ops.foldl (fun st o => (srcOtoStepSide st o.1 o.2).2) st

def otoModelRun (s : OTO α) (ops : List (Bool × OtoOp α)) : OTO α :=
  ops.foldl (fun s o => (s.stepSide o.1 o.2).1) s

theorem src_oto_history_refines (s : OTO α) (w : s.WF) (ops : List (Bool × OtoOp α))
    (hc : ∀ o ∈ ops, IsCall o.2) :
    srcOtoRun (concO s) ops = concO (otoModelRun s ops) ∧ (otoModelRun s ops).WF :=
  foldl_sim (conc := concO) (W := OTO.WF) ops
    (fun s o ho w => ⟨congrArg Prod.snd (src_oto_stepSide_eq_model s w o.1 o.2 (hc o ho)), w.stepSide o.1 o.2⟩) w

/-- hence the C17 invariant holds of what the SOURCE computes: after any history of calls on a fresh object
    (through either side) the two generated dicts have pairwise different keys and are exact inverses -/
theorem src_oto_invariant (ops : List (Bool × OtoOp α)) (hc : ∀ o ∈ ops, IsCall o.2) :
    let st := srcOtoRun (concO (OTO.empty : OTO α)) ops
    PyRt.Dict.WF st.fwd ∧ PyRt.Dict.WF st.inv ∧
      ∀ k v, PyRt.Dict.find st.fwd k = some v ↔ PyRt.Dict.find st.inv v = some k := by
  obtain ⟨h1, h2⟩ := src_oto_history_refines (OTO.empty : OTO α) OTO.WF.empty ops hc
  intro st
  have hst : st = concO (otoModelRun OTO.empty ops) := h1
  rw [hst]
  simp only [concO, find_eq_lookup]
  exact ⟨h2.nf, h2.ni, h2.inverse⟩

example : (srcOtoRun (concO (OTO.empty : OTO Nat))
    [(false, .setitem 1 10), (false, .setitem 2 20), (true, .setitem 20 1), (false, .delitem 7)]) =
    { fwd := [(1, 20)], inv := [(20, 1)] } := by rfl

example : (OneToOne.pop ({ fwd := [(1, 10)], inv := [(10, 1)] } : OneToOne.St Nat) 5 none).1
    = .error PyExc.KeyError := by rfl

/-- outside `WF` the source raises where the model is silent: a forward entry without its inverse entry -/
example : (OneToOne.delitem ({ fwd := [(1, 10)], inv := [] } : OneToOne.St Nat) 1).1
    = .error PyExc.KeyError := by rfl

example : (OTO.empty : OTO Nat).WF := OTO.WF.empty

/-! ManyToMany: `add`, `remove`, the readers, `update` of pairs / of a dict
    (the methods that iterate over a set are not translated: Python leaves the order open) -/

/-- a model set (duplicate-free list) as a `PyRt.Set` -/
def mkSet (l : List α) : PyRt.Set α := l

def setDict (d : Dict α (List α)) : PyRt.Dict α (PyRt.Set α) := d.map (fun p => (p.1, mkSet p.2))

def concM (s : M2M α) : ManyToMany.St α := { data := setDict s.data, inv_data := setDict s.inv }

omit [DecidableEq α] [Inhabited α] in
theorem setEmpty_eq : (PyRt.Set.empty : PyRt.Set α) = mkSet [] := rfl

omit [Inhabited α] in
theorem setAdd_eq (vs : List α) (v : α) : PyRt.Set.add (mkSet vs) v = mkSet (insertSet v vs) := by
  unfold PyRt.Set.add insertSet PyRt.Set.toList mkSet
  by_cases h : v ∈ vs <;> simp [h] <;> rfl

omit [Inhabited α] in
theorem setDiscard_eq (vs : List α) (v : α) : PyRt.Set.discard (mkSet vs) v = mkSet (removeElem v vs) := by
  unfold PyRt.Set.discard removeElem PyRt.Set.toList mkSet
  show List.filter _ vs = List.filter _ vs
  congr 1

omit [Inhabited α] in
theorem setRemove?_eq (vs : List α) (v : α) : PyRt.Set.remove? (mkSet vs) v =
    if v ∈ vs then .ok (mkSet (removeElem v vs)) else .error PyExc.KeyError := by
  unfold PyRt.Set.remove?
  rw [setDiscard_eq]
  rfl

omit [DecidableEq α] [Inhabited α] in
theorem setIsEmpty_eq (vs : List α) : PyRt.Set.isEmpty (mkSet vs) = decide (vs = []) := by
  unfold PyRt.Set.isEmpty PyRt.Set.toList mkSet
  cases vs <;> simp

omit [Inhabited α] in
theorem lookup_setDict (d : Dict α (List α)) (k : α) : lookup k (setDict d) = (lookup k d).map mkSet :=
  lookup_mapVal mkSet k d

omit [Inhabited α] in
theorem put_setDict (d : Dict α (List α)) (k : α) (vs : List α) :
    put k (mkSet vs) (setDict d) = setDict (put k vs d) :=
  put_mapVal mkSet k vs d

omit [Inhabited α] in
theorem erase_setDict (d : Dict α (List α)) (k : α) : erase k (setDict d) = setDict (erase k d) :=
  erase_mapVal mkSet k d

omit [Inhabited α] in
theorem hasKey_setDict (d : Dict α (List α)) (k : α) : hasKey k (setDict d) = hasKey k d :=
  hasKey_mapVal mkSet k d

omit [DecidableEq α] [Inhabited α] in
theorem length_setDict (d : Dict α (List α)) : (setDict d).length = d.length := by simp [setDict]

omit [Inhabited α] in
/-- `if k not in d: d[k] = set()` ; `d[k].add(v)`  is the model's `addTo` -/
theorem addTo_src (d : Dict α (List α)) (k v : α) :
    (match lookup k d with
      | some vs => put k (insertSet v vs) d
      | none => put k (insertSet v []) (put k [] d)) = addTo k v d := by
  unfold addTo getSet
  cases h : lookup k d with
  | some vs => simp
  | none => simp [put_put]

theorem src_m2m_add_eq_model (s : M2M α) (k v : α) :
    ManyToMany.add (concM s) k v = (.ok (), concM (s.add k v)) := by
  unfold ManyToMany.add ManyToMany.add.body M2M.add
  have h1 := addTo_src s.data k v
  have h2 := addTo_src s.inv v k
  cases hd : lookup k s.data <;> cases hi : lookup v s.inv <;>
    simp only [hd, hi] at h1 h2 <;>
    simp [concM, contains_eq_hasKey, hasKey_setDict, hasKey, get?_eq, set_eq_put, setEmpty_eq, put_setDict,
      lookup_setDict, lookup_put_same, setAdd_eq, hd, hi, ← h1, ← h2]

omit [Inhabited α] in
/-- `d[k].remove(v)` ; `if not d[k]: del d[k]`  is the model's `removeFrom` (for a present key) -/
theorem removeFrom_src (d : Dict α (List α)) (k v : α) (vs : List α) (h : lookup k d = some vs) :
    (if removeElem v vs = [] then erase k (put k (removeElem v vs) d) else put k (removeElem v vs) d)
      = removeFrom k v d := by
  rw [removeFrom, getSet_of_lookup h, erase_put_same]

theorem src_m2m_remove_eq_model (s : M2M α) (w : s.WF) (k v : α) :
    ManyToMany.remove (concM s) k v = (retUnit (s.remove k v).2, concM (s.remove k v).1) := by
  unfold ManyToMany.remove ManyToMany.remove.body M2M.remove M2M.removeRaw
  cases hd : lookup k s.data with
  | none =>
    have : getSet k s.data = [] := by simp [getSet, hd]
    simp [concM, get?_eq, lookup_setDict, hd, this, retUnit]
  | some vs =>
    have hg : getSet k s.data = vs := getSet_of_lookup hd
    by_cases hv : v ∈ vs
    · -- the pair is there: by the invariant `key` is in the inverse set of `val`
      have hk : k ∈ getSet v s.inv := (w.transpose k v).1 (by rw [hg]; exact hv)
      cases hi : lookup v s.inv with
      | none => simp [getSet, hi] at hk
      | some ws =>
        have hgi : getSet v s.inv = ws := getSet_of_lookup hi
        rw [hgi] at hk
        have e1 := removeFrom_src s.data k v vs hd
        have e2 := removeFrom_src s.inv v k ws hi
        by_cases hev : removeElem v vs = [] <;> by_cases hek : removeElem k ws = [] <;>
          simp only [hev, hek, if_true, if_false] at e1 e2 <;>
          simp [concM, get?_eq, del?_eq, lookup_setDict, hd, hi, hg, hv, hk, setRemove?_eq, set_eq_put, put_setDict,
            lookup_put_same, setIsEmpty_eq, hev, hek, hasKey_setDict, hasKey_put_self, erase_setDict, retUnit,
            ← e1, ← e2]
    · simp [concM, get?_eq, lookup_setDict, hd, hg, hv, setRemove?_eq, retUnit]

theorem src_m2m_getitem_eq_model (s : M2M α) (k : α) :
    ManyToMany.getitem (concM s) k = match lookup k s.data with
      | some vs => .ok (mkSet vs)
      | none => .error PyExc.KeyError := by
  unfold ManyToMany.getitem ManyToMany.getitem.body
  cases h : lookup k s.data <;> simp [concM, get?_eq, lookup_setDict, h]

theorem src_m2m_get_eq_model (s : M2M α) (k : α) (d : List α) :
    ManyToMany.get (concM s) k (mkSet d) = .ok (mkSet ((lookup k s.data).getD d)) := by
  unfold ManyToMany.get ManyToMany.get.body
  rw [src_m2m_getitem_eq_model]
  cases h : lookup k s.data <;> simp

theorem src_m2m_contains_eq_model (s : M2M α) (k : α) :
    ManyToMany.contains (concM s) k = .ok (hasKey k s.data) := by
  unfold ManyToMany.contains ManyToMany.contains.body
  simp [concM, contains_eq_hasKey, hasKey_setDict]

theorem src_m2m_len_eq_model (s : M2M α) : ManyToMany.len (concM s) = .ok (s.data.length : Int) := by
  unfold ManyToMany.len ManyToMany.len.body
  simp [concM, PyRt.Dict.len, length_setDict]

theorem src_m2m_update_pairs_eq_model (s : M2M α) (ps : List (α × α)) :
    ManyToMany.update_pairs (concM s) ps = (.ok (), concM (s.updatePairs ps)) := by
  unfold ManyToMany.update_pairs ManyToMany.update_pairs.body
  refine PyRt.for_loop (ManyToMany.update_pairs.loop1 _ _ _)
    (fun xs st => ∃ t : M2M α, st.self = concM t ∧ t.updatePairs xs = s.updatePairs ps) _ ?_ ?_ _ _ ⟨s, rfl, rfl⟩
  · intro ⟨a, b⟩ xs st ⟨t, ht, e⟩
    simp only [ManyToMany.update_pairs.loop1, ht, src_m2m_add_eq_model]
    exact ⟨_, rfl, t.add a b, rfl, e⟩
  · intro st' ⟨t, ht, e⟩
    simp only [ManyToMany.update_pairs.loop1, ht, ← e]; rfl

/-- a mapping with `keys()`: one `add(k, d[k])` per key, in dict order -/
theorem src_m2m_update_dict_eq_model (s : M2M α) (d : Dict α α) (hd : NodupKeys d) :
    ManyToMany.update_dict (concM s) d = (.ok (), concM (s.updatePairs d)) := by
  unfold ManyToMany.update_dict ManyToMany.update_dict.body
  -- the loop over `keys()`, read as a loop over the items whose keys they are: `iterable[k]` finds each item's value
  refine PyRt.for_loop (fun ps => ManyToMany.update_dict.loop1 _ _ _ (ps.map (·.1)))
    (fun xs st => (∀ p ∈ xs, lookup p.1 d = some p.2) ∧ st.iterable = d ∧
      ∃ t : M2M α, st.self = concM t ∧ t.updatePairs xs = s.updatePairs d) _ ?_ ?_ d _ ?_
  · intro ⟨a, b⟩ xs st ⟨hl, hi, t, ht, e⟩
    simp only [List.map_cons, ManyToMany.update_dict.loop1, get?_eq, hi, hl (a, b) (by simp), ht, src_m2m_add_eq_model]
    exact ⟨_, rfl, fun p hp => hl p (List.mem_cons_of_mem _ hp), rfl, t.add a b, rfl, e⟩
  · intro st' ⟨_, _, t, ht, e⟩
    simp only [List.map_nil, ManyToMany.update_dict.loop1, ht, ← e]; rfl
  · exact ⟨fun p hp => (mem_iff_lookup _ hd _ _).1 hp, rfl, s, rfl, rfl⟩

def raisedOfM {β : Type} (r : Except PyExc β × ManyToMany.St α) : Option PyExc × ManyToMany.St α :=
  (match r.1 with | .ok _ => none | .error e => some e, r.2)

/-- the mutators whose source is translated (`__setitem__`, `__delitem__`, `replace` iterate over sets) -/
def IsTranslated : M2MOp α → Prop
  | .add _ _ | .remove _ _ | .update _ => True
  | _ => False

def srcM2MStep (st : ManyToMany.St α) : M2MOp α → Option PyExc × ManyToMany.St α
  | .add k v => raisedOfM (ManyToMany.add st k v)
  | .remove k v => raisedOfM (ManyToMany.remove st k v)
  | .update ps => raisedOfM (ManyToMany.update_pairs st ps)
  | _ => (some PyExc.Other, st)

theorem src_m2m_step_eq_model (s : M2M α) (w : s.WF) (op : M2MOp α) (ht : IsTranslated op) :
    srcM2MStep (concM s) op = (errOf (s.step op).2, concM (s.step op).1) := by
  cases op with
  | add k v => simp [srcM2MStep, raisedOfM, src_m2m_add_eq_model, M2M.step, errOf]
  | remove k v =>
    simp only [srcM2MStep, raisedOfM, src_m2m_remove_eq_model s w, M2M.step]
    unfold M2M.remove
    by_cases h : v ∈ getSet k s.data <;> simp [h, retUnit, errOf]
  | update ps => simp [srcM2MStep, raisedOfM, src_m2m_update_pairs_eq_model, M2M.step, errOf]
  | setitem k vals => exact absurd ht (by simp [IsTranslated])
  | delitem k => exact absurd ht (by simp [IsTranslated])
  | replace k nk => exact absurd ht (by simp [IsTranslated])

def srcM2MRun (st : ManyToMany.St α) (ops : List (M2MOp α)) : ManyToMany.St α :=
  ops.foldl (fun st o => (srcM2MStep st o).2) st

def m2mModelRun (s : M2M α) (ops : List (M2MOp α)) : M2M α := ops.foldl (fun s o => (s.step o).1) s

theorem src_m2m_history_refines (s : M2M α) (w : s.WF) (ops : List (M2MOp α)) (ht : ∀ o ∈ ops, IsTranslated o) :
    srcM2MRun (concM s) ops = concM (m2mModelRun s ops) ∧ (m2mModelRun s ops).WF :=
  foldl_sim (conc := concM) (W := M2M.WF) ops
    (fun s o ho w => ⟨congrArg Prod.snd (src_m2m_step_eq_model s w o (ht o ho)), w.step o⟩) w

/-- hence, after any such history on a fresh object, the two generated dicts are transposes of each other:
    `val` is in the set stored for `key` exactly when `key` is in the inverse dict's set for `val` -/
theorem src_m2m_transposed (ops : List (M2MOp α)) (ht : ∀ o ∈ ops, IsTranslated o) (k v : α) :
    (∃ vs, lookup k (srcM2MRun (concM (M2M.empty : M2M α)) ops).data = some (mkSet vs) ∧ v ∈ vs) ↔
    (∃ ks, lookup v (srcM2MRun (concM (M2M.empty : M2M α)) ops).inv_data = some (mkSet ks) ∧ k ∈ ks) := by
  obtain ⟨h1, h2⟩ := src_m2m_history_refines (M2M.empty : M2M α) M2M.WF.empty ops ht
  rw [h1]
  have ht := h2.transpose k v
  rw [mem_getSet_iff, mem_getSet_iff] at ht
  simp only [concM, lookup_setDict, Option.map_eq_some_iff]
  -- `mkSet` is the identity on lists
  exact ⟨fun ⟨vs, ⟨ws, hl, e⟩, hv⟩ => (ht.1 ⟨ws, hl, (show ws = vs from e) ▸ hv⟩).imp fun ks ⟨hk, hm⟩ => ⟨⟨ks, hk, rfl⟩, hm⟩,
    fun ⟨ks, ⟨ws, hl, e⟩, hk⟩ => (ht.2 ⟨ws, hl, (show ws = ks from e) ▸ hk⟩).imp fun vs ⟨hv, hm⟩ => ⟨⟨vs, hv, rfl⟩, hm⟩⟩

example : (srcM2MRun (concM (M2M.empty : M2M Nat)) [.add 1 10, .add 1 11, .add 2 10, .remove 1 10, .remove 5 5]) =
    { data := setDict [(1, [11]), (2, [10])], inv_data := setDict [(10, [2]), (11, [1])] } := by rfl

example : (ManyToMany.remove (concM (M2M.empty : M2M Nat)) 1 2).1 = .error PyExc.KeyError := by rfl

end C17
