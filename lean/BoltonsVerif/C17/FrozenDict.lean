import BoltonsVerif.C17.Proofs
/-
C17 — FrozenDict: the hash does not depend on the order of the items (`canon_perm`, `dictEq_perm`), every mutator is
blocked, the `_hash` cache invariant, and the states reachable by any history (constructor, fromkeys, updated,
pickle/deepcopy rebuild, hash() calls, mutator attempts).
-/
namespace C17

theorem pairLe_iff (a b : Nat × Nat) : pairLe a b = true ↔ a.1 < b.1 ∨ (a.1 = b.1 ∧ a.2 ≤ b.2) := by
  simp [pairLe]

theorem pairLe_total (a b : Nat × Nat) : pairLe a b = true ∨ pairLe b a = true := by
  rw [pairLe_iff, pairLe_iff]; omega

theorem pairLe_antisymm (a b : Nat × Nat) (h1 : pairLe a b = true) (h2 : pairLe b a = true) : a = b := by
  rw [pairLe_iff] at h1 h2; apply Prod.ext <;> omega

theorem pairLe_trans (a b c : Nat × Nat) (h1 : pairLe a b = true) (h2 : pairLe b c = true) : pairLe a c = true := by
  rw [pairLe_iff] at *; omega

theorem insSorted_comm (x y : Nat × Nat) (c : List (Nat × Nat)) :
    insSorted x (insSorted y c) = insSorted y (insSorted x c) := by
  induction c with
  | nil =>
    simp only [insSorted]
    have := pairLe_total x y
    have := pairLe_antisymm x y
    grind
  | cons z c ih =>
    have := pairLe_total x y
    have := pairLe_antisymm x y
    have := pairLe_trans x y z
    have := pairLe_trans y x z
    simp only [insSorted]
    grind [insSorted]

theorem canon_perm (l₁ l₂ : List (Nat × Nat)) (h : l₁.Perm l₂) : canon l₁ = canon l₂ := by
  induction h with
  | nil => rfl
  | cons x _ ih => simp only [canon, List.foldr_cons] at ih ⊢; rw [ih]
  | swap x y l => simp only [canon, List.foldr_cons]; exact insSorted_comm y x _
  | trans _ _ ih1 ih2 => exact ih1.trans ih2

theorem dictEq_perm (a b : Dict Nat FVal) (ha : NodupKeys a) (hb : NodupKeys b) (h : dictEq a b = true) :
    a.Perm b := by
  simp only [dictEq, Bool.and_eq_true, beq_iff_eq, List.all_eq_true] at h
  obtain ⟨hlen, hall⟩ := h
  have hs : ∀ p ∈ a, p ∈ b := by
    intro p hp
    have := hall p hp
    exact (mem_iff_lookup b hb p.1 p.2).2 this
  have hna := nodup_of_nodup_map Prod.fst a ha
  have hnb := nodup_of_nodup_map Prod.fst b hb
  rw [List.perm_ext_iff_of_nodup hna hnb]
  intro p
  exact ⟨hs p, subset_of_nodup_length a b hna hs (by omega) p⟩

/-- `none = none` covers the case that both raise FrozenHashError -/
theorem hashOfIn_eq_of_dictEq (ρ : Nat → Nat) (a b : Dict Nat FVal) (ha : NodupKeys a) (hb : NodupKeys b)
    (h : dictEq a b = true) : hashOfIn ρ a = hashOfIn ρ b := by
  have hp := dictEq_perm a b ha hb h
  unfold hashOfIn
  rw [hp.all_eq, canon_perm _ _ (hp.map _)]

/-- `hash(fd)` is the hash in the interpreter whose atoms hash as themselves -/
theorem hashOf_eq_hashOfIn (d : Dict Nat FVal) : hashOf d = hashOfIn id d := rfl

theorem FD.hash_eq_hashIn (s : FD) : s.hash = s.hashIn id := rfl

theorem hashOf_eq_of_dictEq (a b : Dict Nat FVal) (ha : NodupKeys a) (hb : NodupKeys b)
    (h : dictEq a b = true) : hashOf a = hashOf b := by
  rw [hashOf_eq_hashOfIn, hashOf_eq_hashOfIn]
  exact hashOfIn_eq_of_dictEq id a b ha hb h

theorem hashOf_none_iff (d : Dict Nat FVal) : hashOf d = none ↔ ∃ p ∈ d, p.2.hashable = false := by
  have h : (d.all fun p => p.2.hashable) = false ↔ ∃ p ∈ d, p.2.hashable = false := by
    rw [List.all_eq_false]; simp only [Bool.not_eq_true]
  rw [← h]
  unfold hashOf
  cases d.all fun p => p.2.hashable <;> simp

theorem dictEq_refl (d : Dict Nat FVal) (h : NodupKeys d) : dictEq d d = true := by
  simp only [dictEq, Bool.and_eq_true, beq_iff_eq, List.all_eq_true, true_and]
  intro p hp
  exact (mem_iff_lookup d h p.1 p.2).1 hp

theorem dictEq_reverse (d : Dict Nat FVal) (h : NodupKeys d) : dictEq d d.reverse = true := by
  simp only [dictEq, List.length_reverse, beq_self_eq_true, Bool.true_and, List.all_eq_true, beq_iff_eq]
  intro p hp
  exact (mem_iff_lookup _ (nodupKeys_reverse d h) p.1 p.2).1 (List.mem_reverse.2 hp)

theorem FD.ofPairs_nodup (ps : List (Nat × FVal)) : NodupKeys (FD.ofPairs ps).items :=
  nodupKeys_putAll _ _ nodupKeys_nil

theorem FD.ofPairs_items_of_nodup (d : Dict Nat FVal) (h : NodupKeys d) : (FD.ofPairs d).items = d := by
  have := putAll_of_nodup ([] : Dict Nat FVal) d (by simpa using h)
  simpa [FD.ofPairs] using this

theorem FD.rebuild_items (s : FD) (h : NodupKeys s.items) : s.rebuild.items = s.items :=
  FD.ofPairs_items_of_nodup s.items h

theorem FD.rebuild_nodup (s : FD) : NodupKeys s.rebuild.items := FD.ofPairs_nodup _

theorem FD.rebuild_cache (s : FD) : s.rebuild.cache = none := rfl

theorem frozenErr_eq : frozenErr = some .TypeError := by decide

theorem blocked_all : ∀ n ∈ dictMutators, Generated.frozenBlocked.contains n = true := by decide +kernel

theorem Mut.name_mem (m : Mut) : m.name ∈ dictMutators := by
  cases m <;> simp only [Mut.name, dictMutators, List.mem_cons, true_or, or_true]

/-- for the blocked set regenerated from the source; `blocked_all` re-checks it on every run -/
theorem FD.mutate_blocked (s : FD) (m : Mut) : s.mutate m = (s, .err .TypeError) := by
  unfold FD.mutate
  rw [if_pos (blocked_all _ (Mut.name_mem m)), frozenErr_eq]

def FD.CacheOk (s : FD) : Prop := s.cache = none ∨ s.cache = some (hashOf s.items)

theorem FD.hash_items (s : FD) : s.hash.1.items = s.items := by
  unfold FD.hash; split <;> rfl

theorem FD.hash_cacheOk (s : FD) (h : s.CacheOk) : s.hash.1.CacheOk := by
  unfold FD.hash
  split
  · exact h
  · exact Or.inr rfl

theorem FD.hash_of_cacheOk (s : FD) (h : s.CacheOk) : s.hash.2 = hashOf s.items := by
  unfold FD.hash
  rcases h with h | h <;> simp [h]

theorem FD.step_items (s : FD) (op : FdOp) : (s.step op).items = s.items := by
  cases op with
  | mutate m => simp [FD.step, FD.mutate_blocked]
  | hash => exact FD.hash_items s

theorem FD.run_items (s : FD) (ops : List FdOp) : (s.run ops).items = s.items :=
  List.foldlRecOn (motive := fun t : FD => t.items = s.items) ops _ rfl fun t e op _ => (FD.step_items t op).trans e

theorem FD.hashIn_items (ρ : Nat → Nat) (s : FD) : (s.hashIn ρ).1.items = s.items := by
  unfold FD.hashIn; split <;> rfl

theorem FD.hashIn_fresh (ρ : Nat → Nat) (s : FD) (h : s.cache = none) : (s.hashIn ρ).2 = hashOfIn ρ s.items := by
  unfold FD.hashIn; rw [h]

theorem FD.hashIn_idem (ρ : Nat → Nat) (s : FD) : ((s.hashIn ρ).1.hashIn ρ).1 = (s.hashIn ρ).1 := by
  unfold FD.hashIn
  cases hc : s.cache <;> simp [hc]

/-- what a program can get hold of: `FrozenDict(pairs)`, `fromkeys`, `updated(...)` of a reachable one,
    a pickle / deepcopy clone, and any of these after `hash()` calls and mutator attempts
    (`copy.copy(fd)` is `fd` itself) -/
inductive FD.Reach : FD → Prop where
  | ofPairs (ps : List (Nat × FVal)) : FD.Reach (FD.ofPairs ps)
  | fromkeys (ks : List Nat) (v : FVal) : FD.Reach (FD.fromkeys ks v)
  | hash {s : FD} : FD.Reach s → FD.Reach s.hash.1
  | mutate {s : FD} (m : Mut) : FD.Reach s → FD.Reach (s.mutate m).1
  | updated {s : FD} (ps : List (Nat × FVal)) : FD.Reach s → FD.Reach (s.updated ps)
  | rebuild {s : FD} : FD.Reach s → FD.Reach s.rebuild

structure FD.Ok (s : FD) : Prop where
  nodup : NodupKeys s.items
  cache : s.CacheOk

theorem FD.Ok.ofPairs (ps : List (Nat × FVal)) : (FD.ofPairs ps).Ok := ⟨FD.ofPairs_nodup ps, Or.inl rfl⟩

theorem FD.Reach.ok {s : FD} (h : FD.Reach s) : s.Ok := by
  induction h with
  | ofPairs ps => exact FD.Ok.ofPairs ps
  | fromkeys ks v => exact FD.Ok.ofPairs _
  | @hash s _ ih => exact ⟨(FD.hash_items s).symm ▸ ih.nodup, FD.hash_cacheOk s ih.cache⟩
  | mutate m _ ih => rw [FD.mutate_blocked]; exact ih
  | updated ps _ ih => exact ⟨nodupKeys_putAll _ _ ih.nodup, Or.inl rfl⟩
  | rebuild _ _ => exact FD.Ok.ofPairs _

/-- a history of `hash()` calls and mutator attempts (`FD.run`) -/
theorem FD.Reach.run {s : FD} (h : FD.Reach s) (ops : List FdOp) : FD.Reach (s.run ops) :=
  List.foldlRecOn ops _ h fun _ r op _ => by cases op with | mutate m => exact r.mutate m | hash => exact r.hash

theorem FD.hash_eq_of_ok {s t : FD} (hs : s.Ok) (ht : t.Ok) (h : dictEq s.items t.items = true) :
    s.hash.2 = t.hash.2 := by
  rw [FD.hash_of_cacheOk _ hs.cache, FD.hash_of_cacheOk _ ht.cache]
  exact hashOf_eq_of_dictEq _ _ hs.nodup ht.nodup h

end C17
