import BoltonsVerif.Generated.C17_Refs
/-
C17 — object lifetime of the two halves of a OneToOne / ManyToMany.

`Model.lean` / `Heap.lean` treat an instance as ONE value (a pair of dicts): that the forward object and its
`.inv` are two Python objects that keep each other alive cannot be said there.  Here the halves are objects in
an object table, `.inv` is a field holding the ADDRESS of the other half together with the kind of reference
(`strong = true`: an ordinary attribute, `false`: a `weakref.ref` that does not keep its target alive), the caller
holds references (`roots`, with multiplicity), and letting go of a reference runs the collector, which frees
every object that cannot be reached from the roots through strong references.

    x = Cls(...)          alloc : two new objects referring to each other; the caller holds the one returned
    y = x.inv (.inv …)    hold  : one more root, found by following `.inv` n times (fails on a freed object:
                                  a dead weak reference reads as None)
    del x                 drop  : one root less, then collection

What is proved (`good_run`): when both references are strong - the table `Generated.invRefs`, read off freshly
constructed instances on every run, says so for both classes - then
after ANY history of these commands every reference the caller still holds points to a live half whose `.inv`
is the live other half of the SAME instance, and `.inv.inv` is the object itself.  So keeping only `x.inv`
(`idx = ManyToMany(pairs).inv`), only `x.inv.inv`, or dropping and re-taking references never changes which
instance a call reaches: the register machines of `Model.lean` / `Heap.lean` / `Args.lean`, in which instances
simply never die, lose nothing.  With a weak back reference the same history loses the forward half
(`life_weak_back_reference_loses_peer`).

Core Lean only.
-/
namespace C17

/-- one half of an instance as an object -/
structure Half where
  /-- the address stored in `.inv` -/
  peer : Nat
  /-- does that reference keep the peer alive? -/
  strong : Bool
  /-- the instance (register) this half belongs to -/
  reg : Nat
  /-- `false` = the object the constructor returned, `true` = the one it created as `.inv` -/
  side : Bool
deriving Repr, DecidableEq

abbrev Objs := List (Option Half)

structure Life where
  /-- the object table; `none` = freed -/
  objs : Objs
  /-- the references the caller holds (one entry per reference) -/
  roots : List Nat
deriving Repr, DecidableEq

def Life.empty : Life := ⟨[], []⟩

def getO (objs : Objs) (a : Nat) : Option Half := (objs[a]?).getD none

def Life.get (st : Life) (a : Nat) : Option Half := getO st.objs a

/-- reachable from what the caller holds, through strong references -/
inductive Reach (st : Life) : Nat → Prop
  | root {a : Nat} : a ∈ st.roots → Reach st a
  | ref {a : Nat} {h : Half} : Reach st a → st.get a = some h → h.strong = true → Reach st h.peer

/-! the collector: mark from the roots, sweep the rest -/

def succs (st : Life) (m : List Nat) : List Nat :=
  m.filterMap fun a => match st.get a with
    | some h => if h.strong then some h.peer else none
    | none => none

def addNew (m : List Nat) (b : Nat) : List Nat := if m.contains b then m else m ++ [b]

def markStep (st : Life) (m : List Nat) : List Nat := (succs st m).foldl addNew m

def markN (st : Life) : Nat → List Nat → List Nat
  | 0, m => m
  | n + 1, m => markN st n (markStep st m)

-- whether the fuel `objs.length + 1` suffices does not matter: `collect` re-checks the result with `closedB`
def mark (st : Life) : List Nat := markN st (st.objs.length + 1) (st.roots.foldl addNew [])

/-- the marked set contains the roots and is closed under strong references (checked, not assumed: when the
    check fails nothing is freed) -/
def closedB (st : Life) (m : List Nat) : Bool :=
  st.roots.all (fun a => m.contains a) &&
  m.all fun a => match st.get a with
    | some h => !h.strong || m.contains h.peer
    | none => true

def sweep (objs : Objs) (m : List Nat) : Objs :=
  (List.range objs.length).map fun i => if m.contains i then getO objs i else none

def collect (st : Life) : Life :=
  if closedB st (mark st) then ⟨sweep st.objs (mark st), st.roots⟩ else st

inductive LCmd
  /-- `x = Cls(...)` for register `reg`: flags = is `x.inv` a strong reference, is `x.inv.inv` one -/
  | alloc (sf si : Bool) (reg : Nat)
  /-- the caller takes one more reference: `a` followed through `.inv` n times -/
  | hold (a n : Nat)
  /-- the caller lets go of one reference to `a`; whatever became unreachable is freed -/
  | drop (a : Nat)
deriving Repr, DecidableEq

/-- `a.inv.inv…` (n times); `none` when an object on the way has been freed -/
def follow (objs : Objs) : Nat → Nat → Option Nat
  | a, 0 => (getO objs a).map fun _ => a
  | a, n + 1 => (getO objs a).bind fun h => follow objs h.peer n

def holdRef (st : Life) (a n : Nat) : Option (Life × Nat) :=
  if a ∈ st.roots then (follow st.objs a n).map fun b => (⟨st.objs, st.roots ++ [b]⟩, b) else none

def lifeCmd (st : Life) : LCmd → Option Life
  | .alloc sf si r =>
    some ⟨st.objs ++ [some ⟨st.objs.length + 1, sf, r, false⟩, some ⟨st.objs.length, si, r, true⟩],
          st.roots ++ [st.objs.length]⟩
  | .hold a n => (holdRef st a n).map (·.1)
  | .drop a => if a ∈ st.roots then some (collect ⟨st.objs, st.roots.erase a⟩) else none

def lifeRun (st : Life) : List LCmd → Option Life
  | [] => some st
  | c :: cs => (lifeCmd st c).bind fun st' => lifeRun st' cs

def LCmd.strongOnly : LCmd → Bool
  | .alloc sf si _ => sf && si
  | _ => true

/-- `a` is a live half, its `.inv` is the live other half of the same instance, which refers back to `a`;
    both references are strong -/
def Paired (objs : Objs) (a : Nat) : Prop :=
  ∃ h h', getO objs a = some h ∧ getO objs h.peer = some h' ∧ h'.peer = a ∧ h'.reg = h.reg ∧
    h'.side = !h.side ∧ h.strong = true ∧ h'.strong = true

def Good (st : Life) : Prop := ∀ a ∈ st.roots, Paired st.objs a

theorem getO_lt {objs : Objs} {a : Nat} {h : Half} (e : getO objs a = some h) : a < objs.length := by
  unfold getO at e
  cases hh : objs[a]? with
  | none => simp [hh] at e
  | some x => exact (List.getElem?_eq_some_iff.mp hh).1

theorem getO_append {objs : Objs} {a : Nat} {h : Half} (l : Objs) (e : getO objs a = some h) :
    getO (objs ++ l) a = some h := by
  have hl := getO_lt e
  unfold getO at *
  rw [List.getElem?_append_left hl]
  exact e

theorem paired_append {objs : Objs} {a : Nat} (l : Objs) (p : Paired objs a) : Paired (objs ++ l) a := by
  obtain ⟨h, h', e1, e2, r⟩ := p
  exact ⟨h, h', getO_append l e1, getO_append l e2, r⟩

theorem paired_peer {objs : Objs} {a : Nat} {h : Half} (p : Paired objs a) (e : getO objs a = some h) :
    Paired objs h.peer := by
  obtain ⟨h1, h', e1, e2, e3, e4, e5, e6, e7⟩ := p
  rw [e] at e1
  cases e1
  refine ⟨h', h, e2, ?_, rfl, e4.symm, ?_, e7, e6⟩
  · rw [e3]; exact e
  · rw [e5]; cases h.side <;> rfl

theorem exists_follow_paired {objs : Objs} : ∀ (n a : Nat), Paired objs a → ∃ b, follow objs a n = some b ∧ Paired objs b
  | 0, a, p => by
    obtain ⟨h, _, e, _⟩ := id p
    exact ⟨a, by simp [follow, e], p⟩
  | n + 1, a, p => by
    obtain ⟨h, _, e, _⟩ := id p
    obtain ⟨b, hb, pb⟩ := exists_follow_paired n h.peer (paired_peer p e)
    exact ⟨b, by simp [follow, e, hb], pb⟩

theorem paired_follow {objs : Objs} : ∀ (n a b : Nat), Paired objs a → follow objs a n = some b → Paired objs b :=
  fun n a _ p e =>
    have ⟨_, hb, pb⟩ := exists_follow_paired n a p
    Option.some.inj (hb.symm.trans e) ▸ pb

theorem follow_of_paired {objs : Objs} : ∀ (n a : Nat), Paired objs a → ∃ b, follow objs a n = some b :=
  fun n a p => (exists_follow_paired n a p).imp fun _ h => h.1

/-- `x.inv.inv is x` -/
theorem follow_two {objs : Objs} {a : Nat} (p : Paired objs a) : follow objs a 2 = some a := by
  obtain ⟨h, h', e1, e2, e3, _⟩ := p
  simp [follow, e1, e2, e3]

theorem reach_closed {st : Life} {m : List Nat} (c : closedB st m = true) {a : Nat} (r : Reach st a) : a ∈ m := by
  unfold closedB at c
  rw [Bool.and_eq_true, List.all_eq_true, List.all_eq_true] at c
  induction r with
  | root hr => simpa using c.1 _ hr
  | ref _ hg hs ih =>
    have := c.2 _ ih
    simp [hg, hs] at this
    exact this

theorem getO_sweep {objs : Objs} {m : List Nat} {a : Nat} (ha : a ∈ m) : getO (sweep objs m) a = getO objs a := by
  unfold getO sweep
  by_cases hl : a < objs.length
  · simp [List.getElem?_map, List.getElem?_range hl, ha, getO]
  · have hl' : objs.length ≤ a := Nat.le_of_not_lt hl
    have hr : (List.range objs.length)[a]? = none := List.getElem?_eq_none (by simpa using hl')
    simp [hr, List.getElem?_eq_none hl']

/-- the collector is sound: what the caller can still reach is never freed (nor altered) -/
theorem collect_get {st : Life} {a : Nat} (r : Reach st a) : (collect st).get a = st.get a := by
  unfold collect
  by_cases c : closedB st (mark st) = true
  · simp only [c, if_true, Life.get]
    exact getO_sweep (reach_closed c r)
  · simp [c]

theorem collect_roots (st : Life) : (collect st).roots = st.roots := by
  unfold collect
  by_cases c : closedB st (mark st) = true <;> simp [c]

theorem good_collect {st : Life} (g : Good st) : Good (collect st) := by
  intro a ha
  rw [collect_roots] at ha
  obtain ⟨h, h', e1, e2, back, reg, side, strong, strong'⟩ := g a ha
  have ra : Reach st a := .root ha
  have rp : Reach st h.peer := .ref ra e1 strong
  exact ⟨h, h', (collect_get ra).trans e1, (collect_get rp).trans e2, back, reg, side, strong, strong'⟩

theorem good_cmd {st st' : Life} {c : LCmd} (g : Good st) (hc : c.strongOnly = true) (e : lifeCmd st c = some st') :
    Good st' := by
  cases c with
  | alloc sf si r =>
    simp [LCmd.strongOnly] at hc
    obtain ⟨hsf, hsi⟩ := hc
    subst hsf; subst hsi
    simp only [lifeCmd, Option.some.injEq] at e
    subst e
    intro a ha
    simp only [List.mem_append, List.mem_singleton] at ha
    cases ha with
    | inl ho => exact paired_append _ (g a ho)
    | inr hn =>
      subst hn
      refine ⟨⟨st.objs.length + 1, true, r, false⟩, ⟨st.objs.length, true, r, true⟩, ?_, ?_, rfl, rfl, rfl, rfl, rfl⟩
      · simp [getO]
      · simp [getO]
  | hold a n =>
    simp only [lifeCmd, holdRef] at e
    by_cases ha : a ∈ st.roots
    · simp only [ha, if_true, Option.map_map] at e
      cases hf : follow st.objs a n with
      | none => simp [hf] at e
      | some b =>
        simp [hf] at e
        subst e
        intro x hx
        simp only [List.mem_append, List.mem_singleton] at hx
        cases hx with
        | inl ho => exact g x ho
        | inr hn => subst hn; exact paired_follow n a _ (g a ha) hf
    · simp [ha] at e
  | drop a =>
    simp only [lifeCmd] at e
    by_cases ha : a ∈ st.roots
    · simp only [ha, if_true, Option.some.injEq] at e
      subst e
      apply good_collect
      intro x hx
      exact g x (List.mem_of_mem_erase hx)
    · simp [ha] at e

theorem good_run : ∀ (cmds : List LCmd) (st st' : Life), Good st → (∀ c ∈ cmds, c.strongOnly = true) →
    lifeRun st cmds = some st' → Good st'
  | [], st, st', g, _, e => by simp [lifeRun] at e; subst e; exact g
  | c :: cs, st, st', g, hs, e => by
    simp only [lifeRun] at e
    cases hc : lifeCmd st c with
    | none => simp [hc] at e
    | some st1 =>
      simp [hc] at e
      exact good_run cs st1 st' (good_cmd g (hs c (by simp)) hc) (fun c' h' => hs c' (by simp [h'])) e

theorem good_empty : Good Life.empty := by intro a ha; simp [Life.empty] at ha

/-! ## the caller of the harness: per register the two variables `x` and `inv = x.inv`, either of which may have
    been let go (driver glue; the `G` flag of a `K` record is `Caller.ok`) -/

structure Caller where
  life : Life
  /-- per register: the address the variable holding the forward object / the `.inv` object refers to -/
  held : List (Option Nat × Option Nat)
deriving Repr

def Caller.empty : Caller := ⟨Life.empty, []⟩

/-- (is `x.inv` strong, is `x.inv.inv` strong) for a class, from the regenerated table; unknown class: weak -/
def refsOf (cls : String) : Bool × Bool := (Generated.invRefs.lookup cls).getD (false, false)

/-- `x = Cls(...)` ; `inv = x.inv` : what the harness does with every instance it creates -/
def Caller.newReg (c : Caller) (cls : String) : Option Caller :=
  (lifeCmd c.life (.alloc (refsOf cls).1 (refsOf cls).2 c.held.length)).bind fun l1 =>
  (holdRef l1 c.life.objs.length 1).map fun (l2, b) => ⟨l2, c.held ++ [(some c.life.objs.length, some b)]⟩

/-- one more reference to the half on `side` of register `r` (then `extra` more `.inv` steps), reached the way
    the caller can: through the variable that holds it, else through `.inv` of the other variable -/
def Caller.take (c : Caller) (r : Nat) (side : Bool) (extra : Nat) : Option (Life × Nat) :=
  match c.held[r]? with
  | some (hf, hi) =>
    match (if side then hi else hf), (if side then hf else hi) with
    | some a, _ => holdRef c.life a extra
    | none, some b => holdRef c.life b (extra + 1)
    | none, none => none
  | none => none

def dropAll (l : Life) : List (Option Nat) → Option Life
  | [] => some l
  | none :: xs => dropAll l xs
  | some a :: xs => (lifeCmd l (.drop a)).bind fun l' => dropAll l' xs

/-- `K/<r>/<mode>`: the caller keeps only … of register r: `i` the `.inv` object, `f` the forward object,
    `ii` what `x.inv.inv` evaluates to, `fi` both again, `none` nothing; the old variables are let go -/
def Caller.keep (c : Caller) (r : Nat) (mode : String) : Option Caller :=
  match c.held[r]? with
  | none => none
  | some (hf, hi) =>
    let fin (l : Life) (nf ni : Option Nat) : Option Caller :=
      (dropAll l [hf, hi]).map fun l' => ⟨l', c.held.set r (nf, ni)⟩
    if mode = "i" then (c.take r true 0).bind fun (l, b) => fin l none (some b)
    else if mode = "f" then (c.take r false 0).bind fun (l, a) => fin l (some a) none
    else if mode = "ii" then (c.take r false 2).bind fun (l, a) => fin l (some a) none
    else if mode = "fi" then
      (c.take r false 0).bind fun (l, a) =>
      (Caller.take ⟨l, c.held⟩ r true 0).bind fun (l2, b) => fin l2 (some a) (some b)
    else if mode = "none" then fin c.life none none
    else none

/-- the address a call on `side` of register `r` reaches -/
def Caller.addr (c : Caller) (r : Nat) (side : Bool) : Option Nat :=
  match c.held[r]? with
  | some (hf, hi) =>
    match (if side then hi else hf), (if side then hf else hi) with
    | some a, _ => follow c.life.objs a 0
    | none, some b => follow c.life.objs b 1
    | none, none => none
  | none => none

def Life.resolve (st : Life) (a : Nat) : Option (Nat × Bool) := (st.get a).map fun h => (h.reg, h.side)

/-- every register the caller still holds something of: a call on either side reaches that side of THAT
    instance, and `x.inv.inv is x` -/
def Caller.ok (c : Caller) : Bool :=
  (List.range c.held.length).all fun r =>
    match c.held[r]? with
    | some (none, none) => true
    | some _ =>
      ((c.addr r false).bind c.life.resolve == some (r, false)) &&
      ((c.addr r true).bind c.life.resolve == some (r, true)) &&
      ((c.addr r false).bind (fun a => follow c.life.objs a 2) == c.addr r false) &&
      ((c.addr r false).bind (fun a => follow c.life.objs a 1) == c.addr r true)
    | none => true

end C17
