import BoltonsVerif.C17.Proofs
/-
C17 - the readers of ManyToMany (`m[k]`, `get`, `in`, `len`, `keys` / `iter`) against `iteritems()`,
for every state satisfying the invariant (so, by `m2m_invariant` / `hm2m_invariant`, after any history).
-/
namespace C17
section readers
variable {α : Type} [DecidableEq α]

theorem M2M.get_eq_getSet (s : M2M α) (k : α) : s.get k = getSet k s.data := by
  unfold M2M.get M2M.getitem getSet
  cases lookup k s.data <;> rfl

theorem M2M.mem_get {s : M2M α} (w : s.WF) (k v : α) : v ∈ s.get k ↔ (k, v) ∈ iteritems s.data := by
  rw [M2M.get_eq_getSet, mem_iteritems w.gd]

/-- `m[k]` raises KeyError exactly when `k not in m`; otherwise it is `m.get(k)`, and not empty -/
theorem M2M.getitem_spec {s : M2M α} (w : s.WF) (k : α) :
    (s.getitem k = none ↔ s.contains k = false) ∧
    (∀ vs, s.getitem k = some vs → vs = s.get k ∧ vs ≠ [] ∧ vs.Nodup ∧ s.contains k = true) := by
  unfold M2M.get M2M.contains hasKey M2M.getitem
  constructor
  · cases lookup k s.data <;> simp
  · intro vs h
    have := w.gd.ne k vs h
    simp [h, this.1, this.2]

theorem M2M.contains_iff {s : M2M α} (w : s.WF) (k : α) :
    s.contains k = true ↔ ∃ v, (k, v) ∈ iteritems s.data := by
  unfold M2M.contains
  rw [w.gd.hasKey_iff]
  constructor
  · intro h
    obtain ⟨v, hv⟩ := List.exists_mem_of_ne_nil _ h
    exact ⟨v, (mem_iteritems w.gd k v).2 hv⟩
  · rintro ⟨v, hv⟩ he
    have := (mem_iteritems w.gd k v).1 hv
    rw [he] at this
    simp at this

theorem M2M.keysList_nodup {s : M2M α} (w : s.WF) : s.keysList.Nodup := w.gd.nk

theorem M2M.len_eq (s : M2M α) : s.len = s.keysList.length := by simp [M2M.len, M2M.keysList, keys]

theorem M2M.mem_keysList (s : M2M α) (k : α) : k ∈ s.keysList ↔ s.contains k = true :=
  (hasKey_iff_mem_keys k s.data).symm

/-- `keys()` / `iter(m)` list every key once, `len(m)` counts them, and they are the first components of `iteritems()` -/
theorem M2M.keys_spec {s : M2M α} (w : s.WF) :
    s.keysList.Nodup ∧ s.len = s.keysList.length ∧
    (∀ k, k ∈ s.keysList ↔ s.contains k = true) ∧ (∀ k, k ∈ s.keysList ↔ ∃ v, (k, v) ∈ iteritems s.data) :=
  ⟨M2M.keysList_nodup w, M2M.len_eq s, M2M.mem_keysList s, fun k => (M2M.mem_keysList s k).trans (M2M.contains_iff w k)⟩

theorem M2M.readers_transposed {s : M2M α} (w : s.WF) (k v : α) :
    (k ∈ s.flip.get v ↔ v ∈ s.get k) ∧ (s.flip.contains v = true ↔ ∃ a, v ∈ s.get a) := by
  constructor
  · rw [M2M.get_eq_getSet, M2M.get_eq_getSet]
    exact (w.transpose k v).symm
  · rw [M2M.contains_iff w.flip]
    exact exists_congr fun a => (w.iteritems_transposed a v).symm.trans (M2M.mem_get w a v).symm

theorem M2M.updatePairs_data (s : M2M α) (ps : List (α × α)) (a x : α) :
    x ∈ getSet a (s.updatePairs ps).data ↔ x ∈ getSet a s.data ∨ (a, x) ∈ ps :=
  (foldl_union (Q := fun s => x ∈ getSet a s.data) (R := fun p => a = p.1 ∧ x = p.2)
    (fun s p => M2M.add_data s p.1 p.2 ▸ mem_getSet_addTo s.data p.1 p.2 a x) ps s).trans
    (or_congr_right ⟨fun ⟨_, hp, e1, e2⟩ => (Prod.ext e1 e2 : (a, x) = _) ▸ hp, fun h => ⟨_, h, rfl, rfl⟩⟩)

/-- `ManyToMany(pairs)` -/
theorem M2M.ctor_pairs (ps : List (α × α)) (a x : α) :
    (a, x) ∈ iteritems (M2M.empty.updatePairs ps : M2M α).data ↔ (a, x) ∈ ps := by
  rw [mem_iteritems (M2M.WF.empty.updatePairs ps).gd, M2M.updatePairs_data]
  simp [M2M.empty, getSet]

/-- `ManyToMany(other)` -/
theorem M2M.ctor_from {o : M2M α} (wo : o.WF) (a x : α) :
    (a, x) ∈ iteritems (M2M.empty.updateFrom o).data ↔ (a, x) ∈ iteritems o.data := by
  rw [mem_iteritems (M2M.WF.empty.updateFrom wo).gd, mem_iteritems wo.gd, M2M.updateFrom_data wo]
  simp [M2M.empty, getSet]
end readers
end C17
