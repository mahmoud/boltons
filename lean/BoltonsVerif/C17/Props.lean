import BoltonsVerif.C17.FrozenDict
import BoltonsVerif.C17.Readers
import BoltonsVerif.C17.ArgsProofs
import BoltonsVerif.C17.HeapProofs
import BoltonsVerif.C17.Lifetime
/-
C17 — property theorems (statements, derived from the lemma files of the directory, and non-vacuity examples).

OneToOne.  A history is a list of commands on a register file of instances
(`otoRun [] cmds`): constructors from pairs / from another instance (either side,
plus keyword items) / `unique` / `copy`, and every mutator (`__setitem__`,
`__delitem__`, `update` with any materialised argument, `|=`, `setdefault`, `pop`,
`popitem`, `clear`) applied through the forward object or through `.inv`.
The theorems are about the SET of pairs each side holds; the dict iteration order is
modelled (it decides `popitem` and which key survives `OneToOne({k1: v, k2: v})`) but
no property theorem depends on it.
-/
namespace C17
variable {α : Type} [DecidableEq α]

/-- OneToOne is a `dict` subclass; the model sends every mutating dict method through the paired-write code.
    That is only right if the class body overrides each of them (an inherited one writes one side only, as `|=` did
    before it was overridden): `Generated.otoDefined` is read off the evaluated class on every run -/
theorem oto_all_mutators_overridden : ∀ n ∈ dictMutators, n ∈ Generated.otoDefined := by decide +kernel

/-- after any history, every instance satisfies the invariant (unique keys on both
    sides, `fwd[k] = v ↔ inv[v] = k`) -/
theorem oto_invariant (cmds : List (OtoCmd α)) (regs : List (OTO α))
    (h : otoRun [] cmds = some regs) : ∀ s ∈ regs, s.WF :=
  otoRun_wf cmds AllWF.nil h

/-- … hence the two sides hold exactly the same pairs, transposed -/
theorem oto_exact_inverses (cmds : List (OtoCmd α)) (regs : List (OTO α))
    (h : otoRun [] cmds = some regs) (s : OTO α) (hs : s ∈ regs) (k v : α) :
    (k, v) ∈ s.fwd ↔ (v, k) ∈ s.inv :=
  (oto_invariant cmds regs h s hs).mem_iff k v

/-- … `list(x.inv.items())` is a permutation of the swapped `list(x.items())` (same length) -/
theorem oto_inv_perm (cmds : List (OtoCmd α)) (regs : List (OTO α))
    (h : otoRun [] cmds = some regs) (s : OTO α) (hs : s ∈ regs) :
    s.inv.Perm (s.fwd.map swap) ∧ s.inv.length = s.fwd.length := by
  have hp := OTO.inv_perm (oto_invariant cmds regs h s hs)
  exact ⟨hp, by simpa using hp.length_eq⟩

/-- … and no value sits under two keys (nor a key under two values) -/
theorem oto_no_value_under_two_keys (cmds : List (OtoCmd α)) (regs : List (OTO α))
    (h : otoRun [] cmds = some regs) (s : OTO α) (hs : s ∈ regs) (k₁ k₂ v : α)
    (h₁ : (k₁, v) ∈ s.fwd) (h₂ : (k₂, v) ∈ s.fwd) : k₁ = k₂ := by
  have w := oto_invariant cmds regs h s hs
  exact w.key_unique ((mem_iff_lookup _ w.nf _ _).1 h₁) ((mem_iff_lookup _ w.nf _ _).1 h₂)

/-- `x.inv.inv is x`, and a call made through `.inv.inv` is the call made through `x` -/
theorem oto_inv_inv (s : OTO α) (op : OtoOp α) :
    s.flip.flip = s ∧ ((s.flip.stepSide true op).1.flip, (s.flip.stepSide true op).2) = s.stepSide false op :=
  ⟨rfl, rfl⟩

/-- what `x[k] = v` does to the pairs: the pair with key `k` and the pair with value `v`
    give way, every other pair stays (so nothing but the two sides' common pairs changes) -/
theorem oto_setitem_spec (s : OTO α) (w : s.WF) (k v a b : α) :
    (a, b) ∈ (s.setitem k v).fwd ↔ (a = k ∧ b = v) ∨ ((a, b) ∈ s.fwd ∧ a ≠ k ∧ b ≠ v) := by
  rw [mem_iff_lookup _ (w.setitem k v).nf, mem_iff_lookup _ w.nf, OTO.setitem_fwd w]
  grind

/-- `x.inv[v] = k` holds the same pairs afterwards as `x[k] = v` -/
theorem oto_setitem_through_inv (s : OTO α) (w : s.WF) (k v a b : α) :
    (a, b) ∈ (s.stepSide true (.setitem v k)).1.fwd ↔ (a, b) ∈ (s.setitem k v).fwd := by
  -- through `.inv` the pair is read off the inverse dict of `x.inv[v] = k`, which `setitem_inv` describes, for the
  -- flipped object, by the very formula `setitem_fwd` gives for `x[k] = v`
  show (a, b) ∈ (s.flip.setitem v k).inv ↔ _
  rw [mem_iff_lookup _ (w.flip.setitem v k).ni, mem_iff_lookup _ (w.setitem k v).nf, OTO.setitem_inv w.flip,
    OTO.setitem_fwd w]
  rfl

/-- `del x.inv[v]` is `del x[k]` for the key `k` that holds `v` (literally the same two dicts); KeyError when no key does -/
theorem oto_delitem_through_inv (s : OTO α) (w : s.WF) (v : α) :
    (∀ k, lookup v s.inv = some k → (s.stepSide true (.delitem v)).1 = (s.delitem k).1 ∧
      (s.stepSide true (.delitem v)).2 = .none) ∧
    (lookup v s.inv = none → s.stepSide true (.delitem v) = (s, .err .KeyError)) := by
  constructor
  · intro k hk
    have hf : lookup k s.fwd = some v := (w.inverse k v).2 hk
    simp [OTO.stepSide, OTO.step, OTO.delitem, OTO.flip, hk, hf]
  · intro hn
    simp [OTO.stepSide, OTO.step, OTO.delitem, OTO.flip, hn]

/-- non-vacuity for the two theorems above: a state with both branches (value 4 held by key 3, value 9 by nobody) -/
example : (OTO.ofPairs [(1, 2), (3, 4)] : OTO Nat).WF ∧
    lookup 4 (OTO.ofPairs [(1, 2), (3, 4)] : OTO Nat).inv = some 3 ∧ lookup 9 (OTO.ofPairs [(1, 2), (3, 4)] : OTO Nat).inv = none ∧
    ((OTO.ofPairs [(1, 2), (3, 4)] : OTO Nat).stepSide true (.setitem 2 3)).1 = ⟨[(3, 2)], [(2, 3)]⟩ :=
  ⟨OTO.WF.ofPairs _, by decide, by decide, by decide⟩

/-- a mutator leaves every other instance exactly as it was; constructors / copy only append -/
theorem oto_isolation (regs regs' : List (OTO α)) (c : OtoCmd α) (ret : Ret α)
    (hc : otoCmd regs c = some (regs', ret)) (j : Nat) (hj : j < regs.length)
    (ht : ∀ r side op, c = .op r side op → j ≠ r) (ht2 : ∀ r side src, c = .updateFrom r side src → j ≠ r) :
    regs'[j]? = regs[j]? := by
  rcases otoCmd_shape hc with ⟨s, rfl, _⟩ | ⟨r, s', rfl, _, ⟨side, op, rfl⟩ | ⟨side, src, rfl⟩⟩
  · exact List.getElem?_append_left hj
  · exact List.getElem?_set_ne (Ne.symm (ht r side op rfl))
  · exact List.getElem?_set_ne (Ne.symm (ht2 r side src rfl))

/-- `copy()` / `OneToOne(x)` of an instance satisfying the invariant holds the same items, in the same order -/
theorem oto_copy_same_items (s : OTO α) (w : s.WF) :
    (OTO.ofPairs (s.items false)).fwd = s.fwd ∧ (OTO.ofPairs (s.items false)).inv = s.fwd.map swap := by
  simp [OTO.items, OTO.ofPairs_of_wf w]

/-- `update(arg)` / `|= arg` is `x[k] = v` for every pair of the materialised argument, in order -/
theorem oto_update_sequential (s : OTO α) (k v : α) (ps : List (α × α)) :
    s.update ((k, v) :: ps) = (s.setitem k v).update ps ∧ s.update [] = s := ⟨rfl, rfl⟩

/-- pairs that do not collide with each other (distinct keys, distinct values) are ALL installed by
    `update` / `|=` - the first one included -/
theorem oto_update_installs_all (s : OTO α) (w : s.WF) (ps : List (α × α))
    (hk : (ps.map Prod.fst).Nodup) (hv : (ps.map Prod.snd).Nodup) :
    ∀ p ∈ ps, p ∈ (s.update ps).fwd ∧ swap p ∈ (s.update ps).inv := by
  intro p hp
  have w' := w.update ps
  have h1 := OTO.update_installs_all w ps hk hv p hp
  exact ⟨(mem_iff_lookup _ w'.nf p.1 p.2).2 h1, (mem_iff_lookup _ w'.ni p.2 p.1).2 ((w'.inverse _ _).1 h1)⟩

/-- `del x[k]`: KeyError and no change for a missing key, else exactly the pair with key `k` goes -/
theorem oto_delitem_spec (s : OTO α) (k a : α) :
    (lookup k s.fwd = none → s.delitem k = (s, .err .KeyError)) ∧
    (∀ v, lookup k s.fwd = some v → (s.delitem k).2 = .none ∧
      lookup a (s.delitem k).1.fwd = if a = k then none else lookup a s.fwd) := by
  unfold OTO.delitem
  constructor
  · intro hn; simp [hn]
  · intro v hv; simp [hv, lookup_erase]

/-- `x.pop(k[, d])`: returns the value and removes exactly that pair; default / KeyError when missing -/
theorem oto_pop_spec (s : OTO α) (k : α) (d : Option α) (a : α) :
    (lookup k s.fwd = none → s.pop k d = (s, match d with | some x => .val x | none => .err .KeyError)) ∧
    (∀ v, lookup k s.fwd = some v → (s.pop k d).2 = .val v ∧
      lookup a (s.pop k d).1.fwd = if a = k then none else lookup a s.fwd) := by
  unfold OTO.pop
  constructor
  · intro hn; cases d <;> simp [hn]
  · intro v hv; simp [hv, lookup_erase]

/-- `x.popitem()`: KeyError when empty, else returns one of the pairs and removes exactly it -/
theorem oto_popitem_spec (s : OTO α) (w : s.WF) (a : α) :
    (s.fwd = [] → s.popitem = (s, .err .KeyError)) ∧
    (s.fwd ≠ [] → ∃ k v, s.popitem.2 = .pair k v ∧ lookup k s.fwd = some v ∧
      lookup a s.popitem.1.fwd = if a = k then none else lookup a s.fwd) := by
  unfold OTO.popitem
  constructor
  · intro hn; simp [hn]
  · intro hne
    cases hl : s.fwd.getLast? with
    | none => simp [List.getLast?_eq_none_iff] at hl; exact absurd hl hne
    | some p =>
      obtain ⟨k, v⟩ := p
      exact ⟨k, v, rfl, lookup_getLast s.fwd k v w.nf hl, by rw [dropLast_eq_erase s.fwd k v w.nf hl, lookup_erase]⟩

/-- the correspondence's order-agnostic `popitem` (the driver is told which pair the implementation
    returned): a pair the object holds is removed exactly; anything else falls back to LIFO -/
theorem oto_popitem_any_spec (s : OTO α) (k v a : α) :
    (lookup k s.fwd = some v → (s.popitemAs k v).2 = .pair k v ∧
      lookup a (s.popitemAs k v).1.fwd = if a = k then none else lookup a s.fwd) ∧
    (lookup k s.fwd ≠ some v → s.popitemAs k v = s.popitem) := by
  unfold OTO.popitemAs
  constructor
  · intro hk; simp [hk, lookup_erase]
  · intro hk; simp [hk]

/-- `x.setdefault(k, d)`: an existing key is returned untouched, a missing one is `x[k] = d` -/
theorem oto_setdefault_spec (s : OTO α) (w : s.WF) (k d : α) :
    (∀ v, lookup k s.fwd = some v → s.setdefault k d = (s, .val v)) ∧
    (lookup k s.fwd = none → s.setdefault k d = (s.setitem k d, .val d)) := by
  unfold OTO.setdefault
  constructor
  · intro v hv; simp [hv]
  · intro hn; simp [hn, OTO.setitem_fwd w]

/-- the constructor keeps only items of `dict(pairs)`, and all of them when no value repeats -/
theorem oto_ctor_spec (ps : List (α × α)) :
    (∀ k v, lookup k (OTO.ofPairs ps).fwd = some v → lookup k (putAll ([] : Dict α α) ps) = some v) ∧
    (((putAll ([] : Dict α α) ps).map Prod.snd).Nodup → (OTO.ofPairs ps).fwd = putAll [] ps) := by
  refine ⟨fun k v h => ?_, OTO.ofPairs_fwd_of_nodup_values ps⟩
  rw [← mem_iff_lookup _ (OTO.WF.ofPairs ps).nf, OTO.ofPairs_eq, mem_map_swap] at h
  exact (mem_iff_lookup _ (nodupKeys_putAll _ _ nodupKeys_nil) k v).1 (mem_putAll_swap h)

/-- … and loses no VALUE of `dict(pairs)`: when a value repeats, one of its keys survives (the property
    leaves open which), so `set(x.values()) == set(dict(pairs).values())` -/
theorem oto_ctor_values_kept (ps : List (α × α)) (k v : α)
    (h : lookup k (putAll ([] : Dict α α) ps) = some v) : ∃ k', lookup k' (OTO.ofPairs ps).fwd = some v := by
  have hF : NodupKeys (putAll ([] : Dict α α) ps) := nodupKeys_putAll _ _ nodupKeys_nil
  -- the inverse dict is `dict(swapped items)`: it has every value of `dict(pairs)` as a key
  have hv : v ∈ keys (OTO.ofPairs ps).inv := by
    rw [OTO.ofPairs_eq, mem_keys_putAll, keys_map_swap]
    exact Or.inr (List.mem_map.2 ⟨(k, v), (mem_iff_lookup _ hF k v).2 h, rfl⟩)
  obtain ⟨k', hl⟩ := Option.isSome_iff_exists.1 ((hasKey_iff_mem_keys _ _).2 hv)
  exact ⟨k', ((OTO.WF.ofPairs ps).inverse k' v).2 hl⟩

/-- the correspondence's order-agnostic constructor (the driver is told which items the implementation's instance
    holds; used for `OneToOne(other, **kw)` with colliding values, where the surviving key depends on the iteration
    order of `other`): whatever it is told, the instance satisfies the invariant, holds only items of `dict(pairs)` and
    loses no value of it; an outcome that is not admissible falls back to `ofPairs` -/
theorem oto_ctor_any_spec (ps hint : List (α × α)) :
    (OTO.ofPairsAs ps hint).WF ∧
    (∀ k v, lookup k (OTO.ofPairsAs ps hint).fwd = some v → lookup k (putAll ([] : Dict α α) ps) = some v) ∧
    (∀ k v, lookup k (putAll ([] : Dict α α) ps) = some v → ∃ k', lookup k' (OTO.ofPairsAs ps hint).fwd = some v) ∧
    (OTO.admissible ps hint = false → OTO.ofPairsAs ps hint = OTO.ofPairs ps) := by
  refine ⟨OTO.WF.ofPairsAs ps hint, ?_, ?_, fun h => by simp [OTO.ofPairsAs, h]⟩ <;> unfold OTO.ofPairsAs <;> split
  · next h =>
    have a := (OTO.admissible_iff ps hint).1 h
    exact fun k v hl => a.sub (k, v) ((mem_iff_lookup hint a.keys_nodup k v).2 hl)
  · exact (oto_ctor_spec ps).1
  · next h =>
    have a := (OTO.admissible_iff ps hint).1 h
    intro k v hl
    obtain ⟨p, hp, e⟩ := List.mem_map.1 (a.values_kept (k, v) ((mem_iff_lookup _ (nodupKeys_putAll _ _ nodupKeys_nil) k v).2 hl))
    exact ⟨p.1, (show p.2 = v from e) ▸ (mem_iff_lookup hint a.keys_nodup p.1 p.2).1 hp⟩
  · exact oto_ctor_values_kept ps

/-- `OneToOne.unique(pairs)` raises ValueError exactly when some value sits under two keys of `dict(pairs)`;
    otherwise it is the plain constructor and holds `dict(pairs)` itself -/
theorem oto_unique_spec (ps : List (α × α)) :
    (OTO.uniqueOfPairs ps = none ↔ ¬ ((putAll ([] : Dict α α) ps).map Prod.snd).Nodup) ∧
    (∀ s, OTO.uniqueOfPairs ps = some s → s = OTO.ofPairs ps ∧ s.fwd = putAll [] ps) := by
  have hiff := swap_putAll_length_iff (putAll ([] : Dict α α) ps)
  unfold OTO.uniqueOfPairs
  constructor
  · split
    · next h => simp [hiff.1 h]
    · next h => simp only [true_iff]; exact fun hv => h (hiff.2 hv)
  · intro s hs
    split at hs
    · next h =>
      injection hs with hs
      subst hs
      exact ⟨rfl, OTO.ofPairs_fwd_of_nodup_values ps (hiff.1 h)⟩
    · simp at hs

example : OTO.uniqueOfPairs [(1, 2), (3, 4), (5, 2)] = (none : Option (OTO Nat)) ∧
    (OTO.uniqueOfPairs [(1, 2), (3, 4), (1, 5)] : Option (OTO Nat)) = some ⟨[(1, 5), (3, 4)], [(5, 1), (4, 3)]⟩ := by decide +kernel

/-- `oto_ctor_any_spec`: value 2 sits under keys 1 and 5; an implementation that kept key 1 is accepted, one that
    reports a pair `dict(pairs)` does not have is not (fallback: key 5 keeps it) -/
example : (OTO.ofPairsAs [(1, 2), (3, 4), (5, 2)] [(3, 4), (1, 2)] : OTO Nat) = ⟨[(3, 4), (1, 2)], [(4, 3), (2, 1)]⟩ ∧
    (OTO.ofPairsAs [(1, 2), (3, 4), (5, 2)] [(3, 4), (7, 2)] : OTO Nat) = ⟨[(5, 2), (3, 4)], [(2, 5), (4, 3)]⟩ := by decide +kernel

/-- the hypothesis of `oto_ctor_values_kept`: value 2 sits under keys 1 and 5; key 5 keeps it -/
example : lookup 1 (putAll ([] : Dict Nat Nat) [(1, 2), (3, 4), (5, 2)]) = some 2 ∧
    lookup 5 (OTO.ofPairs [(1, 2), (3, 4), (5, 2)] : OTO Nat).fwd = some 2 := by decide +kernel

/-- a history with overwrite + eviction through both sides, a copy through the inverse side, update of the copy from
    the original plus a keyword item, popitem -/
example : otoRun ([] : List (OTO Nat))
    [.new (.pairs [(1, 3), (2, 3), (4, 5)]), .op 0 true (.setitem 5 2), .copy 0 true,
     .updateFrom 1 false (.reg 0 false [(7, 7)]), .op 0 false .popitem]
    = some [⟨[], []⟩, ⟨[(5, 2), (2, 5), (7, 7)], [(2, 5), (5, 2), (7, 7)]⟩] := by decide +kernel
example : (OTO.setitem (⟨[(1, 2), (3, 4)], [(2, 1), (4, 3)]⟩ : OTO Nat) 1 4) = ⟨[(1, 4)], [(4, 1)]⟩ := by decide +kernel

/-- a state satisfying the `s.WF` hypotheses above (any constructed instance does) -/
example : (OTO.ofPairs [(1, 2), (3, 4), (5, 2)] : OTO Nat).WF := OTO.WF.ofPairs _
example : (OTO.ofPairs [(1, 2), (3, 4), (5, 2)] : OTO Nat) = ⟨[(5, 2), (3, 4)], [(2, 5), (4, 3)]⟩ := by decide +kernel

/-- hypotheses of `oto_update_installs_all` on a colliding target: both old pairs are evicted, all three new ones land -/
example : ((OTO.ofPairs [(1, 2), (3, 4)] : OTO Nat).update [(1, 4), (3, 9), (7, 2)]).fwd = [(1, 4), (3, 9), (7, 2)]
    ∧ ([(1, 4), (3, 9), (7, 2)].map Prod.fst).Nodup ∧ ([(1, 4), (3, 9), (7, 2)].map Prod.snd).Nodup := by decide +kernel

/-! ## OneToOne, caller level (`Args.lean`): arguments as the caller built them

dict / OrderedDict / keyword arguments hold a key once (first position, last value); a one-shot iterator is an object
the caller may keep, consume from and pass again; the callee makes ONE pass over its argument. -/

/-- caller level: after any history of constructors / `unique` / `copy` / mutators / `update` and `|=` with
    dict, pair-list, fresh or held one-shot iterator, another instance (either side, itself included) and keyword
    arguments - with iterators created, partly consumed by the caller and passed again in between - every instance
    satisfies the invariant, so both sides hold exactly the same pairs, transposed -/
theorem otoA_invariant (cmds : List (OtoCmdA α)) (st : OtoSt α) (h : otoRunA OtoSt.empty cmds = some st) :
    ∀ s ∈ st.regs, s.WF ∧ ∀ k v, (k, v) ∈ s.fwd ↔ (v, k) ∈ s.inv := by
  obtain ⟨cs', hcs'⟩ := otoRunA_lower cmds h
  intro s hs
  exact ⟨oto_invariant cs' st.regs hcs' s hs, oto_exact_inverses cs' st.regs hcs' s hs⟩

/-- a one-shot iterator gives what it has left to the first pass made over it, is empty afterwards (a second pass over
    the same object gets nothing), and no other iterator is touched -/
theorem otoA_iter_one_shot (st : OtoSt α) (i : Nat) (ps : List (α × α)) (its : List (List (α × α)))
    (h : takeArg st (.iter i) = some (ps, its)) :
    st.iters[i]? = some ps ∧ its[i]? = some [] ∧ (∀ j, j ≠ i → its[j]? = st.iters[j]?) ∧
    takeArg ⟨st.regs, its⟩ (.iter i) = some ([], its) :=
  -- on `.iter i`, `takeArg st` is `takePairs st.iters` by definition
  takePairs_iter_one_shot st.iters its i ps h

/-- a dict / OrderedDict / keyword argument delivers each key of the raw pairs once, with the last value written -/
theorem otoA_dict_arg (st : OtoSt α) (raw : List (α × α)) :
    takeArg st (.dict raw) = some (putAll [] raw, st.iters) ∧ NodupKeys (putAll ([] : Dict α α) raw) ∧
    (∀ k, k ∈ keys (putAll ([] : Dict α α) raw) ↔ k ∈ keys raw) ∧
    (∀ (raw' : List (α × α)) k v a, lookup a (putAll ([] : Dict α α) (raw' ++ [(k, v)]))
      = if a = k then some v else lookup a (putAll ([] : Dict α α) raw')) := by
  refine ⟨rfl, nodupKeys_putAll _ _ nodupKeys_nil, fun k => ?_, fun raw' k v a => ?_⟩
  · rw [mem_keys_putAll]; simp [keys]
  · simp only [putAll, List.foldl_append, List.foldl_cons, List.foldl_nil]
    exact lookup_put a k v _

/-- `x.update(it)` with a held one-shot iterator whose remaining pairs do not collide with each other: ALL of them are
    installed on both sides - the first one included - and the iterator is left empty -/
theorem otoA_update_iter_installs_all (st st' : OtoSt α) (ret : Ret α) (r i : Nat) (s : OTO α) (ps : List (α × α))
    (hr : st.regs[r]? = some s) (w : s.WF) (hi : st.iters[i]? = some ps)
    (hk : (ps.map Prod.fst).Nodup) (hv : (ps.map Prod.snd).Nodup)
    (h : otoCmdA st (.update r false (.iter i) []) = some (st', ret)) :
    st'.regs[r]? = some (s.update ps) ∧ (∀ p ∈ ps, p ∈ (s.update ps).fwd ∧ swap p ∈ (s.update ps).inv) ∧
    st'.iters[i]? = some [] := by
  have hlt : i < st.iters.length := getElem?_lt hi
  have hrl : r < st.regs.length := getElem?_lt hr
  simp only [otoCmdA, lowerCmd, takeArg, hi, Option.map_some, putAll, List.foldl_nil, List.append_nil, otoCmd, hr,
    OTO.stepSide, OTO.step, Option.some.injEq, Prod.mk.injEq, Bool.false_eq_true, if_false] at h
  obtain ⟨e1, _⟩ := h
  subst e1
  exact ⟨by simp [hrl], oto_update_installs_all s w ps hk hv, by simp [hlt]⟩

/-! non-vacuity: an iterator of three pairs, one taken by the caller, passed to `update` (two pairs land), passed
    again to another instance's constructor (nothing left); a dict argument written with key 1 twice delivers
    `[(1, 6), (2, 6)]`, so `2: 6` evicts `1: 6` (the raw list applied in order would end with `1: 6`) -/
example : otoRunA (OtoSt.empty : OtoSt Nat)
    [.new .none [], .mkIter [(1, 2), (3, 4), (5, 6)], .next 0, .update 0 false (.iter 0) [(7, 8)], .new (.iter 0) [],
     .update 0 true (.dict [(1, 5), (2, 6), (1, 6)]) []]
    = some ⟨[⟨[(3, 4), (5, 6), (7, 8), (6, 2)], [(4, 3), (6, 5), (8, 7), (2, 6)]⟩, ⟨[], []⟩], [[]]⟩ := by decide +kernel
example : takeArg (⟨[], [[(3, 4), (5, 6)]]⟩ : OtoSt Nat) (.iter 0) = some ([(3, 4), (5, 6)], [[]]) := by decide +kernel

/-! ## ManyToMany

A history: constructors from pairs / mapping / another instance (either side), and
`add`, `remove`, `__setitem__`, `__delitem__`, `update` (pairs, mapping, or another
ManyToMany - also the instance itself or its own inverse), `replace`, through either side. -/

/-- ManyToMany is modelled as a class of its own (two dicts of sets, six mutators): that is only right while it
    inherits no mutating dict method from a builtin container - every one it has is a Python function of the class
    (`Generated.m2mForeignMutators` is regenerated from the evaluated class on every run) -/
theorem m2m_no_foreign_mutators : Generated.m2mForeignMutators = [] := by decide

/-- after any history every instance satisfies the invariant (both dicts have unique keys,
    no empty and no duplicated set element, `v ∈ data[k] ↔ k ∈ inv[v]`) -/
theorem m2m_invariant (cmds : List (M2MCmd α)) (regs : List (M2M α))
    (h : m2mRun [] cmds = some regs) : ∀ s ∈ regs, s.WF :=
  m2mRun_wf cmds AllWFm.nil h

/-- … hence `iteritems()` of the two sides yield exactly the same pairs, transposed -/
theorem m2m_same_pairs_transposed (cmds : List (M2MCmd α)) (regs : List (M2M α))
    (h : m2mRun [] cmds = some regs) (s : M2M α) (hs : s ∈ regs) (k v : α) :
    (k, v) ∈ iteritems s.data ↔ (v, k) ∈ iteritems s.inv :=
  (m2m_invariant cmds regs h s hs).iteritems_transposed k v

/-- … as lists: `list(x.inv.iteritems())` is a permutation of the swapped `list(x.iteritems())` (every pair
    exactly once on each side) … -/
theorem m2m_inv_perm (cmds : List (M2MCmd α)) (regs : List (M2M α))
    (h : m2mRun [] cmds = some regs) (s : M2M α) (hs : s ∈ regs) :
    (iteritems s.inv).Perm ((iteritems s.data).map swap) ∧ (iteritems s.inv).length = (iteritems s.data).length := by
  have hp := M2M.inv_perm (m2m_invariant cmds regs h s hs)
  exact ⟨hp, by simpa using hp.length_eq⟩

/-- … `iteritems()` yields no pair twice … -/
theorem m2m_pairs_nodup (cmds : List (M2MCmd α)) (regs : List (M2M α))
    (h : m2mRun [] cmds = some regs) (s : M2M α) (hs : s ∈ regs) :
    (iteritems s.data).Nodup ∧ (iteritems s.inv).Nodup := by
  have w := m2m_invariant cmds regs h s hs
  exact ⟨nodup_iteritems w.gd, nodup_iteritems w.gi⟩

/-- … with no empty entry and no key listed twice, on either side -/
theorem m2m_no_empty_entries (cmds : List (M2MCmd α)) (regs : List (M2M α))
    (h : m2mRun [] cmds = some regs) (s : M2M α) (hs : s ∈ regs) :
    (∀ p ∈ s.data, p.2 ≠ []) ∧ (∀ p ∈ s.inv, p.2 ≠ []) ∧ (keys s.data).Nodup ∧ (keys s.inv).Nodup := by
  have w := m2m_invariant cmds regs h s hs
  exact ⟨w.gd.ne_of_mem, w.gi.ne_of_mem, w.gd.nk, w.gi.nk⟩

/-- `x.inv.inv is x` -/
theorem m2m_inv_inv (s : M2M α) (op : M2MOp α) :
    s.flip.flip = s ∧ ((s.flip.stepSide true op).1.flip, (s.flip.stepSide true op).2) = s.stepSide false op :=
  ⟨rfl, rfl⟩

/-- a mutator (including `update(other)`) leaves every other instance - in particular the one it
    was built or updated from - exactly as it was -/
theorem m2m_isolation (regs regs' : List (M2M α)) (c : M2MCmd α) (ret : Ret α)
    (hc : m2mCmd regs c = some (regs', ret)) (j : Nat) (hj : j < regs.length)
    (ht : ∀ r side op, c = .op r side op → j ≠ r)
    (ht2 : ∀ r side r2 side2, c = .updateFrom r side r2 side2 → j ≠ r) :
    regs'[j]? = regs[j]? := by
  rcases m2mCmd_shape hc with ⟨s, rfl, _⟩ | ⟨r, s', rfl, _, ⟨side, op, rfl⟩ | ⟨side, r2, side2, rfl⟩⟩
  · exact List.getElem?_append_left hj
  · exact List.getElem?_set_ne (Ne.symm (ht r side op rfl))
  · exact List.getElem?_set_ne (Ne.symm (ht2 r side r2 side2 rfl))

/-- `x.inv.add(v, k)` is `x.add(k, v)`, `x.inv.remove(v, k)` is `x.remove(k, v)` - same dicts, same KeyError -/
theorem m2m_add_remove_through_inv (s : M2M α) (w : s.WF) (k v : α) :
    s.stepSide true (.add v k) = s.stepSide false (.add k v) ∧
    s.stepSide true (.remove v k) = s.stepSide false (.remove k v) := by
  constructor
  · rfl
  · have t := w.transpose k v
    by_cases h : v ∈ getSet k s.data
    · have h' := t.1 h
      simp [M2M.stepSide, M2M.step, M2M.remove, M2M.flip, M2M.removeRaw, h, h']
    · have h' : ¬ k ∈ getSet v s.inv := fun x => h (t.2 x)
      simp [M2M.stepSide, M2M.step, M2M.remove, M2M.flip, h, h']
example : (M2M.empty.updatePairs [(1, 5), (2, 5)] : M2M Nat).stepSide true (.remove 5 1) = (⟨[(2, [5])], [(5, [2])]⟩, .none) ∧
    ((M2M.empty.updatePairs [(1, 5), (2, 5)] : M2M Nat).stepSide true (.remove 5 7)).2 = .err .KeyError := by decide +kernel

/-! what each mutator does to the relation (forward side; the inverse side follows by the invariant) -/

theorem m2m_add_spec (s : M2M α) (k v a x : α) :
    x ∈ getSet a (s.add k v).data ↔ x ∈ getSet a s.data ∨ (a = k ∧ x = v) :=
  mem_getSet_addTo s.data k v a x

theorem m2m_remove_spec (s : M2M α) (k v a x : α) :
    x ∈ getSet a (s.remove k v).1.data ↔ x ∈ getSet a s.data ∧ ¬ (a = k ∧ x = v) := by
  unfold M2M.remove
  split
  · exact mem_getSet_removeFrom s.data k v a x
  · next hn =>
    simp only
    constructor
    · intro hx
      refine ⟨hx, ?_⟩
      rintro ⟨e1, e2⟩
      subst e1; subst e2; exact hn hx
    · exact fun hx => hx.1

theorem m2m_setitem_spec (s : M2M α) (w : s.WF) (k : α) (vals : List α) (a x : α) :
    x ∈ getSet a (s.setitem k vals).data ↔ if a = k then x ∈ vals else x ∈ getSet a s.data := by
  unfold M2M.setitem
  split
  · rw [M2M.foldAdd_data, M2M.foldRemove_data, mem_filter_notin, mem_filter_notin, mem_toSet]
    grind
  · next hk =>
    rw [M2M.foldAdd_data, mem_toSet]
    have := getSet_of_not_hasKey hk
    grind

theorem m2m_delitem_spec (s : M2M α) (k a x : α) (hk : hasKey k s.data = true) :
    x ∈ getSet a (s.delitem k).1.data ↔ a ≠ k ∧ x ∈ getSet a s.data := by
  unfold M2M.delitem
  rw [if_pos hk]
  show x ∈ getSet a (erase k s.data) ↔ _
  rw [getSet_erase]; split <;> simp_all

/-- `update(pairs)` / `update(mapping)` (and each `add` of it): the union with the pairs given -/
theorem m2m_update_pairs_spec (s : M2M α) (ps : List (α × α)) (a x : α) :
    x ∈ getSet a (s.updatePairs ps).data ↔ x ∈ getSet a s.data ∨ (a, x) ∈ ps :=
  M2M.updatePairs_data s ps a x

/-- the constructors: `ManyToMany(pairs)` yields exactly the pairs given, `ManyToMany(other)` exactly the pairs of
    `other` (in fresh set objects: `hm2m_separation` / `hm2m_isolation`) -/
theorem m2m_ctor_spec (ps : List (α × α)) (o : M2M α) (wo : o.WF) (a x : α) :
    ((a, x) ∈ iteritems (M2M.empty.updatePairs ps : M2M α).data ↔ (a, x) ∈ ps) ∧
    ((a, x) ∈ iteritems (M2M.empty.updateFrom o).data ↔ (a, x) ∈ iteritems o.data) :=
  ⟨M2M.ctor_pairs ps a x, M2M.ctor_from wo a x⟩

/-- `replace(k, nk)` renames `k` to `nk` in every pair, merging into pairs `nk` already has -/
theorem m2m_replace_spec (s : M2M α) (w : s.WF) (k nk a x : α) :
    x ∈ getSet a (s.replace k nk).data ↔ (a ≠ k ∧ x ∈ getSet a s.data) ∨ (a = nk ∧ x ∈ getSet k s.data) := by
  unfold M2M.replace
  split
  · show x ∈ getSet a (mergeKey nk (getSet k s.data) (erase k s.data)) ↔ _
    rw [mem_getSet_mergeKey, getSet_erase]
    by_cases e : a = k
    · subst e; simp
    · simp [e]
  · next hk =>
    have := getSet_of_not_hasKey hk
    rw [this]; simp
    intro hx e; subst e; rw [this] at hx; simp at hx

/-- `update(other)`: the union of the two relations -/
theorem m2m_update_spec (s o : M2M α) (wo : o.WF) (a x : α) :
    x ∈ getSet a (s.updateFrom o).data ↔ x ∈ getSet a s.data ∨ x ∈ getSet a o.data :=
  M2M.updateFrom_data wo a x

/-- a call made through `.inv` does to the relation, read transposed, what the same call made through the object does
    to the relation: `x` is under `a` afterwards iff `a` is under `x` in what `op` makes of the inverse object -/
theorem m2m_through_inv_transposed (s : M2M α) (w : s.WF) (op : M2MOp α) (a x : α) :
    x ∈ getSet a (s.stepSide true op).1.data ↔ a ∈ getSet x (s.flip.step op).1.data := by
  have w2 := w.flip.step op
  show x ∈ getSet a (s.flip.step op).1.inv ↔ _
  exact (w2.transpose x a).symm

/-- hence: `del x.inv[v]` drops exactly the pairs whose value is `v`; `x.inv[v] = ks` makes `ks` the keys holding `v`
    and touches no other value; `x.inv.replace(v, nv)` renames the value `v` to `nv` in every pair -/
theorem m2m_mutators_through_inv (s : M2M α) (w : s.WF) (v nv : α) (ks : List α) (a x : α) :
    (hasKey v s.inv = true → (x ∈ getSet a (s.stepSide true (.delitem v)).1.data ↔ x ≠ v ∧ x ∈ getSet a s.data)) ∧
    (x ∈ getSet a (s.stepSide true (.setitem v ks)).1.data ↔ if x = v then a ∈ ks else x ∈ getSet a s.data) ∧
    (x ∈ getSet a (s.stepSide true (.replace v nv)).1.data ↔
      (x ≠ v ∧ x ∈ getSet a s.data) ∨ (x = nv ∧ v ∈ getSet a s.data)) := by
  have wf := w.flip
  have t : ∀ p q : α, p ∈ getSet q s.inv ↔ q ∈ getSet p s.data := fun p q => (w.transpose p q).symm
  refine ⟨fun hk => ?_, ?_, ?_⟩
  · rw [m2m_through_inv_transposed s w]
    show a ∈ getSet x (s.flip.delitem v).1.data ↔ _
    rw [m2m_delitem_spec s.flip v x a hk]
    show x ≠ v ∧ a ∈ getSet x s.inv ↔ _
    rw [t]
  · rw [m2m_through_inv_transposed s w]
    show a ∈ getSet x (s.flip.setitem v ks).data ↔ _
    rw [m2m_setitem_spec s.flip wf v ks x a]
    split
    · rfl
    · show a ∈ getSet x s.inv ↔ _
      rw [t]
  · rw [m2m_through_inv_transposed s w]
    show a ∈ getSet x (s.flip.replace v nv).data ↔ _
    rw [m2m_replace_spec s.flip wf v nv x a]
    show (x ≠ v ∧ a ∈ getSet x s.inv) ∨ (x = nv ∧ a ∈ getSet v s.inv) ↔ _
    rw [t, t]

/-- non-vacuity: `del x.inv[5]` on pairs (1,5) (2,5) (2,6) leaves (2,6); `x.inv[6] = [1]` moves value 6 from key 2 to key 1 -/
example : ((M2M.empty.updatePairs [(1, 5), (2, 5), (2, 6)] : M2M Nat).stepSide true (.delitem 5)).1 = ⟨[(2, [6])], [(6, [2])]⟩ ∧
    hasKey 5 (M2M.empty.updatePairs [(1, 5), (2, 5), (2, 6)] : M2M Nat).inv = true ∧
    ((M2M.empty.updatePairs [(1, 5), (2, 5), (2, 6)] : M2M Nat).stepSide true (.setitem 6 [1])).1
      = ⟨[(1, [5, 6]), (2, [5])], [(5, [1, 2]), (6, [1])]⟩ := by decide +kernel

/-! the readers (`m[k]`, `get`, `in`, `len`, `keys()` / `iter`): inside the model, compared by the
    correspondence on every dump -/

/-- after any history the readers of an instance tell the same story as `iteritems()`: `v in m.get(k)` iff the pair is
    there; `k in m` iff `k` has a pair (no empty entry is ever visible); `m[k]` raises KeyError exactly for `k not in m`
    and is otherwise the non-empty `m.get(k)`; `keys()` lists each key once, `len(m)` counts them -/
theorem m2m_readers_agree (cmds : List (M2MCmd α)) (regs : List (M2M α))
    (h : m2mRun [] cmds = some regs) (s : M2M α) (hs : s ∈ regs) (k v : α) :
    (v ∈ s.get k ↔ (k, v) ∈ iteritems s.data) ∧
    (s.contains k = true ↔ ∃ x, (k, x) ∈ iteritems s.data) ∧
    (s.getitem k = none ↔ s.contains k = false) ∧
    (∀ vs, s.getitem k = some vs → vs = s.get k ∧ vs ≠ [] ∧ vs.Nodup ∧ s.contains k = true) ∧
    s.keysList.Nodup ∧ s.len = s.keysList.length ∧ (k ∈ s.keysList ↔ s.contains k = true) := by
  have w := m2m_invariant cmds regs h s hs
  exact ⟨M2M.mem_get w k v, M2M.contains_iff w k, (M2M.getitem_spec w k).1, (M2M.getitem_spec w k).2,
    M2M.keysList_nodup w, M2M.len_eq s, M2M.mem_keysList s k⟩

/-- … and the readers of `.inv` are those of the instance, transposed: `k in m.inv.get(v)` iff `v in m.get(k)`;
    `v in m.inv` iff some key holds `v` -/
theorem m2m_readers_transposed (cmds : List (M2MCmd α)) (regs : List (M2M α))
    (h : m2mRun [] cmds = some regs) (s : M2M α) (hs : s ∈ regs) (k v : α) :
    (k ∈ s.flip.get v ↔ v ∈ s.get k) ∧ (s.flip.contains v = true ↔ ∃ a, v ∈ s.get a) :=
  M2M.readers_transposed (m2m_invariant cmds regs h s hs) k v

/-- a reader through `.inv.inv` is the reader of the instance -/
theorem m2m_readers_inv_inv (s : M2M α) (k : α) :
    s.flip.flip.get k = s.get k ∧ s.flip.flip.contains k = s.contains k ∧ s.flip.flip.len = s.len := ⟨rfl, rfl, rfl⟩

/-! non-vacuity: the readers on a state with a shared value and a key that was emptied and dropped -/
example : m2mRun ([] : List (M2M Nat)) [.new [(1, 5), (2, 5), (2, 6)], .op 0 false (.remove 1 5)]
    = some [⟨[(2, [5, 6])], [(5, [2]), (6, [2])]⟩] := by decide +kernel
example : let s : M2M Nat := ⟨[(2, [5, 6])], [(5, [2]), (6, [2])]⟩
    s.get 2 = [5, 6] ∧ s.get 1 = [] ∧ s.getitem 1 = none ∧ s.contains 1 = false ∧ s.contains 2 = true ∧ s.len = 1 ∧
    s.keysList = [2] ∧ s.flip.get 5 = [2] ∧ s.flip.len = 2 := by decide +kernel

/-! non-vacuity: replace onto an existing key, update from the own inverse, then mutate the source -/
example : m2mRun ([] : List (M2M Nat))
    [.new [(1, 5), (2, 5), (2, 6)], .op 0 false (.replace 1 2), .newFrom 0 true,
     .updateFrom 1 false 1 true, .op 0 true (.delitem 5)]
    = some [⟨[(2, [6])], [(6, [2])]⟩,
            ⟨[(5, [2]), (6, [2]), (2, [5, 6])], [(2, [5, 6]), (5, [2]), (6, [2])]⟩] := by decide +kernel

/-- a state satisfying the `WF` hypotheses of the specification theorems -/
example : (M2M.empty.updatePairs [(1, 5), (2, 5), (2, 6)] : M2M Nat).WF := M2M.WF.empty.updatePairs _
example : ((M2M.empty.updatePairs [(1, 5), (2, 5), (2, 6)] : M2M Nat).replace 1 2) = ⟨[(2, [5, 6])], [(5, [2]), (6, [2])]⟩ := by
  decide +kernel
example : hasKey 2 (M2M.empty.updatePairs [(1, 5), (2, 5), (2, 6)] : M2M Nat).data = true := by decide +kernel

/-! ## ManyToMany, heap level: set OBJECTS with identities (`Heap.lean`)

In the by-value model above an instance cannot hold "another instance's set object", so `m2m_isolation` there says
nothing about aliasing.  The heap-level machine follows the class statement by statement - which statement creates a
set object, which one stores a reference, which one mutates in place - with all instances sharing one heap. -/

/-- no aliasing: after ANY history - `update(other)` / `ManyToMany(other)` from either side of any instance,
    the instance itself and its own inverse included - every set object is referenced from exactly one key of one
    side of one instance, and every reference points into the heap -/
theorem hm2m_separation (cmds : List (M2MCmd α)) (st : HState α)
    (h : hm2mRun HState.empty cmds = some st) : HSep st :=
  hm2mRun_sep cmds HSep.empty h

/-- … hence a command changes no instance but its target: every other instance - in particular one the target was
    built or updated from - keeps the very same references, the set objects they point to are untouched, and so it
    is the same by value -/
theorem hm2m_isolation (cmds : List (M2MCmd α)) (st st' : HState α) (c : M2MCmd α) (ret : Ret α)
    (h : hm2mRun HState.empty cmds = some st) (hc : hm2mCmd st c = some (st', ret))
    (j : Nat) (s : HInst α) (hj : st.regs[j]? = some s) (ht : j ≠ c.target st.regs.length) :
    st'.regs[j]? = some s ∧ (∀ i ∈ idsI s, cell st'.heap i = cell st.heap i) ∧ s.abs st'.heap = s.abs st.heap := by
  obtain ⟨h1, h2⟩ := (hm2mCmd_sep (hm2m_separation cmds st h) hc).frame j s ht hj
  exact ⟨h1, h2, abs_congr _ _ _ h2⟩

/-- the refinement: for EVERY history,
    self-updates `x.update(x)` / `x.update(x.inv)` included, the heap-level machine (set objects with identities, every
    statement followed literally, the other instance's cells read live) shows by value exactly what the by-value
    machine shows: the same dicts in the same order, register by register (return values / KeyError: `hm2m_refines_cmd`) -/
theorem hm2m_refines (cmds : List (M2MCmd α)) (st : HState α)
    (h : hm2mRun HState.empty cmds = some st) : m2mRun [] cmds = some st.abs :=
  hm2mRun_sim cmds HSep.empty AllWFm.nil h

/-- one command, from any state a history can reach: same registers by value afterwards, same return value / KeyError -/
theorem hm2m_refines_cmd (cmds : List (M2MCmd α)) (st st' : HState α) (c : M2MCmd α) (ret : Ret α)
    (h : hm2mRun HState.empty cmds = some st) (hc : hm2mCmd st c = some (st', ret)) :
    m2mCmd st.abs c = some (st'.abs, ret) :=
  hm2mCmd_sim (hm2m_separation cmds st h)
    (hm2mRun_wf cmds HSep.empty AllWFm.nil h) hc

/-- what the by-value machine does for a self-update: `x.update(x)` leaves the register as it is, `x.update(x.inv)`
    (through either side) makes it `selfMerge` - whose content `hm2m_self_update_spec` describes -/
theorem m2m_self_update_cmd (regs : List (M2M α)) (r : Nat) (s : M2M α) (side : Bool) (hr : regs[r]? = some s) :
    m2mCmd regs (.updateFrom r side r side) = some (regs, .none) ∧
    m2mCmd regs (.updateFrom r side r (!side)) = some (regs.set r ((selfMerge (s.side side)).side side), .none) := by
  constructor
  · simp only [m2mCmd, hr, decide_true, M2M.updateFromReg_same]
    rw [set_same hr]
  · simp only [m2mCmd, hr, decide_true, M2M.updateFromReg_opp]

/-- heap level: after ANY history - self-updates included (`x.update(x)` changes nothing, `x.update(x.inv)` is
    `selfMerge`) - every instance, read
    through its references, satisfies the invariant: unique keys, no empty and no duplicated set element,
    `v ∈ data[k] ↔ k ∈ inv[v]` -/
theorem hm2m_invariant (cmds : List (M2MCmd α)) (st : HState α)
    (h : hm2mRun HState.empty cmds = some st) : ∀ s ∈ st.regs, (s.abs st.heap).WF := by
  intro s hs
  exact hm2mRun_wf cmds HSep.empty AllWFm.nil h _
    (List.mem_map_of_mem (f := HInst.abs st.heap) hs)

/-- … hence, at heap level too, `iteritems()` of the two sides yield exactly the same pairs transposed, with no
    empty entry on either side -/
theorem hm2m_same_pairs_transposed (cmds : List (M2MCmd α)) (st : HState α)
    (h : hm2mRun HState.empty cmds = some st) (s : HInst α) (hs : s ∈ st.regs) (k v : α) :
    ((k, v) ∈ iteritems (deref st.heap s.data) ↔ (v, k) ∈ iteritems (deref st.heap s.inv)) ∧
    (∀ p ∈ deref st.heap s.data, p.2 ≠ []) ∧ (∀ p ∈ deref st.heap s.inv, p.2 ≠ []) := by
  have w := hm2m_invariant cmds st h s hs
  exact ⟨w.iteritems_transposed k v, w.gd.ne_of_mem, w.gi.ne_of_mem⟩

/-- … and at heap level the readers (which dereference the instance's own set objects) agree with `iteritems()` and
    with the readers of the other side, after any history -/
theorem hm2m_readers_agree (cmds : List (M2MCmd α)) (st : HState α)
    (h : hm2mRun HState.empty cmds = some st) (s : HInst α) (hs : s ∈ st.regs) (k v : α) :
    (v ∈ (s.abs st.heap).get k ↔ (k, v) ∈ iteritems (deref st.heap s.data)) ∧
    ((s.abs st.heap).contains k = true ↔ ∃ x, (k, x) ∈ iteritems (deref st.heap s.data)) ∧
    ((s.abs st.heap).getitem k = none ↔ (s.abs st.heap).contains k = false) ∧
    (k ∈ (s.abs st.heap).flip.get v ↔ v ∈ (s.abs st.heap).get k) ∧
    (s.abs st.heap).len = (s.abs st.heap).keysList.length := by
  have w := hm2m_invariant cmds st h s hs
  exact ⟨M2M.mem_get w k v, M2M.contains_iff w k, (M2M.getitem_spec w k).1, (M2M.readers_transposed w k v).1,
    M2M.len_eq _⟩

/-- what `x.update(x.inv)` leaves in `x`: the union of the relation and its transpose -/
theorem hm2m_self_update_spec (A : M2M α) (w : A.WF) (a x : α) :
    (selfMerge A).WF ∧ (x ∈ getSet a (selfMerge A).data ↔ x ∈ getSet a A.data ∨ x ∈ getSet a A.inv) := by
  refine ⟨selfMerge_wf w, ?_⟩
  exact foldMerge_mem w.gi A.data a x

/-! non-vacuity: build, replace onto an existing key, copy through the inverse side, update the copy from its own
    inverse, mutate the source: four set objects for instance 0 (cells 0 and 1 dropped by `replace` / `del`), six
    fresh ones for the copy, nothing shared -/
example : hm2mRun (HState.empty : HState Nat)
    [.new [(1, 5), (2, 5), (2, 6)], .op 0 false (.replace 1 2), .newFrom 0 true,
     .updateFrom 1 false 1 true, .op 0 true (.delitem 5)]
    = some ⟨[[5], [2], [6], [2], [2], [2], [5, 6], [5, 6], [2], [2]],
            [⟨[(2, 2)], [(6, 3)]⟩, ⟨[(5, 4), (6, 5), (2, 7)], [(2, 6), (5, 8), (6, 9)]⟩]⟩ := by decide +kernel

/-- a history WITH self-updates through both sides: covered by `hm2m_separation` / `hm2m_invariant` -/
example : (hm2mRun (HState.empty : HState Nat)
    [.new [(1, 5), (2, 6)], .updateFrom 0 false 0 true, .updateFrom 0 true 0 true, .op 0 true (.remove 5 1)]).map HState.abs
    = some [⟨[(2, [6]), (5, [1]), (6, [2])], [(6, [2]), (1, [5]), (2, [6])]⟩] := by decide +kernel

/-- the two machines on that history, as `hm2m_refines` says: identical dicts, order included -/
example : m2mRun ([] : List (M2M Nat))
    [.new [(1, 5), (2, 6)], .updateFrom 0 false 0 true, .updateFrom 0 true 0 true, .op 0 true (.remove 5 1)]
    = some [⟨[(2, [6]), (5, [1]), (6, [2])], [(6, [2]), (1, [5]), (2, [6])]⟩] := by decide +kernel

/-- what the invariant excludes, and the heap-level machine can express: an instance 1 that stores instance 0's
    set objects - `x0.add(6, 4)` then shows up in instance 1, on one side only -/
example : (hm2mCmd (⟨[[2], [6]], [⟨[(6, 0)], [(2, 1)]⟩, ⟨[(6, 0)], [(2, 1)]⟩]⟩ : HState Nat) (.op 0 false (.add 6 4))).map
      (fun p => p.1.abs)
    = some [⟨[(6, [2, 4])], [(2, [6]), (4, [6])]⟩, ⟨[(6, [2, 4])], [(2, [6])]⟩] := by decide +kernel

/-! ## ManyToMany, caller level (`Args.lean`)

Arguments as the caller built them: a mapping is walked by `keys()` / `[k]` (each key once, last value), a list or
iterator of pairs in one lazy pass, another ManyToMany by the two-loop merge; one-shot iterators are objects the caller
may keep, consume from and pass again.  The lowering looks only at the iterator store, so both machines run the same
lowered history. -/

/-- caller level, by value: after any caller-level history every instance satisfies the invariant - the two
    sides hold the same pairs transposed, no empty entry -/
theorem m2mA_invariant (cmds : List (M2MCmdA α)) (st : M2MSt α) (h : m2mRunA M2MSt.empty cmds = some st) :
    ∀ s ∈ st.regs, s.WF ∧ (∀ k v, (k, v) ∈ iteritems s.data ↔ (v, k) ∈ iteritems s.inv) ∧
      (∀ p ∈ s.data, p.2 ≠ []) ∧ (∀ p ∈ s.inv, p.2 ≠ []) := by
  rw [m2mRunA_eq] at h
  obtain ⟨p, _, h2⟩ := Option.bind_eq_some_iff.1 h
  obtain ⟨regs, hr, rfl⟩ := Option.map_eq_some_iff.1 h2
  intro s hs
  have w := m2m_invariant p.1 regs hr s hs
  exact ⟨w, m2m_same_pairs_transposed p.1 regs hr s hs, w.gd.ne_of_mem, w.gi.ne_of_mem⟩

/-- caller level, heap: the heap-level machine (set objects with identities) driven by a caller-level history
    shows by value exactly what the by-value machine shows, leaves the iterators in the same state, and no set object
    is referenced twice -/
theorem hm2mA_refines (cmds : List (M2MCmdA α)) (s : HM2MSt α) (h : hm2mRunA HM2MSt.empty cmds = some s) :
    m2mRunA M2MSt.empty cmds = some ⟨s.st.abs, s.iters⟩ ∧ HSep s.st := by
  rw [hm2mRunA_eq] at h
  obtain ⟨p, hl, h2⟩ := Option.bind_eq_some_iff.1 h
  obtain ⟨st', hr, rfl⟩ := Option.map_eq_some_iff.1 h2
  refine ⟨?_, hm2m_separation p.1 st' hr⟩
  have hv : m2mRun (M2MSt.empty : M2MSt α).regs p.1 = some st'.abs := hm2m_refines p.1 st' hr
  rw [m2mRunA_eq, show (M2MSt.empty : M2MSt α).iters = (HM2MSt.empty : HM2MSt α).iters from rfl, hl]
  simp only [Option.bind_some, hv, Option.map_some]

/-- a held one-shot iterator gives what it has left to the one pass made over it and is empty afterwards -/
theorem m2mA_iter_one_shot (its its' : List (List (α × α))) (i : Nat) (ps : List (α × α))
    (h : takePairs its (.iter i) = some (ps, its')) :
    its[i]? = some ps ∧ its'[i]? = some [] ∧ (∀ j, j ≠ i → its'[j]? = its[j]?) ∧
    takePairs its' (.iter i) = some ([], its') :=
  takePairs_iter_one_shot its its' i ps h

/-- what the argument kinds lower to: a mapping is `add(k, m[k])` for each key once (last value), another ManyToMany
    the two-loop merge, `ManyToMany(other)` the merge into a fresh instance -/
theorem m2mA_lowering (its : List (List (α × α))) (r r2 : Nat) (side side2 : Bool) (raw : List (α × α)) :
    lowerM its (.update r side (.dict raw)) = some (some (.op r side (.update (putAll [] raw))), its) ∧
    lowerM its (.update r side (.pairs raw)) = some (some (.op r side (.update raw)), its) ∧
    lowerM its (.update r side (.reg r2 side2)) = some (some (.updateFrom r side r2 side2), its) ∧
    lowerM its (.new (.reg r2 side2)) = some (some (.newFrom r2 side2), its) ∧
    lowerM its (.new (.dict raw)) = some (some (.new (putAll [] raw)), its) := ⟨rfl, rfl, rfl, rfl, rfl⟩

/-! non-vacuity: a mapping written with key 1 twice adds only `(1, 6)`, the same pairs as a list add both; an iterator
    of three pairs, one taken by the caller, then passed to `update` and again to a constructor (nothing left); a copy
    through the inverse side, updated from itself - on both machines -/
example : m2mRunA (M2MSt.empty : M2MSt Nat)
    [.new (.dict [(1, 5), (1, 6)]), .new (.pairs [(1, 5), (1, 6)]), .mkIter [(7, 8), (7, 9), (2, 9)], .next 0,
     .update 0 true (.iter 0), .new (.iter 0), .update 1 false (.reg 1 true)]
    = some ⟨[⟨[(1, [6]), (9, [7, 2])], [(6, [1]), (7, [9]), (2, [9])]⟩,
             ⟨[(1, [5, 6]), (5, [1]), (6, [1])], [(5, [1]), (6, [1]), (1, [5, 6])]⟩, ⟨[], []⟩], [[]]⟩ := by decide +kernel
example : (hm2mRunA (HM2MSt.empty : HM2MSt Nat)
    [.new (.dict [(1, 5), (1, 6)]), .new (.pairs [(1, 5), (1, 6)]), .mkIter [(7, 8), (7, 9), (2, 9)], .next 0,
     .update 0 true (.iter 0), .new (.iter 0), .update 1 false (.reg 1 true)]).map (fun s => (s.st.abs, s.iters))
    = some ([⟨[(1, [6]), (9, [7, 2])], [(6, [1]), (7, [9]), (2, [9])]⟩,
             ⟨[(1, [5, 6]), (5, [1]), (6, [1])], [(5, [1]), (6, [1]), (1, [5, 6])]⟩, ⟨[], []⟩], [[]]) := by decide +kernel

/-! ## FrozenDict

`Generated.frozenBlocked` / `Generated.frozenRaises` are read off the evaluated class (bases before `dict` included) on
every run; the model blocks a mutator iff its name is in that list, so the next two theorems re-check
the source's table. -/

/-- the model's list of mutating dict methods is complete for the interpreter the check runs under: every method
    `dict` has there is either one of the eight mutators or a known non-mutator, and all eight exist -/
theorem dict_methods_classified :
    (∀ n ∈ Generated.dictMethods, n ∈ dictMutators ∨ n ∈ dictNonMutators) ∧
    (∀ n ∈ dictMutators, n ∈ Generated.dictMethods) ∧ (∀ n ∈ dictMutators, n ∉ dictNonMutators) := by decide +kernel

/-- every mutating `dict` method resolves, on the evaluated class, to a function that does nothing but raise -/
theorem fd_all_mutators_blocked : ∀ n ∈ dictMutators, n ∈ Generated.frozenBlocked :=
  fun n hn => List.contains_iff_mem.1 (blocked_all n hn)

/-- every mutating dict operation raises TypeError and leaves the FrozenDict unchanged -/
theorem fd_mutators_raise (s : FD) (m : Mut) : s.mutate m = (s, .err .TypeError) :=
  FD.mutate_blocked s m

/-- after any history of mutator attempts and `hash()` calls the items are what they were … -/
theorem fd_history_unchanged (ps : List (Nat × FVal)) (ops : List FdOp) :
    ((FD.ofPairs ps).run ops).items = (FD.ofPairs ps).items :=
  FD.run_items _ ops

/-- … and every `hash()` call, first or cached, yields the hash of those items (a FrozenHashError
    is replayed just as consistently: `none`) -/
theorem fd_hash_stable (ps : List (Nat × FVal)) (ops : List FdOp) :
    ((FD.ofPairs ps).run ops).hash.2 = hashOf (FD.ofPairs ps).items := by
  rw [FD.hash_of_cacheOk _ ((FD.Reach.ofPairs ps).run ops).ok.cache, FD.run_items]

/-- equal FrozenDicts have equal hashes regardless of insertion order (`dictEq` is Python's
    `dict.__eq__`; the hash is a function of the canonical item set) -/
theorem fd_hash_order_independent (ps qs : List (Nat × FVal))
    (h : dictEq (FD.ofPairs ps).items (FD.ofPairs qs).items = true) :
    (FD.ofPairs ps).hash.2 = (FD.ofPairs qs).hash.2 :=
  hashOf_eq_of_dictEq _ _ (FD.ofPairs_nodup ps) (FD.ofPairs_nodup qs) h

/-- hashing fails (FrozenHashError) exactly when some value is unhashable -/
theorem fd_unhashable_iff (ps : List (Nat × FVal)) :
    (FD.ofPairs ps).hash.2 = none ↔ ∃ p ∈ (FD.ofPairs ps).items, p.2.hashable = false :=
  hashOf_none_iff _

/-- pickle / deepcopy (`type(self)(dict(self))`) and `copy()` return an equal value with an equal
    hash; `updated()` builds a new object (the original is not an argument of any later change) -/
theorem fd_rebuild_equal (ps : List (Nat × FVal)) :
    (FD.ofPairs ps).rebuild.items = (FD.ofPairs ps).items ∧
    dictEq (FD.ofPairs ps).copyItems (FD.ofPairs ps).items = true ∧
    (FD.ofPairs ps).rebuild.hash.2 = (FD.ofPairs ps).hash.2 := by
  have hn := FD.ofPairs_nodup ps
  have hr := FD.rebuild_items _ hn
  refine ⟨hr, dictEq_refl _ hn, ?_⟩
  show hashOf (FD.ofPairs ps).rebuild.items = hashOf (FD.ofPairs ps).items
  rw [hr]

/-- pickle / deepcopy of any FrozenDict `s` whose hash is ALREADY cached (under any atom hashing `ρ`): the
    clone carries no hash of its own, so wherever it comes to life (atoms hashing as `ρ'` - another
    process, another hash seed, re-created identity-hashed objects) its hash is the hash of ITS OWN
    items, i.e. that of a fresh FrozenDict built from them, and of every dict-equal FrozenDict there -/
theorem fd_clone_hash_own_items (ρ ρ' : Nat → Nat) (s : FD) :
    ((s.hashIn ρ).1.rebuild.hashIn ρ').2 = hashOfIn ρ' (s.hashIn ρ).1.rebuild.items ∧
    ((s.hashIn ρ).1.rebuild.hashIn ρ').2 = ((FD.ofPairs (s.hashIn ρ).1.rebuild.items).hashIn ρ').2 ∧
    (s.hashIn ρ).1.cloneHashOwn ρ ρ' = true ∧
    ∀ qs, dictEq (s.hashIn ρ).1.rebuild.items (FD.ofPairs qs).items = true →
      ((s.hashIn ρ).1.rebuild.hashIn ρ').2 = ((FD.ofPairs qs).hashIn ρ').2 := by
  have key : ∀ t : FD, (t.rebuild.hashIn ρ').2 = hashOfIn ρ' t.rebuild.items ∧
      ((FD.ofPairs t.rebuild.items).hashIn ρ').2 = hashOfIn ρ' t.rebuild.items := by
    intro t
    refine ⟨FD.hashIn_fresh ρ' _ rfl, ?_⟩
    rw [FD.hashIn_fresh ρ' _ rfl, FD.ofPairs_items_of_nodup _ (FD.rebuild_nodup t)]
  obtain ⟨h1, h2⟩ := key (s.hashIn ρ).1
  refine ⟨h1, h1.trans h2.symm, ?_, ?_⟩
  · unfold FD.cloneHashOwn
    rw [FD.hashIn_idem, h1, h2]; simp
  · intro qs hq
    rw [h1, FD.hashIn_fresh ρ' _ rfl]
    exact hashOfIn_eq_of_dictEq ρ' _ _ (FD.rebuild_nodup _) (FD.ofPairs_nodup qs) hq

/-- ANY two FrozenDicts a program can get hold of (constructor, `fromkeys`, `updated()` results, pickle /
    deepcopy clones, each after any `hash()` calls and mutator attempts, so with the `_hash` slot set or not)
    that are equal as dicts hash alike - or both raise FrozenHashError -/
theorem fd_equal_hash_reachable (s t : FD) (hs : FD.Reach s) (ht : FD.Reach t)
    (h : dictEq s.items t.items = true) : s.hash.2 = t.hash.2 :=
  FD.hash_eq_of_ok hs.ok ht.ok h

/-- what `updated()` / `fromkeys()` hand out is content-hashed on ITS OWN items whatever the original had
    cached: it equals, and hashes like, a fresh FrozenDict built from its items in the opposite order -/
theorem fd_derived_hash_own_items (s : FD) (hs : FD.Reach s) (ps : List (Nat × FVal)) (ks : List Nat) (v : FVal) :
    (dictEq (s.updated ps).items (FD.ofPairs (s.updated ps).items.reverse).items = true ∧
      (s.updated ps).hash.2 = (FD.ofPairs (s.updated ps).items.reverse).hash.2) ∧
    (dictEq (FD.fromkeys ks v).items (FD.ofPairs (FD.fromkeys ks v).items.reverse).items = true ∧
      (FD.fromkeys ks v).hash.2 = (FD.ofPairs (FD.fromkeys ks v).items.reverse).hash.2) := by
  have key : ∀ u : FD, FD.Reach u → dictEq u.items (FD.ofPairs u.items.reverse).items = true ∧
      u.hash.2 = (FD.ofPairs u.items.reverse).hash.2 := by
    intro u hu
    have he : dictEq u.items (FD.ofPairs u.items.reverse).items = true := by
      rw [FD.ofPairs_items_of_nodup _ (nodupKeys_reverse _ hu.ok.nodup)]; exact dictEq_reverse _ hu.ok.nodup
    exact ⟨he, FD.hash_eq_of_ok hu.ok (FD.Ok.ofPairs _) he⟩
  exact ⟨key _ (hs.updated ps), key _ (.fromkeys ks v)⟩

/-- `updated(pairs)`: a key of `pairs` gets its last value there, every other key keeps its value -/
theorem fd_updated_spec (s : FD) (ps : List (Nat × FVal)) (k : Nat) (v : FVal) (a : Nat) :
    lookup a (s.updated (ps ++ [(k, v)])).items = if a = k then some v else lookup a (s.updated ps).items := by
  simp only [FD.updated, putAll, List.foldl_append, List.foldl_cons, List.foldl_nil]
  exact lookup_put a k v _

/-- two reachable states with different histories and cache contents, equal as dicts: the original with its hash
    cached and then overwritten by `updated`, against a pickle clone of a differently ordered FrozenDict -/
example : FD.Reach ((FD.ofPairs [(1, .h 3), (2, .h 0)]).hash.1.updated [(1, .h 4)]) ∧
    FD.Reach (FD.ofPairs [(2, .h 0), (1, .h 4)]).hash.1.rebuild ∧
    dictEq ((FD.ofPairs [(1, .h 3), (2, .h 0)]).hash.1.updated [(1, .h 4)]).items
      (FD.ofPairs [(2, .h 0), (1, .h 4)]).hash.1.rebuild.items = true :=
  ⟨.updated _ (.hash (.ofPairs _)), .rebuild (.hash (.ofPairs _)), by decide⟩
example : ((FD.ofPairs [(1, .h 3), (2, .h 0)]).hash.1.updated [(1, .h 4)]).hash.2 = some [(1, 4), (2, 0)] := by decide +kernel
example : dictEq (FD.ofPairs [(1, .h 3), (2, .h 0), (1, .h 4)]).items (FD.ofPairs [(2, .h 0), (1, .h 4)]).items = true := by decide +kernel
example : (FD.ofPairs [(1, .h 3), (2, .h 0), (1, .h 4)]).hash.2 = some [(1, 4), (2, 0)] := by decide +kernel
example : (FD.ofPairs [(1, .h 3), (2, .u 0)]).hash.2 = none := by decide +kernel

/-- the situation of `fd_clone_hash_own_items`: cached hash under `id`, clone hashed under another `ρ'`;
    a clone that kept the cache would answer `[(1, 3), (2, 100)]` instead -/
example : (((FD.ofPairs [(2, .h 100), (1, .h 3)]).hashIn id).1.rebuild.hashIn (fun n => 7 * n + 3)).2
    = some [(10, 24), (17, 703)] := by decide +kernel
example : ((FD.ofPairs [(1, .h 3)]).run [.hash, .mutate .clear, .mutate (.setitem 2 (.h 2)), .hash]).items = [(1, .h 3)] := by decide +kernel

/-! ## object lifetime: only a DERIVED object is kept alive -/

/-- `x = Cls(...)` for one of the two paired classes: the reference kinds come from the regenerated table -/
def lifeAlloc (cls : String) (r : Nat) : LCmd := .alloc (refsOf cls).1 (refsOf cls).2 r

/-- the regenerated table (read off fresh instances of the tree under test): in both classes the object refers
    strongly to its `.inv` and the `.inv` object refers strongly back - a `weakref.ref` on either side turns this red -/
theorem life_generated_refs_strong :
    (lifeAlloc "OneToOne" 0).strongOnly = true ∧ (lifeAlloc "ManyToMany" 0).strongOnly = true := by decide

theorem lifeAlloc_strong (cls : String) (h : cls = "OneToOne" ∨ cls = "ManyToMany") (r : Nat) :
    (lifeAlloc cls r).strongOnly = true := by
  rcases h with rfl | rfl
  · exact life_generated_refs_strong.1
  · exact life_generated_refs_strong.2

/-- lifetime: after ANY history of constructor calls, references taken through `.inv` chains and
    references let go of (each followed by a collection of everything unreachable), every reference the caller
    still holds is to a live half whose `.inv` is the live other half of the SAME instance, which refers back:
    what can be reached from a held half includes its peer, whoever else stopped holding it -/
theorem life_held_half_reaches_peer (cmds : List LCmd) (st : Life)
    (hc : ∀ c ∈ cmds, c.strongOnly = true) (h : lifeRun Life.empty cmds = some st) (a : Nat) (ha : a ∈ st.roots) :
    ∃ x y, st.get a = some x ∧ st.get x.peer = some y ∧ y.peer = a ∧ y.reg = x.reg ∧ y.side = !x.side := by
  obtain ⟨x, y, e1, e2, e3, e4, e5, _⟩ := good_run cmds _ st good_empty hc h a ha
  exact ⟨x, y, e1, e2, e3, e4, e5⟩

/-- … so `held.inv.inv is held`, and every `.inv` chain from a held reference ends on a live object (never on
    a freed one: `idx.inv` is never None) that is a half of the same instance, on the side the parity says -/
theorem life_inv_chain (cmds : List LCmd) (st : Life)
    (hc : ∀ c ∈ cmds, c.strongOnly = true) (h : lifeRun Life.empty cmds = some st) (a : Nat) (ha : a ∈ st.roots) :
    follow st.objs a 2 = some a ∧ ∀ n, ∃ b, follow st.objs a n = some b ∧ Paired st.objs b :=
  have g := good_run cmds _ st good_empty hc h a ha
  ⟨follow_two g, fun n => exists_follow_paired n a g⟩

/-- … and taking a reference through any `.inv` chain from a held one never fails -/
theorem life_hold_succeeds (cmds : List LCmd) (st : Life)
    (hc : ∀ c ∈ cmds, c.strongOnly = true) (h : lifeRun Life.empty cmds = some st) (a : Nat) (ha : a ∈ st.roots)
    (n : Nat) : ∃ st', lifeCmd st (.hold a n) = some st' := by
  obtain ⟨b, hb⟩ := follow_of_paired n a (good_run cmds _ st good_empty hc h a ha)
  exact ⟨⟨st.objs, st.roots ++ [b]⟩, by simp [lifeCmd, holdRef, ha, hb]⟩

/-- `idx = Cls(pairs).inv` spelled out: the caller takes `b = a.inv`, then lets go of `a` (its only reference
    to the forward half, or not) and everything unreachable is freed.  Both halves are still there, unchanged, and
    `b.inv` is `a`: nothing changed for the instance machines, in which instances simply never die -/
theorem life_keep_only_inv (cmds : List LCmd) (st st1 st2 : Life)
    (hc : ∀ c ∈ cmds, c.strongOnly = true) (h : lifeRun Life.empty cmds = some st) (a b : Nat) (ha : a ∈ st.roots)
    (hb : follow st.objs a 1 = some b) (h1 : lifeCmd st (.hold a 1) = some st1) (h2 : lifeCmd st1 (.drop a) = some st2) :
    b ∈ st2.roots ∧ st2.get a = st.get a ∧ st2.get b = st.get b ∧ follow st2.objs b 1 = some a := by
  obtain ⟨x, y, e1, e2, e3, e4, e5, e6, e7⟩ := good_run cmds _ st good_empty hc h a ha
  have hxb : x.peer = b := by simpa [follow, e1, e2] using hb
  subst hxb
  have hne : x.peer ≠ a := by
    intro e
    rw [e] at e2
    rw [e1] at e2
    cases e2
    cases hx : x.side <;> simp [hx] at e5
  simp only [lifeCmd, holdRef, ha, if_true, hb, Option.map_some, Option.some.injEq] at h1
  subst h1
  have ha1 : a ∈ st.roots ++ [x.peer] := List.mem_append_left _ ha
  simp only [lifeCmd, ha1, if_true, Option.some.injEq] at h2
  subst h2
  have hbr : x.peer ∈ (st.roots ++ [x.peer]).erase a :=
    (List.mem_erase_of_ne hne).mpr (List.mem_append_right _ (by simp))
  have rb : Reach ⟨st.objs, (st.roots ++ [x.peer]).erase a⟩ x.peer := .root hbr
  have ra : Reach ⟨st.objs, (st.roots ++ [x.peer]).erase a⟩ a := by
    have := Reach.ref rb (h := y) e2 e7
    rwa [e3] at this
  have gb := collect_get rb
  have ga := collect_get ra
  refine ⟨by rw [collect_roots]; exact hbr, ga, gb, ?_⟩
  have gb' : getO (collect ⟨st.objs, (st.roots ++ [x.peer]).erase a⟩).objs x.peer = some y := gb.trans e2
  have ga' : getO (collect ⟨st.objs, (st.roots ++ [x.peer]).erase a⟩).objs a = some x := ga.trans e1
  simp [follow, gb', e3, ga']

/-- the model can tell the difference: with a WEAK back reference (the inverse half stores `weakref.ref(forward)`)
    the same three commands free the forward half, and `idx.inv` reads a dead reference -/
theorem life_weak_back_reference_loses_peer :
    (lifeRun Life.empty [.alloc true false 0, .hold 0 1, .drop 0]).map
      (fun st => (st.roots, st.get 0, follow st.objs 1 1)) = some ([1], none, none) := by decide

/-! non-vacuity: `idx = ManyToMany(pairs).inv`; `y = OneToOne(pairs).inv.inv` with everything else let go -/
example : (lifeRun Life.empty [lifeAlloc "ManyToMany" 0, .hold 0 1, .drop 0]).map
    (fun st => (st.roots, follow st.objs 1 1, follow st.objs 1 2, st.resolve 0)) =
    some ([1], some 0, some 1, some (0, false)) := by decide +kernel
example : (lifeRun Life.empty [lifeAlloc "OneToOne" 0, lifeAlloc "ManyToMany" 1, .hold 0 2, .drop 0, .drop 2, .hold 0 1,
    .drop 0]).map (fun st => (st.roots, st.objs.map Option.isSome)) = some ([1], [true, true, false, false]) := by decide +kernel
example : ((((Caller.empty.newReg "ManyToMany").bind fun c => c.keep 0 "i").bind fun c => c.keep 0 "ii").map
    fun c => (c.held, c.ok)) = some ([(some 0, none)], true) := by decide +kernel

end C17
