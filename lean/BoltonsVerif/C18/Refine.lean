import BoltonsVerif.C18.Text
import BoltonsVerif.C18.Bytes
/-
C18 — SpooledStringIO refines io.StringIO(newline=''): simulation relation `SRel`, step and run lemmas; the default
`io.StringIO()` (lines end at LF only) agrees with it where no line-cutting operation meets a lone CR.
-/
namespace C18
/-- `0 < s.chunk`: with `READ_CHUNK_SIZE = 0` the loops of `traverse` and `lenLoop` stop at their first, empty, read -/
def SRel (s : SStr) (f : File Char) : Prop := Coh s f.data ∧ s.tell = f.pos ∧ 0 < s.chunk

theorem SRel.coh {s : SStr} {f : File Char} (h : SRel s f) : Coh s f.data := h.1
theorem SRel.tell_eq {s : SStr} {f : File Char} (h : SRel s f) : s.tell = f.pos := h.2.1
theorem SRel.chunk_pos {s : SStr} {f : File Char} (h : SRel s f) : 0 < s.chunk := h.2.2

theorem SRel.inRange {s : SStr} {f : File Char} (h : SRel s f) : InRange f := by
  unfold InRange; rw [← h.tell_eq]; exact h.coh.ale

theorem SRel_init (ms ch : Nat) (h : 0 < ch) : SRel (SStr.init ms ch) File.empty :=
  ⟨CohAt.atEnd (text := []) rfl rfl rfl rfl rfl (.of_linebuf_nil rfl), rfl, h⟩

theorem SRel.read (s : SStr) (f : File Char) (h : SRel s f) (size : Option Nat) :
    (s.read size).1 = wanted size f.rest ∧ SRel (s.read size).2 ⟨f.data, f.pos + (wanted size f.rest).length⟩ := by
  obtain ⟨h1, h2, h3, h4⟩ := SStr.read_spec s f.data s.tell h.coh size
  rw [h.tell_eq] at h1
  rw [h1, h.tell_eq] at h2 h3
  exact ⟨h1, Coh.of_at h2 h3, h3, h4 ▸ h.chunk_pos⟩

theorem SRel.readline (s : SStr) (f : File Char) (h : SRel s f) :
    s.readline.1 = firstLine false f.rest ∧
    SRel s.readline.2 ⟨f.data, f.pos + (firstLine false f.rest).length⟩ := by
  obtain ⟨hl, hcoh, htell, hchunk⟩ := SStr.readline_spec s f.data h.coh
  have hout : s.readline.1 = firstLine false f.rest := by
    rw [hl, h.tell_eq]; rfl
  exact ⟨hout, hcoh, by rw [htell, hout, h.tell_eq], hchunk ▸ h.chunk_pos⟩

theorem SRel.next (s : SStr) (f : File Char) (h : SRel s f) :
    s.next.1 = (Spec.next textSem f).1 ∧ SRel s.next.2 (Spec.next textSem f).2 := by
  have hr := SRel.readline s f h
  unfold SStr.next
  by_cases he : firstLine false f.rest = []
  · rw [Spec.next_nil textSem f he]
    rw [if_pos (by rw [hr.1, he]; rfl)]
    rw [he] at hr
    have ht1 : s.readline.2.tell = f.pos := hr.2.tell_eq
    have hend : f.pos = f.data.length := h.inRange.pos_eq_of_rest_nil ((firstLine_eq_nil false _).1 he)
    have hcoh : CohAt s.readline.2 f.data f.data.length := hr.2.coh.toAt (ht1.trans hend)
    rcases CohAt_end _ _ hcoh with ⟨_, hpos, _, _⟩
    rw [if_pos hpos]
    exact ⟨rfl, Coh.of_at (CohAt.atEnd hcoh.data rfl rfl rfl rfl (.of_linebuf_nil rfl)) (ht1.trans hend), ht1, hr.2.chunk_pos⟩
  · rw [Spec.next_cons textSem f he]
    rw [if_neg (by rw [hr.1]; simpa using he)]
    exact ⟨by rw [hr.1]; rfl, hr.2⟩

theorem textSem_cuts : textSem.Cuts :=
  ⟨firstLine_eq_nil false, firstLine_length_le false, rfl, splitL_head false⟩

theorem SStr.drain_eq_drainWith (fuel : Nat) (s : SStr) (acc : List (List Char)) :
    SStr.drain fuel s acc = drainWith SStr.next fuel s acc := by
  induction fuel generalizing s acc with
  | zero => rfl
  | succ n ih => unfold SStr.drain drainWith; split <;> simp [*]

theorem SRel.drain (fuel : Nat) (s : SStr) (f : File Char) (acc : List (List Char)) (h : SRel s f)
    (hf : f.rest.length + 1 ≤ fuel) :
    (SStr.drain fuel s acc).1 = acc.reverse ++ splitL false f.rest ∧
    SRel (SStr.drain fuel s acc).2 ⟨f.data, f.pos + f.rest.length⟩ := by
  have := drainWith_sim SStr.next (Spec.next textSem) SRel SRel.next fuel s f acc h
  rwa [← SStr.drain_eq_drainWith,
    drainWith_spec textSem textSem_cuts (Spec.next textSem) (fun _ _ => rfl) fuel f acc h.inRange hf] at this

theorem SStr.step_spec (s : SStr) (f : File Char) (op : Op Char) (h : SRel s f) (hok : okS f op = true) :
    (s.step op).1 = (Spec.step textSem f op).1 ∧ SRel (s.step op).2 (Spec.step textSem f op).2 := by
  have hc := h.coh
  have ht := h.tell_eq
  have hch := h.chunk_pos
  have hfuel : f.rest.length + 1 ≤ s.st.data.length + 2 := by
    have := hc.length_le_data; rw [File.rest_length]; omega
  cases op with
  | write cs =>
    simp only [okS, decide_eq_true_eq] at hok
    obtain ⟨h1, h2, h3⟩ := SStr.write_spec s f.data cs hc (by rw [ht, hok]) hch
    simp only [SStr.step, Spec.step]
    rw [File.write_end f cs hok]
    exact ⟨trivial, h1, by rw [h2, hok]; simp, h3 ▸ hch⟩
  | writelines ss =>
    simp only [okS, decide_eq_true_eq] at hok
    obtain ⟨h1, h2, h3⟩ := SStr.writelines_spec ss s f.data hc (by rw [ht, hok]) hch
    simp only [SStr.step, Spec.step]
    rw [File.write_end f ss.flatten hok]
    exact ⟨trivial, h1, by rw [h2, hok]; simp, h3 ▸ hch⟩
  | read n =>
    have hr := SRel.read s f h (some n)
    exact ⟨congrArg Out.data hr.1, hr.2⟩
  | readAll =>
    have hr := SRel.read s f h none
    exact ⟨congrArg Out.data hr.1, hr.2⟩
  | readline =>
    have hr := SRel.readline s f h
    exact ⟨congrArg Out.data hr.1, hr.2⟩
  | readlineN n => simp [okS] at hok
  | readlines =>
    obtain ⟨h1, h2, h3, h4⟩ := SStr.readlines_spec s f.data hc
    rw [ht] at h1
    refine ⟨congrArg Out.lines h1, h2, ?_, h4 ▸ hch⟩
    have := File.rest_length f
    have : f.pos ≤ f.data.length := h.inRange
    show s.readlines.2.tell = f.pos + f.rest.length
    omega
  | seek p =>
    simp only [okS, decide_eq_true_eq] at hok
    obtain ⟨h1, h2, h3⟩ := SStr.seek_spec s f.data s.tell p hc hok hch
    exact ⟨rfl, Coh.of_at h1 h2, h2, h3 ▸ hch⟩
  | seekCur n =>
    simp only [okS, decide_eq_true_eq] at hok
    obtain ⟨h1, h2, h3⟩ := SStr.seekCur_spec s f.data n hc (by rw [ht]; exact hok) hch
    rw [ht] at h1 h2
    exact ⟨by simp [SStr.step, Spec.step, ht], Coh.of_at h1 h2, h2, h3 ▸ hch⟩
  | seekEnd n =>
    obtain ⟨h1, h2, h3, h4⟩ := SStr.seekEnd_spec s f.data n hc hch
    exact ⟨by simp [SStr.step, Spec.step, h4], h1, h2, h3 ▸ hch⟩
  | tell => exact ⟨by simp [SStr.step, Spec.step, ht], h⟩
  | getvalue =>
    obtain ⟨h1, h2, h3, h4⟩ := SStr.getvalue_spec s f.data hc hch
    exact ⟨congrArg Out.data h1, h2, h3.trans ht, h4 ▸ hch⟩
  | len =>
    obtain ⟨h1, h2, h3, h4⟩ := SStr.len_spec s f.data hc hch
    exact ⟨by simp [SStr.step, Spec.step, h1], Coh.of_at h2 h3, h3.trans ht, h4 ▸ hch⟩
  | next => exact SRel.next s f h
  | rollover =>
    obtain ⟨h1, h2, h3⟩ := SStr.rollover_spec s f.data hc hch
    exact ⟨rfl, h1, h2.trans ht, h3 ▸ hch⟩
  | list =>
    obtain ⟨-, h2, h3, h4⟩ := SStr.len_spec s f.data hc hch
    have hd := SRel.drain (s.st.data.length + 2) s.len.2 f [] ⟨Coh.of_at h2 h3, h3.trans ht, h4 ▸ hch⟩ hfuel
    exact ⟨congrArg Out.lines hd.1, hd.2⟩
  | drain =>
    have hd := SRel.drain (s.st.data.length + 2) s f [] h hfuel
    exact ⟨congrArg Out.lines hd.1, hd.2⟩

theorem SStr.run_spec (s : SStr) (f : File Char) (ops : List (Op Char)) (h : SRel s f)
    (hv : validS f ops = true) :
    (s.run ops).1 = (Spec.run textSem f ops).1 ∧ SRel (s.run ops).2 (Spec.run textSem f ops).2 := by
  induction ops generalizing s f with
  | nil => exact ⟨rfl, h⟩
  | cons op ops ih =>
    simp only [validS, Bool.and_eq_true] at hv
    have hs := SStr.step_spec s f op h hv.1
    have := ih _ _ hs.2 hv.2
    simp only [SStr.run, Spec.run]
    exact ⟨by rw [hs.1, this.1], this.2⟩

theorem noLoneCR_tail (c : Char) (cs : List Char) (h : noLoneCR (c :: cs) = true) : noLoneCR cs = true := by
  simp only [noLoneCR, Bool.and_eq_true] at h; exact h.2

theorem firstLine_lf (l : List Char) (h : noLoneCR l = true) : firstLine false l = takeLine isLF l := by
  induction l with
  | nil => rfl
  | cons c cs ih =>
    have ht := noLoneCR_tail c cs h
    by_cases hcr : c = '\r'
    · subst hcr
      cases cs with
      | nil => simp [noLoneCR] at h
      | cons d cs' =>
        have hd : d = '\n' := by
          simp only [noLoneCR, Bool.and_eq_true] at h; simpa using h.1
        subst hd
        simp [firstLine, takeLine, isLF]
    · by_cases hlf : c = '\n'
      · subst hlf; simp [firstLine, takeLine, isLF, isBrk]
      · have h1 : firstLine false (c :: cs) = c :: firstLine false cs := by simp [firstLine, hcr, isBrk, hlf]
        have h2 : takeLine isLF (c :: cs) = c :: takeLine isLF cs := by simp [takeLine, isLF, hlf]
        rw [h1, h2, ih ht]

theorem noLoneCR_drop (l : List Char) (n : Nat) (h : noLoneCR l = true) : noLoneCR (l.drop n) = true := by
  induction n generalizing l with
  | zero => exact h
  | succ n ih =>
    cases l with
    | nil => exact h
    | cons c cs => exact ih cs (noLoneCR_tail c cs h)

theorem lfSem_cuts : lfSem.Cuts :=
  ⟨takeLine_eq_nil isLF, takeLine_length_le isLF, rfl, splitLines_cons isLF⟩

theorem splitL_lf (l : List Char) (h : noLoneCR l = true) : splitL false l = splitLines isLF l :=
  textSem_cuts.iter_eq lfSem_cuts (noLoneCR · = true) noLoneCR_drop firstLine_lf l h

theorem Spec.step_lf (f : File Char) (op : Op Char) (hp : lfOp f op = true) :
    Spec.step textSem f op = Spec.step lfSem f op := by
  cases op with
  | readline | readlineN n =>
    simp only [lfOp] at hp
    simp only [Spec.step, textSem, lfSem, firstLine_lf f.rest hp]
  | next =>
    simp only [lfOp] at hp
    simp only [Spec.step, Spec.next, textSem, lfSem, firstLine_lf f.rest hp]
    rfl
  | readlines | list | drain =>
    simp only [lfOp] at hp
    simp only [Spec.step, textSem, lfSem, splitL_lf f.rest hp]
  | _ => rfl

theorem Spec.run_lf (f : File Char) (ops : List (Op Char)) (hp : lfOnly f ops = true) :
    Spec.run textSem f ops = Spec.run lfSem f ops := by
  induction ops generalizing f with
  | nil => rfl
  | cons op ops ih =>
    simp only [lfOnly, Bool.and_eq_true] at hp
    simp only [Spec.run]
    rw [← Spec.step_lf f op hp.1, ih _ hp.2]

end C18
