import BoltonsVerif.C18.Model
namespace C18

/-! C18 — `splitlines` (`splitL`), the first line (`firstLine`), how a text ends (`endsWithBrk`, `endsWithCR`,
`endsCRLF`), `appendLast`: pure list lemmas. -/

theorem splitL_cr_lf (u : Bool) (cs : List Char) : splitL u ('\r' :: '\n' :: cs) = ['\r', '\n'] :: splitL u cs := by
  simp [splitL]
theorem splitL_cr_other (u : Bool) (d : Char) (cs : List Char) (hd : d ≠ '\n') :
    splitL u ('\r' :: d :: cs) = ['\r'] :: splitL u (d :: cs) := by
  rw [splitL]; simp [hd]
theorem splitL_cr_end (u : Bool) : splitL u ['\r'] = [['\r']] := by simp [splitL]
theorem splitL_brk (u : Bool) (c : Char) (cs : List Char) (hc : c ≠ '\r') (hb : isBrk u c = true) :
    splitL u (c :: cs) = [c] :: splitL u cs := by
  rw [splitL.eq_def]; simp [hc, hb]
theorem splitL_other_nil (u : Bool) (c : Char) (cs : List Char) (hc : c ≠ '\r') (hb : ¬ isBrk u c = true)
    (hs : splitL u cs = []) : splitL u (c :: cs) = [[c]] := by
  rw [splitL.eq_def]; simp [hc, hb, hs]
theorem splitL_other_cons (u : Bool) (c : Char) (cs l : List Char) (ls : List (List Char)) (hc : c ≠ '\r')
    (hb : ¬ isBrk u c = true) (hs : splitL u cs = l :: ls) : splitL u (c :: cs) = (c :: l) :: ls := by
  rw [splitL.eq_def]; simp [hc, hb, hs]

theorem splitL_flatten (u : Bool) (l : List Char) : (splitL u l).flatten = l := by
  fun_induction splitL u l <;> simp_all

theorem firstLine_eq_nil (u : Bool) (l : List Char) : firstLine u l = [] ↔ l = [] := by
  cases l with
  | nil => simp [firstLine]
  | cons c cs =>
    simp only [firstLine]
    split
    · split <;> (try split) <;> simp
    · split <;> simp

theorem splitL_eq_nil (u : Bool) (l : List Char) (h : splitL u l = []) : l = [] := by
  have := splitL_flatten u l
  rw [h] at this
  exact this.symm

theorem splitL_head (u : Bool) (l : List Char) (h : l ≠ []) :
    splitL u l = firstLine u l :: splitL u (l.drop (firstLine u l).length) := by
  fun_induction splitL u l with
  | case1 => exact absurd rfl h
  | case2 cs' ih => simp [firstLine]
  | case3 d cs' hd ih => simp [firstLine, hd]
  | case4 => simp [firstLine, splitL]
  | case5 c cs hc hb ih => simp [firstLine, hc, hb]
  | case6 c cs hc hb hs ih =>
    have hcs : cs = [] := splitL_eq_nil u cs hs
    subst hcs
    simp [firstLine, hc, hb, splitL]
  | case7 c cs hc hb l' ls hs ih =>
    have hne : cs ≠ [] := by intro h0; subst h0; simp [splitL] at hs
    have := ih hne
    rw [hs] at this
    simp only [firstLine, hc, hb]
    simp only [List.cons.injEq] at this
    simp [this.1, this.2]

theorem getLast?_append_ne {α : Type} (a b : List α) (h : b ≠ []) : (a ++ b).getLast? = b.getLast? := by
  rw [List.getLast?_append]
  cases hb : b.getLast? with
  | none => exact absurd (List.getLast?_eq_none_iff.1 hb) h
  | some x => rfl

theorem endsWithBrk_append (a b : List Char) (h : b ≠ []) : endsWithBrk (a ++ b) = endsWithBrk b := by
  simp only [endsWithBrk, getLast?_append_ne a b h]
theorem endsWithCR_append (a b : List Char) (h : b ≠ []) : endsWithCR (a ++ b) = endsWithCR b := by
  simp only [endsWithCR, getLast?_append_ne a b h]
theorem endsCRLF_append (a b : List Char) (h : b ≠ []) : endsCRLF (a ++ b) = endsCRLF b := by
  simp only [endsCRLF, getLast?_append_ne a b h]

theorem endsWithBrk_cons (c : Char) (cs : List Char) (h : cs ≠ []) : endsWithBrk (c :: cs) = endsWithBrk cs :=
  endsWithBrk_append [c] cs h
theorem endsWithCR_cons (c : Char) (cs : List Char) (h : cs ≠ []) : endsWithCR (c :: cs) = endsWithCR cs :=
  endsWithCR_append [c] cs h
theorem endsCRLF_cons (c : Char) (cs : List Char) (h : cs ≠ []) : endsCRLF (c :: cs) = endsCRLF cs :=
  endsCRLF_append [c] cs h

theorem endsWithCR_iff (l : List Char) : endsWithCR l = true ↔ ∃ y, l = y ++ ['\r'] := by
  simp [endsWithCR, List.getLast?_eq_some_iff]

theorem endsWithCR_nil : endsWithCR [] = false := by simp [endsWithCR]

theorem endsCRLF_nil : endsCRLF [] = false := rfl

theorem endsCRLF_single (c : Char) : endsCRLF [c] = (decide (c = '\r') || decide (c = '\n')) := by
  simp [endsCRLF]

theorem firstLine_length_le (u : Bool) (l : List Char) : (firstLine u l).length ≤ l.length := by
  fun_induction firstLine u l <;> simp_all <;> omega

theorem firstLine_ne_of_two (u : Bool) (W : List Char) (h : 2 ≤ (splitL u W).length) : firstLine u W ≠ W := by
  intro he
  have hne : W ≠ [] := by intro h0; subst h0; simp [splitL] at h
  rw [splitL_head u W hne, he, List.drop_length] at h
  simp [splitL] at h

/-- what follows a text does not change its first line once that line is decided inside the text: it ends before the
    end of the text, or it is the whole text, ends in a line break, and is not a final CR that an LF follows -/
theorem firstLine_append (W Y : List Char)
    (h : firstLine true W ≠ W ∨ (endsWithBrk W = true ∧ ¬ (endsWithCR W = true ∧ Y.head? = some '\n'))) :
    firstLine true (W ++ Y) = firstLine true W := by
  fun_induction firstLine true W with
  | case1 => simp [endsWithBrk] at h
  | case2 cs' => simp [firstLine]
  | case3 d cs' hd => simp [firstLine, hd]
  | case4 =>
    cases Y with
    | nil => rfl
    | cons d ds =>
      have hd : d ≠ '\n' := by simpa [firstLine, endsWithBrk, endsWithCR] using h
      simp [firstLine, hd]
  | case5 c cs hc hb => simp [firstLine, hc, hb]
  | case6 c cs hc hb ih =>
    have hne : cs ≠ [] := by
      intro h0; subst h0
      simp [firstLine, endsWithBrk, hc, hb] at h
    rw [endsWithBrk_cons c _ hne, endsWithCR_cons c _ hne] at h
    simp [firstLine, hc, hb, ih (by simpa using h)]

/-- io.StringIO's line = the codec reader's line, continued (when that one stopped at a boundary that is not CR / LF,
    i.e. VT, FF, FS, GS, RS, NEL, LS, PS) by io.StringIO's line of what follows -/
theorem firstLine_join (l : List Char) :
    firstLine false l = firstLine true l ++
      (if endsCRLF (firstLine true l) then [] else firstLine false (l.drop (firstLine true l).length)) := by
  induction l with
  | nil => simp [firstLine, endsCRLF]
  | cons c cs ih =>
    by_cases hcr : c = '\r'
    · subst hcr
      cases cs with
      | nil => simp [firstLine, endsCRLF]
      | cons d cs' => by_cases hd : d = '\n' <;> simp [firstLine, hd, endsCRLF]
    · by_cases hlf : c = '\n'
      · subst hlf; simp [firstLine, isBrk, endsCRLF]
      · have hbf : isBrk false c = false := by simp [isBrk, hlf]
        by_cases hex : isExotic c = true
        · have hbt : isBrk true c = true := by simp [isBrk, hex]
          have h1 : firstLine true (c :: cs) = [c] := by simp [firstLine, hcr, hbt]
          have h2 : firstLine false (c :: cs) = c :: firstLine false cs := by simp [firstLine, hcr, hbf]
          rw [h1, h2, endsCRLF_single]
          simp [hcr, hlf]
        · have hbt : isBrk true c = false := by simp [isBrk, hlf, hex]
          have h1 : firstLine true (c :: cs) = c :: firstLine true cs := by simp [firstLine, hcr, hbt]
          have h2 : firstLine false (c :: cs) = c :: firstLine false cs := by simp [firstLine, hcr, hbf]
          rw [h1, h2]
          by_cases hn : firstLine true cs = []
          · have hcs : cs = [] := (firstLine_eq_nil true cs).1 hn
            subst hcs
            simp [firstLine, endsCRLF_single, hcr, hlf]
          · rw [endsCRLF_cons c _ hn]
            simp only [List.length_cons, List.drop_succ_cons, List.cons_append]
            rw [← ih]

theorem splitL_sum_length (u : Bool) (l : List Char) : ((splitL u l).map List.length).sum = l.length := by
  rw [← List.length_flatten, splitL_flatten]

theorem appendLast_cons (l : List Char) (ls : List (List Char)) (e : List Char) (h : ls ≠ []) :
    appendLast (l :: ls) e = l :: appendLast ls e := by
  cases ls with
  | nil => exact absurd rfl h
  | cons a b => simp [appendLast]

theorem appendLast_flatten (ls : List (List Char)) (e : List Char) (h : ls ≠ []) :
    (appendLast ls e).flatten = ls.flatten ++ e := by
  induction ls with
  | nil => exact absurd rfl h
  | cons l ls ih =>
    by_cases hl : ls = []
    · subst hl; simp [appendLast]
    · rw [appendLast_cons l ls e hl]; simp [ih hl]

theorem appendLast_length (ls : List (List Char)) (e : List Char) : (appendLast ls e).length = ls.length := by
  induction ls with
  | nil => rfl
  | cons l ls ih =>
    by_cases hl : ls = []
    · subst hl; simp [appendLast]
    · rw [appendLast_cons l ls e hl]; simp [ih]

end C18
