import BoltonsVerif.C18.Proofs
import BoltonsVerif.C18.Calls
/-
C18 — lemmas behind the theorems of Props.lean about
rejected calls (`runCalls`) and MultiFileReader over members handed over at their own positions (`MFR.initAt`).
-/
namespace C18
variable {α σ : Type}

theorem runCalls_spec (step : σ → Op α → Out α × σ) (s : σ) (cs : List (Call α)) :
    acceptedOuts cs (runCalls step s cs).1 = (runOps step s (accepted cs)).1 ∧
    (runCalls step s cs).2 = (runOps step s (accepted cs)).2 ∧
    (∀ o ∈ rejectedOuts cs (runCalls step s cs).1, o = Out.unit) := by
  induction cs generalizing s with
  | nil => simp [runCalls, runOps, accepted, acceptedOuts, rejectedOuts]
  | cons c cs ih =>
    cases c with
    | none =>
      obtain ⟨h1, h2, h3⟩ := ih s
      simp only [accepted, List.filterMap_cons, id] at h1 h2 ⊢
      refine ⟨by simpa [runCalls, stepCall, acceptedOuts] using h1, by simpa [runCalls, stepCall] using h2, ?_⟩
      intro o ho
      simp only [runCalls, stepCall, rejectedOuts, List.mem_cons] at ho
      rcases ho with rfl | ho
      · rfl
      · exact h3 o ho
    | some op =>
      obtain ⟨h1, h2, h3⟩ := ih (step s op).2
      simp only [accepted, List.filterMap_cons, id] at h1 h2 ⊢
      refine ⟨by simp [runCalls, stepCall, acceptedOuts, runOps, h1], by simp [runCalls, stepCall, runOps, h2], ?_⟩
      intro o ho
      simp only [runCalls, stepCall, rejectedOuts] at ho
      exact h3 o ho

theorem SBytes.run_eq_runOps (s : SBytes) (ops : List (Op Byte)) : s.run ops = runOps SBytes.step s ops :=
  SBytes.isRun.unique (runOps_isRun _) s ops

theorem SStr.run_eq_runOps (s : SStr) (ops : List (Op Char)) : s.run ops = runOps SStr.step s ops :=
  SStr.isRun.unique (runOps_isRun _) s ops

theorem runCalls_all_accepted (step : σ → Op α → Out α × σ) (s : σ) (ops : List (Op α)) :
    runCalls step s (ops.map some) = runOps step s ops := by
  induction ops generalizing s with
  | nil => rfl
  | cons op ops ih => simp [runCalls, stepCall, runOps, ih]

theorem MRelR_initAt (fs : List (File α)) : MRelR (MFR.initAt fs) ⟨(fs.map File.rest).flatten, 0⟩ where
  rest := by simp [MFR.initAt, MFR.rem, File.rest]
  inv := fun f hf => by simp [MFR.initAt] at hf

theorem MFR.run_reads_specR (m : MFR α) (f : File α) (ops : List MOp) (hr : ∀ op ∈ ops, op.isRead = true)
    (h : MRelR m f) :
    (m.run ops).1 = (MFR.specRun f ops).1 ∧ MRelR (m.run ops).2 (MFR.specRun f ops).2 ∧
    (m.run ops).2.contents = m.contents := by
  induction ops generalizing m f with
  | nil => exact ⟨rfl, h, rfl⟩
  | cons op ops ih =>
    obtain ⟨hout, hrel, hc⟩ := MFR.read_step_specR m f op (hr op (by simp)) h
    obtain ⟨iout, irel, ic⟩ := ih _ _ (fun o ho => hr o (by simp [ho])) hrel
    simp only [MFR.run, MFR.specRun]
    exact ⟨by rw [hout, iout], irel, by rw [ic, hc]⟩

theorem MFR.step_inv_contents (m : MFR α) (op : MOp) (hi : m.Inv) :
    (m.step op).2.Inv ∧ (m.step op).2.contents = m.contents := by
  cases hop : op.isRead with
  | true =>
    -- any reference file whose unread part is `m.rem` will do
    obtain ⟨-, hrel, hc⟩ := MFR.read_step_specR m ⟨m.rem, 0⟩ op hop ⟨by simp [File.rest], hi⟩
    exact ⟨hrel.inv, hc⟩
  | false =>
    cases op with
    | seek0 =>
      refine ⟨?_, ?_⟩
      · intro g hg; simp [MFR.step, MFR.seek0] at hg
      · simp [MFR.step, MFR.seek0, MFR.contents, File.seek, Function.comp_def]
    | read n | readAll => simp [MOp.isRead] at hop

theorem MFR.run_inv_contents (m : MFR α) (ops : List MOp) (hi : m.Inv) :
    (m.run ops).2.Inv ∧ (m.run ops).2.contents = m.contents := by
  induction ops generalizing m with
  | nil => exact ⟨hi, rfl⟩
  | cons op ops ih =>
    have hs := MFR.step_inv_contents m op hi
    have := ih _ hs.1
    simp only [MFR.run]
    exact ⟨this.1, by rw [this.2, hs.2]⟩

end C18
