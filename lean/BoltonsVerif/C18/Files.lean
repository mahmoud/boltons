import BoltonsVerif.C18.Model
/-
C18 — lemmas about the abstract file (`File`), `takeLine` / `splitLines`; iterating a file to its end under any way of
cutting lines that has the laws `LineSem.Cuts` (`drainWith`, `drainWith_spec`).
-/
namespace C18

variable {α : Type}

theorem take_length_take {α : Type} (R : List α) (n : Nat) : R.take (R.take n).length = R.take n := by
  rw [List.length_take, ← List.take_eq_take_min]

theorem drop_length_take {α : Type} (R : List α) (n : Nat) : R.drop (R.take n).length = R.drop n := by
  rw [List.length_take, ← List.drop_eq_drop_min]

theorem drop_succ_set (l : List α) (i : Nat) (a : α) : (l.set i a).drop (i+1) = l.drop (i+1) := by
  rw [List.drop_set]; simp
theorem drop_set_self (l : List α) (i : Nat) (a : α) (h : i < l.length) :
    (l.set i a).drop i = a :: l.drop (i+1) := by
  rw [List.drop_eq_getElem_cons (by simpa using h), drop_succ_set]; simp

theorem eraseIdx_middle (a b : List α) (x : α) : (a ++ x :: b).eraseIdx a.length = a ++ b := by
  induction a with
  | nil => simp
  | cons y a ih => simp [ih]

theorem File.write_empty [Inhabited α] (d : List α) : (File.empty : File α).write d = ⟨d, d.length⟩ := by
  simp [File.write, File.empty]

@[simp] theorem File.rest_seek0 (f : File α) : (f.seek 0).rest = f.data := by simp [File.rest, File.seek]
@[simp] theorem File.seek_data (f : File α) (p : Nat) : (f.seek p).data = f.data := rfl
@[simp] theorem File.seek_pos (f : File α) (p : Nat) : (f.seek p).pos = p := rfl
@[simp] theorem File.seek_seek (f : File α) (p q : Nat) : (f.seek p).seek q = f.seek q := rfl
theorem File.seek_self (f : File α) : f.seek f.pos = f := rfl

theorem File.rest_length (f : File α) : f.rest.length = f.data.length - f.pos := by simp [File.rest]

theorem File.rest_nil_of_ge (f : File α) (h : f.data.length ≤ f.pos) : f.rest = [] := by
  simp [File.rest, h]

theorem takeLine_append_drop (nl : α → Bool) (l : List α) :
    takeLine nl l ++ l.drop (takeLine nl l).length = l := by
  induction l with
  | nil => simp [takeLine]
  | cons x xs ih => by_cases h : nl x <;> simp [takeLine, h, ih]

theorem takeLine_length_le (nl : α → Bool) (l : List α) : (takeLine nl l).length ≤ l.length := by
  induction l with
  | nil => simp [takeLine]
  | cons x xs ih => by_cases h : nl x <;> simp [takeLine, h] <;> omega

theorem takeLine_eq_nil (nl : α → Bool) (l : List α) : takeLine nl l = [] ↔ l = [] := by
  cases l with
  | nil => simp [takeLine]
  | cons x xs => by_cases h : nl x <;> simp [takeLine, h]

/-- `readlines()` is repeated `readline()` -/
theorem splitLines_cons (nl : α → Bool) (l : List α) (h : l ≠ []) :
    splitLines nl l = takeLine nl l :: splitLines nl (l.drop (takeLine nl l).length) := by
  induction l with
  | nil => exact absurd rfl h
  | cons x xs ih =>
    by_cases hx : nl x
    · simp [splitLines, takeLine, hx]
    · simp only [splitLines, takeLine, hx]
      cases xs with
      | nil => simp [splitLines, takeLine]
      | cons y ys =>
        have := ih (by simp)
        rw [this]
        simp

/-- beyond the end `File.write` pads; no history of the statement's domain gets there -/
def InRange (f : File α) : Prop := f.pos ≤ f.data.length

theorem InRange.pos_eq_of_rest_nil {f : File α} (h : InRange f) (hr : f.rest = []) : f.pos = f.data.length := by
  have hl := File.rest_length f
  rw [hr, List.length_nil] at hl
  unfold InRange at h
  omega

theorem File.readN_fst (f : File α) (n : Nat) : (f.readN n).1 = f.rest.take n := rfl
theorem File.readN_data (f : File α) (n : Nat) : (f.readN n).2.data = f.data := rfl
theorem File.readN_rest (f : File α) (n : Nat) : (f.readN n).2.rest = f.rest.drop n := by
  simp only [File.readN, File.rest, ← List.drop_drop]
  exact drop_length_take _ n
theorem File.readAll_fst (f : File α) : f.readAll.1 = f.rest := rfl
theorem File.readAll_data (f : File α) : f.readAll.2.data = f.data := rfl
theorem File.readAll_rest (f : File α) : f.readAll.2.rest = [] := by
  simp only [File.readAll, File.rest, List.length_drop]
  exact List.drop_eq_nil_of_le (by omega)

/-- how many units `read(size)` asks for -/
def amount (f : File α) : Option Nat → Nat
  | none => f.rest.length
  | some n => n

theorem File.read_spec (f : File α) (size : Option Nat) :
    (f.read size).1 = f.rest.take (amount f size) ∧ (f.read size).2.rest = f.rest.drop (f.read size).1.length ∧
    (f.read size).2.data = f.data ∧ (InRange f → InRange (f.read size).2) := by
  cases size with
  | none =>
    refine ⟨by simp [File.read, amount, File.readAll_fst], by simp [File.read, File.readAll_fst, File.readAll_rest],
      rfl, ?_⟩
    intro h; have := File.rest_length f; simp [File.read, File.readAll, InRange] at *; omega
  | some n =>
    refine ⟨rfl, by simp only [File.read, File.readN_rest, File.readN_fst, drop_length_take], rfl, ?_⟩
    intro h; have := File.rest_length f; simp [File.read, File.readN, InRange] at *; omega

theorem File.write_inRange [Inhabited α] (f : File α) (s : List α) (h : InRange f) : InRange (f.write s) := by
  unfold InRange File.write at *
  simp
  omega

theorem File.write_end [Inhabited α] (f : File α) (s : List α) (h : f.pos = f.data.length) :
    f.write s = ⟨f.data ++ s, f.pos + s.length⟩ := by
  simp [File.write, h]

theorem File.write_write [Inhabited α] (f : File α) (a b : List α) : (f.write a).write b = f.write (a ++ b) := by
  have hlen : (f.data.take f.pos ++ List.replicate (f.pos - f.data.length) default).length = f.pos := by
    simp only [List.length_append, List.length_take, List.length_replicate]; omega
  unfold File.write
  simp only [File.mk.injEq]
  refine ⟨?_, by simp only [List.length_append]; omega⟩
  generalize hP : f.data.take f.pos ++ List.replicate (f.pos - f.data.length) default = P at hlen
  have e1 : (P ++ a ++ f.data.drop (f.pos + a.length)).take (f.pos + a.length) = P ++ a := by
    rw [List.take_append_of_le_length (by simp only [List.length_append]; omega)]
    exact List.take_of_length_le (by simp only [List.length_append]; omega)
  have e2 : (P ++ a ++ f.data.drop (f.pos + a.length)).drop (f.pos + a.length + b.length)
      = f.data.drop (f.pos + (a ++ b).length) := by
    rw [List.drop_append, List.drop_of_length_le (by simp only [List.length_append]; omega), List.drop_drop]
    simp only [List.length_append, List.nil_append]
    congr 1; omega
  have e3 : f.pos + a.length - (P ++ a ++ f.data.drop (f.pos + a.length)).length = 0 := by
    simp only [List.length_append]; omega
  rw [e1, e2, e3]
  simp [List.append_assoc]

theorem File.write_nil [Inhabited α] (f : File α) (h : InRange f) : f.write [] = f := by
  unfold InRange at h
  cases f with
  | mk d p => simp [File.write, Nat.sub_eq_zero_of_le h]

/-- `h` is needed for the empty batch only: beyond the end `f.write []` pads -/
theorem File.foldl_write [Inhabited α] (f : File α) (ss : List (List α)) (h : InRange f) :
    ss.foldl File.write f = f.write ss.flatten := by
  induction ss generalizing f with
  | nil => exact (File.write_nil f h).symm
  | cons a ss ih =>
    simp only [List.foldl_cons, List.flatten_cons]
    rw [ih _ (File.write_inRange f a h), File.write_write]

theorem Spec.next_nil (sem : LineSem α) (f : File α) (h : sem.first f.rest = []) :
    Spec.next sem f = (.stop, f) := by
  unfold Spec.next; simp [h]

theorem Spec.next_cons (sem : LineSem α) (f : File α) (h : sem.first f.rest ≠ []) :
    Spec.next sem f = (.data (sem.first f.rest), ⟨f.data, f.pos + (sem.first f.rest).length⟩) := by
  unfold Spec.next; simp [h]

/-- the recursion of `SBytes.drain` and `SStr.drain` -/
def drainWith {σ : Type} (next : σ → Out α × σ) : Nat → σ → List (List α) → List (List α) × σ
  | 0, s, acc => (acc.reverse, s)
  | fuel + 1, s, acc =>
    match next s with
    | (.data l, s') => drainWith next fuel s' (l :: acc)
    | (_, s') => (acc.reverse, s')

theorem drainWith_sim {σ τ : Type} (nextA : σ → Out α × σ) (nextB : τ → Out α × τ) (R : σ → τ → Prop)
    (hn : ∀ s t, R s t → (nextA s).1 = (nextB t).1 ∧ R (nextA s).2 (nextB t).2)
    (fuel : Nat) (s : σ) (t : τ) (acc : List (List α)) (h : R s t) :
    (drainWith nextA fuel s acc).1 = (drainWith nextB fuel t acc).1 ∧
    R (drainWith nextA fuel s acc).2 (drainWith nextB fuel t acc).2 := by
  induction fuel generalizing s t acc with
  | zero => exact ⟨rfl, h⟩
  | succ n ih =>
    obtain ⟨h1, h2⟩ := hn s t h
    unfold drainWith
    rcases hs : nextA s with ⟨o, s'⟩
    rcases ht : nextB t with ⟨o', t'⟩
    rw [hs, ht] at h1 h2
    simp only at h1 h2
    subst h1
    cases o with
    | data l => exact ih _ _ _ h2
    | _ => exact ⟨rfl, h2⟩

/-- what the proofs need of a way of cutting lines -/
structure LineSem.Cuts (sem : LineSem α) : Prop where
  first_eq_nil : ∀ l, sem.first l = [] ↔ l = []
  first_le : ∀ l, (sem.first l).length ≤ l.length
  iter_nil : sem.iter [] = []
  iter_cons : ∀ l, l ≠ [] → sem.iter l = sem.first l :: sem.iter (l.drop (sem.first l).length)

theorem bytesSem_cuts : bytesSem.Cuts :=
  ⟨takeLine_eq_nil isNL, takeLine_length_le isNL, rfl, splitLines_cons isNL⟩

/-- iteration is determined by the first line -/
theorem LineSem.Cuts.iter_eq {semA semB : LineSem α} (ha : semA.Cuts) (hb : semB.Cuts) (P : List α → Prop)
    (hP : ∀ l n, P l → P (l.drop n)) (hf : ∀ l, P l → semA.first l = semB.first l) (l : List α) (hl : P l) :
    semA.iter l = semB.iter l := by
  suffices ∀ (k : Nat) (l : List α), l.length ≤ k → P l → semA.iter l = semB.iter l from
    this l.length l (Nat.le_refl _) hl
  intro k
  induction k with
  | zero =>
    intro l hk _
    rw [List.length_eq_zero_iff.1 (Nat.le_zero.1 hk), ha.iter_nil, hb.iter_nil]
  | succ k ih =>
    intro l hk hl
    by_cases hne : l = []
    · rw [hne, ha.iter_nil, hb.iter_nil]
    · have hpos : 0 < (semA.first l).length :=
        List.length_pos_iff.2 (fun h0 => hne ((ha.first_eq_nil l).1 h0))
      have hlen := List.length_pos_iff.2 hne
      rw [ha.iter_cons l hne, hb.iter_cons l hne, ← hf l hl,
        ih _ (by rw [List.length_drop]; omega) (hP l _ hl)]

theorem Spec.next_inRange (sem : LineSem α) (hc : sem.Cuts) (f : File α) (h : InRange f) :
    InRange (Spec.next sem f).2 := by
  by_cases he : sem.first f.rest = []
  · rw [Spec.next_nil sem f he]; exact h
  · rw [Spec.next_cons sem f he]
    have := hc.first_le f.rest
    have := File.rest_length f
    unfold InRange at h ⊢
    show f.pos + (sem.first f.rest).length ≤ f.data.length
    omega

/-- each round consumes a unit, so `rest.length + 1` rounds reach the end -/
theorem drainWith_spec (sem : LineSem α) (hc : sem.Cuts) (next : File α → Out α × File α)
    (hn : ∀ f, InRange f → next f = Spec.next sem f) (fuel : Nat) (f : File α) (acc : List (List α))
    (h : InRange f) (hf : f.rest.length + 1 ≤ fuel) :
    drainWith next fuel f acc = (acc.reverse ++ sem.iter f.rest, ⟨f.data, f.pos + f.rest.length⟩) := by
  induction fuel generalizing f acc with
  | zero => omega
  | succ n ih =>
    have hin := Spec.next_inRange sem hc f h
    unfold drainWith
    rw [hn f h]
    by_cases he : sem.first f.rest = []
    · have hr : f.rest = [] := (hc.first_eq_nil _).1 he
      rw [Spec.next_nil sem f he]
      simp [hr, hc.iter_nil]
    · rw [Spec.next_cons sem f he] at hin ⊢
      have hne : f.rest ≠ [] := fun hr => he ((hc.first_eq_nil _).2 hr)
      have hlen := hc.first_le f.rest
      have hpos : 0 < (sem.first f.rest).length := List.length_pos_iff.2 he
      have hrest : (⟨f.data, f.pos + (sem.first f.rest).length⟩ : File α).rest
          = f.rest.drop (sem.first f.rest).length := by
        simp [File.rest, List.drop_drop]
      show drainWith next n ⟨f.data, f.pos + (sem.first f.rest).length⟩ (sem.first f.rest :: acc) = _
      rw [ih _ _ hin (by rw [hrest]; simp; omega), hrest, hc.iter_cons f.rest hne]
      simp only [List.reverse_cons, List.append_assoc, List.singleton_append, List.length_drop]
      congr 2
      omega

end C18
