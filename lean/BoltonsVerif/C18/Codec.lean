import BoltonsVerif.C18.Model
/-
C18 — the prefix code standing for UTF-8: `encode`, `fit`, the incremental decoder on valid input — proved for the loop over
any unit type (`decodeG`, `decodeG_take`), of which the model's decoder and the real-bytes one (Utf8.lean) are instances.
-/
namespace C18

theorem width_pos (c : Char) : 0 < width c := Char.utf8Size_pos c

theorem encChar_length (c : Char) : (encChar c).length = width c := by simp [encChar]

theorem encChar_eq_cons (c : Char) : ∃ t, encChar c = (c, 0) :: t ∧ t.length + 1 = width c := by
  have h := width_pos c
  unfold encChar
  obtain ⟨n, hn⟩ : ∃ n, width c = n + 1 := ⟨width c - 1, by omega⟩
  rw [hn, List.range_succ_eq_map]
  exact ⟨_, rfl, by simp⟩

@[simp] theorem encode_nil : encode [] = [] := rfl
theorem encode_cons (c : Char) (cs : List Char) : encode (c :: cs) = encChar c ++ encode cs := by
  simp [encode]
theorem encode_append (a b : List Char) : encode (a ++ b) = encode a ++ encode b := by
  simp [encode]

def blen (cs : List Char) : Nat := (encode cs).length
@[simp] theorem blen_nil : blen [] = 0 := rfl
theorem blen_cons (c : Char) (cs : List Char) : blen (c :: cs) = width c + blen cs := by
  simp [blen, encode_cons, encChar_length]
theorem blen_append (a b : List Char) : blen (a ++ b) = blen a + blen b := by
  simp [blen, encode_append]
theorem length_le_blen (cs : List Char) : cs.length ≤ blen cs := by
  induction cs with
  | nil => simp
  | cons c cs ih => have := width_pos c; rw [blen_cons]; simp; omega

/-- how many whole characters of `cs` fit into `m` code units -/
def fit : Nat → List Char → Nat
  | _, [] => 0
  | m, c :: cs => if width c ≤ m then fit (m - width c) cs + 1 else 0

theorem blen_take_fit (m : Nat) (cs : List Char) : blen (cs.take (fit m cs)) ≤ m := by
  induction cs generalizing m with
  | nil => simp [fit]
  | cons c cs ih =>
    unfold fit; split
    · next h => rw [List.take_succ_cons, blen_cons]; have := ih (m - width c); omega
    · simp

theorem fit_maximal (m : Nat) (cs : List Char) (c : Char) (t : List Char)
    (h : cs.drop (fit m cs) = c :: t) : m - blen (cs.take (fit m cs)) < width c := by
  induction cs generalizing m with
  | nil => simp at h
  | cons d cs ih =>
    unfold fit at h ⊢
    split
    · next hd =>
      rw [if_pos hd] at h
      rw [List.take_succ_cons, blen_cons]
      have := ih (m - width d) (by simpa using h)
      omega
    · next hd =>
      rw [if_neg hd] at h
      simp at h
      simp
      rw [← h.1]; omega

theorem fit_all (m : Nat) (cs : List Char) (h : blen cs ≤ m) : fit m cs = cs.length := by
  induction cs generalizing m with
  | nil => simp [fit]
  | cons c cs ih =>
    rw [blen_cons] at h
    unfold fit
    rw [if_pos (by omega), ih _ (by omega)]
    simp

/-- the loop of the incremental decoder over any unit type: `start` recognises the first unit of a character, `w` reads
    the number of units off it, `one` decodes one character from (at most four) units -/
def decodeG {β : Type} (start : β → Bool) (w : β → Nat) (one : List β → Option Char) : Nat → List β → List Char × List β × Bool
  | 0, bs => ([], bs, false)
  | _ + 1, [] => ([], [], false)
  | fuel + 1, b :: bs =>
    if !start b then ([], b :: bs, true)
    else if (bs.take 3).length + 1 < w b then ([], b :: bs, false)
    else match one ((b :: bs).take 4) with
      | some c => (c :: (decodeG start w one fuel (bs.drop (w b - 1))).1,
                   (decodeG start w one fuel (bs.drop (w b - 1))).2.1,
                   (decodeG start w one fuel (bs.drop (w b - 1))).2.2)
      | none => ([], b :: bs, true)

theorem decodeF_eq (fuel : Nat) (bs : List CU) :
    decodeF fuel bs = decodeG (fun u => u.2 == 0) (fun u => width u.1) (fun l => l.head?.map (·.1)) fuel bs := by
  induction fuel generalizing bs with
  | zero => rfl
  | succ n ih =>
    rcases bs with _ | ⟨⟨c, i⟩, bs⟩
    · rfl
    · by_cases hi : i = 0 <;> simp [decodeF, decodeG, ih, hi]

/-- on a prefix of a valid encoding: the whole characters that fit, the incomplete rest, no error -/
theorem decodeG_take {β : Type} (start : β → Bool) (w : β → Nat) (one : List β → Option Char) (enc : Char → List β)
    (henc : ∀ c, ∃ b t, enc c = b :: t ∧ t.length + 1 = width c ∧ start b = true ∧ w b = width c)
    (hone : ∀ c rest, one ((enc c ++ rest).take 4) = some c)
    (fuel m : Nat) (cs : List Char) (hf : ((cs.flatMap enc).take m).length ≤ fuel) :
    decodeG start w one fuel ((cs.flatMap enc).take m) =
      (cs.take (fit m cs), ((cs.drop (fit m cs)).flatMap enc).take (m - blen (cs.take (fit m cs))), false) := by
  induction cs generalizing fuel m with
  | nil => cases fuel <;> simp [decodeG, fit]
  | cons c cs ih =>
    obtain ⟨b, t, ht, htl, hs, hw'⟩ := henc c
    rw [List.flatMap_cons, ht] at hf ⊢
    cases m with
    | zero => cases fuel <;> simp [decodeG, fit, Nat.not_le.2 (width_pos c), ht]
    | succ m =>
      simp only [List.cons_append, List.take_succ_cons, List.length_cons] at hf ⊢
      cases fuel with
      | zero => omega
      | succ fuel =>
        simp only [decodeG, hs, hw', Bool.not_true, Bool.false_eq_true, if_false]
        -- is the whole of `c` among the `m + 1` units taken?
        by_cases hw : width c ≤ m + 1
        · have hlen : ¬ ((List.take 3 (List.take m (t ++ cs.flatMap enc))).length + 1 < width c) := by
            simp only [List.length_take, List.length_append]
            have : width c ≤ 4 := Char.utf8Size_le_four c
            omega
          rw [if_neg hlen]
          -- past the `width c - 1 = t.length` units of `c` the decoder goes on with `m + 1 - width c` units of the rest
          have hwt : width c - 1 = t.length := by omega
          have hmw : m - t.length = m + 1 - width c := by omega
          have hdrop : (List.take m (t ++ cs.flatMap enc)).drop (width c - 1) = (cs.flatMap enc).take (m + 1 - width c) := by
            rw [hwt, List.drop_take, List.drop_left, hmw]
          have hfuel : ((cs.flatMap enc).take (m + 1 - width c)).length ≤ fuel := by
            rw [← hdrop, List.length_drop]; exact Nat.le_trans (Nat.sub_le _ _) (Nat.le_of_succ_le_succ hf)
          have h1 : b :: List.take m (t ++ cs.flatMap enc) = enc c ++ List.take (m - t.length) (cs.flatMap enc) := by
            rw [ht, List.take_append, List.take_of_length_le (by omega)]; rfl
          rw [h1, hone]
          simp only
          rw [hdrop, ih fuel (m + 1 - width c) hfuel]
          simp only [fit, if_pos hw, List.take_succ_cons, List.drop_succ_cons, blen_cons]
          rw [Nat.sub_sub]
        · have hlen : (List.take 3 (List.take m (t ++ cs.flatMap enc))).length + 1 < width c := by
            simp only [List.length_take]; omega
          rw [if_pos hlen]
          simp [fit, hw, ht]

theorem decodeF_take (fuel m : Nat) (cs : List Char) (hf : ((encode cs).take m).length ≤ fuel) :
    decodeF fuel ((encode cs).take m) =
      (cs.take (fit m cs), (encode (cs.drop (fit m cs))).take (m - blen (cs.take (fit m cs))), false) := by
  rw [decodeF_eq]
  refine decodeG_take _ _ _ encChar (fun c => ?_) (fun c rest => ?_) fuel m cs hf
  · obtain ⟨t, ht, htl⟩ := encChar_eq_cons c
    exact ⟨(c, 0), t, ht, htl, rfl, rfl⟩
  · obtain ⟨t, ht, _⟩ := encChar_eq_cons c
    rw [ht]; rfl

theorem decode_take (m : Nat) (cs : List Char) :
    decode ((encode cs).take m) =
      (cs.take (fit m cs), (encode (cs.drop (fit m cs))).take (m - blen (cs.take (fit m cs))), false) :=
  decodeF_take _ m cs (Nat.le_refl _)
end C18
