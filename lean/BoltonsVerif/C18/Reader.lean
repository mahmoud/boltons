import BoltonsVerif.C18.Files
import BoltonsVerif.C18.Codec
/-
C18 — `codecs.StreamReader.read` on a valid stream returns exactly the next characters (`RC`: the invariant of its
buffers; `RS`: what the reader will deliver, through which the other files speak of it).
-/
namespace C18

variable {α : Type}

/-- `p` code units of the first undecoded character sit in the byte buffer -/
def PartOK (p : Nat) : List Char → Prop
  | [] => p = 0
  | c :: _ => p < width c

/-- stream/reader coherence: the characters not yet decoded are `X`, the first `p` code units of
    their encoding have been read into `bytebuf`, the stream holds the others -/
structure RC (st : File CU) (r : Reader) (X : List Char) (p : Nat) : Prop where
  rest : st.rest = (encode X).drop p
  bb : r.bytebuf = (encode X).take p
  part : PartOK p X
  good : r.bad = false

/-- decoded characters not yet handed out -/
def pend (r : Reader) : List Char := r.merge.charbuf

theorem pend_of_linebuf_nil (r : Reader) (h : r.linebuf = []) : pend r = r.charbuf := by
  simp [pend, Reader.merge, h]

theorem RC.congr {st : File CU} {r r' : Reader} {X : List Char} {p : Nat} (h : RC st r X p)
    (hb : r'.bytebuf = r.bytebuf) (hg : r'.bad = r.bad) : RC st r' X p :=
  ⟨h.rest, by rw [hb]; exact h.bb, h.part, by rw [hg]; exact h.good⟩

theorem PartOK_lt (p : Nat) (X : List Char) (h : PartOK p X) (hx : X ≠ []) : p < blen X := by
  cases X with
  | nil => exact absurd rfl hx
  | cons c cs => simp only [PartOK] at h; rw [blen_cons]; omega

theorem PartOK_le (p : Nat) (X : List Char) (h : PartOK p X) : p ≤ blen X := by
  cases X with
  | nil => simp only [PartOK] at h; simp [h]
  | cons c cs => simp only [PartOK] at h; rw [blen_cons]; omega

theorem PartOK_nil (p : Nat) (h : PartOK p []) : p = 0 := h

theorem RC.nil_of_rest_nil {st : File CU} {r : Reader} {X : List Char} {p : Nat} (h : RC st r X p)
    (hrn : st.rest = []) : X = [] := by
  apply Classical.byContradiction
  intro hne
  have hlt := PartOK_lt p X h.part hne
  have : ((encode X).drop p).length = 0 := by rw [← h.rest, hrn]; rfl
  rw [List.length_drop] at this
  unfold blen at hlt
  omega

theorem RC.length_le_rest {st : File CU} {r : Reader} {X : List Char} {p : Nat} (h : RC st r X p) :
    X.length ≤ st.rest.length := by
  rw [h.rest, List.length_drop]
  cases X with
  | nil => simp
  | cons c t =>
    have hp : p < width c := h.part
    have := length_le_blen t
    have hb : (encode (c :: t)).length = width c + blen t := blen_cons c t
    rw [hb]; simp only [List.length_cons]; omega

/-- one pass of the loop of `StreamReader.read`: the units just read go through the incremental decoder -/
def Reader.feed (r : Reader) (got : List CU) : Reader :=
  { r with bytebuf := (decode (r.bytebuf ++ got)).2.1, charbuf := r.charbuf ++ (decode (r.bytebuf ++ got)).1,
           bad := r.bad || (decode (r.bytebuf ++ got)).2.2 }

theorem rdLoop_succ (size : Option Nat) (fuel : Nat) (st : File CU) (r : Reader) :
    rdLoop size (fuel + 1) st r =
      if enough size r.charbuf then (st, r)
      else if (r.bytebuf ++ (st.read size).1).isEmpty then ((st.read size).2, r)
      else if (st.read size).1.isEmpty then ((st.read size).2, r.feed (st.read size).1)
      else rdLoop size fuel (st.read size).2 (r.feed (st.read size).1) := rfl

theorem RC.feed {st st' : File CU} {r : Reader} {X : List Char} {p : Nat} (h : RC st r X p) (got : List CU)
    (hgot : got = st.rest.take got.length) (hrest : st'.rest = st.rest.drop got.length) :
    ∃ X' p', RC st' (r.feed got) X' p' ∧ (r.feed got).charbuf ++ X' = r.charbuf ++ X ∧
      (r.feed got).linebuf = r.linebuf := by
  have hdata : r.bytebuf ++ got = (encode X).take (p + got.length) := by
    rw [List.take_add, ← h.bb, ← h.rest, ← hgot]
  rw [h.rest, List.drop_drop] at hrest
  generalize p + got.length = m at hdata hrest
  unfold Reader.feed
  rw [hdata, decode_take m X]
  have hble := blen_take_fit m X
  refine ⟨X.drop (fit m X), ?_⟩
  have hrest' : st'.rest = (encode (X.drop (fit m X))).drop (m - blen (X.take (fit m X))) := by
    rw [hrest]
    conv => lhs; rw [← List.take_append_drop (fit m X) X, encode_append]
    rw [List.drop_append, List.drop_eq_nil_of_le (by simpa [blen] using hble)]
    simp [blen]
  cases hX : X.drop (fit m X) with
  | nil => exact ⟨0, ⟨by rw [hrest', hX]; simp, by simp, rfl, by simp [h.good]⟩, by simp [← hX], rfl⟩
  | cons c t =>
    exact ⟨m - blen (X.take (fit m X)), ⟨by rw [hrest', hX], by simp, fit_maximal m X c t hX, by simp [h.good]⟩,
      by simp [← hX], rfl⟩

/-- what is buffered, followed by what is not yet decoded, stays the same text; the loop ends with the characters asked
    for or, failing that, with nothing left to decode; the model's fuel `rest.length + 2` is one more than needed -/
theorem rdLoop_spec (size : Option Nat) (fuel : Nat) (st : File CU) (r : Reader) (X : List Char) (p : Nat)
    (h : RC st r X p) (hin : InRange st) (hf : st.rest.length + 1 ≤ fuel) :
    ∃ X' p', (rdLoop size fuel st r).2.charbuf ++ X' = r.charbuf ++ X ∧
      (rdLoop size fuel st r).2.linebuf = r.linebuf ∧
      RC (rdLoop size fuel st r).1 (rdLoop size fuel st r).2 X' p' ∧
      (rdLoop size fuel st r).1.data = st.data ∧ InRange (rdLoop size fuel st r).1 ∧
      (enough size (rdLoop size fuel st r).2.charbuf = true ∨ X' = []) := by
  induction fuel generalizing st r X p with
  | zero => omega
  | succ fuel ih =>
    rw [rdLoop_succ]
    by_cases he : enough size r.charbuf = true
    · rw [if_pos he]
      exact ⟨X, p, rfl, rfl, h, rfl, hin, Or.inl he⟩
    · rw [if_neg he]
      rcases File.read_spec st size with ⟨hnd, hrest1, hdata1, hin1⟩
      -- a positive amount is asked for, so only an exhausted stream gives an empty read
      have hkpos : st.rest ≠ [] → (st.read size).1 ≠ [] := by
        intro hne
        rw [hnd]
        cases size with
        | none => simp [amount, hne]
        | some n =>
          have : 0 < n := by
            cases n with
            | zero => simp [enough] at he
            | succ k => omega
          cases hr : st.rest with
          | nil => exact absurd hr hne
          | cons a b => simp [amount]; omega
      have hXnil : (st.read size).1 = [] → X = [] := fun hnil =>
        h.nil_of_rest_nil (Classical.byContradiction fun hne => hkpos hne hnil)
      by_cases hde : (r.bytebuf ++ (st.read size).1).isEmpty = true
      · rw [if_pos hde]
        have hnil : (st.read size).1 = [] := (List.append_eq_nil_iff.1 (List.isEmpty_iff.1 hde)).2
        refine ⟨X, p, rfl, rfl, ⟨?_, h.bb, h.part, h.good⟩, hdata1, hin1 hin, Or.inr (hXnil hnil)⟩
        rw [hrest1, hnil, h.rest]; rfl
      · rw [if_neg hde]
        by_cases hne : (st.read size).1.isEmpty = true
        · -- no new data but undecoded bytes: impossible on a valid stream
          exfalso
          have hnil : (st.read size).1 = [] := List.isEmpty_iff.1 hne
          apply hde
          rw [hnil, h.bb, hXnil hnil]; simp
        · rw [if_neg hne]
          obtain ⟨X1, p1, hrc, hcb, hlb⟩ := h.feed (st' := (st.read size).2) (st.read size).1
            (by rw [hnd]; exact (take_length_take _ _).symm) hrest1
          have hfuel : (st.read size).2.rest.length + 1 ≤ fuel := by
            have : 0 < (st.read size).1.length := List.length_pos_iff.2 fun hh => hne (by simp [hh])
            have : (st.read size).1.length ≤ st.rest.length := by rw [hnd, List.length_take]; omega
            rw [hrest1, List.length_drop]; omega
          obtain ⟨X2, p2, hcb2, hlb2, hrc2, hd2, hin2, hfin⟩ := ih _ _ _ _ hrc (hin1 hin) hfuel
          exact ⟨X2, p2, by rw [hcb2, hcb], by rw [hlb2, hlb], hrc2, by rw [hd2, hdata1], hin2, hfin⟩

theorem merge_linebuf (r : Reader) : r.merge.linebuf = [] := by
  unfold Reader.merge; split
  · next h => exact List.isEmpty_iff.1 h
  · rfl

theorem RC.merge {st : File CU} {r : Reader} {X : List Char} {p : Nat} (h : RC st r X p) :
    RC st r.merge X p := by
  unfold Reader.merge; split
  · exact h
  · exact h.congr rfl rfl

/-- what `read(size)` must return when `R` is left -/
def wanted (size : Option Nat) (R : List Char) : List Char :=
  match size with
  | none => R
  | some n => R.take n
@[simp] theorem wanted_none (R : List Char) : wanted none R = R := rfl
@[simp] theorem wanted_some (n : Nat) (R : List Char) : wanted (some n) R = R.take n := rfl
theorem wanted_length_le (size : Option Nat) (R : List Char) : (wanted size R).length ≤ R.length := by
  cases size <;> simp [List.length_take]; omega

/-- the reader (buffers + stream) will deliver exactly the text `R` -/
structure RS (st : File CU) (r : Reader) (R : List Char) : Prop where
  ex : ∃ X p, RC st r X p ∧ R = pend r ++ X
  inr : InRange st

theorem Reader.read_spec (st : File CU) (r : Reader) (R : List Char) (h : RS st r R) (size : Option Nat) :
    (Reader.read st r size).1 = wanted size R ∧
    RS (Reader.read st r size).2.1 (Reader.read st r size).2.2 (R.drop (Reader.read st r size).1.length) ∧
    (Reader.read st r size).2.2.linebuf = [] ∧ (Reader.read st r size).2.1.data = st.data := by
  obtain ⟨⟨X, p, hrc0, rfl⟩, hin⟩ := h
  rcases rdLoop_spec size (st.rest.length + 2) st r.merge X p hrc0.merge hin (by omega)
    with ⟨X', p', hcb, hlb, hrc, hd, hin', hfin⟩
  rw [merge_linebuf] at hlb
  rw [show pend r = r.merge.charbuf from rfl, ← hcb]
  -- the reader handed back is the loop's with some of its characters taken out of `charbuf`
  have key : ∀ (r' : Reader) (Rest : List Char), r'.bytebuf = (rdLoop size (st.rest.length + 2) st r.merge).2.bytebuf →
      r'.bad = (rdLoop size (st.rest.length + 2) st r.merge).2.bad → r'.linebuf = [] → Rest = r'.charbuf ++ X' →
      RS (rdLoop size (st.rest.length + 2) st r.merge).1 r' Rest := fun r' Rest hb hg hl he =>
    ⟨⟨X', p', hrc.congr hb hg, by rw [pend_of_linebuf_nil _ hl]; exact he⟩, hin'⟩
  cases size with
  | none =>
    obtain rfl : X' = [] := hfin.resolve_left (by simp [enough])
    simp only [Reader.read]
    exact ⟨by simp, key _ _ rfl rfl hlb (by simp), hlb, hd⟩
  | some n =>
    simp only [Reader.read, wanted_some, List.length_take]
    refine ⟨?_, key _ _ rfl rfl hlb ?_, hlb, hd⟩ <;> rcases hfin with hc | rfl
    · rw [List.take_append_of_le_length (by simpa [enough] using hc)]
    · simp
    · simp only [enough, decide_eq_true_eq] at hc
      rw [Nat.min_eq_left hc, List.drop_append_of_le_length hc]
    · simp

end C18
