import BoltonsVerif.C18.Codec
/-
C18 — the abstract code units are real UTF-8: what the model's decoder tests (`i = 0`, `width c`) can be read off
the real bytes, CR / LF bytes are the encodings of CR / LF only, and `bytes.splitlines` on the stored bytes cuts
where `splitL false` cuts the text.  Built on `String.utf8EncodeChar` and the public lemmas of Lean core
(`Init/Data/String/Decode.lean`).
-/
namespace C18

/-- a masked byte is `UInt8.ofNat` of a number not above the mask: lets `decide` enumerate the few values -/
theorem forall_masked (mask : UInt8) (P : UInt8 → Prop) (h : ∀ n : Fin (mask.toNat + 1), P (UInt8.ofNat n.val)) :
    ∀ x : UInt8, P (x &&& mask) := by
  intro x
  have hle : (x &&& mask).toNat ≤ mask.toNat := by rw [UInt8.toNat_and]; exact Nat.and_le_right
  have := h ⟨(x &&& mask).toNat, by omega⟩
  simpa using this

theorem lead2_facts : ∀ x : UInt8, leadWidth (x &&& 0x1f ||| 0xc0) = 2 ∧ 0x80 ≤ (x &&& 0x1f ||| 0xc0) :=
  forall_masked 0x1f (fun y => leadWidth (y ||| 0xc0) = 2 ∧ 0x80 ≤ (y ||| 0xc0)) (by decide)
theorem lead3_facts : ∀ x : UInt8, leadWidth (x &&& 0x0f ||| 0xe0) = 3 ∧ 0x80 ≤ (x &&& 0x0f ||| 0xe0) :=
  forall_masked 0x0f (fun y => leadWidth (y ||| 0xe0) = 3 ∧ 0x80 ≤ (y ||| 0xe0)) (by decide)
theorem lead4_facts : ∀ x : UInt8, leadWidth (x &&& 0x07 ||| 0xf0) = 4 ∧ 0x80 ≤ (x &&& 0x07 ||| 0xf0) :=
  forall_masked 0x07 (fun y => leadWidth (y ||| 0xf0) = 4 ∧ 0x80 ≤ (y ||| 0xf0)) (by decide)
theorem cont_facts : ∀ x : UInt8, 0x80 ≤ (x &&& 0x3f ||| 0x80) :=
  forall_masked 0x3f (fun y => 0x80 ≤ (y ||| 0x80)) (by decide)

theorem ascii_facts (c : Char) (h : c.utf8Size = 1) :
    leadWidth c.val.toUInt8 = 1 ∧ c.val.toUInt8.toNat = c.val.toNat ∧ c.val.toNat < 128 := by
  have hv : c.val.toNat ≤ 127 := by
    have := Char.utf8Size_eq_one_iff.1 h
    simpa [UInt32.le_iff_toNat_le] using this
  have hb : c.val.toUInt8.toNat = c.val.toNat := by
    rw [UInt32.toNat_toUInt8]; omega
  refine ⟨?_, hb, by omega⟩
  have : c.val.toUInt8 < 0x80 := by rw [UInt8.lt_iff_toNat_lt, hb]; show c.val.toNat < 128; omega
  unfold leadWidth; rw [if_pos this]

theorem size_cases (c : Char) : c.utf8Size = 1 ∨ c.utf8Size = 2 ∨ c.utf8Size = 3 ∨ c.utf8Size = 4 := by
  have := c.utf8Size_pos; have := c.utf8Size_le_four; omega

theorem cuByte_getElem (c : Char) (i : Nat) (h : i < (String.utf8EncodeChar c).length) :
    cuByte (c, i) = (String.utf8EncodeChar c)[i] := by
  simp only [cuByte, List.getD_eq_getElem?_getD]
  rw [List.getElem?_eq_getElem h]; rfl

theorem cuByte_isLead (c : Char) (i : Nat) (h : i < width c) : isLead (cuByte (c, i)) = true ↔ i = 0 := by
  have hi : i < (String.utf8EncodeChar c).length := by simpa [width] using h
  rw [cuByte_getElem c i hi]
  simp [isLead]

theorem leadWidth_cuByte (c : Char) : leadWidth (cuByte (c, 0)) = width c := by
  unfold cuByte width
  rcases size_cases c with h | h | h | h
  · rw [String.utf8EncodeChar_eq_singleton h, h]; exact (ascii_facts c h).1
  · rw [String.utf8EncodeChar_eq_cons_cons h, h]; exact (lead2_facts _).1
  · rw [String.utf8EncodeChar_eq_cons_cons_cons h, h]; exact (lead3_facts _).1
  · rw [String.utf8EncodeChar_eq_cons_cons_cons_cons h, h]; exact (lead4_facts _).1

theorem multibyte_ge (c : Char) (h : 1 < c.utf8Size) (i : Nat) (hi : i < c.utf8Size) : 0x80 ≤ cuByte (c, i) := by
  unfold cuByte
  rcases size_cases c with h1 | h2 | h3 | h4
  · omega
  · rw [String.utf8EncodeChar_eq_cons_cons h2]
    obtain rfl | rfl : i = 0 ∨ i = 1 := by omega
    · exact (lead2_facts _).2
    · exact cont_facts _
  · rw [String.utf8EncodeChar_eq_cons_cons_cons h3]
    obtain rfl | rfl | rfl : i = 0 ∨ i = 1 ∨ i = 2 := by omega
    · exact (lead3_facts _).2
    · exact cont_facts _
    · exact cont_facts _
  · rw [String.utf8EncodeChar_eq_cons_cons_cons_cons h4]
    obtain rfl | rfl | rfl | rfl : i = 0 ∨ i = 1 ∨ i = 2 ∨ i = 3 := by omega
    · exact (lead4_facts _).2
    · exact cont_facts _
    · exact cont_facts _
    · exact cont_facts _

theorem cuByte_eq_ascii (c : Char) (i : Nat) (h : i < width c) (d : Char) (hd : d.utf8Size = 1) :
    cuByte (c, i) = d.val.toUInt8 ↔ c = d := by
  unfold width at h
  obtain ⟨-, hdb, hdlt⟩ := ascii_facts d hd
  by_cases h1 : c.utf8Size = 1
  · obtain rfl : i = 0 := by omega
    have hc : cuByte (c, 0) = c.val.toUInt8 := by
      unfold cuByte; rw [String.utf8EncodeChar_eq_singleton h1]; rfl
    rw [hc]
    constructor
    · intro e
      have := congrArg UInt8.toNat e
      rw [(ascii_facts c h1).2.1, hdb] at this
      exact Char.ext (UInt32.toNat_inj.1 this)
    · intro e; rw [e]
  · have hm : 1 < c.utf8Size := by have := c.utf8Size_pos; omega
    constructor
    · intro e
      have := multibyte_ge c hm i h
      rw [e, UInt8.le_iff_toNat_le, hdb] at this
      have : (0x80 : UInt8).toNat = 128 := rfl
      omega
    · intro e; subst e; exact absurd hd h1

theorem cuByte_eq_lf (c : Char) (i : Nat) (h : i < width c) : cuByte (c, i) = 10 ↔ c = '\n' :=
  cuByte_eq_ascii c i h '\n' rfl
theorem cuByte_eq_cr (c : Char) (i : Nat) (h : i < width c) : cuByte (c, i) = 13 ↔ c = '\r' :=
  cuByte_eq_ascii c i h '\r' rfl

theorem realBytes_encChar (c : Char) : realBytes (encChar c) = String.utf8EncodeChar c := by
  apply List.ext_getElem
  · simp [realBytes, encChar, width]
  · intro i h1 h2
    simp only [realBytes, encChar, List.getElem_map, List.getElem_range]
    exact cuByte_getElem c i h2

theorem realBytes_append (a b : List CU) : realBytes (a ++ b) = realBytes a ++ realBytes b := by
  simp [realBytes]

theorem realBytes_encode_flatMap (cs : List Char) :
    realBytes (encode cs) = cs.flatMap (fun c => realBytes (encChar c)) := by
  simp [realBytes, encode, List.map_flatMap]

theorem realBytes_encode (cs : List Char) : realBytes (encode cs) = cs.flatMap String.utf8EncodeChar := by
  simp only [realBytes_encode_flatMap, realBytes_encChar]

theorem realBytes_length (us : List CU) : (realBytes us).length = us.length := by simp [realBytes]
theorem realBytes_take (n : Nat) (us : List CU) : realBytes (us.take n) = (realBytes us).take n := by
  simp [realBytes, List.map_take]
theorem realBytes_drop (n : Nat) (us : List CU) : realBytes (us.drop n) = (realBytes us).drop n := by
  simp [realBytes, List.map_drop]

theorem decodeRF_eq (fuel : Nat) (bs : List UInt8) :
    decodeRF fuel bs = decodeG isLead leadWidth (fun l => l.toByteArray.utf8DecodeChar? 0) fuel bs := by
  induction fuel generalizing bs with
  | zero => rfl
  | succ n ih => cases bs <;> simp only [decodeRF, decodeG, ih] <;> rfl

theorem decodeRF_take (fuel m : Nat) (cs : List Char) (hf : ((encode cs).take m).length ≤ fuel) :
    decodeRF fuel (realBytes ((encode cs).take m)) =
      (cs.take (fit m cs), realBytes ((encode (cs.drop (fit m cs))).take (m - blen (cs.take (fit m cs)))), false) := by
  rw [decodeRF_eq, realBytes_take, realBytes_take, realBytes_encode_flatMap, realBytes_encode_flatMap]
  refine decodeG_take _ _ _ (fun c => realBytes (encChar c)) (fun c => ?_) (fun c rest => ?_) fuel m cs
    (by rw [← realBytes_encode_flatMap, ← realBytes_take, realBytes_length]; exact hf)
  · obtain ⟨t, ht, htl⟩ := encChar_eq_cons c
    exact ⟨cuByte (c, 0), realBytes t, by rw [ht]; rfl, by rw [realBytes_length]; exact htl,
      (cuByte_isLead c 0 (width_pos c)).2 rfl, leadWidth_cuByte c⟩
  · -- the bytes start with the whole encoding of `c`: core's decoder returns `c`
    have h4 : (String.utf8EncodeChar c).length ≤ 4 := by
      rw [String.length_utf8EncodeChar]; exact c.utf8Size_le_four
    simp only [realBytes_encChar]
    rw [List.take_append, List.take_of_length_le h4, List.toByteArray_append]
    exact ByteArray.utf8DecodeChar?_utf8EncodeChar_append

theorem decodeR_take (m : Nat) (cs : List Char) :
    decodeR (realBytes ((encode cs).take m)) =
      ((decode ((encode cs).take m)).1, realBytes (decode ((encode cs).take m)).2.1,
       (decode ((encode cs).take m)).2.2) := by
  rw [decode_take]
  unfold decodeR
  rw [decodeRF_take _ m cs (by rw [realBytes_length]; exact Nat.le_refl _)]

theorem splitB_cr_lf (bs : List UInt8) : splitB (13 :: 10 :: bs) = [13, 10] :: splitB bs := by simp [splitB]
theorem splitB_cr_other (d : UInt8) (bs : List UInt8) (hd : d ≠ 10) :
    splitB (13 :: d :: bs) = [13] :: splitB (d :: bs) := by
  rw [splitB.eq_def]; simp [hd]
theorem splitB_cr_end : splitB [13] = [[13]] := by simp [splitB]
theorem splitB_lf (bs : List UInt8) : splitB (10 :: bs) = [10] :: splitB bs := by
  rw [splitB.eq_def]; simp
theorem splitB_other (b : UInt8) (bs : List UInt8) (h10 : b ≠ 10) (h13 : b ≠ 13) :
    splitB (b :: bs) = match splitB bs with
      | [] => [[b]]
      | l :: ls => (b :: l) :: ls := by
  rw [splitB.eq_def]; simp only [if_neg h13, if_neg h10]
  generalize splitB bs = x
  cases x <;> rfl

theorem splitB_plain_append (w r : List UInt8) (hw : w ≠ []) (hp : ∀ b ∈ w, b ≠ 10 ∧ b ≠ 13) :
    splitB (w ++ r) = match splitB r with
      | [] => [w]
      | l :: ls => (w ++ l) :: ls := by
  induction w with
  | nil => exact absurd rfl hw
  | cons b w ih =>
    have hb := hp b (by simp)
    by_cases hwn : w = []
    · subst hwn
      simp only [List.cons_append, List.nil_append]
      rw [splitB_other b r hb.1 hb.2]
    · have := ih hwn (fun x hx => hp x (by simp [hx]))
      simp only [List.cons_append]
      rw [splitB_other b _ hb.1 hb.2, this]
      cases splitB r <;> rfl

theorem realBytes_encChar_cr : realBytes (encChar '\r') = [13] := by rw [realBytes_encChar]; decide
theorem realBytes_encChar_lf : realBytes (encChar '\n') = [10] := by rw [realBytes_encChar]; decide

theorem realBytes_encode_cons (c : Char) (cs : List Char) :
    realBytes (encode (c :: cs)) = realBytes (encChar c) ++ realBytes (encode cs) := by
  rw [encode_cons, realBytes_append]

theorem realBytes_encChar_plain (c : Char) (hr : c ≠ '\r') (hn : c ≠ '\n') :
    realBytes (encChar c) ≠ [] ∧ ∀ b ∈ realBytes (encChar c), b ≠ 10 ∧ b ≠ 13 := by
  constructor
  · rcases encChar_eq_cons c with ⟨t, ht, _⟩
    rw [ht]; simp [realBytes]
  · intro b hb
    unfold realBytes encChar at hb
    rw [List.map_map, List.mem_map] at hb
    rcases hb with ⟨i, hi, rfl⟩
    rw [List.mem_range] at hi
    exact ⟨fun e => hn ((cuByte_eq_lf c i hi).1 e), fun e => hr ((cuByte_eq_cr c i hi).1 e)⟩

/-- `StreamRecoder.readlines` re-encodes the text and cuts the BYTES with `bytes.splitlines`; that is the
    encoding of `splitL false` of the text, piece by piece (no CR / LF byte hides inside a character) -/
theorem splitB_realBytes (cs : List Char) :
    splitB (realBytes (encode cs)) = (splitL false cs).map (fun l => realBytes (encode l)) := by
  fun_induction splitL false cs with
  | case1 => rfl
  | case2 cs' ih =>
    simp only [realBytes_encode_cons, realBytes_encChar_cr, realBytes_encChar_lf, List.cons_append,
      List.nil_append, List.map_cons]
    rw [splitB_cr_lf, ih]
    rfl
  | case3 d cs' hd ih =>
    rcases encChar_eq_cons d with ⟨t, ht, _⟩
    have hb0 : cuByte (d, 0) ≠ 10 := fun e => hd ((cuByte_eq_lf d 0 (width_pos d)).1 e)
    have hcons : realBytes (encode (d :: cs')) = cuByte (d, 0) :: (realBytes t ++ realBytes (encode cs')) := by
      rw [realBytes_encode_cons, ht]; rfl
    rw [hcons] at ih
    rw [realBytes_encode_cons, realBytes_encChar_cr, hcons]
    simp only [List.cons_append, List.nil_append, List.map_cons]
    rw [splitB_cr_other _ _ hb0, ih]
    rfl
  | case4 => rw [realBytes_encode_cons, realBytes_encChar_cr]; exact splitB_cr_end
  | case5 c cs hc hb ih =>
    have hn : c = '\n' := by simpa [isBrk] using hb
    subst hn
    simp only [realBytes_encode_cons, realBytes_encChar_lf, List.cons_append, List.nil_append, List.map_cons]
    rw [splitB_lf, ih]
    rfl
  | case6 c cs hc hb hs ih =>
    have hn : c ≠ '\n' := by simpa [isBrk] using hb
    have hp := realBytes_encChar_plain c hc hn
    rw [realBytes_encode_cons, splitB_plain_append _ _ hp.1 hp.2, ih, hs]
    simp [realBytes_encode_cons]
    rfl
  | case7 c cs hc hb l' ls hs ih =>
    have hn : c ≠ '\n' := by simpa [isBrk] using hb
    have hp := realBytes_encChar_plain c hc hn
    rw [realBytes_encode_cons, splitB_plain_append _ _ hp.1 hp.2, ih, hs]
    simp [realBytes_encode_cons]

end C18
