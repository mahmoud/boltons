import BoltonsVerif.Generated.Src_ioutils
import BoltonsVerif.PyRtLemmas
import BoltonsVerif.C18.Props
/-
C18 — source-translator tie for `boltons.ioutils.SpooledBytesIO`, `SpooledStringIO` (both on `SpooledIOBase`) and
`MultiFileReader`.
-/
namespace C18
open Src.ioutils PyRtC18

section combinators
variable {σ ρ α τ : Type}

@[simp] theorem seq_apply (a b : Stmt σ ρ) (s : σ) :
    seq a b s = (match a s with | (.next, s1) => b s1 | (fl, s1) => (fl, s1)) := rfl
@[simp] theorem skip_apply (s : σ) : (skip : Stmt σ ρ) s = (.next, s) := rfl
@[simp] theorem assign_apply (f : σ → σ) (s : σ) : (assign f : Stmt σ ρ) s = (.next, f s) := rfl
@[simp] theorem cond_apply (c : σ → Bool) (a b : Stmt σ ρ) (s : σ) : cond c a b s = if c s then a s else b s := rfl
@[simp] theorem ret_apply (e : σ → ρ) (s : σ) : ret e s = (.ret (e s), s) := rfl
@[simp] theorem brk_apply (s : σ) : (brk : Stmt σ ρ) s = (.brk, s) := rfl
@[simp] theorem cont_apply (s : σ) : (cont : Stmt σ ρ) s = (.cont, s) := rfl
@[simp] theorem raise_apply (e : PyExc) (s : σ) : (raise e : Stmt σ ρ) s = (.exc e, s) := rfl
@[simp] theorem bindE_apply (m : σ → Except PyExc α × σ) (k : α → Stmt σ ρ) (s : σ) :
    bindE m k s = (match m s with | (.ok v, s1) => k v s1 | (.error e, s1) => (.exc e, s1)) := rfl
@[simp] theorem finish_ret (proj : σ → τ) (v : ρ) (s : σ) : finish proj (Flow.ret v, s) = (.ok v, proj s) := rfl
@[simp] theorem finish_exc (proj : σ → τ) (e : PyExc) (s : σ) :
    finish proj ((Flow.exc e : Flow ρ), s) = (.error e, proj s) := rfl

end combinators

theorem whileLoop_succ {σ ρ : Type} (c : σ → Bool) (body : Stmt σ ρ) (n : Nat) (s : σ) :
    whileLoop c body (n + 1) s =
      (if c s then
        match body s with
        | (.next, s1) => whileLoop c body n s1
        | (.cont, s1) => whileLoop c body n s1
        | (.brk, s1) => (.next, s1)
        | (fl, s1) => (fl, s1)
      else (.next, s)) := rfl

/-- a loop known to end normally, met as `match whileLoop … with …` after `split` -/
theorem loop_exit_of_eq {σ ρ : Type} {r : Flow ρ × σ} {P : σ → Prop} (h : ∃ s', r = (.next, s') ∧ P s')
    {fl : Flow ρ} {s1 : σ} (heq : r = (fl, s1)) : fl = .next ∧ P s1 := by
  obtain ⟨s', hs', hP⟩ := h
  rw [hs'] at heq
  cases heq
  exact ⟨rfl, hP⟩

/-! SpooledBytesIO: every translated method is the abstract file operation behind a closed-check -/

abbrev SB := SpooledBytesIO.St

/-- run an operation of the abstract file on the buffer of the object -/
def onBuf {ρ : Type} (st : SB) (r : Res ρ (FileObj UInt8)) : Except PyExc ρ × SB := (r.1, { st with buffer := r.2 })

theorem src_sb_closed_eq_model (st : SB) : SpooledBytesIO.closed st = (.ok st.buffer.closed, st) := by
  simp [SpooledBytesIO.closed, SpooledBytesIO.closed.body, FileObj.isClosed]

theorem src_sb_checkClosed_eq_model (st : SB) (msg : Option Unit) :
    SpooledBytesIO.checkClosed st msg = (if st.buffer.closed then .error .ValueError else .ok (), st) := by
  cases h : st.buffer.closed <;>
    simp [SpooledBytesIO.checkClosed, SpooledBytesIO.checkClosed.body, src_sb_closed_eq_model, h]

theorem src_sb_rolled_eq_model (st : SB) : SpooledBytesIO.rolled st = (.ok st.buffer.real, st) := by
  simp [SpooledBytesIO.rolled, SpooledBytesIO.rolled.body, FileObj.isMem]

/-- what every public method starts with -/
theorem sb_checkClosed_open (st : SB) (msg : Option Unit) (h : st.buffer.closed = false) :
    SpooledBytesIO.checkClosed st msg = (.ok (), st) := by simp [src_sb_checkClosed_eq_model, h]
theorem sb_checkClosed_closed (st : SB) (msg : Option Unit) (h : st.buffer.closed = true) :
    SpooledBytesIO.checkClosed st msg = (.error .ValueError, st) := by simp [src_sb_checkClosed_eq_model, h]

theorem src_sb_tell_eq_model (st : SB) :
    SpooledBytesIO.tell st = (if st.buffer.closed then .error .ValueError else .ok (st.buffer.f.pos : Int), st) := by
  cases h : st.buffer.closed <;>
    simp [SpooledBytesIO.tell, SpooledBytesIO.tell.body, src_sb_checkClosed_eq_model, FileObj.tell, h]

theorem src_sb_seek_eq_model (st : SB) (pos mode : Int) :
    SpooledBytesIO.seek st pos mode = onBuf st (FileObj.seek st.buffer pos mode) := by
  cases h : st.buffer.closed
  · simp only [SpooledBytesIO.seek, SpooledBytesIO.seek.body, seq_apply, bindE_apply, sb_checkClosed_open _ _ h,
      skip_apply, ret_apply, onBuf]
    rcases hr : FileObj.seek st.buffer pos mode with ⟨_ | _, o⟩ <;> simp
  · simp [SpooledBytesIO.seek, SpooledBytesIO.seek.body, sb_checkClosed_closed _ _ h, FileObj.seek, onBuf, h]

theorem src_sb_read_eq_model (st : SB) (n : Int) :
    SpooledBytesIO.read st n = onBuf st (FileObj.read st.buffer n) := by
  cases h : st.buffer.closed
  · simp only [SpooledBytesIO.read, SpooledBytesIO.read.body, seq_apply, bindE_apply, sb_checkClosed_open _ _ h,
      skip_apply, ret_apply, onBuf]
    rcases hr : FileObj.read st.buffer n with ⟨_ | _, o⟩ <;> simp
  · simp [SpooledBytesIO.read, SpooledBytesIO.read.body, sb_checkClosed_closed _ _ h, FileObj.read, onBuf, h]

/-- the limit `readline(length)` hands to the buffer: `if length:` — `None` and `0` mean "no limit" -/
def rlLimit : Option Int → Option Int
  | none => none
  | some n => if n = 0 then none else some n

theorem src_sb_readline_eq_model (st : SB) (length : Option Int) :
    SpooledBytesIO.readline st length = onBuf st (FileObj.readline PyRtC18.isNL st.buffer (rlLimit length)) := by
  cases h : st.buffer.closed
  · rcases length with _ | n
    · simp [SpooledBytesIO.readline, SpooledBytesIO.readline.body, sb_checkClosed_open _ _ h, rlLimit, truthyOptInt,
        FileObj.readline, onBuf, h]
    · by_cases hn : n = 0
      · simp [SpooledBytesIO.readline, SpooledBytesIO.readline.body, sb_checkClosed_open _ _ h, rlLimit, truthyOptInt,
          FileObj.readline, onBuf, h, hn]
      · -- what `simp` may leave: both sides hand the buffer the same limit `if n < 0 then none else some n.toNat`
        simp [SpooledBytesIO.readline, SpooledBytesIO.readline.body, sb_checkClosed_open _ _ h, rlLimit, truthyOptInt,
          FileObj.readline, onBuf, h, hn, PyRt.unwrap] <;> exact ⟨rfl, rfl⟩
  · simp [SpooledBytesIO.readline, SpooledBytesIO.readline.body, sb_checkClosed_closed _ _ h, FileObj.readline, onBuf, h]

/-- the object after `rollover()` of an open, in-memory object: a temporary file with the same content and position -/
def rolledOver (st : SB) : SB :=
  { st with buffer := ⟨((File.empty : File UInt8).write st.buffer.f.data).seek st.buffer.f.pos, false, true, false⟩ }

/-- `tmp.write(getvalue())`; for empty data nothing is written and nothing left unflushed -/
theorem FileObj_write_newReal (d : List UInt8) :
    FileObj.write FileObj.newReal d =
      (.ok (d.length : Int), ⟨(File.empty : File UInt8).write d, false, true, !d.isEmpty⟩) := by
  cases d <;> simp [FileObj.write, FileObj.newReal, File.write, File.empty]

/-- `rollover()`: nothing when already on disk (the closed-check is NOT made); otherwise content and position move to
    a new temporary file and the BytesIO is closed; ValueError (from `buffer.tell()`) on a closed BytesIO -/
theorem src_sb_rollover_eq_model (st : SB) :
    SpooledBytesIO.rollover st =
      (if st.buffer.real then (.ok (), st)
       else if st.buffer.closed then (.error .ValueError, st) else (.ok (), rolledOver st)) := by
  rcases st with ⟨⟨⟨d, p⟩, cl, rl, sl⟩, ms, dir⟩
  have hp : ¬ ((p : Int) < 0) := by omega
  cases rl <;> cases cl <;>
    simp [SpooledBytesIO.rollover, SpooledBytesIO.rollover.body, src_sb_rolled_eq_model, FileObj.tell,
      FileObj.getvalue, FileObj_write_newReal, FileObj.seek, FileObj.target, FileObj.close, rolledOver, hp]

theorem FileObj_write_fst (o : FileObj UInt8) (b : List UInt8) (h : o.closed = false) :
    (FileObj.write o b).1 = .ok (b.length : Int) := by
  cases b <;> simp [FileObj.write, h]

/-- the object `write(s)` writes into: rolled over first when the write would reach `max_size` -/
def writeTarget (st : SB) (b : List UInt8) : SB :=
  if (st.buffer.f.pos : Int) + b.length ≥ st.max_size ∧ st.buffer.real = false then rolledOver st else st

theorem src_sb_write_eq_model (st : SB) (b : List UInt8) (h : st.buffer.closed = false) :
    SpooledBytesIO.write st b = ((.ok (), (onBuf (writeTarget st b) (FileObj.write (writeTarget st b).buffer b)).2)) := by
  rcases st with ⟨⟨⟨d, p⟩, cl, rl, sl⟩, ms, dir⟩
  simp only at h
  subst h
  by_cases hm : (p : Int) + b.length ≥ ms <;> cases rl <;>
    simp [SpooledBytesIO.write, SpooledBytesIO.write.body, src_sb_checkClosed_eq_model, src_sb_tell_eq_model,
      src_sb_rollover_eq_model, hm, writeTarget, onBuf, FileObj_write_fst, rolledOver, PyRt.len]

theorem src_sb_write_closed (st : SB) (b : List UInt8) (h : st.buffer.closed = true) :
    SpooledBytesIO.write st b = (.error .ValueError, st) := by
  simp [SpooledBytesIO.write, SpooledBytesIO.write.body, sb_checkClosed_closed _ _ h]

theorem src_sb_fileno_eq_model (st : SB) (h : st.buffer.closed = false) :
    SpooledBytesIO.fileno st = (.ok ⟨⟩, if st.buffer.real then st else rolledOver st) := by
  cases hr : st.buffer.real <;>
    simp [SpooledBytesIO.fileno, SpooledBytesIO.fileno.body, src_sb_rollover_eq_model, FileObj.fileno, h, hr, rolledOver]

/-- `os.fstat` is asked only after the `seek(0)` that flushes a temporary file (`stale` cleared) and so makes its answer
    the length of the data -/
theorem src_sb_len_eq_model (st : SB) (h : st.buffer.closed = false) :
    SpooledBytesIO.len st =
      (.ok (st.buffer.f.data.length : Int), { st with buffer := { st.buffer with stale := false } }) := by
  have hp : ¬ ((st.buffer.f.pos : Int) < 0) := by omega
  have hl : ¬ ((st.buffer.f.data.length : Int) < 0) := by omega
  cases hr : st.buffer.real <;>
    simp [SpooledBytesIO.len, SpooledBytesIO.len.body, src_sb_tell_eq_model, src_sb_rolled_eq_model,
      src_sb_seek_eq_model, src_sb_fileno_eq_model, onBuf, FileObj.seek, FileObj.target, FileObj.fstatSize,
      File.seek, h, hr, hp, hl]

theorem src_sb_getvalue_eq_model (st : SB) (h : st.buffer.closed = false) :
    SpooledBytesIO.getvalue st = (.ok st.buffer.f.data, { st with buffer := { st.buffer with stale := false } }) := by
  have hp : ¬ ((st.buffer.f.pos : Int) < 0) := by omega
  simp [SpooledBytesIO.getvalue, SpooledBytesIO.getvalue.body, sb_checkClosed_open, src_sb_tell_eq_model,
    src_sb_seek_eq_model, src_sb_read_eq_model, onBuf, FileObj.seek, FileObj.target, FileObj.read, File.seek,
    File.readAll, File.rest, h, hp]

/-- data of a file cut at `n` (`truncate()` at position `n`): a temporary file past its end is extended with zeros -/
def truncData (real : Bool) (d : List UInt8) (n : Nat) : List UInt8 :=
  if real then d.take n ++ List.replicate (n - d.length) default else d.take n

def truncated (st : SB) : Option Int → SB
  | none => { st with buffer := { st.buffer with
      f := ⟨truncData st.buffer.real st.buffer.f.data st.buffer.f.pos, st.buffer.f.pos⟩, stale := false } }
  | some n => { st with buffer := { st.buffer with
      f := ⟨truncData st.buffer.real st.buffer.f.data n.toNat, min st.buffer.f.pos n.toNat⟩, stale := false } }

/-- `truncate(size)` of an open object: no operation of the hand model corresponds; stated against the abstract file,
    and about the object only (what the call returns is left open) -/
theorem src_sb_truncate_eq_model (st : SB) (size : Option Int) (h : st.buffer.closed = false) :
    (match size with
     | some n => if n < 0 then (SpooledBytesIO.truncate st size).1.toBool = false ∧ (SpooledBytesIO.truncate st size).2 = st
                 else (SpooledBytesIO.truncate st size).1.toBool = true ∧ (SpooledBytesIO.truncate st size).2 = truncated st size
     | none => (SpooledBytesIO.truncate st size).1.toBool = true ∧ (SpooledBytesIO.truncate st size).2 = truncated st size) := by
  rcases st with ⟨⟨⟨d, p⟩, cl, rl, sl⟩, ms, dir⟩
  simp only at h
  subst h
  have hp : ¬ ((p : Int) < 0) := by omega
  rcases size with _ | n
  · simp [SpooledBytesIO.truncate, SpooledBytesIO.truncate.body, src_sb_checkClosed_eq_model, src_sb_tell_eq_model,
      FileObj.truncate, truncData, truncated, Except.toBool]
  · by_cases hn : n < 0
    · simp [SpooledBytesIO.truncate, SpooledBytesIO.truncate.body, src_sb_checkClosed_eq_model, hn, PyRt.unwrap, Except.toBool]
    · by_cases hlt : (p : Int) < n <;>
        simp [SpooledBytesIO.truncate, SpooledBytesIO.truncate.body, src_sb_checkClosed_eq_model, src_sb_tell_eq_model,
          src_sb_seek_eq_model, onBuf, FileObj.seek, FileObj.target, FileObj.truncate, File.seek, truncData, truncated,
          Except.toBool, hn, hp, hlt, PyRt.unwrap] <;> omega

/-- the object state `st` stands for the model state `s`: an open buffer with the model's content and position, a
    temporary file iff the model has rolled over.  (`stale` is free: the model has no such notion.) -/
structure RelB (st : SB) (s : SBytes) : Prop where
  f : st.buffer.f = s.buf
  opened : st.buffer.closed = false
  real : st.buffer.real = s.rolled
  max : st.max_size = (s.maxSize : Int)

/-- what `SpooledBytesIO(max_size=m)` is before the first call (`__init__` stores `max_size` / `dir`; the `buffer`
    property creates the empty BytesIO on first use — the normal form the translator accepts) -/
def srcInitB (m : Nat) : SB := { buffer := FileObj.newMem, max_size := m, dir := () }

/-- for `simp`: a goal `RelB …` on literal states becomes the four equations -/
theorem RelB_iff (st : SB) (s : SBytes) : RelB st s ↔
    st.buffer.f = s.buf ∧ st.buffer.closed = false ∧ st.buffer.real = s.rolled ∧ st.max_size = (s.maxSize : Int) :=
  ⟨fun h => ⟨h.f, h.opened, h.real, h.max⟩, fun h => ⟨h.1, h.2.1, h.2.2.1, h.2.2.2⟩⟩

theorem RelB_init (m : Nat) : RelB (srcInitB m) (SBytes.init m) := ⟨rfl, rfl, rfl, rfl⟩

def outOf {ρ : Type} (g : ρ → Out Byte) (r : Except PyExc ρ × SB) : Except PyExc (Out Byte) × SB :=
  (match r.1 with | .ok v => .ok (g v) | .error e => .error e, r.2)

/-- a public call of the model's history language on the GENERATED definitions -/
def srcStepB (st : SB) : Op Byte → Except PyExc (Out Byte) × SB
  | .write b => outOf (fun _ => .unit) (SpooledBytesIO.write st b)
  | .read n => outOf .data (SpooledBytesIO.read st n)
  | .readAll => outOf .data (SpooledBytesIO.read st (-1))
  | .readline => outOf .data (SpooledBytesIO.readline st none)
  | .readlineN n => outOf .data (SpooledBytesIO.readline st (some n))
  | .seek p => outOf (fun v => .num v.toNat) (SpooledBytesIO.seek st p 0)
  | .seekCur n => outOf (fun v => .num v.toNat) (SpooledBytesIO.seek st n 1)
  | .seekEnd n => outOf (fun v => .num v.toNat) (SpooledBytesIO.seek st (-(n : Int)) 2)
  | .tell => outOf (fun v => .num v.toNat) (SpooledBytesIO.tell st)
  | .getvalue => outOf .data (SpooledBytesIO.getvalue st)
  | .len => outOf (fun v => .num v.toNat) (SpooledBytesIO.len st)
  | .rollover => outOf (fun _ => .unit) (SpooledBytesIO.rollover st)
  | _ => (.error .Other, st)

/-- the calls whose methods are translated (not: `readlines`, iteration, `writelines`) -/
def tiedB : Op Byte → Bool
  | .readlines => false
  | .next => false
  | .list => false
  | .drain => false
  | .writelines _ => false
  | _ => true

theorem rolledOver_rel (st : SB) (s : SBytes) (h : RelB st s) (hr : s.rolled = false) :
    RelB (rolledOver st) s.rollover := by
  refine ⟨?_, rfl, ?_, ?_⟩
  · simp [rolledOver, SBytes.rollover, hr, h.f]
  · simp [rolledOver, SBytes.rollover, hr]
  · simp [rolledOver, SBytes.rollover, hr, h.max]

def SBytes.target (s : SBytes) (b : List Byte) : SBytes :=
  if s.buf.pos + b.length ≥ s.maxSize then s.rollover else s

theorem SBytes.write_target (s : SBytes) (b : List Byte) :
    s.write b = { s.target b with buf := (s.target b).buf.write b } := by
  unfold SBytes.write SBytes.target; split <;> rfl

theorem writeTarget_rel (st : SB) (s : SBytes) (b : List Byte) (h : RelB st s) :
    RelB (writeTarget st b) (s.target b) := by
  have hpos : (st.buffer.f.pos : Int) = s.buf.pos := by rw [h.f]
  unfold writeTarget SBytes.target
  by_cases hge : s.buf.pos + b.length ≥ s.maxSize
  · have hgeI : (st.buffer.f.pos : Int) + b.length ≥ st.max_size := by rw [hpos, h.max]; omega
    rw [if_pos hge]
    cases hr : s.rolled
    · rw [if_pos ⟨hgeI, by rw [h.real, hr]⟩]; exact rolledOver_rel st s h hr
    · rw [if_neg (by rw [h.real, hr]; simp)]; simpa [SBytes.rollover, hr] using h
  · have hgeI : ¬ ((st.buffer.f.pos : Int) + b.length ≥ st.max_size) := by rw [hpos, h.max]; omega
    rw [if_neg hge, if_neg (fun hh => hgeI hh.1)]; exact h

theorem write_rel (st : SB) (s : SBytes) (b : List Byte) (h : RelB st s) (hin : InRange s.buf) :
    RelB (onBuf st (FileObj.write st.buffer b)).2 { s with buf := s.buf.write b } := by
  obtain ⟨hf, hc, hr, hm⟩ := h
  by_cases hb : b = []
  · subst hb
    refine ⟨?_, ?_, ?_, ?_⟩ <;> simp [onBuf, FileObj.write, hc, hf, hr, hm, File.write_nil _ hin]
  · have hbe : b.isEmpty = false := by cases b <;> simp_all
    refine ⟨?_, ?_, ?_, ?_⟩ <;> simp [onBuf, FileObj.write, hc, hf, hr, hm, hbe]

theorem src_sb_step_eq_model (st : SB) (s : SBytes) (op : Op Byte) (h : RelB st s) (ht : tiedB op = true)
    (hin : InRange s.buf) (hok : okB s.buf op = true) :
    (srcStepB st op).1 = .ok (s.step op).1 ∧ RelB (srcStepB st op).2 (s.step op).2 := by
  by_cases hw : ∃ b, op = .write b
  · obtain ⟨b, rfl⟩ := hw
    have ht := writeTarget_rel st s b h
    have hti : InRange (s.target b).buf := by
      unfold SBytes.target; split
      · rw [SBytes.rollover_buf]; exact hin
      · exact hin
    have hw := write_rel _ _ b ht hti
    refine ⟨by simp [srcStepB, outOf, src_sb_write_eq_model _ _ h.opened, SBytes.step], ?_⟩
    simpa [srcStepB, outOf, src_sb_write_eq_model _ _ h.opened, SBytes.step, SBytes.write_target] using hw
  -- after `subst` the object carries the model state itself: both sides run the same `File` operation up to casts
  obtain ⟨hf, hc, hr, hm⟩ := h
  rcases st with ⟨⟨⟨d, p⟩, cl, rl, sl⟩, ms, dir⟩
  rcases s with ⟨buf, rolled, maxSize⟩
  simp only at hf hc hr hm hin
  subst hf hc hr hm
  unfold InRange at hin
  simp only at hin
  have hp : ¬ ((p : Int) < 0) := by omega
  cases op with
  | write b => exact absurd ⟨b, rfl⟩ hw
  | read n =>
    have hn : ¬ ((n : Int) < 0) := by omega
    simp [srcStepB, outOf, src_sb_read_eq_model, onBuf, FileObj.read, SBytes.step, hn, RelB_iff]
  | readAll =>
    simp [srcStepB, outOf, src_sb_read_eq_model, onBuf, FileObj.read, SBytes.step, RelB_iff]
  | readline =>
    simp [srcStepB, outOf, src_sb_readline_eq_model, onBuf, FileObj.readline, rlLimit, SBytes.step,
      SBytes.readline, PyRtC18.isNL, RelB_iff]
  | readlineN n =>
    rcases n with _ | n
    · simp [okB] at hok
    · have h0 : ¬ ((n : Int) + 1 = 0) := by omega
      have h1 : ¬ ((n : Int) + 1 < 0) := by omega
      have h2 : ((n : Int) + 1).toNat = n + 1 := by omega
      simp [srcStepB, outOf, src_sb_readline_eq_model, onBuf, FileObj.readline, rlLimit, SBytes.step,
        SBytes.readline, PyRtC18.isNL, h0, h1, h2, RelB_iff]
  | seek q =>
    have hq : ¬ ((q : Int) < 0) := by omega
    simp [srcStepB, outOf, src_sb_seek_eq_model, onBuf, FileObj.seek, FileObj.target, SBytes.step, hq, RelB_iff]
  | seekCur n =>
    have hq : ¬ ((p : Int) + (n : Int) < 0) := by omega
    have e : ((p : Int) + (n : Int)).toNat = p + n := by omega
    simp [srcStepB, outOf, src_sb_seek_eq_model, onBuf, FileObj.seek, FileObj.target, SBytes.step, hq, e, RelB_iff]
  | seekEnd n =>
    simp only [okB, decide_eq_true_eq] at hok
    have hq : ¬ ((d.length : Int) + -(n : Int) < 0) := by omega
    have e : ((d.length : Int) + -(n : Int)).toNat = d.length - n := by omega
    simp [srcStepB, outOf, src_sb_seek_eq_model, onBuf, FileObj.seek, FileObj.target, SBytes.step, hq, e, RelB_iff]
  | tell =>
    simp [srcStepB, outOf, src_sb_tell_eq_model, SBytes.step, RelB_iff]
  | getvalue =>
    simp [srcStepB, outOf, src_sb_getvalue_eq_model, SBytes.step, SBytes.getvalue, File.seek, File.readAll, File.rest, RelB_iff]
  | len =>
    cases rl <;> simp [srcStepB, outOf, src_sb_len_eq_model, SBytes.step, SBytes.len, File.seek, File.seekEnd, RelB_iff]
  | rollover =>
    cases rl <;> simp [srcStepB, outOf, src_sb_rollover_eq_model, SBytes.step, SBytes.rollover, rolledOver, RelB_iff]
  | readlines | next | list | drain | writelines ss => simp [tiedB] at ht

def srcRunB (st : SB) : List (Op Byte) → List (Except PyExc (Out Byte)) × SB
  | [] => ([], st)
  | op :: ops => ((srcStepB st op).1 :: (srcRunB (srcStepB st op).2 ops).1, (srcRunB (srcStepB st op).2 ops).2)

theorem src_sb_run_eq_model (st : SB) (s : SBytes) (ops : List (Op Byte)) (h : RelB st s)
    (ht : ∀ op ∈ ops, tiedB op = true) (hin : InRange s.buf) (hv : validB s.buf ops = true) :
    (srcRunB st ops).1 = (s.run ops).1.map .ok ∧ RelB (srcRunB st ops).2 (s.run ops).2 := by
  induction ops generalizing st s with
  | nil => exact ⟨rfl, h⟩
  | cons op ops ih =>
    simp only [validB, Bool.and_eq_true] at hv
    have h1 := src_sb_step_eq_model st s op h (ht op (by simp)) hin hv.1
    have hbuf : (s.step op).2.buf = (Spec.step bytesSem s.buf op).2 := by
      rw [(SBytes.step_eq s op).2, bStep_spec s.buf op hin hv.1]
    have h2 := ih (srcStepB st op).2 (s.step op).2 h1.2 (fun o ho => ht o (by simp [ho]))
      (by rw [hbuf]; exact okB_step_inRange s.buf op hin hv.1) (by rw [hbuf]; exact hv.2)
    simp only [srcRunB, SBytes.run, List.map_cons]
    exact ⟨by rw [h1.1, h2.1], h2.2⟩

/-- histories: from a fresh object, every history of translated calls inside the statement's domain runs on the
    generated definitions without an exception, returns call by call what the model returns, and ends in an object
    standing for the model's final state -/
theorem src_sb_history_refines (m : Nat) (ops : List (Op Byte)) (ht : ∀ op ∈ ops, tiedB op = true)
    (hv : validB File.empty ops = true) :
    (srcRunB (srcInitB m) ops).1 = ((SBytes.init m).run ops).1.map .ok ∧
    RelB (srcRunB (srcInitB m) ops).2 ((SBytes.init m).run ops).2 :=
  src_sb_run_eq_model _ _ ops (RelB_init m) ht (by simp [InRange, SBytes.init, File.empty]) hv

/-- hence the property holds of what the SOURCE computes: a history of translated calls returns exactly what
    `io.BytesIO` returns and ends with its content and position — whatever `max_size` -/
theorem src_bytes_refines_BytesIO (m : Nat) (ops : List (Op Byte)) (ht : ∀ op ∈ ops, tiedB op = true)
    (hv : validB File.empty ops = true) :
    (srcRunB (srcInitB m) ops).1 = (Spec.run bytesSem File.empty ops).1.map .ok ∧
    (srcRunB (srcInitB m) ops).2.buffer.f = (Spec.run bytesSem File.empty ops).2 := by
  have h := src_sb_history_refines m ops ht hv
  have hb := bytes_refines_BytesIO m ops hv
  exact ⟨by rw [h.1, hb.1], by rw [h.2.f, hb.2]⟩

/-- rolling over is invisible in what the source returns -/
theorem src_rollover_invisible (m₁ m₂ : Nat) (ops : List (Op Byte)) (ht : ∀ op ∈ ops, tiedB op = true)
    (hv : validB File.empty ops = true) :
    (srcRunB (srcInitB m₁) ops).1 = (srcRunB (srcInitB m₂) ops).1 ∧
    (srcRunB (srcInitB m₁) ops).2.buffer.f = (srcRunB (srcInitB m₂) ops).2.buffer.f := by
  have h1 := src_bytes_refines_BytesIO m₁ ops ht hv
  have h2 := src_bytes_refines_BytesIO m₂ ops ht hv
  exact ⟨by rw [h1.1, h2.1], by rw [h1.2, h2.2]⟩

/-- non-vacuity: a history with a rollover by `max_size`, reads, seeks of all three kinds, `len`, `getvalue` -/
def demoSrcB : List (Op Byte) :=
  [.write [104, 105, 10], .seek 0, .read 2, .len, .readline, .seekEnd 1, .write [120, 10, 121], .seekCur 0,
   .getvalue, .tell, .rollover, .readlineN 2, .readAll]

example : (∀ op ∈ demoSrcB, tiedB op = true) ∧ validB File.empty demoSrcB = true := by decide
set_option maxRecDepth 8000 in
example : (srcRunB (srcInitB 4) demoSrcB).1 =
    [.ok .unit, .ok (.num 0), .ok (.data [104, 105]), .ok (.num 3), .ok (.data [10]), .ok (.num 2), .ok .unit,
     .ok (.num 5), .ok (.data [104, 105, 120, 10, 121]), .ok (.num 5), .ok .unit, .ok (.data []), .ok (.data [])] := by
  decide
set_option maxRecDepth 8000 in
example : (srcRunB (srcInitB 4) demoSrcB).2.buffer.real = true ∧ (srcRunB (srcInitB 100) demoSrcB).2.buffer.real = true := by
  decide
/-- the closed-check: `read` on a closed object raises ValueError -/
example : (SpooledBytesIO.read { buffer := { (FileObj.newMem : FileObj UInt8) with closed := true }, max_size := 3, dir := () } 1).1
    = .error .ValueError := by decide
/-- `len` on a temporary file with unflushed appended data: the `seek(0)` comes first, so `fstat` is specified -/
example : (SpooledBytesIO.len { buffer := ⟨⟨[1, 2, 3], 3⟩, false, true, true⟩, max_size := 1, dir := () }).1 = .ok 3 := by
  decide
example : (SpooledBytesIO.truncate { buffer := ⟨⟨[1, 2, 3], 3⟩, false, false, false⟩, max_size := 9, dir := () } (some 1)).2
    = { buffer := ⟨⟨[1], 1⟩, false, false, false⟩, max_size := 9, dir := () } := by decide

section mfr
variable {β : Type} [Inhabited β]

abbrev MS (β : Type) := MultiFileReader.St β

structure RelM (st : MS β) (m : MFR β) : Prop where
  files : st.fileobjs.map (·.f) = m.files
  opened : ∀ o ∈ st.fileobjs, o.closed = false
  index : st.index = (m.index : Int)
  joiner : st.joiner = []

theorem forEachFile_ok {ρ : Type} (op : FileObj β → Res ρ (FileObj β)) (r : FileObj β → ρ)
    (g : FileObj β → FileObj β) (fs : List (FileObj β)) (h : ∀ o ∈ fs, op o = (.ok (r o), g o)) :
    forEachFile op fs = (.ok (fs.map r), fs.map g) := by
  induction fs with
  | nil => rfl
  | cons o os ih =>
    simp only [forEachFile, h o (by simp), ih (fun x hx => h x (by simp [hx])), List.map_cons]

theorem join_nil (ps : List (List β)) : join ([] : List β) ps = ps.flatten := by
  induction ps with
  | nil => rfl
  | cons p qs ih =>
    cases qs with
    | nil => simp [join]
    | cons q qs => simp only [join, List.append_nil, ih, List.flatten_cons]

theorem src_mfr_seek_eq_model (st : MS β) (m : MFR β) (h : RelM st m) :
    (MultiFileReader.seek st 0 0).1 = .ok () ∧ RelM (MultiFileReader.seek st 0 0).2 m.seek0 := by
  have hfe := forEachFile_ok (fun o => FileObj.seek o 0 0) (fun _ => (0 : Int))
    (fun o => { o with f := o.f.seek 0, stale := false }) st.fileobjs
    (by intro o ho; simp [FileObj.seek, FileObj.target, h.opened o ho])
  have e : MultiFileReader.seek st 0 0 =
      (.ok (), { st with fileobjs := st.fileobjs.map (fun o => { o with f := o.f.seek 0, stale := false }), index := 0 }) := by
    simp [MultiFileReader.seek, MultiFileReader.seek.body, hfe]
  rw [e]
  refine ⟨rfl, ?_, ?_, rfl, h.joiner⟩
  · simp [MFR.seek0, ← h.files, Function.comp_def]
  · intro o ho
    obtain ⟨a, ha, rfl⟩ := List.mem_map.1 ho
    exact h.opened a ha

/-- any other `seek` raises (NotImplementedError) and touches nothing -/
theorem src_mfr_seek_unsupported (st : MS β) (offset whence : Int) (h : offset ≠ 0 ∨ whence ≠ 0) :
    MultiFileReader.seek st offset whence = (.error .Other, st) := by
  by_cases hw : whence = 0 <;> by_cases ho : offset = 0 <;>
    simp_all [MultiFileReader.seek, MultiFileReader.seek.body]

/-- `read()` / `read(None)` / `read(0)` (`truthyOptInt amt = false`): `MFR.readAll` -/
theorem src_mfr_read_all_eq_model (lfuel : Nat) (st : MS β) (m : MFR β) (amt : Option Int) (h : RelM st m)
    (ha : truthyOptInt amt = false) :
    (MultiFileReader.read lfuel st amt).1 = .ok m.readAll.1 ∧ RelM (MultiFileReader.read lfuel st amt).2 m.readAll.2 := by
  have hfe := forEachFile_ok (fun o => FileObj.readAll o) (fun o => o.f.readAll.1)
    (fun o => { o with f := o.f.readAll.2 }) st.fileobjs
    (by intro o ho; simp [FileObj.readAll, FileObj.read, h.opened o ho])
  have e : MultiFileReader.read lfuel st amt =
      (.ok (st.fileobjs.map (fun o => o.f.readAll.1)).flatten,
       { st with fileobjs := st.fileobjs.map (fun o => { o with f := o.f.readAll.2 }) }) := by
    simp [MultiFileReader.read, MultiFileReader.read.body, hfe, ha, h.joiner, join_nil]
  rw [e]
  refine ⟨by simp [MFR.readAll, ← h.files, Function.comp_def], ?_, ?_, h.index, h.joiner⟩
  · simp [MFR.readAll, ← h.files, Function.comp_def]
  · intro o ho
    obtain ⟨a, ha', rfl⟩ := List.mem_map.1 ho
    exact h.opened a ha'

/-- one iteration of the sized-read loop on an open current member `o` (the scratch local `got` is not mentioned) -/
theorem mfr_body_spec (s : MultiFileReader.read.St β) (i a : Nat) (o : FileObj β)
    (hi : s.self.index = (i : Int)) (ho : s.self.fileobjs[i]? = some o) (hc : o.closed = false)
    (ha : s.amt = some (a : Int)) :
    (∃ s', MultiFileReader.read.loop1.body s = (.next, s')) ∧
      (MultiFileReader.read.loop1.body s).2.self.fileobjs = s.self.fileobjs.set i { o with f := (o.f.readN a).2 } ∧
      (MultiFileReader.read.loop1.body s).2.self.index = ((if (o.f.readN a).1.length < a then i + 1 else i : Nat) : Int) ∧
      (MultiFileReader.read.loop1.body s).2.self.joiner = s.self.joiner ∧
      (MultiFileReader.read.loop1.body s).2.amt = some ((a - (o.f.readN a).1.length : Nat) : Int) ∧
      (MultiFileReader.read.loop1.body s).2.loc1 = s.loc1 ++ [(o.f.readN a).1] := by
  have hn : PyRt.normIdx s.self.fileobjs (i : Int) = (i : Int) := by simp [PyRt.normIdx]; omega
  have hin : ¬ ((i : Int) < 0) := by omega
  have hle : (o.f.readN a).1.length ≤ a := by simp [File.readN]; omega
  have hnn : ¬ ((a : Int) < 0) := by omega
  have hsub : ((a : Int) - ((o.f.readN a).1.length : Int)) = ((a - (o.f.readN a).1.length : Nat) : Int) := by omega
  -- in both cases: the test may be written on the amount before or after it is reduced, so both forms go to `simp`
  by_cases hlt : (o.f.readN a).1.length < a
  · have hltI : ((o.f.readN a).1.length : Int) < (a : Int) := by omega
    have hpos : (0 : Int) < ((a - (o.f.readN a).1.length : Nat) : Int) := by omega
    simp [MultiFileReader.read.loop1.body, atFile, hi, hn, hin, ho, FileObj.read, hc, ha, PyRt.unwrap, hnn,
      PyRt.append, PyRt.index?_append_last, PyRt.len, hltI, hlt, hsub, hpos]
  · have hltI : ¬ (((o.f.readN a).1.length : Int) < (a : Int)) := by omega
    have hpos : ¬ ((0 : Int) < ((a - (o.f.readN a).1.length : Nat) : Int)) := by omega
    simp [MultiFileReader.read.loop1.body, atFile, hi, hn, hin, ho, FileObj.read, hc, ha, PyRt.unwrap, hnn,
      PyRt.append, PyRt.index?_append_last, PyRt.len, hltI, hlt, hsub, hpos]

/-- the sized-read loop: with enough fuel on both sides, the generated `while` loop ends normally in an object standing for
    what the model's `readLoop` computes, with the same chunks (the model keeps them in reverse order) -/
theorem mfr_loop_sim (n : Nat) : ∀ (k : Nat) (s : MultiFileReader.read.St β) (m : MFR β) (a : Nat)
    (parts : List (List β)), RelM s.self m → s.amt = some (a : Int) → s.loc1 = parts.reverse →
    mfrMeasure m a < n → mfrMeasure m a < k →
    ∃ s', whileLoop MultiFileReader.read.loop1.cond MultiFileReader.read.loop1.body n s = (.next, s') ∧
      RelM s'.self (MFR.readLoop k m a parts).2 ∧ s'.loc1 = (MFR.readLoop k m a parts).1.reverse := by
  induction n with
  | zero => intro k s m a parts _ _ _ hn; omega
  | succ n ih =>
    intro k s m a parts hr ha hp hn hk
    obtain ⟨k, rfl⟩ : ∃ k', k = k' + 1 := ⟨k - 1, by omega⟩
    have hlen : s.self.fileobjs.length = m.files.length := by rw [← hr.files]; simp
    have hcond : MultiFileReader.read.loop1.cond s = decide (0 < a ∧ m.index < m.files.length) := by
      simp [MultiFileReader.read.loop1.cond, ha, PyRt.unwrap, hr.index, PyRt.len, hlen]
    rw [whileLoop_succ, hcond]
    by_cases ha0 : 0 < a
    · cases hf : m.files[m.index]? with
      | none =>
        have : ¬ m.index < m.files.length := by
          intro hlt; rw [List.getElem?_eq_getElem hlt] at hf; cases hf
        simp [MFR.readLoop, ha0, this]
        exact ⟨hr, hp⟩
      | some f =>
        obtain ⟨hlt, hfe⟩ := List.getElem?_eq_some_iff.1 hf
        have hlt' : m.index < s.self.fileobjs.length := by omega
        have ho : s.self.fileobjs[m.index]? = some s.self.fileobjs[m.index] := List.getElem?_eq_getElem hlt'
        have hof : (s.self.fileobjs[m.index]).f = f := by
          have h2 : (s.self.fileobjs.map (·.f))[m.index]? = some f := by rw [hr.files]; exact hf
          simpa [List.getElem?_map, ho] using h2
        have hoc := hr.opened _ (List.getElem_mem hlt')
        obtain ⟨⟨s1, hs1⟩, hfs, hidx, hj, hamt, hl1⟩ :=
          mfr_body_spec s m.index a _ hr.index ho hoc ha
        rw [hs1] at hfs hidx hj hamt hl1
        simp only at hfs hidx hj hamt hl1
        rw [hof] at hfs hidx hamt hl1
        -- the model's next state is `m.readOne f a`
        have hrel : RelM s1.self (m.readOne f a) := by
          refine ⟨?_, ?_, hidx, by rw [hj]; exact hr.joiner⟩
          · rw [hfs, MFR.readOne, setAt, ← hr.files]; simp [List.map_set]
          · intro o ho'
            rw [hfs] at ho'
            rcases List.mem_or_eq_of_mem_set ho' with h1 | h1
            · exact hr.opened o h1
            · rw [h1]; exact hoc
        have hm := mfrMeasure_step m f a ha0 hf
        simp only [ha0, hlt, and_self, decide_true, if_true, hs1]
        rw [MFR.readLoop_succ k m a parts f ha0 hf]
        exact ih k s1 _ _ _ hrel hamt (by rw [hl1, hp]; simp) (by omega) (by omega)
    · have : a = 0 := by omega
      subst this
      simp [MFR.readLoop]
      exact ⟨hr, hp⟩

/-- `read(amt)`, `amt > 0`: `MFR.read`, for every fuel the model's own bound allows -/
theorem src_mfr_read_sized_eq_model (lfuel : Nat) (st : MS β) (m : MFR β) (n : Nat) (h : RelM st m)
    (hfuel : m.files.length - m.index + 2 ≤ lfuel) :
    (MultiFileReader.read lfuel st (some ((n + 1 : Nat) : Int))).1 = .ok (m.read (some (n + 1))).1 ∧
    RelM (MultiFileReader.read lfuel st (some ((n + 1 : Nat) : Int))).2 (m.read (some (n + 1))).2 := by
  have hmu : mfrMeasure m (n + 1) = m.files.length - m.index + 1 := by simp [mfrMeasure]
  have ht : truthyOptInt (some ((n + 1 : Nat) : Int)) = true := by
    simp [truthyOptInt]; omega
  simp only [MultiFileReader.read, MultiFileReader.read.body, seq_apply, cond_apply, ht, assign_apply, skip_apply,
    decide_not, decide_true, Bool.not_true, Bool.false_eq_true, if_false, ret_apply]
  have hsim := fun s0 hr0 ha0 hp0 =>
    mfr_loop_sim lfuel (m.files.length - m.index + 2) s0 m (n + 1) [] hr0 ha0 hp0 (by omega) (by omega)
  split
  · rename_i x s1 heq
    obtain ⟨_, hrel, hparts⟩ := loop_exit_of_eq (hsim _ (by simpa using h) (by simp) (by simp)) heq
    have hj : s1.self.joiner = [] := hrel.joiner
    exact ⟨by simp [MFR.read, hj, join_nil, hparts], by simpa [MFR.read] using hrel⟩
  · rename_i x fl s1 hne heq
    exact absurd (loop_exit_of_eq (hsim _ (by simpa using h) (by simp) (by simp)) heq).1 hne

def amtOf : Option Int → Option Nat
  | none => none
  | some n => some n.toNat

theorem src_mfr_read_eq_model (lfuel : Nat) (st : MS β) (m : MFR β) (amt : Option Int) (h : RelM st m)
    (hamt : ∀ n, amt = some n → 0 ≤ n) (hfuel : m.files.length - m.index + 2 ≤ lfuel) :
    (MultiFileReader.read lfuel st amt).1 = .ok (m.read (amtOf amt)).1 ∧
    RelM (MultiFileReader.read lfuel st amt).2 (m.read (amtOf amt)).2 := by
  rcases amt with _ | n
  · exact src_mfr_read_all_eq_model lfuel st m none h rfl
  · have hn := hamt n rfl
    rcases hk : n.toNat with _ | k
    · have : n = 0 := by omega
      subst this
      simpa [amtOf, MFR.read] using src_mfr_read_all_eq_model lfuel st m (some 0) h rfl
    · have : n = ((k + 1 : Nat) : Int) := by omega
      subst this
      simpa [amtOf, hk] using src_mfr_read_sized_eq_model lfuel st m k h hfuel

def srcStepM (lfuel : Nat) (st : MS β) : MOp → Except PyExc (Option (List β)) × MS β
  | .read n => (match (MultiFileReader.read lfuel st (some n)).1 with | .ok v => .ok (some v) | .error e => .error e,
                (MultiFileReader.read lfuel st (some n)).2)
  | .readAll => (match (MultiFileReader.read lfuel st none).1 with | .ok v => .ok (some v) | .error e => .error e,
                 (MultiFileReader.read lfuel st none).2)
  | .seek0 => (match (MultiFileReader.seek st 0 0).1 with | .ok _ => .ok none | .error e => .error e,
               (MultiFileReader.seek st 0 0).2)

def srcRunM (lfuel : Nat) (st : MS β) : List MOp → List (Except PyExc (Option (List β))) × MS β
  | [] => ([], st)
  | op :: ops => ((srcStepM lfuel st op).1 :: (srcRunM lfuel (srcStepM lfuel st op).2 ops).1,
                  (srcRunM lfuel (srcStepM lfuel st op).2 ops).2)

theorem src_mfr_step_eq_model (lfuel : Nat) (st : MS β) (m : MFR β) (op : MOp) (h : RelM st m)
    (hfuel : m.files.length + 2 ≤ lfuel) :
    (srcStepM lfuel st op).1 = .ok (m.step op).1 ∧ RelM (srcStepM lfuel st op).2 (m.step op).2 := by
  cases op with
  | read n =>
    have := src_mfr_read_eq_model lfuel st m (some (n : Int)) h (by intro k hk; cases hk; omega) (by omega)
    simp only [amtOf, Int.toNat_natCast] at this
    exact ⟨by simp [srcStepM, this.1, MFR.step], by simpa [srcStepM, MFR.step] using this.2⟩
  | readAll =>
    have := src_mfr_read_eq_model lfuel st m none h (by intro k hk; cases hk) (by omega)
    simp only [amtOf] at this
    exact ⟨by simp [srcStepM, this.1, MFR.step], by simpa [srcStepM, MFR.step] using this.2⟩
  | seek0 =>
    have := src_mfr_seek_eq_model st m h
    exact ⟨by simp [srcStepM, this.1, MFR.step], by simpa [srcStepM, MFR.step] using this.2⟩

/-- the initial object: what `MultiFileReader(*files)` stores for open files at their start -/
def srcInitM (cs : List (List β)) : MS β :=
  { fileobjs := cs.map (fun d => ⟨⟨d, 0⟩, false, false, false⟩), index := 0, joiner := [] }

theorem RelM_init (cs : List (List β)) : RelM (srcInitM cs) (MFR.init cs) := by
  refine ⟨by simp [srcInitM, MFR.init, Function.comp_def], ?_, rfl, rfl⟩
  intro o ho
  simp [srcInitM] at ho
  obtain ⟨a, _, rfl⟩ := ho
  rfl

theorem RelM.length {st : MS β} {m : MFR β} (h : RelM st m) : m.files.length = st.fileobjs.length := by
  rw [← h.files]; simp

theorem src_mfr_run_eq_model (lfuel : Nat) (st : MS β) (m : MFR β) (ops : List MOp) (h : RelM st m)
    (hfuel : m.files.length + 2 ≤ lfuel) :
    (srcRunM lfuel st ops).1 = (m.run ops).1.map .ok ∧ RelM (srcRunM lfuel st ops).2 (m.run ops).2 := by
  induction ops generalizing st m with
  | nil => exact ⟨rfl, h⟩
  | cons op ops ih =>
    have h1 := src_mfr_step_eq_model lfuel st m op h hfuel
    have h2 := ih (srcStepM lfuel st op).2 (m.step op).2 h1.2 (by rw [MFR.step_length]; exact hfuel)
    simp only [srcRunM, MFR.run, List.map_cons]
    exact ⟨by rw [h1.1, h2.1], h2.2⟩

/-- histories: from a fresh reader over open files, every history of `read(n)` / `read()` / `seek(0)` runs on the
    generated definitions without an exception (in particular the `while` loop never runs out of the fuel
    `number of files + 2`) and returns call by call what the model returns -/
theorem src_mfr_history_refines (lfuel : Nat) (cs : List (List β)) (ops : List MOp) (hfuel : cs.length + 2 ≤ lfuel) :
    (srcRunM lfuel (srcInitM cs) ops).1 = ((MFR.init cs).run ops).1.map .ok ∧
    RelM (srcRunM lfuel (srcInitM cs) ops).2 ((MFR.init cs).run ops).2 :=
  src_mfr_run_eq_model lfuel _ _ ops (RelM_init cs) (by simpa [MFR.init] using hfuel)

/-- hence the property holds of what the SOURCE computes: the reader returns what ONE file holding the concatenation
    of the members returns -/
theorem src_mfr_concat (lfuel : Nat) (cs : List (List β)) (ops : List MOp) (hfuel : cs.length + 2 ≤ lfuel) :
    (srcRunM lfuel (srcInitM cs) ops).1 = (MFR.specRun ⟨cs.flatten, 0⟩ ops).1.map .ok := by
  rw [(src_mfr_history_refines lfuel cs ops hfuel).1, mfr_concat]

end mfr

/-- non-vacuity: three members, sized reads across the borders, a rewind, an unsized read -/
example : (srcRunM 5 (srcInitM [[1, 2], [3, 4], [5]]) [.read 3, .read 3, .read 1, .seek0, .read 0, .seek0, .readAll]).1 =
    ([.ok (some [1, 2, 3]), .ok (some [4, 5]), .ok (some []), .ok none, .ok (some [1, 2, 3, 4, 5]), .ok none,
      .ok (some [1, 2, 3, 4, 5])] : List (Except PyExc (Option (List Nat)))) := by decide
/-- too little fuel is reported as such (`OutOfFuel`), never as a wrong value -/
example : (MultiFileReader.read 1 (srcInitM [[1, 2], [3, 4], [5]]) (some 4)).1 = (.error .OutOfFuel : Except PyExc (List Nat)) := by
  decide
/-- a closed member: ValueError from its `read`, the members before it keep what was read from them -/
example : (MultiFileReader.read 9 { fileobjs := [⟨⟨[1], 0⟩, false, false, false⟩, ⟨⟨[2], 0⟩, true, false, false⟩],
                                    index := 0, joiner := [] } (some 3)) =
    ((.error .ValueError : Except PyExc (List Nat)),
     { fileobjs := [⟨⟨[1], 1⟩, false, false, false⟩, ⟨⟨[2], 0⟩, true, false, false⟩], index := 1, joiner := [] }) := by
  decide

/-! SpooledStringIO against the hand model `SStr`: `_buffer` is the spec-declared abstract codec file `PyRtC18.CFile` =
the model's stream `File CU` + its transliterated `codecs.StreamReader` (`C18.Reader`); its operations are the model's
own (`Reader.read`, `Reader.readline`, `File.write`, `SStr.bseek`).  Where the model only sets its `bad` flag (Python:
UnicodeDecodeError) the abstract operation is unspecified; the ties below therefore carry the hypothesis that the reads
involved are good (`goodRead`, `travOk` …), which the model's own proofs establish for coherent states (`RC`,
`Reader.read_spec`). -/

abbrev SS := SpooledStringIO.St

theorem src_ss_closed_eq_model (st : SS) : SpooledStringIO.closed st = (.ok st.buffer.closed, st) := by
  simp [SpooledStringIO.closed, SpooledStringIO.closed.body, CFile.isClosed]

theorem src_ss_checkClosed_eq_model (st : SS) (msg : Option Unit) :
    SpooledStringIO.checkClosed st msg = (if st.buffer.closed then .error .ValueError else .ok (), st) := by
  cases h : st.buffer.closed <;>
    simp [SpooledStringIO.checkClosed, SpooledStringIO.checkClosed.body, src_ss_closed_eq_model, h]

theorem ss_checkClosed_open (st : SS) (msg : Option Unit) (h : st.buffer.closed = false) :
    SpooledStringIO.checkClosed st msg = (.ok (), st) := by simp [src_ss_checkClosed_eq_model, h]

theorem src_ss_rolled_eq_model (st : SS) : SpooledStringIO.rolled st = (.ok st.buffer.real, st) := by
  simp [SpooledStringIO.rolled, SpooledStringIO.rolled.body, CFile.isMem]

theorem src_ss_tell_eq_model (st : SS) :
    SpooledStringIO.tell st = (if st.buffer.closed then .error .ValueError else .ok st.tell, st) := by
  cases h : st.buffer.closed <;>
    simp [SpooledStringIO.tell, SpooledStringIO.tell.body, src_ss_checkClosed_eq_model, h]

structure RelS (st : SS) (s : SStr) : Prop where
  stream : st.buffer.st = s.st
  reader : st.buffer.rd = s.rd
  opened : st.buffer.closed = false
  real : st.buffer.real = s.rolled
  tell : st.tell = (s.tell : Int)
  max : st.max_size = (s.maxSize : Int)
  chunk : st.chunk = (s.chunk : Int)

/-- `RelS` fixes every field but `dir : Unit`, so this is THE object of a model state, and a tie is one equation
    `m (toSS s) = (.ok v, toSS s')` (`RelS.of_eq`, `eq_of_tie`) -/
def toSS (s : SStr) : SS :=
  { buffer := ⟨s.st, s.rd, false, s.rolled⟩, tell := s.tell, max_size := s.maxSize, dir := (), chunk := s.chunk }

theorem RelS_toSS (s : SStr) : RelS (toSS s) s := ⟨rfl, rfl, rfl, rfl, rfl, rfl, rfl⟩

theorem RelS.eq {st : SS} {s : SStr} (h : RelS st s) : st = toSS s := by
  obtain ⟨h1, h2, h3, h4, h5, h6, h7⟩ := h
  rcases st with ⟨⟨bst, brd, bcl, brl⟩, tl, ms, dir, ch⟩
  simp only at h1 h2 h3 h4 h5 h6 h7
  subst h1 h2 h3 h4 h5 h6 h7
  rfl

theorem RelS.of_eq {ρ : Type} {st : SS} {s s' : SStr} {v : ρ} (h : RelS st s) (m : SS → Except PyExc ρ × SS)
    (e : m (toSS s) = (.ok v, toSS s')) : (m st).1 = .ok v ∧ RelS (m st).2 s' := by
  rw [h.eq, e]
  exact ⟨rfl, RelS_toSS s'⟩

theorem eq_of_tie {ρ : Type} {r : Except PyExc ρ × SS} {s' : SStr} {v : ρ} (h : r.1 = .ok v ∧ RelS r.2 s') :
    r = (.ok v, toSS s') :=
  Prod.ext h.1 h.2.eq

def readSize (n : Int) : Option Nat := if n < 0 then none else some n.toNat

theorem src_ss_read_eq_model (st : SS) (s : SStr) (n : Int) (h : RelS st s) (hg : goodRead s (readSize n) = true) :
    (SpooledStringIO.read st n).1 = .ok (s.read (readSize n)).1 ∧ RelS (SpooledStringIO.read st n).2 (s.read (readSize n)).2 := by
  simp only [goodRead, Bool.not_eq_true', readSize] at hg
  refine h.of_eq (SpooledStringIO.read · n) ?_
  simp [SpooledStringIO.read, SpooledStringIO.read.body, ss_checkClosed_open, src_ss_tell_eq_model, CFile.read,
    readSize, hg, SStr.read, toSS, PyRt.len]

theorem SStr.read_chunk (s : SStr) (size : Option Nat) : (s.read size).2.chunk = s.chunk := rfl

theorem ss_read_toSS (s : SStr) (n : Int) (size : Option Nat) (hn : readSize n = size) (hg : goodRead s size = true) :
    SpooledStringIO.read (toSS s) n = (.ok (s.read size).1, toSS (s.read size).2) := by
  subst hn
  exact eq_of_tie (src_ss_read_eq_model _ s n (RelS_toSS s) hg)

theorem readSize_natCast (n : Nat) : readSize (n : Int) = some n := by simp [readSize]

theorem toSS_chunk (s : SStr) : (toSS s).chunk = s.chunk := rfl

/-- the loop of `_traverse_codepoints`: with at least the model's fuel the generated loop ends normally in the object
    of `SStr.traverse` -/
theorem ss_trav_sim (k : Nat) : ∀ (n : Nat) (s0 : SpooledStringIO.traverse.St) (s : SStr) (cur dest : Nat),
    s0.self = toSS s → s0.current_position = (cur : Int) → s0.loc1 = (dest : Int) → cur ≤ dest →
    travOk k s cur dest = true → k ≤ n →
    ∃ s', whileLoop SpooledStringIO.traverse.loop1.cond SpooledStringIO.traverse.loop1.body n s0 = (.next, s') ∧
      (s'.self = toSS (SStr.traverse k s cur dest) ∧ s'.loc1 = (dest : Int)) := by
  induction k with
  | zero => intro n s0 s cur dest _ _ _ _ hok; simp [travOk] at hok
  | succ k ih =>
    intro n s0 s cur dest hs hcur hdest hle hok hn
    obtain ⟨n, rfl⟩ : ∃ n', n = n' + 1 := ⟨n - 1, by omega⟩
    rcases s0 with ⟨self, cp, m, d, l2⟩
    simp only at hs hcur hdest
    subst hs hcur hdest
    have hc : SpooledStringIO.traverse.loop1.cond ⟨toSS s, cur, m, dest, l2⟩ = true := by
      simp [SpooledStringIO.traverse.loop1.cond]
    rw [whileLoop_succ, hc, if_pos rfl]
    unfold travOk at hok
    unfold SStr.traverse
    by_cases h1 : cur = dest
    · simp [SpooledStringIO.traverse.loop1.body, h1]
    · have h1I : ¬ ((cur : Int) = dest) := by omega
      rw [if_neg h1] at hok ⊢
      by_cases h2 : cur + s.chunk > dest
      · rw [if_pos h2] at hok ⊢
        have h2I : (dest : Int) < cur + s.chunk := by omega
        have e := ss_read_toSS s ((dest : Int) - (cur : Int)) (some (dest - cur))
          (by rw [← readSize_natCast]; congr 1; omega) hok
        simp [SpooledStringIO.traverse.loop1.body, toSS_chunk, h1I, h2I, e]
      · rw [if_neg h2] at hok ⊢
        have h2I : ¬ ((dest : Int) < cur + s.chunk) := by omega
        simp only [Bool.and_eq_true, Bool.or_eq_true] at hok
        have e := ss_read_toSS s (s.chunk : Int) (some s.chunk) (readSize_natCast _) hok.1
        by_cases h3 : (s.read (some s.chunk)).1.isEmpty = true
        · rw [if_pos h3]
          simp [SpooledStringIO.traverse.loop1.body, toSS_chunk, h1I, h2I, e, List.isEmpty_iff.1 h3]
        · rw [if_neg h3]
          have h3' : (s.read (some s.chunk)).1 ≠ [] := by simpa using h3
          have hb : SpooledStringIO.traverse.loop1.body ⟨toSS s, cur, m, dest, l2⟩ =
              (.next, ⟨toSS (s.read (some s.chunk)).2, ((cur + s.chunk : Nat) : Int), m, dest, (s.read (some s.chunk)).1⟩) := by
            simp [SpooledStringIO.traverse.loop1.body, toSS_chunk, h1I, h2I, e, h3', SStr.read_chunk]
          rw [hb]
          exact ih n _ _ _ _ rfl rfl rfl (by omega) (hok.2.resolve_left h3) (by omega)

/-- `_traverse_codepoints(cur, n)`: `SStr.traverse` to `cur + n`; returns the destination -/
theorem src_ss_traverse_eq_model (lfuel k : Nat) (st : SS) (s : SStr) (cur n : Nat) (h : RelS st s)
    (hok : travOk k s cur (cur + n) = true) (hk : k ≤ lfuel) :
    (SpooledStringIO.traverse lfuel st cur n).1 = .ok ((cur + n : Nat) : Int) ∧
    RelS (SpooledStringIO.traverse lfuel st cur n).2 (SStr.traverse k s cur (cur + n)) := by
  refine h.of_eq (SpooledStringIO.traverse lfuel · cur n) ?_
  simp only [SpooledStringIO.traverse, SpooledStringIO.traverse.body, seq_apply, assign_apply, ret_apply]
  split
  · rename_i x s1 heq
    obtain ⟨_, hs1, hd⟩ := loop_exit_of_eq (ss_trav_sim k lfuel _ s cur (cur + n) rfl rfl (by simp) (by omega) hok hk) heq
    simp [hs1, hd]
  · rename_i x fl s1 hne heq
    exact absurd (loop_exit_of_eq (ss_trav_sim k lfuel _ s cur (cur + n) rfl rfl (by simp) (by omega) hok hk) heq).1 hne

/-- for `simp`: a source that refuses negative positions first takes the same path for `p : Nat` -/
theorem pos_not_neg (p : Nat) : ((p : Int) < 0) = False := by simp
theorem pos_nonneg (p : Nat) : ((0 : Int) ≤ (p : Int)) = True := by simp

/-- `SpooledStringIO.seek0` is the translation of `seek` at `mode = os.SEEK_SET`, which `len` and `rollover` call:
    `SStr.seek` -/
theorem src_ss_seek0_eq_model (lfuel : Nat) (st : SS) (s : SStr) (p : Nat) (h : RelS st s)
    (hok : travOk (p + 1) (s.bseek 0) 0 p = true) (hk : p + 1 ≤ lfuel) :
    (SpooledStringIO.seek0 lfuel st p).1 = .ok (p : Int) ∧ RelS (SpooledStringIO.seek0 lfuel st p).2 (s.seek p) := by
  refine h.of_eq (SpooledStringIO.seek0 lfuel · p) ?_
  have et := eq_of_tie (src_ss_traverse_eq_model lfuel (p + 1) _ (s.bseek 0) 0 p (RelS_toSS _) (by simpa using hok) hk)
  simp only [toSS, SStr.bseek, Int.natCast_zero, Nat.zero_add] at et
  simp [SpooledStringIO.seek0, SpooledStringIO.seek0.body, src_ss_checkClosed_eq_model, CFile.seek, et,
    src_ss_tell_eq_model, SStr.seek, toSS, SStr.bseek, pos_not_neg, pos_nonneg]

theorem src_ss_seek_bad_mode (lfuel : Nat) (st : SS) (p mode : Int) (h : st.buffer.closed = false)
    (hm : mode ≠ 0 ∧ mode ≠ 1 ∧ mode ≠ 2) :
    SpooledStringIO.seek lfuel st p mode = (.error .ValueError, st) := by
  simp [SpooledStringIO.seek, SpooledStringIO.seek.body, ss_checkClosed_open _ _ h, hm.1, hm.2.1, hm.2.2]

/-- a closed object: the closed-check comes first, ValueError and nothing changes (the hand model has no closed state) -/
theorem src_ss_len_closed (lfuel : Nat) (st : SS) (h : st.buffer.closed = true) :
    SpooledStringIO.len lfuel st = (.error .ValueError, st) := by
  simp [SpooledStringIO.len, SpooledStringIO.len.body, src_ss_tell_eq_model, h]

theorem src_ss_write_closed (lfuel : Nat) (st : SS) (b : List Char) (h : st.buffer.closed = true) :
    SpooledStringIO.write lfuel st b = (.error .ValueError, st) := by
  simp [SpooledStringIO.write, SpooledStringIO.write.body, src_ss_checkClosed_eq_model, h]

theorem src_ss_readline_closed (lfuel : Nat) (st : SS) (length : Option Int) (h : st.buffer.closed = true) :
    SpooledStringIO.readline lfuel st length = (.error .ValueError, st) := by
  simp [SpooledStringIO.readline, SpooledStringIO.readline.body, src_ss_checkClosed_eq_model, h]

/-- non-vacuity: a code-point traversal over multi-byte text meets the hypotheses of the traverse / seek ties -/
example : travOk 3 (SStr.bseek ⟨⟨encode ['a', 'é', '日'], 6⟩, {}, 3, false, 100, 2⟩ 0) 0 2 = true := by decide

/-- the reading loop of `len`: with at least the model's fuel the generated loop ends normally in the object of
    `SStr.lenLoop`, with the same running total; the saved position (`loc1`) is not touched -/
theorem ss_len_sim (k : Nat) : ∀ (n : Nat) (s0 : SpooledStringIO.len.St) (s : SStr) (total : Nat),
    s0.self = toSS s → s0.loc2 = (total : Int) → lenOk k s = true → k ≤ n →
    ∃ s', whileLoop SpooledStringIO.len.loop1.cond SpooledStringIO.len.loop1.body n s0 = (.next, s') ∧
      (s'.self = toSS (SStr.lenLoop k s total).2 ∧ s'.loc2 = ((SStr.lenLoop k s total).1 : Int) ∧ s'.loc1 = s0.loc1) := by
  induction k with
  | zero => intro n s0 s total _ _ hok; simp [lenOk] at hok
  | succ k ih =>
    intro n s0 s total hs htot hok hn
    obtain ⟨n, rfl⟩ : ∃ n', n = n' + 1 := ⟨n - 1, by omega⟩
    rcases s0 with ⟨self, pos, tot, l3⟩
    simp only at hs htot
    subst hs htot
    have hc : SpooledStringIO.len.loop1.cond ⟨toSS s, pos, total, l3⟩ = true := by simp [SpooledStringIO.len.loop1.cond]
    rw [whileLoop_succ, hc, if_pos rfl]
    unfold lenOk at hok
    unfold SStr.lenLoop
    simp only [Bool.and_eq_true, Bool.or_eq_true] at hok
    have e := ss_read_toSS s (s.chunk : Int) (some s.chunk) (readSize_natCast _) hok.1
    by_cases h3 : (s.read (some s.chunk)).1.isEmpty = true
    · rw [if_pos h3]
      simp [SpooledStringIO.len.loop1.body, toSS_chunk, e, List.isEmpty_iff.1 h3]
    · rw [if_neg h3]
      have h3' : (s.read (some s.chunk)).1 ≠ [] := by simpa using h3
      have hb : SpooledStringIO.len.loop1.body ⟨toSS s, pos, total, l3⟩ =
          (.next, ⟨toSS (s.read (some s.chunk)).2, pos, ((total + (s.read (some s.chunk)).1.length : Nat) : Int),
            (s.read (some s.chunk)).1⟩) := by
        simp [SpooledStringIO.len.loop1.body, toSS_chunk, e, h3', PyRt.len]
      rw [hb]
      exact ih n _ _ _ rfl rfl (hok.2.resolve_left h3) (by omega)

/-- what `len` needs of the model state: the reading loop from the start ends by an empty read with good reads, and
    the code-point seek back to `_tell` is a good traversal -/
def lenAllOk (s : SStr) : Bool :=
  lenOk (s.st.data.length + 2) (s.bseek 0) &&
    travOk (s.tell + 1) ((SStr.lenLoop (s.st.data.length + 2) (s.bseek 0) 0).2.bseek 0) 0 s.tell

theorem src_ss_len_eq_model (lfuel : Nat) (st : SS) (s : SStr) (h : RelS st s) (hok : lenAllOk s = true)
    (hk : s.st.data.length + 2 ≤ lfuel) (hk2 : s.tell + 1 ≤ lfuel) :
    (SpooledStringIO.len lfuel st).1 = .ok (s.len.1 : Int) ∧ RelS (SpooledStringIO.len lfuel st).2 s.len.2 := by
  refine h.of_eq (SpooledStringIO.len lfuel ·) ?_
  simp only [lenAllOk, Bool.and_eq_true] at hok
  simp only [SpooledStringIO.len, SpooledStringIO.len.body, seq_apply, bindE_apply, assign_apply, skip_apply, ret_apply,
    src_ss_tell_eq_model, CFile.seek, toSS, Bool.false_eq_true, if_false, Int.lt_irrefl, Int.toNat_zero]
  have hsim := fun s0 hs0 ht0 => ss_len_sim (s.st.data.length + 2) lfuel s0 (s.bseek 0) 0 hs0 ht0 hok.1 hk
  split
  · rename_i x s1 heq
    obtain ⟨_, hs1, ht, hl⟩ := loop_exit_of_eq (hsim _ rfl rfl) heq
    have hsk := eq_of_tie (src_ss_seek0_eq_model lfuel s1.self _ s.tell (hs1 ▸ RelS_toSS _) hok.2 hk2)
    simp only at hl
    simp [hl, hsk, ht, SStr.len, toSS]
  · rename_i x fl s1 hne heq
    exact absurd (loop_exit_of_eq (hsim _ rfl rfl) heq).1 hne

/-- non-vacuity: the hypotheses of the `len` tie hold of an object holding multi-byte text, read in chunks of 2 code points -/
def demoModS : SStr := ⟨⟨encode ['a', 'é'], 3⟩, {}, 2, false, 100, 2⟩
def demoSrcS : SS :=
  { buffer := ⟨⟨encode ['a', 'é'], 3⟩, {}, false, false⟩, tell := 2, max_size := 100, dir := (), chunk := 2 }
example : RelS demoSrcS demoModS ∧ lenAllOk demoModS = true := ⟨⟨rfl, rfl, rfl, rfl, rfl, rfl, rfl⟩, by decide⟩

/-- `seek(p, os.SEEK_SET)` of the full method (the `mode` dispatch): `SStr.seek` -/
theorem src_ss_seek_set_eq_model (lfuel : Nat) (st : SS) (s : SStr) (p : Nat) (h : RelS st s)
    (hok : travOk (p + 1) (s.bseek 0) 0 p = true) (hk : p + 1 ≤ lfuel) :
    (SpooledStringIO.seek lfuel st p 0).1 = .ok (p : Int) ∧ RelS (SpooledStringIO.seek lfuel st p 0).2 (s.seek p) := by
  refine h.of_eq (SpooledStringIO.seek lfuel · p 0) ?_
  have et := eq_of_tie (src_ss_traverse_eq_model lfuel (p + 1) _ (s.bseek 0) 0 p (RelS_toSS _) (by simpa using hok) hk)
  simp only [toSS, SStr.bseek, Int.natCast_zero, Nat.zero_add] at et
  simp [SpooledStringIO.seek, SpooledStringIO.seek.body, src_ss_checkClosed_eq_model, CFile.seek, et,
    src_ss_tell_eq_model, SStr.seek, toSS, SStr.bseek, pos_not_neg, pos_nonneg]

theorem src_ss_seek_cur_eq_model (lfuel : Nat) (st : SS) (s : SStr) (n : Nat) (h : RelS st s)
    (hok : travOk (n + 1) s s.tell (s.tell + n) = true) (hk : n + 1 ≤ lfuel) :
    (SpooledStringIO.seek lfuel st n 1).1 = .ok ((s.tell + n : Nat) : Int) ∧
      RelS (SpooledStringIO.seek lfuel st n 1).2 (s.seekCur n) := by
  refine h.of_eq (SpooledStringIO.seek lfuel · n 1) ?_
  have et := eq_of_tie (src_ss_traverse_eq_model lfuel (n + 1) _ s s.tell n (RelS_toSS _) hok hk)
  simp only [toSS] at et
  simp [SpooledStringIO.seek, SpooledStringIO.seek.body, src_ss_checkClosed_eq_model, et, src_ss_tell_eq_model,
    SStr.seekCur, toSS]

theorem src_ss_seek_end_eq_model (lfuel : Nat) (st : SS) (s : SStr) (n : Nat) (h : RelS st s)
    (hlen : lenAllOk s = true) (hn : n ≤ s.len.1)
    (hok : travOk (s.len.1 - n + 1) (s.len.2.bseek 0) 0 (s.len.1 - n) = true)
    (hk : s.st.data.length + 2 ≤ lfuel) (hk2 : s.tell + 1 ≤ lfuel) (hk3 : s.len.1 - n + 1 ≤ lfuel) :
    (SpooledStringIO.seek lfuel st n 2).1 = .ok ((s.len.1 - n : Nat) : Int) ∧
      RelS (SpooledStringIO.seek lfuel st n 2).2 (s.seekEnd n) := by
  refine h.of_eq (SpooledStringIO.seek lfuel · n 2) ?_
  have el := eq_of_tie (src_ss_len_eq_model lfuel _ s (RelS_toSS s) hlen hk hk2)
  have et := eq_of_tie (src_ss_traverse_eq_model lfuel (s.len.1 - n + 1) _ (s.len.2.bseek 0) 0 (s.len.1 - n)
    (RelS_toSS _) (by simpa using hok) hk3)
  have harg : ((s.len.1 : Int) - (n : Int)) = ((s.len.1 - n : Nat) : Int) := by omega
  simp only [toSS, SStr.bseek, Int.natCast_zero, Nat.zero_add] at el et
  simp [SpooledStringIO.seek, SpooledStringIO.seek.body, src_ss_checkClosed_eq_model, el, harg, CFile.seek, et,
    src_ss_tell_eq_model, SStr.seekEnd, toSS, SStr.bseek]

/-- non-vacuity: the hypotheses of the three `seek` ties hold of an object holding multi-byte text (one code point
    forward from the start; one code point back from the end) -/
def demoModS0 : SStr := ⟨⟨encode ['a', 'é'], 0⟩, {}, 0, false, 100, 2⟩
example : travOk 2 (demoModS0.bseek 0) 0 1 = true ∧ travOk 2 demoModS0 demoModS0.tell (demoModS0.tell + 1) = true := by decide
example : lenAllOk demoModS = true ∧ 1 ≤ demoModS.len.1 ∧
    travOk (demoModS.len.1 - 1 + 1) (demoModS.len.2.bseek 0) 0 (demoModS.len.1 - 1) = true := by decide

theorem ss_codecLine_eq_model (s : SStr) (hg : goodLine s = true) :
    CFile.readlineText (toSS s).buffer none = (.ok s.codecLine.1, (toSS s.codecLine.2).buffer) := by
  simp only [goodLine, Bool.not_eq_true'] at hg
  simp [CFile.readlineText, hg, SStr.codecLine, toSS]

theorem toSS_codecLine (s : SStr) :
    { toSS s with buffer := (toSS s.codecLine.2).buffer } = toSS s.codecLine.2 := rfl

/-- the loop test `ret and ret[-1] not in '\r\n'` is the negation of the model's exit test -/
theorem ss_rl_cond (s0 : SpooledStringIO.readline.St) (h : s0.length = none) :
    SpooledStringIO.readline.loop1.cond s0 = !(s0.loc1.isEmpty || endsCRLF s0.loc1) := by
  unfold SpooledStringIO.readline.loop1.cond lastNotIn endsCRLF
  rcases hl : s0.loc1.getLast? with _ | c
  · have : s0.loc1 = [] := List.getLast?_eq_none_iff.mp hl
    simp [h, this]
  · have hne : s0.loc1 ≠ [] := by intro h0; simp [h0] at hl
    have hne' : s0.loc1.isEmpty = false := by simpa using hne
    simp [h, hne, hne']

/-- the joining loop of `readline`: with at least the model's fuel the generated loop ends normally in the object of
    `SStr.rlJoin`, with the same line -/
theorem ss_rl_sim (k : Nat) : ∀ (n : Nat) (s0 : SpooledStringIO.readline.St) (s : SStr) (ret : List Char),
    s0.self = toSS s → s0.length = none → s0.loc1 = ret → rlOk k ret s = true → k ≤ n →
    ∃ s', whileLoop SpooledStringIO.readline.loop1.cond SpooledStringIO.readline.loop1.body n s0 = (.next, s') ∧
      (s'.self = toSS (SStr.rlJoin k ret s).2 ∧ s'.loc1 = (SStr.rlJoin k ret s).1) := by
  induction k with
  | zero => intro n s0 s ret _ _ _ hok; simp [rlOk] at hok
  | succ k ih =>
    intro n s0 s ret hs hlen hret hok hn
    obtain ⟨n, rfl⟩ : ∃ n', n = n' + 1 := ⟨n - 1, by omega⟩
    rw [whileLoop_succ, ss_rl_cond s0 hlen, hret]
    rcases s0 with ⟨self, len, l1, l2⟩
    simp only at hs hlen hret
    subst hs hlen hret
    unfold rlOk at hok
    unfold SStr.rlJoin
    by_cases h1 : (l1.isEmpty || endsCRLF l1) = true
    · simp [h1]
    · rw [if_neg h1] at hok ⊢
      simp only [h1, Bool.not_false, if_true]
      simp only [Bool.and_eq_true, Bool.or_eq_true] at hok
      have e := ss_codecLine_eq_model s hok.1
      by_cases h3 : s.codecLine.1.isEmpty = true
      · rw [if_pos h3]
        simp [SpooledStringIO.readline.loop1.body, e, List.isEmpty_iff.1 h3, toSS_codecLine]
      · rw [if_neg h3]
        have h3' : s.codecLine.1 ≠ [] := by simpa using h3
        have hb : SpooledStringIO.readline.loop1.body ⟨toSS s, none, l1, l2⟩ =
            (.next, ⟨toSS s.codecLine.2, none, l1 ++ s.codecLine.1, s.codecLine.1⟩) := by
          simp [SpooledStringIO.readline.loop1.body, e, h3', toSS_codecLine]
        rw [hb]
        exact ih n _ _ _ rfl rfl rfl (hok.2.resolve_left h3) (by omega)

theorem SStr.rlJoin_tell (k : Nat) : ∀ (ret : List Char) (s : SStr), (SStr.rlJoin k ret s).2.tell = s.tell := by
  induction k with
  | zero => intro ret s; rfl
  | succ k ih =>
    intro ret s
    unfold SStr.rlJoin
    split
    · rfl
    · split
      · rfl
      · rw [ih]; rfl

/-- what `readline()` needs of the model state: the first codec line is good and the joining loop ends by an exit -/
def rlAllOk (s : SStr) : Bool :=
  goodLine s && rlOk (s.st.data.length + 2) s.codecLine.1 s.codecLine.2

theorem src_ss_readline_eq_model (lfuel : Nat) (st : SS) (s : SStr) (h : RelS st s) (hok : rlAllOk s = true)
    (hk : s.st.data.length + 2 ≤ lfuel) :
    (SpooledStringIO.readline lfuel st none).1 = .ok s.readline.1 ∧
      RelS (SpooledStringIO.readline lfuel st none).2 s.readline.2 := by
  refine h.of_eq (SpooledStringIO.readline lfuel · none) ?_
  simp only [rlAllOk, Bool.and_eq_true] at hok
  simp only [SpooledStringIO.readline, SpooledStringIO.readline.body, seq_apply, bindE_apply, assign_apply, skip_apply,
    ret_apply, ss_checkClosed_open _ _ (RelS_toSS s).opened, ss_codecLine_eq_model s hok.1]
  have hsim := fun s0 hs0 hl0 h10 =>
    ss_rl_sim (s.st.data.length + 2) lfuel s0 s.codecLine.2 s.codecLine.1 hs0 hl0 h10 hok.2 hk
  split
  · rename_i x s1 heq
    obtain ⟨_, hs1, hl⟩ := loop_exit_of_eq (hsim _ rfl rfl rfl) heq
    simp [src_ss_tell_eq_model, hs1, hl, SStr.readline, toSS, PyRt.len, SStr.rlJoin_tell, SStr.codecLine]
  · rename_i x fl s1 hne heq
    exact absurd (loop_exit_of_eq (hsim _ rfl rfl rfl) heq).1 hne

/-- non-vacuity: the hypotheses of the `readline` tie hold where the codec ends a line at a form feed and the loop joins
    the next codec line (up to the LF) to it -/
def demoModL : SStr := ⟨⟨encode ['é', Char.ofNat 12, 'b', Char.ofNat 10, 'c'], 0⟩, {}, 0, false, 100, 2⟩
example : rlAllOk demoModL = true ∧ demoModL.readline.1 = ['é', Char.ofNat 12, 'b', Char.ofNat 10] := by decide

/-- what `rollover()` needs of the model state: the code-point seek back to `_tell` in the new file is a good traversal -/
def rollOk (s : SStr) : Bool := s.rolled || travOk (s.tell + 1) (s.moved.bseek 0) 0 s.tell

theorem CFile_write_newReal (b : List CU) :
    CFile.write CFile.newReal b = (.ok (), ⟨(File.empty : File CU).write b, {}, false, true⟩) := by
  cases b <;> simp [CFile.write, CFile.newReal, File.write, File.empty]

theorem src_ss_rollover_eq_model (lfuel : Nat) (st : SS) (s : SStr) (h : RelS st s) (hok : rollOk s = true)
    (hk : s.tell + 1 ≤ lfuel) :
    (SpooledStringIO.rollover lfuel st).1 = .ok () ∧ RelS (SpooledStringIO.rollover lfuel st).2 s.rollover := by
  refine h.of_eq (SpooledStringIO.rollover lfuel ·) ?_
  cases hr : s.rolled
  · simp only [rollOk, hr, Bool.false_or] at hok
    have esk := eq_of_tie (src_ss_seek0_eq_model lfuel _ s.moved s.tell (RelS_toSS _) hok hk)
    simp only [toSS, SStr.moved, Reader.reset] at esk
    simp [SpooledStringIO.rollover, SpooledStringIO.rollover.body, src_ss_rolled_eq_model, CFile.getvalue,
      CFile_write_newReal, CFile.close, toSS, hr, esk, SStr.rollover_unrolled, SStr.moved, Reader.reset]
  · simp [SpooledStringIO.rollover, SpooledStringIO.rollover.body, src_ss_rolled_eq_model, toSS, hr, SStr.rollover]

theorem CFile_write_inRange (o : CFile) (b : List CU) (hc : o.closed = false) (hin : InRange o.st) :
    CFile.write o b = (.ok (), { o with st := o.st.write b }) := by
  rcases o with ⟨ost, ord, ocl, orl⟩
  simp only at hc hin
  subst hc
  unfold CFile.write
  by_cases hb : b = []
  · subst hb
    simp [File.write_nil _ hin]
  · have hb' : b.isEmpty = false := by simpa using hb
    have hlt : ¬ (ost.data.length < ost.pos) := by unfold InRange at hin; omega
    simp [hb', hlt]

/-- what `write(cs)` needs of the model state: if the write rolls the object over, the rollover's seek is a good
    traversal; the stream position the bytes go to is inside the data (the statement's domain: appending writes) -/
def writeOk (s : SStr) (cs : List Char) : Prop :=
  if s.st.pos + (encode cs).length ≥ s.maxSize then rollOk s = true ∧ InRange s.rollover.st else InRange s.st

theorem src_ss_write_eq_model (lfuel : Nat) (st : SS) (s : SStr) (cs : List Char) (h : RelS st s)
    (hok : writeOk s cs) (hk : s.tell + 1 ≤ lfuel) :
    (SpooledStringIO.write lfuel st cs).1 = .ok () ∧ RelS (SpooledStringIO.write lfuel st cs).2 (s.write cs) := by
  refine h.of_eq (SpooledStringIO.write lfuel · cs) ?_
  unfold writeOk at hok
  by_cases hd : s.st.pos + (encode cs).length ≥ s.maxSize
  · rw [if_pos hd] at hok
    have ero := eq_of_tie (src_ss_rollover_eq_model lfuel _ s (RelS_toSS s) hok.1 hk)
    have hw := CFile_write_inRange (toSS s.rollover).buffer (encode cs) rfl hok.2
    have hdI : (s.maxSize : Int) ≤ (s.st.pos : Int) + ((encode cs).length : Int) := by omega
    simp only [toSS] at ero hw
    simp [SpooledStringIO.write, SpooledStringIO.write.body, src_ss_checkClosed_eq_model, src_ss_tell_eq_model,
      CFile.tell, toSS, hdI, ero, hw, SStr.write, hd, PyRt.len]
  · rw [if_neg hd] at hok
    have hw := CFile_write_inRange (toSS s).buffer (encode cs) rfl hok
    have hdI : ¬ ((s.maxSize : Int) ≤ (s.st.pos : Int) + ((encode cs).length : Int)) := by omega
    simp only [toSS] at hw
    simp [SpooledStringIO.write, SpooledStringIO.write.body, src_ss_checkClosed_eq_model, src_ss_tell_eq_model,
      CFile.tell, toSS, hdI, hw, SStr.write, hd, PyRt.len]

/-- non-vacuity: the hypotheses of the `rollover` / `write` ties hold of an object holding multi-byte text, for a write
    that stays in memory (`max_size` 100) and for one that rolls the object over (`max_size` 4) -/
def demoModW : SStr := ⟨⟨encode ['a', 'é'], 3⟩, {}, 2, false, 4, 2⟩
example : rollOk demoModS = true ∧ (demoModS.rollover).rolled = true := by decide
example : writeOk demoModS ['b'] ∧ writeOk demoModW ['b'] ∧ (demoModW.write ['b']).rolled = true ∧
    (demoModS.write ['b']).rolled = false := by
  unfold writeOk InRange; decide

/-! The `…Ok` hypotheses of the SpooledStringIO ties hold in every COHERENT model state (`CohAt` / `Coh`, the
invariant of `C18/Text.lean`): no read of a coherent object hits a decoding error and every model loop ends by its exit
(`travOk_of_coh`, `travOk_seek`, `SStr.len_loop`, `SStr.readline_join` there) -/

theorem lenAllOk_of_coh (s : SStr) (text : List Char) (h : Coh s text) (hch : 0 < s.chunk) : lenAllOk s = true := by
  obtain ⟨-, hcoh, hchunk, hok⟩ := SStr.len_loop s text h hch
  simp [lenAllOk, hok, travOk_seek _ text _ s.tell hcoh h.ale (hchunk ▸ hch)]

theorem rlAllOk_of_coh (s : SStr) (text : List Char) (h : Coh s text) : rlAllOk s = true := by
  obtain ⟨-, -, -, hok⟩ := SStr.readline_join s text h
  simp [rlAllOk, goodLine_of_coh s text s.tell h, hok]

theorem rollOk_of_coh (s : SStr) (text : List Char) (h : Coh s text) (hch : 0 < s.chunk) : rollOk s = true := by
  unfold rollOk
  by_cases hr : s.rolled = true
  · simp [hr]
  · simp [travOk_seek s.moved text _ s.tell h.moved h.ale hch]

theorem writeOk_of_coh (s : SStr) (text cs : List Char) (h : Coh s text) (hch : 0 < s.chunk) : writeOk s cs := by
  unfold writeOk
  split
  · exact ⟨rollOk_of_coh s text h hch, (SStr.rollover_spec s text h hch).1.inr⟩
  · exact h.inr

def outOfS {ρ : Type} (g : ρ → Out Char) (r : Except PyExc ρ × SS) : Except PyExc (Out Char) × SS :=
  (match r.1 with | .ok v => .ok (g v) | .error e => .error e, r.2)

def srcStepS (lfuel : Nat) (st : SS) : Op Char → Except PyExc (Out Char) × SS
  | .write cs => outOfS (fun _ => .unit) (SpooledStringIO.write lfuel st cs)
  | .read n => outOfS .data (SpooledStringIO.read st n)
  | .readAll => outOfS .data (SpooledStringIO.read st (-1))
  | .readline => outOfS .data (SpooledStringIO.readline lfuel st none)
  | .seek p => outOfS (fun v => .num v.toNat) (SpooledStringIO.seek lfuel st p 0)
  | .seekCur n => outOfS (fun v => .num v.toNat) (SpooledStringIO.seek lfuel st n 1)
  | .seekEnd n => outOfS (fun v => .num v.toNat) (SpooledStringIO.seek lfuel st n 2)
  | .tell => outOfS (fun v => .num v.toNat) (SpooledStringIO.tell st)
  | .len => outOfS (fun v => .num v.toNat) (SpooledStringIO.len lfuel st)
  | .rollover => outOfS (fun _ => .unit) (SpooledStringIO.rollover lfuel st)
  | _ => (.error .Other, st)

/-- the calls whose `SpooledStringIO` methods are translated AND tied (not: `readlines`, `getvalue`, iteration,
    `writelines`, sized `readline`) -/
def tiedS : Op Char → Bool
  | .write _ => true
  | .read _ => true
  | .readAll => true
  | .readline => true
  | .seek _ => true
  | .seekCur _ => true
  | .seekEnd _ => true
  | .tell => true
  | .len => true
  | .rollover => true
  | _ => false

theorem src_ss_step_eq_model (lfuel : Nat) (st : SS) (s : SStr) (f : File Char) (op : Op Char) (h : RelS st s)
    (hs : SRel s f) (ht : tiedS op = true) (hok : okS f op = true) (hfuel : s.st.data.length + 2 ≤ lfuel) :
    (srcStepS lfuel st op).1 = .ok (s.step op).1 ∧ RelS (srcStepS lfuel st op).2 (s.step op).2 := by
  have hc := hs.coh
  have hpos := hs.tell_eq
  have hch := hs.chunk_pos
  have hdl : f.data.length ≤ s.st.data.length := hc.length_le_data
  have hale : s.tell ≤ f.data.length := hc.ale
  cases op with
  | write cs =>
    have t := src_ss_write_eq_model lfuel st s cs h (writeOk_of_coh s f.data cs hc hch) (by omega)
    simp only [srcStepS, SStr.step, outOfS, t.1, true_and]
    exact t.2
  | read n =>
    have t := src_ss_read_eq_model st s n h (goodRead_of_coh s f.data s.tell hc _)
    rw [readSize_natCast] at t
    simp only [srcStepS, SStr.step, outOfS, t.1, true_and]
    exact t.2
  | readAll =>
    have t := src_ss_read_eq_model st s (-1) h (goodRead_of_coh s f.data s.tell hc _)
    rw [show readSize (-1) = none from rfl] at t
    simp only [srcStepS, SStr.step, outOfS, t.1, true_and]
    exact t.2
  | readline =>
    have t := src_ss_readline_eq_model lfuel st s h (rlAllOk_of_coh s f.data hc) hfuel
    simp only [srcStepS, SStr.step, outOfS, t.1, true_and]
    exact t.2
  | seek p =>
    simp only [okS, decide_eq_true_eq] at hok
    have t := src_ss_seek_set_eq_model lfuel st s p h (travOk_seek s f.data s.tell p hc hok hch) (by omega)
    simp only [srcStepS, SStr.step, outOfS, t.1, Int.toNat_natCast, true_and]
    exact t.2
  | seekCur n =>
    simp only [okS, decide_eq_true_eq] at hok
    have t := src_ss_seek_cur_eq_model lfuel st s n h
      (travOk_of_coh (n + 1) s f.data s.tell (s.tell + n) hc (by omega) (by omega) hch (by omega)) (by omega)
    simp only [srcStepS, SStr.step, outOfS, t.1, Int.toNat_natCast, true_and]
    exact t.2
  | seekEnd n =>
    simp only [okS, decide_eq_true_eq] at hok
    obtain ⟨hlen, hlcoh, -, hlchunk⟩ := SStr.len_spec s f.data hc hch
    have t := src_ss_seek_end_eq_model lfuel st s n h (lenAllOk_of_coh s f.data hc hch) (by rw [hlen]; exact hok)
      (travOk_seek s.len.2 f.data s.tell (s.len.1 - n) hlcoh (by rw [hlen]; omega) (hlchunk ▸ hch))
      hfuel (by omega) (by rw [hlen]; omega)
    simp only [srcStepS, SStr.step, outOfS, t.1, Int.toNat_natCast, true_and]
    exact t.2
  | tell =>
    simp only [srcStepS, SStr.step, outOfS, src_ss_tell_eq_model, h.opened, h.tell, Bool.false_eq_true, if_false,
      Int.toNat_natCast, true_and]
    exact h
  | len =>
    have t := src_ss_len_eq_model lfuel st s h (lenAllOk_of_coh s f.data hc hch) hfuel (by omega)
    simp only [srcStepS, SStr.step, outOfS, t.1, Int.toNat_natCast, true_and]
    exact t.2
  | rollover =>
    have t := src_ss_rollover_eq_model lfuel st s h (rollOk_of_coh s f.data hc hch) (by omega)
    simp only [srcStepS, SStr.step, outOfS, t.1, true_and]
    exact t.2
  | readlineN _ | readlines | getvalue | next | list | drain | writelines _ => simp [tiedS] at ht

def srcRunS (lfuel : Nat) (st : SS) : List (Op Char) → List (Except PyExc (Out Char)) × SS
  | [] => ([], st)
  | op :: ops =>
    ((srcStepS lfuel st op).1 :: (srcRunS lfuel (srcStepS lfuel st op).2 ops).1,
     (srcRunS lfuel (srcStepS lfuel st op).2 ops).2)

/-- the loop fuel covers every state of the history: two more than the UTF-8 length of the reference content -/
def fuelS (lfuel : Nat) (f : File Char) : List (Op Char) → Bool
  | [] => true
  | op :: ops => decide (blen f.data + 2 ≤ lfuel) && fuelS lfuel (Spec.step textSem f op).2 ops

theorem src_ss_run_eq_model (lfuel : Nat) (st : SS) (s : SStr) (f : File Char) (ops : List (Op Char)) (h : RelS st s)
    (hs : SRel s f) (ht : ∀ op ∈ ops, tiedS op = true) (hv : validS f ops = true) (hf : fuelS lfuel f ops = true) :
    (srcRunS lfuel st ops).1 = (s.run ops).1.map .ok ∧ RelS (srcRunS lfuel st ops).2 (s.run ops).2 := by
  induction ops generalizing st s f with
  | nil => exact ⟨rfl, h⟩
  | cons op ops ih =>
    simp only [validS, Bool.and_eq_true] at hv
    simp only [fuelS, Bool.and_eq_true, decide_eq_true_eq] at hf
    have hdata : s.st.data.length = blen f.data := by rw [hs.coh.data]; rfl
    have h1 := src_ss_step_eq_model lfuel st s f op h hs (ht op (by simp)) hv.1 (by omega)
    have hs2 := (SStr.step_spec s f op hs hv.1).2
    have h2 := ih (srcStepS lfuel st op).2 (s.step op).2 _ h1.2 hs2 (fun o ho => ht o (by simp [ho])) hv.2 hf.2
    simp only [srcRunS, SStr.run, List.map_cons]
    exact ⟨by rw [h1.1, h2.1], h2.2⟩

/-- a fresh `SpooledStringIO(max_size=m)` with `READ_CHUNK_SIZE = ch` -/
def srcInitS (m ch : Nat) : SS := { buffer := CFile.newMem, tell := 0, max_size := m, dir := (), chunk := ch }

theorem RelS_init (m ch : Nat) : RelS (srcInitS m ch) (SStr.init m ch) := ⟨rfl, rfl, rfl, rfl, rfl, rfl, rfl⟩

/-- histories: from a fresh object, every history of translated calls inside the statement's domain runs on the
    generated definitions without an exception (no decoding error, no loop out of fuel), returns call by call what the
    model returns, and ends in an object standing for the model's final state -/
theorem src_ss_history_refines (lfuel m ch : Nat) (hch : 0 < ch) (ops : List (Op Char))
    (ht : ∀ op ∈ ops, tiedS op = true) (hv : validS File.empty ops = true) (hf : fuelS lfuel File.empty ops = true) :
    (srcRunS lfuel (srcInitS m ch) ops).1 = ((SStr.init m ch).run ops).1.map .ok ∧
    RelS (srcRunS lfuel (srcInitS m ch) ops).2 ((SStr.init m ch).run ops).2 :=
  src_ss_run_eq_model lfuel _ _ File.empty ops (RelS_init m ch) (SRel_init m ch hch) ht hv hf

/-- hence the property holds of what the SOURCE computes: a history of translated `SpooledStringIO` calls returns
    exactly what `io.StringIO(newline='')` returns, ends with its position (in code points) and with its content
    (UTF-8 encoded in the stream) — whatever `max_size` and `READ_CHUNK_SIZE` -/
theorem src_string_refines_StringIO (lfuel m ch : Nat) (hch : 0 < ch) (ops : List (Op Char))
    (ht : ∀ op ∈ ops, tiedS op = true) (hv : validS File.empty ops = true) (hf : fuelS lfuel File.empty ops = true) :
    (srcRunS lfuel (srcInitS m ch) ops).1 = (Spec.run textSem File.empty ops).1.map .ok ∧
    (srcRunS lfuel (srcInitS m ch) ops).2.tell = ((Spec.run textSem File.empty ops).2.pos : Int) ∧
    (srcRunS lfuel (srcInitS m ch) ops).2.buffer.st.data = encode (Spec.run textSem File.empty ops).2.data := by
  have h := src_ss_history_refines lfuel m ch hch ops ht hv hf
  have hb := string_refines_StringIO m ch hch ops hv
  exact ⟨by rw [h.1, hb.1], by rw [h.2.tell, hb.2.1], by rw [h.2.stream, hb.2.2]⟩

/-- rolling over (and the chunk size) is invisible in what the source returns -/
theorem src_string_rollover_invisible (lfuel m₁ m₂ ch₁ ch₂ : Nat) (h₁ : 0 < ch₁) (h₂ : 0 < ch₂) (ops : List (Op Char))
    (ht : ∀ op ∈ ops, tiedS op = true) (hv : validS File.empty ops = true) (hf : fuelS lfuel File.empty ops = true) :
    (srcRunS lfuel (srcInitS m₁ ch₁) ops).1 = (srcRunS lfuel (srcInitS m₂ ch₂) ops).1 ∧
    (srcRunS lfuel (srcInitS m₁ ch₁) ops).2.tell = (srcRunS lfuel (srcInitS m₂ ch₂) ops).2.tell ∧
    (srcRunS lfuel (srcInitS m₁ ch₁) ops).2.buffer.st.data = (srcRunS lfuel (srcInitS m₂ ch₂) ops).2.buffer.st.data := by
  have a := src_string_refines_StringIO lfuel m₁ ch₁ h₁ ops ht hv hf
  have b := src_string_refines_StringIO lfuel m₂ ch₂ h₂ ops ht hv hf
  exact ⟨by rw [a.1, b.1], by rw [a.2.1, b.2.1], by rw [a.2.2, b.2.2]⟩

/-- non-vacuity: a history with multi-byte text, a rollover by `max_size`, reads, a line, seeks of all three kinds, `len` -/
def demoOpsS : List (Op Char) :=
  [.write ['é', 'a', Char.ofNat 10], .seek 1, .read 1, .len, .seekEnd 0, .write ['b'], .seekCur 0, .seek 0, .readline,
   .tell, .rollover, .readAll]
example : (∀ op ∈ demoOpsS, tiedS op = true) ∧ validS File.empty demoOpsS = true ∧ fuelS 9 File.empty demoOpsS = true := by
  decide

end C18
