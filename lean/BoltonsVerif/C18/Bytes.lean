import BoltonsVerif.C18.Files
import BoltonsVerif.C18.Calls
/-
C18 — SpooledBytesIO (every operation is a function of the buffer; refinement to the
plain file) and MultiFileReader (refinement to one file over the concatenation).
-/
namespace C18
variable {α : Type}

def bReadline (f : File Byte) (length : Option Nat) : List Byte × File Byte :=
  match length with
  | some (n + 1) => f.readline isNL (some (n + 1))
  | _ => f.readline isNL none

def bNext (f : File Byte) : Out Byte × File Byte :=
  if (bReadline f none).1.isEmpty then
    if (bReadline f none).2.pos = (bReadline f none).2.seekEnd.pos then (.stop, (bReadline f none).2.seekEnd)
    else (.data [], (bReadline f none).2.seekEnd.seek (bReadline f none).2.pos)
  else (.data (bReadline f none).1, (bReadline f none).2)

/-- `SBytes.step` on the buffer alone (`SBytes.step_eq`).  The queries leave the file as it is: the model's save / seek /
    restore is discharged in `SBytes.len_eq`, `SBytes.getvalue_eq`. -/
def bStep (f : File Byte) : Op Byte → Out Byte × File Byte
  | .write b => (.unit, f.write b)
  | .read n => (.data (f.readN n).1, (f.readN n).2)
  | .readAll => (.data f.readAll.1, f.readAll.2)
  | .readline => (.data (bReadline f none).1, (bReadline f none).2)
  | .readlineN n => (.data (bReadline f (some n)).1, (bReadline f (some n)).2)
  | .readlines => (.lines (f.readlines isNL).1, (f.readlines isNL).2)
  | .seek p => (.num p, f.seek p)
  | .seekCur n => (.num (f.pos + n), f.seek (f.pos + n))
  | .seekEnd n => (.num (f.data.length - n), f.seek (f.data.length - n))
  | .tell => (.num f.pos, f)
  | .getvalue => (.data f.data, f)
  | .len => (.num f.data.length, f)
  | .next => bNext f
  | .list => (.lines (drainWith bNext (f.data.length + 2) f []).1, (drainWith bNext (f.data.length + 2) f []).2)
  | .drain => (.lines (drainWith bNext (f.data.length + 2) f []).1, (drainWith bNext (f.data.length + 2) f []).2)
  | .rollover => (.unit, f)
  | .writelines ss => (.unit, ss.foldl File.write f)

theorem SBytes.init_buf (m : Nat) : (SBytes.init m).buf = File.empty := rfl

theorem SBytes.rollover_buf (s : SBytes) : s.rollover.buf = s.buf := by
  unfold SBytes.rollover
  split
  · rfl
  · simp [File.write_empty, File.seek]

theorem SBytes.write_buf (s : SBytes) (b : List Byte) : (s.write b).buf = s.buf.write b := by
  unfold SBytes.write
  split <;> simp [SBytes.rollover_buf]

theorem SBytes.writelines_buf (ss : List (List Byte)) (s : SBytes) :
    (ss.foldl SBytes.write s).buf = ss.foldl File.write s.buf := by
  induction ss generalizing s with
  | nil => rfl
  | cons b ss ih => simp only [List.foldl_cons]; rw [ih, SBytes.write_buf]

theorem SBytes.len_eq (s : SBytes) : s.len.1 = s.buf.data.length ∧ s.len.2.buf = s.buf := by
  unfold SBytes.len
  split <;> simp [File.seek, File.seekEnd]

theorem SBytes.getvalue_eq (s : SBytes) : s.getvalue.1 = s.buf.data ∧ s.getvalue.2.buf = s.buf := by
  simp [SBytes.getvalue, File.seek, File.readAll, File.rest]

theorem SBytes.readline_eq (s : SBytes) (l : Option Nat) :
    (s.readline l).1 = (bReadline s.buf l).1 ∧ (s.readline l).2.buf = (bReadline s.buf l).2 := by
  unfold SBytes.readline bReadline
  split <;> simp

theorem SBytes.next_eq (s : SBytes) : s.next.1 = (bNext s.buf).1 ∧ s.next.2.buf = (bNext s.buf).2 := by
  have h1 := (SBytes.readline_eq s none).1
  have h2 := (SBytes.readline_eq s none).2
  unfold SBytes.next bNext
  rw [h1, h2]
  split
  · split <;> simp
  · simp [h2]

theorem SBytes.drain_eq_drainWith (fuel : Nat) (s : SBytes) (acc : List (List Byte)) :
    SBytes.drain fuel s acc = drainWith SBytes.next fuel s acc := by
  induction fuel generalizing s acc with
  | zero => rfl
  | succ n ih => unfold SBytes.drain drainWith; split <;> simp [*]

theorem SBytes.drain_eq (fuel : Nat) (s : SBytes) (acc : List (List Byte)) :
    (SBytes.drain fuel s acc).1 = (drainWith bNext fuel s.buf acc).1 ∧
    (SBytes.drain fuel s acc).2.buf = (drainWith bNext fuel s.buf acc).2 := by
  rw [SBytes.drain_eq_drainWith]
  exact drainWith_sim SBytes.next bNext (fun s f => s.buf = f) (fun s f h => by subst h; exact SBytes.next_eq s)
    fuel s s.buf acc rfl

theorem SBytes.step_eq (s : SBytes) (op : Op Byte) :
    (s.step op).1 = (bStep s.buf op).1 ∧ (s.step op).2.buf = (bStep s.buf op).2 := by
  cases op <;> simp only [SBytes.step, bStep, SBytes.write_buf, SBytes.readline_eq, SBytes.next_eq,
    SBytes.getvalue_eq, SBytes.len_eq, SBytes.drain_eq, SBytes.rollover_buf, SBytes.writelines_buf, and_self]

theorem SBytes.run_eq (s : SBytes) (ops : List (Op Byte)) :
    (s.run ops).1 = (runOps bStep s.buf ops).1 ∧ (s.run ops).2.buf = (runOps bStep s.buf ops).2 := by
  induction ops generalizing s with
  | nil => simp [SBytes.run, runOps]
  | cons op ops ih =>
    simp only [SBytes.run, runOps]
    rw [(SBytes.step_eq s op).1, (ih _).1, (ih _).2, (SBytes.step_eq s op).2]
    simp

theorem bNext_spec (f : File Byte) (h : InRange f) : bNext f = Spec.next bytesSem f := by
  unfold bNext Spec.next bReadline
  simp only [File.readline, bytesSem]
  by_cases he : (takeLine isNL f.rest).isEmpty
  · have hr : f.rest = [] := (takeLine_eq_nil _ _).1 (List.isEmpty_iff.1 he)
    have hp := h.pos_eq_of_rest_nil hr
    simp [hr, takeLine, File.seekEnd, hp]
    cases f
    simp_all
  · simp [he]

theorem bStep_spec (f : File Byte) (op : Op Byte) (h : InRange f) (hok : okB f op = true) :
    bStep f op = Spec.step bytesSem f op := by
  cases op with
  | writelines ss => simp only [bStep, Spec.step]; rw [File.foldl_write f ss h]
  | readlineN n =>
    cases n with
    | zero => simp [okB] at hok
    | succ k => simp [bStep, Spec.step, bReadline, File.readline, bytesSem]
  | next => simp [bStep, Spec.step, bNext_spec f h]
  | list | drain =>
    simp only [bStep, Spec.step]
    rw [drainWith_spec bytesSem bytesSem_cuts bNext bNext_spec _ f [] h (by have := File.rest_length f; omega)]
    simp [bytesSem]
  | _ => simp [bStep, Spec.step, bReadline, File.readline, File.readlines, bytesSem, File.seek, File.readAll, File.rest]

theorem okB_step_inRange (f : File Byte) (op : Op Byte) (h : InRange f) (hok : okB f op = true) :
    InRange (Spec.step bytesSem f op).2 := by
  have hrl := File.rest_length f
  unfold InRange at h ⊢
  cases op with
  | write s => exact File.write_inRange f s h
  | read n => simp [Spec.step, File.readN]; omega
  | readAll => simp [Spec.step, File.readAll]; omega
  | readline | readlineN n =>
    have := takeLine_length_le isNL f.rest
    simp [Spec.step, bytesSem]; omega
  | readlines | list | drain => simp [Spec.step]; omega
  | seek p | seekCur n => simpa [Spec.step, okB] using hok
  | seekEnd n => simp [Spec.step]
  | tell | getvalue | len | rollover => simpa [Spec.step] using h
  | next => exact Spec.next_inRange bytesSem bytesSem_cuts f h
  | writelines ss => exact File.write_inRange f _ h

theorem bStep_run_spec (f : File Byte) (ops : List (Op Byte)) (h : InRange f) (hv : validB f ops = true) :
    runOps bStep f ops = Spec.run bytesSem f ops := by
  induction ops generalizing f with
  | nil => rfl
  | cons op ops ih =>
    simp only [validB, Bool.and_eq_true] at hv
    simp only [runOps, Spec.run]
    rw [bStep_spec f op h hv.1, ih _ (okB_step_inRange f op h hv.1) hv.2]

def MFR.rem (m : MFR α) : List α := ((m.files.drop m.index).map File.rest).flatten

def MFR.Inv (m : MFR α) : Prop := ∀ f ∈ m.files.take m.index, f.rest = []

def MFR.contents (m : MFR α) : List (List α) := m.files.map File.data

theorem flatten_rest_take_drop (fs : List (File α)) (i : Nat) (h : ∀ f ∈ fs.take i, f.rest = []) :
    (fs.map File.rest).flatten = ((fs.drop i).map File.rest).flatten := by
  induction fs generalizing i with
  | nil => simp
  | cons f fs ih =>
    cases i with
    | zero => simp
    | succ i =>
      have hf : f.rest = [] := h f (by simp)
      have := ih i (fun g hg => h g (by simp [hg]))
      simp [hf, this]

theorem MFR.readAll_spec (m : MFR α) (h : m.Inv) :
    m.readAll.1 = m.rem ∧ m.readAll.2.rem = [] ∧ m.readAll.2.Inv ∧ m.readAll.2.contents = m.contents := by
  refine ⟨?_, ?_, ?_, ?_⟩
  · simp only [MFR.readAll, MFR.rem]
    have : (fun (f : File α) => f.readAll.1) = File.rest := by funext f; rfl
    rw [this]
    exact flatten_rest_take_drop m.files m.index h
  · simp only [MFR.readAll, MFR.rem, List.map_drop, List.map_map]
    have : (File.rest ∘ fun (f : File α) => f.readAll.2) = fun _ => [] := by
      funext f; exact File.readAll_rest f
    rw [this]
    simp only [List.flatten_eq_nil_iff]
    intro l hl
    have := List.mem_of_mem_drop hl
    simp at this
    exact this.2
  · intro f hf
    simp only [MFR.readAll] at hf
    have := List.mem_of_mem_take hf
    rcases List.mem_map.1 this with ⟨g, _, rfl⟩
    exact File.readAll_rest g
  · simp [MFR.readAll, MFR.contents, File.readAll]

theorem MFR.rem_of_get (m : MFR α) (f : File α) (h : m.files[m.index]? = some f) :
    m.rem = f.rest ++ ((m.files.drop (m.index + 1)).map File.rest).flatten := by
  obtain ⟨hlt, hf⟩ := List.getElem?_eq_some_iff.1 h
  unfold MFR.rem
  rw [List.drop_eq_getElem_cons hlt, hf]
  simp

theorem MFR.rem_of_none (m : MFR α) (h : m.files[m.index]? = none) : m.rem = [] := by
  have : m.files.length ≤ m.index := List.getElem?_eq_none_iff.1 h
  simp [MFR.rem, List.drop_eq_nil_of_le this]

/-- a bound on the tests of the loop condition still to come -/
def mfrMeasure (m : MFR α) (a : Nat) : Nat := if a = 0 then 0 else (m.files.length - m.index) + 1

/-- the reader after one round of the sized-read loop on its current member `f`: the index moves on iff `f` came up short -/
def MFR.readOne (m : MFR α) (f : File α) (amt : Nat) : MFR α :=
  ⟨setAt m.files m.index (f.readN amt).2, if (f.readN amt).1.length < amt then m.index + 1 else m.index⟩

theorem MFR.readLoop_succ (fuel : Nat) (m : MFR α) (amt : Nat) (parts : List (List α)) (f : File α)
    (ha : 0 < amt) (hg : m.files[m.index]? = some f) :
    MFR.readLoop (fuel + 1) m amt parts =
      MFR.readLoop fuel (m.readOne f amt) (amt - (f.readN amt).1.length) ((f.readN amt).1 :: parts) := by
  simp only [MFR.readLoop, if_pos ha, hg, MFR.readOne]
  split <;> rfl

theorem mfrMeasure_step (m : MFR α) (f : File α) (a : Nat) (ha : 0 < a) (hg : m.files[m.index]? = some f) :
    mfrMeasure (m.readOne f a) (a - (f.readN a).1.length) < mfrMeasure m a := by
  obtain ⟨hlt, -⟩ := List.getElem?_eq_some_iff.1 hg
  have hle : (f.readN a).1.length ≤ a := by rw [File.readN_fst, List.length_take]; omega
  unfold mfrMeasure MFR.readOne setAt
  simp only [List.length_set, if_neg (Nat.ne_of_gt ha)]
  by_cases hs : (f.readN a).1.length < a
  · rw [if_pos hs]; split <;> omega
  · rw [if_pos (show a - (f.readN a).1.length = 0 by omega)]; omega

/-- one round hands out a prefix of `m.rem` and leaves the rest; a member that came up short is exhausted, so `Inv`
    survives the index moving on -/
theorem MFR.readOne_spec (m : MFR α) (f : File α) (amt : Nat) (hg : m.files[m.index]? = some f) (h : m.Inv) :
    (f.readN amt).1 = m.rem.take (f.readN amt).1.length ∧
    (m.readOne f amt).rem = m.rem.drop (f.readN amt).1.length ∧
    (m.readOne f amt).Inv ∧ (m.readOne f amt).contents = m.contents := by
  obtain ⟨hlt, hf⟩ := List.getElem?_eq_some_iff.1 hg
  have hrem := MFR.rem_of_get m f hg
  have hgl : (f.readN amt).1.length ≤ f.rest.length := by rw [File.readN_fst, List.length_take]; omega
  have hrest : (f.readN amt).2.rest = f.rest.drop (f.readN amt).1.length := by
    rw [File.readN_rest, File.readN_fst, drop_length_take]
  have hshort : (f.readN amt).1.length < amt → (f.readN amt).2.rest = [] := fun hs => by
    rw [hrest]; exact List.drop_eq_nil_of_le (by rw [File.readN_fst, List.length_take] at hs ⊢; omega)
  refine ⟨?_, ?_, ?_, ?_⟩
  · rw [hrem, List.take_append_of_le_length hgl, File.readN_fst, take_length_take]
  · rw [hrem, List.drop_append_of_le_length hgl, ← hrest]
    unfold MFR.readOne MFR.rem setAt
    split
    · next hs => simp only [drop_succ_set, hshort hs, List.nil_append]
    · simp only [drop_set_self _ _ _ hlt, List.map_cons, List.flatten_cons]
  · intro g hgm
    unfold MFR.readOne setAt at hgm
    split at hgm
    · next hs =>
      simp only at hgm
      rw [List.take_succ_eq_append_getElem (by simpa using hlt), List.take_set_of_le (Nat.le_refl _)] at hgm
      rcases List.mem_append.1 hgm with hgm | hgm
      · exact h g hgm
      · simp only [List.getElem_set_self, List.mem_singleton] at hgm
        rw [hgm]; exact hshort hs
    · simp only at hgm
      rw [List.take_set_of_le (Nat.le_refl _)] at hgm
      exact h g hgm
  · unfold MFR.readOne MFR.contents setAt
    simp only [List.map_set, File.readN_data]
    rw [← hf, ← List.getElem_map File.data (h := by simpa using hlt), List.set_getElem_self]

theorem MFR.readLoop_spec (fuel : Nat) (m : MFR α) (amt : Nat) (parts : List (List α)) (h : m.Inv)
    (hf : mfrMeasure m amt ≤ fuel) :
    (MFR.readLoop fuel m amt parts).1.reverse.flatten = parts.reverse.flatten ++ m.rem.take amt ∧
    (MFR.readLoop fuel m amt parts).2.rem = m.rem.drop amt ∧
    (MFR.readLoop fuel m amt parts).2.Inv ∧
    (MFR.readLoop fuel m amt parts).2.contents = m.contents := by
  induction fuel generalizing m amt parts with
  | zero =>
    have : amt = 0 := by unfold mfrMeasure at hf; split at hf <;> omega
    subst this; simp [MFR.readLoop, h]
  | succ n ih =>
    by_cases ha : 0 < amt
    · cases hg : m.files[m.index]? with
      | none => rw [MFR.readLoop, if_pos ha, hg]; simp [MFR.rem_of_none m hg, h]
      | some f =>
        obtain ⟨hgot, hrem, hinv, hc⟩ := MFR.readOne_spec m f amt hg h
        have hle : (f.readN amt).1.length ≤ amt := by rw [File.readN_fst, List.length_take]; omega
        obtain ⟨h1, h2, h3, h4⟩ := ih (m.readOne f amt) (amt - (f.readN amt).1.length) ((f.readN amt).1 :: parts) hinv
          (by have := mfrMeasure_step m f amt ha hg; omega)
        rw [MFR.readLoop_succ n m amt parts f ha hg]
        refine ⟨?_, ?_, h3, by rw [h4, hc]⟩
        · rw [h1, hrem, List.reverse_cons, List.flatten_append, List.append_assoc]
          congr 1
          conv => rhs; rw [← Nat.add_sub_cancel' hle, List.take_add, ← hgot]
          simp
        · rw [h2, hrem, List.drop_drop, Nat.add_sub_cancel' hle]
    · have : amt = 0 := by omega
      subst this
      simp [MFR.readLoop, h]

theorem MFR.readLoop_length (k : Nat) (m : MFR α) (a : Nat) (parts : List (List α)) :
    (MFR.readLoop k m a parts).2.files.length = m.files.length := by
  induction k generalizing m a parts with
  | zero => rfl
  | succ k ih =>
    unfold MFR.readLoop
    split
    · split
      · split <;> (rw [ih]; simp [setAt])
      · rfl
    · rfl

theorem MFR.step_length (m : MFR α) (op : MOp) : (m.step op).2.files.length = m.files.length := by
  cases op with
  | read n =>
    rcases n with _ | n
    · simp [MFR.step, MFR.read, MFR.readAll]
    · simp [MFR.step, MFR.read, MFR.readLoop_length]
  | readAll => simp [MFR.step, MFR.read, MFR.readAll]
  | seek0 => simp [MFR.step, MFR.seek0]

/-- the Rest only: what is left of the reader is what is left of the single file `f` (no claim about the part already
    consumed) -/
structure MRelR (m : MFR α) (f : File α) : Prop where
  rest : f.rest = m.rem
  inv : m.Inv

theorem MFR.read_step_specR (m : MFR α) (f : File α) (op : MOp) (hop : op.isRead = true) (h : MRelR m f) :
    (m.step op).1 = (MFR.specStep f op).1 ∧ MRelR (m.step op).2 (MFR.specStep f op).2 ∧
    (m.step op).2.contents = m.contents := by
  have hall : (m.readAll).1 = f.readAll.1 ∧ MRelR (m.readAll).2 f.readAll.2 ∧ m.readAll.2.contents = m.contents := by
    rcases MFR.readAll_spec m h.inv with ⟨h1, h2, h3, h4⟩
    exact ⟨by rw [h1, File.readAll_fst, h.rest], ⟨by rw [File.readAll_rest, h2], h3⟩, h4⟩
  cases op with
  | readAll => simpa [MFR.step, MFR.specStep, MFR.read] using hall
  | seek0 => simp [MOp.isRead] at hop
  | read n =>
    cases n with
    | zero => simpa [MFR.step, MFR.specStep, MFR.read] using hall
    | succ k =>
      rcases MFR.readLoop_spec (m.files.length - m.index + 2) m (k + 1) [] h.inv (by simp [mfrMeasure]) with ⟨h1, h2, h3, h4⟩
      simp only [MFR.step, MFR.specStep, MFR.read]
      refine ⟨?_, ⟨?_, h3⟩, h4⟩
      · rw [h1, File.readN_fst, h.rest]; simp
      · rw [File.readN_rest, h2, h.rest]

theorem MFR.specStep_data (f : File α) (op : MOp) : (MFR.specStep f op).2.data = f.data := by
  cases op with
  | read n => cases n <;> rfl
  | readAll | seek0 => rfl

structure MRel (m : MFR α) (f : File α) : Prop extends MRelR m f where
  data : f.data = m.contents.flatten

theorem MRel_init (cs : List (List α)) : MRel (MFR.init cs) ⟨cs.flatten, 0⟩ where
  rest := by simp [MFR.init, MFR.rem, File.rest, Function.comp_def]
  inv := fun f hf => by simp [MFR.init] at hf
  data := by simp [MFR.init, MFR.contents, Function.comp_def]

theorem MFR.seek0_eq_init (m : MFR α) : m.seek0 = MFR.init m.contents := by
  simp [MFR.seek0, MFR.init, MFR.contents, File.seek, Function.comp_def]

theorem MFR.step_spec (m : MFR α) (f : File α) (op : MOp) (h : MRel m f) :
    (m.step op).1 = (MFR.specStep f op).1 ∧ MRel (m.step op).2 (MFR.specStep f op).2 := by
  cases hop : op.isRead with
  | true =>
    obtain ⟨h1, h2, h3⟩ := MFR.read_step_specR m f op hop h.toMRelR
    exact ⟨h1, h2, by rw [MFR.specStep_data, h3, h.data]⟩
  | false =>
    cases op with
    | seek0 =>
      refine ⟨rfl, ?_⟩
      show MRel m.seek0 ⟨f.data, 0⟩
      rw [MFR.seek0_eq_init, h.data]
      exact MRel_init m.contents
    | read n | readAll => simp [MOp.isRead] at hop

theorem MFR.run_spec (m : MFR α) (f : File α) (ops : List MOp) (h : MRel m f) :
    (m.run ops).1 = (MFR.specRun f ops).1 ∧ MRel (m.run ops).2 (MFR.specRun f ops).2 := by
  induction ops generalizing m f with
  | nil => exact ⟨rfl, h⟩
  | cons op ops ih =>
    have hs := MFR.step_spec m f op h
    have := ih _ _ hs.2
    simp only [MFR.run, MFR.specRun]
    exact ⟨by rw [hs.1, this.1], this.2⟩
end C18
