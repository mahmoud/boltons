import BoltonsVerif.C18.Proofs
import BoltonsVerif.C18.Round5
/-
C18 — property theorems (statements, short derivations from the lemma files, non-vacuity examples).

Models (Model.lean): `SBytes` = SpooledBytesIO, `SStr` = SpooledStringIO on the transliterated
`codecs.StreamReader`, `MFR` = MultiFileReader, `File` = io.BytesIO / TemporaryFile, `Spec.run sem` = the
same history on a plain file (io.BytesIO for `bytesSem`, io.StringIO(newline='') for `textSem`).
A history is a `List Op`; `validB` / `validS` are the statement's own domain
(appending writes of text, seek targets inside the data), evaluated along the reference run.
The model's abstract code units are tied to real UTF-8 bytes (theorems `utf8_*`; lemmas in Utf8.lean, built on
`String.utf8EncodeChar` / `ByteArray.utf8DecodeChar?` of Lean core).
-/
namespace C18

/-- outputs, final content and final position do not depend on `max_size` (rolled over or not) — every history -/
theorem rollover_invisible_bytes (ops : List (Op Byte)) (m₁ m₂ : Nat) :
    ((SBytes.init m₁).run ops).1 = ((SBytes.init m₂).run ops).1 ∧
    ((SBytes.init m₁).run ops).2.buf = ((SBytes.init m₂).run ops).2.buf := by
  have h1 := SBytes.run_eq (SBytes.init m₁) ops
  have h2 := SBytes.run_eq (SBytes.init m₂) ops
  rw [SBytes.init_buf] at h1 h2
  exact ⟨by rw [h1.1, h2.1], by rw [h1.2, h2.2]⟩

/-- SpooledBytesIO returns what io.BytesIO returns and ends with the same content and position -/
theorem bytes_refines_BytesIO (m : Nat) (ops : List (Op Byte)) (hv : validB File.empty ops = true) :
    ((SBytes.init m).run ops).1 = (Spec.run bytesSem File.empty ops).1 ∧
    ((SBytes.init m).run ops).2.buf = (Spec.run bytesSem File.empty ops).2 := by
  have h1 := SBytes.run_eq (SBytes.init m) ops
  rw [SBytes.init_buf, bStep_run_spec File.empty ops (by simp [InRange, File.empty]) hv] at h1
  exact h1

/-- `tell`, `getvalue`, `len` report position, content, length and leave both untouched — in every state -/
theorem bytes_queries_do_not_move (s : SBytes) :
    (s.step .tell) = (.num s.buf.pos, s) ∧
    (s.step .getvalue).1 = .data s.buf.data ∧ (s.step .getvalue).2.buf = s.buf ∧
    (s.step .len).1 = .num s.buf.data.length ∧ (s.step .len).2.buf = s.buf := by
  have hg := SBytes.getvalue_eq s
  have hl := SBytes.len_eq s
  exact ⟨rfl, by simp [SBytes.step, hg.1], hg.2, by simp [SBytes.step, hl.1], hl.2⟩

/-- removing a query from a history changes no other output and not the final state -/
theorem bytes_queries_invisible (m : Nat) (ops₁ ops₂ : List (Op Byte)) (q : Op Byte) (hq : isQuery q = true)
    (hv : validB File.empty (ops₁ ++ ops₂) = true) :
    ((SBytes.init m).run (ops₁ ++ q :: ops₂)).1.eraseIdx ops₁.length = ((SBytes.init m).run (ops₁ ++ ops₂)).1 ∧
    ((SBytes.init m).run (ops₁ ++ q :: ops₂)).2.buf = ((SBytes.init m).run (ops₁ ++ ops₂)).2.buf := by
  have h1 := bytes_refines_BytesIO m _ (validB_along.insert_query File.empty ops₁ ops₂ q hq hv)
  have h2 := bytes_refines_BytesIO m _ hv
  have h3 := Spec.query_invisible bytesSem File.empty ops₁ ops₂ q hq
  exact ⟨by rw [h1.1, h2.1]; exact h3.1, by rw [h1.2, h2.2]; exact h3.2⟩

/-- `writelines(ss)` — a loop of writes, each taking its own rollover decision — is invisible as such: the history
    returns and ends exactly as with ONE `write` of the joined pieces (any `max_size`, any position) -/
theorem bytes_writelines_as_one_write (m : Nat) (ops₁ ops₂ : List (Op Byte)) (ss : List (List Byte))
    (hv : validB File.empty (ops₁ ++ .writelines ss :: ops₂) = true) :
    ((SBytes.init m).run (ops₁ ++ .writelines ss :: ops₂)).1 = ((SBytes.init m).run (ops₁ ++ .write ss.flatten :: ops₂)).1 ∧
    ((SBytes.init m).run (ops₁ ++ .writelines ss :: ops₂)).2.buf =
      ((SBytes.init m).run (ops₁ ++ .write ss.flatten :: ops₂)).2.buf := by
  have h1 := bytes_refines_BytesIO m _ hv
  have h2 := bytes_refines_BytesIO m _ (by rw [← validB_along.writelines_eq]; exact hv)
  rw [h1.1, h1.2, h2.1, h2.2, Spec.run_writelines]
  exact ⟨rfl, rfl⟩

/-- and its state (buffer, rolled-over flag) is the state after the writes one by one -/
theorem bytes_writelines_as_writes (s : SBytes) (ss : List (List Byte)) :
    (s.step (.writelines ss)).2 = (s.run (ss.map .write)).2 :=
  (SBytes.isRun.map_foldl .write s ss).symm

/-- the constant the source uses keeps the side condition of the theorems below -/
theorem real_chunk_size_pos : 0 < C18.Generated.READ_CHUNK_SIZE := by decide

/-- the constants of `codecs.StreamReader.readline` (first read size 72, doubling up to 8000), re-read from the
    interpreter's Lib/codecs.py on every run, are positive: the side conditions of the reader proofs (`rlLoop_spec` is
    stated for every positive read size; the growth factor enters it as this constant) -/
theorem codecs_readline_constants_ok :
    0 < C18.Generated.CODECS_READLINE_SIZE ∧ 0 < C18.Generated.CODECS_READSIZE_FACTOR := by decide

/-- the hand transliteration in Model.lean (section 3) was made from exactly this source: the docstring-free AST of
    `codecs.StreamReader.{__init__, read, readline, reset, seek}`, `StreamWriter.{write, reset, seek}`,
    `StreamRecoder.{__init__, read, readline, readlines, write, writelines, seek, reset, __getattr__}` and `EncodedFile`
    of the interpreter that runs the implementation hashes to this digest (CPython 3.12.1); an interpreter
    whose codecs.py differs in these functions breaks this obligation instead of being silently trusted -/
theorem codecs_source_is_the_transliterated_one :
    C18.Generated.CODECS_SOURCE_DIGEST = "8a193caf42c8e110a797e8f037452de5" := by decide

/-- SpooledStringIO (over the codec reader with its byte / character / line buffers) returns, for every history
    in the statement's domain and every `max_size` and READ_CHUNK_SIZE > 0, what io.StringIO(newline='') returns —
    the FULL clause, no restriction on the text (`readline` / `next` / iteration join the codec reader's lines up to a
    CR / LF, so VT, FF, FS, GS, RS, NEL, LS, PS do not end a line); positions count
    code points and the stored bytes are the encoding of the text -/
theorem string_refines_StringIO (ms ch : Nat) (hch : 0 < ch) (ops : List (Op Char))
    (hv : validS File.empty ops = true) :
    ((SStr.init ms ch).run ops).1 = (Spec.run textSem File.empty ops).1 ∧
    ((SStr.init ms ch).run ops).2.tell = (Spec.run textSem File.empty ops).2.pos ∧
    ((SStr.init ms ch).run ops).2.st.data = encode (Spec.run textSem File.empty ops).2.data := by
  have h := SStr.run_spec (SStr.init ms ch) File.empty ops (SRel_init ms ch hch) hv
  exact ⟨h.1, h.2.tell_eq, h.2.coh.data⟩

/-- the same, for the chunk size the source actually uses (regenerated from boltons/ioutils.py on every run) -/
theorem string_refines_StringIO_real (ms : Nat) (ops : List (Op Char))
    (hv : validS File.empty ops = true) :
    ((SStr.init ms C18.Generated.READ_CHUNK_SIZE).run ops).1 = (Spec.run textSem File.empty ops).1 ∧
    ((SStr.init ms C18.Generated.READ_CHUNK_SIZE).run ops).2.tell = (Spec.run textSem File.empty ops).2.pos :=
  ⟨(string_refines_StringIO ms _ real_chunk_size_pos ops hv).1,
   (string_refines_StringIO ms _ real_chunk_size_pos ops hv).2.1⟩

/-- outputs, final position and final content do not depend on `max_size` (nor on the read chunk size) -/
theorem rollover_invisible_string (ops : List (Op Char)) (hv : validS File.empty ops = true)
    (ms₁ ms₂ ch₁ ch₂ : Nat) (h₁ : 0 < ch₁) (h₂ : 0 < ch₂) :
    ((SStr.init ms₁ ch₁).run ops).1 = ((SStr.init ms₂ ch₂).run ops).1 ∧
    ((SStr.init ms₁ ch₁).run ops).2.tell = ((SStr.init ms₂ ch₂).run ops).2.tell ∧
    ((SStr.init ms₁ ch₁).run ops).2.st.data = ((SStr.init ms₂ ch₂).run ops).2.st.data := by
  have a := string_refines_StringIO ms₁ ch₁ h₁ ops hv
  have b := string_refines_StringIO ms₂ ch₂ h₂ ops hv
  exact ⟨by rw [a.1, b.1], by rw [a.2.1, b.2.1], by rw [a.2.2, b.2.2]⟩

/-- iterating to the end (`[x for x in f]`, `list(f)`) yields exactly the lines `readlines()` returns and ends at the same
    position (the codec reader alone would cut also at VT, FF, FS, GS, RS, NEL, LS, PS) -/
theorem string_iteration_is_readlines (ms ch : Nat) (hch : 0 < ch) (ops : List (Op Char))
    (hv : validS File.empty ops = true) :
    ((SStr.init ms ch).run (ops ++ [.drain])).1 = ((SStr.init ms ch).run (ops ++ [.readlines])).1 ∧
    ((SStr.init ms ch).run (ops ++ [.list])).1 = ((SStr.init ms ch).run (ops ++ [.readlines])).1 ∧
    ((SStr.init ms ch).run (ops ++ [.drain])).2.tell = ((SStr.init ms ch).run (ops ++ [.readlines])).2.tell := by
  have hd := string_refines_StringIO ms ch hch (ops ++ [.drain]) (by rw [validS_along.append]; simp [hv, validS, okS])
  have hl := string_refines_StringIO ms ch hch (ops ++ [.list]) (by rw [validS_along.append]; simp [hv, validS, okS])
  have hr := string_refines_StringIO ms ch hch (ops ++ [.readlines]) (by rw [validS_along.append]; simp [hv, validS, okS])
  rw [hd.1, hl.1, hr.1, hd.2.1, hr.2.1]
  simp only [(Spec.isRun textSem).append]
  simp only [Spec.run, Spec.step, textSem]
  exact ⟨trivial, trivial, trivial⟩

/-- against the DEFAULT `io.StringIO()` (`newline='\n'`: a line ends at LF only): SpooledStringIO returns the same for
    every history whose line-cutting operations (readline, next, iteration, readlines) meet no lone CR in what is left
    to read — texts with LF and CRLF line ends.  (`io.StringIO(newline='')`, which also ends a line at a lone CR as
    `bytes.splitlines` and the codec reader do, is the reading under which the clause holds for every text:
    `string_refines_StringIO`.) -/
theorem string_refines_default_StringIO (ms ch : Nat) (hch : 0 < ch) (ops : List (Op Char))
    (hv : validS File.empty ops = true) (hl : lfOnly File.empty ops = true) :
    ((SStr.init ms ch).run ops).1 = (Spec.run lfSem File.empty ops).1 ∧
    ((SStr.init ms ch).run ops).2.tell = (Spec.run lfSem File.empty ops).2.pos ∧
    ((SStr.init ms ch).run ops).2.st.data = encode (Spec.run lfSem File.empty ops).2.data := by
  rw [← Spec.run_lf File.empty ops hl]
  exact string_refines_StringIO ms ch hch ops hv

/-- and only there: on a lone CR SpooledStringIO ends the line (like io.StringIO(newline='')), the default
    io.StringIO() does not -/
theorem string_lone_cr_differs_from_default_StringIO :
    ∃ (ops : List (Op Char)), validS File.empty ops = true ∧
      ((SStr.init 100 3).run ops).1 = (Spec.run textSem File.empty ops).1 ∧
      ((SStr.init 100 3).run ops).1 ≠ (Spec.run lfSem File.empty ops).1 :=
  ⟨[.write ['a', '\r', 'b', '\n'], .seek 0, .readline], by decide +kernel, by decide +kernel, by decide +kernel⟩

/-- io.StringIO's line is the codec reader's line (`str.splitlines` boundaries), continued — when that one did not
    stop at a CR / LF — by io.StringIO's line of what follows: the identity the loop of `readline()` implements -/
theorem readline_joins_codec_lines (l : List Char) :
    firstLine false l = firstLine true l ++
      (if endsCRLF (firstLine true l) then [] else firstLine false (l.drop (firstLine true l).length)) :=
  firstLine_join l

/-- `readline()` in EVERY coherent state (any read-ahead in the codec reader's byte / character / line buffers,
    rolled over or not): io.StringIO's line of the unread text, position advanced by its length -/
theorem string_readline_is_StringIO_line (s : SStr) (text : List Char) (h : Coh s text) :
    s.readline.1 = firstLine false (text.drop s.tell) ∧ Coh s.readline.2 text ∧
    s.readline.2.tell = s.tell + s.readline.1.length :=
  ⟨(SStr.readline_spec s text h).1, (SStr.readline_spec s text h).2.1, (SStr.readline_spec s text h).2.2.1⟩

/-- one line of the codec reader alone stops at the form feed: the
    joining loop is needed — `write('a\x0cb\n'); seek(0)`: `codecLine` gives 'a\x0c', `readline()` and io.StringIO
    give 'a\x0cb\n' -/
theorem codec_line_alone_is_not_enough :
    ∃ (ops : List (Op Char)), validS File.empty ops = true ∧
      ((SStr.init 100 3).run ops).2.codecLine.1 ≠ firstLine false (Spec.run textSem File.empty ops).2.rest ∧
      ((SStr.init 100 3).run ops).2.readline.1 = firstLine false (Spec.run textSem File.empty ops).2.rest ∧
      (Spec.run codecSem File.empty (ops ++ [.readline])).1 ≠ (Spec.run textSem File.empty (ops ++ [.readline])).1 :=
  ⟨[.write ['a', Char.ofNat 0x0c, 'b', '\n'], .seek 0], by decide +kernel, by decide +kernel, by decide +kernel,
   by decide +kernel⟩

/-- `tell()` is the number of code points before the logical position; the raw stream position is that many
    characters' bytes plus the codec's decoded read-ahead plus its undecoded partial character -/
theorem tell_is_codepoint_index (ms ch : Nat) (hch : 0 < ch) (ops : List (Op Char))
    (hv : validS File.empty ops = true) :
    ((SStr.init ms ch).run ops).2.tell ≤ (Spec.run textSem File.empty ops).2.data.length ∧
    ((SStr.init ms ch).run ops).2.st.pos =
      blen ((Spec.run textSem File.empty ops).2.data.take ((SStr.init ms ch).run ops).2.tell)
      + blen (pend ((SStr.init ms ch).run ops).2.rd) + ((SStr.init ms ch).run ops).2.rd.bytebuf.length := by
  have h := SStr.run_spec (SStr.init ms ch) File.empty ops (SRel_init ms ch hch) hv
  exact ⟨h.2.coh.ale, h.2.coh.stream_pos⟩

/-- `tell`, `getvalue`, `len` inserted anywhere change no other output, nor the final position and content -/
theorem string_queries_do_not_move (ms ch : Nat) (hch : 0 < ch) (ops₁ ops₂ : List (Op Char)) (q : Op Char)
    (hq : isQuery q = true) (hv : validS File.empty (ops₁ ++ ops₂) = true) :
    ((SStr.init ms ch).run (ops₁ ++ q :: ops₂)).1.eraseIdx ops₁.length = ((SStr.init ms ch).run (ops₁ ++ ops₂)).1 ∧
    ((SStr.init ms ch).run (ops₁ ++ q :: ops₂)).2.tell = ((SStr.init ms ch).run (ops₁ ++ ops₂)).2.tell ∧
    ((SStr.init ms ch).run (ops₁ ++ q :: ops₂)).2.st.data = ((SStr.init ms ch).run (ops₁ ++ ops₂)).2.st.data := by
  have h1 := string_refines_StringIO ms ch hch _ (validS_along.insert_query File.empty ops₁ ops₂ q hq hv)
  have h2 := string_refines_StringIO ms ch hch _ hv
  have h3 := Spec.query_invisible textSem File.empty ops₁ ops₂ q hq
  exact ⟨by rw [h1.1, h2.1]; exact h3.1, by rw [h1.2.1, h2.2.1, h3.2], by rw [h1.2.2, h2.2.2, h3.2]⟩

/-- `writelines(ss)` at the end of the text returns and ends as ONE `write` of the joined pieces -/
theorem string_writelines_as_one_write (ms ch : Nat) (hch : 0 < ch) (ops₁ ops₂ : List (Op Char))
    (ss : List (List Char)) (hv : validS File.empty (ops₁ ++ .writelines ss :: ops₂) = true) :
    ((SStr.init ms ch).run (ops₁ ++ .writelines ss :: ops₂)).1 =
      ((SStr.init ms ch).run (ops₁ ++ .write ss.flatten :: ops₂)).1 ∧
    ((SStr.init ms ch).run (ops₁ ++ .writelines ss :: ops₂)).2.tell =
      ((SStr.init ms ch).run (ops₁ ++ .write ss.flatten :: ops₂)).2.tell ∧
    ((SStr.init ms ch).run (ops₁ ++ .writelines ss :: ops₂)).2.st.data =
      ((SStr.init ms ch).run (ops₁ ++ .write ss.flatten :: ops₂)).2.st.data := by
  have h1 := string_refines_StringIO ms ch hch _ hv
  have h2 := string_refines_StringIO ms ch hch _ (by rw [← validS_along.writelines_eq]; exact hv)
  rw [h1.1, h1.2.1, h1.2.2, h2.1, h2.2.1, h2.2.2, Spec.run_writelines]
  exact ⟨rfl, rfl, rfl⟩

theorem string_writelines_as_writes (s : SStr) (ss : List (List Char)) :
    (s.step (.writelines ss)).2 = (s.run (ss.map .write)).2 :=
  (SStr.isRun.map_foldl .write s ss).symm

/-- the stream the model stores is, byte for byte (`cuByte`), the UTF-8 encoding of the text — the one of Lean
    core (`String.utf8EncodeChar`, proved there to invert its UTF-8 decoder), i.e. `String.toUTF8` -/
theorem utf8_stored_bytes (cs : List Char) :
    realBytes (encode cs) = cs.flatMap String.utf8EncodeChar ∧
    realBytes (encode cs) = (String.ofList cs).toUTF8.data.toList := by
  refine ⟨realBytes_encode cs, ?_⟩
  rw [realBytes_encode]; simp [List.utf8Encode]

/-- for every history in the domain the bytes SpooledStringIO holds are the UTF-8 of io.StringIO's text -/
theorem string_stored_bytes_are_utf8 (ms ch : Nat) (hch : 0 < ch) (ops : List (Op Char))
    (hv : validS File.empty ops = true) :
    realBytes ((SStr.init ms ch).run ops).2.st.data =
      (String.ofList (Spec.run textSem File.empty ops).2.data).toUTF8.data.toList := by
  rw [(string_refines_StringIO ms ch hch ops hv).2.2]
  exact (utf8_stored_bytes _).2

/-- the two tests the model's incremental decoder makes on a code unit `(c, i)` — "does a character start here"
    (`i = 0`) and "how many units has the character that starts here" (`width c`) — are functions of the real
    byte alone: lead / continuation byte, and the length class of the lead byte -/
theorem utf8_decoder_tests_on_real_bytes (c : Char) (i : Nat) (h : i < width c) :
    (isLead (cuByte (c, i)) = true ↔ i = 0) ∧ leadWidth (cuByte (c, 0)) = width c :=
  ⟨cuByte_isLead c i h, leadWidth_cuByte c⟩

/-- the incremental decoder run on the REAL bytes (`decodeR`: lead / continuation test and length class read off
    the bytes, one character decoded by Lean core's verified UTF-8 decoder) returns, on any prefix of the stored
    stream, what the model's abstract decoder returns on the units: the same whole characters, the real bytes of the
    same incomplete rest, the same flag.  So "UTF-8 is a prefix code whose incremental decoder returns the maximal
    run of whole characters" is a theorem about real UTF-8, not an assumption about the abstraction. -/
theorem utf8_real_decoder_agrees (m : Nat) (cs : List Char) :
    decodeR (realBytes ((encode cs).take m)) =
      ((decode ((encode cs).take m)).1, realBytes (decode ((encode cs).take m)).2.1,
       (decode ((encode cs).take m)).2.2) :=
  decodeR_take m cs

/-- and it inverts the encoding -/
theorem utf8_real_decoder_inverts (cs : List Char) : decodeR (realBytes (encode cs)) = (cs, [], false) := by
  have h := decodeRF_take (realBytes (encode cs)).length (encode cs).length cs
    (by rw [realBytes_length]; simp)
  rw [List.take_length] at h
  unfold decodeR
  have hfit : fit (encode cs).length cs = cs.length := fit_all _ _ (Nat.le_refl _)
  rw [h, hfit]
  simp [realBytes]

/-- a CR or LF byte anywhere in the stream is the character CR or LF (never part of another character) -/
theorem utf8_cr_lf_bytes (c : Char) (i : Nat) (h : i < width c) :
    (cuByte (c, i) = 10 ↔ c = '\n') ∧ (cuByte (c, i) = 13 ↔ c = '\r') :=
  ⟨cuByte_eq_lf c i h, cuByte_eq_cr c i h⟩

/-- `readlines()` (StreamRecoder: read all, re-encode, `bytes.splitlines`, decode each piece): cutting the stored
    BYTES at CR / LF / CRLF gives the encodings of the lines `splitL false` cuts from the text -/
theorem readlines_bytes_level (cs : List Char) :
    splitB (realBytes (encode cs)) = (splitL false cs).map (fun l => realBytes (encode l)) :=
  splitB_realBytes cs

/-- so, after any history in the domain, what `readlines()` returns is — encoded — the `bytes.splitlines` of the
    bytes after the position -/
theorem string_readlines_is_bytes_splitlines (ms ch : Nat) (hch : 0 < ch) (ops : List (Op Char))
    (hv : validS File.empty ops = true) :
    (((SStr.init ms ch).run ops).2.readlines.1).map (fun l => realBytes (encode l)) =
      splitB (realBytes (encode (Spec.run textSem File.empty ops).2.rest)) := by
  have h := SStr.run_spec (SStr.init ms ch) File.empty ops (SRel_init ms ch hch) hv
  rw [(SStr.readlines_spec _ _ h.2.coh).1, h.2.tell_eq, splitB_realBytes]; rfl

variable {α : Type}

/-- any history of sized / unsized reads and `seek(0)` returns what ONE file holding the concatenation returns -/
theorem mfr_concat (cs : List (List α)) (ops : List MOp) :
    ((MFR.init cs).run ops).1 = (MFR.specRun ⟨cs.flatten, 0⟩ ops).1 :=
  (MFR.run_spec (MFR.init cs) ⟨cs.flatten, 0⟩ ops (MRel_init cs)).1

/-- without `seek(0)`: what the reads returned, followed by what is still unread, is the concatenation —
    every unit exactly once, in order -/
theorem mfr_each_unit_once (cs : List (List α)) (ops : List MOp) (hr : ∀ op ∈ ops, op.isRead = true) :
    (((MFR.init cs).run ops).1.filterMap id).flatten ++ ((MFR.init cs).run ops).2.rem = cs.flatten := by
  have h := MFR.run_spec (MFR.init cs) ⟨cs.flatten, 0⟩ ops (MRel_init cs)
  rw [h.1, ← h.2.rest, MFR.specRun_reads _ ops hr]
  simp [File.rest]

/-- an unsized read after any reads returns all the rest: nothing is left -/
theorem mfr_read_all_drains (cs : List (List α)) (ops : List MOp) :
    ((MFR.init cs).run (ops ++ [.readAll])).2.rem = [] := by
  have h := MFR.run_spec (MFR.init cs) ⟨cs.flatten, 0⟩ (ops ++ [.readAll]) (MRel_init cs)
  rw [← h.2.rest, MFR.specIsRun.append]
  simp [MFR.specRun, MFR.specStep, File.readAll_rest]

/-- after any history, `seek(0)` then `read()` returns the whole concatenation again -/
theorem mfr_seek0_restarts (cs : List (List α)) (ops : List MOp) :
    ((MFR.init cs).run (ops ++ [.seek0, .readAll])).1 = ((MFR.init cs).run ops).1 ++ [none, some cs.flatten] := by
  rw [mfr_concat, mfr_concat, MFR.specIsRun.append]
  simp only [MFR.specRun, MFR.specStep, File.readAll_fst]
  rw [File.rest_seek0, MFR.specRun_data]

/-- SpooledBytesIO: in a history with rejected calls (`write('text')`, `write(None)`, `seek(0, 7)`, `truncate(-1)`,
    `read('a')` … - they raise and leave the object alone) the accepted calls return, and leave behind, exactly what
    the history WITHOUT the rejected calls does; a rejected call returns nothing -/
theorem rejected_calls_invisible_bytes (m : Nat) (cs : List (Call Byte)) :
    acceptedOuts cs ((SBytes.init m).runCalls cs).1 = ((SBytes.init m).run (accepted cs)).1 ∧
    ((SBytes.init m).runCalls cs).2 = ((SBytes.init m).run (accepted cs)).2 ∧
    (∀ o ∈ rejectedOuts cs ((SBytes.init m).runCalls cs).1, o = Out.unit) := by
  rw [SBytes.run_eq_runOps]
  exact runCalls_spec SBytes.step (SBytes.init m) cs

/-- the same for SpooledStringIO (a rejected call there is also the write of a str that UTF-8 cannot encode) -/
theorem rejected_calls_invisible_string (ms ch : Nat) (cs : List (Call Char)) :
    acceptedOuts cs ((SStr.init ms ch).runCalls cs).1 = ((SStr.init ms ch).run (accepted cs)).1 ∧
    ((SStr.init ms ch).runCalls cs).2 = ((SStr.init ms ch).run (accepted cs)).2 ∧
    (∀ o ∈ rejectedOuts cs ((SStr.init ms ch).runCalls cs).1, o = Out.unit) := by
  rw [SStr.run_eq_runOps]
  exact runCalls_spec SStr.step (SStr.init ms ch) cs

/-- hence: what the accepted calls return, and the content and position at the end, are those of an io.BytesIO that
    SKIPPED the rejected calls - whatever `max_size` -/
theorem bytes_refines_BytesIO_with_rejected_calls (m : Nat) (cs : List (Call Byte))
    (hv : validB File.empty (accepted cs) = true) :
    acceptedOuts cs ((SBytes.init m).runCalls cs).1 = (Spec.run bytesSem File.empty (accepted cs)).1 ∧
    ((SBytes.init m).runCalls cs).2.buf = (Spec.run bytesSem File.empty (accepted cs)).2 := by
  have h := rejected_calls_invisible_bytes m cs
  have r := bytes_refines_BytesIO m (accepted cs) hv
  exact ⟨by rw [h.1, r.1], by rw [h.2.1, r.2]⟩

/-- … and of an io.StringIO(newline='') that skipped them: same answers, `tell()` = its code-point position (a failed
    write does not advance it), stored bytes = the encoding of its text -/
theorem string_refines_StringIO_with_rejected_calls (ms ch : Nat) (hch : 0 < ch) (cs : List (Call Char))
    (hv : validS File.empty (accepted cs) = true) :
    acceptedOuts cs ((SStr.init ms ch).runCalls cs).1 = (Spec.run textSem File.empty (accepted cs)).1 ∧
    ((SStr.init ms ch).runCalls cs).2.tell = (Spec.run textSem File.empty (accepted cs)).2.pos ∧
    ((SStr.init ms ch).runCalls cs).2.st.data = encode (Spec.run textSem File.empty (accepted cs)).2.data := by
  have h := rejected_calls_invisible_string ms ch cs
  have r := string_refines_StringIO ms ch hch (accepted cs) hv
  exact ⟨by rw [h.1, r.1], by rw [h.2.1, r.2.1], by rw [h.2.1, r.2.2]⟩

/-- which write is rejected is the model's own decision: a text that arrives as bytes is written only if the model's
    real-bytes UTF-8 decoder takes all of it - the three bytes a lone surrogate would have (U+D800 `ED A0 80`, U+DC00
    `ED B0 80`, U+DFFF `ED BF BF`) are refused wherever they stand, a well-formed text is a write -/
theorem lone_surrogate_write_is_rejected :
    (rawWrite [0x62, 0x61, 0x64, 0xED, 0xA0, 0x80]).isNone = true ∧ (rawWrite [0xED, 0xB0, 0x80]).isNone = true ∧
    (rawWrite [0xC3, 0xA9, 0xED, 0xBF, 0xBF, 0xF0, 0x9F, 0x98, 0x80]).isNone = true ∧
    (rawWrite [0x62, 0xC3, 0xA9, 0xF0, 0x9F, 0x98, 0x80]).isSome = true ∧
    textOfBytes? [0x62, 0xC3, 0xA9, 0xF0, 0x9F, 0x98, 0x80] = some ['b', 'é', Char.ofNat 0x1F600] := by
  decide +kernel

/-- `writelines` with a piece that is refused: the pieces before it are written, the rest is not -/
theorem writelines_stops_at_refused_piece :
    (rawWritelines (α := Char) .writelines [some ['o', 'k'], textOfBytes? [0x62, 0xED, 0xA0, 0x80], some ['n', 'o']]).isSome
      = true ∧
    goodPrefix [some ['o', 'k'], textOfBytes? [0x62, 0xED, 0xA0, 0x80], some ['n', 'o']] = [['o', 'k']] ∧
    (rawWritelines (α := Char) .writelines [textOfBytes? [0xED, 0xA0, 0x80], some ['n', 'o']]).isNone = true := by
  decide +kernel

/-- first pass (reads only): the reader delivers what each member still had to deliver, in order - the concatenation
    of the members' UNREAD parts, each unit exactly once -/
theorem mfr_offset_first_pass (fs : List (File α)) (ops : List MOp) (hr : ∀ op ∈ ops, op.isRead = true) :
    ((MFR.initAt fs).run ops).1 = (MFR.specRun ⟨(fs.map File.rest).flatten, 0⟩ ops).1 ∧
    (((MFR.initAt fs).run ops).1.filterMap id).flatten ++ ((MFR.initAt fs).run ops).2.rem
      = (fs.map File.rest).flatten := by
  obtain ⟨hout, hrel, -⟩ := MFR.run_reads_specR (MFR.initAt fs) ⟨(fs.map File.rest).flatten, 0⟩ ops hr (MRelR_initAt fs)
  refine ⟨hout, ?_⟩
  rw [hout, ← hrel.rest, MFR.specRun_reads _ ops hr]
  simp [File.rest]

/-- `seek(0)` rewinds EVERY member, wherever each one stood and however far the reads got: from then on the reader
    is one file holding the concatenation of the members' WHOLE contents (any mix of reads and further `seek(0)`) -/
theorem mfr_offset_seek0_restarts (fs : List (File α)) (ops₁ ops₂ : List MOp) :
    ((MFR.initAt fs).run (ops₁ ++ .seek0 :: ops₂)).1 =
      ((MFR.initAt fs).run ops₁).1 ++ none :: (MFR.specRun ⟨(fs.map File.data).flatten, 0⟩ ops₂).1 := by
  have hc := MFR.run_inv_contents (MFR.initAt fs) ops₁ (MRelR_initAt fs).inv
  rw [MFR.isRun.append]
  simp only [MFR.run, MFR.step]
  rw [MFR.seek0_eq_init, hc.2, mfr_concat]
  rfl

/-! ## non-vacuity: concrete histories inside the hypotheses -/

/-- a history with a rollover (by max_size 4, or explicit), multi-byte text, a read that stops inside a
    character's bytes, a code-point seek, `len` and iteration — it satisfies `validS` -/
def demoS : List (Op Char) :=
  [.write ['a', 'é', 'é', '\n'], .seek 0, .read 2, .len, .readline, .seekEnd 0, .write ['日', '\r', '\n', 'x'],
   .seek 3, .next, .rollover, .list, .getvalue, .tell]

example : validS File.empty demoS = true := by decide +kernel
example : ((SStr.init 4 2).run demoS).1 = (Spec.run textSem File.empty demoS).1 := by decide +kernel
example : ((SStr.init 4 2).run (demoS.take 9)).2.rolled = true ∧
    ((SStr.init 1000 2).run (demoS.take 9)).2.rolled = false := by
  decide +kernel
/-- the codec reader really holds state in this history: after `read(2)` on "aéé\n" the first code unit of the
    third character sits in the byte buffer, so the stream (offset 4) is ahead of the logical position (3 bytes);
    after `read(2)` on "éab" the decoded 'b' waits in the character buffer -/
example : ((SStr.init 1000 2).run (demoS.take 3)).2.rd.bytebuf = [('é', 0)] ∧
    ((SStr.init 1000 2).run (demoS.take 3)).2.st.pos = 4 ∧ ((SStr.init 1000 2).run (demoS.take 3)).2.tell = 2 := by
  decide +kernel
example : ((SStr.init 1000 2).run [.write ['é', 'a', 'b'], .seek 0, .read 2]).2.rd.charbuf = ['b'] := by
  decide +kernel

/-- a text WITH a form feed, a NEL and a line separator, cut by every line operation (readline, next, iteration,
    readlines) — inside `validS`, and the model returns what io.StringIO returns -/
def demoT : List (Op Char) :=
  [.write ['a', Char.ofNat 0x0c, 'b', '\n', 'c', '\r', '\n', Char.ofNat 0x85, Char.ofNat 0x2028, 'd'], .seek 0,
   .readline, .next, .tell, .next, .next, .seek 0, .read 1, .readline, .seek 1, .drain, .seek 0, .list, .seek 0,
   .readlines, .getvalue]
example : validS File.empty demoT = true := by decide +kernel
example : ((SStr.init 4 2).run demoT).1 = (Spec.run textSem File.empty demoT).1 := by decide +kernel
example : ((SStr.init 4 2).run (demoT.take 2 ++ [.drain])).1 = ((SStr.init 4 2).run (demoT.take 2 ++ [.readlines])).1 := by
  decide +kernel
example : ((SStr.init 4 2).run (demoT.take 3)).1.getLast? = some (.data ['a', Char.ofNat 0x0c, 'b', '\n']) := by
  decide +kernel

/-- LF and CRLF line ends, multi-byte text, a seek into the middle of a CRLF: inside `lfOnly` -/
def demoLF : List (Op Char) :=
  [.write ['a', 'é', '\r', '\n', '日', '\n', '\n', 'x'], .seek 0, .readline, .next, .seek 3, .readline, .readlines,
   .seek 1, .list, .seek 2, .drain, .getvalue]
example : validS File.empty demoLF = true ∧ lfOnly File.empty demoLF = true := by decide +kernel
example : ((SStr.init 4 2).run demoLF).1 = (Spec.run lfSem File.empty demoLF).1 := by decide +kernel

def demoB : List (Op Byte) :=
  [.write [97, 10, 98], .seek 1, .readline, .write [99, 10], .seekEnd 2, .next, .len, .seek 0, .list, .tell]
example : validB File.empty demoB = true := by decide +kernel
example : ((SBytes.init 2).run demoB).2.rolled = true ∧ ((SBytes.init 99).run demoB).2.rolled = false := by
  decide +kernel

/-- writelines with an empty batch, empty pieces and a rollover in the middle of the batch (max_size 3) -/
def demoW : List (Op Byte) :=
  [.writelines [], .writelines [[97], [], [98, 10], [99]], .seek 1, .readline, .seekEnd 0, .writelines [[100]], .getvalue]
example : validB File.empty demoW = true := by decide +kernel
example : ((SBytes.init 3).run (demoW.take 2)).2.rolled = true ∧
    (((SBytes.init 3).step (.writelines [[97], []])).2.rolled = false) := by decide +kernel
def demoWS : List (Op Char) :=
  [.writelines [['a'], [], ['é', '\n'], ['日']], .seek 1, .readline, .seekEnd 0, .writelines [['x']], .getvalue]
example : validS File.empty demoWS = true := by decide +kernel
example : ((SStr.init 4 2).run demoWS).1 = (Spec.run textSem File.empty demoWS).1 := by decide +kernel

/-- real bytes: 'é' = C3 A9, '日' = E6 97 A5, '😀' = F0 9F 98 80; NEL (U+0085 = C2 85) holds no CR / LF byte -/
example : realBytes (encode ['a', 'é', '日', Char.ofNat 0x1F600]) =
    [0x61, 0xC3, 0xA9, 0xE6, 0x97, 0xA5, 0xF0, 0x9F, 0x98, 0x80] := by decide +kernel
/-- the real-bytes decoder stops inside '日' (E6 97 | A5) and keeps the two bytes; a stray continuation byte is an error -/
example : decodeR [0x61, 0xC3, 0xA9, 0xE6, 0x97] = (['a', 'é'], [0xE6, 0x97], false) ∧
    (decodeR [0xA9, 0x61]).2.2 = true := by decide +kernel
example : (isLead 0xC3, isLead 0xA9, leadWidth 0xC3, leadWidth 0xE6, leadWidth 0xF0) = (true, false, 2, 3, 4) := by
  decide +kernel
example : splitB (realBytes (encode ['é', '\r', '\n', Char.ofNat 0x85, '\r', 'b'])) =
    [[0xC3, 0xA9, 13, 10], [0xC2, 0x85, 13], [0x62]] := by decide +kernel

example : ((MFR.init [[1, 2], [], [3, 4, 5]] : MFR Nat).run [.read 3, .read 1, .seek0, .read 4, .readAll]).1
    = [some [1, 2, 3], some [4], none, some [1, 2, 3, 4], some [5]] := by decide +kernel

/-- a history with rejected calls (a write of the wrong type / of a lone surrogate between two writes, a bad
    whence after a read): inside the hypothesis, the rejected calls are really there, and the second write lands where
    the first one ended -/
def demoX : List (Call Char) :=
  [some (.write ['h', 'é']), rawWrite [0x62, 0xED, 0xA0, 0x80], none, some .tell, some (.write ['\n', 'x']), some (.seek 1),
   some (.read 1), none, some .readAll, some .getvalue]
example : validS File.empty (accepted demoX) = true ∧ demoX.length = (accepted demoX).length + 3 := by decide +kernel
example : ((SStr.init 3 2).runCalls demoX).1 =
    [.unit, .unit, .unit, .num 2, .unit, .num 1, .data ['é'], .unit, .data ['\n', 'x'], .data ['h', 'é', '\n', 'x']] := by
  decide +kernel

/-- members handed over just written (at the end), with a header consumed, and at 0 -/
example : ((MFR.initAt [⟨[1, 2], 2⟩, ⟨[3, 4, 5], 1⟩, ⟨[6], 0⟩] : MFR Nat).run
      [.read 1, .readAll, .seek0, .read 4, .readAll]).1
    = [some [4], some [5, 6], none, some [1, 2, 3, 4], some [5, 6]] := by decide +kernel

end C18
