import BoltonsVerif.C18.Refine
import BoltonsVerif.C18.Utf8
/-
C18 — lemmas used directly by Props.lean.  `IsRun`: every run of the directory is one fold, so a history splits in two.
`ValidAlong`: `validB` / `validS` are one recursion along the reference run.  With them: a query inserted into a history,
`writelines` as one write and as writes; the stream position of a coherent state; what MultiFileReader reads return.
-/
namespace C18
variable {α : Type}

/-- `run` folds `step` over a history and collects what each call returns: the shape of `SBytes.run`, `SStr.run`, `Spec.run`,
    `MFR.run`, `MFR.specRun`, `runOps` -/
structure IsRun {σ ω ο : Type} (step : σ → ω → ο × σ) (run : σ → List ω → List ο × σ) : Prop where
  nil : ∀ s, run s [] = ([], s)
  cons : ∀ s op ops, run s (op :: ops) = ((step s op).1 :: (run (step s op).2 ops).1, (run (step s op).2 ops).2)

section
variable {σ ω ο : Type} {step : σ → ω → ο × σ} {run run' : σ → List ω → List ο × σ}

theorem IsRun.append (h : IsRun step run) (s : σ) (a b : List ω) :
    run s (a ++ b) = ((run s a).1 ++ (run (run s a).2 b).1, (run (run s a).2 b).2) := by
  induction a generalizing s with
  | nil => simp [h.nil]
  | cons op a ih => simp [h.cons, ih]

theorem IsRun.length (h : IsRun step run) (s : σ) (a : List ω) : (run s a).1.length = a.length := by
  induction a generalizing s with
  | nil => simp [h.nil]
  | cons op a ih => simp [h.cons, ih]

theorem IsRun.unique (h : IsRun step run) (h' : IsRun step run') (s : σ) (a : List ω) : run s a = run' s a := by
  induction a generalizing s with
  | nil => rw [h.nil, h'.nil]
  | cons op a ih => rw [h.cons, h'.cons, ih]

theorem IsRun.map_foldl {β : Type} (h : IsRun step run) (f : β → ω) (s : σ) (l : List β) :
    (run s (l.map f)).2 = l.foldl (fun s b => (step s (f b)).2) s := by
  induction l generalizing s with
  | nil => rw [List.map_nil, h.nil]; rfl
  | cons b l ih => rw [List.map_cons, h.cons, List.foldl_cons]; exact ih _

end

theorem Spec.isRun [Inhabited α] (sem : LineSem α) : IsRun (Spec.step sem) (Spec.run sem) := ⟨fun _ => rfl, fun _ _ _ => rfl⟩
theorem SBytes.isRun : IsRun SBytes.step SBytes.run := ⟨fun _ => rfl, fun _ _ _ => rfl⟩
theorem SStr.isRun : IsRun SStr.step SStr.run := ⟨fun _ => rfl, fun _ _ _ => rfl⟩
theorem MFR.isRun : IsRun (MFR.step (α := α)) MFR.run := ⟨fun _ => rfl, fun _ _ _ => rfl⟩
theorem MFR.specIsRun : IsRun (MFR.specStep (α := α)) MFR.specRun := ⟨fun _ => rfl, fun _ _ _ => rfl⟩
theorem runOps_isRun {σ : Type} (step : σ → Op α → Out α × σ) : IsRun step (runOps step) := ⟨fun _ => rfl, fun _ _ _ => rfl⟩

theorem Spec.query_state [Inhabited α] (sem : LineSem α) (f : File α) (q : Op α) (hq : isQuery q = true) :
    (Spec.step sem f q).2 = f := by
  cases q <;> simp [isQuery] at hq <;> rfl

theorem Spec.query_invisible [Inhabited α] (sem : LineSem α) (f : File α) (a b : List (Op α)) (q : Op α)
    (hq : isQuery q = true) :
    (Spec.run sem f (a ++ q :: b)).1.eraseIdx a.length = (Spec.run sem f (a ++ b)).1 ∧
    (Spec.run sem f (a ++ q :: b)).2 = (Spec.run sem f (a ++ b)).2 := by
  rw [(Spec.isRun sem).append, (Spec.isRun sem).append]
  simp only [Spec.run]
  rw [Spec.query_state sem _ q hq]
  have := eraseIdx_middle (Spec.run sem f a).1 (Spec.run sem (Spec.run sem f a).2 b).1
    (Spec.step sem (Spec.run sem f a).2 q).1
  rw [(Spec.isRun sem).length] at this
  exact ⟨this, rfl⟩

/-- `valid` is `ok` checked along the reference run (the shape of `validB` and `validS`); `ok` lets every query through
    and treats `writelines` as the one write it is in the reference -/
structure ValidAlong [Inhabited α] (sem : LineSem α) (ok : File α → Op α → Bool) (valid : File α → List (Op α) → Bool) :
    Prop where
  nil : ∀ f, valid f [] = true
  cons : ∀ f op ops, valid f (op :: ops) = (ok f op && valid (Spec.step sem f op).2 ops)
  query : ∀ f q, isQuery q = true → ok f q = true
  writelines : ∀ f ss, ok f (.writelines ss) = ok f (.write ss.flatten)

theorem validB_along : ValidAlong bytesSem okB validB :=
  ⟨fun _ => rfl, fun _ _ _ => rfl, fun _ q hq => by cases q <;> simp [isQuery] at hq <;> rfl, fun _ _ => rfl⟩
theorem validS_along : ValidAlong textSem okS validS :=
  ⟨fun _ => rfl, fun _ _ _ => rfl, fun _ q hq => by cases q <;> simp [isQuery] at hq <;> rfl, fun _ _ => rfl⟩

section
variable [Inhabited α] {sem : LineSem α} {ok : File α → Op α → Bool} {valid : File α → List (Op α) → Bool}

theorem ValidAlong.append (h : ValidAlong sem ok valid) (f : File α) (a b : List (Op α)) :
    valid f (a ++ b) = (valid f a && valid (Spec.run sem f a).2 b) := by
  induction a generalizing f with
  | nil => simp [h.nil, Spec.run]
  | cons op a ih => simp [h.cons, Spec.run, ih, Bool.and_assoc]

theorem ValidAlong.insert_query (h : ValidAlong sem ok valid) (f : File α) (a b : List (Op α)) (q : Op α)
    (hq : isQuery q = true) (hv : valid f (a ++ b) = true) : valid f (a ++ q :: b) = true := by
  rw [h.append] at hv ⊢
  rw [h.cons, h.query _ q hq, Spec.query_state sem _ q hq]
  exact hv

theorem ValidAlong.writelines_eq (h : ValidAlong sem ok valid) (f : File α) (a b : List (Op α)) (ss : List (List α)) :
    valid f (a ++ .writelines ss :: b) = valid f (a ++ .write ss.flatten :: b) := by
  rw [h.append, h.append, h.cons, h.cons, h.writelines]; rfl

end

theorem Spec.run_writelines [Inhabited α] (sem : LineSem α) (f : File α) (a b : List (Op α)) (ss : List (List α)) :
    Spec.run sem f (a ++ .writelines ss :: b) = Spec.run sem f (a ++ .write ss.flatten :: b) := by
  rw [(Spec.isRun sem).append, (Spec.isRun sem).append]; rfl

theorem SBytes.run_append (s : SBytes) (a b : List (Op Byte)) :
    (s.run (a ++ b)).2 = ((s.run a).2.run b).2 := by
  rw [SBytes.isRun.append]

theorem SStr.run_append (s : SStr) (a b : List (Op Char)) :
    (s.run (a ++ b)).2 = ((s.run a).2.run b).2 := by
  rw [SStr.isRun.append]

theorem Coh.stream_pos {s : SStr} {text : List Char} (h : Coh s text) :
    s.st.pos = blen (text.take s.tell) + blen (pend s.rd) + s.rd.bytebuf.length := by
  obtain ⟨X, p, hrc, hx⟩ := h.rc
  have hd := h.data
  have hi := h.inr
  have h1 := File.rest_length s.st
  rw [hrc.rest, hd] at h1
  have h2 : blen text = blen (text.take s.tell) + blen (pend s.rd) + blen X := by
    conv => lhs; rw [← List.take_append_drop s.tell text, hx]
    rw [blen_append, blen_append]; omega
  have h3 := PartOK_le p X hrc.part
  have h4 : s.rd.bytebuf.length = p := by
    rw [hrc.bb, List.length_take]; simp only [blen] at h3; omega
  unfold InRange at hi
  rw [hd] at hi
  simp only [List.length_drop] at h1
  simp only [blen] at *
  omega

theorem MFR.specStep_read (f : File α) (op : MOp) (hop : op.isRead = true) :
    ∃ l, (MFR.specStep f op).1 = some l ∧ l ++ (MFR.specStep f op).2.rest = f.rest := by
  have hall : f.readAll.1 ++ f.readAll.2.rest = f.rest := by rw [File.readAll_fst, File.readAll_rest]; simp
  cases op with
  | seek0 => simp [MOp.isRead] at hop
  | readAll => exact ⟨_, rfl, hall⟩
  | read n =>
    cases n with
    | zero => exact ⟨_, rfl, hall⟩
    | succ k =>
      refine ⟨_, rfl, ?_⟩
      show (f.readN (k + 1)).1 ++ (f.readN (k + 1)).2.rest = f.rest
      rw [File.readN_fst, File.readN_rest]; simp

theorem MFR.specRun_reads (f : File α) (ops : List MOp) (hr : ∀ op ∈ ops, op.isRead = true) :
    ((MFR.specRun f ops).1.filterMap id).flatten ++ (MFR.specRun f ops).2.rest = f.rest := by
  induction ops generalizing f with
  | nil => simp [MFR.specRun]
  | cons op ops ih =>
    obtain ⟨l, hl, hrest⟩ := MFR.specStep_read f op (hr op (by simp))
    simp only [MFR.specRun, hl, List.filterMap_cons, id, List.flatten_cons, List.append_assoc]
    rw [ih _ (fun o ho => hr o (by simp [ho])), hrest]

theorem MFR.specRun_data (f : File α) (ops : List MOp) : (MFR.specRun f ops).2.data = f.data := by
  induction ops generalizing f with
  | nil => rfl
  | cons op ops ih => simp only [MFR.specRun]; rw [ih, MFR.specStep_data]

end C18
