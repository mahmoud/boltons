import BoltonsVerif.C18.ReadLine
/-
C18 — SpooledStringIO refines a plain text file (coherence invariant `CohAt`); its loops end by their exits without a
decoding error (`travOk`, `lenOk`, `rlOk`: what the source tie asks of a model state).
-/
namespace C18

/-- the spooled text file is coherent with the text `text` at logical position `a` (code points); `a` is apart from
    `s.tell` because `seek`, `len` and `readline` run their loops while `_tell` is stale (`Coh`: at `s.tell`) -/
structure CohAt (s : SStr) (text : List Char) (a : Nat) : Prop where
  data : s.st.data = encode text
  inr : InRange s.st
  ale : a ≤ text.length
  rc : ∃ X p, RC s.st s.rd X p ∧ text.drop a = pend s.rd ++ X
  lb : LbOK s.rd

theorem CohAt.congr {s s' : SStr} {text : List Char} {a : Nat} (h : CohAt s text a)
    (h1 : s'.st = s.st) (h2 : s'.rd = s.rd) : CohAt s' text a := by
  rcases h with ⟨hd, hi, ha, hr, hl⟩
  exact ⟨by rw [h1]; exact hd, by rw [h1]; exact hi, ha, by rw [h1, h2]; exact hr, by rw [h2]; exact hl⟩

theorem CohAt.good {s : SStr} {text : List Char} {a : Nat} (h : CohAt s text a) : s.rd.bad = false := by
  obtain ⟨X, p, hrc, -⟩ := h.rc
  exact hrc.good

theorem CohAt.length_le_data {s : SStr} {text : List Char} {a : Nat} (h : CohAt s text a) :
    text.length ≤ s.st.data.length := by
  rw [h.data]; exact length_le_blen text

/-- `CohAt` is `RS` for the text from `a` on, with the stored bytes, the bound on `a` and the line cache's invariant -/
theorem CohAt.toRS {s : SStr} {text : List Char} {a : Nat} (h : CohAt s text a) : RS s.st s.rd (text.drop a) :=
  ⟨h.rc, h.inr⟩

theorem CohAt.of_RS {s : SStr} {text : List Char} {a : Nat} (hd : s.st.data = encode text) (ha : a ≤ text.length)
    (hr : RS s.st s.rd (text.drop a)) (hl : LbOK s.rd) : CohAt s text a :=
  ⟨hd, hr.inr, ha, hr.ex, hl⟩

def Coh (s : SStr) (text : List Char) : Prop := CohAt s text s.tell

theorem Coh.of_at {s : SStr} {text : List Char} {p : Nat} (h : CohAt s text p) (ht : s.tell = p) : Coh s text := by
  unfold Coh; rw [ht]; exact h

theorem Coh.toAt {s : SStr} {text : List Char} {p : Nat} (h : Coh s text) (ht : s.tell = p) : CohAt s text p :=
  ht ▸ h

theorem SStr.read_spec (s : SStr) (text : List Char) (a : Nat) (h : CohAt s text a) (size : Option Nat) :
    (s.read size).1 = wanted size (text.drop a) ∧
    CohAt (s.read size).2 text (a + (s.read size).1.length) ∧
    (s.read size).2.tell = s.tell + (s.read size).1.length ∧
    (s.read size).2.chunk = s.chunk := by
  obtain ⟨hout, hrs, hlb, hd⟩ := Reader.read_spec s.st s.rd _ h.toRS size
  have hlen : (s.read size).1.length ≤ (text.drop a).length := by
    rw [show (s.read size).1 = _ from hout]; exact wanted_length_le _ _
  rw [List.length_drop] at hlen
  rw [List.drop_drop] at hrs
  exact ⟨hout, CohAt.of_RS (hd.trans h.data) (by have := h.ale; omega) hrs (.of_linebuf_nil hlb), rfl, rfl⟩

theorem SStr.read_some_len (s : SStr) (text : List Char) (a n : Nat) (h : CohAt s text a)
    (hn : a + n ≤ text.length) : (s.read (some n)).1.length = n := by
  rw [(SStr.read_spec s text a h (some n)).1]
  simp only [wanted_some, List.length_take, List.length_drop]; omega

/-- the read does not hit a decoding error (the model's `bad` flag stays down) -/
def goodRead (s : SStr) (size : Option Nat) : Bool := !(s.rd.read s.st size).2.2.bad

theorem goodRead_of_coh (s : SStr) (text : List Char) (a : Nat) (h : CohAt s text a) (size : Option Nat) :
    goodRead s size = true := by
  obtain ⟨-, hcoh, -, -⟩ := SStr.read_spec s text a h size
  have hg : (s.read size).2.rd.bad = false := hcoh.good
  simp only [goodRead, Bool.not_eq_true']
  exact hg

theorem SStr.read_inside (s : SStr) (text : List Char) (a n : Nat) (h : CohAt s text a) (hn : a + n ≤ text.length) :
    (s.read (some n)).1.length = n ∧ goodRead s (some n) = true ∧ CohAt (s.read (some n)).2 text (a + n) := by
  have hl := SStr.read_some_len s text a n h hn
  obtain ⟨-, hc, -, -⟩ := SStr.read_spec s text a h (some n)
  rw [hl] at hc
  exact ⟨hl, goodRead_of_coh s text a h _, hc⟩

/-- the model's `traverse` ends by one of its exits (not by its fuel) and every read on the way is good -/
def travOk : Nat → SStr → Nat → Nat → Bool
  | 0, _, _, _ => false
  | k + 1, s, cur, dest =>
    if cur = dest then true
    else if cur + s.chunk > dest then goodRead s (some (dest - cur))
    else goodRead s (some s.chunk) &&
      ((s.read (some s.chunk)).1.isEmpty || travOk k (s.read (some s.chunk)).2 (cur + s.chunk) dest)

theorem SStr.traverse_spec (fuel : Nat) (s : SStr) (text : List Char) (cur dest : Nat)
    (h : CohAt s text cur) (hd : dest ≤ text.length) (hc : cur ≤ dest) (hch : 0 < s.chunk)
    (hf : dest - cur + 1 ≤ fuel) :
    CohAt (SStr.traverse fuel s cur dest) text dest ∧ (SStr.traverse fuel s cur dest).chunk = s.chunk ∧
    travOk fuel s cur dest = true := by
  induction fuel generalizing s cur with
  | zero => omega
  | succ fuel ih =>
    unfold SStr.traverse travOk
    by_cases h1 : cur = dest
    · rw [if_pos h1, if_pos h1]; subst h1; exact ⟨h, rfl, rfl⟩
    · rw [if_neg h1, if_neg h1]
      by_cases h2 : cur + s.chunk > dest
      · rw [if_pos h2, if_pos h2]
        obtain ⟨-, hg, hcoh⟩ := SStr.read_inside s text cur (dest - cur) h (by omega)
        rw [Nat.add_sub_cancel' hc] at hcoh
        exact ⟨hcoh, rfl, hg⟩
      · rw [if_neg h2, if_neg h2]
        obtain ⟨hl, hg, hcoh⟩ := SStr.read_inside s text cur s.chunk h (by omega)
        have hne : ¬ (s.read (some s.chunk)).1.isEmpty = true := by
          intro he
          rw [List.isEmpty_iff.1 he] at hl
          exact absurd hl.symm (Nat.ne_of_gt hch)
        rw [if_neg hne, hg]
        obtain ⟨i1, i2, i3⟩ := ih (s.read (some s.chunk)).2 (cur + s.chunk) hcoh (by omega) hch (by omega)
        exact ⟨i1, i2, by simp [i3]⟩

theorem travOk_of_coh (fuel : Nat) (s : SStr) (text : List Char) (cur dest : Nat)
    (h : CohAt s text cur) (hd : dest ≤ text.length) (hc : cur ≤ dest) (hch : 0 < s.chunk)
    (hf : dest - cur + 1 ≤ fuel) : travOk fuel s cur dest = true :=
  (SStr.traverse_spec fuel s text cur dest h hd hc hch hf).2.2

theorem CohAt_bseek0 (s : SStr) (text : List Char) (a : Nat) (h : CohAt s text a) :
    CohAt (s.bseek 0) text 0 := by
  refine ⟨h.data, by simp [SStr.bseek, InRange, File.seek], Nat.zero_le _, ⟨text, 0, ⟨?_, rfl, ?_, rfl⟩, ?_⟩, .of_linebuf_nil rfl⟩
  · simp [SStr.bseek, File.rest, File.seek, h.data]
  · cases text with
    | nil => rfl
    | cons c t => exact width_pos c
  · simp [SStr.bseek, pend, Reader.merge, Reader.reset]

theorem SStr.seek_spec (s : SStr) (text : List Char) (a p : Nat) (h : CohAt s text a)
    (hp : p ≤ text.length) (hch : 0 < s.chunk) :
    CohAt (s.seek p) text p ∧ (s.seek p).tell = p ∧ (s.seek p).chunk = s.chunk := by
  obtain ⟨hcoh, hchunk, -⟩ :=
    SStr.traverse_spec (p + 1) (s.bseek 0) text 0 p (CohAt_bseek0 s text a h) hp (Nat.zero_le _) hch (by omega)
  exact ⟨hcoh.congr rfl rfl, rfl, hchunk⟩

/-- the traversal that `SStr.seek p` runs -/
theorem travOk_seek (s : SStr) (text : List Char) (a p : Nat) (h : CohAt s text a) (hp : p ≤ text.length)
    (hch : 0 < s.chunk) : travOk (p + 1) (s.bseek 0) 0 p = true :=
  travOk_of_coh (p + 1) (s.bseek 0) text 0 p (CohAt_bseek0 s text a h) hp (Nat.zero_le _) hch (by omega)

theorem SStr.seekCur_spec (s : SStr) (text : List Char) (n : Nat) (h : CohAt s text s.tell)
    (hp : s.tell + n ≤ text.length) (hch : 0 < s.chunk) :
    CohAt (s.seekCur n) text (s.tell + n) ∧ (s.seekCur n).tell = s.tell + n ∧ (s.seekCur n).chunk = s.chunk := by
  obtain ⟨hcoh, hchunk, -⟩ := SStr.traverse_spec (n + 1) s text s.tell (s.tell + n) h hp (by omega) hch (by omega)
  exact ⟨hcoh.congr rfl rfl, rfl, hchunk⟩

/-- the model's `lenLoop` ends by its exit (an empty read), not by its fuel, and every read on the way is good -/
def lenOk : Nat → SStr → Bool
  | 0, _ => false
  | k + 1, s =>
    goodRead s (some s.chunk) &&
      ((s.read (some s.chunk)).1.isEmpty || lenOk k (s.read (some s.chunk)).2)

theorem SStr.lenLoop_spec_lenOk (fuel : Nat) (s : SStr) (text : List Char) (cur total : Nat)
    (h : CohAt s text cur) (hch : 0 < s.chunk) (hf : text.length - cur + 1 ≤ fuel) :
    (SStr.lenLoop fuel s total).1 = total + (text.length - cur) ∧
    CohAt (SStr.lenLoop fuel s total).2 text text.length ∧
    (SStr.lenLoop fuel s total).2.chunk = s.chunk ∧ lenOk fuel s = true := by
  induction fuel generalizing s cur total with
  | zero => omega
  | succ fuel ih =>
    unfold SStr.lenLoop lenOk
    obtain ⟨hout, hcoh, -, hchunk⟩ := SStr.read_spec s text cur h (some s.chunk)
    rw [goodRead_of_coh s text cur h]
    by_cases he : (s.read (some s.chunk)).1.isEmpty = true
    · rw [if_pos he, he]
      have hnil := List.isEmpty_iff.1 he
      have hcur : cur = text.length := by
        have h2 : ((text.drop cur).take s.chunk).length = 0 := by rw [← wanted_some, ← hout, hnil]; rfl
        have := h.ale
        simp only [List.length_take, List.length_drop] at h2
        omega
      rw [hnil] at hcoh
      subst hcur
      exact ⟨by simp, by simpa using hcoh, hchunk, rfl⟩
    · rw [if_neg he]
      have hle : cur + (s.read (some s.chunk)).1.length ≤ text.length := hcoh.ale
      have hpos : 0 < (s.read (some s.chunk)).1.length := by
        apply List.length_pos_iff.2
        intro hh; apply he; simp [hh]
      generalize (s.read (some s.chunk)).1.length = L at hcoh hle hpos ⊢
      obtain ⟨iout, icoh, ichunk, iok⟩ :=
        ih (s.read (some s.chunk)).2 (cur + L) (total + L) hcoh (by rw [hchunk]; exact hch) (by omega)
      refine ⟨?_, icoh, ichunk.trans hchunk, by simp [iok]⟩
      rw [iout]; omega

theorem SStr.lenLoop_spec (fuel : Nat) (s : SStr) (text : List Char) (cur total : Nat)
    (h : CohAt s text cur) (hch : 0 < s.chunk) (hf : text.length - cur + 1 ≤ fuel) :
    (SStr.lenLoop fuel s total).1 = total + (text.length - cur) ∧
    CohAt (SStr.lenLoop fuel s total).2 text text.length ∧
    (SStr.lenLoop fuel s total).2.chunk = s.chunk :=
  have ⟨h1, h2, h3, _⟩ := SStr.lenLoop_spec_lenOk fuel s text cur total h hch hf
  ⟨h1, h2, h3⟩

/-- the reading loop as `SStr.len` runs it: from the start of the stream, with the model's fuel -/
theorem SStr.len_loop (s : SStr) (text : List Char) (h : CohAt s text s.tell) (hch : 0 < s.chunk) :
    (SStr.lenLoop (s.st.data.length + 2) (s.bseek 0) 0).1 = text.length ∧
    CohAt (SStr.lenLoop (s.st.data.length + 2) (s.bseek 0) 0).2 text text.length ∧
    (SStr.lenLoop (s.st.data.length + 2) (s.bseek 0) 0).2.chunk = s.chunk ∧
    lenOk (s.st.data.length + 2) (s.bseek 0) = true := by
  have ⟨h1, h2, h3, h4⟩ := SStr.lenLoop_spec_lenOk (s.st.data.length + 2) (s.bseek 0) text 0 0
    (CohAt_bseek0 s text s.tell h) hch (by have := h.length_le_data; omega)
  exact ⟨by simpa using h1, h2, h3, h4⟩

theorem SStr.len_spec (s : SStr) (text : List Char) (h : CohAt s text s.tell) (hch : 0 < s.chunk) :
    s.len.1 = text.length ∧ CohAt s.len.2 text s.tell ∧ s.len.2.tell = s.tell ∧ s.len.2.chunk = s.chunk := by
  obtain ⟨hn, hcoh, hchunk, -⟩ := SStr.len_loop s text h hch
  obtain ⟨h1, h2, h3⟩ := SStr.seek_spec (SStr.lenLoop (s.st.data.length + 2) (s.bseek 0) 0).2 text text.length s.tell
    hcoh h.ale (hchunk ▸ hch)
  exact ⟨hn, h1, h2, h3.trans hchunk⟩

theorem CohAt_end (s : SStr) (text : List Char) (h : CohAt s text text.length) :
    pend s.rd = [] ∧ s.st.pos = s.st.data.length ∧ s.rd.bytebuf = [] ∧ s.rd.bad = false := by
  obtain ⟨X, p, hrc, hx⟩ := h.rc
  rw [List.drop_length] at hx
  obtain ⟨hp, rfl⟩ := List.append_eq_nil_iff.1 hx.symm
  obtain rfl : p = 0 := hrc.part
  have hrest : s.st.rest = [] := by rw [hrc.rest]; simp
  exact ⟨hp, h.inr.pos_eq_of_rest_nil hrest, by rw [hrc.bb]; simp, hrc.good⟩

/-- the converse of `CohAt_end` -/
theorem CohAt.atEnd {s : SStr} {text : List Char} (hd : s.st.data = encode text) (hp : s.st.pos = s.st.data.length)
    (hb : s.rd.bytebuf = []) (hg : s.rd.bad = false) (hpe : pend s.rd = []) (hl : LbOK s.rd) :
    CohAt s text text.length :=
  ⟨hd, by simp [InRange, hp], Nat.le_refl _,
    ⟨[], 0, ⟨by simp [File.rest, hp], by simpa using hb, rfl, hg⟩, by simp [hpe]⟩, hl⟩

/-- right after `rollover()` moved the content, before the position is re-established -/
def SStr.moved (s : SStr) : SStr :=
  { s with st := (File.empty : File CU).write s.st.data, rd := Reader.reset, rolled := true }

theorem SStr.rollover_unrolled (s : SStr) (h : s.rolled = false) : s.rollover = s.moved.seek s.tell := by
  simp [SStr.rollover, h, SStr.moved]

theorem Coh.moved {s : SStr} {text : List Char} (h : Coh s text) : CohAt s.moved text text.length := by
  have e : s.moved.st = ⟨s.st.data, s.st.data.length⟩ := File.write_empty s.st.data
  exact CohAt.atEnd (by rw [e]; exact h.data) (by rw [e]) rfl rfl rfl (.of_linebuf_nil rfl)

theorem SStr.rollover_spec (s : SStr) (text : List Char) (h : Coh s text) (hch : 0 < s.chunk) :
    Coh s.rollover text ∧ s.rollover.tell = s.tell ∧ s.rollover.chunk = s.chunk := by
  cases hr : s.rolled
  · rw [SStr.rollover_unrolled s hr]
    obtain ⟨hs, ht, hc⟩ := SStr.seek_spec s.moved text text.length s.tell h.moved h.ale hch
    exact ⟨Coh.of_at hs ht, ht, hc⟩
  · rw [show s.rollover = s by simp [SStr.rollover, hr]]
    exact ⟨h, rfl, rfl⟩

theorem SStr.write_spec (s : SStr) (text cs : List Char) (h : Coh s text) (he : s.tell = text.length)
    (hch : 0 < s.chunk) :
    Coh (s.write cs) (text ++ cs) ∧ (s.write cs).tell = (text ++ cs).length ∧ (s.write cs).chunk = s.chunk := by
  -- appending to any coherent state that stands at the end
  have key : ∀ (s0 s' : SStr), Coh s0 text → s0.tell = text.length → s'.st = s0.st.write (encode cs) →
      s'.rd = s0.rd → s'.tell = s0.tell + cs.length → Coh s' (text ++ cs) := by
    intro s0 s' h0 he0 hst hrd htell
    replace h0 := h0.toAt he0
    rcases CohAt_end s0 text h0 with ⟨hp, hpos, hbb, hgood⟩
    have hw := File.write_end s0.st (encode cs) hpos
    have ht : s'.tell = (text ++ cs).length := by rw [htell, he0]; simp
    exact Coh.of_at (CohAt.atEnd (by rw [hst, hw, h0.data, encode_append]) (by rw [hst, hw]; simp [hpos])
      (by rw [hrd]; exact hbb) (by rw [hrd]; exact hgood) (by rw [hrd]; exact hp) (by rw [hrd]; exact h0.lb)) ht
  unfold SStr.write
  split
  · obtain ⟨hro, ht, hc⟩ := SStr.rollover_spec s text h hch
    exact ⟨key s.rollover _ hro (by rw [ht, he]) rfl rfl (by simp [ht]), by simp [he], hc⟩
  · exact ⟨key s _ h he rfl rfl rfl, by simp [he], rfl⟩

theorem SStr.writelines_spec (ss : List (List Char)) (s : SStr) (text : List Char) (h : Coh s text)
    (he : s.tell = text.length) (hch : 0 < s.chunk) :
    Coh (ss.foldl SStr.write s) (text ++ ss.flatten) ∧ (ss.foldl SStr.write s).tell = (text ++ ss.flatten).length ∧
    (ss.foldl SStr.write s).chunk = s.chunk := by
  induction ss generalizing s text with
  | nil => simpa using ⟨h, he⟩
  | cons cs ss ih =>
    obtain ⟨hw, ht, hc⟩ := SStr.write_spec s text cs h he hch
    obtain ⟨i1, i2, i3⟩ := ih (s.write cs) (text ++ cs) hw ht (hc ▸ hch)
    simp only [List.foldl_cons, List.flatten_cons, ← List.append_assoc]
    exact ⟨i1, i2, i3.trans hc⟩

theorem SStr.readlines_spec (s : SStr) (text : List Char) (h : Coh s text) :
    s.readlines.1 = splitL false (text.drop s.tell) ∧ Coh s.readlines.2 text ∧
    s.readlines.2.tell = text.length ∧ s.readlines.2.chunk = s.chunk := by
  obtain ⟨hout, h2, -, -⟩ := SStr.read_spec s text s.tell h none
  replace hout : (s.rd.read s.st none).1 = text.drop s.tell := hout
  have hle := h.ale
  have htell : s.readlines.2.tell = text.length := by
    simp only [SStr.readlines]
    rw [hout, splitL_sum_length, List.length_drop]; omega
  rw [show (s.read none).1 = _ from hout, List.length_drop,
    show s.tell + (text.length - s.tell) = text.length by omega] at h2
  exact ⟨by simp only [SStr.readlines]; rw [hout], Coh.of_at (h2.congr rfl rfl) htell, htell, rfl⟩

theorem SStr.getvalue_spec (s : SStr) (text : List Char) (h : Coh s text) (hch : 0 < s.chunk) :
    s.getvalue.1 = text ∧ Coh s.getvalue.2 text ∧ s.getvalue.2.tell = s.tell ∧
    s.getvalue.2.chunk = s.chunk := by
  obtain ⟨h0, -, hc0⟩ := SStr.seek_spec s text s.tell 0 h (Nat.zero_le _) hch
  obtain ⟨hout, hr, -, hcr⟩ := SStr.read_spec (s.seek 0) text 0 h0 none
  simp only [wanted_none, List.drop_zero] at hout
  obtain ⟨hs, ht, hcs⟩ := SStr.seek_spec ((s.seek 0).read none).2 text _ s.tell hr h.ale (by rw [hcr, hc0]; exact hch)
  exact ⟨hout, Coh.of_at hs ht, ht, by simp only [SStr.getvalue]; rw [hcs, hcr, hc0]⟩

theorem SStr.seekEnd_spec (s : SStr) (text : List Char) (n : Nat) (h : Coh s text) (hch : 0 < s.chunk) :
    Coh (s.seekEnd n) text ∧ (s.seekEnd n).tell = text.length - n ∧ (s.seekEnd n).chunk = s.chunk ∧
    s.len.1 = text.length := by
  obtain ⟨hlen, hl, -, hcl⟩ := SStr.len_spec s text h hch
  obtain ⟨ht, hct, -⟩ := SStr.traverse_spec (s.len.1 - n + 1) (s.len.2.bseek 0) text 0 (s.len.1 - n)
    (CohAt_bseek0 s.len.2 text _ hl) (by rw [hlen]; omega) (Nat.zero_le _) (hcl ▸ hch) (by omega)
  exact ⟨Coh.of_at (ht.congr rfl rfl) rfl, by simp only [SStr.seekEnd]; rw [hlen], hct.trans hcl, hlen⟩

theorem SStr.codecLine_spec (s : SStr) (text : List Char) (a : Nat) (h : CohAt s text a) :
    s.codecLine.1 = firstLine true (text.drop a) ∧ CohAt s.codecLine.2 text (a + s.codecLine.1.length) ∧
    s.codecLine.2.tell = s.tell ∧ s.codecLine.2.chunk = s.chunk ∧
    s.codecLine.2.maxSize = s.maxSize ∧ s.codecLine.2.rolled = s.rolled := by
  obtain ⟨hout, hrs, hlb, hd⟩ := Reader.readline_spec s.st s.rd (text.drop a) h.toRS h.lb
  have hlen : s.codecLine.1.length ≤ (text.drop a).length := by
    rw [show s.codecLine.1 = _ from hout]; exact firstLine_length_le _ _
  rw [List.length_drop] at hlen
  rw [List.drop_drop] at hrs
  exact ⟨hout, CohAt.of_RS (hd.trans h.data) (by have := h.ale; omega) hrs hlb, rfl, rfl, rfl, rfl⟩

/-- the codec's `readline` does not hit a decoding error -/
def goodLine (s : SStr) : Bool := !(s.rd.readline s.st).2.2.bad

theorem goodLine_of_coh (s : SStr) (text : List Char) (a : Nat) (h : CohAt s text a) : goodLine s = true := by
  obtain ⟨-, hcoh, -, -, -, -⟩ := SStr.codecLine_spec s text a h
  have hg : s.codecLine.2.rd.bad = false := hcoh.good
  simp only [goodLine, Bool.not_eq_true']
  exact hg

/-- the model's `rlJoin` ends by one of its exits (not by its fuel) and every codec line on the way is good -/
def rlOk : Nat → List Char → SStr → Bool
  | 0, _, _ => false
  | k + 1, ret, s =>
    if ret.isEmpty || endsCRLF ret then true
    else goodLine s && (s.codecLine.1.isEmpty || rlOk k (ret ++ s.codecLine.1) s.codecLine.2)

theorem SStr.rlJoin_spec (fuel : Nat) (ret : List Char) (s : SStr) (text : List Char) (a : Nat)
    (h : CohAt s text a) (hf : (text.drop a).length + 1 ≤ fuel) :
    (SStr.rlJoin fuel ret s).1 =
      ret ++ (if ret.isEmpty || endsCRLF ret then [] else firstLine false (text.drop a)) ∧
    CohAt (SStr.rlJoin fuel ret s).2 text
      (a + (if ret.isEmpty || endsCRLF ret then [] else firstLine false (text.drop a)).length) ∧
    (SStr.rlJoin fuel ret s).2.chunk = s.chunk ∧ rlOk fuel ret s = true := by
  induction fuel generalizing ret s a with
  | zero => omega
  | succ fuel ih =>
    unfold SStr.rlJoin rlOk
    by_cases h1 : (ret.isEmpty || endsCRLF ret) = true
    · simp only [if_pos h1]
      exact ⟨by simp, by simpa using h, trivial, trivial⟩
    · simp only [if_neg h1]
      obtain ⟨hcl, hcoh, -, hchunk, -, -⟩ := SStr.codecLine_spec s text a h
      have hg := goodLine_of_coh s text a h
      by_cases h2 : s.codecLine.1.isEmpty = true
      · rw [if_pos h2]
        have hnil : s.codecLine.1 = [] := List.isEmpty_iff.1 h2
        have hrest : text.drop a = [] := (firstLine_eq_nil true _).1 (by rw [← hcl]; exact hnil)
        rw [hnil] at hcoh
        rw [hrest]
        exact ⟨by simp [firstLine], by simpa [firstLine] using hcoh, hchunk, by simp [hg, h2]⟩
      · rw [if_neg h2]
        have hne : s.codecLine.1 ≠ [] := fun h0 => h2 (by rw [h0]; rfl)
        have hle : s.codecLine.1.length ≤ (text.drop a).length := by
          rw [hcl]; exact firstLine_length_le _ _
        obtain ⟨i1, i2, i3, i4⟩ := ih (ret ++ s.codecLine.1) s.codecLine.2 (a + s.codecLine.1.length) hcoh
          (by rw [← List.drop_drop, List.length_drop]; have := List.length_pos_iff.2 hne; omega)
        -- the line of what is left is this codec line, continued unless it ends in CR / LF
        have hX := firstLine_join (text.drop a)
        rw [← hcl, List.drop_drop] at hX
        have hE : ((ret ++ s.codecLine.1).isEmpty || endsCRLF (ret ++ s.codecLine.1)) = endsCRLF s.codecLine.1 := by
          rw [endsCRLF_append _ _ hne]; simp [hne]
        rw [hE] at i1 i2
        refine ⟨by rw [i1, hX, List.append_assoc], ?_, i3.trans hchunk, by simp [hg, i4]⟩
        rw [hX, List.length_append, ← Nat.add_assoc]
        exact i2

/-- the joining loop as `SStr.readline` runs it: after the first codec line, with the model's fuel -/
theorem SStr.readline_join (s : SStr) (text : List Char) (h : Coh s text) :
    (SStr.rlJoin (s.st.data.length + 2) s.codecLine.1 s.codecLine.2).1 = firstLine false (text.drop s.tell) ∧
    CohAt (SStr.rlJoin (s.st.data.length + 2) s.codecLine.1 s.codecLine.2).2 text
      (s.tell + (SStr.rlJoin (s.st.data.length + 2) s.codecLine.1 s.codecLine.2).1.length) ∧
    (SStr.rlJoin (s.st.data.length + 2) s.codecLine.1 s.codecLine.2).2.chunk = s.chunk ∧
    rlOk (s.st.data.length + 2) s.codecLine.1 s.codecLine.2 = true := by
  obtain ⟨hcl, hccoh, -, hcchunk, -, -⟩ := SStr.codecLine_spec s text s.tell h
  have hle : s.codecLine.1.length ≤ (text.drop s.tell).length := by
    rw [hcl]; exact firstLine_length_le _ _
  have hfuel : (text.drop (s.tell + s.codecLine.1.length)).length + 1 ≤ s.st.data.length + 2 := by
    have := h.length_le_data
    simp only [List.length_drop]; omega
  obtain ⟨hj1, hj2, hjchunk, hok⟩ := SStr.rlJoin_spec (s.st.data.length + 2) s.codecLine.1 s.codecLine.2 text
    (s.tell + s.codecLine.1.length) hccoh hfuel
  generalize SStr.rlJoin (s.st.data.length + 2) s.codecLine.1 s.codecLine.2 = j at hj1 hj2 hjchunk ⊢
  refine ⟨?_, ?_, hjchunk.trans hcchunk, hok⟩
  · rw [hj1, firstLine_join (text.drop s.tell), hcl, List.drop_drop]
    by_cases hn : firstLine true (text.drop s.tell) = []
    · have hrest : text.drop s.tell = [] := (firstLine_eq_nil true _).1 hn
      simp [hrest, firstLine, endsCRLF]
    · have : (firstLine true (text.drop s.tell)).isEmpty = false := by simpa using hn
      rw [this, Bool.false_or]
  · rwa [Nat.add_assoc, ← List.length_append, ← hj1] at hj2

theorem SStr.readline_spec (s : SStr) (text : List Char) (h : Coh s text) :
    s.readline.1 = firstLine false (text.drop s.tell) ∧ Coh s.readline.2 text ∧
    s.readline.2.tell = s.tell + s.readline.1.length ∧ s.readline.2.chunk = s.chunk := by
  obtain ⟨h1, h2, h3, -⟩ := SStr.readline_join s text h
  simp only [SStr.readline, Coh]
  exact ⟨h1, h2.congr rfl rfl, trivial, h3⟩

end C18
