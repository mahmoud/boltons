import BoltonsVerif.C18.Reader
import BoltonsVerif.C18.Lines
namespace C18

/-! C18 — `codecs.StreamReader.readline` on a valid stream returns the first `str.splitlines` line. -/

/-- the clause on `endsWithCR`: thanks to the extra character read after a trailing CR, a chunk ending in CR before an LF
    ends in CR CR -/
theorem readChunk_spec (st : File CU) (r : Reader) (R : List Char) (h : RS st r R) (rs : Nat) (hrs : 0 < rs) :
    ∃ R', R = (Reader.readChunk st r rs).1 ++ R' ∧
    RS (Reader.readChunk st r rs).2.1 (Reader.readChunk st r rs).2.2 R' ∧
    (Reader.readChunk st r rs).2.2.linebuf = [] ∧ (Reader.readChunk st r rs).2.1.data = st.data ∧
    ((Reader.readChunk st r rs).1 = [] → R = []) ∧
    (endsWithCR (Reader.readChunk st r rs).1 = true → R'.head? = some '\n' →
      ∃ y, (Reader.readChunk st r rs).1 = y ++ ['\r', '\r']) := by
  obtain ⟨h1, hs1, hl1, hd1⟩ := Reader.read_spec st r R h (some rs)
  rw [wanted_some] at h1
  rw [h1, drop_length_take] at hs1
  have hnil : R.take rs = [] → R = [] := fun he => by
    obtain ⟨k, rfl⟩ : ∃ k, rs = k + 1 := ⟨rs - 1, by omega⟩
    cases R <;> simp_all
  unfold Reader.readChunk
  split
  · next hc =>
    obtain ⟨h2, hs2, hl2, hd2⟩ := Reader.read_spec _ _ _ hs1 (some 1)
    rw [wanted_some] at h2
    rw [h2, drop_length_take] at hs2
    simp only [h1, h2, Bool.and_eq_true] at hc ⊢
    refine ⟨_, ?_, hs2, hl2, hd2.trans hd1, fun he => hnil (List.append_eq_nil_iff.1 he).1, fun hcr hhead => ?_⟩
    · rw [List.append_assoc, List.take_append_drop, List.take_append_drop]
    · obtain ⟨y1, hy1⟩ := (endsWithCR_iff _).1 hc.2
      -- the extra character is there (an LF follows it) and is itself a CR
      generalize R.drop rs = R1 at hhead hcr ⊢
      rcases R1 with _ | ⟨c, t⟩
      · simp at hhead
      · obtain ⟨y, hy⟩ := (endsWithCR_iff _).1 hcr
        have hcc : c = '\r' := by simpa using congrArg List.getLast? hy
        exact ⟨y1, by rw [hy1, hcc]; simp⟩
  · next hc =>
    rw [h1] at hc ⊢
    refine ⟨_, (List.take_append_drop rs R).symm, hs1, hl1, hd1, hnil, fun hcr _ => absurd ?_ hc⟩
    have : R.take rs ≠ [] := fun he => by rw [he, endsWithCR_nil] at hcr; exact Bool.false_ne_true hcr
    simp [this, hcr]

/-- lines cached by `readline` are the `splitlines` of some text, read-ahead appended to the last one -/
def LbOK (r : Reader) : Prop :=
  r.linebuf = [] ∨
  (r.charbuf = [] ∧ ∃ W e, 2 ≤ (splitL true W).length ∧ r.linebuf = appendLast (splitL true W) e)

theorem LbOK.of_linebuf_nil {r : Reader} (h : r.linebuf = []) : LbOK r := Or.inl h

/-- cached lines, when there are any: the first is a line decided inside what the reader holds, and at least one more
    follows; two or more that follow are cached lines again -/
theorem LbOK.cons {r : Reader} {l : List Char} {rest : List (List Char)} (h : LbOK r) (hl : r.linebuf = l :: rest) :
    r.charbuf = [] ∧ rest ≠ [] ∧ (∀ Y, firstLine true (l ++ rest.flatten ++ Y) = l) ∧
    (2 ≤ rest.length → ∃ W e, 2 ≤ (splitL true W).length ∧ rest = appendLast (splitL true W) e) := by
  rcases h with h | ⟨hcb, W, e, hW, hlb⟩
  · rw [hl] at h; cases h
  · have hWne : W ≠ [] := by intro h0; subst h0; simp [splitL] at hW
    have hhead := splitL_head true W hWne
    have hflat := splitL_flatten true W
    have hfl := firstLine_ne_of_two true W hW
    generalize hT' : splitL true (W.drop (firstLine true W).length) = T at hhead
    rw [hhead] at hW hflat
    have hT : T ≠ [] := by intro h0; subst h0; simp at hW
    rw [hl, hhead, appendLast_cons _ _ _ hT, List.cons.injEq] at hlb
    obtain ⟨rfl, rfl⟩ := hlb
    refine ⟨hcb, fun h0 => hT (List.length_eq_zero_iff.1 (by rw [← appendLast_length T e, h0]; rfl)), fun Y => ?_,
      fun h2 => ⟨_, e, by rw [hT', ← appendLast_length T e]; exact h2, by rw [hT']⟩⟩
    rw [appendLast_flatten _ _ hT, ← List.append_assoc, ← List.flatten_cons, hflat, List.append_assoc]
    exact firstLine_append W _ (Or.inl hfl)

/-- behind a reader that differs only in how it keeps what it holds decoded -/
theorem RS.pend_congr {st : File CU} {r r' : Reader} {R R' : List Char} (h : RS st r R) (hb : r'.bytebuf = r.bytebuf)
    (hg : r'.bad = r.bad) (hp : ∀ X, R = pend r ++ X → R' = pend r' ++ X) : RS st r' R' := by
  rcases h with ⟨⟨X, p, hrc, hR⟩, hin⟩
  exact ⟨⟨X, p, hrc.congr hb hg, hp X hR⟩, hin⟩

theorem RS.of_pend {st : File CU} {r r' : Reader} {R : List Char} (h : RS st r R) (hb : r'.bytebuf = r.bytebuf)
    (hg : r'.bad = r.bad) (Z : List Char) (hp : pend r' = Z ++ pend r) : RS st r' (Z ++ R) :=
  h.pend_congr hb hg fun X hR => by rw [hp, hR, List.append_assoc]

theorem RS_congr (st : File CU) (r r' : Reader) (R : List Char) (h : RS st r R)
    (hb : r'.bytebuf = r.bytebuf) (hg : r'.bad = r.bad) (hp : pend r' = pend r) : RS st r' R :=
  h.of_pend hb hg [] hp

/-- the loop of `StreamReader.readline()`: `line` has been consumed already and does not end in a line break -/
theorem rlLoop_spec (fuel rs : Nat) (line : List Char) (st : File CU) (r : Reader) (R : List Char)
    (h : RS st r R) (hrs : 0 < rs)
    (hline : endsWithBrk line = false) (hf : R.length + 1 ≤ fuel) :
    (rlLoop fuel rs line st r).1 = firstLine true (line ++ R) ∧
    RS (rlLoop fuel rs line st r).2.1 (rlLoop fuel rs line st r).2.2
      ((line ++ R).drop (rlLoop fuel rs line st r).1.length) ∧
    LbOK (rlLoop fuel rs line st r).2.2 ∧ (rlLoop fuel rs line st r).2.1.data = st.data := by
  induction fuel generalizing rs line st r R with
  | zero => omega
  | succ fuel ih =>
    obtain ⟨R', hdata, hs2, hl2, hd2, hnil, hcr⟩ := readChunk_spec st r R h rs hrs
    generalize hch : Reader.readChunk st r rs = ch at *
    rcases ch with ⟨data, st2, r2⟩
    simp only at hdata hs2 hl2 hd2 hnil hcr
    subst hdata
    rw [← List.append_assoc]
    unfold rlLoop
    rw [hch]
    simp only
    cases hsp : splitL true (line ++ data) with
    | nil =>
      simp only
      have hl0 : line ++ data = [] := splitL_eq_nil true _ hsp
      obtain rfl : data = [] := (List.append_eq_nil_iff.1 hl0).2
      obtain rfl : R' = [] := hnil rfl
      obtain rfl : line = [] := (List.append_eq_nil_iff.1 hl0).1
      exact ⟨by simp [firstLine], by simpa using hs2, .of_linebuf_nil hl2, hd2⟩
    | cons l0 rest =>
      have hne : line ++ data ≠ [] := by
        intro h0; rw [h0] at hsp; simp [splitL] at hsp
      have hhead := splitL_head true (line ++ data) hne
      rw [hsp] at hhead
      simp only [List.cons.injEq] at hhead
      rcases hhead with ⟨hl0, hrest⟩
      cases rest with
      | nil =>
        simp only
        have hone : l0 = line ++ data := by
          have := splitL_flatten true (line ++ data)
          rw [hsp] at this; simpa using this
        have hW : firstLine true (line ++ data) = line ++ data := by rw [← hl0, hone]
        by_cases hb : endsWithBrk l0 = true
        · rw [if_pos hb]
          simp only
          -- a complete single line: no LF can follow a final CR (`hcr`)
          have hdne : data ≠ [] := by
            intro hd0
            rw [hone, hd0, List.append_nil, hline] at hb
            exact Bool.false_ne_true hb
          have hfl : firstLine true ((line ++ data) ++ R') = line ++ data := by
            rw [firstLine_append _ _ (Or.inr ⟨by rw [← hone]; exact hb, ?_⟩), hW]
            intro ⟨h1, h2⟩
            rw [endsWithCR_append line data hdne] at h1
            obtain ⟨y, hy⟩ := hcr h1 h2
            -- the chunk ends in CR CR: the first line would end at the first of them
            have h3 := firstLine_append (line ++ y ++ ['\r']) ['\r'] (Or.inr ⟨by simp [endsWithBrk], by simp⟩)
            have hlen := firstLine_length_le true (line ++ y ++ ['\r'])
            rw [← h3, show line ++ y ++ ['\r'] ++ ['\r'] = line ++ data by rw [hy]; simp, hW, hy] at hlen
            simp at hlen
          refine ⟨by rw [hfl, hone], ?_, .of_linebuf_nil hl2, hd2⟩
          rw [hone, List.drop_left]
          exact hs2
        · rw [if_neg hb]
          by_cases hde : data.isEmpty = true
          · rw [if_pos hde]
            simp only
            obtain rfl : data = [] := List.isEmpty_iff.1 hde
            obtain rfl : R' = [] := hnil rfl
            exact ⟨by simpa using hW.symm, by simpa using hs2, .of_linebuf_nil hl2, hd2⟩
          · rw [if_neg hde]
            have hdpos : 0 < data.length := by
              apply List.length_pos_iff.2; intro hh; apply hde; simp [hh]
            obtain ⟨iout, irs, ilb, idata⟩ :=
              ih (if rs < C18.Generated.CODECS_READSIZE_CAP then rs * C18.Generated.CODECS_READSIZE_FACTOR else rs)
              (line ++ data) st2 r2 R' hs2
              (by split
                  · exact Nat.mul_pos hrs (by decide)
                  · exact hrs)
              (by rw [← hone]; simpa using hb)
              (by rw [List.length_append] at hf; omega)
            exact ⟨iout, irs, ilb, idata.trans hd2⟩
      | cons l1 ls =>
        -- more than one line: the first one is complete
        have htwo : 2 ≤ (splitL true (line ++ data)).length := by rw [hsp]; simp
        have hfl : firstLine true ((line ++ data) ++ R') = l0 := by
          rw [firstLine_append _ _ (Or.inl (firstLine_ne_of_two true _ htwo)), hl0]
        have hflat : (l1 :: ls).flatten = (line ++ data).drop l0.length := by
          rw [hrest, splitL_flatten, hl0]
        have hl0len : l0.length ≤ (line ++ data).length := hl0 ▸ firstLine_length_le true _
        -- however the other lines are kept (one: in front of the character buffer; more: cached), the reader holds them
        have key : ∀ r' : Reader, r'.bytebuf = r2.bytebuf → r'.bad = r2.bad →
            pend r' = (l1 :: ls).flatten ++ r2.charbuf → RS st2 r' ((line ++ data ++ R').drop l0.length) := fun r' hb hg hp => by
          rw [List.drop_append_of_le_length hl0len, ← hflat]
          exact hs2.of_pend hb hg _ (by rw [hp, pend_of_linebuf_nil _ hl2])
        simp only
        by_cases hls : ls.isEmpty = true
        · rw [if_pos hls]
          obtain rfl : ls = [] := List.isEmpty_iff.1 hls
          exact ⟨hfl.symm, key _ rfl rfl (by simp [pend, Reader.merge, hl2]), .of_linebuf_nil hl2, hd2⟩
        · rw [if_neg hls]
          have hlen : 2 ≤ (l1 :: ls).length := by
            have : ls ≠ [] := fun hh => hls (by simp [hh])
            have := List.length_pos_iff.2 this
            simp only [List.length_cons]; omega
          have hne : appendLast (l1 :: ls) r2.charbuf ≠ [] := fun hh => by
            have := appendLast_length (l1 :: ls) r2.charbuf
            rw [hh] at this; simp at this
          refine ⟨hfl.symm, key _ rfl rfl ?_, Or.inr ⟨rfl, (line ++ data).drop l0.length, r2.charbuf, ?_, ?_⟩, hd2⟩
          · simp only [pend, Reader.merge]
            rw [if_neg (by simpa using hne)]
            exact appendLast_flatten _ _ (by simp)
          · rw [hl0, ← hrest]; exact hlen
          · rw [hl0, ← hrest]

theorem Reader.readline_spec (st : File CU) (r : Reader) (R : List Char) (h : RS st r R) (hlb : LbOK r) :
    (Reader.readline st r).1 = firstLine true R ∧
    RS (Reader.readline st r).2.1 (Reader.readline st r).2.2 (R.drop (Reader.readline st r).1.length) ∧
    LbOK (Reader.readline st r).2.2 ∧ (Reader.readline st r).2.1.data = st.data := by
  unfold Reader.readline
  cases hl : r.linebuf with
  | nil =>
    simp only
    rcases h with ⟨⟨X, p, hrc, hR⟩, hin⟩
    have hlen : R.length + 1 ≤ r.charbuf.length + st.rest.length + 2 := by
      rw [hR, pend_of_linebuf_nil r hl, List.length_append]
      have := hrc.length_le_rest
      omega
    have := rlLoop_spec (r.charbuf.length + st.rest.length + 2) C18.Generated.CODECS_READLINE_SIZE [] st r R
      ⟨⟨X, p, hrc, hR⟩, hin⟩ (by decide) (by simp [endsWithBrk]) hlen
    simpa using this
  | cons l rest =>
    obtain ⟨hcb, hne, hfl, hrest⟩ := hlb.cons hl
    have hpend : pend r = l ++ rest.flatten := by simp [pend, Reader.merge, hl]
    have hout : firstLine true R = l := by
      obtain ⟨⟨X, _, _, hR⟩, _⟩ := h
      rw [hR, hpend]; exact hfl X
    -- however the lines that remain are kept, they are what the reader now holds decoded
    have key : ∀ r' : Reader, r'.bytebuf = r.bytebuf → r'.bad = r.bad → pend r' = rest.flatten →
        RS st r' (R.drop l.length) := fun r' hb hg hp =>
      h.pend_congr hb hg fun X hR => by rw [hR, hpend, hp, List.append_assoc, List.drop_left]
    rcases rest with _ | ⟨a, _ | ⟨b, c⟩⟩
    · exact absurd rfl hne
    · exact ⟨hout.symm, key _ rfl rfl (by simp [pend, Reader.merge]), .of_linebuf_nil rfl, rfl⟩
    · exact ⟨hout.symm, key _ rfl rfl (by simp [pend, Reader.merge]), Or.inr ⟨hcb, hrest (by simp)⟩, rfl⟩
end C18
