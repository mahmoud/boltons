import BoltonsVerif.C08.Model
/-
C08 — `remap(..., trace=...)`: the debugging keyword.

`trace` does not occur in the models of `Model.lean`: it selects which of the loop's three events
(`enter`, `visit`, `exit`) are PRINTED.  Here the generic machine (`gstep`, arbitrary enter / visit /
exit callbacks) is extended by exactly that: every iteration appends the lines it prints to a log.
What an iteration prints is a function of the state it starts in (`gprints`); printing has no access
to the state the iteration produces.

What the model can NOT express (and the harness therefore checks on the implementation, with every
value `trace` accepts): a print that has an effect on the machine after all - e.g. one that iterates
over the one-shot iterator `enter` returned (seeded change C08-13).  In the model the items `enter`
hands over are a list, not a consumable iterator.
-/
namespace C08

/-- `trace` after remap's normalisation: which events are printed.  `trace=True` = all three, a str =
    that one event, a tuple / list / set = its members, `()` (the default) / `False` = none; names
    other than the three are ignored. -/
structure TraceSel where
  enter : Bool
  visit : Bool
  exit  : Bool
deriving DecidableEq, Repr

def TraceSel.off : TraceSel := ⟨false, false, false⟩
def TraceSel.all : TraceSel := ⟨true, true, true⟩

inductive TLine
  | enter (p : Path) (k : Key) (v : Val)
  | enterResult (res : Option (Val × List (Key × Val)))
  | stackSize (n : Nat)
  | visit (p : Path) (k : Key) (v : Val)
  | visitResult (r : List (Key × Val))            -- `[]` = `<drop>`
  | exit (p : Path) (k : Key) (old np : Val) (items : List (Key × Val))
  | exitResult (v : Val)

def onlyIf (b : Bool) (l : List TLine) : List TLine := if b then l else []

def gprints (c : GCfg) (t : TraceSel) (s : GSt) : List TLine :=
  if s.err then [] else
  match s.stack with
  | [] => []
  | .item k v :: rest =>
    match c.en s.path k v with
    | some (np, items) =>
      onlyIf t.enter [.enter s.path k v, .enterResult (some (np, items)),
                      .stackSize (items.length + 1 + rest.length)]
    | none =>
      onlyIf t.enter [.enter s.path k v, .enterResult none] ++
      onlyIf t.visit [.visit s.path k v, .visitResult (applyVisit c.vf s.path k v)]
  | .exit k old np :: _ =>
    match s.nis with
    | [] => []
    | (p, items) :: nr =>
      onlyIf t.exit [.exit p k old np items, .exitResult (c.ex p k old np items)] ++
      (match nr with
       | [] => []                                  -- the root's exit: no visit
       | _ :: _ => onlyIf t.visit [.visit p k (c.ex p k old np items),
                                   .visitResult (applyVisit c.vf p k (c.ex p k old np items))])

def gstepT (c : GCfg) (t : TraceSel) (s : GSt × List TLine) : Option (GSt × List TLine) :=
  match gstep c s.1 with
  | none => none
  | some s' => some (s', s.2 ++ gprints c t s.1)

def grunT (c : GCfg) (t : TraceSel) : Nat → GSt × List TLine → GSt × List TLine
  | 0, s => s
  | n + 1, s => match gstepT c t s with
    | none => s
    | some s' => grunT c t n s'

/-- `remap(root, visit, enter, exit, trace=t)` run for at most `m` iterations: the result (`none` =
    still running) and everything printed so far -/
def gRemapIterT (c : GCfg) (t : TraceSel) (m : Nat) (root : Val) : Option GRes × List TLine :=
  let s := grunT c t m (ginit root, [])
  (if s.1.err then some .typeError else if s.1.stack.isEmpty then some (.ok s.1.value) else none, s.2)

theorem grunT_fst (c : GCfg) (t : TraceSel) (m : Nat) (s : GSt) (log : List TLine) :
    (grunT c t m (s, log)).1 = grun c m s := by
  induction m generalizing s log with
  | zero => rfl
  | succ n ih =>
    simp only [grunT, grun, gstepT]
    cases h : gstep c s with
    | none => rfl
    | some s' => exact ih s' _

theorem gprints_off (c : GCfg) (s : GSt) : gprints c .off s = [] := by
  unfold gprints
  split
  · rfl
  · split
    · rfl
    · split <;> simp [onlyIf, TraceSel.off]
    · split
      · rfl
      · split <;> simp [onlyIf, TraceSel.off]

theorem grunT_off_snd (c : GCfg) (m : Nat) (s : GSt) (log : List TLine) :
    (grunT c .off m (s, log)).2 = log := by
  induction m generalizing s log with
  | zero => rfl
  | succ n ih =>
    simp only [grunT, gstepT]
    cases h : gstep c s with
    | none => rfl
    | some s' =>
      simp only []
      rw [ih, gprints_off, List.append_nil]

end C08
