import BoltonsVerif.C08.Proofs
import BoltonsVerif.C08.Trace
import BoltonsVerif.Generated.C08_Facts
/-
C08 — property theorems for the models of `remap` / `research` / `get_path`
(statements, short derivations from `Proofs.lean`, non-vacuity examples).

Tree level (`Val`): values without identity; `c : Cfg` is an ARBITRARY visit callback
(`Path → Key → Val → keep | drop | replace k v | raise`) together with an ARBITRARY exit callback.
Heap level (`Heap`, `Obj`): objects with identity, sharing and cycles; `c : HCfg` is an arbitrary
visit callback that may also inspect the rebuilt heap.
-/
namespace C08

/-- `remap`'s explicit-stack loop returns exactly what the bottom-up recursion returns — for every
    nesting of the five container kinds, every visit callback and every exit callback; the loop ends
    with an empty work stack, an empty new-items stack and the root path. -/
theorem remap_eq_rec (c : Cfg) (kd : Kind) (its : Items) :
    remapIter c (.node kd its) = some (remapRec c (.node kd its)) ∧
    (remapFinal c kd its).stack = [] ∧ (remapFinal c kd its).nis = [] ∧
    (remapFinal c kd its).path = [] := by
  simp [remapIter, remapFinal_eq]

/-- the sequence of `enter` calls (what `research` filters) is the pre-order traversal -/
theorem enter_calls_preorder (c : Cfg) (kd : Kind) (its : Items) :
    (remapFinal c kd its).log = ([], .none, .node kd its) :: nestedLog (.node kd its) := by
  simp [remapFinal_eq]

theorem scalar_root_rejected (c : Cfg) (a : Atom) : remapIter c (.leaf a) = none := rfl

/-- scalar leaves — `None`, ints, floats, bools and the two Sequence types `default_enter` names as
    leaves, `str` and `bytes` — are never traversed: a leaf item is entered once (one `enter` call,
    nothing below it is reported to `research`), handed to `visit` once, as a whole, under its own
    key, and what `visit` returns for it is what the parent is rebuilt from. -/
theorem scalar_leaf_visited_whole (c : Cfg) (kd : Kind) (k : Key) (a : Atom) (rest : Items) :
    remapIter c (.node kd (.cons k (.leaf a) rest)) =
      some (c.ex [] .none (.node kd (.cons k (.leaf a) rest))
        (applyVisit c.vf [] (effKey kd 0 k) (.leaf a) ++ rebuildItems c [] kd 1 rest)) ∧
    nestedLog (.node kd (.cons k (.leaf a) rest)) =
      ([], effKey kd 0 k, .leaf a) :: preLogItems [] kd 1 rest := by
  simp [remapIter, remapFinal_eq, remapRec, rebuildItems, rebuildChild, nestedLog, preLogItems, preLog]

/-- `[b'ab', 1]` under a visit that drops every int: the bytes object stays whole (its byte values
    97, 98 are not items), the int 1 goes -/
example : remapIter ⟨progVisit [⟨false, .isInt, .drop⟩], defaultExit⟩
      (.node .list (.cons (.int 0) (.leaf (.bytes [97, 98])) (.cons (.int 1) (.leaf (.int 1)) .nil))) =
    some (.node .list (.cons (.int 0) (.leaf (.bytes [97, 98])) .nil)) := by
  rw [(scalar_leaf_visited_whole _ _ _ _ _).1]
  simp [applyVisit, progVisit, evalProg, evalCond, evalAct, VAct.toVisit, Val.view, rebuildItems,
    rebuildChild, effKey, defaultExit, buildItems, renumber, ofList]

/-- with the default callbacks the result is an equal copy: same container types, same keys, same
    order (tree level: structural equality; `Canon` = dict keys distinct, sequence items numbered
    0,1,2,…, set members pairwise not `==` — facts about every Python value). -/
theorem default_is_deep_copy (kd : Kind) (its : Items) (hc : Canon (.node kd its)) :
    remapIter copyCfg (.node kd its) = some (.node kd its) := by
  simp [remapIter, remapFinal_eq, remapRec_copy _ hc]

/-- {'a': [1, frozenset({None})], None: ()} -/
def exT : Val :=
  .node .dict (.cons (.str "a") (.node .list (.cons (.int 0) (.leaf (.int 1))
      (.cons (.int 1) (.node .fset (.cons (.int 0) (.leaf .none) .nil)) .nil)))
    (.cons .none (.node .tuple .nil) .nil))

example : Canon exT := by
  simp [exT, Canon, CanonItems, Items.toList, renumber, DistinctBy, Kind.isSet]

theorem kinds_preserved (vf : VisitFn Val) (kd : Kind) (its : Items) :
    ∃ its', remapIter ⟨vf, defaultExit⟩ (.node kd its) = some (.node kd its') := by
  simp [remapIter, remapFinal_eq, remapRec, defaultExit]

/- Full statement: every `(path, value)` that `research` reports for a nested item satisfies
   `getPath root path = some value`.  It is FALSE for the code as it is (members of sets /
   frozensets are reported with their enumeration index, and `get_path` cannot index a set):
   see `research_set_path_not_retrievable`.  Proved: all reported paths that do not lead into
   a set / frozenset (`setOnPath root path = false`, a decidable condition). -/
theorem paths_correct_partial (q : Path → Key → Val → Bool) (kd : Kind) (its : Items)
    (hw : WFKeys (.node kd its)) (pv : Path × Val)
    (hm : pv ∈ researchOf q (nestedLog (.node kd its)))
    (hs : setOnPath (.node kd its) pv.1 = false) :
    getPath (.node kd its) pv.1 = some pv.2 := by
  simp only [researchOf, List.mem_map, List.mem_filter] at hm
  obtain ⟨e, ⟨he, _⟩, rfl⟩ := hm
  exact nested_paths_retrievable kd its hw e he hs

/-- [frozenset({1})] -/
def exS : Val := .node .list (.cons (.int 0) (.node .fset (.cons (.int 0) (.leaf (.int 1)) .nil)) .nil)

/-- {'k': [7, (None,)]}: a nested path that meets the hypotheses of `paths_correct_partial` -/
def exP : Val :=
  .node .dict (.cons (.str "k") (.node .list (.cons (.int 0) (.leaf (.int 7))
    (.cons (.int 1) (.node .tuple (.cons (.int 0) (.leaf .none) .nil)) .nil))) .nil)

example : WFKeys exP ∧ ([.str "k", .int 1, .int 0], Val.leaf .none) ∈ researchOf (fun _ _ _ => true) (nestedLog exP) ∧
    setOnPath exP [.str "k", .int 1, .int 0] = false := by
  simp [exP, WFKeys, WFKeysItems, keysOf, effKey, researchOf, nestedLog, preLogItems, preLog, setOnPath,
    lookupItems, Kind.isSet]

/-- the negation of the full path clause, by a witness: `research([frozenset({1})])` reports
    `((0, 0), 1)` and `get_path` fails on it (known finding C08-research-set-paths) -/
theorem research_set_path_not_retrievable :
    ∃ root q pv, WFKeys root ∧ pv ∈ researchOf q (nestedLog root) ∧ getPath root pv.1 = none :=
  ⟨exS, fun _ _ _ => true, ([.int 0, .int 0], .leaf (.int 1)),
   by simp [exS, WFKeys, WFKeysItems], by simp [exS, researchOf, nestedLog, preLogItems, preLog, effKey],
   by simp [exS, getPath, getChild, lookupItems, effKey, Kind.isSet]⟩


/-- "same keys, same order": under a filtering visit callback (one that returns `True` / `False`)
    the rebuilt dict's keys are a subsequence of the original keys, in the original order -/
theorem filter_keeps_dict_keys_in_order (vf : VisitFn Val) (hf : FilterVisit vf) (its : Items)
    (hn : (keysOf .dict 0 its).Nodup) :
    ∃ its', remapIter ⟨vf, defaultExit⟩ (.node .dict its) = some (.node .dict its') ∧
      (its'.toList.map Prod.fst).Sublist (keysOf .dict 0 its) := by
  have hs := rebuildItems_keys_sublist ⟨vf, defaultExit⟩ hf [] .dict its 0
  refine ⟨ofList (rebuildItems ⟨vf, defaultExit⟩ [] .dict 0 its), ?_, ?_⟩
  · simp only [remapIter, remapFinal_eq, remapRec, defaultExit, buildItems]
    rw [dictUpdate_nodup [] _ (by simpa using hs.nodup hn)]
    simp
  · rw [toList_ofList]; exact hs

example : FilterVisit (progVisit [⟨false, .isNone, .drop⟩]) := by
  intro p k v
  simp only [progVisit, evalProg]
  split <;> simp [evalAct, VAct.toVisit]

/-- `remap` terminates on every heap — shared sub-objects and reference cycles included — within
    `hbound h = 1 + Σ (len(items) + 2)` loop iterations, whatever the visit callback does. -/
theorem heap_terminates (c : HCfg) (h : Heap) (root : Obj) :
    hstep c h root (hfinal c h root) = none ∧
    ((hfinal c h root).err ≠ none ∨ (hfinal c h root).stack = []) :=
  ⟨hfinal_halted c h root, hstep_eq_none.1 (hfinal_halted c h root)⟩

/-- every container is entered at most once and exited at most once, only entered containers are
    exited, and when `remap` returns normally the exited containers are exactly the entered ones. -/
theorem enter_exit_once_per_id (c : HCfg) (h : Heap) (root : Obj) :
    (enterIds (hfinal c h root).trace).Nodup ∧
    (exitIds (hfinal c h root).trace).Nodup ∧
    (∀ id ∈ exitIds (hfinal c h root).trace, id ∈ enterIds (hfinal c h root).trace) ∧
    ((hfinal c h root).err = none →
      (exitIds (hfinal c h root).trace).Perm (enterIds (hfinal c h root).trace)) := by
  have hi := OInv_final c h root
  refine ⟨hi.nodup, hi.exitsNodup, hi.exitsSub, fun he => ?_⟩
  have hp := hi.perm he
  rcases (heap_terminates c h root).2 with h1 | h1
  · exact absurd he h1
  · simpa [h1, frameIds] using hp

/-- an object referenced several times is rebuilt once (`enter_exit_once_per_id`) and stays shared:
    every visit of a reference to container `id` that happens after `id` has been exited is handed
    one and the same rebuilt object — the one the registry holds when `remap` returns. -/
theorem shared_stays_shared (c : HCfg) (h : Heap) (root : Obj) (id : Nat) (p : Path) (k : Key) (v : Obj)
    (hv : Ev.visit p k (.ref id) v ∈ afterExit id (hfinal c h root).trace) :
    lookup id (hfinal c h root).reg = some v :=
  SharedInv_final c h root id p k v hv

/-- t = (l, 1); l = [t] -/
def exTupleCycle : Heap :=
  [⟨.tuple, [(.int 0, .ref 1), (.int 1, .atom (.int 1))]⟩, ⟨.list, [(.int 0, .ref 0)]⟩]

/-- l = [l, 5] -/
def exListCycle : Heap := [⟨.list, [(.int 0, .ref 0), (.int 1, .atom (.int 5))]⟩]

/-- x = [7]; root = [x, x] -/
def exShared : Heap := [⟨.list, [(.int 0, .ref 1), (.int 1, .ref 1)]⟩, ⟨.list, [(.int 0, .atom (.int 7))]⟩]

def copyH : HCfg := ⟨hkeepVisit, true⟩

/-- non-vacuity of `shared_stays_shared`: the second reference to `x` is visited after `x` was exited -/
example : Ev.visit [] (.int 1) (.ref 1) (.ref 1) ∈ afterExit 1 (hfinal copyH exShared (.ref 0)).trace := by
  decide +kernel

/-- a cycle through mutable containers is copied as a cycle … -/
example :
    (hfinal copyH exListCycle (.ref 0)).value = .ref 0 ∧
    (hfinal copyH exListCycle (.ref 0)).out.map (·.items) =
      [[(.int 0, .ref 0), (.int 1, .atom (.int 5))]] := by
  decide +kernel

/-- … but the clause "the result is an equal deep copy" is FALSE for a cycle that passes through a
    tuple (known finding C08-tuple-cycle-backref): in the rebuilt `t' = (l', 1)`, `l'[0]` is the empty
    placeholder tuple `out[0]`, not `t' = out[2]`. -/
theorem tuple_cycle_not_copied :
    (hfinal copyH exTupleCycle (.ref 0)).err = none ∧
    (hfinal copyH exTupleCycle (.ref 0)).value = .ref 2 ∧
    (hfinal copyH exTupleCycle (.ref 0)).out.map (·.items) =
      [[], [(.int 0, .ref 0)], [(.int 0, .ref 1), (.int 1, .atom (.int 1))]] := by
  decide +kernel

/-- The explicit-stack loop with its `id()`-keyed registry computes what the memoised bottom-up
    recursion `recRoot` computes (each container rebuilt once, registered before its children so that
    back references terminate): same rebuilt heap, result, registry and sequence of enter / visit /
    exit calls, for every heap (sharing and cycles included) and every visit callback that does not
    raise (`NoRaise`); the recursion returns within fuel `hbound h`. -/
theorem heap_remap_eq_rec (c : HCfg) (h : Heap) (id : Nat) (nd : Node) (hnr : NoRaise c)
    (hnd : h[id]? = some nd) :
    ∃ st' v, recRoot c h (.ref id) (hbound h) = some (st', v) ∧
      hfinal c h (.ref id) = ⟨[], [], st'.reg, [], st'.out, v, st'.trace, none⟩ := by
  obtain ⟨st', v, hr⟩ := recRoot_returns c h id nd hnr hnd
  exact ⟨st', v, hr, hfinal_eq_recRoot c h (.ref id) _ st' v hr⟩

/-- the same for an arbitrary (possibly raising) visit callback, whenever the recursion returns
    (i.e. no visit raised on this input) -/
theorem heap_remap_eq_rec_partial (c : HCfg) (h : Heap) (root : Obj) (n : Nat) (st' : RSt) (v : Obj)
    (hr : recRoot c h root n = some (st', v)) :
    hfinal c h root = ⟨[], [], st'.reg, [], st'.out, v, st'.trace, none⟩ :=
  hfinal_eq_recRoot c h root n st' v hr

/-- The total version: for every heap and EVERY visit callback - one that raises with
    `reraise_visit=True` too - the recursion `recRootE` (which reports "a visit raised" with the state at
    that moment) returns within fuel `hbound h`, and the loop ends in agreement with it (`Agrees`): as in
    `heap_remap_eq_rec` when no visit raised; otherwise stopped with the visit's exception, and registry,
    rebuilt heap and call sequence - up to and including the raising visit - are the recursion's. -/
theorem heap_remap_eq_rec_raising (c : HCfg) (h : Heap) (id : Nat) (nd : Node) (hnd : h[id]? = some nd) :
    ∃ r, recRootE c h (.ref id) (hbound h) = some r ∧ Agrees (hfinal c h (.ref id)) r := by
  obtain ⟨r, hr⟩ := recRootE_returns c h id nd hnd
  exact ⟨r, hr, hfinal_agrees_recRootE c h (.ref id) _ r hr⟩

/-- non-vacuity: on `x = [7]; [x, x]` a visit that raises on ints (re-raised) stops `remap` at the very
    first visit: root and `x` entered, 7 entered and visited - four events, nothing exited -/
example : (match recRootE ⟨hprogVisit [⟨false, .isInt, .raise⟩], true⟩ exShared (.ref 0) (hbound exShared) with
    | some (.raised st) => st.trace.length == 4 && (exitIds st.trace).isEmpty
    | _ => false) = true ∧
    (hfinal ⟨hprogVisit [⟨false, .isInt, .raise⟩], true⟩ exShared (.ref 0)).err = some .visitError := by
  decide +kernel

example : NoRaise copyH := by
  intro out p k v; simp [visitOut, copyH, hkeepVisit]

example (vf : HVisitFn) : NoRaise ⟨vf, false⟩ := by
  intro out p k v; simp only [visitOut]; split <;> simp

/-- the recursion on the tuple cycle: it returns, with the placeholder inside (cf. `tuple_cycle_not_copied`) -/
example : (recRoot copyH exTupleCycle (.ref 0) (hbound exTupleCycle)).map (fun r => (r.2, r.1.out.map (·.items))) =
    some (.ref 2, [[], [(.int 0, .ref 0)], [(.int 0, .ref 1), (.int 1, .atom (.int 1))]]) := by
  decide +kernel

/-- "shares no container with the input": the result and every item of every rebuilt container is a
    scalar or a reference to an object created by this `remap` call (never a reference into the input
    heap), for every well-formed heap and every non-raising visit callback that returns the value it
    was given or a scalar (`LocalVisit`; the whole table-defined family is: `hprogVisit_local`). -/
theorem output_closed (c : HCfg) (h : Heap) (id : Nat) (nd : Node) (hw : HeapWF h) (hl : LocalVisit c)
    (hnr : NoRaise c) (hnd : h[id]? = some nd) :
    objClosed (hfinal c h (.ref id)).out.length (hfinal c h (.ref id)).value ∧
    ∀ nd' ∈ (hfinal c h (.ref id)).out, itemsClosed (hfinal c h (.ref id)).out.length nd'.items := by
  have hid : id < h.length := (List.getElem?_eq_some_iff.1 hnd).1
  have hc := CInv_final c h (.ref id) hw hl hid
  obtain ⟨st', v, hr, hf⟩ := heap_remap_eq_rec c h id nd hnr hnd
  refine ⟨?_, hc.out⟩
  have hm := recRoot_result_registered c h id _ st' v hr
  have := hc.reg (id, v) (by rw [hf]; exact hm)
  rw [hf] at this ⊢
  exact this

example : HeapWF exTupleCycle ∧ HeapWF exShared ∧ LocalVisit copyH := by
  refine ⟨fun nd hnd kv hkv => ?_, fun nd hnd kv hkv => ?_, ?_⟩
  · simp only [exTupleCycle, List.mem_cons, List.not_mem_nil, or_false] at hnd
    rcases hnd with rfl | rfl <;> simp only [List.mem_cons, List.not_mem_nil, or_false] at hkv
    · rcases hkv with rfl | rfl <;> simp [objClosed, exTupleCycle]
    · subst hkv; simp [objClosed, exTupleCycle]
  · simp only [exShared, List.mem_cons, List.not_mem_nil, or_false] at hnd
    rcases hnd with rfl | rfl <;> simp only [List.mem_cons, List.not_mem_nil, or_false] at hkv
    · rcases hkv with rfl | rfl <;> simp [objClosed, exShared]
    · subst hkv; simp [objClosed]
  · intro out p k v k' v' hv; simp [copyH, hkeepVisit] at hv

/- Heap-level path clause (sharing and cycles included).  Full statement: every `(path, value)`
   reported for a nested item satisfies `hgetPath h root path = some value`; false because of
   sets (see `research_set_path_not_retrievable`).  Proved: every `enter` call that `remap` /
   `research` makes for a nested item — a shared object is reported once, under the path of its
   first encounter — is retrievable unless the path leads into a set / frozenset, for every heap
   whose dicts have distinct keys and whatever the visit callback does. -/
theorem heap_paths_correct_partial (c : HCfg) (h : Heap) (root : Obj) (hd : DictKeysNodup h)
    (e : Path × Key × Obj) (he : e ∈ nestedEnters (hfinal c h root))
    (hs : hsetOnPath h root (e.1 ++ [e.2.1]) = false) :
    hgetPath h root (e.1 ++ [e.2.1]) = some e.2.2 := by
  rw [hgetPath_eq_of_noSet h root _ hs]
  exact LogOK_final c h root hd e he

/-- non-vacuity: in `root = [x, x]`, `x = [7]` the item 7 is reported once, under path (0, 0) -/
example : DictKeysNodup exShared ∧
    ([.int 0], .int 0, Obj.atom (.int 7)) ∈ nestedEnters (hfinal copyH exShared (.ref 0)) ∧
    hsetOnPath exShared (.ref 0) [.int 0, .int 0] = false ∧
    (nestedEnters (hfinal copyH exShared (.ref 0))).length = 2 := by
  refine ⟨by simp [DictKeysNodup, exShared], by decide +kernel, by decide +kernel, by decide +kernel⟩


/-- every `(path, value)` that `research` reports is a nested item retrievable with `get_path` - unless its
    path leads into a set / frozenset (the known finding) - or is the root's own entry `((None,), root)`,
    which only an implementation that queries the root (`rootQ`) reports; whatever the query answers or
    raises, with and without re-raising. -/
theorem research_paths_correct_partial (rootQ reraise : Bool) (q : Path → Key → Val → Option Bool)
    (kd : Kind) (its : Items) (hw : WFKeys (.node kd its)) (l : List (Path × Val))
    (hr : research rootQ q reraise (.node kd its) = some l) (pv : Path × Val) (hm : pv ∈ l) :
    (rootQ = true ∧ pv = ([.none], .node kd its)) ∨
    (setOnPath (.node kd its) pv.1 = false → getPath (.node kd its) pv.1 = some pv.2) := by
  obtain ⟨e, he, _, rfl⟩ := researchRun_mem q reraise _ l hr pv hm
  simp only [researchCalls, List.mem_append] at he
  rcases he with he | he
  · left
    cases rootQ with
    | false => simp at he
    | true => simp at he; subst he; simp
  · right
    intro hs
    exact nested_paths_retrievable kd its hw e he hs

/-- the two conventions differ by the root's own entry and nothing else: when both calls return, the one
    that queries the root reports what the other reports, preceded by `((None,), root)` if the query is
    truthy on the root -/
theorem research_root_convention (reraise : Bool) (q : Path → Key → Val → Option Bool) (root : Val)
    (l0 l1 : List (Path × Val))
    (h0 : research false q reraise root = some l0) (h1 : research true q reraise root = some l1) :
    l1 = l0 ∨ l1 = ([.none], root) :: l0 := by
  simp only [research, researchCalls, if_true, List.singleton_append, Bool.false_eq_true, if_false,
    List.nil_append] at h0 h1
  simp only [researchRun] at h1
  split at h1
  · split at h1
    · simp at h1
    · left; rw [h0] at h1; injection h1 with h1; exact h1.symm
  · left; rw [h0] at h1; injection h1 with h1; exact h1.symm
  · right; rw [h0] at h1; simp at h1; exact h1.symm

theorem get_path_default (root : Val) (path : Path) (d : Val) :
    (∀ v, getPath root path = some v → getPathD root path d = v) ∧
    (getPath root path = none → getPathD root path d = d) := by
  constructor
  · intro v h; simp [getPathD, h]
  · intro h; simp [getPathD, h]


/-- non-vacuity: on `{'k': [7, (None,)]}` a query that raises on ints and is truthy otherwise, not
    re-raised, reports the three non-int nested items; re-raised, the call fails; the root convention
    adds `((None,), root)` in front -/
example :
    (research false (fun _ _ v => match v with | .leaf (.int _) => none | _ => some true) false exP).map
        (fun l => l.map Prod.fst) = some [[.str "k"], [.str "k", .int 1], [.str "k", .int 1, .int 0]] ∧
    (research false (fun _ _ v => match v with | .leaf (.int _) => none | _ => some true) true exP).isNone ∧
    (research true (fun _ _ _ => some true) true exP).map (fun l => l.map Prod.fst) =
      some [[.none], [.str "k"], [.str "k", .int 0], [.str "k", .int 1], [.str "k", .int 1, .int 0]] := by
  refine ⟨by rfl, by rfl, by rfl⟩

/-- `remap`'s first `enter` call is the root's own (empty path, key `None`), whatever the heap and the
    visit callback: this is the call an implementation of `research` may or may not hand to the query -/
theorem remap_enters_root_first (c : HCfg) (h : Heap) (root : Obj) :
    ∀ e ∈ (enterLog (hfinal c h root).trace).take 1, e = ([], Atom.none, root) := by
  intro e he
  rcases FirstEnter_final c h root with hf | hf
  · rw [hf] at he; simp [hinit, enterLog] at he
  · rw [hf] at he; simpa using he

/-- heap level (sharing and cycles included): every `(path, value)` that `research` reports is retrievable
    with `get_path` unless the path leads into a set / frozenset, or is the root's own entry -/
theorem hresearch_paths_correct_partial (rootQ reraise : Bool) (q : Path → Key → Obj → Option Bool)
    (h : Heap) (root : Obj) (hd : DictKeysNodup h) (l : List (Path × Obj))
    (hr : hresearch rootQ q reraise h root = some l) (pv : Path × Obj) (hm : pv ∈ l) :
    (rootQ = true ∧ pv = ([.none], root)) ∨
    (hsetOnPath h root pv.1 = false → hgetPath h root pv.1 = some pv.2) := by
  obtain ⟨e, he, _, rfl⟩ := researchRun_mem q reraise _ l hr pv hm
  simp only [hresearchCalls, List.mem_append] at he
  rcases he with he | he
  · left
    cases rootQ with
    | false => simp at he
    | true =>
      refine ⟨rfl, ?_⟩
      simp only [if_true] at he
      rw [remap_enters_root_first _ h root e he]; rfl
  · right
    exact heap_paths_correct_partial _ h root hd e he

example : (hresearch true (fun _ _ _ => some true) false exShared (.ref 0)).map (fun l => l.map Prod.fst) =
    some [[.none], [.int 0], [.int 0, .int 0]] := by decide +kernel

/-- For ARBITRARY `enter`, `visit` and `exit` callbacks (an `enter` that refuses to traverse, prunes,
    reorders or invents items and new parents; an `exit` that builds anything from path, key, old
    parent, new parent and new items): whenever the bottom-up recursion `gRoot` returns - a value or the
    `TypeError` for a root that `enter` does not traverse - `remap`'s explicit-stack loop returns exactly
    that after finitely many iterations, and keeps returning it however long it is run. -/
theorem custom_callbacks_loop_eq_rec (c : GCfg) (n : Nat) (root : Val) (r : GRes)
    (hr : gRoot c n root = some r) :
    ∃ m, ∀ m', m ≤ m' → gRemapIter c m' root = some r :=
  gRemapIter_eq_gRoot c n root r hr

/-- non-vacuity: `{'a': [1, frozenset({None})], None: ()}` with tuples not traversed and an exit that
    returns `(key, len(old_parent), default_exit(...))`: the recursion returns -/
example : ∃ v, gRoot (progCfg (.skipKind .tuple) [] .keyOld) 12 exT = some (.ok v) := ⟨_, rfl⟩

/-- an `enter` that does not traverse the root: `TypeError`, from the recursion and from the loop -/
example : gRoot (progCfg (.depthLimit 0) [] .dflt) 1 exT = some .typeError ∧
    ∃ m, ∀ m', m ≤ m' → gRemapIter (progCfg (.depthLimit 0) [] .dflt) m' exT = some .typeError :=
  ⟨rfl, custom_callbacks_loop_eq_rec _ 1 _ _ rfl⟩

/-- `remap(..., trace=t)` returns what `remap(...)` returns, for every selection `t` of traced events,
    ARBITRARY enter / visit / exit callbacks, every root and every number of loop iterations -/
theorem trace_does_not_change_result (c : GCfg) (t : TraceSel) (m : Nat) (root : Val) :
    (gRemapIterT c t m root).1 = gRemapIter c m root := by
  simp only [gRemapIterT, gRemapIter, grunT_fst]

/-- with tracing off (the default `()`, `False`, or only unknown event names) nothing is printed -/
theorem trace_off_prints_nothing (c : GCfg) (m : Nat) (root : Val) :
    (gRemapIterT c .off m root).2 = [] :=
  grunT_off_snd c m _ []

theorem traced_loop_eq_rec (c : GCfg) (t : TraceSel) (n : Nat) (root : Val) (r : GRes)
    (hr : gRoot c n root = some r) :
    ∃ m, ∀ m', m ≤ m' → (gRemapIterT c t m' root).1 = some r := by
  obtain ⟨m, hm⟩ := custom_callbacks_loop_eq_rec c n root r hr
  exact ⟨m, fun m' h => by rw [trace_does_not_change_result]; exact hm m' h⟩

/-- non-vacuity: `{'a': [1, frozenset({None})], None: ()}` with `trace=True` prints 34 lines, with
    `trace='exit'` 8 (four containers), with `trace='enter'` 16 - and the traced loop returns -/
example : (gRemapIterT (dflt keepVisit) .all 40 exT).2.length = 34 ∧
    (gRemapIterT (dflt keepVisit) ⟨false, false, true⟩ 40 exT).2.length = 8 ∧
    (gRemapIterT (dflt keepVisit) ⟨true, false, false⟩ 40 exT).2.length = 16 ∧
    (gRemapIterT (dflt keepVisit) .all 40 exT).1.isSome = true := by
  decide +kernel

/-- the generic model specialises to the main one: with `default_enter` / `default_exit` plugged in,
    the generic recursion (fuel > size) is the bottom-up rebuild `remapRec` of `remap_eq_rec` -/
theorem custom_callbacks_generalise_default (vf : VisitFn Val) (kd : Kind) (its : Items) (n : Nat)
    (hn : isize its < n) :
    gRoot (dflt vf) n (.node kd its) = some (.ok (remapRec ⟨vf, defaultExit⟩ (.node kd its))) := by
  have := gItems_default vf its n [] kd 0 hn
  simp only [dflt] at this
  simp [gRoot, dflt, defaultEnterG, this, remapRec, defaultExitG, defaultExit]


/-! ## facts regenerated from the current source on every run (`Generated/C08_Facts.lean`)

`regen()` EVALUATES `default_enter`, `default_exit`, `remap` and `research` of the current source on fixed
samples (one per leaf class and container kind) and writes the resulting tables; the theorems below
re-establish, on every run, that the model's built-in default callbacks produce exactly those tables.
An equivalent rewrite of the source gives the same tables (nothing is pattern-matched). -/

def keyTok : Atom → String
  | .none => "n"
  | .int i => "i" ++ toString i
  | .str s => "s:" ++ s
  | _ => "?"

def kindTok : Kind → String
  | .dict => "D" | .list => "L" | .tuple => "T" | .set => "S" | .fset => "F"

/-- `{'a': 5, None: 6}` / `[5, 6]` / `(5, 6)` / `{5, 6}` / `frozenset({5, 6})` -/
def twoItems (kd : Kind) : Val :=
  .node kd (.cons (.str "a") (.leaf (.int 5)) (.cons .none (.leaf (.int 6)) .nil))

def enterSamples : List (String × Val) :=
  [("none", .leaf .none), ("int", .leaf (.int 5)), ("str", .leaf (.str "ab")), ("bytes", .leaf (.bytes [97, 98])),
   ("float", .leaf (.float 3)), ("bool", .leaf (.bool true)), ("other", .leaf (.other 0)),
   ("dict", twoItems .dict), ("list", twoItems .list), ("tuple", twoItems .tuple), ("set", twoItems .set),
   ("fset", twoItems .fset)]

/-- what the model's `default_enter` does on the samples, in the format of `Gen.enterTable` -/
def modelEnterTable : List (String × Bool × String × List String) :=
  enterSamples.map fun s =>
    match defaultEnterG [] .none s.2 with
    | none => (s.1, false, "", [])
    | some (.node kd its, items) => (s.1, its.length == 0, kindTok kd, items.map fun kv => keyTok kv.1)
    | some (.leaf _, _) => (s.1, false, "?", [])

/-- `default_enter` of the current source, evaluated on one sample per leaf class and container kind,
    does what the model's does: scalars (str and bytes included) are not traversed; a container gives an
    empty container of its own class, dict items under their own keys, the members of sequences and
    sets under 0, 1, … -/
theorem default_enter_table_matches_model : Gen.enterTable = modelEnterTable := by decide +kernel

mutual
def plainT : Val → String
  | .leaf a => keyTok a
  | .node kd its => kindTok kd ++ "[" ++ plainIts (kd == .dict) true its ++ "]"
def plainIts (isDict first : Bool) : Items → String
  | .nil => ""
  | .cons k v r =>
    (if first then "" else ",") ++ (if isDict then keyTok k ++ "=" else "") ++ plainT v ++ plainIts isDict false r
end

/-- new items with a repeated key: `[(0, 5), (1, 6), (0, 7)]` -/
def exitSampleItems : List (Key × Val) := [(.int 0, .leaf (.int 5)), (.int 1, .leaf (.int 6)), (.int 0, .leaf (.int 7))]

def modelExitTable : List (String × String) :=
  [("dict", Kind.dict), ("list", .list), ("tuple", .tuple), ("set", .set), ("fset", .fset)].map fun nk =>
    (nk.1, plainT (defaultExit [] .none (.node nk.2 .nil) exitSampleItems))

/-- `default_exit` of the current source on an empty new parent of each kind: a container of the new
    parent's class; a dict keeps the position of a repeated key and takes its last value; sequences and
    sets take the values in order and ignore the keys -/
theorem default_exit_table_matches_model : Gen.exitTable = modelExitTable := by decide +kernel

/-- the keyword defaults the harness relies on when it calls without them: a raising visit propagates
    (`reraise_visit=True`, cf. `copyH`), a raising query does not (`reraise=False`) -/
theorem keyword_defaults_match_model :
    Gen.reraiseVisitDefault = copyH.reraise ∧ Gen.researchReraiseDefault = false := by decide

end C08
