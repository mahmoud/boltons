import BoltonsVerif.C08.Model
/-
C08 — lemmas behind `Props.lean`: for each property the invariant of the machine or the induction that carries it.
At heap level an invariant is proved by cases on `HStep` (what one iteration of `hstep` can be) and carried to `hfinal`
by `IsRun.induct`.
-/
namespace C08

/-! ## the three loops are one iteration of a partial step -/

/-- `r n` makes at most `n` steps of `f` and stops where `f` gives nothing: the shape of `run`, `grun` and `hrun` -/
structure IsRun {α : Type} (f : α → Option α) (r : Nat → α → α) : Prop where
  zero : ∀ s, r 0 s = s
  halt : ∀ n s, f s = none → r (n + 1) s = s
  next : ∀ n s s', f s = some s' → r (n + 1) s = r n s'

theorem run_isRun (c : Cfg) : IsRun (step c) (run c) :=
  ⟨fun _ => rfl, fun _ _ h => by simp [run, h], fun _ _ _ h => by simp [run, h]⟩
theorem grun_isRun (c : GCfg) : IsRun (gstep c) (grun c) :=
  ⟨fun _ => rfl, fun _ _ h => by simp [grun, h], fun _ _ _ h => by simp [grun, h]⟩
theorem hrun_isRun (c : HCfg) (h : Heap) (root : Obj) : IsRun (hstep c h root) (hrun c h root) :=
  ⟨fun _ => rfl, fun _ _ h => by simp [hrun, h], fun _ _ _ h => by simp [hrun, h]⟩

inductive Reaches {α : Type} (f : α → Option α) : α → α → Prop
  | refl (s : α) : Reaches f s s
  | head {s s' e : α} : f s = some s' → Reaches f s' e → Reaches f s e

namespace Reaches
variable {α : Type} {f : α → Option α}

theorem single {s s' : α} (h : f s = some s') : Reaches f s s' := .head h (.refl s')

theorem trans {a b c : α} (h1 : Reaches f a b) (h2 : Reaches f b c) : Reaches f a c := by
  induction h1 with
  | refl => exact h2
  | head h _ ih => exact .head h (ih h2)

end Reaches

namespace IsRun
variable {α : Type} {f : α → Option α} {r : Nat → α → α} (hr : IsRun f r)
include hr

theorem stuck {s : α} (h : f s = none) (m : Nat) : r m s = s := by
  cases m with
  | zero => exact hr.zero s
  | succ n => exact hr.halt n s h

theorem add (a b : Nat) (s : α) : r (a + b) s = r b (r a s) := by
  induction a generalizing s with
  | zero => rw [Nat.zero_add, hr.zero]
  | succ n ih =>
    rw [Nat.succ_add]
    cases h : f s with
    | none => rw [hr.halt _ s h, hr.halt _ s h, hr.stuck h]
    | some s' => rw [hr.next _ s s' h, hr.next _ s s' h]; exact ih s'

theorem induct (P : α → Prop) (hstp : ∀ s s', P s → f s = some s' → P s') (n : Nat) (s : α) (hs : P s) :
    P (r n s) := by
  induction n generalizing s with
  | zero => rw [hr.zero]; exact hs
  | succ n ih =>
    cases h : f s with
    | none => rw [hr.halt n s h]; exact hs
    | some s' => rw [hr.next n s s' h]; exact ih s' (hstp s s' hs h)

theorem of_reaches {s e : α} (h : Reaches f s e) : ∃ m, r m s = e := by
  induction h with
  | refl s => exact ⟨0, hr.zero s⟩
  | head h _ ih => obtain ⟨m, hm⟩ := ih; exact ⟨m + 1, by rw [hr.next m _ _ h, hm]⟩

theorem eq_of_halted {s e : α} (h : Reaches f s e) (he : f e = none) (b : Nat) (hb : f (r b s) = none) :
    r b s = e := by
  obtain ⟨m, hm⟩ := hr.of_reaches h
  have h1 : r (m + b) s = e := by rw [hr.add, hm, hr.stuck he]
  have h2 : r (b + m) s = r b s := by rw [hr.add, hr.stuck hb]
  rw [← h2, Nat.add_comm, h1]

end IsRun

/-! ## the list functions behind `default_exit`: `renumber`, `dictUpdate`, `dedupBy`, and `buildItems` made of them -/

theorem renumber_keys_ge {V : Type} (l : List V) (i : Nat) :
    ∀ k ∈ (renumber i l).map Prod.fst, ∃ j, i ≤ j ∧ k = .int j := by
  induction l generalizing i with
  | nil => simp [renumber]
  | cons v r ih =>
    simp only [renumber, List.map_cons, List.mem_cons]
    rintro k (rfl | hk)
    · exact ⟨i, Nat.le_refl _, rfl⟩
    · obtain ⟨j, hj, he⟩ := ih (i + 1) k hk; exact ⟨j, by omega, he⟩

theorem renumber_keys_nodup {V : Type} (l : List V) (i : Nat) : ((renumber i l).map Prod.fst).Nodup := by
  induction l generalizing i with
  | nil => simp [renumber]
  | cons v r ih =>
    simp only [renumber, List.map_cons, List.nodup_cons]
    refine ⟨fun hm => ?_, ih (i + 1)⟩
    obtain ⟨j, hj, he⟩ := renumber_keys_ge r (i + 1) _ hm
    injection he with he; omega

theorem renumber_vals {V : Type} (P : V → Prop) (l : List V) (i : Nat) (hl : ∀ v ∈ l, P v) :
    ∀ kv ∈ renumber i l, P kv.2 := by
  induction l generalizing i with
  | nil => simp [renumber]
  | cons x r ih =>
    intro kv h
    simp only [renumber, List.mem_cons] at h
    rcases h with h | h
    · subst h; exact hl x (by simp)
    · exact ih (i + 1) (fun v hv => hl v (by simp [hv])) kv h

theorem dictInsert_fresh {V : Type} (k : Key) (v : V) (acc : List (Key × V))
    (h : k ∉ acc.map Prod.fst) : dictInsert k v acc = acc ++ [(k, v)] := by
  induction acc with
  | nil => rfl
  | cons x r ih =>
    obtain ⟨k', v'⟩ := x
    simp only [List.map_cons, List.mem_cons, not_or] at h
    have hne : k' ≠ k := fun he => h.1 he.symm
    simp [dictInsert, hne, ih h.2]

theorem dictUpdate_nodup {V : Type} (acc l : List (Key × V))
    (h : ((acc ++ l).map Prod.fst).Nodup) : dictUpdate acc l = acc ++ l := by
  induction l generalizing acc with
  | nil => simp [dictUpdate]
  | cons x r ih =>
    obtain ⟨k, v⟩ := x
    have hk : k ∉ acc.map Prod.fst := by
      intro hm
      simp only [List.map_append, List.map_cons] at h
      have := (List.nodup_append.1 h).2.2 k hm k (by simp)
      exact this rfl
    simp only [dictUpdate, dictInsert_fresh k v acc hk]
    rw [ih (acc ++ [(k, v)]) (by simpa [List.append_assoc] using h)]
    simp

theorem dictInsert_vals {V : Type} (k : Key) (v : V) (acc : List (Key × V)) :
    ∀ kv ∈ dictInsert k v acc, kv.2 = v ∨ kv ∈ acc := by
  induction acc with
  | nil => intro kv h; simp [dictInsert] at h; simp [h]
  | cons x r ih =>
    obtain ⟨k', v'⟩ := x
    intro kv h
    simp only [dictInsert] at h
    split at h
    · simp only [List.mem_cons] at h
      rcases h with h | h
      · left; simp [h]
      · right; simp [h]
    · simp only [List.mem_cons] at h
      rcases h with h | h
      · right; simp [h]
      · rcases ih kv h with h' | h'
        · left; exact h'
        · right; simp [h']

theorem dictUpdate_vals {V : Type} (P : V → Prop) (acc l : List (Key × V))
    (ha : ∀ kv ∈ acc, P kv.2) (hl : ∀ kv ∈ l, P kv.2) : ∀ kv ∈ dictUpdate acc l, P kv.2 := by
  induction l generalizing acc with
  | nil => simpa [dictUpdate] using ha
  | cons x r ih =>
    obtain ⟨k, v⟩ := x
    simp only [dictUpdate]
    apply ih
    · intro kv hkv
      rcases dictInsert_vals k v acc kv hkv with h | h
      · rw [h]; exact hl (k, v) (by simp)
      · exact ha kv h
    · intro kv hkv; exact hl kv (by simp [hkv])

theorem memBy_false {V : Type} (eq : V → V → Bool) (x : V) (acc : List V)
    (h : ∀ y ∈ acc, eq y x = false) : memBy eq x acc = false := by
  induction acc with
  | nil => rfl
  | cons y r ih =>
    simp only [memBy, Bool.or_eq_false_iff]
    exact ⟨h y (by simp), ih fun z hz => h z (by simp [hz])⟩

theorem dedupBy_distinct {V : Type} (eq : V → V → Bool) (acc l : List V)
    (h : (acc ++ l).Pairwise fun a b => eq a b = false) : dedupBy eq acc l = acc ++ l := by
  induction l generalizing acc with
  | nil => simp [dedupBy]
  | cons x r ih =>
    have hx : memBy eq x acc = false := by
      apply memBy_false
      intro y hy
      exact (List.pairwise_append.1 h).2.2 y hy x (by simp)
    simp only [dedupBy, hx, Bool.false_eq_true, if_false]
    rw [ih (acc ++ [x]) (by simpa [List.append_assoc] using h)]
    simp

theorem dedupBy_vals {V : Type} (eq : V → V → Bool) (P : V → Prop) (acc l : List V)
    (ha : ∀ v ∈ acc, P v) (hl : ∀ v ∈ l, P v) : ∀ v ∈ dedupBy eq acc l, P v := by
  induction l generalizing acc with
  | nil => simpa [dedupBy] using ha
  | cons x r ih =>
    simp only [dedupBy]
    split
    · exact ih acc ha (fun v hv => hl v (by simp [hv]))
    · apply ih
      · intro v hv
        simp only [List.mem_append, List.mem_singleton] at hv
        rcases hv with hv | hv
        · exact ha v hv
        · subst hv; exact hl v (by simp)
      · exact fun v hv => hl v (by simp [hv])

/-- `default_exit` invents no value: whatever holds of the values of the new items holds of those of the container -/
theorem buildItems_vals {V : Type} (P : V → Prop) (eq : V → V → Bool) (kd : Kind) (items : List (Key × V))
    (hi : ∀ kv ∈ items, P kv.2) : ∀ kv ∈ buildItems eq kd items, P kv.2 := by
  have hv : ∀ v ∈ items.map Prod.snd, P v := by
    intro v hv
    simp only [List.mem_map] at hv
    obtain ⟨kv, hkv, rfl⟩ := hv
    exact hi kv hkv
  cases kd with
  | dict => exact dictUpdate_vals P [] items (by simp) hi
  | list | tuple => exact renumber_vals P _ 0 hv
  | set | fset => exact renumber_vals P _ 0 (dedupBy_vals eq P [] _ (by simp) hv)

/-! ## tree level: machine = recursion -/

theorem vsize_pos : (v : Val) → 1 ≤ vsize v
  | .leaf _ => by simp [vsize]
  | .node _ _ => by simp [vsize]; omega

-- processing one (non-root) item appends exactly its visited rebuild to the parent's accumulator,
-- and logs exactly the pre-order enter calls of that item
mutual
theorem sim_val (c : Cfg) (k : Key) (v : Val) (rest : List Frame) (p pp : Path)
    (acc : List (Key × Val)) (nr : List (Path × List (Key × Val))) (val : Val)
    (lg : List (Path × Key × Val)) :
    ∃ val', run c (vsize v) ⟨.item k v :: rest, p, (pp, acc) :: nr, val, lg⟩ =
      ⟨rest, p, (pp, acc ++ applyVisit c.vf p k (rebuildChild c p k v)) :: nr, val',
       lg ++ preLog p k v⟩ := by
  cases v with
  | leaf a => exact ⟨.leaf a, by simp [run, step, vsize, rebuildChild, preLog]⟩
  | node kd its =>
    obtain ⟨val1, h1⟩ := sim_items c kd 0 its (.exit k (.node kd its) :: rest) (p ++ [k]) p []
      ((pp, acc) :: nr) val (lg ++ [(p, k, .node kd its)])
    refine ⟨c.ex p k (.node kd its) (rebuildItems c (p ++ [k]) kd 0 its), ?_⟩
    have : vsize (.node kd its) = 1 + (isize its + 1) := by simp [vsize]; omega
    rw [this, (run_isRun c).add, (run_isRun c).add]
    simp only [run, step]
    rw [h1]
    simp [rebuildChild, preLog]
theorem sim_items (c : Cfg) (kd : Kind) (i : Nat) (its : Items) (rest : List Frame) (p pp : Path)
    (acc : List (Key × Val)) (nr : List (Path × List (Key × Val))) (val : Val)
    (lg : List (Path × Key × Val)) :
    ∃ val', run c (isize its) ⟨pushItems kd i its rest, p, (pp, acc) :: nr, val, lg⟩ =
      ⟨rest, p, (pp, acc ++ rebuildItems c p kd i its) :: nr, val', lg ++ preLogItems p kd i its⟩ := by
  cases its with
  | nil => exact ⟨val, by simp [run, isize, pushItems, rebuildItems, preLogItems]⟩
  | cons k v r =>
    obtain ⟨v1, h1⟩ := sim_val c (effKey kd i k) v (pushItems kd (i + 1) r rest) p pp acc nr val lg
    obtain ⟨v2, h2⟩ := sim_items c kd (i + 1) r rest p pp
      (acc ++ applyVisit c.vf p (effKey kd i k) (rebuildChild c p (effKey kd i k) v)) nr v1
      (lg ++ preLog p (effKey kd i k) v)
    refine ⟨v2, ?_⟩
    simp only [isize, pushItems, (run_isRun c).add, h1, h2, rebuildItems, preLogItems, List.append_assoc]
end

theorem remapFinal_eq (c : Cfg) (kd : Kind) (its : Items) :
    remapFinal c kd its =
      ⟨[], [], [], remapRec c (.node kd its), ([], .none, .node kd its) :: nestedLog (.node kd its)⟩ := by
  obtain ⟨v1, h1⟩ := sim_items c kd 0 its [.exit .none (.node kd its)] [] [] [] [] (.leaf .none)
    [([], .none, .node kd its)]
  simp only [remapFinal, initRoot, (run_isRun c).add, h1]
  simp [run, step, remapRec, nestedLog]

/-! ## tree level: research paths are retrievable with get_path -/

def keysOf (kd : Kind) (i : Nat) : Items → List Key
  | .nil => []
  | .cons k _ r => effKey kd i k :: keysOf kd (i + 1) r

mutual
/-- the keys of every dict are pairwise distinct (a fact about every Python dict) -/
def WFKeys : Val → Prop
  | .leaf _ => True
  | .node kd its => (kd = .dict → (keysOf kd 0 its).Nodup) ∧ WFKeysItems its
def WFKeysItems : Items → Prop
  | .nil => True
  | .cons _ v r => WFKeys v ∧ WFKeysItems r
end

theorem keysOf_seq (kd : Kind) (hk : kd ≠ .dict) : (its : Items) → (i : Nat) →
    keysOf kd i its = (renumber i (its.toList.map Prod.snd)).map Prod.fst
  | .nil, i => rfl
  | .cons k v r, i => by simp [keysOf, Items.toList, renumber, effKey, hk, keysOf_seq kd hk r (i + 1)]

theorem keysOf_nodup (kd : Kind) (its : Items) (h : kd = .dict → (keysOf kd 0 its).Nodup) :
    (keysOf kd 0 its).Nodup := by
  by_cases hk : kd = .dict
  · exact h hk
  · rw [keysOf_seq kd hk]; exact renumber_keys_nodup _ 0

theorem lookupItems_mem (kd : Kind) (seg : Atom) : (its : Items) → (i : Nat) → (c : Val) →
    lookupItems kd i seg its = some c → seg ∈ keysOf kd i its
  | .nil, i, c, h => by simp [lookupItems] at h
  | .cons k v r, i, c, h => by
    simp only [lookupItems] at h
    split at h
    · rename_i he; simp [keysOf, he]
    · simp [keysOf, lookupItems_mem kd seg r (i + 1) c h]

theorem getPath_cons_of_lookup (kd : Kind) (its : Items) (seg : Atom) (q : Path) (c v : Val)
    (h2 : lookupItems kd 0 seg its = some c) (h3 : setOnPath c q = false → getPath c q = some v)
    (hs : setOnPath (.node kd its) (seg :: q) = false) : getPath (.node kd its) (seg :: q) = some v := by
  simp only [setOnPath] at hs
  split at hs
  · simp at hs
  · rename_i hset
    rw [h2] at hs
    simp only [Bool.not_eq_true] at hset
    simp [getPath, getChild, hset, h2, h3 hs]

mutual
theorem preLog_retrievable (v : Val) (p : Path) (k : Key) (e : Path × Key × Val) (hw : WFKeys v)
    (he : e ∈ preLog p k v) :
    ∃ q, e.1 ++ [e.2.1] = p ++ [k] ++ q ∧ (setOnPath v q = false → getPath v q = some e.2.2) := by
  cases v with
  | leaf a =>
    simp only [preLog, List.mem_singleton] at he
    subst he
    exact ⟨[], by simp, by simp [getPath]⟩
  | node kd its =>
    simp only [preLog, List.mem_cons] at he
    rcases he with he | he
    · subst he
      exact ⟨[], by simp, by simp [getPath]⟩
    · simp only [WFKeys] at hw
      obtain ⟨seg, q, c, h1, h2, h3⟩ := preLogItems_retrievable its kd 0 (p ++ [k]) e hw.2 (keysOf_nodup kd its hw.1) he
      exact ⟨seg :: q, by simpa using h1, getPath_cons_of_lookup kd its seg q c e.2.2 h2 h3⟩
theorem preLogItems_retrievable (its : Items) (kd : Kind) (i : Nat) (p : Path) (e : Path × Key × Val)
    (hw : WFKeysItems its) (hn : (keysOf kd i its).Nodup) (he : e ∈ preLogItems p kd i its) :
    ∃ seg q c, e.1 ++ [e.2.1] = p ++ seg :: q ∧ lookupItems kd i seg its = some c ∧
      (setOnPath c q = false → getPath c q = some e.2.2) := by
  cases its with
  | nil => simp [preLogItems] at he
  | cons k v r =>
    simp only [preLogItems, List.mem_append] at he
    simp only [WFKeysItems] at hw
    simp only [keysOf, List.nodup_cons] at hn
    rcases he with he | he
    · obtain ⟨q, h1, h2⟩ := preLog_retrievable v p (effKey kd i k) e hw.1 he
      exact ⟨effKey kd i k, q, v, by simpa using h1, by simp [lookupItems], h2⟩
    · obtain ⟨seg, q, c, h1, h2, h3⟩ := preLogItems_retrievable r kd (i + 1) p e hw.2 hn.2 he
      refine ⟨seg, q, c, h1, ?_, h3⟩
      have hne : effKey kd i k ≠ seg := by
        intro heq
        exact hn.1 (heq ▸ lookupItems_mem kd seg r (i + 1) c h2)
      simp [lookupItems, hne, h2]
end

theorem nested_paths_retrievable (kd : Kind) (its : Items) (hw : WFKeys (.node kd its))
    (e : Path × Key × Val) (he : e ∈ nestedLog (.node kd its))
    (hs : setOnPath (.node kd its) (e.1 ++ [e.2.1]) = false) :
    getPath (.node kd its) (e.1 ++ [e.2.1]) = some e.2.2 := by
  simp only [nestedLog] at he
  simp only [WFKeys] at hw
  obtain ⟨seg, q, c, h1, h2, h3⟩ := preLogItems_retrievable its kd 0 [] e hw.2 (keysOf_nodup kd its hw.1) he
  simp only [List.nil_append] at h1
  rw [h1] at hs ⊢
  exact getPath_cons_of_lookup kd its seg q c e.2.2 h2 h3 hs

/-! ## tree level: the default callbacks give an equal copy -/

def DistinctBy (eq : Val → Val → Bool) (l : List Val) : Prop := l.Pairwise fun a b => eq a b = false

mutual
/-- canonical form of a Python value: dict keys pairwise distinct, sequence items numbered
    0, 1, 2, …, set members pairwise not `==` -/
def Canon : Val → Prop
  | .leaf _ => True
  | .node kd its =>
    CanonItems its ∧
    (kd = .dict → (its.toList.map Prod.fst).Nodup) ∧
    (kd ≠ .dict → its.toList = renumber 0 (its.toList.map Prod.snd)) ∧
    (kd.isSet = true → DistinctBy valEqPy (its.toList.map Prod.snd))
def CanonItems : Items → Prop
  | .nil => True
  | .cons _ v r => Canon v ∧ CanonItems r
end

theorem enumT_snd (kd : Kind) : (its : Items) → (i : Nat) →
    (enumT kd i its).map Prod.snd = its.toList.map Prod.snd
  | .nil, i => rfl
  | .cons k v r, i => by simp [enumT, Items.toList, enumT_snd kd r (i + 1)]

theorem enumT_dict : (its : Items) → (i : Nat) → enumT .dict i its = its.toList
  | .nil, i => rfl
  | .cons k v r, i => by simp [enumT, Items.toList, effKey, enumT_dict r (i + 1)]

theorem ofList_toList : (its : Items) → ofList its.toList = its
  | .nil => rfl
  | .cons k v r => by simp [Items.toList, ofList, ofList_toList r]

theorem toList_ofList : (l : List (Key × Val)) → (ofList l).toList = l
  | [] => rfl
  | (k, v) :: r => by simp [ofList, Items.toList, toList_ofList r]

def copyCfg : Cfg := ⟨keepVisit, defaultExit⟩

theorem Canon.items {kd : Kind} {its : Items} (hc : Canon (.node kd its)) : CanonItems its := by
  simp only [Canon] at hc; exact hc.1

/-- `default_exit` builds a canonical container again from its own items as `default_enter` hands them out: each of
    the three clauses of `Canon` makes one of `dictUpdate`, `renumber`, `dedupBy` the identity -/
theorem defaultExit_enumT (p : Path) (k : Key) {kd : Kind} {its : Items} (hc : Canon (.node kd its)) :
    defaultExit p k (.node kd its) (enumT kd 0 its) = .node kd its := by
  simp only [Canon] at hc
  obtain ⟨-, hd, hs, hq⟩ := hc
  simp only [defaultExit]
  congr 1
  cases kd with
  | dict =>
    simp only [buildItems, enumT_dict]
    rw [dictUpdate_nodup [] its.toList (by simpa using hd rfl)]
    simpa using ofList_toList its
  | list | tuple =>
    simp only [buildItems, enumT_snd]
    rw [← hs (by decide)]; exact ofList_toList its
  | set | fset =>
    simp only [buildItems, enumT_snd]
    rw [dedupBy_distinct valEqPy [] _ (by simpa [DistinctBy] using hq rfl)]
    simp only [List.nil_append]
    rw [← hs (by decide)]; exact ofList_toList its

mutual
theorem copy_val (p : Path) (k : Key) (v : Val) (hc : Canon v) : rebuildChild copyCfg p k v = v := by
  cases v with
  | leaf a => rfl
  | node kd its =>
    simp only [rebuildChild, copy_items (p ++ [k]) kd 0 its hc.items]
    exact defaultExit_enumT p k hc
theorem copy_items (p : Path) (kd : Kind) (i : Nat) (its : Items) (hc : CanonItems its) :
    rebuildItems copyCfg p kd i its = enumT kd i its := by
  cases its with
  | nil => rfl
  | cons k v r =>
    simp only [CanonItems] at hc
    simp only [rebuildItems, copy_val p (effKey kd i k) v hc.1, copy_items p kd (i + 1) r hc.2, enumT]
    simp [applyVisit, copyCfg, keepVisit]
end

theorem remapRec_copy (t : Val) (hc : Canon t) : remapRec copyCfg t = t := by
  cases t with
  | leaf a => rfl
  | node kd its =>
    simp only [remapRec, copy_items [] kd 0 its hc.items]
    exact defaultExit_enumT [] .none hc

/-! ## tree level: filtering visitors keep dict keys in order -/

def FilterVisit (vf : VisitFn Val) : Prop := ∀ p k v, vf p k v = .keep ∨ vf p k v = .drop

theorem rebuildItems_keys_sublist (c : Cfg) (hf : FilterVisit c.vf) (p : Path) (kd : Kind) :
    (its : Items) → (i : Nat) → ((rebuildItems c p kd i its).map Prod.fst).Sublist (keysOf kd i its)
  | .nil, i => by simp [rebuildItems, keysOf]
  | .cons k v r, i => by
    have ih := rebuildItems_keys_sublist c hf p kd r (i + 1)
    simp only [rebuildItems, keysOf, List.map_append]
    rcases hf p (effKey kd i k) (rebuildChild c p (effKey kd i k) v) with h | h
    · simp only [applyVisit, h, List.map_cons, List.map_nil, List.singleton_append]
      exact ih.cons_cons _
    · simp only [applyVisit, h, List.map_nil, List.nil_append]
      exact ih.cons _

/-! ## research: members of a research result -/

theorem researchRun_mem {α : Type} (q : Path → Key → α → Option Bool) (reraise : Bool) :
    (calls : List (Path × Key × α)) → (l : List (Path × α)) → researchRun q reraise calls = some l →
    ∀ pv ∈ l, ∃ e ∈ calls, q e.1 e.2.1 e.2.2 = some true ∧ pv = (e.1 ++ [e.2.1], e.2.2)
  | [], l, h, pv, hm => by
    simp only [researchRun, Option.some.injEq] at h
    subst h; simp at hm
  | (p, k, v) :: r, l, h, pv, hm => by
    simp only [researchRun] at h
    split at h
    · split at h
      · simp at h
      · obtain ⟨e, he, h1, h2⟩ := researchRun_mem q reraise r l h pv hm
        exact ⟨e, List.mem_cons_of_mem _ he, h1, h2⟩
    · obtain ⟨e, he, h1, h2⟩ := researchRun_mem q reraise r l h pv hm
      exact ⟨e, List.mem_cons_of_mem _ he, h1, h2⟩
    · rename_i hq
      cases hr : researchRun q reraise r with
      | none => simp [hr] at h
      | some l' =>
        simp only [hr, Option.map_some, Option.some.injEq] at h
        subst h
        simp only [List.mem_cons] at hm
        rcases hm with hm | hm
        · exact ⟨(p, k, v), List.mem_cons_self, hq, hm⟩
        · obtain ⟨e, he, h1, h2⟩ := researchRun_mem q reraise r l' hr pv hm
          exact ⟨e, List.mem_cons_of_mem _ he, h1, h2⟩

/-! ## custom enter / exit callbacks: the loop computes the recursion -/

mutual
theorem gsimVal (c : GCfg) : (n : Nat) → ∀ (p : Path) (k : Key) (v v' : Val) (rest : List GFrame) (pp : Path)
    (acc : List (Key × Val)) (nr : List (Path × List (Key × Val))) (val : Val),
    gValue c n p k v = some v' →
    Reaches (gstep c) ⟨.item k v :: rest, p, (pp, acc) :: nr, val, false, false⟩
      ⟨rest, p, (pp, acc ++ applyVisit c.vf p k v') :: nr, v', false, false⟩
  | 0 => by intro p k v v' rest pp acc nr val hr; simp [gValue] at hr
  | n + 1 => by
    intro p k v v' rest pp acc nr val hr
    simp only [gValue] at hr
    split at hr
    · rename_i hen
      injection hr with hr; subst hr
      exact .single (by simp [gstep, hen])
    · rename_i np items hen
      split at hr
      · simp at hr
      · rename_i its hits
        injection hr with hr; subst hr
        obtain ⟨val', h2⟩ := gsimItems c n (p ++ [k]) items its (.exit k v np :: rest) p [] ((pp, acc) :: nr) val hits
        exact (Reaches.single (by simp [gstep, hen])).trans (h2.trans (.single (by simp [gstep])))
theorem gsimItems (c : GCfg) : (n : Nat) → ∀ (p : Path) (items its : List (Key × Val)) (rest : List GFrame) (pp : Path)
    (acc : List (Key × Val)) (nr : List (Path × List (Key × Val))) (val : Val),
    gItems c n p items = some its →
    ∃ val', Reaches (gstep c) ⟨gFrames items ++ rest, p, (pp, acc) :: nr, val, false, false⟩
      ⟨rest, p, (pp, acc ++ its) :: nr, val', false, false⟩
  | 0 => by intro p items its rest pp acc nr val hr; simp [gItems] at hr
  | n + 1 => by
    intro p items its rest pp acc nr val hr
    cases items with
    | nil =>
      simp only [gItems, Option.some.injEq] at hr
      subst hr
      exact ⟨val, by simpa [gFrames] using Reaches.refl _⟩
    | cons x r =>
      obtain ⟨k, v⟩ := x
      simp only [gItems] at hr
      split at hr
      · simp at hr
      · rename_i v' hv'
        split at hr
        · simp at hr
        · rename_i rest' hr'
          injection hr with hr; subst hr
          obtain ⟨val', h2⟩ := gsimItems c n p r rest' rest pp (acc ++ applyVisit c.vf p k v') nr v' hr'
          exact ⟨val', (gsimVal c n p k v v' (gFrames r ++ rest) pp acc nr val hv').trans
            (by simpa [List.append_assoc] using h2)⟩
end

theorem gRemapIter_of_halted (c : GCfg) (root : Val) (s : GSt) (hm : Reaches (gstep c) (ginit root) s)
    (hs : gstep c s = none) :
    ∃ m, ∀ m', m ≤ m' → gRemapIter c m' root =
      if s.err then some .typeError else if s.stack.isEmpty then some (.ok s.value) else none := by
  obtain ⟨m, hm⟩ := (grun_isRun c).of_reaches hm
  refine ⟨m, fun m' hle => ?_⟩
  obtain ⟨d, rfl⟩ := Nat.exists_eq_add_of_le hle
  simp only [gRemapIter]
  rw [(grun_isRun c).add, hm, (grun_isRun c).stuck hs]

theorem gRemapIter_eq_gRoot (c : GCfg) (n : Nat) (root : Val) (r : GRes) (hr : gRoot c n root = some r) :
    ∃ m, ∀ m', m ≤ m' → gRemapIter c m' root = some r := by
  unfold gRoot at hr
  split at hr
  · rename_i hen
    split at hr
    · rename_i hv
      injection hr with hr; subst hr
      exact gRemapIter_of_halted c root ⟨[], [], [], root, false, false⟩
        (.single (by simp [gstep, ginit, hen, hv])) (by simp [gstep])
    · rename_i hv
      injection hr with hr; subst hr
      exact gRemapIter_of_halted c root ⟨[], [], [], root, false, true⟩
        (.single (by simp [gstep, ginit, hen, hv])) (by simp [gstep])
  · rename_i np items hen
    split at hr
    · simp at hr
    · rename_i its hits
      injection hr with hr; subst hr
      obtain ⟨val', h2⟩ := gsimItems c n [] items its [.exit .none root np] [] [] [] root hits
      exact gRemapIter_of_halted c root ⟨[], [], [], c.ex [] .none root np its, false, false⟩
        ((Reaches.single (by simp [gstep, ginit, hen])).trans (h2.trans (.single (by simp [gstep])))) (by simp [gstep])

mutual
theorem gValue_default (vf : VisitFn Val) : (v : Val) → (n : Nat) → (p : Path) → (k : Key) → vsize v ≤ n →
    gValue (dflt vf) n p k v = some (rebuildChild ⟨vf, defaultExit⟩ p k v)
  | .leaf a, n, p, k, hn => by
    cases n with
    | zero => simp [vsize] at hn
    | succ m => simp [gValue, dflt, defaultEnterG, rebuildChild]
  | .node kd its, n, p, k, hn => by
    cases n with
    | zero => simp [vsize] at hn
    | succ m =>
      simp only [vsize] at hn
      have := gItems_default vf its m (p ++ [k]) kd 0 (by omega)
      simp only [dflt] at this
      simp [gValue, dflt, defaultEnterG, this, rebuildChild, defaultExitG, defaultExit]
theorem gItems_default (vf : VisitFn Val) : (its : Items) → (n : Nat) → (p : Path) → (kd : Kind) → (i : Nat) →
    isize its < n → gItems (dflt vf) n p (enumT kd i its) = some (rebuildItems ⟨vf, defaultExit⟩ p kd i its)
  | .nil, n, p, kd, i, hn => by
    cases n with
    | zero => omega
    | succ m => simp [gItems, enumT, rebuildItems]
  | .cons k v r, n, p, kd, i, hn => by
    cases n with
    | zero => omega
    | succ m =>
      simp only [isize] at hn
      have hv := vsize_pos v
      have h1 := gValue_default vf v m p (effKey kd i k) (by omega)
      have h2 := gItems_default vf r m p kd (i + 1) (by omega)
      simp only [dflt] at h1 h2
      simp [gItems, enumT, dflt, h1, h2, rebuildItems]
end

/-! ## heap level: `enumItems`, and `lookup` in the registry -/

theorem enumItems_length (kd : Kind) (l : List (Key × Obj)) (i : Nat) :
    (enumItems kd i l).length = l.length := by
  induction l generalizing i with
  | nil => rfl
  | cons x r ih => obtain ⟨a, b⟩ := x; simp [enumItems, ih]

theorem enumItems_dict (l : List (Key × Obj)) (i : Nat) : enumItems .dict i l = l := by
  induction l generalizing i with
  | nil => rfl
  | cons x r ih => obtain ⟨a, b⟩ := x; simp [enumItems, effKey, ih]

theorem enumItems_seq (kd : Kind) (hk : kd ≠ .dict) (l : List (Key × Obj)) (i : Nat) :
    enumItems kd i l = renumber i (l.map Prod.snd) := by
  induction l generalizing i with
  | nil => rfl
  | cons x r ih => obtain ⟨k, o⟩ := x; simp [enumItems, effKey, hk, renumber, ih]

theorem enumItems_vals (P : Obj → Prop) (kd : Kind) (l : List (Key × Obj)) (i : Nat)
    (hl : ∀ kv ∈ l, P kv.2) : ∀ kv ∈ enumItems kd i l, P kv.2 := by
  induction l generalizing i with
  | nil => simp [enumItems]
  | cons x r ih =>
    obtain ⟨a, b⟩ := x
    intro kv hkv
    simp only [enumItems, List.mem_cons] at hkv
    rcases hkv with h | h
    · subst h; exact hl (a, b) (by simp)
    · exact ih (i + 1) (fun kv' h' => hl kv' (by simp [h'])) kv h

theorem lookup_cons_none {id j : Nat} {o : Obj} {r : List (Nat × Obj)}
    (h : lookup id ((j, o) :: r) = none) : j ≠ id ∧ lookup id r = none := by
  simp only [lookup] at h
  split at h
  · simp at h
  · exact ⟨by assumption, h⟩

theorem lookup_cons_of_ne {id j : Nat} {o : Obj} {r : List (Nat × Obj)} (h : j ≠ id) :
    lookup id ((j, o) :: r) = lookup id r := by
  simp [lookup, h]

theorem lookup_cons_ne_none {id j : Nat} {o : Obj} {r : List (Nat × Obj)}
    (h : lookup id r ≠ none) : lookup id ((j, o) :: r) ≠ none :=
  fun hc => h (lookup_cons_none hc).2

theorem lookup_mem {id : Nat} {v : Obj} {r : List (Nat × Obj)} (h : lookup id r = some v) :
    ∃ j, (j, v) ∈ r := by
  induction r with
  | nil => simp [lookup] at h
  | cons x r ih =>
    obtain ⟨j, o⟩ := x
    simp only [lookup] at h
    split at h
    · injection h with h; subst h; exact ⟨j, by simp⟩
    · obtain ⟨j', hj⟩ := ih h; exact ⟨j', by simp [hj]⟩

/-! ## heap level: the fields after `appendItem` / `finishItem`, the cases of a step -/

/-- `appendItem` writes `nis` and `err` only: every other field of the result is read off this equation -/
theorem appendItem_eq (s : HSt) (it : Key × Obj) :
    appendItem s it = { s with nis := (appendItem s it).nis, err := (appendItem s it).err } := by
  unfold appendItem; split <;> rfl

@[simp] theorem appendItem_stack (s : HSt) (it : Key × Obj) : (appendItem s it).stack = s.stack := by
  rw [appendItem_eq]
@[simp] theorem appendItem_reg (s : HSt) (it : Key × Obj) : (appendItem s it).reg = s.reg := by
  rw [appendItem_eq]
@[simp] theorem appendItem_out (s : HSt) (it : Key × Obj) : (appendItem s it).out = s.out := by
  rw [appendItem_eq]
@[simp] theorem appendItem_trace (s : HSt) (it : Key × Obj) : (appendItem s it).trace = s.trace := by
  rw [appendItem_eq]
@[simp] theorem appendItem_path (s : HSt) (it : Key × Obj) : (appendItem s it).path = s.path := by
  rw [appendItem_eq]
@[simp] theorem appendItem_nis_paths (s : HSt) (it : Key × Obj) :
    (appendItem s it).nis.map Prod.fst = s.nis.map Prod.fst := by
  unfold appendItem; split
  · rfl
  · rename_i hn; simp [hn]

/-- `finishItem` sets work stack, last value and trace, and leaves `nis` and `err` to `appendItem` or the raise -/
theorem finishItem_eq (c : HCfg) (s : HSt) (rest : List HFrame) (k : Key) (src val : Obj) :
    finishItem c s rest k src val =
      { s with stack := rest, value := val, trace := s.trace ++ [.visit s.path k src val],
               nis := (finishItem c s rest k src val).nis, err := (finishItem c s rest k src val).err } := by
  unfold finishItem
  split
  · rfl
  · rw [appendItem_eq]
  · rw [appendItem_eq]
  · split
    · rfl
    · rw [appendItem_eq]

@[simp] theorem finishItem_stack (c : HCfg) (s : HSt) (rest : List HFrame) (k : Key) (src val : Obj) :
    (finishItem c s rest k src val).stack = rest := by
  rw [finishItem_eq]
@[simp] theorem finishItem_reg (c : HCfg) (s : HSt) (rest : List HFrame) (k : Key) (src val : Obj) :
    (finishItem c s rest k src val).reg = s.reg := by
  rw [finishItem_eq]
@[simp] theorem finishItem_out (c : HCfg) (s : HSt) (rest : List HFrame) (k : Key) (src val : Obj) :
    (finishItem c s rest k src val).out = s.out := by
  rw [finishItem_eq]
@[simp] theorem finishItem_value (c : HCfg) (s : HSt) (rest : List HFrame) (k : Key) (src val : Obj) :
    (finishItem c s rest k src val).value = val := by
  rw [finishItem_eq]
@[simp] theorem finishItem_trace (c : HCfg) (s : HSt) (rest : List HFrame) (k : Key) (src val : Obj) :
    (finishItem c s rest k src val).trace = s.trace ++ [.visit s.path k src val] := by
  rw [finishItem_eq]
@[simp] theorem finishItem_path (c : HCfg) (s : HSt) (rest : List HFrame) (k : Key) (src val : Obj) :
    (finishItem c s rest k src val).path = s.path := by
  rw [finishItem_eq]

@[simp] theorem finishItem_nis_paths (c : HCfg) (s : HSt) (rest : List HFrame) (k : Key) (src val : Obj) :
    (finishItem c s rest k src val).nis.map Prod.fst = s.nis.map Prod.fst := by
  unfold finishItem; split <;> (try split) <;> simp

/-- `finishItem` sets work stack and last value itself: what they were in the state it is given does not matter -/
theorem finishItem_set_stack_value (c : HCfg) (s : HSt) (stk : List HFrame) (v0 : Obj) (rest : List HFrame)
    (k : Key) (src val : Obj) :
    finishItem c { s with stack := stk, value := v0 } rest k src val = finishItem c s rest k src val := rfl

theorem finishItem_of_visitOut_some (c : HCfg) (s : HSt) (rest : List HFrame) (k : Key) (src val : Obj)
    (its : List (Key × Obj)) (pp : Path) (acc : List (Key × Obj)) (nr : List (Path × List (Key × Obj)))
    (hn : s.nis = (pp, acc) :: nr) (hv : visitOut c s.out s.path k val = some its) :
    finishItem c s rest k src val =
      { s with stack := rest, value := val, trace := s.trace ++ [.visit s.path k src val],
               nis := (pp, acc ++ its) :: nr } := by
  unfold visitOut at hv
  unfold finishItem
  split at hv
  · injection hv with hv; subst hv
    rename_i hvf; simp [hvf, appendItem, hn]
  · injection hv with hv; subst hv
    rename_i hvf; simp [hvf, hn]
  · injection hv with hv; subst hv
    rename_i hvf; simp [hvf, appendItem, hn]
  · rename_i hvf
    split at hv
    · simp at hv
    · injection hv with hv; subst hv
      rename_i hr; simp [hvf, hr, appendItem, hn]

theorem finishItem_of_visitOut_none (c : HCfg) (s : HSt) (rest : List HFrame) (k : Key) (src val : Obj)
    (hv : visitOut c s.out s.path k val = none) :
    finishItem c s rest k src val =
      { s with stack := rest, value := val, trace := s.trace ++ [.visit s.path k src val],
               err := some .visitError } := by
  unfold visitOut at hv
  unfold finishItem
  split at hv <;> try (simp at hv)
  rename_i hvf
  simp [hvf, hv]

theorem appendItem_nis_length (s : HSt) (it : Key × Obj) (he : (appendItem s it).err = none) :
    (appendItem s it).nis.length = s.nis.length := by
  unfold appendItem at he ⊢
  split
  · simp_all
  · rename_i hn; simp [hn]

theorem finishItem_nis_length (c : HCfg) (s : HSt) (rest : List HFrame) (k : Key) (src val : Obj)
    (he : (finishItem c s rest k src val).err = none) : (finishItem c s rest k src val).nis.length = s.nis.length := by
  unfold finishItem at he ⊢
  split at he
  · rfl
  · exact appendItem_nis_length _ _ he
  · exact appendItem_nis_length _ _ he
  · split at he
    · simp at he
    · rename_i hr; rw [if_neg hr]; exact appendItem_nis_length _ _ he

/-- the six things one iteration of the loop can be (`HStep.sound`, `HStep.progress`, hence `hstep_eq_some`) -/
inductive HStep (c : HCfg) (h : Heap) (root : Obj) (s : HSt) : HSt → Prop
  | leaf (k : Key) (o : Obj) (rest : List HFrame) (hst : s.stack = .item k o :: rest)
      (hleaf : ∀ id, o = .ref id → lookup id s.reg = none ∧ h[id]? = none) :
      HStep c h root s (finishItem c { s with trace := s.trace ++ [.enter s.path k o false] } rest k o o)
  | registered (k : Key) (id : Nat) (rest : List HFrame) (v : Obj) (hst : s.stack = .item k (.ref id) :: rest)
      (hlk : lookup id s.reg = some v) : HStep c h root s (finishItem c s rest k (.ref id) v)
  | enter (k : Key) (id : Nat) (rest : List HFrame) (nd : Node) (hst : s.stack = .item k (.ref id) :: rest)
      (hlk : lookup id s.reg = none) (hnd : h[id]? = some nd) :
      HStep c h root s { s with
        stack := itemFrames (enumItems nd.kind 0 nd.items) ++ (.exit k id s.out.length nd.kind :: rest),
        path := if Obj.ref id = root then s.path else s.path ++ [k],
        reg := (id, .ref s.out.length) :: s.reg,
        nis := (s.path, []) :: s.nis,
        out := s.out ++ [⟨nd.kind, []⟩],
        trace := s.trace ++ [.enter s.path k (.ref id) true] }
  | exitRoot (k : Key) (old new : Nat) (kd : Kind) (rest : List HFrame) (p : Path) (items : List (Key × Obj))
      (hst : s.stack = .exit k old new kd :: rest) (hn : s.nis = [(p, items)]) :
      HStep c h root s { s with
        stack := rest, path := p, nis := [],
        out := (exitNode kd new items s.out).1, value := (exitNode kd new items s.out).2,
        reg := (old, (exitNode kd new items s.out).2) :: s.reg, trace := s.trace ++ [.exit old] }
  | exitNested (k : Key) (old new : Nat) (kd : Kind) (rest : List HFrame) (p : Path) (items : List (Key × Obj))
      (x : Path × List (Key × Obj)) (nr : List (Path × List (Key × Obj)))
      (hst : s.stack = .exit k old new kd :: rest) (hn : s.nis = (p, items) :: x :: nr) :
      HStep c h root s (finishItem c
        { s with stack := rest, path := p, nis := x :: nr,
                 out := (exitNode kd new items s.out).1, value := (exitNode kd new items s.out).2,
                 reg := (old, (exitNode kd new items s.out).2) :: s.reg, trace := s.trace ++ [.exit old] }
        rest k (.ref old) (exitNode kd new items s.out).2)
  /-- unreachable from `hinit`: `LoopInv.depth` -/
  | exitEmpty (k : Key) (old new : Nat) (kd : Kind) (rest : List HFrame)
      (hst : s.stack = .exit k old new kd :: rest) (hn : s.nis = []) :
      HStep c h root s { s with stack := rest, err := some .typeError }

theorem HStep.sound {c : HCfg} {h : Heap} {root : Obj} {s s' : HSt} (he : s.err = none)
    (hs : HStep c h root s s') : hstep c h root s = some s' := by
  cases hs with
  | leaf k o rest hst hleaf =>
    cases o with
    | atom a => simp only [hstep, he, hst]
    | ref id => simp only [hstep, he, hst, hleaf id rfl]
  | registered k id rest v hst hlk => simp only [hstep, he, hst, hlk]
  | enter k id rest nd hst hlk hnd => simp only [hstep, he, hst, hlk, hnd]
  | exitRoot k old new kd rest p items hst hn => simp only [hstep, he, hst, hn]
  | exitNested k old new kd rest p items x nr hst hn => simp only [hstep, he, hst, hn]
  | exitEmpty k old new kd rest hst hn => simp only [hstep, he, hst, hn]

theorem HStep.progress (c : HCfg) (h : Heap) (root : Obj) (s : HSt) (fr : HFrame) (rest : List HFrame)
    (hst : s.stack = fr :: rest) : ∃ s', HStep c h root s s' := by
  cases fr with
  | item k o =>
    cases o with
    | atom a => exact ⟨_, .leaf k _ rest hst (fun _ ho => nomatch ho)⟩
    | ref id =>
      cases hlk : lookup id s.reg with
      | some v => exact ⟨_, .registered k id rest v hst hlk⟩
      | none =>
        cases hnd : h[id]? with
        | none => exact ⟨_, .leaf k _ rest hst (fun _ ho => by cases ho; exact ⟨hlk, hnd⟩)⟩
        | some nd => exact ⟨_, .enter k id rest nd hst hlk hnd⟩
  | exit k old new kd =>
    cases hn : s.nis with
    | nil => exact ⟨_, .exitEmpty k old new kd rest hst hn⟩
    | cons x nr =>
      obtain ⟨p, items⟩ := x
      cases nr with
      | nil => exact ⟨_, .exitRoot k old new kd rest p items hst hn⟩
      | cons y nr => exact ⟨_, .exitNested k old new kd rest p items y nr hst hn⟩

theorem hstep_of_err (c : HCfg) (h : Heap) (root : Obj) (s : HSt) (e : Err) (he : s.err = some e) :
    hstep c h root s = none := by
  simp [hstep, he]

theorem hstep_eq_none {c : HCfg} {h : Heap} {root : Obj} {s : HSt} :
    hstep c h root s = none ↔ s.err ≠ none ∨ s.stack = [] := by
  constructor
  · intro hs
    cases he : s.err with
    | some e => simp
    | none =>
      cases hst : s.stack with
      | nil => exact Or.inr rfl
      | cons fr rest =>
        obtain ⟨s', h1⟩ := HStep.progress c h root s fr rest hst
        rw [h1.sound he] at hs; cases hs
  · rintro (he | hst)
    · cases hs : s.err with
      | none => exact absurd hs he
      | some e => exact hstep_of_err c h root s e hs
    · unfold hstep
      split
      · rfl
      · simp [hst]

/-- `hstep` is the relation `HStep` on the states without an error: the step `progress` finds is the one `hstep` makes -/
theorem hstep_eq_some {c : HCfg} {h : Heap} {root : Obj} {s s' : HSt} :
    hstep c h root s = some s' ↔ s.err = none ∧ HStep c h root s s' := by
  refine ⟨fun hs => ?_, fun ⟨he, hs⟩ => hs.sound he⟩
  have he : s.err = none := by
    cases he : s.err with
    | none => rfl
    | some e => rw [hstep_of_err c h root s e he] at hs; cases hs
  cases hst : s.stack with
  | nil => rw [hstep_eq_none.2 (Or.inr hst)] at hs; cases hs
  | cons fr rest =>
    obtain ⟨s'', h1⟩ := HStep.progress c h root s fr rest hst
    rw [h1.sound he, Option.some.injEq] at hs
    exact ⟨he, hs ▸ h1⟩

theorem hstep_trace_grows (c : HCfg) (h : Heap) (root : Obj) (s s' : HSt) (hs : hstep c h root s = some s') :
    ∃ tr, s'.trace = s.trace ++ tr := by
  cases (hstep_eq_some.1 hs).2 with
  | leaf k o rest hst hleaf => exact ⟨_, by rw [finishItem_trace]; exact List.append_assoc ..⟩
  | registered k id rest v hst hlk => exact ⟨_, finishItem_trace ..⟩
  | enter k id rest nd hst hlk hnd => exact ⟨_, rfl⟩
  | exitRoot k old new kd rest p items hst hn => exact ⟨_, rfl⟩
  | exitNested k old new kd rest p items x nr hst hn => exact ⟨_, by rw [finishItem_trace]; exact List.append_assoc ..⟩
  | exitEmpty k old new kd rest hst hn => exact ⟨[], (List.append_nil _).symm⟩

theorem hstep_keeps_registered (c : HCfg) (h : Heap) (root : Obj) (s s' : HSt) (hs : hstep c h root s = some s') (id : Nat)
    (hl : lookup id s.reg ≠ none) : lookup id s'.reg ≠ none := by
  cases (hstep_eq_some.1 hs).2 with
  | leaf k o rest hst hleaf => simpa using hl
  | registered k id rest v hst hlk => simpa using hl
  | enter k id rest nd hst hlk hnd => exact lookup_cons_ne_none hl
  | exitRoot k old new kd rest p items hst hn => exact lookup_cons_ne_none hl
  | exitNested k old new kd rest p items x nr hst hn => simpa using lookup_cons_ne_none hl
  | exitEmpty k old new kd rest hst hn => exact hl

theorem hstep_hinit (c : HCfg) (h : Heap) (root : Obj) (s' : HSt) (hs : hstep c h root (hinit root) = some s') :
    s' = finishItem c { hinit root with trace := [.enter [] .none root false] } [] .none root root ∨
    ∃ id nd, root = .ref id ∧ h[id]? = some nd ∧
      s' = ⟨itemFrames (enumItems nd.kind 0 nd.items) ++ [.exit .none id 0 nd.kind], [], [(id, .ref 0)], [([], [])],
            [⟨nd.kind, []⟩], .ref id, [.enter [] .none (.ref id) true], none⟩ := by
  cases (hstep_eq_some.1 hs).2 with
  | leaf k o rest hst _ =>
    obtain ⟨⟨rfl, rfl⟩, rfl⟩ : (Atom.none = k ∧ root = o) ∧ [] = rest := by simpa [hinit] using hst
    exact Or.inl rfl
  | registered k id rest v hst hlk => simp [hinit, lookup] at hlk
  | enter k id rest nd hst hlk hnd =>
    obtain ⟨⟨rfl, rfl⟩, rfl⟩ : (Atom.none = k ∧ root = .ref id) ∧ [] = rest := by simpa [hinit] using hst
    exact Or.inr ⟨id, nd, rfl, hnd, by simp [hinit]⟩
  | exitRoot k old new kd rest p items hst hn => simp [hinit] at hst
  | exitNested k old new kd rest p items x nr hst hn => simp [hinit] at hst
  | exitEmpty k old new kd rest hst hn => simp [hinit] at hst

theorem hstep_hinit_node (c : HCfg) (h : Heap) (id : Nat) (nd : Node) (hnd : h[id]? = some nd) :
    hstep c h (.ref id) (hinit (.ref id)) =
      some ⟨itemFrames (enumItems nd.kind 0 nd.items) ++ [.exit .none id 0 nd.kind], [],
        [(id, .ref 0)], [([], [])], [⟨nd.kind, []⟩], .ref id, [.enter [] .none (.ref id) true], none⟩ := by
  simp [hstep, hinit, lookup, hnd]

/-! ## heap level: termination (also for cyclic heaps) -/

def cost (h : Heap) (id : Nat) : Nat :=
  match h[id]? with
  | some nd => nodeCost nd
  | none => 0

def costSum (h : Heap) (todo : List Nat) : Nat := (todo.map (cost h)).sum

theorem costSum_erase (h : Heap) (todo : List Nat) (id : Nat) (hm : id ∈ todo) :
    costSum h (todo.erase id) + cost h id = costSum h todo := by
  induction todo with
  | nil => simp at hm
  | cons x r ih =>
    by_cases hx : x = id
    · subst hx; simp [costSum]; omega
    · have : id ∈ r := by
        cases hm with
        | head => exact absurd rfl hx
        | tail _ h => exact h
      have ih' := ih this
      simp only [costSum] at ih' ⊢
      rw [List.erase_cons_tail (by simpa using hx)]
      simp only [List.map_cons, List.sum_cons]
      omega

/-- every node of the input heap that the registry `reg` does not know yet is on the to-do list; the loop
    (`step_decreases`) and the recursion (`recValE_returns`) both thread it through -/
def Todo (h : Heap) (todo : List Nat) (reg : List (Nat × Obj)) : Prop :=
  ∀ id nd, h[id]? = some nd → lookup id reg = none → id ∈ todo

theorem Todo.range (h : Heap) : Todo h (List.range h.length) [] := by
  intro id nd hn _
  rcases Nat.lt_or_ge id h.length with hlt | hge
  · simpa using hlt
  · simp [List.getElem?_eq_none hge] at hn

theorem Todo.cons {h : Heap} {todo : List Nat} {reg : List (Nat × Obj)} (hi : Todo h todo reg) (j : Nat) (o : Obj) :
    Todo h todo ((j, o) :: reg) :=
  fun id nd hn hl => hi id nd hn (lookup_cons_none hl).2

theorem Todo.erase {h : Heap} {todo : List Nat} {reg : List (Nat × Obj)} (hi : Todo h todo reg) (id : Nat) (o : Obj) :
    Todo h (todo.erase id) ((id, o) :: reg) :=
  fun id' nd' hn hl =>
    (List.mem_erase_of_ne (Ne.symm (lookup_cons_none hl).1)).2 (hi id' nd' hn (lookup_cons_none hl).2)

/-- entering `id` takes it off the to-do list: what the sum loses pays for one stack entry (or unit of fuel) per item
    and for the exit entry -/
theorem Todo.enter {h : Heap} {todo : List Nat} {reg : List (Nat × Obj)} {id : Nat} {nd : Node} (hi : Todo h todo reg)
    (hnd : h[id]? = some nd) (hlk : lookup id reg = none) :
    costSum h (todo.erase id) + (nd.items.length + 2) = costSum h todo := by
  have hc : cost h id = nd.items.length + 2 := by simp [cost, hnd, nodeCost]
  rw [← hc]; exact costSum_erase h todo id (hi id nd hnd hlk)

/-- `Todo h todo s.reg` -/
def TInv (h : Heap) (todo : List Nat) (s : HSt) : Prop :=
  ∀ id nd, h[id]? = some nd → lookup id s.reg = none → id ∈ todo

theorem TInv_iff {h : Heap} {todo : List Nat} {s : HSt} : TInv h todo s ↔ Todo h todo s.reg := Iff.rfl

/-- `Todo.cons` on loop states -/
theorem TInv_cons (h : Heap) (todo : List Nat) (s : HSt) (j : Nat) (o : Obj) (reg' : List (Nat × Obj))
    (hi : TInv h todo s) (hr : reg' = (j, o) :: s.reg) (s' : HSt) (hs : s'.reg = reg') : TInv h todo s' := by
  rw [TInv_iff, hs, hr]
  exact (TInv_iff.1 hi).cons j o

def potential (h : Heap) (todo : List Nat) (s : HSt) : Nat := s.stack.length + costSum h todo

theorem step_decreases (c : HCfg) (h : Heap) (root : Obj) (todo : List Nat) (s s' : HSt)
    (hi : Todo h todo s.reg) (hs : hstep c h root s = some s') :
    ∃ todo', Todo h todo' s'.reg ∧ potential h todo' s' < potential h todo s := by
  cases (hstep_eq_some.1 hs).2 with
  | leaf k o rest hst _ => exact ⟨todo, by rw [finishItem_reg]; exact hi, by simp [potential, hst]⟩
  | registered k id rest v hst _ => exact ⟨todo, by rw [finishItem_reg]; exact hi, by simp [potential, hst]⟩
  | exitRoot k old new kd rest p items hst _ => exact ⟨todo, hi.cons old _, by simp [potential, hst]⟩
  | exitNested k old new kd rest p items x nr hst _ =>
    exact ⟨todo, by rw [finishItem_reg]; exact hi.cons old _, by simp [potential, hst]⟩
  | exitEmpty k old new kd rest hst _ => exact ⟨todo, hi, by simp [potential, hst]⟩
  | enter k id rest nd hst hlk hnd =>
    refine ⟨todo.erase id, hi.erase id _, ?_⟩
    · have hc := hi.enter hnd hlk
      simp only [potential, hst, List.length_append, itemFrames, List.length_map, enumItems_length,
        List.length_cons]
      omega

theorem hrun_halts (c : HCfg) (h : Heap) (root : Obj) (n : Nat) (todo : List Nat) (s : HSt)
    (hi : Todo h todo s.reg) (hp : potential h todo s ≤ n) :
    hstep c h root (hrun c h root n s) = none := by
  induction n generalizing s todo with
  | zero =>
    show hstep c h root s = none
    exact hstep_eq_none.2 (Or.inr (List.eq_nil_of_length_eq_zero (by simp only [potential] at hp; omega)))
  | succ n ih =>
    cases hs : hstep c h root s with
    | none => rw [(hrun_isRun c h root).halt n s hs]; exact hs
    | some s' =>
      obtain ⟨todo', hi', hlt⟩ := step_decreases c h root todo s s' hi hs
      rw [(hrun_isRun c h root).next n s s' hs]
      exact ih todo' s' hi' (by omega)

theorem costSum_range (h : Heap) : costSum h (List.range h.length) = (h.map nodeCost).sum := by
  unfold costSum
  congr 1
  apply List.ext_getElem
  · simp
  · intro i h1 h2
    simp at h1
    simp [cost, h1]

theorem hfinal_halted (c : HCfg) (h : Heap) (root : Obj) :
    hstep c h root (hfinal c h root) = none := by
  unfold hfinal
  apply hrun_halts c h root (hbound h) (List.range h.length) (hinit root) (Todo.range h)
  simp only [potential, costSum_range, hbound, hinit, List.length_cons, List.length_nil]
  omega

/-! ## heap level: every container is entered once and exited once -/

def enterIds : List Ev → List Nat
  | [] => []
  | .enter _ _ (.ref id) true :: r => id :: enterIds r
  | _ :: r => enterIds r

def exitIds : List Ev → List Nat
  | [] => []
  | .exit id :: r => id :: exitIds r
  | _ :: r => exitIds r

def frameIds : List HFrame → List Nat
  | [] => []
  | .exit _ old _ _ :: r => old :: frameIds r
  | _ :: r => frameIds r

theorem enterIds_append (a b : List Ev) : enterIds (a ++ b) = enterIds a ++ enterIds b := by
  induction a with
  | nil => rfl
  | cons e r ih =>
    cases e with
    | enter p k o t =>
      cases o with
      | atom a => simpa [enterIds] using ih
      | ref id => cases t <;> simp [enterIds, ih]
    | exit id => simpa [enterIds] using ih
    | visit p k s v => simpa [enterIds] using ih

theorem exitIds_append (a b : List Ev) : exitIds (a ++ b) = exitIds a ++ exitIds b := by
  induction a with
  | nil => rfl
  | cons e r ih => cases e <;> simp [exitIds, ih]

theorem frameIds_append (a b : List HFrame) : frameIds (a ++ b) = frameIds a ++ frameIds b := by
  induction a with
  | nil => rfl
  | cons e r ih => cases e <;> simp [frameIds, ih]

theorem frameIds_itemFrames (l : List (Key × Obj)) : frameIds (itemFrames l) = [] := by
  induction l with
  | nil => rfl
  | cons x r ih => simpa [itemFrames, frameIds] using ih

/-- `perm` needs `err = none` (`exitEmpty` pops an exit entry without an exit event); `exitsNodup`, `exitsSub` follow from
    `perm` and `nodup`, and are fields to survive an error -/
structure OInv (s : HSt) : Prop where
  nodup : (enterIds s.trace).Nodup
  registered : ∀ id ∈ enterIds s.trace, lookup id s.reg ≠ none
  perm : s.err = none → (exitIds s.trace ++ frameIds s.stack).Perm (enterIds s.trace)
  exitsNodup : (exitIds s.trace).Nodup
  exitsSub : ∀ id ∈ exitIds s.trace, id ∈ enterIds s.trace

theorem OInv.of_perm (s : HSt) (hnd : (enterIds s.trace).Nodup)
    (hreg : ∀ id ∈ enterIds s.trace, lookup id s.reg ≠ none)
    (hp : (exitIds s.trace ++ frameIds s.stack).Perm (enterIds s.trace)) : OInv s :=
  ⟨hnd, hreg, fun _ => hp, (List.nodup_append.1 (hp.nodup_iff.2 hnd)).1,
   fun _ hid => hp.subset (List.mem_append_left _ hid)⟩

@[simp] theorem enterIds_enter_false (p : Path) (k : Key) (o : Obj) (r : List Ev) :
    enterIds (.enter p k o false :: r) = enterIds r := by
  cases o <;> rfl

theorem OInv_init (root : Obj) : OInv (hinit root) := by
  constructor <;> simp [hinit, enterIds, exitIds, frameIds]

theorem OInv_of_no_enter (s s' : HSt) (tr : List Ev) (hi : OInv s) (he : s.err = none)
    (htr : s'.trace = s.trace ++ tr) (hent : enterIds tr = [])
    (hreg : ∀ id, lookup id s.reg ≠ none → lookup id s'.reg ≠ none)
    (hfr : exitIds tr ++ frameIds s'.stack = frameIds s.stack) : OInv s' := by
  refine OInv.of_perm s' ?_ ?_ ?_
  · rw [htr, enterIds_append, hent, List.append_nil]; exact hi.nodup
  · intro id hid
    rw [htr, enterIds_append, hent, List.append_nil] at hid
    exact hreg id (hi.registered id hid)
  · rw [htr, enterIds_append, exitIds_append, hent, List.append_nil, List.append_assoc, hfr]
    exact hi.perm he

theorem OInv_step (c : HCfg) (h : Heap) (root : Obj) (s s' : HSt)
    (hi : OInv s) (hs : hstep c h root s = some s') : OInv s' := by
  obtain ⟨he, hst⟩ := hstep_eq_some.1 hs
  have hreg := hstep_keeps_registered c h root s s' hs
  cases hst with
  | leaf k o rest hst _ =>
    exact OInv_of_no_enter s _ [.enter s.path k o false, .visit s.path k o o] hi he (by simp) (by simp [enterIds])
      hreg (by simp [hst, exitIds, frameIds])
  | registered k id rest v hst _ =>
    exact OInv_of_no_enter s _ [.visit s.path k (.ref id) v] hi he (by simp) rfl hreg
      (by simp [hst, exitIds, frameIds])
  | exitRoot k old new kd rest p items hst _ =>
    exact OInv_of_no_enter s _ [.exit old] hi he rfl rfl hreg (by simp [hst, exitIds, frameIds])
  | exitNested k old new kd rest p items x nr hst _ =>
    exact OInv_of_no_enter s _ [.exit old, .visit p k (.ref old) (exitNode kd new items s.out).2] hi he (by simp) rfl
      hreg (by simp [hst, exitIds, frameIds])
  | exitEmpty k old new kd rest hst _ =>
    exact ⟨hi.nodup, hi.registered, fun he => by simp at he, hi.exitsNodup, hi.exitsSub⟩
  | enter k id rest nd hst hlk hnd =>
    have hfresh : id ∉ enterIds s.trace := fun hm => hi.registered id hm hlk
    have hperm := hi.perm he
    rw [hst] at hperm
    refine OInv.of_perm _ ?_ ?_ ?_
    · simp only [enterIds_append, enterIds]
      exact List.nodup_append.2 ⟨hi.nodup, by simp, by
        intro a ha b hb; simp at hb; subst hb; intro hab; subst hab; exact hfresh ha⟩
    · intro id' hid
      simp only [enterIds_append, enterIds, List.mem_append, List.mem_singleton] at hid
      rcases hid with hid | hid
      · exact lookup_cons_ne_none (hi.registered id' hid)
      · subst hid; simp [lookup]
    · simp only [enterIds_append, exitIds_append, enterIds, exitIds, List.append_nil,
        frameIds_append, frameIds_itemFrames, frameIds, List.nil_append]
      exact (List.perm_middle).trans ((List.Perm.cons id hperm).trans
        (List.perm_append_singleton id _).symm)

theorem OInv_final (c : HCfg) (h : Heap) (root : Obj) : OInv (hfinal c h root) :=
  (hrun_isRun c h root).induct OInv (OInv_step c h root) _ _ (OInv_init root)

/-! ## heap level: a rebuilt object stays shared -/

/-- the events after the (first) exit of container `id` -/
def afterExit (id : Nat) : List Ev → List Ev
  | [] => []
  | .exit j :: r => if j = id then r else afterExit id r
  | _ :: r => afterExit id r

theorem afterExit_append_of_mem (id : Nat) (a b : List Ev) (h : id ∈ exitIds a) :
    afterExit id (a ++ b) = afterExit id a ++ b := by
  induction a with
  | nil => simp [exitIds] at h
  | cons e r ih =>
    cases e with
    | exit j =>
      by_cases hj : j = id
      · simp [afterExit, hj]
      · have : id ∈ exitIds r := by
          simp only [exitIds, List.mem_cons] at h
          rcases h with h | h
          · exact absurd h.symm hj
          · exact h
        simp [afterExit, hj, ih this]
    | enter p k o t => simpa [afterExit] using ih (by simpa [exitIds] using h)
    | visit p k s v => simpa [afterExit] using ih (by simpa [exitIds] using h)

theorem afterExit_append_of_not_mem (id : Nat) (a b : List Ev) (h : id ∉ exitIds a) :
    afterExit id (a ++ b) = afterExit id b := by
  induction a with
  | nil => rfl
  | cons e r ih =>
    cases e with
    | exit j =>
      have hj : j ≠ id := by intro hj; subst hj; simp [exitIds] at h
      have : id ∉ exitIds r := by intro hm; exact h (by simp [exitIds, hm])
      simp [afterExit, hj, ih this]
    | enter p k o t => simpa [afterExit] using ih (by simpa [exitIds] using h)
    | visit p k s v => simpa [afterExit] using ih (by simpa [exitIds] using h)

theorem afterExit_nil_of_not_mem (id : Nat) (a : List Ev) (h : id ∉ exitIds a) : afterExit id a = [] := by
  simpa [afterExit] using afterExit_append_of_not_mem id a [] h

theorem mem_of_mem_afterExit {id : Nat} {e : Ev} : (tr : List Ev) → e ∈ afterExit id tr → e ∈ tr
  | [], h => by simp [afterExit] at h
  | .exit j :: r, h => by
    simp only [afterExit] at h
    split at h
    · exact List.mem_cons_of_mem _ h
    · exact List.mem_cons_of_mem _ (mem_of_mem_afterExit r h)
  | .enter .. :: r, h => List.mem_cons_of_mem _ (mem_of_mem_afterExit r h)
  | .visit .. :: r, h => List.mem_cons_of_mem _ (mem_of_mem_afterExit r h)

/-- only visits after the exit: while container `id` is being traversed the registry holds the object made at enter time,
    which for a tuple / frozenset is not the one its exit returns -/
def SharedInv (s : HSt) : Prop :=
  ∀ id p k v, Ev.visit p k (.ref id) v ∈ afterExit id s.trace → lookup id s.reg = some v

theorem SharedInv_of_trace (s s' : HSt) (tr : List Ev) (hi : SharedInv s) (htr : s'.trace = s.trace ++ tr)
    (hreg : ∀ id ∈ exitIds s.trace, lookup id s'.reg = lookup id s.reg)
    (hvis : ∀ id p k v, Ev.visit p k (.ref id) v ∈ tr → id ∈ exitIds s.trace ∨ id ∈ exitIds tr →
      lookup id s'.reg = some v) : SharedInv s' := by
  intro id p k v hm
  rw [htr] at hm
  by_cases hex : id ∈ exitIds s.trace
  · rw [afterExit_append_of_mem _ _ _ hex, List.mem_append] at hm
    rcases hm with hm | hm
    · rw [hreg id hex]; exact hi id p k v hm
    · exact hvis id p k v hm (Or.inl hex)
  · rw [afterExit_append_of_not_mem _ _ _ hex] at hm
    refine hvis id p k v (mem_of_mem_afterExit tr hm) (Or.inr ?_)
    by_cases hex2 : id ∈ exitIds tr
    · exact hex2
    · rw [afterExit_nil_of_not_mem id tr hex2] at hm; cases hm

theorem SharedInv_step (c : HCfg) (h : Heap) (root : Obj) (s s' : HSt)
    (ho : OInv s) (hi : SharedInv s) (hs : hstep c h root s = some s') : SharedInv s' := by
  obtain ⟨he, hst⟩ := hstep_eq_some.1 hs
  have hfresh : ∀ id, lookup id s.reg = none → id ∉ exitIds s.trace :=
    fun id hl hm => ho.registered id (ho.exitsSub id hm) hl
  have hold : ∀ k old new kd rest, s.stack = .exit k old new kd :: rest → old ∉ exitIds s.trace := by
    intro k old new kd rest hst hm
    have hnd : (exitIds s.trace ++ frameIds s.stack).Nodup := (ho.perm he).nodup_iff.2 ho.nodup
    rw [hst] at hnd
    exact (List.nodup_append.1 hnd).2.2 old hm old (by simp [frameIds]) rfl
  have hcons : ∀ j o, j ∉ exitIds s.trace → ∀ id ∈ exitIds s.trace, lookup id ((j, o) :: s.reg) = lookup id s.reg :=
    fun j o hj id hid => lookup_cons_of_ne (fun hc => hj (hc ▸ hid))
  cases hst with
  | leaf k o rest hst hleaf =>
    refine SharedInv_of_trace s _ [.enter s.path k o false, .visit s.path k o o] hi (by simp) (by simp) ?_
    intro id p' k' v hm hex
    simp only [List.mem_cons, List.mem_nil_iff, or_false, reduceCtorEq, false_or, Ev.visit.injEq] at hm
    obtain ⟨_, _, rfl, _⟩ := hm
    rcases hex with hex | hex
    · exact absurd hex (hfresh id (hleaf id rfl).1)
    · simp [exitIds] at hex
  | registered k id rest v hst hlk =>
    refine SharedInv_of_trace s _ [.visit s.path k (.ref id) v] hi (by simp) (by simp) ?_
    intro id' p' k' v' hm _
    simp only [List.mem_singleton, Ev.visit.injEq, Obj.ref.injEq] at hm
    obtain ⟨_, _, rfl, rfl⟩ := hm
    simpa using hlk
  | exitRoot k old new kd rest p items hst _ =>
    refine SharedInv_of_trace s _ [.exit old] hi rfl (hcons _ _ (hold _ _ _ _ _ hst)) ?_
    intro id p' k' v hm
    simp at hm
  | exitNested k old new kd rest p items x nr hst _ =>
    refine SharedInv_of_trace s _ [.exit old, .visit p k (.ref old) (exitNode kd new items s.out).2] hi (by simp)
      (by simpa using hcons _ _ (hold _ _ _ _ _ hst)) ?_
    intro id p' k' v hm _
    simp only [List.mem_cons, List.mem_nil_iff, or_false, reduceCtorEq, false_or, Ev.visit.injEq, Obj.ref.injEq] at hm
    obtain ⟨_, _, rfl, rfl⟩ := hm
    simp [lookup]
  | exitEmpty k old new kd rest hst _ => exact hi
  | enter k id rest nd hst hlk hnd =>
    refine SharedInv_of_trace s _ [.enter s.path k (.ref id) true] hi rfl (hcons _ _ (hfresh id hlk)) ?_
    intro id p' k' v hm
    simp at hm

theorem SharedInv_final (c : HCfg) (h : Heap) (root : Obj) : SharedInv (hfinal c h root) :=
  ((hrun_isRun c h root).induct (fun s => OInv s ∧ SharedInv s)
    (fun s s' hi hs => ⟨OInv_step c h root s s' hi.1 hs, SharedInv_step c h root s s' hi.1 hi.2 hs⟩) _ _
    ⟨OInv_init root, by intro id p k v hm; simp [hinit, afterExit] at hm⟩).2

/-! ## heap level: the output only refers to rebuilt objects -/

def objClosed (n : Nat) : Obj → Prop
  | .atom _ => True
  | .ref i => i < n

def itemsClosed (n : Nat) (l : List (Key × Obj)) : Prop := ∀ kv ∈ l, objClosed n kv.2

theorem objClosed_mono {n m : Nat} (h : n ≤ m) {o : Obj} (ho : objClosed n o) : objClosed m o := by
  cases o with
  | atom a => trivial
  | ref i => exact Nat.lt_of_lt_of_le ho h

theorem itemsClosed_mono {n m : Nat} (h : n ≤ m) {l : List (Key × Obj)} (hl : itemsClosed n l) :
    itemsClosed m l := fun kv hkv => objClosed_mono h (hl kv hkv)

/-- every ref stored in the input heap points into the input heap -/
def HeapWF (h : Heap) : Prop := ∀ nd ∈ h, ∀ kv ∈ nd.items, objClosed h.length kv.2

/-- a visit callback only hands back the value it was given or a scalar -/
def LocalVisit (c : HCfg) : Prop :=
  ∀ out p k v k' v', c.vf out p k v = .repl k' v' → (∃ a, v' = .atom a) ∨ v' = v

theorem hprogVisit_local (pr : Prog) (r : Bool) : LocalVisit ⟨hprogVisit pr, r⟩ := by
  intro out p k v k' v' hv
  simp only [hprogVisit] at hv
  generalize evalProg pr p k (objView out v) = a at hv
  cases a with
  | keep => simp [VAct.toVisit] at hv
  | drop => simp [VAct.toVisit] at hv
  | raise => simp [VAct.toVisit] at hv
  | repl k2 nv =>
    cases nv with
    | none => simp only [VAct.toVisit] at hv; injection hv with _ h2; right; exact h2.symm
    | some a => simp only [VAct.toVisit] at hv; injection hv with _ h2; left; exact ⟨a, h2.symm⟩

/-- closed: registry, collected items and rebuilt heap only refer into the rebuilt heap (`s.out`), the pending items
    only into the input heap -/
structure CInv (h : Heap) (s : HSt) : Prop where
  reg : ∀ kv ∈ s.reg, objClosed s.out.length kv.2
  nis : ∀ pa ∈ s.nis, itemsClosed s.out.length pa.2
  out : ∀ nd ∈ s.out, itemsClosed s.out.length nd.items
  frames : ∀ k old new kd, HFrame.exit k old new kd ∈ s.stack → new < s.out.length
  items : ∀ k o, HFrame.item k o ∈ s.stack → objClosed h.length o

theorem exitNode_closed (kd : Kind) (new : Nat) (items : List (Key × Obj)) (out : Heap)
    (ho : ∀ nd ∈ out, itemsClosed out.length nd.items) (hi : itemsClosed out.length items)
    (hn : new < out.length) :
    out.length ≤ (exitNode kd new items out).1.length ∧
    (∀ nd ∈ (exitNode kd new items out).1, itemsClosed (exitNode kd new items out).1.length nd.items) ∧
    objClosed (exitNode kd new items out).1.length (exitNode kd new items out).2 := by
  unfold exitNode
  split
  · refine ⟨by simp, ?_, by simpa [objClosed] using hn⟩
    intro nd hnd
    simp only [List.length_set]
    rcases List.mem_or_eq_of_mem_set hnd with h | h
    · exact ho nd h
    · subst h; exact buildItems_vals (objClosed _) _ kd items hi
  · refine ⟨by simp, ?_, by simp [objClosed]⟩
    intro nd hnd
    simp only [List.length_append, List.length_cons, List.length_nil]
    simp only [List.mem_append, List.mem_singleton] at hnd
    rcases hnd with h | h
    · exact itemsClosed_mono (by omega) (ho nd h)
    · subst h; exact itemsClosed_mono (by omega) (buildItems_vals (objClosed _) _ kd items hi)

theorem appendItem_CInv (h : Heap) (s : HSt) (it : Key × Obj) (hi : CInv h s)
    (hc : objClosed s.out.length it.2) : CInv h (appendItem s it) := by
  unfold appendItem
  split
  · exact ⟨hi.reg, hi.nis, hi.out, hi.frames, hi.items⟩
  · rename_i pp acc nr hn
    refine ⟨hi.reg, ?_, hi.out, hi.frames, hi.items⟩
    intro pa hpa
    simp only [List.mem_cons] at hpa
    rcases hpa with h1 | h1
    · subst h1
      intro kv hkv
      simp only [List.mem_append, List.mem_singleton] at hkv
      rcases hkv with h2 | h2
      · exact hi.nis (pp, acc) (by simp [hn]) kv h2
      · subst h2; exact hc
    · exact hi.nis pa (by simp [hn, h1])

theorem CInv.congr {h : Heap} {s s0 : HSt} (hi : CInv h s) (hr : s0.reg = s.reg) (hn : s0.nis = s.nis)
    (ho : s0.out = s.out) (hs : s0.stack = s.stack) : CInv h s0 :=
  ⟨by rw [hr, ho]; exact hi.reg, by rw [hn, ho]; exact hi.nis, by rw [ho]; exact hi.out,
   by rw [hs, ho]; exact hi.frames, by rw [hs]; exact hi.items⟩

theorem CInv.tail {h : Heap} {s : HSt} {fr : HFrame} {rest : List HFrame} (hi : CInv h s)
    (hst : s.stack = fr :: rest) : CInv h { s with stack := rest } :=
  ⟨hi.reg, hi.nis, hi.out, fun k old new kd hm => hi.frames k old new kd (by simp [hst, hm]),
   fun k o hm => hi.items k o (by simp [hst, hm])⟩

theorem finishItem_CInv (c : HCfg) (h : Heap) (s : HSt) (rest : List HFrame) (k : Key) (src val : Obj)
    (hl : LocalVisit c) (hi : CInv h { s with stack := rest }) (hv : objClosed s.out.length val) :
    CInv h (finishItem c s rest k src val) := by
  have hbase : ∀ tr, CInv h { s with stack := rest, value := val, trace := tr } := fun tr => hi.congr rfl rfl rfl rfl
  unfold finishItem
  split
  · exact hbase _
  · exact appendItem_CInv h _ _ (hbase _) hv
  · rename_i k' v' hvf
    apply appendItem_CInv h _ _ (hbase _)
    rcases hl _ _ _ _ _ _ hvf with ⟨a, ha⟩ | ha
    · subst ha; trivial
    · subst ha; exact hv
  · split
    · exact hi.congr rfl rfl rfl rfl
    · exact appendItem_CInv h _ _ (hbase _) hv

theorem CInv_step (c : HCfg) (h : Heap) (root : Obj) (s s' : HSt) (hw : HeapWF h) (hl : LocalVisit c)
    (hi : CInv h s) (hs : hstep c h root s = some s') : CInv h s' := by
  have ex : ∀ k old new kd rest p items nr, s.stack = .exit k old new kd :: rest → s.nis = (p, items) :: nr →
      CInv h { s with stack := rest, path := p, nis := nr, out := (exitNode kd new items s.out).1,
                      value := (exitNode kd new items s.out).2,
                      reg := (old, (exitNode kd new items s.out).2) :: s.reg, trace := s.trace ++ [.exit old] } ∧
      objClosed (exitNode kd new items s.out).1.length (exitNode kd new items s.out).2 := by
    intro k old new kd rest p items nr hst hnis
    obtain ⟨hle, hout', hval'⟩ := exitNode_closed kd new items s.out hi.out (hi.nis (p, items) (by simp [hnis]))
      (hi.frames k old new kd (by simp [hst]))
    refine ⟨⟨?_, ?_, hout', ?_, (hi.tail hst).items⟩, hval'⟩
    · intro kv hkv
      simp only [List.mem_cons] at hkv
      rcases hkv with h1 | h1
      · subst h1; exact hval'
      · exact objClosed_mono hle (hi.reg kv h1)
    · exact fun pa hpa => itemsClosed_mono hle (hi.nis pa (by simp [hnis, hpa]))
    · exact fun k old new' kd' hm => Nat.lt_of_lt_of_le ((hi.tail hst).frames k old new' kd' hm) hle
  cases (hstep_eq_some.1 hs).2 with
  | leaf k o rest hst hleaf =>
    cases o with
    | atom a => exact finishItem_CInv c h _ rest k _ _ hl ((hi.tail hst).congr rfl rfl rfl rfl) trivial
    | ref id =>
      have : id < h.length := hi.items k (.ref id) (by simp [hst])
      have := (hleaf id rfl).2
      simp at this
      omega
  | registered k id rest v hst hlk =>
    obtain ⟨j, hj⟩ := lookup_mem hlk
    exact finishItem_CInv c h _ rest k _ _ hl (hi.tail hst) (hi.reg _ hj)
  | exitRoot k old new kd rest p items hst hn => exact (ex k old new kd rest p items [] hst hn).1
  | exitNested k old new kd rest p items x nr hst hn =>
    obtain ⟨hE, hv⟩ := ex k old new kd rest p items (x :: nr) hst hn
    exact finishItem_CInv c h _ rest k _ _ hl hE hv
  | exitEmpty k old new kd rest hst hn => exact (hi.tail hst).congr rfl rfl rfl rfl
  | enter k id rest nd hst hlk hnd =>
    have hmem : nd ∈ h := List.mem_of_getElem? hnd
    have ht := hi.tail hst
    constructor
    case reg =>
      intro kv hkv
      simp only [List.mem_cons] at hkv
      rcases hkv with h1 | h1
      · subst h1; simp [objClosed]
      · exact objClosed_mono (by simp) (hi.reg kv h1)
    case nis =>
      intro pa hpa
      simp only [List.mem_cons] at hpa
      rcases hpa with h1 | h1
      · subst h1; intro kv hkv; simp at hkv
      · exact itemsClosed_mono (by simp) (hi.nis pa h1)
    case out =>
      intro nd' hnd'
      simp only [List.mem_append, List.mem_singleton] at hnd'
      rcases hnd' with h1 | h1
      · exact itemsClosed_mono (by simp) (hi.out nd' h1)
      · subst h1; intro kv hkv; simp at hkv
    case frames =>
      intro k' old' new' kd' hm
      simp only [List.mem_append, List.mem_cons, itemFrames, List.mem_map] at hm
      rcases hm with ⟨kv, _, hkv⟩ | hm | hm
      · cases hkv
      · injection hm with _ _ h3 _; subst h3; simp
      · exact Nat.lt_of_lt_of_le (ht.frames k' old' new' kd' hm) (by simp)
    case items =>
      intro k' o' hm
      simp only [List.mem_append, List.mem_cons, itemFrames, List.mem_map] at hm
      rcases hm with ⟨kv, hkv1, hkv2⟩ | hm | hm
      · injection hkv2 with h1 h2
        subst h2
        exact enumItems_vals (objClosed h.length) nd.kind nd.items 0 (hw nd hmem) kv hkv1
      · cases hm
      · exact ht.items k' o' hm

theorem CInv_final (c : HCfg) (h : Heap) (root : Obj) (hw : HeapWF h) (hl : LocalVisit c)
    (hr : objClosed h.length root) : CInv h (hfinal c h root) := by
  apply (hrun_isRun c h root).induct (CInv h) (fun s s' => CInv_step c h root s s' hw hl)
  refine ⟨by simp [hinit], by simp [hinit], by simp [hinit], by simp [hinit], ?_⟩
  intro k o hm
  simp only [hinit, List.mem_singleton] at hm
  injection hm with _ h2; subst h2; exact hr

/-! ## heap level: the blank container of an exit entry stays blank until the entry is popped -/

/-- what the translated `default_exit` needs of an exit entry on top of the stack to do what `exitNode` does: its new
    parent is still the blank container made at enter time, and there is a list of new items to pop (`LoopInv.stepOK`) -/
def StepOK (s : HSt) : Prop :=
  ∀ k old new kd rest, s.stack = .exit k old new kd :: rest → s.out[new]? = some ⟨kd, []⟩ ∧ s.nis ≠ []

theorem StepOK.blank {s : HSt} (hok : StepOK s) {k : Key} {old new : Nat} {kd : Kind} {rest : List HFrame}
    (hst : s.stack = .exit k old new kd :: rest) : s.out[new]? = some ⟨kd, []⟩ :=
  (hok k old new kd rest hst).1

theorem StepOK.nis_ne_nil {s : HSt} (hok : StepOK s) {k : Key} {old new : Nat} {kd : Kind} {rest : List HFrame}
    (hst : s.stack = .exit k old new kd :: rest) : s.nis ≠ [] :=
  (hok k old new kd rest hst).2

def newOf : HFrame → Option Nat
  | .exit _ _ new _ => some new
  | _ => none

@[simp] theorem filterMap_newOf_item (k : Key) (o : Obj) (l : List HFrame) :
    (HFrame.item k o :: l).filterMap newOf = l.filterMap newOf := rfl
@[simp] theorem filterMap_newOf_exit (k : Key) (old new : Nat) (kd : Kind) (l : List HFrame) :
    (HFrame.exit k old new kd :: l).filterMap newOf = new :: l.filterMap newOf := rfl

theorem filterMap_newOf_itemFrames (l : List (Key × Obj)) : (itemFrames l).filterMap newOf = [] := by
  induction l with
  | nil => rfl
  | cons x r ih => simpa [itemFrames] using ih

theorem mem_newOf {k : Key} {old new : Nat} {kd : Kind} {l : List HFrame} (h : HFrame.exit k old new kd ∈ l) :
    new ∈ l.filterMap newOf := by
  simp only [List.mem_filterMap]
  exact ⟨_, h, rfl⟩

/-- the exit entries on the stack own pairwise different blank containers (`nodup`): popping one fills or replaces its own
    container only, so those of the others stay `blank`; `depth`: one list of new items per exit entry -/
structure LoopInv (s : HSt) : Prop where
  blank : ∀ k old new kd, HFrame.exit k old new kd ∈ s.stack → s.out[new]? = some ⟨kd, []⟩
  nodup : (s.stack.filterMap newOf).Nodup
  depth : s.err = none → (s.stack.filterMap newOf).length = s.nis.length

theorem LoopInv_init (root : Obj) : LoopInv (hinit root) := by
  constructor <;> simp [hinit]

theorem LoopInv.stepOK {s : HSt} (hi : LoopInv s) (he : s.err = none) : StepOK s := by
  intro k old new kd rest hst
  refine ⟨hi.blank k old new kd (by simp [hst]), ?_⟩
  have := hi.depth he
  intro hn
  simp [hst, hn, newOf] at this

theorem LoopInv_tail (s s1 : HSt) (fr : HFrame) (rest : List HFrame) (hi : LoopInv s) (hst : s.stack = fr :: rest)
    (h1 : s1.stack = rest)
    (ho : ∀ k old new kd, HFrame.exit k old new kd ∈ rest → s1.out[new]? = s.out[new]?)
    (hd : s1.err = none → (rest.filterMap newOf).length = s1.nis.length) : LoopInv s1 := by
  constructor
  case blank =>
    intro k old new kd hm
    rw [h1] at hm
    rw [ho k old new kd hm]; exact hi.blank k old new kd (by rw [hst]; exact List.mem_cons_of_mem _ hm)
  case nodup =>
    rw [h1]
    have := hi.nodup
    rw [hst] at this
    cases fr with
    | item k o => simpa using this
    | exit k old new kd => simp at this; exact this.2
  case depth =>
    rw [h1]; exact hd

theorem exitNode_getElem_ne (kd : Kind) (new : Nat) (items : List (Key × Obj)) (out : Heap) (j : Nat)
    (hne : j ≠ new) (hj : j < out.length) : (exitNode kd new items out).1[j]? = out[j]? := by
  unfold exitNode
  split
  · simp [List.getElem?_set_ne (Ne.symm hne)]
  · simp [List.getElem?_append_left hj]

theorem LoopInv_step (c : HCfg) (h : Heap) (root : Obj) (s s1 : HSt) (hi : LoopInv s)
    (hs : hstep c h root s = some s1) : LoopInv s1 := by
  obtain ⟨he, hst⟩ := hstep_eq_some.1 hs
  have hdep := hi.depth he
  -- an `.item` entry that is visited leaves stack tail, rebuilt heap and the number of frames as they are
  have fin : ∀ (k : Key) (o : Obj) (rest : List HFrame) (s0 : HSt) (src val : Obj), s.stack = .item k o :: rest →
      s0.out = s.out → s0.nis = s.nis → LoopInv (finishItem c s0 rest k src val) := fun k o rest s0 src val hst ho hn =>
    LoopInv_tail s _ _ rest hi hst (by simp) (fun _ _ _ _ _ => by simp [ho])
      (fun he1 => by rw [finishItem_nis_length c s0 rest k src val he1, hn]; simpa [hst] using hdep)
  -- an `.exit` entry fills or replaces its own blank container only
  have ex : ∀ (k : Key) (old new : Nat) (kd : Kind) (rest : List HFrame) (p : Path) (items : List (Key × Obj))
      (nr : List (Path × List (Key × Obj))) (s0 : HSt), s.stack = .exit k old new kd :: rest → s.nis = (p, items) :: nr →
      s0.stack = rest → s0.out = (exitNode kd new items s.out).1 → (s0.err = none → s0.nis.length = nr.length) →
      LoopInv s0 := by
    intro k old new kd rest p items nr s0 hst hn h1 ho hl
    have hnd : new ∉ rest.filterMap newOf := by
      have := hi.nodup; rw [hst, filterMap_newOf_exit, List.nodup_cons] at this; exact this.1
    refine LoopInv_tail s s0 _ rest hi hst h1 ?_ (fun he1 => by rw [hl he1]; simpa [hst, hn] using hdep)
    intro k2 old2 new2 kd2 hm
    have hb := hi.blank k2 old2 new2 kd2 (by rw [hst]; exact List.mem_cons_of_mem _ hm)
    rw [ho, exitNode_getElem_ne kd new items s.out new2 (fun hc => hnd (hc ▸ mem_newOf hm)) ((List.getElem?_eq_some_iff.1 hb).1)]
  cases hst with
  | leaf k o rest hst _ => exact fin k o rest _ _ _ hst rfl rfl
  | registered k id rest v hst _ => exact fin k _ rest _ _ _ hst rfl rfl
  | exitRoot k old new kd rest p items hst hn => exact ex k old new kd rest p items [] _ hst hn rfl rfl (fun _ => rfl)
  | exitNested k old new kd rest p items x nr hst hn =>
    exact ex k old new kd rest p items (x :: nr) _ hst hn (by simp) (by simp)
      (fun he1 => by rw [finishItem_nis_length _ _ _ _ _ _ he1])
  | exitEmpty k old new kd rest hst hn => simp [hst, hn] at hdep
  | enter k id rest nd hst hlk hnd =>
    have hcount : (rest.filterMap newOf).length = s.nis.length := by simpa [hst] using hdep
    have hlt : ∀ j ∈ rest.filterMap newOf, j < s.out.length := by
      intro j hj
      simp only [List.mem_filterMap] at hj
      obtain ⟨fr, hm, hfr⟩ := hj
      cases fr with
      | item k o => simp [newOf] at hfr
      | exit k2 old new kd =>
        simp [newOf] at hfr; subst hfr
        exact (List.getElem?_eq_some_iff.1 (hi.blank k2 old new kd (by rw [hst]; exact List.mem_cons_of_mem _ hm))).1
    constructor
    case blank =>
      intro k2 old new kd hm
      simp only [List.mem_append, List.mem_cons] at hm
      rcases hm with hm | hm | hm
      · simp [itemFrames] at hm
      · injection hm with _ _ h3 h4; subst h3; subst h4; simp
      · have hb := hi.blank k2 old new kd (by rw [hst]; exact List.mem_cons_of_mem _ hm)
        have : new < s.out.length := hlt new (mem_newOf hm)
        simpa [List.getElem?_append_left this] using hb
    case nodup =>
      have hnd2 : (rest.filterMap newOf).Nodup := by
        have := hi.nodup; rw [hst] at this; simpa [newOf] using this
      simp only [List.filterMap_append, filterMap_newOf_itemFrames, List.nil_append, List.filterMap_cons, newOf]
      refine List.nodup_cons.2 ⟨fun hm => ?_, hnd2⟩
      exact absurd (hlt _ hm) (by omega)
    case depth =>
      intro _
      simp [List.filterMap_append, filterMap_newOf_itemFrames, newOf, hcount]

/-! ## heap level: research paths are retrievable (sharing and cycles included) -/

/-- `cur[seg]` if sets could be indexed by their enumeration index too -/
def hgetChildEnum (h : Heap) (cur : Obj) (seg : Atom) : Option Obj :=
  match cur with
  | .atom _ => none
  | .ref id => match h[id]? with
    | none => none
    | some nd => lookupKey seg (enumItems nd.kind 0 nd.items)

def hgetPathEnum (h : Heap) : Obj → Path → Option Obj
  | cur, [] => some cur
  | cur, seg :: r => match hgetChildEnum h cur seg with
    | none => none
    | some c => hgetPathEnum h c r

/-- whether following `path` from `cur` indexes into a set / frozenset (or leaves the structure) -/
def hsetOnPath (h : Heap) : Obj → Path → Bool
  | _, [] => false
  | cur, seg :: r =>
    match cur with
    | .atom _ => true
    | .ref id => match h[id]? with
      | none => true
      | some nd =>
        if nd.kind.isSet then true else
        match lookupKey seg (enumItems nd.kind 0 nd.items) with
        | none => true
        | some c => hsetOnPath h c r

theorem hgetPath_eq_of_noSet (h : Heap) (cur : Obj) (p : Path) (hs : hsetOnPath h cur p = false) :
    hgetPath h cur p = hgetPathEnum h cur p := by
  induction p generalizing cur with
  | nil => rfl
  | cons seg r ih =>
    cases cur with
    | atom a => simp [hsetOnPath] at hs
    | ref id =>
      simp only [hsetOnPath] at hs
      simp only [hgetPath, hgetPathEnum, hgetChild, hgetChildEnum]
      cases hnd : h[id]? with
      | none => simp [hnd] at hs
      | some nd =>
        simp only [hnd] at hs ⊢
        split at hs
        · simp at hs
        · rename_i hset
          simp only [Bool.not_eq_true] at hset
          simp only [hset]
          cases hl : lookupKey seg (enumItems nd.kind 0 nd.items) with
          | none => simp
          | some c =>
            simp only [hl] at hs
            simpa using ih c hs

theorem hgetPathEnum_append (h : Heap) (cur : Obj) (p : Path) (k : Atom) :
    hgetPathEnum h cur (p ++ [k]) = match hgetPathEnum h cur p with
      | none => none
      | some c => hgetChildEnum h c k := by
  induction p generalizing cur with
  | nil =>
    simp only [List.nil_append, hgetPathEnum]
    cases hgetChildEnum h cur k <;> rfl
  | cons seg r ih =>
    simp only [List.cons_append, hgetPathEnum]
    cases hgetChildEnum h cur seg with
    | none => rfl
    | some c => exact ih c

theorem lookupKey_of_mem (k : Atom) (o : Obj) (l : List (Key × Obj)) (hn : (l.map Prod.fst).Nodup)
    (hm : (k, o) ∈ l) : lookupKey k l = some o := by
  induction l with
  | nil => simp at hm
  | cons x r ih =>
    obtain ⟨k', o'⟩ := x
    simp only [List.map_cons, List.nodup_cons] at hn
    simp only [List.mem_cons] at hm
    rcases hm with h1 | h1
    · injection h1 with h1 h2; subst h1; subst h2; simp [lookupKey]
    · have hne : k' ≠ k := by
        intro he; subst he
        exact hn.1 (List.mem_map.2 ⟨(k', o), h1, rfl⟩)
      simp [lookupKey, hne, ih hn.2 h1]

/-- the keys of every dict are pairwise distinct (a fact about every Python dict) -/
def DictKeysNodup (h : Heap) : Prop := ∀ nd ∈ h, nd.kind = .dict → (nd.items.map Prod.fst).Nodup

theorem enum_keys_nodup (h : Heap) (hd : DictKeysNodup h) (nd : Node) (hm : nd ∈ h) :
    ((enumItems nd.kind 0 nd.items).map Prod.fst).Nodup := by
  by_cases hk : nd.kind = .dict
  · rw [hk, enumItems_dict]; exact hd nd hm hk
  · rw [enumItems_seq nd.kind hk]; exact renumber_keys_nodup _ 0

/-- every pending item sits where the current / saved paths say it sits -/
def PathOK (h : Heap) (root : Obj) : List HFrame → Path → List Path → Prop
  | [], _, _ => True
  | .item k o :: rest, p, ps => hgetPathEnum h root (p ++ [k]) = some o ∧ PathOK h root rest p ps
  | .exit _ _ _ _ :: rest, _, pp :: ps => PathOK h root rest pp ps
  | .exit _ _ _ _ :: _, _, [] => True

theorem PathOK_items (h : Heap) (root : Obj) (l : List (Key × Obj)) (tail : List HFrame) (p : Path)
    (ps : List Path) (hl : ∀ kv ∈ l, hgetPathEnum h root (p ++ [kv.1]) = some kv.2)
    (ht : PathOK h root tail p ps) : PathOK h root (itemFrames l ++ tail) p ps := by
  induction l with
  | nil => simpa [itemFrames] using ht
  | cons x r ih =>
    simp only [itemFrames, List.map_cons, List.cons_append, PathOK]
    exact ⟨hl x (by simp), ih fun kv hkv => hl kv (by simp [hkv])⟩

theorem enterLog_append (a b : List Ev) : enterLog (a ++ b) = enterLog a ++ enterLog b := by
  induction a with
  | nil => rfl
  | cons e r ih => cases e <;> simp [enterLog, ih]

/-- every logged enter call except the root's own -/
def nestedEnters (s : HSt) : List (Path × Key × Obj) := (enterLog s.trace).drop 1

def LogOK (h : Heap) (root : Obj) (s : HSt) : Prop :=
  ∀ e ∈ nestedEnters s, hgetPathEnum h root (e.1 ++ [e.2.1]) = some e.2.2

def RootOK (root : Obj) (s : HSt) : Prop := ∀ rid, root = .ref rid → lookup rid s.reg ≠ none

/-- `PathOK` carries `LogOK` from step to step, but holds only strictly between the first step and the halt -/
def PathInv (h : Heap) (root : Obj) (s : HSt) : Prop :=
  LogOK h root s ∧
  (s = hinit root ∨ s.err ≠ none ∨ s.stack = [] ∨
    (enterLog s.trace ≠ [] ∧ RootOK root s ∧ PathOK h root s.stack s.path (s.nis.map Prod.fst)))

theorem PathInv.running {h : Heap} {root : Obj} {s : HSt} (hl : LogOK h root s) (hne : enterLog s.trace ≠ [])
    (hr : RootOK root s) (hp : PathOK h root s.stack s.path (s.nis.map Prod.fst)) : PathInv h root s :=
  ⟨hl, Or.inr (Or.inr (Or.inr ⟨hne, hr, hp⟩))⟩

theorem LogOK_append_noEnter (h : Heap) (root : Obj) (s : HSt) (tr : List Ev)
    (hl : LogOK h root s) (ht : enterLog tr = []) (s' : HSt) (hs : s'.trace = s.trace ++ tr) :
    LogOK h root s' := by
  intro e he
  simp only [nestedEnters, hs, enterLog_append, ht, List.append_nil] at he
  exact hl e he

theorem LogOK_append_enter (h : Heap) (root : Obj) (s : HSt) (p : Path) (k : Key) (o : Obj) (t : Bool)
    (tr : List Ev) (hl : LogOK h root s) (hne : enterLog s.trace ≠ [])
    (hp : hgetPathEnum h root (p ++ [k]) = some o) (ht : enterLog tr = []) (s' : HSt)
    (hs : s'.trace = s.trace ++ [.enter p k o t] ++ tr) : LogOK h root s' := by
  intro e he
  simp only [nestedEnters, hs, enterLog_append, ht, List.append_nil, enterLog] at he
  rw [List.drop_append_of_le_length (by
    cases hx : enterLog s.trace with
    | nil => exact absurd hx hne
    | cons a r => simp)] at he
  simp only [List.mem_append, List.mem_singleton] at he
  rcases he with he | he
  · exact hl e he
  · subst he; exact hp

theorem enterLog_append_ne (a b : List Ev) (h : enterLog a ≠ []) : enterLog (a ++ b) ≠ [] := by
  rw [enterLog_append]
  intro he
  exact h (List.append_eq_nil_iff.1 he).1

theorem children_retrievable (h : Heap) (root : Obj) (hd : DictKeysNodup h) (p : Path) (id : Nat)
    (nd : Node) (hnd : h[id]? = some nd) (hp : hgetPathEnum h root p = some (.ref id)) :
    ∀ kv ∈ enumItems nd.kind 0 nd.items, hgetPathEnum h root (p ++ [kv.1]) = some kv.2 := by
  intro kv hkv
  rw [hgetPathEnum_append, hp]
  simp only [hgetChildEnum, hnd]
  exact lookupKey_of_mem kv.1 kv.2 _ (enum_keys_nodup h hd nd (List.mem_of_getElem? hnd)) hkv

theorem PathInv_step (c : HCfg) (h : Heap) (root : Obj) (hd : DictKeysNodup h) (s s' : HSt)
    (hi : PathInv h root s) (hs : hstep c h root s = some s') : PathInv h root s' := by
  obtain ⟨hlog, hcase⟩ := hi
  obtain ⟨he, hst⟩ := hstep_eq_some.1 hs
  rcases hcase with rfl | herr | hstk | ⟨hne, hroot, hpath⟩
  · rcases hstep_hinit c h root s' hs with rfl | ⟨id, nd, rfl, hnd, rfl⟩
    · refine ⟨?_, Or.inr (Or.inr (Or.inl (by simp)))⟩
      intro e he; simp [nestedEnters, hinit, enterLog] at he
    · refine PathInv.running ?_ (by simp [enterLog]) ?_ ?_
      · intro e he; simp [nestedEnters, enterLog] at he
      · intro rid hr; injection hr with hr; subst hr; simp [lookup]
      · exact PathOK_items _ _ _ _ _ _ (children_retrievable h (.ref id) hd [] id nd hnd rfl) (by simp [PathOK])
  · exact absurd he herr
  · rw [hstep_eq_none.2 (Or.inr hstk)] at hs; cases hs
  · have hne' : enterLog s'.trace ≠ [] := by
      obtain ⟨tr, htr⟩ := hstep_trace_grows c h root s s' hs
      rw [htr]; exact enterLog_append_ne _ _ hne
    have hroot' : RootOK root s' := fun rid hr => hstep_keeps_registered c h root s s' hs rid (hroot rid hr)
    cases hst with
    | leaf k o rest hst _ =>
      rw [hst] at hpath
      exact .running (LogOK_append_enter h root s s.path k o false [.visit s.path k o o] hlog hne hpath.1 rfl _ (by simp))
        hne' hroot' (by simpa using hpath.2)
    | registered k id rest v hst hlk =>
      rw [hst] at hpath
      exact .running (LogOK_append_noEnter h root s [.visit s.path k (.ref id) v] hlog rfl _ (by simp))
        hne' hroot' (by simpa using hpath.2)
    | enter k id rest nd hst hlk hnd =>
      rw [hst] at hpath
      have hnr : Obj.ref id ≠ root := fun he => hroot id he.symm hlk
      refine .running (LogOK_append_enter h root s s.path k (.ref id) true [] hlog hne hpath.1 rfl _ (by simp))
        hne' hroot' ?_
      simp only [hnr, if_false, List.map_cons]
      exact PathOK_items _ _ _ _ _ _ (children_retrievable h root hd (s.path ++ [k]) id nd hnd hpath.1)
        (by simpa [PathOK] using hpath.2)
    | exitRoot k old new kd rest p items hst hn =>
      rw [hst, hn] at hpath
      exact .running (LogOK_append_noEnter h root s [.exit old] hlog rfl _ rfl) hne' hroot' (by simpa [PathOK] using hpath)
    | exitNested k old new kd rest p items x nr hst hn =>
      rw [hst, hn] at hpath
      exact .running (LogOK_append_noEnter h root s [.exit old, .visit p k (.ref old) (exitNode kd new items s.out).2]
        hlog rfl _ (by simp)) hne' hroot' (by simpa [PathOK] using hpath)
    | exitEmpty k old new kd rest hst hn => exact ⟨hlog, Or.inr (Or.inl (by simp))⟩

theorem LogOK_final (c : HCfg) (h : Heap) (root : Obj) (hd : DictKeysNodup h) :
    LogOK h root (hfinal c h root) :=
  ((hrun_isRun c h root).induct (PathInv h root) (PathInv_step c h root hd) _ _
    ⟨by intro e he; simp [nestedEnters, hinit, enterLog] at he, Or.inl rfl⟩).1

/-! ## heap level: the root's own enter call comes first -/

def FirstEnter (root : Obj) (s : HSt) : Prop :=
  s = hinit root ∨ (enterLog s.trace).take 1 = [([], Atom.none, root)]

theorem FirstEnter_step (c : HCfg) (h : Heap) (root : Obj) (s s' : HSt) (hi : FirstEnter root s)
    (hs : hstep c h root s = some s') : FirstEnter root s' := by
  right
  rcases hi with rfl | hi
  · rcases hstep_hinit c h root s' hs with rfl | ⟨id, nd, rfl, hnd, rfl⟩ <;> simp [hinit, enterLog]
  · obtain ⟨tr, ht⟩ := hstep_trace_grows c h root s s' hs
    rw [ht, enterLog_append]
    cases hx : enterLog s.trace with
    | nil => simp [hx] at hi
    | cons a r => simp [hx] at hi ⊢; exact hi

theorem FirstEnter_final (c : HCfg) (h : Heap) (root : Obj) : FirstEnter root (hfinal c h root) :=
  (hrun_isRun c h root).induct (FirstEnter root) (FirstEnter_step c h root) _ _ (Or.inl rfl)

/-! ## heap level: the loop with its id-registry = the memoised recursive rebuild, raising visit callbacks included -/

def RRes.toOk {α : Type} : RRes α → Option (RSt × α)
  | .ok st a => some (st, a)
  | .raised _ => none

mutual
theorem recVal_eq_recValE (c : HCfg) (h : Heap) (root : Obj) : (n : Nat) → ∀ p k o st,
    recVal c h root n p k o st = (recValE c h root n p k o st).bind RRes.toOk
  | 0 => fun _ _ _ _ => rfl
  | n + 1 => by
    intro p k o st
    cases o with
    | atom a => rfl
    | ref id =>
      simp only [recValE, recVal]
      cases lookup id st.reg with
      | some v => rfl
      | none =>
        cases h[id]? with
        | none => rfl
        | some nd =>
          simp only [recItems_eq_recItemsE c h root n]
          cases recItemsE c h root n _ _ _ _ with
          | none => rfl
          | some r => cases r <;> rfl
theorem recItems_eq_recItemsE (c : HCfg) (h : Heap) (root : Obj) : (n : Nat) → ∀ p items acc st,
    recItems c h root n p items acc st = (recItemsE c h root n p items acc st).bind RRes.toOk
  | 0 => fun _ _ _ _ => rfl
  | n + 1 => by
    intro p items acc st
    cases items with
    | nil => rfl
    | cons x r =>
      obtain ⟨k, o⟩ := x
      simp only [recItemsE, recItems, recVal_eq_recValE c h root n]
      cases recValE c h root n p k o st with
      | none => rfl
      | some r1 =>
        cases r1 with
        | raised st1 => rfl
        | ok st1 val =>
          cases hvo : visitOut c st1.out p k val <;> simp [RRes.toOk, hvo, recItems_eq_recItemsE c h root n]
end

theorem recRoot_eq_recRootE (c : HCfg) (h : Heap) (root : Obj) (n : Nat) :
    recRoot c h root n = (recRootE c h root n).bind RRes.toOk := by
  cases root with
  | atom a => rfl
  | ref id =>
    simp only [recRoot, recRootE]
    cases h[id]? with
    | none => rfl
    | some nd =>
      simp only [recItems_eq_recItemsE c h (.ref id) n]
      cases recItemsE c h (.ref id) n _ _ _ _ with
      | none => rfl
      | some r => cases r <;> rfl

theorem recRoot_result_registered (c : HCfg) (h : Heap) (id : Nat) (n : Nat) (st' : RSt) (v : Obj)
    (hr : recRoot c h (.ref id) n = some (st', v)) : (id, v) ∈ st'.reg := by
  unfold recRoot at hr
  simp only at hr
  split at hr
  · simp at hr
  · split at hr
    · simp at hr
    · injection hr with hr; injection hr with h1 h2; subst h1; subst h2; simp

/-- the loop state reached when a visit raises: `err` set, registry / output heap / trace as given -/
def Raised (s : HSt) (st' : RSt) : Prop :=
  s.err = some .visitError ∧ s.reg = st'.reg ∧ s.out = st'.out ∧ s.trace = st'.trace

/-- where the loop gets from `s`, given the outcome of the recursion for the same work: to `fin st' a` when the
    recursion returns, to a state `Raised` with the recursion's when a visit raised -/
def Ends {α : Type} (c : HCfg) (h : Heap) (root : Obj) (s : HSt) (fin : RSt → α → HSt) : RRes α → Prop
  | .ok st' a => Reaches (hstep c h root) s (fin st' a)
  | .raised st' => ∃ e, Reaches (hstep c h root) s e ∧ Raised e st'

theorem Ends.head {α : Type} {c : HCfg} {h : Heap} {root : Obj} {s s1 : HSt} {fin : RSt → α → HSt} {r : RRes α}
    (h1 : Reaches (hstep c h root) s s1) (h2 : Ends c h root s1 fin r) : Ends c h root s fin r := by
  cases r with
  | ok st' a => exact h1.trans h2
  | raised st' => obtain ⟨e, h2, hR⟩ := h2; exact ⟨e, h1.trans h2, hR⟩

-- The run over one item stops at the `finishItem` of the rebuilt value, so that the returning visit and the raising one
-- are both read off it (`finishItem_of_visitOut_some`, `_none`).  The state `finishItem` is applied to is named as the one
-- the run started in, with the recursion's registry, rebuilt heap and trace (`finishItem_set_stack_value`: its work stack
-- and last value do not matter).
mutual
theorem simValE (c : HCfg) (h : Heap) (root : Obj) : (n : Nat) → ∀ (p : Path) (k : Key) (o : Obj) (st : RSt) (r : RRes Obj)
    (rest : List HFrame) (pp : Path) (acc : List (Key × Obj)) (nr : List (Path × List (Key × Obj))) (val : Obj),
    recValE c h root n p k o st = some r →
    Ends c h root ⟨.item k o :: rest, p, st.reg, (pp, acc) :: nr, st.out, val, st.trace, none⟩
      (fun st' v => finishItem c ⟨.item k o :: rest, p, st'.reg, (pp, acc) :: nr, st'.out, val, st'.trace, none⟩ rest k o v) r
  | 0 => by intro p k o st r rest pp acc nr val hr; simp [recValE] at hr
  | n + 1 => by
    intro p k o st r rest pp acc nr val hr
    simp only [recValE] at hr
    cases o with
    | atom a =>
      simp only [Option.some.injEq] at hr
      subst hr
      exact .single (HStep.sound rfl (.leaf k _ rest rfl (fun _ ho => nomatch ho)))
    | ref id =>
      simp only at hr
      split at hr
      · rename_i v0 hlk
        simp only [Option.some.injEq] at hr
        subst hr
        exact .single (HStep.sound rfl (.registered k id rest _ rfl hlk))
      · rename_i hlk
        split at hr
        · rename_i hnd
          simp only [Option.some.injEq] at hr
          subst hr
          exact .single (HStep.sound rfl (.leaf k _ rest rfl (fun _ ho => by cases ho; exact ⟨hlk, hnd⟩)))
        · rename_i nd hnd
          have e1 : Reaches (hstep c h root) ⟨.item k (.ref id) :: rest, p, st.reg, (pp, acc) :: nr, st.out, val, st.trace, none⟩ _ :=
            .single (HStep.sound rfl (.enter k id rest nd rfl hlk hnd))
          split at hr
          · simp at hr
          · rename_i st2 hri
            simp only [Option.some.injEq] at hr
            subst hr
            obtain ⟨_, h2⟩ := simItemsE c h root n _ _ _ _ _ (.exit k id st.out.length nd.kind :: rest) p
              ((pp, acc) :: nr) val hri
            exact Ends.head e1 h2
          · rename_i st2 items hri
            simp only [Option.some.injEq] at hr
            subst hr
            obtain ⟨val', h2⟩ := simItemsE c h root n _ _ _ _ _ (.exit k id st.out.length nd.kind :: rest) p
              ((pp, acc) :: nr) val hri
            refine e1.trans (h2.trans ?_)
            dsimp only
            rw [← finishItem_set_stack_value c _ rest (exitNode nd.kind st.out.length items st2.out).2]
            exact .single (HStep.sound rfl (.exitNested k id _ nd.kind rest p items _ nr rfl rfl))
theorem simItemsE (c : HCfg) (h : Heap) (root : Obj) : (n : Nat) → ∀ (p : Path) (items acc : List (Key × Obj)) (st : RSt)
    (r : RRes (List (Key × Obj))) (rest : List HFrame) (pp : Path) (nr : List (Path × List (Key × Obj))) (val : Obj),
    recItemsE c h root n p items acc st = some r →
    ∃ val', Ends c h root ⟨itemFrames items ++ rest, p, st.reg, (pp, acc) :: nr, st.out, val, st.trace, none⟩
      (fun st' acc' => ⟨rest, p, st'.reg, (pp, acc') :: nr, st'.out, val', st'.trace, none⟩) r
  | 0 => by intro p items acc st r rest pp nr val hr; simp [recItemsE] at hr
  | n + 1 => by
    intro p items acc st r rest pp nr val hr
    cases items with
    | nil =>
      simp only [recItemsE, Option.some.injEq] at hr
      subst hr
      exact ⟨val, .refl _⟩
    | cons x items =>
      obtain ⟨k, o⟩ := x
      simp only [recItemsE] at hr
      split at hr
      · simp at hr
      · rename_i st1 hv
        simp only [Option.some.injEq] at hr
        subst hr
        exact ⟨val, simValE c h root n p k o st _ (itemFrames items ++ rest) pp acc nr val hv⟩
      · rename_i st1 v1 hv
        have h1 := simValE c h root n p k o st _ (itemFrames items ++ rest) pp acc nr val hv
        simp only [Ends] at h1
        split at hr
        · rename_i hvo
          simp only [Option.some.injEq] at hr
          subst hr
          rw [finishItem_of_visitOut_none c _ _ k o v1 hvo] at h1
          exact ⟨val, _, h1, by simp [Raised]⟩
        · rename_i its hvo
          rw [finishItem_of_visitOut_some c _ _ k o v1 its pp acc nr rfl hvo] at h1
          obtain ⟨val', h2⟩ := simItemsE c h root n p items (acc ++ its)
            { st1 with trace := st1.trace ++ [.visit p k o v1] } r rest pp nr v1 hr
          exact ⟨val', Ends.head h1 h2⟩
end

/-- what the loop's final state is, given the outcome of the recursion -/
def Agrees (s : HSt) : RRes Obj → Prop
  | .ok st' v => s = ⟨[], [], st'.reg, [], st'.out, v, st'.trace, none⟩
  | .raised st' => Raised s st'

theorem hfinal_agrees_recRootE (c : HCfg) (h : Heap) (root : Obj) (n : Nat) (r : RRes Obj)
    (hr : recRootE c h root n = some r) : Agrees (hfinal c h root) r := by
  unfold recRootE at hr
  cases root with
  | atom a => simp at hr
  | ref id =>
    simp only at hr
    split at hr
    · simp at hr
    · rename_i nd hnd
      cases hri : recItemsE c h (.ref id) n [] (enumItems nd.kind 0 nd.items) []
          ⟨[(id, .ref 0)], [⟨nd.kind, []⟩], [.enter [] .none (.ref id) true]⟩ with
      | none => simp [hri] at hr
      | some ri =>
        obtain ⟨val', h2⟩ := simItemsE c h (.ref id) n _ _ _ _ ri [.exit .none id 0 nd.kind] [] [] (.ref id) hri
        have h2 := Ends.head (.single (hstep_hinit_node c h id nd hnd)) h2
        -- a halting state the loop gets to is the state after `hbound h` steps
        have fin : ∀ e, Reaches (hstep c h (.ref id)) (hinit (.ref id)) e → hstep c h (.ref id) e = none →
            hfinal c h (.ref id) = e := fun e hm he =>
          (hrun_isRun ..).eq_of_halted hm he (hbound h) (hfinal_halted c h (.ref id))
        cases ri with
        | raised st2 =>
          simp only [hri, Option.some.injEq] at hr
          subst hr
          obtain ⟨e, h2, hR⟩ := h2
          rw [Agrees, fin e h2 (hstep_of_err c h _ _ _ hR.1)]
          exact hR
        | ok st2 items =>
          simp only [hri, Option.some.injEq] at hr
          subst hr
          exact fin _ (h2.trans (.single (HStep.sound rfl (.exitRoot .none id 0 nd.kind [] [] items rfl rfl))))
            (hstep_eq_none.2 (Or.inr rfl))

theorem hfinal_eq_recRoot (c : HCfg) (h : Heap) (root : Obj) (n : Nat) (st' : RSt) (v : Obj)
    (hr : recRoot c h root n = some (st', v)) :
    hfinal c h root = ⟨[], [], st'.reg, [], st'.out, v, st'.trace, none⟩ := by
  rw [recRoot_eq_recRootE] at hr
  cases hE : recRootE c h root n with
  | none => simp [hE] at hr
  | some r =>
    cases r with
    | raised st => simp [hE, RRes.toOk] at hr
    | ok st a =>
      simp only [hE, Option.bind_some, RRes.toOk, Option.some.injEq, Prod.mk.injEq] at hr
      obtain ⟨rfl, rfl⟩ := hr
      exact hfinal_agrees_recRootE c h root n _ hE

/- fuel: one unit per call, one per item of the list, `cost` for every node still to be entered -/
mutual
theorem recValE_returns (c : HCfg) (h : Heap) (root : Obj) : (n : Nat) → ∀ (p : Path) (k : Key) (o : Obj) (st : RSt)
    (todo : List Nat), Todo h todo st.reg → costSum h todo + 1 ≤ n →
    (∃ st' v todo', recValE c h root n p k o st = some (.ok st' v) ∧ Todo h todo' st'.reg ∧
      costSum h todo' ≤ costSum h todo) ∨ (∃ st', recValE c h root n p k o st = some (.raised st'))
  | 0 => by intro p k o st todo ht hn; omega
  | n + 1 => by
    intro p k o st todo ht hn
    cases o with
    | atom a =>
      exact Or.inl ⟨{ st with trace := st.trace ++ [.enter p k (.atom a) false] }, .atom a, todo,
        by simp only [recValE], ht, Nat.le_refl _⟩
    | ref id =>
      cases hlk : lookup id st.reg with
      | some v0 => exact Or.inl ⟨st, v0, todo, by simp only [recValE, hlk], ht, Nat.le_refl _⟩
      | none =>
        cases hnd : h[id]? with
        | none =>
          exact Or.inl ⟨{ st with trace := st.trace ++ [.enter p k (.ref id) false] }, .ref id, todo,
            by simp only [recValE, hlk, hnd], ht, Nat.le_refl _⟩
        | some nd =>
          have hc := ht.enter hnd hlk
          rcases recItemsE_returns c h root n (if Obj.ref id = root then p else p ++ [k]) (enumItems nd.kind 0 nd.items) []
              ⟨(id, .ref st.out.length) :: st.reg, st.out ++ [⟨nd.kind, []⟩], st.trace ++ [.enter p k (.ref id) true]⟩
              (todo.erase id) (ht.erase id _) (by rw [enumItems_length]; omega)
            with ⟨st2, items, todo2, h2, ht2, hc2⟩ | ⟨st2, h2⟩
          · refine Or.inl ⟨⟨(id, (exitNode nd.kind st.out.length items st2.out).2) :: st2.reg,
                    (exitNode nd.kind st.out.length items st2.out).1, st2.trace ++ [.exit id]⟩,
                  (exitNode nd.kind st.out.length items st2.out).2, todo2,
                  by simp only [recValE, hlk, hnd, h2], ht2.cons id _, by omega⟩
          · exact Or.inr ⟨st2, by simp only [recValE, hlk, hnd, h2]⟩
theorem recItemsE_returns (c : HCfg) (h : Heap) (root : Obj) : (n : Nat) → ∀ (p : Path) (items acc : List (Key × Obj))
    (st : RSt) (todo : List Nat), Todo h todo st.reg → costSum h todo + items.length + 1 ≤ n →
    (∃ st' acc' todo', recItemsE c h root n p items acc st = some (.ok st' acc') ∧ Todo h todo' st'.reg ∧
      costSum h todo' ≤ costSum h todo) ∨ (∃ st', recItemsE c h root n p items acc st = some (.raised st'))
  | 0 => by intro p items acc st todo ht hn; omega
  | n + 1 => by
    intro p items acc st todo ht hn
    cases items with
    | nil => exact Or.inl ⟨st, acc, todo, by simp [recItemsE], ht, Nat.le_refl _⟩
    | cons x r =>
      obtain ⟨k, o⟩ := x
      simp only [List.length_cons] at hn
      rcases recValE_returns c h root n p k o st todo ht (by omega) with ⟨st1, v1, todo1, h1, ht1, hc1⟩ | ⟨st1, h1⟩
      · cases hvo : visitOut c st1.out p k v1 with
        | none => exact Or.inr ⟨{ st1 with trace := st1.trace ++ [.visit p k o v1] }, by simp only [recItemsE, h1, hvo]⟩
        | some its =>
          rcases recItemsE_returns c h root n p r (acc ++ its) { st1 with trace := st1.trace ++ [.visit p k o v1] } todo1 ht1
            (by omega) with ⟨st2, acc2, todo2, h2, ht2, hc2⟩ | ⟨st2, h2⟩
          · exact Or.inl ⟨st2, acc2, todo2, by simp only [recItemsE, h1, hvo, h2], ht2, by omega⟩
          · exact Or.inr ⟨st2, by simp only [recItemsE, h1, hvo, h2]⟩
      · exact Or.inr ⟨st1, by simp only [recItemsE, h1]⟩
end

/-- the root call is the body of `recValE` on the root from the empty state (`[].length = 0` is the `.ref 0` of
    `recRootE`) -/
theorem recRootE_eq_recValE (c : HCfg) (h : Heap) (id : Nat) (nd : Node) (hnd : h[id]? = some nd) (n : Nat) :
    recRootE c h (.ref id) n = recValE c h (.ref id) (n + 1) [] .none (.ref id) ⟨[], [], []⟩ := by
  simp only [recRootE, recValE, lookup, hnd, if_true, List.length_nil, List.nil_append]

theorem recRootE_returns (c : HCfg) (h : Heap) (id : Nat) (nd : Node)
    (hnd : h[id]? = some nd) : ∃ r, recRootE c h (.ref id) (hbound h) = some r := by
  rw [recRootE_eq_recValE c h id nd hnd]
  rcases recValE_returns c h (.ref id) (hbound h + 1) [] .none (.ref id) ⟨[], [], []⟩ _ (Todo.range h)
    (by rw [costSum_range]; simp only [hbound]; omega) with ⟨st', v, _, h1, _, _⟩ | ⟨st', h1⟩
  · exact ⟨_, h1⟩
  · exact ⟨_, h1⟩

/-- no visit raises: the callback never raises, or `reraise_visit=False` -/
def NoRaise (c : HCfg) : Prop := ∀ out p k v, visitOut c out p k v ≠ none

mutual
theorem recValE_ne_raised (c : HCfg) (h : Heap) (root : Obj) (hnr : NoRaise c) : (n : Nat) → ∀ p k o st st',
    recValE c h root n p k o st ≠ some (.raised st')
  | 0 => by intro p k o st st' hr; simp [recValE] at hr
  | n + 1 => by
    intro p k o st st' hr
    simp only [recValE] at hr
    split at hr
    · simp at hr
    · split at hr
      · simp at hr
      · split at hr
        · simp at hr
        · split at hr
          · simp at hr
          · rename_i hri; exact recItemsE_ne_raised c h root hnr n _ _ _ _ _ hri
          · simp at hr
theorem recItemsE_ne_raised (c : HCfg) (h : Heap) (root : Obj) (hnr : NoRaise c) : (n : Nat) → ∀ p items acc st st',
    recItemsE c h root n p items acc st ≠ some (.raised st')
  | 0 => by intro p items acc st st' hr; simp [recItemsE] at hr
  | n + 1 => by
    intro p items acc st st' hr
    cases items with
    | nil => simp [recItemsE] at hr
    | cons x r =>
      obtain ⟨k, o⟩ := x
      simp only [recItemsE] at hr
      split at hr
      · simp at hr
      · rename_i hv; exact recValE_ne_raised c h root hnr n _ _ _ _ _ hv
      · split at hr
        · rename_i hvo; exact hnr _ _ _ _ hvo
        · exact recItemsE_ne_raised c h root hnr n _ _ _ _ _ hr
end

theorem recRoot_returns (c : HCfg) (h : Heap) (id : Nat) (nd : Node) (hnr : NoRaise c)
    (hnd : h[id]? = some nd) : ∃ st' v, recRoot c h (.ref id) (hbound h) = some (st', v) := by
  obtain ⟨r, hr⟩ := recRootE_returns c h id nd hnd
  rw [recRoot_eq_recRootE, hr]
  cases r with
  | ok st v => exact ⟨st, v, rfl⟩
  | raised st =>
    rw [recRootE_eq_recValE c h id nd hnd] at hr
    exact absurd hr (recValE_ne_raised c h _ hnr _ _ _ _ _ _)

end C08
