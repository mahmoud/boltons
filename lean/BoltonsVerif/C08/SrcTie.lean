import BoltonsVerif.Generated.Src_iterutils_remap
import BoltonsVerif.C08.SrcTieOps
import BoltonsVerif.C08.Props
/-
C08 — source-translator tie for the callbacks of `boltons.iterutils.remap`, for `get_path` and for the main loop of `remap`.

`Src.iterutils.default_visit / default_enter / default_exit / get_path / remap_loop` are regenerated from the Python
source on every run (harness/py2lean_c08.py, OBJECT-GRAPH MODE): definitions over an abstract object store with every
duck-typed operation a field of the parameter record `PyRtC08.Ops σ V K`.  `SrcTieOps.lean` gives the operations their
meaning on the heap of the C08 model (`gOps rd`: objects are `C08.Obj`, the store is a `C08.Heap`); `rd` says which heap
READS go to - the store itself (`gOps id`, the single Python heap: this instance is what the translator self-test runs
against CPython) or a fixed input heap (`gOps (fun _ => hin)`: the model keeps the traversed graph `h` and the rebuilt
graph `out` apart).

Under this meaning the generated definitions ARE the pieces the heap-level machine `hstep` of Model.lean is made of:
`default_enter` = the allocation / item list of the `.item` step, `default_exit` = `exitNode`, `default_visit` =
`Visit.keep`, `get_path` = `hgetPath`; and one iteration of the generated main loop, run with these callbacks, is one
`hstep`, hence `src_remap_eq_rec`.

Proof style: specification lemmas for the operations + `simp` with the generated definitions as simp set and a
leaf-wise case analysis; nothing follows the statement order of the source.
-/
namespace C08
open PyRtC08 Src.iterutils

section gOps
variable (rd : Heap → Heap) (s : Heap) (v : Obj) (i : Nat)

@[simp] theorem gOps_isStrBytes : (gOps rd).isStrBytes s v = isStrBytesA v := rfl
@[simp] theorem gOps_isMapping : (gOps rd).isMapping s v = kindIn (rd s) v (· == .dict) := rfl
@[simp] theorem gOps_isSequence :
    (gOps rd).isSequence s v = (isStrBytesA v || kindIn (rd s) v fun k => k == .list || k == .tuple) := rfl
@[simp] theorem gOps_isSet : (gOps rd).isSet s v = kindIn (rd s) v Kind.isSet := rfl
@[simp] theorem gOps_newOfClass : (gOps rd).newOfClass s v = match nodeOf (rd s) v with
    | some nd => .ok (.ref s.length, s ++ [⟨nd.kind, []⟩])
    | none => .error .Other := rfl
@[simp] theorem gOps_itemsView : (gOps rd).itemsView s v = match nodeOf (rd s) v with
    | some nd => nd.items
    | none => [] := rfl
theorem pyEnumerate_eq_renumber (l : List Obj) (i : Nat) : pyEnumerate i l = renumber i l := by
  induction l generalizing i with
  | nil => rfl
  | cons o r ih => simp [pyEnumerate, renumber, ih]
@[simp] theorem gOps_enumerate : (gOps rd).enumerate s v = match nodeOf (rd s) v with
    | some nd => renumber 0 (nd.items.map Prod.snd)
    | none => [] := by
  show (match nodeOf (rd s) v with | some nd => pyEnumerate 0 (nd.items.map Prod.snd) | none => []) = _
  simp only [pyEnumerate_eq_renumber]
@[simp] theorem gOps_updatePairs_ref (items : List (Key × Obj)) :
    (gOps rd).updatePairs s (.ref i) items = match s[i]? with
      | none => .error .AttributeError
      | some nd => match nd.kind with
        | .dict => .ok (s.set i ⟨.dict, dictUpdate nd.items items⟩)
        | .set => .error .Other
        | _ => .error .AttributeError := rfl
@[simp] theorem gOps_updateVals_ref (vals : List Obj) :
    (gOps rd).updateVals s (.ref i) vals = match s[i]? with
      | none => .error .AttributeError
      | some nd => match nd.kind with
        | .set => .ok (s.set i ⟨.set, renumber 0 (dedupBy (objEq s (s.length + 1)) (nd.items.map Prod.snd) vals)⟩)
        | .dict => .error .Other
        | _ => .error .AttributeError := rfl
@[simp] theorem gOps_extend_ref (vals : List Obj) :
    (gOps rd).extend s (.ref i) vals = match s[i]? with
      | none => .error .AttributeError
      | some nd => match nd.kind with
        | .list => .ok (s.set i ⟨.list, nd.items ++ renumber nd.items.length vals⟩)
        | _ => .error .AttributeError := rfl
@[simp] theorem gOps_classOfVals_ref (vals : List Obj) :
    (gOps rd).classOfVals s (.ref i) vals = match s[i]? with
      | none => .error .Other
      | some nd => match nd.kind with
        | .dict => .error .Other
        | kd => .ok (.ref s.length,
                     s ++ [⟨kd, buildItems (objEq s (s.length + 1)) kd (vals.map fun v => (Atom.none, v))⟩]) := rfl

end gOps

theorem lookupKey_renumber_int (l : List Obj) (j : Nat) (i : Int) (hi : (j : Int) ≤ i) :
    lookupKey (.int i) (renumber j l) = l[(i - j).toNat]? := by
  induction l generalizing j with
  | nil => simp [renumber, lookupKey]
  | cons o r ih =>
    simp only [renumber, lookupKey]
    by_cases h : (j : Int) = i
    · subst h; simp
    · have h2 : ((j + 1 : Nat) : Int) ≤ i := by omega
      have h3 : ¬ (Atom.int (j : Int) = Atom.int i) := by
        intro hc; injection hc with hc; exact h hc
      rw [if_neg h3, ih (j + 1) h2]
      have : (i - (j : Int)).toNat = (i - ((j + 1 : Nat) : Int)).toNat + 1 := by omega
      rw [this]; simp

theorem lookupKey_renumber_nonint (l : List Obj) (j : Nat) (seg : Atom) (hs : ∀ i, seg ≠ .int i) :
    lookupKey seg (renumber j l) = none := by
  induction l generalizing j with
  | nil => rfl
  | cons o r ih =>
    simp only [renumber, lookupKey]
    rw [if_neg (fun hc => hs _ hc.symm), ih]

/-- the path segments the model is exact for: non-negative ints, strings that are not numerals, `None` -/
def PlainSeg : Atom → Prop
  | .int i => 0 ≤ i
  | .str s => s.toInt? = none
  | .none => True
  | _ => False

theorem getitemH_eq_hgetChild (h : Heap) (cur : Obj) (seg : Atom) (hp : PlainSeg seg) :
    (∀ v, hgetChild h cur seg = some v → getitemH h cur seg = .ok v) ∧
    (hgetChild h cur seg = none →
      ∃ e, getitemH h cur seg = .error e ∧ (e = .KeyError ∨ e = .IndexError ∨ e = .TypeError)) := by
  cases cur with
  | atom a => simp [hgetChild, getitemH, nodeOf]
  | ref id =>
    simp only [hgetChild, getitemH, nodeOf]
    cases hn : h[id]? with
    | none => simp
    | some nd =>
      obtain ⟨kd, items⟩ := nd
      have hseq := enumItems_seq kd
      cases kd with
      | dict =>
        simp only [Kind.isSet, enumItems_dict]
        cases hl : lookupKey seg items <;> simp
      | set => simp [Kind.isSet]
      | fset => simp [Kind.isSet]
      | list | tuple =>
        simp only [Kind.isSet, hseq (by decide)]
        cases seg with
        | int i =>
          have hi : 0 ≤ i := hp
          have := lookupKey_renumber_int (items.map Prod.snd) 0 i (by simpa using hi)
          rw [show i - ((0 : Nat) : Int) = i by omega] at this
          simp only [Bool.false_eq_true, if_false, this, seqIndex, hi, if_true]
          cases (items.map Prod.snd)[i.toNat]? <;> simp
        | str s => simp [lookupKey_renumber_nonint]
        | none => simp [lookupKey_renumber_nonint]
        | bool b => exact absurd hp (by simp [PlainSeg])
        | bytes b => exact absurd hp (by simp [PlainSeg])
        | float t => exact absurd hp (by simp [PlainSeg])
        | other n => exact absurd hp (by simp [PlainSeg])

theorem atomToInt_plain (seg : Atom) (hp : PlainSeg seg) :
    atomToInt seg = .ok seg ∨ atomToInt seg = .error .ValueError ∨ atomToInt seg = .error .TypeError := by
  cases seg with
  | int i => simp [atomToInt]
  | str s => have : s.toInt? = none := hp; simp [atomToInt, this]
  | none => simp [atomToInt]
  | bool b => exact absurd hp (by simp [PlainSeg])
  | bytes b => exact absurd hp (by simp [PlainSeg])
  | float t => exact absurd hp (by simp [PlainSeg])
  | other n => exact absurd hp (by simp [PlainSeg])

theorem src_default_visit_eq_model {σ V K : Type} (O : Ops σ V K) (s : σ) (p : List K) (k : K) (v : V) :
    default_visit O s p k v = .ok ((k, v), s) := by
  simp [default_visit]

/-- as a `visit` callback of the model the translated `default_visit` is `keep`: `remap` appends `(key, value)` -/
theorem src_default_visit_is_keep (O : Ops Heap Obj Atom) (s : Heap) (p : Path) (k : Key) (v : Obj) :
    applyVisit (fun p k v => match default_visit O s p k v with
      | .ok ((k2, v2), _) => Visit.repl k2 v2
      | .error _ => Visit.raise) p k v = applyVisit (fun _ _ _ => Visit.keep) p k v := by
  simp [default_visit, applyVisit]

example : default_visit (gOps id) [] [] (.int 3) (.atom .none) = .ok ((.int 3, .atom .none), []) := by rfl

/-- the model's reading of `enter` on the input heap `hin` with the rebuilt heap `out` -/
def enterModel (hin out : Heap) (o : Obj) : EnterRes Obj Atom × Heap :=
  match nodeOf hin o with
  | none => ((o, none), out)
  | some nd => ((.ref out.length, some (enumItems nd.kind 0 nd.items)), out ++ [⟨nd.kind, []⟩])

theorem isStrBytesA_of_node {h : Heap} {o : Obj} {nd : Node} (hn : nodeOf h o = some nd) : isStrBytesA o = false := by
  cases o with
  | atom a => simp [nodeOf] at hn
  | ref id => rfl

/-- `default_enter` reads `o` before and after the allocation of the blank container: `hrd` says both reads agree -/
theorem default_enter_gOps (rd : Heap → Heap) (s : Heap) (p : Path) (k : Key) (o : Obj)
    (hrd : ∀ nd, nodeOf (rd s) o = some nd → nodeOf (rd (s ++ [⟨nd.kind, []⟩])) o = some nd) :
    default_enter (gOps rd) s p k o = .ok (enterModel (rd s) s o) := by
  unfold enterModel
  cases hn : nodeOf (rd s) o with
  | none => cases hb : isStrBytesA o <;> simp [default_enter, kindIn, hn, hb]
  | some nd =>
    have hn2 := hrd nd hn
    have hb := isStrBytesA_of_node hn
    obtain ⟨kd, items⟩ := nd
    cases kd <;>
      simp [default_enter, kindIn, hn, hn2, hb, Kind.isSet, enumItems_dict, enumItems_seq]

theorem src_default_enter_eq_model (hin out : Heap) (p : Path) (k : Key) (o : Obj) :
    default_enter (gOps fun _ => hin) out p k o = .ok (enterModel hin out o) :=
  default_enter_gOps _ out p k o fun _ hn => hn

/-- the same on the single Python heap (`gOps id`: the instance the self-test runs against CPython), for an
    object of the store -/
theorem src_default_enter_single_heap (h : Heap) (p : Path) (k : Key) (o : Obj)
    (hin : ∀ id, o = .ref id → id < h.length) :
    default_enter (gOps id) h p k o = .ok (enterModel h h o) :=
  default_enter_gOps id h p k o fun nd hn => by
    cases o with
    | atom a => exact hn
    | ref i => simpa only [id, nodeOf, List.getElem?_append_left (hin i rfl)] using hn

/-- the `.item` step of the heap-level machine, for a container met for the first time, expressed through the
    translated `default_enter`: new stack frames, rebuilt heap and registry entry are what the source returns -/
theorem src_default_enter_drives_hstep (c : HCfg) (h : Heap) (root : Obj) (s : HSt) (k : Key) (id : Nat)
    (rest : List HFrame) (nd : Node) (hs : s.stack = .item k (.ref id) :: rest) (he : s.err = none)
    (hreg : lookup id s.reg = none) (hnd : h[id]? = some nd) :
    ∃ np items out2, default_enter (gOps fun _ => h) s.out s.path k (.ref id) = .ok ((np, some items), out2) ∧
      hstep c h root s = some { s with
        stack := itemFrames items ++ (.exit k id s.out.length nd.kind :: rest),
        path := if Obj.ref id = root then s.path else s.path ++ [k],
        reg := (id, np) :: s.reg, nis := (s.path, []) :: s.nis, out := out2,
        trace := s.trace ++ [.enter s.path k (.ref id) true] } := by
  refine ⟨.ref s.out.length, enumItems nd.kind 0 nd.items, s.out ++ [⟨nd.kind, []⟩], ?_, ?_⟩
  · rw [src_default_enter_eq_model]; simp [enterModel, nodeOf, hnd]
  · exact HStep.sound he (.enter k id rest nd hs hreg hnd)

example : default_enter (gOps fun _ => [⟨.list, [(.none, .atom (.int 7))]⟩]) [] [] .none (.ref 0)
    = .ok ((.ref 0, some [(.int 0, .atom (.int 7))]), [⟨.list, []⟩]) := by rfl

theorem src_default_exit_eq_model (out : Heap) (p : Path) (k : Key) (old : Obj) (new : Nat) (kd : Kind)
    (items : List (Key × Obj)) (hnew : out[new]? = some ⟨kd, []⟩) :
    default_exit (gOps id) out p k old (.ref new) items
      = .ok ((exitNode kd new items out).2, (exitNode kd new items out).1) := by
  cases kd <;>
    simp [default_exit, isStrBytesA, kindIn, nodeOf, hnew, Kind.isSet, exitNode, Kind.isMutable, buildItems,
      Exc.isA, List.map_map, Function.comp_def]

/-- the `.exit` step of the heap-level machine expressed through the translated `default_exit`: the value handed
    on, the registry entry of the old parent and the rebuilt heap are what the SOURCE returns (hyp.: the new
    parent is still the blank container created at enter time) -/
theorem src_default_exit_drives_hstep (c : HCfg) (h : Heap) (root : Obj) (s : HSt) (k : Key) (old new : Nat)
    (kd : Kind) (rest : List HFrame) (p : Path) (items : List (Key × Obj)) (nr : List (Path × List (Key × Obj)))
    (hs : s.stack = .exit k old new kd :: rest) (he : s.err = none) (hn : s.nis = (p, items) :: nr)
    (hnew : s.out[new]? = some ⟨kd, []⟩) :
    ∃ ret out2, default_exit (gOps id) s.out p k (.ref old) (.ref new) items = .ok (ret, out2) ∧
      hstep c h root s = some (match nr with
        | [] => { s with stack := rest, path := p, nis := [], out := out2, value := ret,
                         reg := (old, ret) :: s.reg, trace := s.trace ++ [.exit old] }
        | _ :: _ => finishItem c { s with stack := rest, path := p, nis := nr, out := out2, value := ret,
                                          reg := (old, ret) :: s.reg, trace := s.trace ++ [.exit old] }
                      rest k (.ref old) ret) := by
  refine ⟨(exitNode kd new items s.out).2, (exitNode kd new items s.out).1,
    src_default_exit_eq_model s.out p k (.ref old) new kd items hnew, ?_⟩
  cases nr with
  | nil => exact HStep.sound he (.exitRoot k old new kd rest p items hs hn)
  | cons x nr => exact HStep.sound he (.exitNested k old new kd rest p items x nr hs hn)

/-- an int as new parent: the source raises `RuntimeError` (the model never gets there) -/
theorem src_default_exit_scalar (out : Heap) (p : Path) (k : Key) (old : Obj) (i : Int)
    (items : List (Key × Obj)) :
    default_exit (gOps id) out p k old (.atom (.int i)) items = .error .RuntimeError := by
  simp [default_exit, isStrBytesA, kindIn, nodeOf]

example : default_exit (gOps id) [⟨.tuple, []⟩] [] .none (.atom .none) (.ref 0) [(.int 0, .atom (.int 7))]
    = .ok (.ref 1, [⟨.tuple, []⟩, ⟨.tuple, [(.int 0, .atom (.int 7))]⟩]) := by rfl

/-- specification of the loop, for ANY operations record whose `cur[seg]` / `int(seg)` behave as declared -/
theorem get_path_loop_spec {σ V K : Type} (O : Ops σ V K) (child : V → K → Option V) (walk : V → List K → Option V)
    (hw0 : ∀ v, walk v [] = some v)
    (hw1 : ∀ v seg r c, child v seg = some c → walk v (seg :: r) = walk c r)
    (hw2 : ∀ v seg r, child v seg = none → walk v (seg :: r) = none)
    (root : V) (path0 : List K) (d : Option V) (s : σ) (path : List K)
    (hget : ∀ cur seg, seg ∈ path → (∀ v, child cur seg = some v → O.getitem s cur seg = .ok v) ∧
      (child cur seg = none →
        ∃ e, O.getitem s cur seg = .error e ∧ (e = .KeyError ∨ e = .IndexError ∨ e = .TypeError)))
    (hint : ∀ seg, seg ∈ path → O.toInt seg = .ok seg ∨ O.toInt seg = .error .ValueError ∨ O.toInt seg = .error .TypeError)
    (cur : V) :
    get_path.loop1 O root path0 d path cur s = match walk cur path with
      | some v => .ok (v, s)
      | none => .error .PathAccessError := by
  induction path generalizing cur with
  | nil => simp [get_path.loop1, hw0]
  | cons seg r ih =>
    have ih2 := fun c => ih (fun cur seg hm => hget cur seg (List.mem_cons_of_mem _ hm))
      (fun seg hm => hint seg (List.mem_cons_of_mem _ hm)) c
    have hg := hget cur seg (List.mem_cons_self ..)
    have hi := hint seg (List.mem_cons_self ..)
    cases hc : child cur seg with
    | some v =>
      rw [hw1 _ _ _ _ hc]
      have hg := hg.1 v hc
      simp [get_path.loop1, hg, ih2]
    | none =>
      rw [hw2 _ _ _ hc]
      obtain ⟨e, he, hcls⟩ := hg.2 hc
      rcases hcls with rfl | rfl | rfl <;> rcases hi with hi | hi | hi <;>
        simp [get_path.loop1, he, hi, Exc.isA]

/-- `get_path(root, path[, default])` on the heap: the model's `hgetPath`; a failed lookup is
    `PathAccessError` or the default -/
theorem src_get_path_eq_model (h s : Heap) (root : Obj) (path : Path) (d : Option Obj)
    (hp : ∀ seg, seg ∈ path → PlainSeg seg) :
    get_path (gOps fun _ => h) s root path d = match hgetPath h root path with
      | some v => .ok (v, s)
      | none => match d with
        | none => .error .PathAccessError
        | some dv => .ok (dv, s) := by
  have hl := get_path_loop_spec (gOps fun _ => h) (hgetChild h) (hgetPath h) (fun v => by simp [hgetPath])
    (fun v seg r c hc => by simp [hgetPath, hc]) (fun v seg r hc => by simp [hgetPath, hc]) root path d s path
    (fun cur seg hm => getitemH_eq_hgetChild h cur seg (hp seg hm))
    (fun seg hm => atomToInt_plain seg (hp seg hm)) root
  simp only [get_path, hl]
  cases hgetPath h root path with
  | some v => simp
  | none => cases d <;> simp [Exc.isA]

theorem src_get_path_default (h s : Heap) (root : Obj) (path : Path) (dv : Obj)
    (hp : ∀ seg, seg ∈ path → PlainSeg seg) :
    get_path (gOps fun _ => h) s root path (some dv) = .ok ((hgetPath h root path).getD dv, s) := by
  rw [src_get_path_eq_model h s root path (some dv) hp]
  cases hgetPath h root path <;> simp

example : get_path (gOps id) [⟨.dict, [(.str "a", .ref 1)]⟩, ⟨.list, [(.none, .atom (.int 7))]⟩] (.ref 0)
    [.str "a", .int 0] none = .ok (.atom (.int 7), [⟨.dict, [(.str "a", .ref 1)]⟩, ⟨.list, [(.none, .atom (.int 7))]⟩]) := by
  rfl
example : get_path (gOps id) [⟨.list, [(.none, .atom (.int 7))]⟩] (.ref 0) [.int 3] none = .error .PathAccessError := by
  rfl
example : PlainSeg .none ∧ PlainSeg (.int 0) := by simp [PlainSeg]

/-! ## the MAIN LOOP of `remap` (loop mode of harness/py2lean_c08.py)

`Src.iterutils.remap_loop.loop1` is the `while stack:` loop regenerated from the source, with the callbacks as
parameters.  Instantiated with the TRANSLATED `default_enter` (reads on the input heap `h`, allocation in the rebuilt
heap) and `default_exit` (on the rebuilt heap) and with the model's visit callback, one iteration of the source loop
IS one `hstep` of the heap-level machine of Model.lean (`src_remap_loop_simulates_hstep`). -/

/-- a work-stack entry of the model as the source's entry -/
def frameOf : HFrame → PyRtC08.Frame Obj Atom
  | .item k o => .item k o
  | .exit k old new _ => .exit k (.ref new) (.ref old)

/-- the model's registry (input id ↦ rebuilt object) as the source's `registry` (keyed by `id()` = the reference) -/
def regOf (r : List (Nat × Obj)) : List (Obj × Obj) := r.map fun p => (Obj.ref p.1, p.2)

/-- the model's visit callback as a callback of the source loop (a raising visit raises `Exc.Other`) -/
def visitOf (c : HCfg) : PyRtC08.VisitFn Heap Obj Atom := fun s p k v =>
  match c.vf s p k v with
  | .keep => .ok (.true_, s)
  | .drop => .ok (.false_, s)
  | .repl k2 v2 => .ok (.pair k2 v2, s)
  | .raise => .error .Other

/-- the translated loop with the translated default callbacks and the model's visit (`false`: `visit_is_default`) -/
abbrev srcLoop (c : HCfg) (h : Heap) (root : Obj) :=
  remap_loop.loop1 root (visitOf c) (default_enter (gOps fun _ => h)) (default_exit (gOps id)) false c.reraise Atom.none

theorem regLookup_regOf_ref (r : List (Nat × Obj)) (id : Nat) : regLookup (regOf r) (.ref id) = lookup id r := by
  induction r with
  | nil => rfl
  | cons x r ih => obtain ⟨j, o⟩ := x; simp [regOf, regLookup, lookup] at ih ⊢; split <;> simp_all

theorem regLookup_regOf_atom (r : List (Nat × Obj)) (a : Atom) : regLookup (regOf r) (.atom a) = none := by
  induction r with
  | nil => rfl
  | cons x r ih => obtain ⟨j, o⟩ := x; simp [regOf, regLookup] at ih ⊢; exact ih

/-- how the source loop goes on with `n` more iterations from the model state `s1` reached by one step (`ent`, `v1`: any
    `entered` list and last `value`), or the exception for the error the model records -/
def contFromV (c : HCfg) (h : Heap) (root : Obj) (n : Nat) (ent : List Obj) (v1 : Option Obj) (s1 : HSt) :=
  match s1.err with
  | none => srcLoop c h root n ent s1.nis s1.path (regOf s1.reg) (s1.stack.map frameOf) v1 s1.out
  | some .typeError => .error .TypeError
  | some .visitError => .error .Other

theorem srcLoop_item_leaf (c : HCfg) (h : Heap) (root : Obj) (n : Nat) (ent : List Obj) (val : Option Obj) (s : HSt)
    (k : Key) (o : Obj) (rest : List HFrame) (hs : s.stack = .item k o :: rest) (he : s.err = none)
    (hleaf : ∀ id, o = .ref id → lookup id s.reg = none ∧ h[id]? = none) :
    srcLoop c h root (n + 1) ent s.nis s.path (regOf s.reg) (s.stack.map frameOf) val s.out =
      contFromV c h root n ent (some o)
        (finishItem c { s with trace := s.trace ++ [.enter s.path k o false] } rest k o o) := by
  have hreg : regLookup (regOf s.reg) o = none := by
    cases o with
    | atom a => exact regLookup_regOf_atom ..
    | ref id => rw [regLookup_regOf_ref]; exact (hleaf id rfl).1
  have hnd : nodeOf h o = none := by
    cases o with
    | atom a => rfl
    | ref id => exact (hleaf id rfl).2
  simp only [srcLoop, hs, List.map_cons, frameOf]
  rw [remap_loop.loop1]
  simp only [hreg, Option.isSome_none, Bool.false_eq_true, if_false, src_default_enter_eq_model, enterModel, hnd,
    visitOf, finishItem, appendItem, contFromV]
  -- what is left is the source's "visit the value, append the result" against `finishItem`
  cases hn : s.nis <;> cases hv : c.vf s.out s.path k o
  case nil.raise => cases c.reraise <;> simp [Exc.isA]
  case cons.raise => cases hr : c.reraise <;> simp [he, hr, srcLoop]
  all_goals simp [he, srcLoop, Exc.isA]

theorem srcLoop_item_registered (c : HCfg) (h : Heap) (root : Obj) (n : Nat) (ent : List Obj) (val : Option Obj) (s : HSt)
    (k : Key) (id : Nat) (v : Obj) (rest : List HFrame) (hs : s.stack = .item k (.ref id) :: rest) (he : s.err = none)
    (hreg : lookup id s.reg = some v) :
    srcLoop c h root (n + 1) ent s.nis s.path (regOf s.reg) (s.stack.map frameOf) val s.out =
      contFromV c h root n ent (some v) (finishItem c s rest k (.ref id) v) := by
  simp only [srcLoop, hs, List.map_cons, frameOf]
  rw [remap_loop.loop1]
  simp only [regLookup_regOf_ref, hreg, regGet, Option.isSome_some, if_true, visitOf, finishItem, appendItem, contFromV]
  cases hn : s.nis <;> cases hv : c.vf s.out s.path k v
  case nil.raise => cases c.reraise <;> simp [Exc.isA]
  case cons.raise => cases hr : c.reraise <;> simp [he, hr, srcLoop]
  all_goals simp [he, srcLoop, Exc.isA]

theorem map_frameOf_itemFrames (l : List (Key × Obj)) :
    (itemFrames l).map frameOf = l.map fun kv => PyRtC08.Frame.item kv.1 kv.2 := by
  simp [itemFrames, frameOf, List.map_map, Function.comp_def]

theorem srcLoop_item_enter (c : HCfg) (h : Heap) (root : Obj) (n : Nat) (ent : List Obj) (val : Option Obj) (s : HSt)
    (k : Key) (id : Nat) (nd : Node) (rest : List HFrame) (hs : s.stack = .item k (.ref id) :: rest)
    (hreg : lookup id s.reg = none) (hnd : h[id]? = some nd) :
    srcLoop c h root (n + 1) ent s.nis s.path (regOf s.reg) (s.stack.map frameOf) val s.out =
      srcLoop c h root n (ent ++ [.ref id]) ((s.path, []) :: s.nis) (if Obj.ref id = root then s.path else s.path ++ [k])
        (regOf ((id, .ref s.out.length) :: s.reg))
        ((itemFrames (enumItems nd.kind 0 nd.items) ++ (.exit k id s.out.length nd.kind :: rest)).map frameOf)
        (some (.ref id)) (s.out ++ [⟨nd.kind, []⟩]) := by
  simp only [srcLoop, hs, List.map_cons, frameOf, List.map_append, map_frameOf_itemFrames]
  rw [remap_loop.loop1]
  simp only [regLookup_regOf_ref, hreg, src_default_enter_eq_model, enterModel, nodeOf, hnd]
  by_cases hroot : Obj.ref id = root <;> cases hl : enumItems nd.kind 0 nd.items <;> simp [hroot, regOf]

theorem srcLoop_exit (c : HCfg) (h : Heap) (root : Obj) (n : Nat) (ent : List Obj) (val : Option Obj) (s : HSt)
    (k : Key) (old new : Nat) (kd : Kind) (rest : List HFrame) (p : Path) (items : List (Key × Obj))
    (nr : List (Path × List (Key × Obj)))
    (hs : s.stack = .exit k old new kd :: rest) (he : s.err = none) (hn : s.nis = (p, items) :: nr)
    (hnew : s.out[new]? = some ⟨kd, []⟩) :
    srcLoop c h root (n + 1) ent s.nis s.path (regOf s.reg) (s.stack.map frameOf) val s.out =
      contFromV c h root n ent (some (exitNode kd new items s.out).2) (match nr with
        | [] => { s with stack := rest, path := p, nis := [], out := (exitNode kd new items s.out).1,
                         value := (exitNode kd new items s.out).2,
                         reg := (old, (exitNode kd new items s.out).2) :: s.reg, trace := s.trace ++ [.exit old] }
        | _ :: _ => finishItem c { s with stack := rest, path := p, nis := nr, out := (exitNode kd new items s.out).1,
                                          value := (exitNode kd new items s.out).2,
                                          reg := (old, (exitNode kd new items s.out).2) :: s.reg,
                                          trace := s.trace ++ [.exit old] }
                      rest k (.ref old) (exitNode kd new items s.out).2) := by
  simp only [srcLoop, hs, hn, List.map_cons, frameOf]
  rw [remap_loop.loop1]
  simp only [src_default_exit_eq_model _ _ _ _ _ _ _ hnew, visitOf, contFromV]
  cases nr with
  | nil => simp [he, regOf, srcLoop]
  | cons x nr2 =>
    obtain ⟨pp, acc⟩ := x
    simp only [finishItem, appendItem]
    cases hv : c.vf (exitNode kd new items s.out).1 p k (exitNode kd new items s.out).2
    case raise => cases hr : c.reraise <;> simp [he, hr, srcLoop, regOf]
    all_goals simp [he, srcLoop, regOf]

/-- ONE ITERATION OF THE SOURCE LOOP IS ONE `hstep`: from the source state that corresponds to the model state `s`
    (work stack `frameOf`, registry `regOf`, same path / collected items / rebuilt heap; ANY `entered` list and last
    value), `n + 1` iterations of the translated `while stack:` loop - with the translated `default_enter` /
    `default_exit` and the model's visit callback - are: finished (empty stack), or `n` iterations from the state
    corresponding to `hstep`'s, or the exception for the error `hstep` records.  When the stack becomes empty the
    source's `value` is the model's. -/
theorem src_remap_loop_simulates_hstep (c : HCfg) (h : Heap) (root : Obj) (n : Nat) (ent : List Obj)
    (val : Option Obj) (s : HSt) (he : s.err = none) (hok : StepOK s) :
    match hstep c h root s with
    | none => srcLoop c h root (n + 1) ent s.nis s.path (regOf s.reg) (s.stack.map frameOf) val s.out
        = .ok ((ent, s.nis, s.path, regOf s.reg, [], val), s.out)
    | some s1 => ∃ ent1 v1, (s1.stack = [] → v1 = some s1.value) ∧
        srcLoop c h root (n + 1) ent s.nis s.path (regOf s.reg) (s.stack.map frameOf) val s.out
          = contFromV c h root n ent1 v1 s1 := by
  cases hs : hstep c h root s with
  | none =>
    have hst : s.stack = [] := (hstep_eq_none.1 hs).resolve_left (fun hc => hc he)
    simp only [srcLoop, hst, List.map_nil]
    rw [remap_loop.loop1]
  | some s1 =>
    cases (hstep_eq_some.1 hs).2 with
    | leaf k o rest hst hleaf =>
      exact ⟨ent, _, fun _ => (finishItem_value ..).symm ▸ rfl, srcLoop_item_leaf c h root n ent val s k o rest hst he hleaf⟩
    | registered k id rest v hst hlk =>
      exact ⟨ent, _, fun _ => (finishItem_value ..).symm ▸ rfl,
        srcLoop_item_registered c h root n ent val s k id v rest hst he hlk⟩
    | enter k id rest nd hst hlk hnd =>
      refine ⟨ent ++ [.ref id], some (.ref id), by simp, ?_⟩
      rw [srcLoop_item_enter c h root n ent val s k id nd rest hst hlk hnd]
      simp [contFromV, he]
    | exitRoot k old new kd rest p items hst hn =>
      exact ⟨ent, _, fun _ => rfl, srcLoop_exit c h root n ent val s k old new kd rest p items [] hst he hn (hok.blank hst)⟩
    | exitNested k old new kd rest p items x nr hst hn =>
      exact ⟨ent, _, fun _ => (finishItem_value ..).symm ▸ rfl,
        srcLoop_exit c h root n ent val s k old new kd rest p items (x :: nr) hst he hn (hok.blank hst)⟩
    | exitEmpty k old new kd rest hst hn => exact absurd hn (hok.nis_ne_nil hst)

def excOf : Err → Exc
  | .typeError => .TypeError
  | .visitError => .Other

/-- what the translated loop returns when the model's run has ended in `e`: the exception for the error `e` records, or
    the source state that corresponds to `e` (with some `entered` list) -/
def outcomeOf (ent : List Obj) (e : HSt) :
    R Heap (List Obj × List (List Atom × List (Atom × Obj)) × List Atom × List (Obj × Obj) ×
      List (PyRtC08.Frame Obj Atom) × Option Obj) :=
  match e.err with
  | some x => .error (excOf x)
  | none => .ok ((ent, e.nis, e.path, regOf e.reg, [], some e.value), e.out)

/-- WHOLE RUNS: when the model has halted after `n` steps, `n + 1` iterations of the translated loop (one more, to see the
    empty stack) return the outcome of the model's last state.  The source's last `value` is the model's whenever the stack
    is empty (`hv`, handed on by each iteration; right after a container is entered the source's variable holds that
    container, the model's field the value finished before). -/
theorem src_remap_loop_eq_hrun (c : HCfg) (h : Heap) (root : Obj) (n : Nat) :
    ∀ (s : HSt) (ent : List Obj) (val : Option Obj), LoopInv s → s.err = none → (s.stack = [] → val = some s.value) →
      hstep c h root (hrun c h root n s) = none →
      ∃ ent1, srcLoop c h root (n + 1) ent s.nis s.path (regOf s.reg) (s.stack.map frameOf) val s.out =
        outcomeOf ent1 (hrun c h root n s) := by
  have halted : ∀ (m : Nat) (s : HSt) (ent : List Obj) (val : Option Obj), LoopInv s → s.err = none →
      (s.stack = [] → val = some s.value) → hstep c h root s = none →
      srcLoop c h root (m + 1) ent s.nis s.path (regOf s.reg) (s.stack.map frameOf) val s.out = outcomeOf ent s := by
    intro m s ent val hi he hv hs
    have hstp := src_remap_loop_simulates_hstep c h root m ent val s he (hi.stepOK he)
    rw [hs] at hstp
    rw [hstp, outcomeOf, he, hv ((hstep_eq_none.1 hs).resolve_left (fun hc => hc he))]
  induction n with
  | zero => exact fun s ent val hi he hv hs => ⟨ent, halted 0 s ent val hi he hv hs⟩
  | succ n ih =>
    intro s ent val hi he hv hs
    cases hs1 : hstep c h root s with
    | none =>
      rw [(hrun_isRun c h root).stuck hs1]
      exact ⟨ent, halted (n + 1) s ent val hi he hv hs1⟩
    | some s1 =>
      have hstp := src_remap_loop_simulates_hstep c h root (n + 1) ent val s he (hi.stepOK he)
      rw [hs1] at hstp
      obtain ⟨ent1, v1, hv1, heq⟩ := hstp
      rw [(hrun_isRun c h root).next n s s1 hs1] at hs ⊢
      rw [heq]
      cases he1 : s1.err with
      | some e =>
        rw [(hrun_isRun c h root).stuck (hstep_of_err c h root s1 e he1)]
        exact ⟨ent1, by simp only [contFromV, outcomeOf, he1]; cases e <;> rfl⟩
      | none =>
        simp only [contFromV, he1]
        exact ih s1 ent1 v1 (LoopInv_step c h root s s1 hi hs1) he1 hv1 hs

/-- `remap(root, visit)` - the translated initialisation, main loop and `return value` with the translated default
    callbacks - returns what the model's machine ends with (`hfinal`: value and rebuilt heap), whenever the model's
    run ends without error -/
theorem src_remap_eq_hfinal (c : HCfg) (h : Heap) (root : Obj) (herr : (hfinal c h root).err = none) :
    remap_loop (hbound h + 1) [] root (visitOf c) (default_enter (gOps fun _ => h)) (default_exit (gOps id)) false
      c.reraise Atom.none = .ok ((hfinal c h root).value, (hfinal c h root).out) := by
  obtain ⟨ent1, heq⟩ := src_remap_loop_eq_hrun c h root (hbound h) (hinit root) [] none (LoopInv_init root) rfl
    (by simp [hinit]) (hfinal_halted c h root)
  rw [show hrun c h root (hbound h) (hinit root) = hfinal c h root from rfl, outcomeOf, herr] at heq
  simp only [srcLoop, hinit, regOf, List.map_nil, List.map_cons, frameOf] at heq
  simp only [remap_loop, heq]

/-- … and so, through `heap_remap_eq_rec`, what the memoised bottom-up recursion `recRoot` returns: for EVERY heap
    (sharing, cycles), container root and non-raising visit callback, the SOURCE loop returns the recursion's
    value and rebuilt heap -/
theorem src_remap_eq_rec (c : HCfg) (h : Heap) (rid : Nat) (nd : Node) (hnr : NoRaise c) (hnd : h[rid]? = some nd) :
    ∃ st v, recRoot c h (.ref rid) (hbound h) = some (st, v) ∧
      remap_loop (hbound h + 1) [] (.ref rid) (visitOf c) (default_enter (gOps fun _ => h)) (default_exit (gOps id))
        false c.reraise Atom.none = .ok (v, st.out) := by
  obtain ⟨st, v, hrec, hfin⟩ := heap_remap_eq_rec c h rid nd hnr hnd
  refine ⟨st, v, hrec, ?_⟩
  have := src_remap_eq_hfinal c h (.ref rid) (by rw [hfin])
  rw [this, hfin]

/-- non-vacuity: `x = [7]; [x, x]` (a shared list) with the keep-everything visit -/
example : remap_loop (hbound exShared + 1) [] (.ref 0) (visitOf ⟨hkeepVisit, true⟩)
    (default_enter (gOps fun _ => exShared)) (default_exit (gOps id)) false true Atom.none
    = .ok ((hfinal ⟨hkeepVisit, true⟩ exShared (.ref 0)).value, (hfinal ⟨hkeepVisit, true⟩ exShared (.ref 0)).out) :=
  src_remap_eq_hfinal _ _ _ (by decide)

end C08
