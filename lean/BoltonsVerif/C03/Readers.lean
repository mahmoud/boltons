import BoltonsVerif.C03.Proofs
/-
C03 — locked operations next to UNLOCKED READERS.

`len(cache)`, `key in cache`, `keys()` / iteration are inherited from dict and take no lock (known finding
C03-readers): such an operation is a program that only reads (`RO`), run with `protect = false`.  Readers can
observe the half-done state of a locked operation (`reader_sees_half_done_eviction` in `Props.lean`), so the
full serializability statement is false for them.  What the invariant `Inv2` still gives, for every schedule,
thread count and program: the final state is the sequential run of all operations in the order they started
(readers are identities, so this is the run of the locked operations in lock-acquisition order); every thread
that issues only locked operations gets exactly the results of that run, however many readers other threads
run in between; the locked operations exclude each other and the lock does not leak.

`Inv2` is the invariant to build on.  `Inv` at the end of the file is what it says of a system without unlocked
operations (`inv_iff_inv2`); the property theorems use `Inv2` only.
-/
namespace C03
variable {S Op Out : Type}

def RO : Prog S Out → Prop
  | .ret _ => True
  | .step f k => (∀ s, f s = s) ∧ ∀ s, RO (k s)
  | .acq _ => False
  | .rel _ => False

theorem runProg_RO {p : Prog S Out} (h : RO p) (s : S) : (runProg p s).1 = s := by
  induction p generalizing s with
  | ret o => rfl
  | step f k ih => simp only [runProg]; rw [ih _ (h.2 s), h.1]
  | acq p _ => exact h.elim
  | rel p _ => exact h.elim

theorem serialState_RO {sys : Sys S Op Out} {rs : List (Tid × Op)}
    (h : ∀ e ∈ rs, RO (sys.body e.2)) (s : S) : serialState sys s rs = s := by
  induction rs generalizing s with
  | nil => rfl
  | cons e es ih =>
    rw [serialState_cons, runProg_RO (h e List.mem_cons_self),
      ih fun e' he' => h e' (List.mem_cons_of_mem _ he')]

def AllProt (sys : Sys S Op Out) (progs : List (List Op)) (j : Tid) : Prop :=
  ∀ p, progs[j]? = some p → ∀ o ∈ p, sys.protect o = true

/-- a thread that does not hold the lock is between operations or inside a reader; `¬ AllProt` records that the
    results of a thread that ever runs a reader are not tracked -/
def NotHolder (sys : Sys S Op Out) (progs : List (List Op)) (j : Tid) (t : Thread S Op Out) : Prop :=
  t.cur = none ∨ (t.holds = false ∧ ¬ AllProt sys progs j ∧ ∃ p, t.cur = some p ∧ RO p)

def Idle2 (sys : Sys S Op Out) (s0 : S) (progs : List (List Op)) (c : Cfg S Op Out) : Prop :=
  c.owner = none ∧
  (∀ j t, c.threads[j]? = some t → NotHolder sys progs j t) ∧
  (∀ j t, c.threads[j]? = some t → AllProt sys progs j → t.outs = serialOuts sys s0 j c.log) ∧
  c.shared = serialState sys s0 c.log

/-- `rs`: the readers logged after `o`.  Last conjunct (linearisation): the rest of the body from the state now
    gives what the whole body gives from the serial state before it. -/
def Busy2 (sys : Sys S Op Out) (s0 : S) (progs : List (List Op)) (c : Cfg S Op Out) : Prop :=
  ∃ (i : Tid) (t : Thread S Op Out) (p : Prog S Out) (d : Nat) (o : Op) (log' rs : List (Tid × Op)),
    c.threads[i]? = some t ∧ t.cur = some p ∧ t.holds = true ∧ c.owner = some (i, d + 1) ∧
    WN d p ∧ c.log = log' ++ [(i, o)] ++ rs ∧
    (∀ e ∈ rs, RO (sys.body e.2) ∧ ¬ AllProt sys progs e.1) ∧
    (∀ j tj, j ≠ i → c.threads[j]? = some tj → NotHolder sys progs j tj) ∧
    (∀ j tj, c.threads[j]? = some tj → AllProt sys progs j → tj.outs = serialOuts sys s0 j log') ∧
    runProg p c.shared = runProg (sys.body o) (serialState sys s0 log')

structure Inv2 (sys : Sys S Op Out) (s0 : S) (progs : List (List Op)) (c : Cfg S Op Out) : Prop where
  len : c.threads.length = progs.length
  prog : ∀ i t, c.threads[i]? = some t → progs[i]? = some (opsOf i c.log ++ t.todo)
  st : Idle2 sys s0 progs c ∨ Busy2 sys s0 progs c

theorem inv2_init (sys : Sys S Op Out) (s0 : S) (progs : List (List Op)) :
    Inv2 sys s0 progs (Cfg.init s0 progs) :=
  ⟨List.length_map _, forall_init fun _ _ hp => hp,
    Or.inl ⟨rfl, forall_init fun _ _ _ => Or.inl rfl, forall_init fun _ _ _ _ => rfl, rfl⟩⟩

/-- `Busy2` with its holder named and its conjuncts as fields: the form in which the proofs take a `Busy2` apart
    (`busy2_holder`) and build one (`busy2_of_heldBy`) -/
structure HeldBy (sys : Sys S Op Out) (s0 : S) (progs : List (List Op)) (c : Cfg S Op Out)
    (i : Tid) (t : Thread S Op Out) (p : Prog S Out) (d : Nat) : Prop where
  thread : c.threads[i]? = some t
  cur : t.cur = some p
  holds : t.holds = true
  owner : c.owner = some (i, d + 1)
  wn : WN d p
  others : ∀ j tj, j ≠ i → c.threads[j]? = some tj → NotHolder sys progs j tj
  hist : ∃ (o : Op) (log' rs : List (Tid × Op)),
    c.log = log' ++ [(i, o)] ++ rs ∧
    (∀ e ∈ rs, RO (sys.body e.2) ∧ ¬ AllProt sys progs e.1) ∧
    (∀ j tj, c.threads[j]? = some tj → AllProt sys progs j → tj.outs = serialOuts sys s0 j log') ∧
    runProg p c.shared = runProg (sys.body o) (serialState sys s0 log')

section Holder
variable {sys : Sys S Op Out} {s0 : S} {progs : List (List Op)} {c : Cfg S Op Out}

namespace Idle2

theorem owner (h : Idle2 sys s0 progs c) : c.owner = none := h.1

theorem notHolder (h : Idle2 sys s0 progs c) :
    ∀ j t, c.threads[j]? = some t → NotHolder sys progs j t := h.2.1

theorem outs (h : Idle2 sys s0 progs c) :
    ∀ j t, c.threads[j]? = some t → AllProt sys progs j → t.outs = serialOuts sys s0 j c.log := h.2.2.1

theorem shared (h : Idle2 sys s0 progs c) : c.shared = serialState sys s0 c.log := h.2.2.2

end Idle2

theorem busy2_holder (h : Busy2 sys s0 progs c) : ∃ i t p d, HeldBy sys s0 progs c i t p d := by
  obtain ⟨i, t, p, d, o, log', rs, ht, hc, hh, hown, hwn, hl, hrs, hoth, houts, hrun⟩ := h
  exact ⟨i, t, p, d, ht, hc, hh, hown, hwn, hoth, o, log', rs, hl, hrs, houts, hrun⟩

theorem busy2_of_heldBy {i : Tid} {t : Thread S Op Out} {p : Prog S Out} {d : Nat}
    (h : HeldBy sys s0 progs c i t p d) : Busy2 sys s0 progs c := by
  obtain ⟨o, log', rs, hl, hrs, houts, hrun⟩ := h.hist
  exact ⟨i, t, p, d, o, log', rs, h.thread, h.cur, h.holds, h.owner, h.wn, hl, hrs, h.others, houts, hrun⟩

theorem notHolder_reader {i : Tid} {t : Thread S Op Out} {p : Prog S Out}
    (h : NotHolder sys progs i t) (hcur : t.cur = some p) :
    t.holds = false ∧ ¬ AllProt sys progs i ∧ RO p := by
  rcases h with h | ⟨hh, hnap, q, hq, hro⟩
  · rw [hcur] at h; cases h
  · rw [hcur] at hq; cases hq; exact ⟨hh, hnap, hro⟩

theorem notHolder_not_holding {i : Tid} {t : Thread S Op Out}
    (h : NotHolder sys progs i t) (hrun : t.holds = true ∧ t.cur ≠ none) : False := by
  rcases h with h | ⟨h, _⟩
  · exact hrun.2 h
  · rw [h] at hrun; cases hrun.1

theorem ne_holder_of_notHolder {i i0 : Tid} {t t0 : Thread S Op Out} {p0 : Prog S Out} {d0 : Nat}
    (h : HeldBy sys s0 progs c i0 t0 p0 d0) (hti : c.threads[i]? = some t)
    (hnh : NotHolder sys progs i t) : i ≠ i0 := by
  intro heq; subst heq
  have := h.thread
  rw [hti] at this; cases this
  have := (notHolder_reader hnh h.cur).1
  rw [h.holds] at this; cases this

theorem notHolder_or_holder {i : Tid} {t : Thread S Op Out}
    (hst : Idle2 sys s0 progs c ∨ Busy2 sys s0 progs c) (hti : c.threads[i]? = some t) :
    NotHolder sys progs i t ∨ ∃ p d, HeldBy sys s0 progs c i t p d := by
  rcases hst with hidle | hb
  · exact Or.inl (hidle.notHolder i t hti)
  · obtain ⟨i0, t0, p0, d0, h⟩ := busy2_holder hb
    by_cases heq : i = i0
    · subst heq
      have := h.thread
      rw [hti] at this; cases this
      exact Or.inr ⟨p0, d0, h⟩
    · exact Or.inl (h.others i t heq hti)

end Holder

/-! What one step does to the invariant, by the role of the stepping thread.  The new configuration `c'` is given by one
    equation per component (`hsh`, `hown`, `hlog`, `hthr`): the callers' `c'` is a structure literal, so most of these hold
    by `rfl`. -/

section Moves
variable {sys : Sys S Op Out} {s0 : S} {progs : List (List Op)} {c c' : Cfg S Op Out}

/-- a step of a thread that runs readers and does not hold the lock; `ext`: the new log entries (none, or the read
    just started) -/
theorem reader_move {i : Tid} {t t' : Thread S Op Out} {ext : List (Tid × Op)}
    (hst : Idle2 sys s0 progs c ∨ Busy2 sys s0 progs c) (hti : c.threads[i]? = some t)
    (hnh : NotHolder sys progs i t) (hnap : ¬ AllProt sys progs i)
    (hsh : c'.shared = c.shared) (hown : c'.owner = c.owner) (hlog : c'.log = c.log ++ ext)
    (hthr : c'.threads = setThread c.threads i t') (hnew : NotHolder sys progs i t')
    (hext : ∀ e ∈ ext, RO (sys.body e.2) ∧ ¬ AllProt sys progs e.1) :
    Idle2 sys s0 progs c' ∨ Busy2 sys s0 progs c' := by
  rcases hst with hidle | hb
  · refine Or.inl ⟨hown.trans hidle.owner, ?_, ?_, ?_⟩
    · rw [hthr]
      exact forall_setThread hti hnew fun j tj _ => hidle.notHolder j tj
    · rw [hthr, hlog]
      refine forall_setThread hti (fun hap => absurd hap hnap) fun j tj _ hj hap => ?_
      rw [serialOuts_append, serialOuts_no_tid fun e he heq => (hext e he).2 (heq ▸ hap),
        List.append_nil]
      exact hidle.outs j tj hj hap
    · rw [hsh, hlog, serialState_append, serialState_RO fun e he => (hext e he).1]
      exact hidle.shared
  · obtain ⟨i0, t0, p0, d0, h⟩ := busy2_holder hb
    have hne : i ≠ i0 := ne_holder_of_notHolder h hti hnh
    obtain ⟨o, log', rs, hl, hrs, houts, hrun⟩ := h.hist
    refine Or.inr (busy2_of_heldBy ⟨?_, h.cur, h.holds, hown.trans h.owner, h.wn, ?_,
      o, log', rs ++ ext, ?_, ?_, ?_, ?_⟩)
    · rw [hthr, getElem?_setThread_ne hne]
      exact h.thread
    · intro j tj hji hj
      rw [hthr] at hj
      exact forall_setThread (P := fun j tj => j ≠ i0 → NotHolder sys progs j tj) hti (fun _ => hnew)
        (fun j tj _ hj hji => h.others j tj hji hj) j tj hj hji
    · rw [hlog, hl]
      exact List.append_assoc _ _ _
    · exact fun e he => (List.mem_append.mp he).elim (hrs e) (hext e)
    · rw [hthr]
      exact forall_setThread hti (fun hap => absurd hap hnap) fun j tj _ => houts j tj
    · rw [hsh]
      exact hrun

theorem holder_advance {i : Tid} {t : Thread S Op Out} {p p' : Prog S Out} {d d' : Nat}
    (h : HeldBy sys s0 progs c i t p d)
    (hwn : WN d' p') (hrun : runProg p' c'.shared = runProg p c.shared)
    (hown : c'.owner = some (i, d' + 1)) (hlog : c'.log = c.log)
    (hthr : c'.threads = setThread c.threads i { t with cur := some p' }) :
    Busy2 sys s0 progs c' := by
  have hti := h.thread
  obtain ⟨o, log', rs, hl, hrs, houts, hrun0⟩ := h.hist
  refine busy2_of_heldBy (t := { t with cur := some p' })
    ⟨by rw [hthr]; exact getElem?_setThread_self hti, rfl, h.holds, hown, hwn, ?_,
      o, log', rs, hlog.trans hl, hrs, ?_, hrun.trans hrun0⟩
  · intro j tj hji hj
    rw [hthr, getElem?_setThread_ne (Ne.symm hji)] at hj
    exact h.others j tj hji hj
  · rw [hthr]
    exact forall_setThread hti (houts i t hti) fun j tj _ => houts j tj

theorem holder_finish {i : Tid} {t : Thread S Op Out} {out : Out} {d : Nat}
    (h : HeldBy sys s0 progs c i t (.ret out) d)
    (hsh : c'.shared = c.shared) (hown : c'.owner = none) (hlog : c'.log = c.log)
    (hthr : c'.threads = setThread c.threads i
      { t with cur := none, holds := false, outs := t.outs ++ [out] }) :
    Idle2 sys s0 progs c' := by
  have hti := h.thread
  obtain ⟨o, log', rs, hl, hrs, houts, hrun⟩ := h.hist
  have hr : runProg (sys.body o) (serialState sys s0 log') = (c.shared, out) := hrun.symm
  have hstate : serialState sys s0 c.log = c.shared := by
    rw [hl, serialState_append, serialState_RO fun e he => (hrs e he).1, serialState_append]
    show (runProg (sys.body o) (serialState sys s0 log')).1 = c.shared
    rw [hr]
  have houts' : ∀ j, AllProt sys progs j →
      serialOuts sys s0 j c.log = serialOuts sys s0 j log' ++ if i = j then [out] else [] := by
    intro j hap
    rw [hl, serialOuts_append, serialOuts_no_tid fun e he heq => (hrs e he).2 (heq ▸ hap),
      List.append_nil, serialOuts_append, serialOuts_singleton, hr]
  refine ⟨hown, ?_, ?_, ?_⟩
  · rw [hthr]
    exact forall_setThread hti (Or.inl rfl) h.others
  · rw [hthr, hlog]
    refine forall_setThread hti (fun hap => ?_) fun j tj hji hj hap => ?_
    · rw [houts' i hap, if_pos rfl, houts i t hti hap]
    · rw [houts' j hap, if_neg (Ne.symm hji), List.append_nil]
      exact houts j tj hj hap
  · rw [hsh, hlog]
    exact hstate.symm

theorem idle_start {i : Tid} {t : Thread S Op Out} {o : Op} {rest : List Op}
    (h : Idle2 sys s0 progs c) (hti : c.threads[i]? = some t) (hwn : WN 0 (sys.body o))
    (hsh : c'.shared = c.shared) (hown : c'.owner = some (i, 1)) (hlog : c'.log = c.log ++ [(i, o)])
    (hthr : c'.threads = setThread c.threads i
      { t with todo := rest, cur := some (sys.body o), holds := true }) :
    Busy2 sys s0 progs c' := by
  refine busy2_of_heldBy (t := { t with todo := rest, cur := some (sys.body o), holds := true })
    ⟨by rw [hthr]; exact getElem?_setThread_self hti, rfl, rfl, hown, hwn, ?_,
      o, c.log, [], by rw [hlog, List.append_nil], by simp, ?_, by rw [hsh, h.shared]⟩
  · intro j tj hji hj
    rw [hthr, getElem?_setThread_ne (Ne.symm hji)] at hj
    exact h.notHolder j tj hj
  · rw [hthr]
    exact forall_setThread hti (h.outs i t hti) fun j tj _ => h.outs j tj

theorem inv2_keep {i : Tid} {t t' : Thread S Op Out}
    (h : Inv2 sys s0 progs c) (hti : c.threads[i]? = some t)
    (hlog : c'.log = c.log) (hthr : c'.threads = setThread c.threads i t') (htodo : t'.todo = t.todo)
    (hst : Idle2 sys s0 progs c' ∨ Busy2 sys s0 progs c') : Inv2 sys s0 progs c' := by
  refine ⟨by rw [hthr, length_setThread]; exact h.len, ?_, hst⟩
  rw [hthr, hlog]
  exact forall_setThread hti (htodo ▸ h.prog i t hti) fun j tj _ => h.prog j tj

theorem inv2_started {i : Tid} {t t' : Thread S Op Out} {o : Op}
    (h : Inv2 sys s0 progs c) (hti : c.threads[i]? = some t)
    (hlog : c'.log = c.log ++ [(i, o)]) (hthr : c'.threads = setThread c.threads i t')
    (htodo : t.todo = o :: t'.todo)
    (hst : Idle2 sys s0 progs c' ∨ Busy2 sys s0 progs c') : Inv2 sys s0 progs c' := by
  refine ⟨by rw [hthr, length_setThread]; exact h.len, ?_, hst⟩
  rw [hthr, hlog]
  refine forall_setThread hti ?_ fun j tj hji hj => ?_
  · have := h.prog i t hti
    rwa [htodo, List.append_cons, ← opsOf_snoc_self] at this
  · rw [opsOf_snoc_ne j i c.log o (Ne.symm hji)]
    exact h.prog j tj hj

end Moves

theorem holder_step {sys : Sys S Op Out} {s0 : S} {progs : List (List Op)} {c : Cfg S Op Out}
    {i : Tid} {t : Thread S Op Out} {p : Prog S Out} {d : Nat}
    (hinv : Inv2 sys s0 progs c) (h : HeldBy sys s0 progs c i t p d) :
    ∃ c', c.step sys i = some c' ∧ Inv2 sys s0 progs c' := by
  cases p with
  | ret out =>
    have hd : d = 0 := h.wn
    subst hd
    have hs := step_ret_locked (sys := sys) h.thread h.cur h.holds
    rw [h.owner, release_last] at hs
    exact ⟨_, hs, inv2_keep hinv h.thread (hlog := rfl) (hthr := rfl) (htodo := rfl)
      (Or.inl (holder_finish h (hsh := rfl) (hown := rfl) (hlog := rfl) (hthr := rfl)))⟩
  | step f k =>
    exact ⟨_, step_step h.thread h.cur, inv2_keep hinv h.thread (hlog := rfl) (hthr := rfl) (htodo := rfl)
      (Or.inr (holder_advance h (h.wn c.shared) (hrun := rfl) (hown := h.owner) (hlog := rfl) (hthr := rfl)))⟩
  | acq p' =>
    have hs := step_acq (sys := sys) h.thread h.cur
    rw [h.owner, tryAcquire_own] at hs
    exact ⟨_, hs, inv2_keep hinv h.thread (hlog := rfl) (hthr := rfl) (htodo := rfl)
      (Or.inr (holder_advance h (d' := d + 1) h.wn (hrun := rfl) (hown := rfl) (hlog := rfl) (hthr := rfl)))⟩
  | rel p' =>
    cases d with
    | zero => exact absurd h.wn.1 (by decide)
    | succ d1 =>
    have hs := step_rel (sys := sys) h.thread h.cur
    rw [h.owner, release_nested] at hs
    exact ⟨_, hs, inv2_keep hinv h.thread (hlog := rfl) (hthr := rfl) (htodo := rfl)
      (Or.inr (holder_advance h h.wn.2 (hrun := rfl) (hown := rfl) (hlog := rfl) (hthr := rfl)))⟩

theorem inv2_step (sys : Sys S Op Out) (s0 : S) (progs : List (List Op))
    (hro : ∀ o, sys.protect o = false → RO (sys.body o))
    (hwn : ∀ o, sys.protect o = true → WN 0 (sys.body o))
    (c c' : Cfg S Op Out) (i : Tid) (h : Inv2 sys s0 progs c) (hs : c.step sys i = some c') :
    Inv2 sys s0 progs c' := by
  have hst := h.st
  cases hti : c.threads[i]? with
  | none => rw [step_no_thread hti] at hs; cases hs
  | some t =>
  rcases notHolder_or_holder hst hti with hnh | ⟨p0, d0, hheld⟩
  · cases hcur : t.cur with
    | none =>
      cases htodo : t.todo with
      | nil => rw [step_finished hti hcur htodo] at hs; cases hs
      | cons o rest =>
      cases hpo : sys.protect o with
      | true =>
        rw [step_start_locked hti hcur htodo hpo] at hs
        rcases hst with hidle | hb
        · rw [hidle.owner, tryAcquire_free] at hs
          -- `c'` becomes the right side of the step equation
          cases hs
          exact inv2_started h hti (hlog := rfl) (hthr := rfl) htodo
            (Or.inr (idle_start hidle hti (hwn o hpo) (hsh := rfl) (hown := rfl) (hlog := rfl) (hthr := rfl)))
        · obtain ⟨i0, t0, p0, d0, hheld⟩ := busy2_holder hb
          -- blocked: the holder is another thread
          rw [hheld.owner, tryAcquire_other (Ne.symm (ne_holder_of_notHolder hheld hti hnh))] at hs
          cases hs
      | false =>
        rw [step_start_unlocked hti hcur htodo hpo] at hs
        cases hs
        have hnap : ¬ AllProt sys progs i := fun hap => by
          have := hap _ (h.prog i t hti) o (by rw [htodo]; exact List.mem_append_right _ List.mem_cons_self)
          rw [hpo] at this; cases this
        have hroo := hro o hpo
        exact inv2_started h hti (hlog := rfl) (hthr := rfl) htodo
          (reader_move hst hti hnh hnap (hsh := rfl) (hown := rfl) (hlog := rfl) (hthr := rfl)
            (Or.inr ⟨rfl, hnap, _, rfl, hroo⟩)
            fun e he => by cases List.mem_singleton.mp he; exact ⟨hroo, hnap⟩)
    | some p =>
      obtain ⟨hholds, hnap, hrop⟩ := notHolder_reader hnh hcur
      cases p with
      | acq p' => exact hrop.elim
      | rel p' => exact hrop.elim
      | ret out =>
        rw [step_ret_unlocked hti hcur hholds] at hs
        cases hs
        exact inv2_keep h hti (hlog := rfl) (hthr := rfl) (htodo := rfl)
          (reader_move (ext := []) hst hti hnh hnap (hsh := rfl) (hown := rfl)
            (hlog := (List.append_nil _).symm) (hthr := rfl) (Or.inl rfl) (by simp))
      | step f k =>
        rw [step_step hti hcur] at hs
        cases hs
        exact inv2_keep h hti (hlog := rfl) (hthr := rfl) (htodo := rfl)
          (reader_move (ext := []) hst hti hnh hnap (hsh := hrop.1 c.shared) (hown := rfl)
            (hlog := (List.append_nil _).symm) (hthr := rfl)
            (Or.inr ⟨hholds, hnap, _, rfl, hrop.2 c.shared⟩) (by simp))
  · obtain ⟨c'', hs', hinv'⟩ := holder_step h hheld
    rw [hs] at hs'
    cases hs'
    exact hinv'

theorem inv2_exec (sys : Sys S Op Out) (s0 : S) (progs : List (List Op))
    (hro : ∀ o, sys.protect o = false → RO (sys.body o))
    (hwn : ∀ o, sys.protect o = true → WN 0 (sys.body o))
    (c c' : Cfg S Op Out) (sch : List Tid) (h : Inv2 sys s0 progs c) (hs : c.exec sys sch = some c') :
    Inv2 sys s0 progs c' :=
  exec_induction (fun c c' i => inv2_step sys s0 progs hro hwn c c' i) h hs

section Consequences
variable {sys : Sys S Op Out} {s0 : S} {progs : List (List Op)} {c : Cfg S Op Out}

theorem inv2_reachable (hro : ∀ o, sys.protect o = false → RO (sys.body o))
    (hwn : ∀ o, sys.protect o = true → WN 0 (sys.body o))
    {sch : List Tid} (hexec : (Cfg.init s0 progs).exec sys sch = some c) : Inv2 sys s0 progs c :=
  inv2_exec sys s0 progs hro hwn _ c sch (inv2_init sys s0 progs) hexec

theorem inv2_quiescent (h : Inv2 sys s0 progs c) (hdone : c.complete = true) :
    (∀ i p, progs[i]? = some p → opsOf i c.log = p) ∧
    c.shared = serialState sys s0 c.log ∧
    (∀ i t, c.threads[i]? = some t → AllProt sys progs i → t.outs = serialOuts sys s0 i c.log) ∧
    c.owner = none := by
  have hall : ∀ (j : Tid) (t : Thread S Op Out), c.threads[j]? = some t → t.todo = [] ∧ t.cur = none := by
    intro j t hj
    have := List.all_eq_true.mp hdone t (List.mem_of_getElem? hj)
    simpa only [Thread.done, Bool.and_eq_true, List.isEmpty_iff, Option.isNone_iff_eq_none] using this
  constructor
  · intro i p hp
    have hi : i < c.threads.length := h.len ▸ (List.getElem?_eq_some_iff.mp hp).1
    have ht := List.getElem?_eq_getElem hi
    have := h.prog i _ ht
    rw [hp, (hall i _ ht).1, List.append_nil] at this
    exact (Option.some.inj this).symm
  · rcases h.st with hidle | hb
    · exact ⟨hidle.shared, hidle.outs, hidle.owner⟩
    · obtain ⟨i0, t0, p0, d0, hheld⟩ := busy2_holder hb
      have hc0 := hheld.cur
      rw [(hall i0 t0 hheld.thread).2] at hc0; cases hc0

theorem inv2_holder_unique (h : Inv2 sys s0 progs c) {i j : Tid} {ti tj : Thread S Op Out}
    (hi : c.threads[i]? = some ti) (hj : c.threads[j]? = some tj)
    (hci : ti.holds = true ∧ ti.cur ≠ none) (hcj : tj.holds = true ∧ tj.cur ≠ none) : i = j := by
  obtain ⟨_, _, h1⟩ := (notHolder_or_holder h.st hi).resolve_left (notHolder_not_holding · hci)
  obtain ⟨_, _, h2⟩ := (notHolder_or_holder h.st hj).resolve_left (notHolder_not_holding · hcj)
  exact congrArg Prod.fst (Option.some.inj (h1.owner.symm.trans h2.owner))

end Consequences

section AllLocked
variable {sys : Sys S Op Out} {s0 : S} {progs : List (List Op)} {c : Cfg S Op Out}

theorem allProt_of_protected (hprot : ∀ o, sys.protect o = true) (j : Tid) : AllProt sys progs j :=
  fun _ _ o _ => hprot o

theorem notHolder_cur_none (hprot : ∀ o, sys.protect o = true) {j : Tid} {t : Thread S Op Out}
    (h : NotHolder sys progs j t) : t.cur = none :=
  h.elim id fun h => absurd (allProt_of_protected hprot j) h.2.1

theorem holds_of_cur_ne_none (hprot : ∀ o, sys.protect o = true) (h : Inv2 sys s0 progs c)
    {i : Tid} {t : Thread S Op Out} (hi : c.threads[i]? = some t) (hcur : t.cur ≠ none) : t.holds = true :=
  (notHolder_or_holder h.st hi).elim (fun hn => absurd (notHolder_cur_none hprot hn) hcur)
    fun ⟨_, _, hh⟩ => hh.holds

theorem ro_of_protected (hprot : ∀ o, sys.protect o = true) (o : Op) (h : sys.protect o = false) :
    RO (sys.body o) := by
  rw [hprot o] at h; cases h

theorem inv2_of_protected (hprot : ∀ o, sys.protect o = true) (hwn : ∀ o, WN 0 (sys.body o))
    {sch : List Tid} (hexec : (Cfg.init s0 progs).exec sys sch = some c) : Inv2 sys s0 progs c :=
  inv2_reachable (ro_of_protected hprot) (fun o _ => hwn o) hexec

end AllLocked

/-! ### Without readers

`Inv` is `Inv2` for a system all of whose operations are locked: no reader tail `rs` in the log, a thread that does not
hold the lock is between operations, every thread's results are tracked. -/

def Idle (sys : Sys S Op Out) (s0 : S) (c : Cfg S Op Out) : Prop :=
  c.owner = none ∧
  (∀ j t, c.threads[j]? = some t → t.cur = none ∧ t.outs = serialOuts sys s0 j c.log) ∧
  c.shared = serialState sys s0 c.log

def Busy (sys : Sys S Op Out) (s0 : S) (c : Cfg S Op Out) : Prop :=
  ∃ (i : Tid) (t : Thread S Op Out) (p : Prog S Out) (d : Nat) (o : Op) (log' : List (Tid × Op)),
    c.threads[i]? = some t ∧ t.cur = some p ∧ t.holds = true ∧ c.owner = some (i, d + 1) ∧
    WN d p ∧ c.log = log' ++ [(i, o)] ∧
    (∀ j tj, j ≠ i → c.threads[j]? = some tj → tj.cur = none) ∧
    (∀ j tj, c.threads[j]? = some tj → tj.outs = serialOuts sys s0 j log') ∧
    runProg p c.shared = runProg (sys.body o) (serialState sys s0 log')

structure Inv (sys : Sys S Op Out) (s0 : S) (progs : List (List Op)) (c : Cfg S Op Out) : Prop where
  len : c.threads.length = progs.length
  prog : ∀ i t, c.threads[i]? = some t → progs[i]? = some (opsOf i c.log ++ t.todo)
  st : Idle sys s0 c ∨ Busy sys s0 c

theorem inv_init (sys : Sys S Op Out) (s0 : S) (progs : List (List Op)) :
    Inv sys s0 progs (Cfg.init s0 progs) :=
  ⟨List.length_map _, forall_init fun _ _ hp => hp,
    Or.inl ⟨rfl, forall_init fun _ _ _ => ⟨rfl, rfl⟩, rfl⟩⟩

theorem inv_iff_inv2 {sys : Sys S Op Out} {s0 : S} {progs : List (List Op)} {c : Cfg S Op Out}
    (hprot : ∀ o, sys.protect o = true) : Inv sys s0 progs c ↔ Inv2 sys s0 progs c := by
  have hap := allProt_of_protected (progs := progs) hprot
  constructor
  · rintro ⟨hlen, hprog, hst⟩
    refine ⟨hlen, hprog, hst.imp ?_ ?_⟩
    · rintro ⟨hown, hall, hsh⟩
      exact ⟨hown, fun j t h => Or.inl (hall j t h).1, fun j t h _ => (hall j t h).2, hsh⟩
    · rintro ⟨i, t, p, d, o, log', hti, hcur, hh, hown, hwn, hlog, hoth, houts, hrun⟩
      exact busy2_of_heldBy ⟨hti, hcur, hh, hown, hwn, fun j tj hji hj => Or.inl (hoth j tj hji hj),
        o, log', [], by rw [hlog, List.append_nil], by simp, fun j tj hj _ => houts j tj hj, hrun⟩
  · intro h
    refine ⟨h.len, h.prog, h.st.imp (fun hidle => ?_) fun hb => ?_⟩
    · exact ⟨hidle.owner,
        fun j t hj => ⟨notHolder_cur_none hprot (hidle.notHolder j t hj), hidle.outs j t hj (hap j)⟩,
        hidle.shared⟩
    · obtain ⟨i, t, p, d, h⟩ := busy2_holder hb
      obtain ⟨o, log', rs, hlog, hrs, houts, hrun⟩ := h.hist
      -- a reader entry would be by a thread that is not `AllProt`
      have : rs = [] := List.eq_nil_iff_forall_not_mem.mpr fun e he => (hrs e he).2 (hap e.1)
      subst this
      exact ⟨i, t, p, d, o, log', h.thread, h.cur, h.holds, h.owner, h.wn, by rw [hlog, List.append_nil],
        fun j tj hji hj => notHolder_cur_none hprot (h.others j tj hji hj),
        fun j tj hj => houts j tj hj (hap j), hrun⟩

theorem inv_step (sys : Sys S Op Out) (s0 : S) (progs : List (List Op))
    (hprot : ∀ o, sys.protect o = true) (hwn : ∀ o, WN 0 (sys.body o))
    (c c' : Cfg S Op Out) (i : Tid) (h : Inv sys s0 progs c) (hs : c.step sys i = some c') :
    Inv sys s0 progs c' :=
  (inv_iff_inv2 hprot).mpr <|
    inv2_step sys s0 progs (ro_of_protected hprot) (fun o _ => hwn o) c c' i ((inv_iff_inv2 hprot).mp h) hs

end C03
