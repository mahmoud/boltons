import BoltonsVerif.C03.Model
/-
C03 helper lemmas: the sequential reference over concatenated logs, what one micro-step of each kind does
to a configuration, induction over a schedule.  The invariant they serve is `Inv2` in `Readers.lean`.
-/
namespace C03
variable {S Op Out : Type}

theorem serialState_cons (sys : Sys S Op Out) (s : S) (e : Tid × Op) (es : List (Tid × Op)) :
    serialState sys s (e :: es) = serialState sys (runProg (sys.body e.2) s).1 es :=
  rfl

theorem serialState_append (sys : Sys S Op Out) (s : S) (l r : List (Tid × Op)) :
    serialState sys s (l ++ r) = serialState sys (serialState sys s l) r :=
  List.foldl_append

theorem serialOuts_append (sys : Sys S Op Out) (s : S) (i : Tid) (l r : List (Tid × Op)) :
    serialOuts sys s i (l ++ r) = serialOuts sys s i l ++ serialOuts sys (serialState sys s l) i r := by
  induction l generalizing s with
  | nil => rfl
  | cons a as ih =>
    simp only [List.cons_append, serialOuts]
    split
    · rw [ih, serialState_cons, List.cons_append]
    · rw [ih, serialState_cons]

theorem serialOuts_singleton (sys : Sys S Op Out) (s : S) (i : Tid) (e : Tid × Op) :
    serialOuts sys s i [e] = if e.1 = i then [(runProg (sys.body e.2) s).2] else [] :=
  rfl

theorem serialOuts_no_tid {sys : Sys S Op Out} {i : Tid} {r : List (Tid × Op)}
    (h : ∀ e ∈ r, e.1 ≠ i) (s : S) : serialOuts sys s i r = [] := by
  induction r generalizing s with
  | nil => rfl
  | cons e es ih =>
    simp only [serialOuts, if_neg (h e List.mem_cons_self)]
    exact ih (fun e' he' => h e' (List.mem_cons_of_mem _ he')) _

theorem opsOf_snoc_self (i : Tid) (log : List (Tid × Op)) (o : Op) :
    opsOf i (log ++ [(i, o)]) = opsOf i log ++ [o] := by
  simp [opsOf, List.filter_append]

theorem opsOf_snoc_ne (i j : Tid) (log : List (Tid × Op)) (o : Op) (h : j ≠ i) :
    opsOf i (log ++ [(j, o)]) = opsOf i log := by
  simp [opsOf, List.filter_append, h]

theorem length_setThread (ts : List (Thread S Op Out)) (i : Tid) (t : Thread S Op Out) :
    (setThread ts i t).length = ts.length :=
  List.length_set

theorem getElem?_setThread_self {ts : List (Thread S Op Out)} {i : Tid} {t t' : Thread S Op Out}
    (hti : ts[i]? = some t) : (setThread ts i t')[i]? = some t' :=
  List.getElem?_set_self (List.getElem?_eq_some_iff.mp hti).1

theorem getElem?_setThread_ne {ts : List (Thread S Op Out)} {i j : Tid} {t : Thread S Op Out}
    (hij : i ≠ j) : (setThread ts i t)[j]? = ts[j]? :=
  List.getElem?_set_ne hij

theorem forall_setThread {ts : List (Thread S Op Out)} {i : Tid} {t t' : Thread S Op Out}
    {P : Tid → Thread S Op Out → Prop} (hti : ts[i]? = some t) (hi : P i t')
    (hoth : ∀ j tj, j ≠ i → ts[j]? = some tj → P j tj) :
    ∀ j tj, (setThread ts i t')[j]? = some tj → P j tj := by
  intro j tj hj
  by_cases hij : i = j
  · subst hij
    rw [getElem?_setThread_self hti] at hj
    cases hj; exact hi
  · rw [getElem?_setThread_ne hij] at hj
    exact hoth j tj (Ne.symm hij) hj

theorem forall_init {s0 : S} {progs : List (List Op)} {P : Tid → Thread S Op Out → Prop}
    (h : ∀ i p, progs[i]? = some p → P i { todo := p }) :
    ∀ i t, (Cfg.init s0 progs : Cfg S Op Out).threads[i]? = some t → P i t := by
  intro i t ht
  simp only [Cfg.init, List.getElem?_map] at ht
  cases hp : progs[i]? with
  | none => rw [hp] at ht; cases ht
  | some p => rw [hp] at ht; cases ht; exact h i p hp

theorem tryAcquire_free (i : Tid) : tryAcquire none i = some (some (i, 1)) := rfl

theorem tryAcquire_own (i : Tid) (d : Nat) : tryAcquire (some (i, d)) i = some (some (i, d + 1)) :=
  if_pos rfl

theorem tryAcquire_other {i j : Tid} (h : j ≠ i) (d : Nat) : tryAcquire (some (j, d)) i = none :=
  if_neg h

theorem release_last (i : Tid) : release (some (i, 1)) i = some none := by
  simp [release]

theorem release_nested (i : Tid) (d : Nat) :
    release (some (i, d + 1 + 1)) i = some (some (i, d + 1)) := by
  simp [release]

section StepEquations
variable {sys : Sys S Op Out} {c : Cfg S Op Out} {i : Tid} {t : Thread S Op Out}

theorem step_no_thread (hti : c.threads[i]? = none) : c.step sys i = none := by
  simp only [Cfg.step, hti]

theorem step_finished (hti : c.threads[i]? = some t) (hcur : t.cur = none) (htodo : t.todo = []) :
    c.step sys i = none := by
  simp only [Cfg.step, hti, hcur, htodo]

theorem step_start_locked {o : Op} {rest : List Op} (hti : c.threads[i]? = some t) (hcur : t.cur = none)
    (htodo : t.todo = o :: rest) (hp : sys.protect o = true) :
    c.step sys i = (tryAcquire c.owner i).map fun ow =>
      { c with owner := ow, log := c.log ++ [(i, o)],
               threads := setThread c.threads i
                 { t with todo := rest, cur := some (sys.body o), holds := true } } := by
  simp only [Cfg.step, hti, hcur, htodo, hp, if_true]
  cases tryAcquire c.owner i <;> rfl

theorem step_start_unlocked {o : Op} {rest : List Op} (hti : c.threads[i]? = some t) (hcur : t.cur = none)
    (htodo : t.todo = o :: rest) (hp : sys.protect o = false) :
    c.step sys i = some
      { c with log := c.log ++ [(i, o)],
               threads := setThread c.threads i
                 { t with todo := rest, cur := some (sys.body o), holds := false } } := by
  simp only [Cfg.step, hti, hcur, htodo, hp, Bool.false_eq_true, if_false]

theorem step_ret_locked {out : Out} (hti : c.threads[i]? = some t) (hcur : t.cur = some (.ret out))
    (hh : t.holds = true) :
    c.step sys i = (release c.owner i).map fun ow =>
      { c with owner := ow,
               threads := setThread c.threads i
                 { t with cur := none, holds := false, outs := t.outs ++ [out] } } := by
  simp only [Cfg.step, hti, hcur, hh, if_true]
  cases release c.owner i <;> rfl

theorem step_ret_unlocked {out : Out} (hti : c.threads[i]? = some t) (hcur : t.cur = some (.ret out))
    (hh : t.holds = false) :
    c.step sys i = some
      { c with threads := setThread c.threads i
                 { t with cur := none, holds := false, outs := t.outs ++ [out] } } := by
  simp only [Cfg.step, hti, hcur, hh, Bool.false_eq_true, if_false]

theorem step_step {f : S → S} {k : S → Prog S Out} (hti : c.threads[i]? = some t)
    (hcur : t.cur = some (.step f k)) :
    c.step sys i = some
      { c with shared := f c.shared,
               threads := setThread c.threads i { t with cur := some (k c.shared) } } := by
  simp only [Cfg.step, hti, hcur]

theorem step_acq {p : Prog S Out} (hti : c.threads[i]? = some t) (hcur : t.cur = some (.acq p)) :
    c.step sys i = (tryAcquire c.owner i).map fun ow =>
      { c with owner := ow, threads := setThread c.threads i { t with cur := some p } } := by
  simp only [Cfg.step, hti, hcur]
  cases tryAcquire c.owner i <;> rfl

theorem step_rel {p : Prog S Out} (hti : c.threads[i]? = some t) (hcur : t.cur = some (.rel p)) :
    c.step sys i = (release c.owner i).map fun ow =>
      { c with owner := ow, threads := setThread c.threads i { t with cur := some p } } := by
  simp only [Cfg.step, hti, hcur]
  cases release c.owner i <;> rfl

end StepEquations

theorem exec_induction {sys : Sys S Op Out} {P : Cfg S Op Out → Prop}
    (hstep : ∀ c c' i, P c → c.step sys i = some c' → P c')
    {c c' : Cfg S Op Out} {sch : List Tid} (h : P c) (hs : c.exec sys sch = some c') : P c' := by
  induction sch generalizing c with
  | nil => cases hs; exact h
  | cons i is ih =>
    simp only [Cfg.exec] at hs
    cases hst : c.step sys i with
    | none => rw [hst] at hs; cases hs
    | some c1 => rw [hst] at hs; exact ih (hstep c c1 i h hst) hs

end C03
