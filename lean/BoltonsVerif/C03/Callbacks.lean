import BoltonsVerif.C03.Model
import BoltonsVerif.C02.Model
/-
C03 — "a single C-level call" is NOT one atomic step when it calls back into Python.

`dict.__eq__(cache, other)` walks the items of the cache and, per item, compares the stored value with the
other mapping's value (`PyObject_RichCompare`).  With values (or keys) whose `__eq__` / `__hash__` is written in
Python every such comparison runs bytecode, i.e. is a point where the interpreter may switch threads: the call is
a PROGRAM of one shared-state read per item (`eqBody`), not one step.  Likewise `update(E, **F)` is the positional
part followed by one `__setitem__` per keyword item; if only the positional part sits inside the lock region and
every keyword item takes the lock on its own (`body (.splitUpd pos kw)`, built from `kwEach`), the call is a sequence
of separately atomic pieces.

The dict is the C02 dict model (`C02.lookup` / `C02.dset` on an association list in insertion order).
-/
namespace C03.Callbacks
open C03

abbrev D := List (Nat × Nat)

/-- item-wise comparison, as `dict_equal` does it: entry `i` of the dict AS IT IS NOW is fetched and compared with
    `o`'s value for that key (one read of the shared state per item - the value's `__eq__` runs in between).
    Fuel: the length seen at the first read; `none`: the dict shrank under the comparison. -/
def eqItems (o : D) : Nat → Nat → Prog D Bool
  | 0, _ => .ret true
  | fuel + 1, i => .step id fun s =>
      match s[i]? with
      | none => .ret true
      | some p => if C02.lookup p.1 o = some p.2 then eqItems o fuel (i + 1) else .ret false

/-- `dict.__eq__(self, o)`: lengths first, then item by item -/
def eqBody (o : D) : Prog D Bool :=
  .step id fun s => if s.length = o.length then eqItems o s.length 0 else .ret false

/-- `update(pairs)`: the writes of one call (a single step here: the writer is always lock-protected below, so
    its own granularity is irrelevant) -/
def setAll (l : D) (s : D) : D := l.foldl (fun s p => C02.dset p.1 p.2 s) s

inductive Op where
  | eq (o : D)                  -- cache == o
  | upd (l : D)                 -- cache.update(l) / cache.update(**l), wholly inside one lock region
  | splitUpd (pos kw : D)       -- update(pos, **kw) with the keyword loop OUTSIDE the region: every keyword item is
                                -- stored by its own, separately locked, __setitem__

inductive Out where
  | none
  | bool (b : Bool)
deriving DecidableEq, Repr

def liftBool : Prog D Bool → Prog D Out
  | .ret b => .ret (.bool b)
  | .step f k => .step f fun s => liftBool (k s)
  | .acq p => .acq (liftBool p)
  | .rel p => .rel (liftBool p)

/-- the keyword items, each under its own acquisition of the lock -/
def kwEach : D → Prog D Out
  | [] => .ret .none
  | p :: rest => .acq (.step (C02.dset p.1 p.2) fun _ => .rel (kwEach rest))

def body : Op → Prog D Out
  | .eq o => liftBool (eqBody o)
  | .upd l => .step (setAll l) fun _ => .ret .none
  | .splitUpd pos kw => .acq (.step (setAll pos) fun _ => .rel (kwEach kw))

/-- two hypothetical changes of the code (it has neither): `__eq__` without the lock ("a single C-level call"), and
    `update(pos, **kw)` whose keyword loop was moved out of the lock region (the call as a whole is not protected, its
    pieces are) -/
def badSys : Sys D Op Out where
  body := body
  protect := fun o => match o with
    | .eq _ => false
    | .upd _ => true
    | .splitUpd _ _ => false

/-- the code as it is: every method body - the item-wise comparison, and the positional part FOLLOWED BY the keyword
    items of `update` - lies inside one lock region -/
def goodBody : Op → Prog D Out
  | .eq o => liftBool (eqBody o)
  | .upd l => .step (setAll l) fun _ => .ret .none
  | .splitUpd pos kw => .step (setAll pos) fun _ => .step (setAll kw) fun _ => .ret .none

def goodSys : Sys D Op Out where
  body := goodBody
  protect := fun _ => true

theorem eqItems_wn (o : D) (fuel i : Nat) : WN 0 (liftBool (eqItems o fuel i)) := by
  induction fuel generalizing i with
  | zero => rfl
  | succ fuel ih =>
    simp only [eqItems, liftBool, WN]
    intro s
    split
    · rfl
    · split
      · exact ih (i + 1)
      · rfl

theorem eqBody_wn (o : D) : WN 0 (liftBool (eqBody o)) := by
  simp only [eqBody, liftBool, WN]
  intro s
  split
  · exact eqItems_wn o _ _
  · rfl

theorem goodBody_wn : ∀ o, WN 0 (goodSys.body o)
  | .eq o => eqBody_wn o
  | .upd _ => fun _ => rfl
  | .splitUpd _ _ => fun _ _ => rfl

theorem eqItems_run (o s : D) (fuel i : Nat) (h : s.length ≤ i + fuel) :
    runProg (eqItems o fuel i) s = (s, (s.drop i).all (fun p => C02.lookup p.1 o == some p.2)) := by
  induction fuel generalizing i with
  | zero => rw [List.drop_eq_nil_of_le (i := i) h]; rfl
  | succ fuel ih =>
    cases hi : s[i]? with
    | none =>
      simp only [eqItems, runProg, id, hi]
      rw [List.drop_eq_nil_of_le (List.getElem?_eq_none_iff.mp hi)]; rfl
    | some p =>
      obtain ⟨hlt, rfl⟩ := List.getElem?_eq_some_iff.mp hi
      simp only [eqItems, runProg, id, hi, List.drop_eq_getElem_cons hlt, List.all_cons]
      split
      · next hm =>
        rw [ih (i + 1) (by rw [Nat.add_right_comm]; exact h), hm, beq_self_eq_true, Bool.true_and]
      · next hm => rw [beq_eq_false_iff_ne.mpr hm, Bool.false_and]; rfl

theorem eqBody_meaning (o s : D) : runProg (eqBody o) s = (s, C02.dictEq s o) := by
  simp only [eqBody, runProg, id, C02.dictEq]
  by_cases hl : s.length = o.length
  · rw [if_pos hl, eqItems_run o s s.length 0 (Nat.le_add_left _ _), List.drop_zero,
      beq_iff_eq.mpr hl, Bool.true_and]
  · rw [if_neg hl, beq_eq_false_iff_ne.mpr hl, Bool.false_and]; rfl

theorem eqBody_run_state (o s : D) : (runProg (eqBody o) s).1 = s :=
  congrArg Prod.fst (eqBody_meaning o s)

theorem eqBody_run (o s : D) : (runProg (eqBody o) s).2 = C02.dictEq s o :=
  congrArg Prod.snd (eqBody_meaning o s)

end C03.Callbacks
