import BoltonsVerif.C03.Model
import BoltonsVerif.C02.Model
/-
C03 — a concrete NON-atomic decomposition of the cache methods, following the statement order of
`LRI.__setitem__`:

    with self._lock:
        try: link = self._get_link_and_move_to_front_of_ll(key)         -- ring  (hit)
        except KeyError:
            if len(self) < self.max_size: self._set_key_and_add_to_front_of_ll(key, value)   -- ring
            else: evicted = self._set_key_and_evict_last_in_ll(key, value)                   -- ring
                  super().__delitem__(evicted)                                               -- dict delete
        else: link[VALUE] = value
        super().__setitem__(key, value)                                                      -- dict insert

i.e. three separate writes (ring, dict delete, dict insert); between them ring and dict disagree.  Every
other method is one write followed by the delivery of its result.  `microBody_meaning` shows that run
without interruption the decomposition means exactly the C02 step, so it is an instance of the `body`
the theorems quantify over — one whose intermediate states really are inconsistent.
-/
namespace C03
open C02
variable {K V : Type} [DecidableEq K] [DecidableEq V]

abbrev COut (K V : Type) := C02.Out K V (C02.Cache K V)

/-- does `c[k] = v` evict, and which key? (`none` also for the unreachable empty-ring branch) -/
def evictee (c : Cache K V) (k : K) : Option K :=
  match lookup k c.ring with
  | some _ => none
  | none => if c.d.length < c.max then none else match c.ring with
    | [] => none
    | e :: _ => some e.1

/-- the unreachable branch of `setitem` (evict from an empty ring) changes nothing at all -/
def degenerate (c : Cache K V) (k : K) : Bool :=
  match lookup k c.ring with
  | some _ => false
  | none => if c.d.length < c.max then false else c.ring.isEmpty

/-- the three writes of `__setitem__`; the dict writes use locals computed from the state `c0` seen at the start.
    The ring write is the ring of the C02 `Cache.setitem`. -/
def ringWrite (k : K) (v : V) (c : Cache K V) : Cache K V := { c with ring := (c.setitem k v).ring }
def dictDelete (c0 : Cache K V) (k : K) (c : Cache K V) : Cache K V :=
  match evictee c0 k with
  | some e => { c with d := eraseKey e c.d }
  | none => c
def dictInsert (c0 : Cache K V) (k : K) (v : V) (c : Cache K V) : Cache K V :=
  if degenerate c0 k then c else { c with d := dset k v c.d }

def setitemBody (k : K) (v : V) : Prog (Cache K V) (COut K V) :=
  .step (ringWrite k v) fun c0 =>
    .step (dictDelete c0 k) fun _ =>
      .step (dictInsert c0 k v) fun _ => .ret .none

/-- every other method: one write, then its result -/
def atomicBody (o : Op K V) : Prog (Cache K V) (COut K V) :=
  .step (fun c => (step c o).1) fun c0 => .ret (step c0 o).2

def microBody : Op K V → Prog (Cache K V) (COut K V)
  | .setitem k v => setitemBody k v
  | o => atomicBody o

omit [DecidableEq V] in
theorem setitemBody_meaning (k : K) (v : V) (c : Cache K V) :
    runProg (setitemBody k v) c = (c.setitem k v, .none) := by
  simp only [setitemBody, runProg]
  congr 1
  -- `c0` is the state before the ring write, and the ring write leaves `d` alone: the dict writes act on `c0.d` with
  -- the evictee read off `c0.ring`.  The four cases are those of `Cache.setitem`: hit, room, evict, empty ring.
  obtain ⟨lru, max, om, d, ring, hit, miss, soft, omLog⟩ := c
  cases hl : lookup k ring with
  | some x => simp [dictInsert, dictDelete, ringWrite, evictee, degenerate, Cache.setitem, hl]
  | none =>
    by_cases hlt : d.length < max
    · simp [dictInsert, dictDelete, ringWrite, evictee, degenerate, Cache.setitem, hl, hlt]
    · cases ring <;> simp [dictInsert, dictDelete, ringWrite, evictee, degenerate, Cache.setitem, hl, hlt]

theorem atomicBody_meaning (o : Op K V) (c : Cache K V) : runProg (atomicBody o) c = step c o :=
  rfl

theorem microBody_meaning (o : Op K V) (c : Cache K V) : runProg (microBody o) c = step c o := by
  cases o with
  | setitem k v => exact setitemBody_meaning k v c
  | _ => exact atomicBody_meaning _ c

theorem microBody_wn (o : Op K V) : WN 0 (microBody (K := K) (V := V) o) := by
  cases o with
  | setitem k v => exact fun _ _ _ => rfl
  | _ => exact fun _ => rfl

end C03
