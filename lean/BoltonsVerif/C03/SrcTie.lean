/-
C03 — SOURCE TIE.  C03 is anchored in the same methods as C02: every public method of `LRI` / `LRU` runs
`with self._lock:` around a body that reads and writes the cache.  `Src.cacheutils.LRI.*` / `LRU.*` are generated from
the current source text of those bodies on every run (`with self._lock:` is transparent to the translator: one method
call is ONE function of the object state at entry — the translator refuses anything a body could depend on besides its
arguments and that state).  So a generated body is a single atomic micro-step whose meaning is `C02.srcStep`, a function
of the state at entry only (`srcBody`, `src_body_atomic`) — exactly the shape `C03.serializable` needs of a
lock-protected body — and `src_serializable` is serializability of the machine of the generated bodies.

The per-method theorems restate (`type_of%`) the ties of `C02/SrcTie.lean` under C03 names, which makes the C02 source
tie an obligation of the C03 check as well.
-/
import BoltonsVerif.C02.SrcTie
import BoltonsVerif.C03.Props

set_option linter.unusedSectionVars false
namespace C03

open Src.cacheutils PyHeap

theorem src_init_ll_eq_model : type_of% @C02.src_init_ll_eq_model := @C02.src_init_ll_eq_model
theorem src_move_to_front_eq_model : type_of% @C02.src_move_to_front_eq_model := @C02.src_move_to_front_eq_model
theorem src_add_to_front_eq_model : type_of% @C02.src_add_to_front_eq_model := @C02.src_add_to_front_eq_model
theorem src_evict_last_eq_model : type_of% @C02.src_evict_last_eq_model := @C02.src_evict_last_eq_model
theorem src_remove_from_ll_eq_model : type_of% @C02.src_remove_from_ll_eq_model := @C02.src_remove_from_ll_eq_model
theorem src_setitem_eq_model : type_of% @C02.src_setitem_eq_model := @C02.src_setitem_eq_model
theorem src_getitem_eq_model : type_of% @C02.src_getitem_eq_model := @C02.src_getitem_eq_model
theorem src_lru_getitem_eq_model : type_of% @C02.src_lru_getitem_eq_model := @C02.src_lru_getitem_eq_model
theorem src_get_eq_model : type_of% @C02.src_get_eq_model := @C02.src_get_eq_model
theorem src_lru_get_eq_model : type_of% @C02.src_lru_get_eq_model := @C02.src_lru_get_eq_model
theorem src_setdefault_eq_model : type_of% @C02.src_setdefault_eq_model := @C02.src_setdefault_eq_model
theorem src_lru_setdefault_eq_model : type_of% @C02.src_lru_setdefault_eq_model := @C02.src_lru_setdefault_eq_model
theorem src_delitem_eq_model : type_of% @C02.src_delitem_eq_model := @C02.src_delitem_eq_model
theorem src_pop_eq_model : type_of% @C02.src_pop_eq_model := @C02.src_pop_eq_model
theorem src_popitem_eq_model : type_of% @C02.src_popitem_eq_model := @C02.src_popitem_eq_model
theorem src_clear_eq_model : type_of% @C02.src_clear_eq_model := @C02.src_clear_eq_model
theorem src_update_pairs_eq_model : type_of% @C02.src_update_pairs_eq_model := @C02.src_update_pairs_eq_model
theorem src_update_dict_eq_model : type_of% @C02.src_update_dict_eq_model := @C02.src_update_dict_eq_model
theorem src_step_simulates : type_of% @C02.src_step_simulates := @C02.src_step_simulates
theorem src_history_refines : type_of% @C02.src_history_refines := @C02.src_history_refines

variable {K V : Type} [DecidableEq K] [Inhabited K] [Inhabited V] [DecidableEq V]

/-- a translated public call (`C02.Op.tied`: the methods whose source is translated; keyword arguments are a dict) -/
abbrev TiedOp (K V : Type) [DecidableEq K] := { op : C02.Op K V // C02.Op.tied op }

/-- the body of a public method AS GENERATED FROM THE SOURCE: one micro-step that replaces the object state by the
    state the generated definition computes from the state at entry, then returns what it computed from that same
    state -/
def srcBody (lru : Bool) (o : TiedOp K V) : Prog (LRI.St K V) (C02.Out K V Unit) :=
  .step (fun st => (C02.srcStep lru st o.1).2) (fun st => .ret (C02.srcStep lru st o.1).1)

/-- the system of the generated bodies; every one of them is under `with self._lock:` (regenerated table
    `Generated/C03_CacheLocks.lean`, theorem `all_state_methods_protected`) -/
def srcSys (lru : Bool) : Sys (LRI.St K V) (TiedOp K V) (C02.Out K V Unit) :=
  { body := srcBody lru, protect := fun _ => true }

/-- `WN 0`: the body makes no acquisition of its own, the `with self._lock:` around it is `protect` -/
theorem src_body_atomic (lru : Bool) (o : TiedOp K V) (st : LRI.St K V) :
    runProg (srcBody lru o) st = ((C02.srcStep lru st o.1).2, (C02.srcStep lru st o.1).1) ∧ WN 0 (srcBody lru o) :=
  ⟨rfl, fun _ => rfl⟩

theorem src_serialState (lru : Bool) (st : LRI.St K V) (log : List (Tid × TiedOp K V)) :
    serialState (srcSys lru) st log = C02.srcRun lru st (log.map (·.2.1)) := by
  simp only [serialState, C02.srcRun, List.foldl_map]
  rfl

/-- Under every schedule, a complete concurrent execution of translated public calls on a fresh cache — the bodies
    being the definitions generated from the source — ends in the state of the sequential history in lock-acquisition
    order `log` (which respects every thread's program order); that state is the image of the pointer-level model's
    state after the same history (`C02.src_history_refines`), satisfies the simulation invariant (well-formed ring,
    dict / table / ring in step) and holds at most `max_size` items; every thread obtained the results of that
    sequential run; the lock is free. -/
theorem src_serializable (lru : Bool) (max : Nat) (hmax : 1 ≤ max) (om : Option (K → C02.OmRes V))
    (progs : List (List (TiedOp K V))) (sch : List Tid) (c : Cfg (LRI.St K V) (TiedOp K V) (C02.Out K V Unit))
    (hexec : (Cfg.init (C02.srcInit max om) progs).exec (srcSys lru) sch = some c) (hdone : c.complete = true) :
    ∃ log : List (Tid × TiedOp K V),
      (∀ i p, progs[i]? = some p → opsOf i log = p) ∧
      c.shared = C02.srcRun lru (C02.srcInit max om) (log.map (·.2.1)) ∧
      c.shared = C02.conc (C02.hrun (C02.HCache.initP lru max om) (log.map (·.2.1))) ∧
      C02.SrcInv (C02.hrun (C02.HCache.initP lru max om) (log.map (·.2.1))) ∧
      PyRt.Dict.len c.shared.d ≤ c.shared.max_size ∧
      (∀ i t, c.threads[i]? = some t → t.outs = serialOuts (srcSys lru) (C02.srcInit max om) i log) ∧
      c.owner = none := by
  obtain ⟨log, hprog, hsh, houts, hown⟩ :=
    serializable (srcSys lru) (C02.srcInit max om) progs (fun _ => rfl) (fun o => (src_body_atomic lru o (C02.srcInit max om)).2)
      sch c hexec hdone
  have hrun := src_serialState lru (C02.srcInit max om) log
  have htied : ∀ op ∈ log.map (·.2.1), C02.Op.tied op := by
    intro op hop
    obtain ⟨e, _, rfl⟩ := List.mem_map.1 hop
    exact e.2.2
  obtain ⟨h1, _, h3⟩ := C02.src_history_refines lru max hmax om _ htied
  have hsz := (C02.src_size_le_max lru max hmax om _ htied).1
  refine ⟨log, hprog, hsh.trans hrun, (hsh.trans hrun).trans h1, h3, ?_, houts, hown⟩
  rw [hsh, hrun]
  exact hsz

end C03
