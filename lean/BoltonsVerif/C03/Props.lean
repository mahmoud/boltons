import BoltonsVerif.C03.Structured
import BoltonsVerif.C03.Micro
import BoltonsVerif.C03.Readers
import BoltonsVerif.C03.Callbacks
import BoltonsVerif.Generated.C03_CacheLocks
import BoltonsVerif.C02.Proofs
/-
C03 — property theorems: lock-protected operations are atomic under EVERY
interleaving of micro-steps (every schedule), whatever the decomposition of a
method body into micro-steps is.

`sys.body o` is any small-step program for operation `o`; the hypotheses are
exactly what the translator re-establishes from the current source on every run:
every state-touching public method of LRI/LRU runs under `with self._lock`
(`all_state_methods_protected`, regenerated table) and nested acquisitions are
re-entrant and well nested.
-/
namespace C03
variable {S Op Out : Type}

/-- Serializability.  Any complete execution under any schedule equals the
    sequential execution of the same operations in the order `log` in which they
    took the lock; `log` respects each thread's program order; every thread got
    exactly the results of that sequential run. -/
theorem serializable (sys : Sys S Op Out) (s0 : S) (progs : List (List Op))
    (hprot : ∀ o, sys.protect o = true) (hwn : ∀ o, WN 0 (sys.body o))
    (sch : List Tid) (c : Cfg S Op Out)
    (hexec : (Cfg.init s0 progs).exec sys sch = some c) (hdone : c.complete = true) :
    ∃ log : List (Tid × Op),
      (∀ i p, progs[i]? = some p → opsOf i log = p) ∧
      c.shared = serialState sys s0 log ∧
      (∀ i t, c.threads[i]? = some t → t.outs = serialOuts sys s0 i log) ∧
      c.owner = none := by
  obtain ⟨hprog, hsh, houts, hown⟩ := inv2_quiescent (inv2_of_protected hprot hwn hexec) hdone
  exact ⟨c.log, hprog, hsh, fun i t hi => houts i t hi (allProt_of_protected hprot i), hown⟩

theorem mutual_exclusion (sys : Sys S Op Out) (s0 : S) (progs : List (List Op))
    (hprot : ∀ o, sys.protect o = true) (hwn : ∀ o, WN 0 (sys.body o))
    (sch : List Tid) (c : Cfg S Op Out) (hexec : (Cfg.init s0 progs).exec sys sch = some c)
    (i j : Tid) (ti tj : Thread S Op Out)
    (hi : c.threads[i]? = some ti) (hj : c.threads[j]? = some tj)
    (hci : ti.cur ≠ none) (hcj : tj.cur ≠ none) : i = j := by
  have hinv := inv2_of_protected hprot hwn hexec
  exact inv2_holder_unique hinv hi hj ⟨holds_of_cur_ne_none hprot hinv hi hci, hci⟩
    ⟨holds_of_cur_ne_none hprot hinv hj hcj, hcj⟩

theorem no_deadlock (sys : Sys S Op Out) (s0 : S) (progs : List (List Op))
    (hprot : ∀ o, sys.protect o = true) (hwn : ∀ o, WN 0 (sys.body o))
    (sch : List Tid) (c : Cfg S Op Out) (hexec : (Cfg.init s0 progs).exec sys sch = some c)
    (hnot : c.complete = false) : ∃ i, (c.step sys i).isSome = true := by
  have hinv := inv2_of_protected hprot hwn hexec
  rcases hinv.st with hidle | hb
  · -- idle: some thread still has work and the lock is free
    obtain ⟨t, hmem, hnd⟩ := List.all_eq_false.mp hnot
    obtain ⟨i, hi⟩ := List.getElem?_of_mem hmem
    have hcur := notHolder_cur_none hprot (hidle.notHolder i t hi)
    refine ⟨i, ?_⟩
    cases htodo : t.todo with
    | nil => exact absurd (show Thread.done t = true by rw [Thread.done, htodo, hcur]; rfl) hnd
    | cons o rest => rw [step_start_locked hi hcur htodo (hprot o), hidle.owner]; rfl
  · -- busy: the holder can always move
    obtain ⟨i0, t0, p0, d0, hheld⟩ := busy2_holder hb
    obtain ⟨c', hs, _⟩ := holder_step hinv hheld
    exact ⟨i0, by rw [hs]; rfl⟩

/-! The tie to the source: the translator regenerates `Generated.C03.methods` from the AST of
    `LRI`/`LRU` on every run.  A lock region is recognised in any of its equivalent spellings:
    `with self._lock:`, `self._lock.acquire(); try: … finally: self._lock.release()`, a locking decorator,
    or a call of a private helper that is itself wholly locked. -/

/-- every public LRI/LRU method that touches ring/dict/lookup-table state does so only inside a lock region -/
theorem all_state_methods_protected :
    ∀ m ∈ Generated.C03.methods, m.touches = true → m.locked = true := by
  decide

/-- no public method is a *composite* of separately-atomic steps: outside its lock regions a method
    invokes no cache operation at all, or it consists of exactly one such invocation and nothing else
    that touches state (`__ne__` = one `self == other`; `__repr__` = one C-level `dict.__repr__`).
    A check-then-act such as `if key not in self: … ; return self[key]` is rejected here. -/
theorem public_methods_atomic :
    ∀ m ∈ Generated.C03.methods,
      m.outsideOps = 0 ∨ (m.outsideOps = 1 ∧ m.region = false ∧ m.touches = false) := by
  decide

/-! The same two facts recomputed INSIDE Lean from the raw references the translator emits
    (`Generated.C03.Method.refs`: what is referenced, is it state / an operation, is it under the lock, is it
    in a loop), so that the *judgement* "protected / atomic" is Lean's and Python only transcribes the AST. -/

def touchesR (m : Generated.C03.Method) : Bool := m.refs.any (·.touch)
/-- `irregular`: an `acquire` without its `try: … finally: release()` right behind it, or a bare `release` -/
def lockedR (m : Generated.C03.Method) : Bool :=
  m.region && !m.irregular && m.refs.all (fun r => !r.touch || r.underLock)
/-- in a loop an invocation weighs 2, so "exactly one invocation" is never a loop -/
def outsideOpsR (m : Generated.C03.Method) : Nat :=
  (m.refs.filter (fun r => r.op && !r.underLock)).foldl (fun n r => n + (if r.inLoop then 2 else 1)) 0

theorem lock_discipline_from_refs :
    ∀ m ∈ Generated.C03.methods,
      (touchesR m = true → lockedR m = true) ∧
      (outsideOpsR m = 0 ∨ (outsideOpsR m = 1 ∧ m.region = false ∧ touchesR m = false)) := by
  decide

theorem lock_table_summary_consistent :
    ∀ m ∈ Generated.C03.methods,
      m.touches = touchesR m ∧ m.locked = lockedR m ∧ m.outsideOps = outsideOpsR m := by
  decide

/-- every dict mutator is overridden by LRI (an inherited C-level mutator would bypass ring and lock) -/
theorem no_inherited_mutators : Generated.C03.inheritedMutators = [] := by
  decide

/-- ONE lock per cache for its whole life: `self._lock` is assigned in the constructor only (a lock
    re-created by `clear()` / `_init_ll()` would let a second thread in while the first still holds the
    old one), and it is the re-entrant kind (`__getitem__ → on_miss → self[key] = …` re-acquires).
    The four names are the constructors of the two classes; the source as it is assigns in `LRI.__init__` only
    (`LRU` inherits it). -/
theorem lock_created_once_reentrant :
    Generated.C03.lockAssignedIn ≠ [] ∧
    (∀ f ∈ Generated.C03.lockAssignedIn, f ∈ ["LRI.__init__", "LRU.__init__", "LRI.__new__", "LRU.__new__"]) ∧
    (∀ c ∈ Generated.C03.lockCtors, c = "RLock") := by
  decide

/-- the private ring / table helpers (which take no lock themselves) are never referenced outside a
    lock region by a public or self-locking method -/
theorem helpers_only_under_lock : Generated.C03.helperReachedUnlocked = [] := by
  decide

/-- 6 and 4 are lower bounds, not the counts (9 and 7 for the source as it is): a method may come or go, an empty
    table must not pass -/
theorem lock_table_nonvacuous :
    6 ≤ (Generated.C03.methods.filter (fun m => m.touches)).length ∧
    4 ≤ Generated.C03.helpersNeedingLock.length := by
  decide

/-! ### The LRI/LRU instance

`body` is ANY decomposition of the cache methods into atomic micro-steps (the real
bytecode-level one included) whose sequential meaning is the C02 model's `step`.
Then every quiescent state reached by any number of threads under any schedule is
a state of a sequential C02 history, so it satisfies the whole C02 invariant: dict,
lookup table and ring in step (no dangling or duplicate link — the cache stays
usable), `len ≤ max_size`, `soft_miss_count ≤ miss_count`. -/

section CacheInstance
variable {K V : Type} [DecidableEq K] [DecidableEq V]

abbrev CacheOut (K V : Type) := C02.Out K V (C02.Cache K V)

def cacheSys (body : C02.Op K V → Prog (C02.Cache K V) (CacheOut K V)) :
    Sys (C02.Cache K V) (C02.Op K V) (CacheOut K V) := { body := body, protect := fun _ => true }

theorem serialState_eq_run (body : C02.Op K V → Prog (C02.Cache K V) (CacheOut K V))
    (hbody : ∀ o s, runProg (body o) s = C02.step s o) (s0 : C02.Cache K V) (log : List (Tid × C02.Op K V)) :
    serialState (cacheSys body) s0 log = C02.run s0 (log.map (·.2)) := by
  simp only [serialState, C02.run, List.foldl_map, cacheSys, hbody]

theorem run_inv (s0 : C02.Cache K V) (h : C02.Inv s0) (ops : List (C02.Op K V)) : C02.Inv (C02.run s0 ops) :=
  C02.run_inv h ops

theorem cache_quiescent_state (body : C02.Op K V → Prog (C02.Cache K V) (CacheOut K V))
    (hbody : ∀ o s, runProg (body o) s = C02.step s o) (hwn : ∀ o, WN 0 (body o))
    (lru : Bool) (max : Nat) (hmax : 1 ≤ max) (om : Option (K → V))
    (progs : List (List (C02.Op K V))) (sch : List Tid) (c : Cfg (C02.Cache K V) (C02.Op K V) (CacheOut K V))
    (hexec : (Cfg.init (C02.Cache.init lru max om) progs).exec (cacheSys body) sch = some c)
    (hdone : c.complete = true) :
    ∃ log : List (Tid × C02.Op K V),
      (∀ i p, progs[i]? = some p → opsOf i log = p) ∧
      c.shared = C02.run (C02.Cache.init lru max om) (log.map (·.2)) ∧
      C02.Inv c.shared ∧ c.shared.d.length ≤ c.shared.max := by
  obtain ⟨log, hprog, hsh, _, _⟩ :=
    serializable (cacheSys body) (C02.Cache.init lru max om) progs (fun _ => rfl) hwn sch c hexec hdone
  have heq := serialState_eq_run body hbody (C02.Cache.init lru max om) log
  have hinv : C02.Inv c.shared := by
    rw [hsh, heq]; exact run_inv _ (C02.Inv.init lru max om hmax) _
  exact ⟨log, hprog, by rw [hsh, heq], hinv, hinv.cap⟩

/-- the same for the concrete three-write decomposition of `__setitem__` (`microBody`): no hypothesis about the
    bodies is left -/
theorem cache_quiescent_state_micro
    (lru : Bool) (max : Nat) (hmax : 1 ≤ max) (om : Option (K → V))
    (progs : List (List (C02.Op K V))) (sch : List Tid) (c : Cfg (C02.Cache K V) (C02.Op K V) (CacheOut K V))
    (hexec : (Cfg.init (C02.Cache.init lru max om) progs).exec (cacheSys microBody) sch = some c)
    (hdone : c.complete = true) :
    ∃ log : List (Tid × C02.Op K V),
      (∀ i p, progs[i]? = some p → opsOf i log = p) ∧
      c.shared = C02.run (C02.Cache.init lru max om) (log.map (·.2)) ∧
      C02.Inv c.shared ∧ c.shared.d.length ≤ c.shared.max :=
  cache_quiescent_state microBody microBody_meaning microBody_wn lru max hmax om progs sch c hexec hdone

end CacheInstance

/-! ### Lock blocks are well nested by construction

The source takes the lock only in block-structured ways (the translator records which:
`Generated.C03.Method.form`), and a nested call of another public method is again such a block.  For programs of
that shape the hypothesis `hwn` is a theorem (`Structured.wn`), so serializability needs the protection
hypothesis only. -/

theorem serializable_structured (sys : Sys S Op Out) (s0 : S) (progs : List (List Op))
    (hprot : ∀ o, sys.protect o = true) (hstr : ∀ o, Structured (sys.body o))
    (sch : List Tid) (c : Cfg S Op Out)
    (hexec : (Cfg.init s0 progs).exec sys sch = some c) (hdone : c.complete = true) :
    ∃ log : List (Tid × Op),
      (∀ i p, progs[i]? = some p → opsOf i log = p) ∧
      c.shared = serialState sys s0 log ∧
      (∀ i t, c.threads[i]? = some t → t.outs = serialOuts sys s0 i log) ∧
      c.owner = none :=
  serializable sys s0 progs hprot (fun o => (hstr o).wn) sch c hexec hdone

theorem lock_is_sequentially_transparent {A : Type} (p : Prog S A) (s : S) :
    runProg (withLock p) s = runProg p s := runProg_bind p _ s

/-- `n` re-entrant lock blocks around a body (`get → self[key]`, `__getitem__ → on_miss → self[key] = v`) -/
theorem nested_lock_blocks_wn {A : Type} (p : Prog S A) (hp : Structured p) (n : Nat) :
    WN 0 (Nat.rec p (fun _ q => withLock q) n) := by
  have : Structured (Nat.rec p (fun _ q => withLock q) n : Prog S A) := by
    induction n with
    | zero => exact hp
    | succ n ih => exact Structured.locked _ ih
  exact this.wn

/-- non-vacuity: `get` as the source writes it — a lock block whose body calls `self[key]`, itself a lock
    block around one read — is structured -/
example (f : S → Out) : Structured (withLock (withLock (.step id fun s => .ret (f s))) : Prog S Out) :=
  .locked _ (.locked _ (.step _ _ fun s => .ret (f s)))

/-! Necessity of the hypothesis: with an UNPROTECTED insert two threads can both
    see "not full" and both insert, exceeding the capacity. -/

/-- toy cache: list of keys, capacity 1; `set k` = read the size, then insert (evicting if it saw full) -/
def toyBody (k : Nat) : Prog (List Nat) Unit :=
  .step id fun seen =>
    if seen.length < 1 then .step (fun s => s ++ [k]) fun _ => .ret ()
    else .step (fun s => s.drop 1 ++ [k]) fun _ => .ret ()

def toyUnprotected : Sys (List Nat) Nat Unit := { body := toyBody, protect := fun _ => false }
def toyProtected : Sys (List Nat) Nat Unit := { body := toyBody, protect := fun _ => true }

theorem unprotected_breaks :
    ∃ sch : List Tid, ∃ c, (Cfg.init [] [[7], [8]]).exec toyUnprotected sch = some c ∧
      c.complete = true ∧ 1 < c.shared.length :=
  ⟨[0, 0, 1, 1, 0, 1, 0, 1], _, rfl, by decide, by decide⟩

/-- the same programs, protected: the theorem applies (non-vacuity of `serializable`) -/
example : ∀ o, toyProtected.protect o = true := fun _ => rfl
example : ∀ o, WN 0 (toyProtected.body o) := by
  intro o s
  dsimp only
  split <;> exact fun _ => rfl

/-! The known finding C03-readers inside the model.  `len` / `in` / iteration are inherited from dict and
    take no lock.  With the three-write `__setitem__` of `C03.microBody`, an unlocked `len` scheduled between
    the dict delete of the evicted key and the dict insert of the new one answers 1, although the cache holds
    2 items before and after the insert: the FULL statement (readers included) is false for the code as it
    is; `serializable_with_readers` below is the part that holds. -/

def readerSys : Sys (C02.Cache Nat Nat) (C02.Op Nat Nat) (COut Nat Nat) where
  body := microBody
  protect := fun o => match o with
    | .len => false | .contains _ => false | .items => false
    | _ => true

/-- LRU(max_size=2) holding keys 1 and 2 -/
def full2 : C02.Cache Nat Nat := ((C02.Cache.init true 2 none).setitem 1 0).setitem 2 0

def lenOf : COut Nat Nat → Option Nat
  | .nat n => some n
  | _ => none

theorem reader_sees_half_done_eviction :
    ∃ sch : List Tid, ∃ c,
      (Cfg.init full2 [[C02.Op.setitem 3 1], [C02.Op.len]]).exec readerSys sch = some c ∧
      c.complete = true ∧
      (c.threads[1]?.map fun t => t.outs.map lenOf) = some [some 1] ∧
      -- both sequential orders answer 2
      lenOf (C02.step full2 .len).2 = some 2 ∧
      lenOf (C02.step (C02.step full2 (.setitem 3 1)).1 .len).2 = some 2 :=
  ⟨[0, 0, 0, 1, 1, 1, 0, 0], _, rfl, by decide, by decide, by decide, by decide⟩

/-- and the state that reader saw breaks the C02 invariant (ring has 2 links, dict 1 item): only the lock
    keeps such states invisible to the other *locked* operations -/
theorem half_done_state_inconsistent :
    ∃ c, (Cfg.init full2 [[C02.Op.setitem 3 1]]).exec readerSys [0, 0, 0] = some c ∧
      c.shared.d.length = 1 ∧ c.shared.ring.length = 2 ∧ c.owner = some (0, 1) :=
  ⟨_, rfl, by decide, by decide, by decide⟩

/-- What DOES hold with unlocked readers around (the part of the statement the harness compares): the final state
    is the sequential run of all operations in the order they started (readers being identities: the locked
    operations in lock-acquisition order), program order is respected, every thread that issues only locked
    operations gets exactly the sequential results, and the lock is free. -/
theorem serializable_with_readers (sys : Sys S Op Out) (s0 : S) (progs : List (List Op))
    (hro : ∀ o, sys.protect o = false → RO (sys.body o))
    (hwn : ∀ o, sys.protect o = true → WN 0 (sys.body o))
    (sch : List Tid) (c : Cfg S Op Out)
    (hexec : (Cfg.init s0 progs).exec sys sch = some c) (hdone : c.complete = true) :
    ∃ log : List (Tid × Op),
      (∀ i p, progs[i]? = some p → opsOf i log = p) ∧
      c.shared = serialState sys s0 log ∧
      (∀ i t, c.threads[i]? = some t → AllProt sys progs i → t.outs = serialOuts sys s0 i log) ∧
      c.owner = none :=
  ⟨c.log, inv2_quiescent (inv2_reachable hro hwn hexec) hdone⟩

/-- mutual exclusion survives the readers: two threads that are both inside an operation are never both
    inside a LOCKED one (at most one thread holds the lock; everybody else in progress is a reader) -/
theorem mutual_exclusion_with_readers (sys : Sys S Op Out) (s0 : S) (progs : List (List Op))
    (hro : ∀ o, sys.protect o = false → RO (sys.body o))
    (hwn : ∀ o, sys.protect o = true → WN 0 (sys.body o))
    (sch : List Tid) (c : Cfg S Op Out) (hexec : (Cfg.init s0 progs).exec sys sch = some c)
    (i j : Tid) (ti tj : Thread S Op Out)
    (hi : c.threads[i]? = some ti) (hj : c.threads[j]? = some tj)
    (hci : ti.holds = true ∧ ti.cur ≠ none) (hcj : tj.holds = true ∧ tj.cur ≠ none) : i = j :=
  inv2_holder_unique (inv2_reachable hro hwn hexec) hi hj hci hcj

/-- non-vacuity: the cache system with unlocked `len` / `in` / iteration and the three-write `__setitem__`
    satisfies both hypotheses -/
example : ∀ o, readerSys.protect o = false → RO (readerSys.body o) := by
  intro o h
  cases o with
  | len | contains | items => exact ⟨fun _ => rfl, fun _ => trivial⟩
  | _ => cases h
example : ∀ o, readerSys.protect o = true → WN 0 (readerSys.body o) := fun o _ => microBody_wn o

/-! ### C-level dict calls that call back into Python, and the keyword form of `update`

The multi-step programs are those of `Callbacks.lean`.  With every method body inside ONE lock region (the code as it
is; re-established from the source by `all_state_methods_protected` / `public_methods_atomic`: `super().__eq__` counts
as a reference to the state, the keyword loop's `setitem(k, F[k])` as a cache operation) the general theorem applies;
two ways of getting it wrong (`Callbacks.badSys`) are refuted by explicit schedules. -/

/-- the keyword form adds no behaviour of its own to the atomic step the linearised run is compared with -/
theorem update_kw_is_concat {K V : Type} [DecidableEq K] [DecidableEq V] (c : C02.Cache K V) (l kw : List (K × V)) :
    C02.step c (.update (.pairs l) kw) = C02.step c (.update (.pairs (l ++ kw)) []) := by
  simp [C02.step, C02.Cache.update, C02.Cache.setAll, List.foldl_append]

/-- run atomically (which is what the lock guarantees), the item-wise comparison with its callbacks answers the C02
    model's `dict.__eq__`, the value the linearised run is compared with -/
theorem itemwise_eq_atomic_meaning (o s : Callbacks.D) :
    runProg (Callbacks.eqBody o) s = (s, C02.dictEq s o) :=
  Callbacks.eqBody_meaning o s

/-- comparisons and (keyword-form) updates, each wholly inside one lock region, are serializable under every schedule,
    however many Python-level callbacks (= pre-emption points) the comparison contains -/
theorem locked_callbacks_serializable (s0 : Callbacks.D) (progs : List (List Callbacks.Op))
    (sch : List Tid) (c : Cfg Callbacks.D Callbacks.Op Callbacks.Out)
    (hexec : (Cfg.init s0 progs).exec Callbacks.goodSys sch = some c) (hdone : c.complete = true) :
    ∃ log : List (Tid × Callbacks.Op),
      (∀ i p, progs[i]? = some p → opsOf i log = p) ∧
      c.shared = serialState Callbacks.goodSys s0 log ∧
      (∀ i t, c.threads[i]? = some t → t.outs = serialOuts Callbacks.goodSys s0 i log) ∧
      c.owner = none :=
  serializable Callbacks.goodSys s0 progs (fun _ => rfl) Callbacks.goodBody_wn sch c hexec hdone

/-- `__eq__` without the lock.  Cache {1: 0, 2: 0}, thread 0 `cache == {1: 0, 2: 5}`,
    thread 1 `cache.update({1: 5, 2: 5})` scheduled between the comparison of item 1 and of item 2: the comparison
    answers True although the cache equals the comparand neither before nor after the update -/
theorem unlocked_eq_sees_mixed_contents :
    ∃ sch : List Tid, ∃ c,
      (Cfg.init [(1, 0), (2, 0)] [[Callbacks.Op.eq [(1, 0), (2, 5)]], [Callbacks.Op.upd [(1, 5), (2, 5)]]]).exec
        Callbacks.badSys sch = some c ∧
      c.complete = true ∧
      (c.threads[0]?.map fun t => t.outs) = some [Callbacks.Out.bool true] ∧
      (runProg (Callbacks.body (.eq [(1, 0), (2, 5)])) [(1, 0), (2, 0)]).2 = .bool false ∧
      (runProg (Callbacks.body (.eq [(1, 0), (2, 5)])) (Callbacks.setAll [(1, 5), (2, 5)] [(1, 0), (2, 0)])).2
        = .bool false :=
  ⟨[0, 0, 0, 1, 1, 1, 0, 0], _, rfl, by decide, by decide, by decide, by decide⟩

/-- the keyword loop of `update` outside the lock region (each keyword item separately
    locked).  Empty cache, thread 0 `update(k1=1, k2=2)`, thread 1 `update({k1: 7, k2: 9})` scheduled between the two
    keyword items: the cache ends as {k1: 7, k2: 2}, the outcome of neither sequential order -/
theorem split_kw_update_not_serializable :
    ∃ sch : List Tid, ∃ c,
      (Cfg.init [] [[Callbacks.Op.splitUpd [] [(1, 1), (2, 2)]], [Callbacks.Op.upd [(1, 7), (2, 9)]]]).exec
        Callbacks.badSys sch = some c ∧
      c.complete = true ∧ c.owner = none ∧
      c.shared = [(1, 7), (2, 2)] ∧
      serialState Callbacks.badSys [] [(0, .splitUpd [] [(1, 1), (2, 2)]), (1, .upd [(1, 7), (2, 9)])] = [(1, 7), (2, 9)] ∧
      serialState Callbacks.badSys [] [(1, .upd [(1, 7), (2, 9)]), (0, .splitUpd [] [(1, 1), (2, 2)])] = [(1, 1), (2, 2)] :=
  -- thread 0 up to the release after k1 (7), all of thread 1 (3), thread 0's k2 and return (4)
  ⟨[0, 0, 0, 0, 0, 0, 0, 1, 1, 1, 0, 0, 0, 0], _, rfl, by decide, by decide, by decide, by decide, by decide⟩

/-- non-vacuity of `locked_callbacks_serializable`: the same two programs on the code as it is, same schedule prefix:
    the comparison blocks the writer out and answers False -/
example : ∃ c, (Cfg.init [(1, 0), (2, 0)] [[Callbacks.Op.eq [(1, 0), (2, 5)]], [Callbacks.Op.upd [(1, 5), (2, 5)]]]).exec
      Callbacks.goodSys [0, 0, 0, 0, 0, 1, 1, 1] = some c ∧ c.complete = true ∧
      (c.threads[0]?.map fun t => t.outs) = some [Callbacks.Out.bool false] ∧ c.shared = [(1, 5), (2, 5)] :=
  ⟨_, rfl, by decide, by decide, by decide⟩

end C03
