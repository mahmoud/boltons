import BoltonsVerif.C03.Model
/-
C03 — structured lock usage.  The source takes the lock only through block-structured forms
(`with self._lock: BODY`, or `self._lock.acquire(); try: BODY finally: self._lock.release()`, or a call of
a helper that does one of these), and nested calls of other public methods (`get → self[key]`,
`__getitem__ → on_miss → self[key] = …`, `__ior__ → update → __setitem__`) are again such blocks.
`withLock p` is that block: acquire, run `p` to its result (a value or an exception — both are results
here, the `finally` / `__exit__` runs for either), release, deliver the result.

Every program built from micro-steps, sequencing and `withLock` is well nested (`Structured.wn`), so the
hypothesis `hwn` of `C03.serializable` is discharged by the *shape* of the code.
-/
namespace C03
variable {S A B : Type}

def Prog.bind : Prog S A → (A → Prog S B) → Prog S B
  | .ret a, k => k a
  | .step f c, k => .step f (fun s => (c s).bind k)
  | .acq p, k => .acq (p.bind k)
  | .rel p, k => .rel (p.bind k)

/-- `with self._lock: p`  ≡  `self._lock.acquire(); try: p finally: self._lock.release()` -/
def withLock (p : Prog S A) : Prog S A := .acq (p.bind fun a => .rel (.ret a))

theorem runProg_bind (p : Prog S A) (k : A → Prog S B) (s : S) :
    runProg (p.bind k) s = runProg (k (runProg p s).2) (runProg p s).1 := by
  induction p generalizing s with
  | ret a => rfl
  | step f c ih => exact ih s (f s)
  | acq p ih => exact ih s
  | rel p ih => exact ih s

/-- `p` started with `n` acquisitions open ends every run with `m` open, never releasing below zero -/
def WNto : Nat → Nat → Prog S A → Prop
  | n, m, .ret _ => n = m
  | n, m, .step _ k => ∀ s, WNto n m (k s)
  | n, m, .acq p => WNto (n + 1) m p
  | n, m, .rel p => 1 ≤ n ∧ WNto (n - 1) m p

theorem wn_iff_wnto (n : Nat) (p : Prog S A) : WN n p ↔ WNto n 0 p := by
  induction p generalizing n with
  | ret a => simp [WN, WNto]
  | step f c ih => simp only [WN, WNto]; exact forall_congr' fun s => ih s n
  | acq p ih => simp only [WN, WNto]; exact ih (n + 1)
  | rel p ih => simp only [WN, WNto]; exact and_congr Iff.rfl (ih (n - 1))

theorem WNto.bind {n m l : Nat} {p : Prog S A} {k : A → Prog S B}
    (hp : WNto n m p) (hk : ∀ a, WNto m l (k a)) : WNto n l (p.bind k) := by
  induction p generalizing n with
  | ret a => simp only [WNto] at hp; subst hp; exact hk a
  | step f c ih => intro s; exact ih s (hp s)
  | acq p ih => exact ih hp
  | rel p ih => exact ⟨hp.1, ih hp.2⟩

theorem WNto.withLock {n : Nat} {p : Prog S A} (hp : WNto (n + 1) (n + 1) p) : WNto n n (withLock p) := by
  show WNto (n + 1) n (p.bind fun a => .rel (.ret a))
  refine hp.bind fun a => ?_
  exact ⟨Nat.le_add_left 1 n, Nat.add_sub_cancel n 1⟩

theorem WNto.lift {n m : Nat} {p : Prog S A} (hp : WNto n m p) (d : Nat) : WNto (n + d) (m + d) p := by
  induction p generalizing n with
  | ret a => exact congrArg (· + d) hp
  | step f c ih => intro s; exact ih s (hp s)
  | acq p ih =>
    have := ih (n := n + 1) hp
    rwa [Nat.add_right_comm] at this
  | rel p ih =>
    obtain ⟨h1, h2⟩ := hp
    refine ⟨Nat.le_trans h1 (Nat.le_add_right n d), ?_⟩
    have := ih (n := n - 1) h2
    rwa [← Nat.sub_add_comm h1] at this

/-- programs built the way the source builds them: micro-steps, results, sequencing, lock blocks -/
inductive Structured : Prog S A → Prop where
  | ret (a : A) : Structured (.ret a)
  | step (f : S → S) (k : S → Prog S A) : (∀ s, Structured (k s)) → Structured (.step f k)
  | locked (p : Prog S A) : Structured p → Structured (withLock p)
  -- `p` has another result type than `A`, so it cannot be asked to be `Structured`
  | seq {C : Type} (p : Prog S C) (k : C → Prog S A) :
      (∀ n, WNto n n p) → (∀ a, Structured (k a)) → Structured (p.bind k)

theorem Structured.balanced {p : Prog S A} (h : Structured p) : ∀ n, WNto n n p := by
  induction h with
  | ret a => intro n; simp [WNto]
  | step f k _ ih => intro n s; exact ih s n
  | locked p _ ih => intro n; exact (ih (n + 1)).withLock
  | seq p k hp _ ih => intro n; exact (hp n).bind fun a => ih a n

theorem Structured.wn {p : Prog S A} (h : Structured p) : WN 0 p :=
  (wn_iff_wnto 0 p).mpr (h.balanced 0)

end C03
