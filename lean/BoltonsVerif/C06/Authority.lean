import BoltonsVerif.C06.Proofs
import BoltonsVerif.C06.Quoting
/-
C06 — the authority: `get_authority` rendering and what `parse_url` / `parse_host` read back,
for registered names / IPv4 literals and for bracketed IPv6 literals.
-/
namespace C06
open C06.Gen

/-- a host character that cannot be mistaken for a delimiter of the authority (ASCII or not: with minimal quoting a
    non-ASCII host is written and read back as it is); a leading `[` would send `parse_url` (`splitHostPort`)
    into its `[…]` repair -/
def hostChar (c : Nat) : Bool := notIn authStop c && c != 64 && c != 58 && c != 91

def v6Char (c : Nat) : Bool := isHexDigit c || c == 58 || c == 46

theorem hostChar_iff {c : Nat} : hostChar c = true ↔ notIn authStop c = true ∧ c ≠ 64 ∧ c ≠ 58 ∧ c ≠ 91 := by
  simp only [hostChar, Bool.and_eq_true, bne_iff_ne, ne_eq, and_assoc]

theorem hex_notIn_authStop {c : Nat} (h : isHexDigit c = true) : notIn authStop c = true := by
  simp only [notIn, Bool.not_eq_true', List.contains_eq_mem, decide_eq_false_iff_not]
  intro hm
  rw [authStop_no_hex c hm] at h
  cases h

theorem isDigit_hex {c : Nat} (h : isDigit c = true) : isHexDigit c = true := by
  simp only [isDigit, isHexDigit, Bool.or_eq_true, Bool.and_eq_true, decide_eq_true_eq] at *
  omega

theorem digit_notIn_authStop {c : Nat} (h : isDigit c = true) : notIn authStop c = true :=
  hex_notIn_authStop (isDigit_hex h)

/-- no character of an IPv6 literal ends the authority, the userinfo or the bracket -/
theorem v6Char_no_delim {c : Nat} (h : v6Char c = true) : notIn authStop c = true ∧ c ≠ 64 ∧ c ≠ 93 := by
  simp only [v6Char, Bool.or_eq_true, beq_iff_eq] at h
  rcases h with (h | h) | h
  · refine ⟨hex_notIn_authStop h, ?_, ?_⟩ <;>
      (simp only [isHexDigit, Bool.or_eq_true, Bool.and_eq_true, decide_eq_true_eq] at h; omega)
  · subst h; exact ⟨authStop_58, by decide, by decide⟩
  · subst h; exact ⟨authStop_46, by decide, by decide⟩

/- `uiText` and `portText` are pieces of the model's `authority` under names of their own; `authority_eq` ties them to it
   by `rfl`, so that an edit of the model shows there and nowhere else.  The same device: `escColon` with
   `escColonFirst_eq`, `usesNetlocS` with `usesNetloc_eq`, `ofGroups` with `ofText_eq_ofGroups`, `assemble_eq`,
   `urlText_eq`. -/
def uiText (env : Env) (u : URL) : Text :=
  if u.username ≠ [] ∨ u.password ≠ [] then
    quoteFull userinfoMap env.nfc u.username ++
      (if u.password ≠ [] then 58 :: quoteFull userinfoMap env.nfc u.password else []) ++ [64]
  else []

def portText (u : URL) : Text :=
  match u.port with
  | some p => if p ≠ 0 ∧ some p ≠ (defaultPort u.scheme).map Int.ofNat then 58 :: showInt p else []
  | none => []

/-- the host as it stands in the authority: IPv6 literals in brackets -/
def hostText (u : URL) : Text := if u.family = .inet6 then 91 :: u.host ++ [93] else u.host

def hostinfo (u : URL) : Text := hostText u ++ portText u

/-- the port is absent, or a positive number different from the scheme's default: it is rendered, and comes back -/
def PortOK (u : URL) : Prop :=
  u.port = none ∨ ∃ p : Nat, u.port = some (Int.ofNat p) ∧ 0 < p ∧ some p ≠ defaultPort u.scheme

/-- the port is absent or any natural number (`port = *DIGIT`): zero and the scheme's default port included,
    which `get_authority` does not render -/
def PortNat (u : URL) : Prop := u.port = none ∨ ∃ p : Nat, u.port = some (Int.ofNat p)

/-- the port that comes back after rendering and parsing: a zero / default port is not rendered, so it is gone -/
def portBack (u : URL) : Option Int :=
  match u.port with
  | some p => if p ≠ 0 ∧ some p ≠ (defaultPort u.scheme).map Int.ofNat then some p else none
  | none => none

theorem PortOK.nat {u : URL} (h : PortOK u) : PortNat u := by
  rcases h with h | ⟨p, hp, _, _⟩
  · exact Or.inl h
  · exact Or.inr ⟨p, hp⟩

theorem portBack_of_ok {u : URL} (h : PortOK u) : portBack u = u.port := by
  rcases h with h | ⟨p, hp, hpos, hd⟩
  · simp [portBack, h]
  · unfold portBack
    rw [hp]
    have h0 : (Int.ofNat p) ≠ 0 := by
      intro h; have : p = 0 := by exact Int.ofNat_eq_zero.mp h
      omega
    have h1 : some (Int.ofNat p) ≠ (defaultPort u.scheme).map Int.ofNat := by
      intro h
      cases hdp : defaultPort u.scheme with
      | none => rw [hdp] at h; simp at h
      | some d =>
        rw [hdp] at h hd
        simp only [Option.map_some, Option.some.injEq] at h
        have : p = d := Int.ofNat.inj h
        exact hd (by rw [this])
    simp only []
    rw [if_pos ⟨h0, h1⟩]

/-- the host is a registered name / IPv4 literal that the idna codec leaves alone, or an IPv6
    literal that `inet_pton` accepts -/
inductive HostOK (env : Env) (full : Bool) (u : URL) : Prop where
  | name (hh : ∀ c ∈ u.host, hostChar c = true)
      (hfam : u.family = if env.fam4 u.host then .inet else .none)
      (henc : full = true → env.idnaEnc u.host = some u.host)
  | v6 (hfam : u.family = .inet6) (hh : ∀ c ∈ u.host, v6Char c = true) (h58 : 58 ∈ u.host)
      (h6 : env.fam6 u.host = true)

theorem HostOK.congr {env : Env} {full : Bool} {u v : URL} (h : HostOK env full u) (hh : v.host = u.host)
    (hf : v.family = u.family) : HostOK env full v := by
  cases h with
  | name a b c => exact .name (by rw [hh]; exact a) (by rw [hh, hf]; exact b) (by rw [hh]; exact c)
  | v6 a b c d => exact .v6 (by rw [hf]; exact a) (by rw [hh]; exact b) (by rw [hh]; exact c) (by rw [hh]; exact d)

/-- `pt` is what `get_authority` writes for a port (nothing, or `:` and the digits of a number), `back` what
    `parse_url` reads from it -/
def PortWritten (pt : Text) (back : Option Int) : Prop :=
  (pt = [] ∧ back = none) ∨ ∃ p : Nat, pt = 58 :: showNat p ∧ back = some (Int.ofNat p)

theorem portText_written {u : URL} (h : PortNat u) : PortWritten (portText u) (portBack u) := by
  rcases h with h | ⟨p, hp⟩
  · left; simp [portText, portBack, h]
  · unfold portText portBack
    rw [hp]
    simp only []
    split
    · right; exact ⟨p, rfl, rfl⟩
    · left; exact ⟨rfl, rfl⟩

theorem authority_eq (env : Env) (full : Bool) (u : URL) :
    authority env full u =
      if u.host = [] then .ok (uiText env u)
      else if u.family = .inet6 then .ok (uiText env u ++ 91 :: u.host ++ 93 :: portText u)
      else if full then
        match env.idnaEnc u.host with
        | some h => .ok (uiText env u ++ h ++ portText u)
        | none => .error .unicodeError
      else .ok (uiText env u ++ u.host ++ portText u) := rfl

theorem authority_hostOK (env : Env) (full : Bool) (u : URL) (hne : u.host ≠ []) (h : HostOK env full u) :
    authority env full u = .ok (uiText env u ++ hostinfo u) := by
  rw [authority_eq, if_neg hne]
  unfold hostinfo hostText
  cases h with
  | name hh hfam henc =>
    have h6 : u.family ≠ .inet6 := by rw [hfam]; split <;> simp
    rw [if_neg h6, if_neg h6]
    cases full with
    | true => rw [if_pos rfl, henc rfl]; simp only [List.append_assoc]
    | false => rw [if_neg Bool.false_ne_true, List.append_assoc]
  | v6 hfam hh h58 h6 =>
    rw [if_pos hfam, if_pos hfam]
    simp

theorem authority_nil (env : Env) (full : Bool) (u : URL) (hh : u.host = []) (hu : u.username = [])
    (hp : u.password = []) : authority env full u = .ok [] := by
  rw [authority_eq, if_pos hh]
  simp [uiText, hu, hp]

theorem PortWritten.chars {pt : Text} {back : Option Int} (h : PortWritten pt back) :
    ∀ x ∈ pt, x ≠ 64 ∧ notIn authStop x = true := by
  intro x hx
  rcases h with ⟨rfl, _⟩ | ⟨p, rfl, _⟩
  · simp at hx
  · simp only [List.mem_cons] at hx
    rcases hx with rfl | hx
    · exact ⟨by decide, authStop_58⟩
    · have hd := showNat_digits p x hx
      refine ⟨?_, digit_notIn_authStop hd⟩
      simp [isDigit] at hd; omega

theorem parsePort_nil : parsePort [] = .ok none := by
  simp [parsePort, pyInt?, pyNat?]

theorem parsePort_showNat (p : Nat) : parsePort (showNat p) = .ok (some (Int.ofNat p)) := by
  simp [parsePort, pyInt_showNat]

theorem parsePort_portText_tail {u : URL} (hp : PortNat u) :
    parsePort (match portText u with
               | 58 :: r => r
               | r => r) = .ok (portBack u) := by
  rcases portText_written hp with ⟨ht, hn⟩ | ⟨p, ht, hpp⟩
  · rw [ht, hn]; exact parsePort_nil
  · rw [ht, hpp]; exact parsePort_showNat p

theorem splitHostPort_name {h pt : Text} {back : Option Int} (hp : PortWritten pt back)
    (h58 : ∀ x ∈ h, x ≠ 58) (h91 : h.head? ≠ some 91) : splitHostPort (h ++ pt) = .ok (h, back) := by
  unfold splitHostPort
  rcases hp with ⟨rfl, rfl⟩ | ⟨p, rfl, rfl⟩
  · have : h.contains 58 = false := by
      simp only [List.contains_eq_mem, decide_eq_false_iff_not]
      intro hm; exact h58 58 hm rfl
    simp only [List.append_nil, this]
    rfl
  · have hc : (h ++ 58 :: showNat p).contains 58 = true := by simp
    have hhead : ((before 58 (h ++ 58 :: showNat p)).head? = some 91 &&
        (after 58 (h ++ 58 :: showNat p)).contains 93) = false := by
      rw [before_append h58]; simp [h91]
    simp only [hc, Bool.not_true, Bool.false_eq_true, if_false, hhead]
    rw [after_append h58, before_append h58, parsePort_showNat]

/-- the first `:` lies inside the brackets, so `parse_url` goes into its `[…]` repair, which puts `[h]` together
    again -/
theorem splitHostPort_v6 {h pt : Text} {back : Option Int} (hp : PortWritten pt back)
    (h58 : 58 ∈ h) (h93 : ∀ x ∈ after 58 h, x ≠ 93) :
    splitHostPort ((91 :: h) ++ (93 :: pt)) = .ok (91 :: h ++ [93], back) := by
  have hm : 58 ∈ 91 :: h := by simp [h58]
  have hb : before 58 ((91 :: h) ++ (93 :: pt)) = 91 :: before 58 h := by
    rw [before_append_mem hm]; simp [before, neq, List.takeWhile]
  have ha : after 58 ((91 :: h) ++ (93 :: pt)) = after 58 h ++ 93 :: pt := by
    rw [after_append_mem hm]; simp [after, neq, List.dropWhile]
  have hc : ((91 :: h) ++ (93 :: pt)).contains 58 = true := by simp [h58]
  have hc93 : (after 58 ((91 :: h) ++ (93 :: pt))).contains 93 = true := by rw [ha]; simp
  unfold splitHostPort
  simp only [hc, Bool.not_true, Bool.false_eq_true, if_false, hb, List.head?_cons, hc93, Bool.and_true]
  rw [ha, before_append h93, after_append h93]
  rcases hp with ⟨rfl, rfl⟩ | ⟨p, rfl, rfl⟩
  · simp [parsePort_nil, before_after_eq h58]
  · simp [parsePort_showNat, before_after_eq h58]

theorem parseHost_of_name {env : Env} {h : Text} (hne : h ≠ []) (h58 : 58 ∉ h) :
    parseHost env h = .ok (if env.fam4 h then .inet else .none, h) := by
  simp [parseHost, hne, h58]

theorem parseHost_of_v6 {env : Env} {h : Text} (h58 : 58 ∈ h) (h6 : env.fam6 h = true) :
    parseHost env (91 :: h ++ [93]) = .ok (.inet6, h) := by
  have hl : (91 :: (h ++ [93])).getLast? = some 93 := by
    rw [List.getLast?_cons]; simp [List.getLast?_append]
  simp [parseHost, h58, hl, h6]

/-- what the parser needs to know about the rendered host and port -/
structure HostFacts (env : Env) (u : URL) : Prop where
  ne : hostinfo u ≠ []
  chars : ∀ x ∈ hostinfo u, x ≠ 64 ∧ notIn authStop x = true
  split : splitHostPort (hostinfo u) = .ok (hostText u, portBack u)
  host : parseHost env (hostText u) = .ok (u.family, u.host)

theorem hostFacts_name (env : Env) (u : URL) (hne : u.host ≠ []) (hp : PortNat u)
    (hh : ∀ c ∈ u.host, hostChar c = true)
    (hfam : u.family = if env.fam4 u.host then .inet else .none) : HostFacts env u := by
  have h6 : u.family ≠ .inet6 := by rw [hfam]; split <;> simp
  have hht : hostText u = u.host := by simp [hostText, h6]
  have h58 : ∀ x ∈ u.host, x ≠ 58 := fun x hx =>
    have ⟨_, _, h, _⟩ := hostChar_iff.mp (hh x hx); h
  have h91 : u.host.head? ≠ some 91 := fun h =>
    have ⟨_, _, _, h'⟩ := hostChar_iff.mp (hh 91 (List.mem_of_mem_head? h)); h' rfl
  have hpt := portText_written hp
  refine ⟨by simp [hostinfo, hht, hne], ?_, ?_, ?_⟩
  · intro x hx
    rw [hostinfo, hht, List.mem_append] at hx
    rcases hx with hx | hx
    · have ⟨hs, h64, _, _⟩ := hostChar_iff.mp (hh x hx)
      exact ⟨h64, hs⟩
    · exact hpt.chars x hx
  · rw [hostinfo, hht]
    exact splitHostPort_name hpt h58 h91
  · rw [hht, hfam]
    exact parseHost_of_name hne (fun h => h58 58 h rfl)

theorem hostFacts_v6 (env : Env) (u : URL) (hp : PortNat u)
    (hfam : u.family = .inet6) (hh : ∀ c ∈ u.host, v6Char c = true) (h58 : 58 ∈ u.host)
    (h6 : env.fam6 u.host = true) : HostFacts env u := by
  have hht : hostText u = 91 :: u.host ++ [93] := by simp [hostText, hfam]
  have hi : hostinfo u = (91 :: u.host) ++ (93 :: portText u) := by simp [hostinfo, hht]
  have h93 : ∀ x ∈ after 58 u.host, x ≠ 93 := fun x hx =>
    have ⟨_, _, h⟩ := v6Char_no_delim (hh x ((after_sub 58 u.host).subset hx)); h
  have hpt := portText_written hp
  refine ⟨by simp [hi], ?_, ?_, ?_⟩
  · intro x hx
    rw [hi] at hx
    simp only [List.mem_append, List.mem_cons] at hx
    rcases hx with (rfl | hx) | rfl | hx
    · exact ⟨by decide, authStop_91⟩
    · have ⟨hs, h64, _⟩ := v6Char_no_delim (hh x hx)
      exact ⟨h64, hs⟩
    · exact ⟨by decide, authStop_93⟩
    · exact hpt.chars x hx
  · rw [hi, hht]
    exact splitHostPort_v6 hpt h58 h93
  · rw [hht, hfam]
    exact parseHost_of_v6 h58 h6

theorem hostFacts_of_ok (env : Env) (full : Bool) (u : URL) (hne : u.host ≠ []) (hp : PortNat u)
    (h : HostOK env full u) : HostFacts env u := by
  cases h with
  | name hh hfam _ => exact hostFacts_name env u hne hp hh hfam
  | v6 hfam hh h58 h6 => exact hostFacts_v6 env u hp hfam hh h58 h6

theorem parseAuthority_nil (env : Env) : parseAuthority env [] = .ok ⟨[], [], .none, [], none⟩ := by
  simp [parseAuthority, rafter, parseHost]

theorem parseAuthority_userinfo {env : Env} {ui hi host host' : Text} {port : Option Int} {fam : Family}
    (h64 : ∀ x ∈ hi, x ≠ 64) (hne : hi ≠ []) (hs : splitHostPort hi = .ok (host, port))
    (hh : parseHost env host = .ok (fam, host')) :
    parseAuthority env (ui ++ 64 :: hi) = .ok ⟨before 58 ui, after 58 ui, fam, host', port⟩ := by
  have hc : (ui ++ 64 :: hi).contains 64 = true := by simp
  unfold parseAuthority
  simp only [rafter_append h64, rbefore_append h64, hc, if_true, hne, if_false, hs, hh]

theorem parseAuthority_bare {env : Env} {hi host host' : Text} {port : Option Int} {fam : Family}
    (h64 : ∀ x ∈ hi, x ≠ 64) (hne : hi ≠ []) (hs : splitHostPort hi = .ok (host, port))
    (hh : parseHost env host = .ok (fam, host')) :
    parseAuthority env hi = .ok ⟨[], [], fam, host', port⟩ := by
  have hc : hi.contains 64 = false := by
    simp only [List.contains_eq_mem, decide_eq_false_iff_not]
    intro h; exact h64 64 h rfl
  unfold parseAuthority
  simp only [rafter_none h64, hc, Bool.false_eq_true, if_false, hne, hs, hh]

theorem parseAuthority_render (env : Env) (u : URL) (hf : HostFacts env u)
    (hsu : ∀ x ∈ env.nfc u.username, isScalar x = true) :
    parseAuthority env (uiText env u ++ hostinfo u) =
      .ok ⟨if u.username ≠ [] ∨ u.password ≠ [] then quoteFull userinfoMap env.nfc u.username else [],
           if u.password ≠ [] then quoteFull userinfoMap env.nfc u.password else [],
           u.family, u.host, portBack u⟩ := by
  have hi64 : ∀ x ∈ hostinfo u, x ≠ 64 := fun x hx => (hf.chars x hx).1
  have hu58 : ∀ x ∈ quoteFull userinfoMap env.nfc u.username, x ≠ 58 :=
    fun x hx => stop_ne (quoteFull_stop .userinfo env.nfc u.username hsu x hx) (by decide)
  unfold uiText
  by_cases hpw : u.password = []
  · by_cases hun : u.username = []
    · simp only [hun, hpw, ne_eq, not_true_eq_false, or_self, if_false, List.nil_append]
      exact parseAuthority_bare hi64 hf.ne hf.split hf.host
    · simp only [hun, hpw, ne_eq, not_false_eq_true, not_true_eq_false, or_false, if_true, if_false,
        List.append_nil, List.append_assoc, List.singleton_append]
      rw [parseAuthority_userinfo hi64 hf.ne hf.split hf.host, before_none hu58, after_none hu58]
  · simp only [hpw, ne_eq, not_false_eq_true, or_true, if_true]
    rw [List.append_assoc _ [64], List.singleton_append,
      parseAuthority_userinfo hi64 hf.ne hf.split hf.host, before_append hu58, after_append hu58]

theorem authText_chars (env : Env) (u : URL) (hf : HostFacts env u)
    (hsu : ∀ x ∈ env.nfc u.username, isScalar x = true)
    (hsp : ∀ x ∈ env.nfc u.password, isScalar x = true) :
    ∀ ch ∈ uiText env u ++ hostinfo u, notIn authStop ch = true := by
  intro ch hch
  rw [List.mem_append] at hch
  rcases hch with hch | hch
  · unfold uiText at hch
    split at hch
    · simp only [List.mem_append, List.mem_singleton] at hch
      rcases hch with (h | h) | h
      · exact stop_userinfo (quoteFull_stop .userinfo env.nfc u.username hsu ch h)
      · split at h
        · simp only [List.mem_cons] at h
          rcases h with rfl | h
          · exact authStop_58
          · exact stop_userinfo (quoteFull_stop .userinfo env.nfc u.password hsp ch h)
        · simp at h
      · subst h; exact authStop_64
    · simp at hch
  · exact (hf.chars ch hch).2

end C06
