import BoltonsVerif.C06.Scalar
import BoltonsVerif.C06.Sharing
/-
C06 — property theorems for the URL quoting / parsing / rendering model.

`env : Env` bundles the external functions (Unicode NFC, inet_pton for both families, the idna
codec both ways); every theorem holds for ALL of them unless a hypothesis says otherwise.
Texts are lists of code points; `isScalar` = "is a Unicode scalar value" (Python can encode it).
-/
namespace C06
open C06.Gen

/-- every row of the four quote maps is either the byte itself (ASCII, raw-legal at that position per
    RFC 3986, not `%`) or `%` + two upper-case hex digits that denote the byte (and that the decoder, by `hex_table_exact`, sends back to it),
    and contains no character that the parser treats as a delimiter at that position -/
theorem quote_tables_ok (c : Comp) : mapOK c = true := mapOK_all c

/-- `_HEX_CHAR_MAP` is exactly "two hexadecimal digits, either case -> their value" -/
theorem hex_table_exact (a b : Nat) : hexPair? a b = hexSpec a b := hexPair_eq_spec a b

/-- every delimiter of the parser at a position (`_URL_RE` classes, `@`, `:`, `/`, `&`, `;`, `=`, `+`) is in
    the set that minimal quoting escapes there, and those sets are ASCII with escape rows -/
theorem delimiter_tables_ok (c : Comp) :
    (stopSet c).all (fun x => c.delims.contains x) = true ∧ delimsOK c = true :=
  ⟨stop_sub_delims c, delimsOK_all c⟩

/-- the character classes of `_URL_RE` relate to the separators as the scanner lemmas need -/
theorem url_re_classes_ok :
    notIn schemeStop 58 = false ∧
    notIn authStop 47 = false ∧ notIn authStop 63 = false ∧ notIn authStop 35 = false ∧
    notIn pathStop 63 = false ∧ notIn pathStop 35 = false ∧ notIn pathStop 47 = true ∧
    notIn queryStop 35 = false ∧ notIn queryStop 38 = true ∧ notIn queryStop 61 = true :=
  ⟨schemeStop_58, authStop_47, authStop_63, authStop_35, pathStop_63, pathStop_35, pathStop_47, queryStop_35,
   queryStop_38, queryStop_61⟩

/-- `unquote(quote_X_part(s, full_quote=True)) == NFC(s)` for the four quote functions, every
    text `s` and every normaliser -/
theorem unquote_quote (c : Comp) (nfc : Text → Text) (s : Text)
    (hs : ∀ x ∈ nfc s, isScalar x = true) :
    unquote (quotePart c nfc true s) = nfc s :=
  unquote_quoteFull c nfc s hs

example : unquote (quotePart .query id true [97, 59, 38, 61, 43, 37, 32, 233, 0x1F600]) =
    [97, 59, 38, 61, 43, 37, 32, 233, 0x1F600] :=
  unquote_quote .query id _ (by decide)

/-- the fully quoted text is `*( raw-legal / "%" HEXDIG HEXDIG )` for its position (RFC 3986) -/
theorem quote_legal (c : Comp) (nfc : Text → Text) (s : Text)
    (hs : ∀ x ∈ nfc s, isScalar x = true) :
    wellQuoted c (quotePart c nfc true s) = true :=
  wellQuoted_quoteBytes c _ (utf8_lt (nfc s) hs)

/-- … it is pure ASCII … -/
theorem quote_ascii (c : Comp) (nfc : Text → Text) (s : Text)
    (hs : ∀ x ∈ nfc s, isScalar x = true) :
    ∀ ch ∈ quotePart c nfc true s, ch < 128 :=
  quoteFull_ascii c nfc s hs

/-- … and contains no character that the parser treats as a delimiter at that position
    (nothing can leak into a neighbouring component) -/
theorem quote_no_delimiter (c : Comp) (nfc : Text → Text) (s : Text)
    (hs : ∀ x ∈ nfc s, isScalar x = true) :
    ∀ ch ∈ quotePart c nfc true s, ch ∉ stopSet c := by
  intro ch hch
  have := quoteFull_stop c nfc s hs ch hch
  simpa using this

/- `a;b` as a query part: `;` (a separator for parse_qsl) does not survive raw, and the text comes back.
   (Stated without the exact rendering: a table that escapes more than it has to is just as good.) -/
example : (quotePart .query id true [97, 59, 98]).contains 59 = false ∧
    wellQuoted .query (quotePart .query id true [97, 59, 98]) = true ∧
    unquote (quotePart .query id true [97, 59, 98]) = [97, 59, 98] := by decide +kernel
example : (stopSet .query).contains 59 = true := by decide

/-- minimal quoting leaves no character raw that the parser treats as a delimiter at that position … -/
theorem quote_min_no_delimiter (c : Comp) (nfc : Text → Text) (s : Text) :
    ∀ ch ∈ quotePart c nfc false s, ch ∉ stopSet c := by
  intro ch hch
  have := quoteMin_stop c s ch hch
  simpa using this

/-- … and is undone by `unquote` for every text without `%` (non-ASCII characters stay raw; `min_needs_no_pct`
    shows that the exclusion is necessary) -/
theorem unquote_quote_min (c : Comp) (nfc : Text → Text) (s : Text) (hs : 37 ∉ s) :
    unquote (quotePart c nfc false s) = s :=
  unquote_quoteMin c s hs

example : unquote (quotePart .path id false [97, 47, 63, 35, 233, 32, 0x1F600]) = [97, 47, 63, 35, 233, 32, 0x1F600] ∧
    (quotePart .path id false [97, 47, 63, 35, 233, 32]).contains 47 = false := by decide +kernel

/-- `unquote_to_bytes` is the reference decoder: `%` + two hex digits (either case) is the byte
    they denote, everything else (a stray `%` included) stays -/
theorem unquote_to_bytes_wellformed (s : Text) : unqBytes s = unqSpec s := unqBytes_eq_spec s

/-- on ASCII text `unquote` is: percent-decode, then read as UTF-8 (invalid sequences replaced) -/
theorem unquote_wellformed (s : Text) (hs : ∀ c ∈ s, c < 128) : unquote s = decodeR (unqSpec s) := by
  rw [unquote_ascii s hs, unqBytes_eq_spec]

/-- a non-ASCII character is left alone and separates what is decoded on either side (together with
    `unquote_wellformed` this describes `unquote` on every text) -/
theorem unquote_nonascii (a b : Text) (c : Nat) (hc : 128 ≤ c) :
    unquote (a ++ c :: b) = unquote a ++ c :: unquote b := unquote_split a b c hc

/-- text without `%` is left alone -/
theorem unquote_identity (s : Text) (hp : 37 ∉ s) : unquote s = s := unquote_no_pct s hp

example : unquote [37, 67, 51, 37, 65, 57, 37, 122, 122, 37, 52, 233, 37] = [233, 37, 122, 122, 37, 52, 233, 37] := by
  decide +kernel

/-- Any texts placed in username, password, path segments, query keys / values and fragment of a
    URL with a valid scheme, host and port (`WF`) are recovered exactly, up to NFC, after
    `to_text(full_quote=True)` and re-parsing; scheme, host, family and port come back unchanged - except a
    port that `to_text` never renders (zero / the scheme's default), which comes back as no port
    (`normal` changes nothing else; see `no_leak`): nothing leaks into a neighbouring component.
    Holds for every normaliser with `nfc "" = ""`, every inet_pton, every idna codec that maps
    this host to itself. -/
theorem roundtrip_full (env : Env) (u : URL) (hW : WF env u) (hnil : env.nfc [] = []) :
    ∃ t, toText env true u = .ok t ∧ URL.ofText env t = .ok (normal env u) :=
  ⟨fullText env u, toText_urlText env true u hW.toWFq.toHostShape hnil,
   ofText_urlText env true env.nfc u hW.toWFq hnil⟩

/-- the same, component by component.  The port comes back unless it is one that is never rendered (zero, or
    the default port of the scheme: `portBack`); a positive non-default port (`PortOK`) comes back as it is -/
theorem no_leak (env : Env) (u : URL) (hW : WF env u) (hnil : env.nfc [] = []) :
    ∃ t v, toText env true u = .ok t ∧ URL.ofText env t = .ok v ∧
      v.scheme = u.scheme ∧ v.host = u.host ∧ v.port = portBack u ∧ (PortOK u → v.port = u.port) ∧
      v.family = u.family ∧
      v.username = env.nfc u.username ∧ v.password = env.nfc u.password ∧
      v.pathParts = u.pathParts.map env.nfc ∧
      v.query = u.query.map (fun kv => (env.nfc kv.1, kv.2.map env.nfc)) ∧
      v.fragment = env.nfc u.fragment :=
  have ⟨t, h1, h2⟩ := roundtrip_full env u hW hnil
  ⟨t, normal env u, h1, h2, rfl, rfl, rfl, fun h => portBack_of_ok h, rfl, rfl, rfl, rfl, rfl, rfl⟩

/-- the parser cuts the fully quoted rendering exactly at the component boundaries (no character
    of a rendered component is a delimiter for the position it stands in) -/
theorem render_boundaries (env : Env) (u : URL) (hW : WF env u) (hnil : env.nfc [] = []) :
    Scanned (fullText env u) u.scheme (uiText env u ++ hostinfo u)
      (pathText env true u.pathParts) (queryText env true u.query)
      (quotePart .fragment env.nfc true u.fragment) :=
  (urlText_groups env true env.nfc u hW.toWFq hnil).scanned

/-- FULL STATEMENT (not proved in this generality): for every text `t` that is a well-formed RFC 3986
    URI or relative reference, `URL.ofText env t = .ok u → toText env true u = .ok t₁ →
    URL.ofText env t₁ = .ok u₁ → toText env true u₁ = .ok t₁`.
    PROVED PART: render → parse → render is the identity on the text for every URL that satisfies
    `WF` (a scheme or none; host a registered name / IPv4 literal or a bracketed IPv6 literal; no port or any
    natural-number port, zero and the scheme's default included; absolute path) — in particular for every parsed URL of that shape; URLs and references
    without authority are the subject of `render_fixed_full_noauth_partial`; IDN hosts are covered by the correspondence
    and the oracle only. -/
theorem render_fixed_full_partial (env : Env) (hl : NfcLaws env.nfc) (u : URL) (hW : WF env u) :
    ∃ t u₁, toText env true u = .ok t ∧ URL.ofText env t = .ok u₁ ∧ toText env true u₁ = .ok t :=
  have h := render_fixed env true env.nfc hl
    (quotePart_full_nfc hl.idem) hl.nil u hW.toWFq
  ⟨fullText env u, normal env u, h.1, h.2.1, h.2.2⟩

/-- minimal quoting: the URL comes back as it is (userinfo, which is always fully quoted,
    NFC-normalised) whenever no path segment, query key / value or fragment contains a `%`; the host may be an
    internationalised (non-ASCII) name: it is written raw and read back unchanged (`wfmin_iri`) -/
theorem roundtrip_min (env : Env) (u : URL) (hW : WFmin env u) (hnil : env.nfc [] = []) :
    ∃ t, toText env false u = .ok t ∧ URL.ofText env t = .ok (normalMin env u) :=
  ⟨minText env u, toText_urlText env false u hW.toWFq.toHostShape hnil, ofText_urlText env false id u hW.toWFq hnil⟩

/-- FULL STATEMENT (not proved in this generality): as above with `toText env false`, for every
    well-formed `t` whose decoded components contain no `%`.
    PROVED PART: every URL satisfying `WFmin` (same shape as `WF`; no `%` in path segments, query
    keys / values, fragment — username, password and host may contain `%`). -/
theorem render_fixed_min_partial (env : Env) (hl : NfcLaws env.nfc) (u : URL) (hW : WFmin env u) :
    ∃ t u₁, toText env false u = .ok t ∧ URL.ofText env t = .ok u₁ ∧ toText env false u₁ = .ok t :=
  have h := render_fixed env false id hl (fun _ _ => rfl) rfl u hW.toWFq
  ⟨minText env u, normalMin env u, h.1, h.2.1, h.2.2⟩

/-- witnesses for `min_needs_no_pct`: the environment, and `h://h/<seg>` -/
def envMin : Env := ⟨id, fun _ => false, fun _ => false, some, some⟩

def uMin (seg : Text) : URL :=
  { scheme := [104], netlocSep := true, username := [], password := [], family := .none, host := [104],
    port := none, pathParts := [[], seg], query := [], fragment := [] }

theorem min_witness : pathDelims.contains 37 = false →
    toText envMin false (uMin [37, 52, 49]) = .ok [104, 58, 47, 47, 104, 47, 37, 52, 49] ∧
    URL.ofText envMin [104, 58, 47, 47, 104, 47, 37, 52, 49] = .ok (uMin [65]) := by
  decide +kernel

/-- the `%` exclusion of the minimal-mode theorems is necessary as long as minimal quoting leaves `%` alone (`%` is
    not in `_PATH_DELIMS` - true of the regenerated `Gen.pathDelims` at /repo HEAD; were it added, this theorem
    would hold vacuously instead of failing): a path segment `%41` renders minimally as `%41` and comes back as `A` -/
theorem min_needs_no_pct (h : pathDelims.contains 37 = false) :
    ∃ (env : Env) (u v : URL) (t : Text), toText env false u = .ok t ∧ URL.ofText env t = .ok v ∧
      u.pathParts = [[], [37, 52, 49]] ∧ v.pathParts = [[], [65]] :=
  ⟨envMin, uMin [37, 52, 49], uMin [65], [104, 58, 47, 47, 104, 47, 37, 52, 49],
   (min_witness h).1, (min_witness h).2, rfl, rfl⟩

/-! non-vacuity: a concrete environment and URL satisfying `WF` / `WFmin`, with hostile texts -/

/-- identity normaliser, no IP hosts, identity idna -/
def env0 : Env := ⟨id, fun _ => false, fun _ => false, some, some⟩

/-- the URL that renders as `http://a;b:p%40w@h:8042/x%2Fy/%3F?k%26=v%3D%3B&e=#f%23%0A` -/
def u0 : URL :=
  { scheme := [104, 116, 116, 112], netlocSep := false, username := [97, 59, 98], password := [112, 64, 119],
    family := .none, host := [104], port := some 8042,
    pathParts := [[], [120, 47, 121], [63]], query := [([107, 38], some [118, 61, 59]), ([101], some [])],
    fragment := [102, 35, 10] }

theorem wf_u0 : WF env0 u0 where
  scheme_ok := by decide
  host_ne := by decide
  host_form := .name (by decide) (by decide) (fun _ => rfl)
  idna_dec := fun _ => rfl
  port_ok := Or.inr ⟨8042, rfl⟩
  path_abs := ⟨_, rfl⟩
  query_ok := by decide
  scalars := ⟨by decide, by decide, by decide, by decide,
    forall_kv (P := fun s => ∀ x ∈ env0.nfc s, isScalar x = true) (by decide)⟩

/- port 80 of an `http` URL and port 0 are not rendered and therefore come back as "no port"; 8042 comes back -/
example : portBack { u0 with port := some 80 } = none ∧ portBack { u0 with port := some 0 } = none ∧
    portBack u0 = some 8042 := by decide +kernel

/-- the same URL with the default port of its scheme (never rendered) is still inside the fixed-point theorems -/
theorem wf_u0_default_port : WF env0 { u0 with port := some 80 } := wf_u0.withPort (some 80)

example : ((toText env0 true { u0 with port := some 80 }).toOption.bind fun t => (URL.ofText env0 t).toOption) =
    some (normal env0 { u0 with port := none }) :=
  (eval_roundtrip (roundtrip_full env0 _ wf_u0_default_port rfl)).trans (by decide)

theorem wfmin_u0 : WFmin env0 u0 where
  scheme_ok := by decide
  host_ne := by decide
  host_form := .name (by decide) (by decide) (fun h => by cases h)
  idna_dec := fun _ => rfl
  port_ok := Or.inr ⟨8042, rfl⟩
  path_abs := ⟨_, rfl⟩
  query_ok := by decide
  user_scalar := by decide
  pw_scalar := by decide
  no_pct_parts := by decide
  no_pct_query := forall_kv (P := fun s => 37 ∉ s) (by decide)
  no_pct_frag := by decide

/-- an IRI with an internationalised host: `http://bücher.de/ä?ö#ü`.  With minimal quoting every non-ASCII character
    - in the host too - is written raw and read back as it is (no idna codec involved), so it is inside `WFmin` -/
def uIri : URL :=
  { scheme := [104, 116, 116, 112], netlocSep := false, username := [], password := [], family := .none,
    host := [98, 252, 99, 104, 101, 114, 46, 100, 101], port := none, pathParts := [[], [228]],
    query := [([246], none)], fragment := [252] }

theorem wfmin_iri : WFmin env0 uIri where
  scheme_ok := by decide
  host_ne := by decide
  host_form := .name (by decide) (by decide) (fun h => by cases h)
  idna_dec := fun h => by revert h; decide
  port_ok := Or.inl rfl
  path_abs := ⟨_, rfl⟩
  query_ok := by decide
  user_scalar := by decide
  pw_scalar := by decide
  no_pct_parts := by decide
  no_pct_query := forall_kv (P := fun s => 37 ∉ s) (by decide)
  no_pct_frag := by decide

example : ((toText env0 false uIri).toOption.bind fun t => (URL.ofText env0 t).toOption) =
    some { uIri with netlocSep := true } :=
  eval_roundtrip (roundtrip_min env0 uIri wfmin_iri rfl)

/-- an IPv6 host: `ws://[::1]:81/%5B?%5D` (with an `inet_pton` that accepts `::1`) -/
def env6 : Env := ⟨id, fun _ => false, fun h => h == [58, 58, 49], some, some⟩

def u6 : URL :=
  { scheme := [119, 115], netlocSep := false, username := [], password := [], family := .inet6,
    host := [58, 58, 49], port := some 81, pathParts := [[], [91]], query := [([93], none)], fragment := [] }

theorem wf_u6 : WF env6 u6 where
  scheme_ok := by decide
  host_ne := by decide
  host_form := .v6 rfl (by decide) (by decide) (by decide)
  idna_dec := fun _ => rfl
  port_ok := Or.inr ⟨81, rfl⟩
  path_abs := ⟨_, rfl⟩
  query_ok := by decide
  scalars := ⟨by decide, by decide, by decide, by decide,
    forall_kv (P := fun s => ∀ x ∈ env6.nfc s, isScalar x = true) (by decide)⟩

/- non-vacuity of the conclusions: the rendering parses back to the same URL.  (The exact text is
   not stated: which characters beyond the delimiters a table escapes is the code's choice.) -/
example : ((toText env6 true u6).toOption.bind fun t => (URL.ofText env6 t).toOption) = some (normal env6 u6) :=
  eval_roundtrip (roundtrip_full env6 u6 wf_u6 rfl)

example : NfcLaws env0.nfc := ⟨rfl, fun _ => rfl, fun _ h => h⟩

example : ((toText env0 true u0).toOption.bind fun t => (URL.ofText env0 t).toOption) = some (normal env0 u0) ∧
    (normal env0 u0).username = [97, 59, 98] ∧ (normal env0 u0).fragment = [102, 35, 10] :=
  ⟨eval_roundtrip (roundtrip_full env0 u0 wf_u0 rfl), rfl, rfl⟩

/- … and none of the hostile characters stands raw where the parser would cut: no `@` `/` `?` `#` beyond the
   structural ones, no raw line feed -/
example : ((toText env0 true u0).toOption.map fun t =>
    (t.count 64, t.count 63, t.count 35, t.count 10, (t.filter (· == 47)).length)) = some (1, 1, 1, 0, 4) := by
  decide +kernel

/-- FULL STATEMENT: see `render_fixed_full_partial`.  PROVED PART (second family of shapes): render → parse →
    render is the identity on the text for every URL WITHOUT authority (`WFna`: no host, no userinfo; a scheme -
    whether or not it uses a netloc - or none, i.e. a relative reference; at least one path segment; arbitrary
    texts in path segments, query and fragment - a `:` in the first segment of a relative reference included:
    `to_text` escapes it, `colon_escape_invisible`).  Covers `scheme:rootless/path`, `scheme:/abs`, `scheme:///abs` (the `//` written for a netloc scheme
    with an empty authority, and for a path that begins with `//`), `/abs`, `rel/path`, `?q`, `#f`, the empty
    reference.  What comes back (`normalN`): the components NFC-normalised, `//` remembered, no port. -/
theorem render_fixed_full_noauth_partial (env : Env) (hl : NfcLaws env.nfc) (u : URL) (hW : WFna env u) :
    ∃ t u₁, toText env true u = .ok t ∧ URL.ofText env t = .ok u₁ ∧ toText env true u₁ = .ok t ∧
      u₁.scheme = u.scheme ∧ u₁.host = [] ∧ u₁.pathParts = u.pathParts.map env.nfc ∧
      u₁.query = u.query.map (fun kv => (env.nfc kv.1, kv.2.map env.nfc)) ∧ u₁.fragment = env.nfc u.fragment :=
  have h := render_fixedN env true env.nfc
    (quotePart_full_nfc hl.idem) u hW.toWFnq
  ⟨urlTextN env true u, normalN env true env.nfc u, h.1, h.2.1, h.2.2, rfl, rfl, rfl, rfl, rfl⟩

/-- the same in minimal mode, when no path segment, query key / value or fragment contains `%` (`WFnaMin`) -/
theorem render_fixed_min_noauth_partial (env : Env) (u : URL) (hW : WFnaMin env u) :
    ∃ t u₁, toText env false u = .ok t ∧ URL.ofText env t = .ok u₁ ∧ toText env false u₁ = .ok t ∧
      u₁.scheme = u.scheme ∧ u₁.host = [] ∧ u₁.pathParts = u.pathParts ∧ u₁.query = u.query ∧
      u₁.fragment = u.fragment :=
  have h := render_fixedN env false id (fun _ _ => rfl) u hW.toWFnq
  ⟨urlTextN env false u, normalN env false id u, h.1, h.2.1, h.2.2, rfl, rfl, List.map_id _,
    by show u.query.map (decPair id) = u.query; rw [decPair_id, List.map_id], rfl⟩

/-- the colon escape that `to_text` applies to the first path segment of a relative reference
    (`first.replace(':', '%3A')`) is invisible to `unquote`, and leaves no raw `:` behind (nothing the parser could
    read as the end of a scheme) -/
theorem colon_escape_invisible (q : Text) : unquote (escColon q) = unquote q ∧ 58 ∉ escColon q :=
  ⟨unquote_escColon q, escColon_no_colon q⟩

/-- the `//` that `to_text` writes without an authority is remembered by the parser and written again, and a
    URL parsed without `//` does not get one (whatever the scheme tables say) -/
theorem netloc_slashes_stable (scheme : Text) (parsedWithSlashes : Bool) (path : Text) :
    slashesS scheme (slashesS scheme parsedWithSlashes path) path = slashesS scheme parsedWithSlashes path :=
  slashesS_idem scheme parsedWithSlashes path

/-! non-vacuity: `mailto:a b@x?s=%`, `file:///e t/c` (a netloc scheme, empty authority), the relative references
    `/a?b` … `x/../y#z`, and `//`-initial paths -/

/-- `mailto:` + one rootless segment `a b@x`, query `s` = `%` -/
def uMail : URL :=
  { scheme := [109, 97, 105, 108, 116, 111], netlocSep := false, username := [], password := [], family := .none,
    host := [], port := none, pathParts := [[97, 32, 98, 64, 120]], query := [([115], some [37])], fragment := [] }

/-- path segments + fragment `#?` under a scheme (or none) -/
def uPath (scheme : Text) (parts : List Text) : URL :=
  { scheme := scheme, netlocSep := false, username := [], password := [], family := .none, host := [], port := none,
    pathParts := parts, query := [], fragment := [35, 63] }

theorem wfna_mail : WFna env0 uMail where
  scheme_ok := by decide
  host_nil := rfl
  user_nil := rfl
  pw_nil := rfl
  parts_ne := by decide
  query_ok := by decide
  scalars := ⟨by decide, by decide, by decide, by decide,
    forall_kv (P := fun s => ∀ x ∈ env0.nfc s, isScalar x = true) (by decide)⟩

/-- whatever the scheme (without `:/?#`) and the segments (at least one, encodable) -/
theorem wfna_uPath (scheme : Text) (parts : List Text) (hs : ∀ c ∈ scheme, notIn schemeStop c = true)
    (hne : parts ≠ []) (hsc : ∀ s ∈ parts, ∀ x ∈ s, isScalar x = true) : WFna env0 (uPath scheme parts) where
  scheme_ok := hs
  host_nil := rfl
  user_nil := rfl
  pw_nil := rfl
  parts_ne := hne
  query_ok := fun _ h => nomatch h
  scalars := ⟨(fun _ h => nomatch h), (fun _ h => nomatch h), (by decide : ∀ x ∈ [35, 63], isScalar x = true), hsc, (fun _ h => nomatch h)⟩

/-- `file:///e%20t/c#%23?`: a scheme that uses a netloc, an empty authority -/
theorem wfna_file : WFna env0 (uPath [102, 105, 108, 101] [[], [101, 32, 116], [99]]) :=
  wfna_uPath _ _ (by decide) (by decide) (by decide)

/-- the relative reference `/e t/c#…` -/
theorem wfna_rel : WFna env0 (uPath [] [[], [101, 32, 116], [99]]) :=
  wfna_uPath _ _ (by decide) (by decide) (by decide)

/-- a relative path that begins with `//` (segments `''`, `''`, `c`): `to_text` writes an empty authority before it -/
theorem wfna_slashes : WFna env0 (uPath [] [[], [], [99]]) :=
  wfna_uPath _ _ (by decide) (by decide) (by decide)

theorem wfnamin_rel : WFnaMin env0 (uPath [] [[], [101, 32, 116], [99]]) where
  scheme_ok := by decide
  host_nil := rfl
  user_nil := rfl
  pw_nil := rfl
  parts_ne := by decide
  query_ok := by decide
  no_pct_parts := by decide
  no_pct_query := by intro kv hkv; cases hkv
  no_pct_frag := by decide

/-- the relative reference with the segments `a:b` and `c:d`: renders as `a%3Ab/c:d`-like text without a raw colon
    before the first `/` -/
theorem wfna_rel_colon : WFna env0 (uPath [] [[97, 58, 98], [99, 58, 100]]) :=
  wfna_uPath _ _ (by decide) (by decide) (by decide)

example : ((toText env0 true (uPath [] [[97, 58, 98], [99, 58, 100]])).toOption.map fun t =>
    ((t.takeWhile (· != 47)).contains 58, (URL.ofText env0 t).toOption.map (·.pathParts))) =
    some (false, some [[97, 58, 98], [99, 58, 100]]) := by decide +kernel

/- `mailto:` has no `//`, `file:` gets one with an empty authority, and so does the relative path `//c`: the
   slashes in the renderings are 0 / 4 (`file:` + `//` + `/e%20t/c`) / 4 (`//` + `//c`) -/
example : ((toText env0 true uMail).toOption.map fun t => t.count 47) = some 0 ∧
    ((toText env0 true (uPath [102, 105, 108, 101] [[], [101, 32, 116], [99]])).toOption.map fun t => t.count 47) = some 4 ∧
    ((toText env0 true (uPath [] [[], [], [99]])).toOption.map fun t => t.count 47) = some 4 := by decide +kernel

example : ((toText env0 true (uPath [102, 105, 108, 101] [[], [101, 32, 116], [99]])).toOption.bind fun t =>
    (URL.ofText env0 t).toOption) = some { uPath [102, 105, 108, 101] [[], [101, 32, 116], [99]] with netlocSep := true } := by
  decide +kernel

/-! ## the fixed points, stated about TEXTS

The theorems above are about URL objects of a given shape.  Every URL that the parser returns has that shape
(`parsed_WF`, `parsed_WFna`, …: its scheme consists of scheme characters, it has at least one path segment - an
absolute path when there is a host -, `parse_qsl` never produces an (empty key, no value) pair), so the fixed-point
clause can be stated the way the property reads: parse a text, render, parse, render - the two renderings are equal. -/

/-- what the theorems below assume of the normaliser besides `NfcLaws`: encodable text (Unicode scalar values
    only, i.e. a Python `str` without lone surrogates) stays encodable - true of NFC -/
def NfcScalar (nfc : Text → Text) : Prop :=
  ∀ s, (∀ x ∈ s, isScalar x = true) → ∀ x ∈ nfc s, isScalar x = true

/-- `unquote` of encodable text is encodable text: CPython's UTF-8 decoder with errors='replace' never produces a
    lone surrogate or a value beyond U+10FFFF, whatever escapes the text contains … -/
theorem unquote_scalar (s : Text) (hs : ∀ x ∈ s, isScalar x = true) : ∀ x ∈ unquote s, isScalar x = true :=
  unquote_Sc hs

/-- … hence every component text of a URL parsed from encodable text is encodable (and can be rendered again) -/
theorem parsed_components_scalar (env : Env) (hnfc : NfcScalar env.nfc) (t : Text) (u : URL)
    (h : URL.ofText env t = .ok u) (ht : ∀ x ∈ t, isScalar x = true) : Scalars env u :=
  parsed_scalars hnfc h ht

/- `%ED%A0%80` (the UTF-8 form of the surrogate U+D800) and `%F4%90%80%80` (beyond U+10FFFF) decode to
   replacement characters, not to the forbidden values -/
example : unquote [37, 69, 68, 37, 65, 48, 37, 56, 48] = [0xFFFD, 0xFFFD, 0xFFFD] ∧
    unquote [37, 70, 52, 37, 57, 48, 37, 56, 48, 37, 56, 48] = [0xFFFD, 0xFFFD, 0xFFFD, 0xFFFD] := by decide +kernel

/-- FULL STATEMENT (fixed-point clause, full quoting): for every well-formed URL / reference `t`,
    `render(parse(render(parse t))) = render(parse t)`.
    PROVED PART: for EVERY encodable text `t` - well-formed or not - that parses to a URL with a host (a registered
    name or IPv4 literal that the idna codec leaves alone, or an IPv6 literal; with or without scheme, userinfo,
    port - any natural number -, path, query, fragment).
    Not covered: IDN hosts, userinfo with an empty host, negative ports (which are not well-formed anyway). -/
theorem parsed_fixed_full_partial (env : Env) (hl : NfcLaws env.nfc) (hnfc : NfcScalar env.nfc) (t : Text) (u : URL)
    (ht : ∀ x ∈ t, isScalar x = true)
    (h : URL.ofText env t = .ok u) (hne : u.host ≠ []) (hhost : HostOK env true u)
    (hidna : isAsciiText u.host = true → env.idnaDec u.host = some u.host) (hport : PortNat u) :
    ∃ t₁ u₁, toText env true u = .ok t₁ ∧ URL.ofText env t₁ = .ok u₁ ∧ toText env true u₁ = .ok t₁ :=
  render_fixed_full_partial env hl u (parsed_WF hl h hne hhost hidna hport (parsed_scalars hnfc h ht))

/-- the same for every encodable text that parses to a URL or reference WITHOUT authority (no host, no userinfo):
    no further condition - in particular every well-formed `scheme:path?q#f`, `scheme:///path`, relative reference -/
theorem parsed_fixed_full_noauth_partial (env : Env) (hl : NfcLaws env.nfc) (hnfc : NfcScalar env.nfc) (t : Text) (u : URL)
    (ht : ∀ x ∈ t, isScalar x = true)
    (h : URL.ofText env t = .ok u) (hh : u.host = []) (hu : u.username = []) (hp : u.password = []) :
    ∃ t₁ u₁, toText env true u = .ok t₁ ∧ URL.ofText env t₁ = .ok u₁ ∧ toText env true u₁ = .ok t₁ :=
  have ⟨t₁, u₁, h1, h2, h3, _⟩ := render_fixed_full_noauth_partial env hl u
    (parsed_WFna hl h hh hu hp (parsed_scalars hnfc h ht))
  ⟨t₁, u₁, h1, h2, h3⟩

/-- minimal quoting, when no decoded path segment, query key / value or fragment contains `%` -/
theorem parsed_fixed_min_partial (env : Env) (hl : NfcLaws env.nfc) (hnfc : NfcScalar env.nfc) (t : Text) (u : URL)
    (ht : ∀ x ∈ t, isScalar x = true)
    (h : URL.ofText env t = .ok u) (hne : u.host ≠ []) (hhost : HostOK env false u)
    (hidna : isAsciiText u.host = true → env.idnaDec u.host = some u.host) (hport : PortNat u)
    (h1 : ∀ s ∈ u.pathParts, 37 ∉ s) (h2 : ∀ kv ∈ u.query, 37 ∉ kv.1 ∧ ∀ v, kv.2 = some v → 37 ∉ v)
    (h3 : 37 ∉ u.fragment) :
    ∃ t₁ u₁, toText env false u = .ok t₁ ∧ URL.ofText env t₁ = .ok u₁ ∧ toText env false u₁ = .ok t₁ :=
  have hs := parsed_scalars hnfc h ht
  render_fixed_min_partial env hl u (parsed_WFmin h hne hhost hidna hport hs.username hs.password h1 h2 h3)

theorem parsed_fixed_min_noauth_partial (env : Env) (t : Text) (u : URL)
    (h : URL.ofText env t = .ok u) (hh : u.host = []) (hu : u.username = []) (hp : u.password = [])
    (h1 : ∀ s ∈ u.pathParts, 37 ∉ s) (h2 : ∀ kv ∈ u.query, 37 ∉ kv.1 ∧ ∀ v, kv.2 = some v → 37 ∉ v)
    (h3 : 37 ∉ u.fragment) :
    ∃ t₁ u₁, toText env false u = .ok t₁ ∧ URL.ofText env t₁ = .ok u₁ ∧ toText env false u₁ = .ok t₁ :=
  have ⟨t₁, u₁, h1', h2', h3', _⟩ := render_fixed_min_noauth_partial env u (parsed_WFnaMin h hh hu hp h1 h2 h3)
  ⟨t₁, u₁, h1', h2', h3'⟩

example : NfcScalar env0.nfc := fun _ h => h

/-- the component clause for what the PARSER put into the components: for every encodable text that parses to a URL
    of the first family, the full rendering parses back to the same component texts (NFC-normalised), scheme, host
    and family, and the port unless it is one that is never written (`normal`) -/
theorem parsed_roundtrip_full (env : Env) (hl : NfcLaws env.nfc) (hnfc : NfcScalar env.nfc) (t : Text) (u : URL)
    (ht : ∀ x ∈ t, isScalar x = true)
    (h : URL.ofText env t = .ok u) (hne : u.host ≠ []) (hhost : HostOK env true u)
    (hidna : isAsciiText u.host = true → env.idnaDec u.host = some u.host) (hport : PortNat u) :
    ∃ t₁, toText env true u = .ok t₁ ∧ URL.ofText env t₁ = .ok (normal env u) :=
  roundtrip_full env u (parsed_WF hl h hne hhost hidna hport (parsed_scalars hnfc h ht)) hl.nil

/-- the same with the conditions on the host DERIVED from the parser: for every encodable text that parses to a URL
    whose host is ASCII, not an IPv6 literal and without `[` (a registered name or IPv4 literal), that the idna
    encoder leaves alone, with a natural-number port or none.  `IdnaAsciiId`: a law of the idna decoder (an ASCII
    result is the name that went in). -/
theorem parsed_fixed_full_name_partial (env : Env) (hl : NfcLaws env.nfc) (hnfc : NfcScalar env.nfc) (hid : IdnaAsciiId env)
    (t : Text) (u : URL) (ht : ∀ x ∈ t, isScalar x = true) (h : URL.ofText env t = .ok u)
    (hne : u.host ≠ []) (hasc : isAsciiText u.host = true) (h6 : u.family ≠ .inet6) (h91 : 91 ∉ u.host)
    (henc : env.idnaEnc u.host = some u.host) (hport : PortNat u) :
    ∃ t₁ u₁, toText env true u = .ok t₁ ∧ URL.ofText env t₁ = .ok u₁ ∧ toText env true u₁ = .ok t₁ :=
  have ⟨hc, hf, hd⟩ := parsed_host_name hid h hne hasc h6 h91
  parsed_fixed_full_partial env hl hnfc t u ht h hne (.name hc hf (fun _ => henc)) (fun _ => hd) hport

theorem parsed_fixed_min_name_partial (env : Env) (hl : NfcLaws env.nfc) (hnfc : NfcScalar env.nfc) (hid : IdnaAsciiId env)
    (t : Text) (u : URL) (ht : ∀ x ∈ t, isScalar x = true) (h : URL.ofText env t = .ok u)
    (hne : u.host ≠ []) (hasc : isAsciiText u.host = true) (h6 : u.family ≠ .inet6) (h91 : 91 ∉ u.host)
    (hport : PortNat u)
    (h1 : ∀ s ∈ u.pathParts, 37 ∉ s) (h2 : ∀ kv ∈ u.query, 37 ∉ kv.1 ∧ ∀ v, kv.2 = some v → 37 ∉ v)
    (h3 : 37 ∉ u.fragment) :
    ∃ t₁ u₁, toText env false u = .ok t₁ ∧ URL.ofText env t₁ = .ok u₁ ∧ toText env false u₁ = .ok t₁ :=
  have ⟨hc, hf, hd⟩ := parsed_host_name hid h hne hasc h6 h91
  parsed_fixed_min_partial env hl hnfc t u ht h hne (.name hc hf (fun hh => by cases hh)) (fun _ => hd) hport h1 h2 h3

example : IdnaAsciiId env0 := fun s h hs _ => by
  simp only [env0, Option.some.injEq] at hs
  exact hs.symm

/-- what the parser never returns: an empty list of path segments, an (empty key, no value) query parameter, a
    scheme with a character of `:/?#`; and with a host the path is absolute or empty -/
theorem parsed_shape (env : Env) (t : Text) (u : URL) (h : URL.ofText env t = .ok u) :
    u.pathParts ≠ [] ∧ (∀ kv ∈ u.query, ¬ (kv.1 = [] ∧ kv.2 = none)) ∧
    (∀ c ∈ u.scheme, notIn schemeStop c = true) ∧ (u.host ≠ [] → ∃ rest, u.pathParts = [] :: rest) := by
  exact ⟨(ofText_shape h).parts_ne, (ofText_shape h).query_ok, (ofText_shape h).scheme_ok, ofText_path_abs h⟩

/- non-vacuity, evaluated: the text `HTTP://u:p@h:0080/a%2Fb/?k=%26&&e#` (not normalised: upper-case scheme, leading
   zeros and a default port, an escaped `/`, an empty parameter, an empty fragment) parses; its rendering differs
   from it and is a fixed point.  And the scheme-less `//h/p` (a network-path reference). -/
def tMessy : Text := [72, 84, 84, 80, 58, 47, 47, 117, 58, 112, 64, 104, 58, 48, 48, 56, 48, 47, 97, 37, 50, 70, 98, 47, 63,
  107, 61, 37, 50, 54, 38, 38, 101, 35]

example : ((URL.ofText env0 tMessy).toOption.bind fun u => (toText env0 true u).toOption.bind fun t₁ =>
    (URL.ofText env0 t₁).toOption.bind fun u₁ => (toText env0 true u₁).toOption.map fun t₂ =>
      (t₁ == t₂, t₁ == tMessy, u.host, u.port)) = some (true, false, [104], some 80) := by decide +kernel

example : ((URL.ofText env0 [47, 47, 104, 47, 112]).toOption.bind fun u => (toText env0 true u).toOption.map fun t₁ =>
    (t₁, u.scheme, u.host)) = some ([47, 47, 104, 47, 112], [], [104]) := by decide +kernel

/-- `URL(text)` on any text either returns a URL or raises URLParseError (for every behaviour of
    the external functions, including an idna codec that refuses the host) -/
theorem url_total (env : Env) (t : Text) :
    (∃ u, URL.ofText env t = .ok u) ∨ URL.ofText env t = .error .urlParseError := ofText_total env t

/-- `to_text` never raises in minimal mode; in full mode the only exception is the `UnicodeError` of the idna
    encoder refusing a (non-IPv6) host -/
theorem to_text_total (env : Env) (full : Bool) (u : URL) :
    (∃ t, toText env full u = .ok t) ∨
    (toText env full u = .error .unicodeError ∧ full = true ∧ u.host ≠ [] ∧ u.family ≠ .inet6 ∧
      env.idnaEnc u.host = none) := by
  unfold toText
  rw [authority_eq]
  by_cases hh : u.host = []
  · left; rw [if_pos hh]; exact ⟨_, rfl⟩
  rw [if_neg hh]
  by_cases h6 : u.family = .inet6
  · left; rw [if_pos h6]; exact ⟨_, rfl⟩
  rw [if_neg h6]
  cases full with
  | false => left; exact ⟨_, rfl⟩
  | true =>
    rw [if_pos rfl]
    cases he : env.idnaEnc u.host with
    | some h => left; exact ⟨_, rfl⟩
    | none => right; exact ⟨rfl, rfl, hh, h6, rfl⟩

example : toText ⟨id, fun _ => false, fun _ => false, some, fun _ => none⟩ true u0 = .error .unicodeError := by
  decide +kernel

/-- the port text goes through the port reader of `parse_url` (the builtin `int()` in the code as it stands; its
    parameters - accepted digit runs, stripped white space, sign, underscores - are regenerated by probing
    `parse_url`): whatever the text is - digits of any script, superscript or circled digits (`str.isdigit` but not
    decimal), fractions, letters, white space of any kind - and whatever the parameters are, the outcome is a
    port, no port (empty text), or URLParseError; no other exception -/
theorem port_total (s : Text) :
    (∃ p, parsePort s = .ok p) ∨ parsePort s = .error .urlParseError :=
  ok_or_parseError fun _ => parsePort_err

/- whatever the regenerated parameters of the port reader are: `80` is port 80, the empty text is no port;
   SUPERSCRIPT TWO, CIRCLED DIGIT ONE, VULGAR FRACTION ONE HALF, U+001C 1, MINUS SIGN 1, `0x10`: URLParseError -/
example : (parsePort [56, 48]).toOption = some (some 80) ∧ (parsePort []).toOption = some none := by decide +kernel
example : (parsePort [0xB2]).toOption = none ∧ (parsePort [0x2460]).toOption = none ∧
    (parsePort [0xBD]).toOption = none ∧ (parsePort [0x1C, 49]).toOption = none ∧
    (parsePort [0x2212, 49]).toOption = none ∧ (parsePort [48, 120, 49, 48]).toOption = none := by decide +kernel
/- with the parameters of the builtin `int()` (what the probing finds while parse_url calls it unguarded):
   ARABIC-INDIC THREE ONE = 31; NO-BREAK SPACE 8 IDEOGRAPHIC SPACE = 8; 1_0 = 10; -1 = -1 -/
example : portZeros.contains 0x660 = true → (parsePort [0x663, 0x661]).toOption = some (some 31) := by decide +kernel
example : portSpaces.contains 0xA0 = true → portSpaces.contains 0x3000 = true →
    (parsePort [0xA0, 56, 0x3000]).toOption = some (some 8) := by decide +kernel
example : portUnderscore = true → (parsePort [49, 95, 48]).toOption = some (some 10) := by decide +kernel
example : portMinus = true → (parsePort [45, 49]).toOption = some (some (-1)) := by decide +kernel
/- and with a reader that accepts nothing but ASCII digits (RFC 3986 `port = *DIGIT`) the same texts are rejected -/
example : portUnderscore = false → (parsePort [49, 95, 48]).toOption = none := by decide +kernel

/-- the loop of `find_all_links` never raises, whatever the regular expression matched -/
theorem find_all_links_total (env : Env) (o : LinkOpts) (ms : List (Text × Text)) (tail : Text) :
    ∃ r, findAllLinks env o ms tail = .ok r := by
  obtain ⟨r, h⟩ := linkLoop_ok env o ms []
  unfold findAllLinks
  rw [h]
  exact ⟨_, rfl⟩

/-! ## several URL objects alive at once: every derivation copies, edits stay local

The theorems above treat URL objects as independent values.  `Sharing.lean` models what the interpreter really
has - objects that REFER to mutable query dictionaries - and these theorems say why the value view is sound: every way
the code makes a URL object out of another one (`URL(url)`, `URL.from_parts(query_params=other.query_params)`,
`url.navigate(ref)`) puts the parameters into a dictionary of its own.  That is a fact about the current source: the
three flags are regenerated on every run by exercising it (make the derived object, edit either side, look at the
other). -/

/-- `URL(url)`, `URL.from_parts(query_params=<another URL's query_params>)` and `url.navigate(ref)` all copy the
    query parameters (flags regenerated from the source) -/
theorem derivation_edges_copy : ∀ e : Edge, e.copies = true := edges_all_copy

/-- after ANY history of constructions, derivations and in-place edits no two live URL objects refer to the same
    query dictionary -/
theorem objects_unshared (ops : List Op) : (Store.run ops).Unshared := run_unshared ops

/-- ... hence text placed in the query of one URL object never shows in another one: an in-place edit of object `i`
    leaves what every other object `j` reads (and renders) unchanged -/
theorem edit_stays_local (ops : List Op) (i j : Nat) (kv : Param) (hij : i ≠ j) :
    ((Store.run ops).qadd i kv).query j = (Store.run ops).query j :=
  Store.qadd_local _ i j kv (run_unshared ops) hij

/-- ... while the edited object itself reads the new pair at the end of its parameters -/
theorem edit_takes_effect (ops : List Op) (i q : Nat) (kv : Param) (hq : (Store.run ops).objs[i]? = some q) :
    ((Store.run ops).qadd i kv).query i = (Store.run ops).query i ++ [kv] :=
  Store.qadd_self _ i kv q hq

/-- the derived object starts with the parameters of the object it was made from, whichever way the edge works -/
theorem derived_takes_over (copies : Bool) (s : Store) (j : Nat) (hj : j < s.objs.length) :
    (s.derive copies j).query s.objs.length = s.query j := Store.derive_takes_over copies s j hj

/-- why the copy is needed: an edge that installed the SAME dictionary would let an edit of the derived object show
    in the base (this is what the flags exclude) -/
theorem shared_dictionary_leaks (kv : Param) :
    ((((Store.empty.fresh []).derive false 0).qadd 1 kv).query 0) = [kv] := Store.shared_leaks kv

/- base `?k=v`; a URL navigated from it, one made by from_parts from its query_params, one copied with URL(url); each
   derived object gets a parameter of its own: the base still reads `k=v`, every object reads what was put into it -/
example :
    let s := Store.run [.fresh [([107], some [118])], .derive .navigate 0, .derive .fromParts 0, .derive .urlCopy 1,
                        .qadd 1 ([110], none), .qadd 2 ([112], some []), .qadd 3 ([99], some [49])]
    s.query 0 = [([107], some [118])] ∧ s.query 1 = [([107], some [118]), ([110], none)] ∧
    s.query 2 = [([107], some [118]), ([112], some [])] ∧ s.query 3 = [([107], some [118]), ([99], some [49])] := by
  decide +kernel

end C06
