import BoltonsVerif.C06.Spec
/-
C06 — facts about the generated tables, re-checked by kernel evaluation (`decide +kernel`) whenever
the translator output changes.
-/
namespace C06
open C06.Gen

/-- the hex map is exactly "two hexadecimal digits (either case) -> their value" -/
def hexSpec (a b : Nat) : Option Nat :=
  if isHexDigit a && isHexDigit b then some (16 * hexVal a + hexVal b) else none

/-- one row of a quote map is right: either the byte itself (ASCII, raw-legal at that position,
    not `%`), or `%` + two upper-case hex digits that denote the byte (`hexSpec`; the decoder's own table
    equals `hexSpec`: `hexPair_eq_spec`); and no character of the row is a delimiter for the parser
    at that position -/
def entryOK (c : Comp) (b : Nat) (e : List Nat) : Bool :=
  ((e == [b] && b != 37 && b < 128 && legalRaw c b) ||
   (match e with
    | [p, h, l] => p == 37 && isUpperHex h && isUpperHex l && hexSpec h l == some b
    | _ => false)) &&
  e.all (fun ch => !(stopSet c).contains ch)

def mapOK (c : Comp) : Bool := (List.range 256).all fun b => entryOK c b (mapGet c.map b)

theorem all_range_getD {α : Type} (p : Nat → α → Bool) (l : List α) (d : α)
    (h : l.zipIdx.all (fun ei => p ei.2 ei.1) = true) :
    (List.range l.length).all (fun i => p i (l.getD i d)) = true := by
  rw [List.all_eq_true] at h ⊢
  intro i hi
  have hi := List.mem_range.mp hi
  have hm : (l[i], i) ∈ l.zipIdx := by
    rw [List.mem_zipIdx_iff_getElem?]
    exact List.getElem?_eq_getElem hi
  rw [List.getD_eq_getElem?_getD, List.getElem?_eq_getElem hi]
  exact h _ hm

theorem map_length (c : Comp) : c.map.length = 256 := by
  cases c <;> decide +kernel

theorem mapOK_all (c : Comp) : mapOK c = true := by
  -- evaluated along the table: 256 lookups by index cost the kernel ten times as much
  have h : c.map.zipIdx.all (fun ei => entryOK c ei.2 ei.1) = true := by
    cases c <;> decide +kernel
  have := all_range_getD (entryOK c) c.map [] h
  rwa [map_length] at this

theorem entryOK_of_lt (c : Comp) (b : Nat) (hb : b < 256) : entryOK c b (mapGet c.map b) = true := by
  have h := mapOK_all c
  unfold mapOK at h
  rw [List.all_eq_true] at h
  exact h b (List.mem_range.mpr hb)

/-- the delimiter sets used by minimal quoting are ASCII and their rows are escapes -/
def delimsOK (c : Comp) : Bool :=
  c.delims.all fun t => t < 128 && (mapGet c.map t).length == 3

theorem delimsOK_all (c : Comp) : delimsOK c = true := by
  cases c <;> decide +kernel

theorem schemeStop_58 : notIn schemeStop 58 = false := by decide
theorem schemeStop_47 : notIn schemeStop 47 = false := by decide
theorem schemeStop_63 : notIn schemeStop 63 = false := by decide
theorem schemeStop_35 : notIn schemeStop 35 = false := by decide
theorem schemeStop_sub : ∀ c ∈ schemeStop, c = 58 ∨ c = 47 ∨ c = 63 ∨ c = 35 := by decide

theorem authStop_47 : notIn authStop 47 = false := by decide
theorem authStop_63 : notIn authStop 63 = false := by decide
theorem authStop_35 : notIn authStop 35 = false := by decide
theorem authStop_58 : notIn authStop 58 = true := by decide
theorem authStop_64 : notIn authStop 64 = true := by decide
theorem authStop_91 : notIn authStop 91 = true := by decide
theorem authStop_93 : notIn authStop 93 = true := by decide
theorem authStop_46 : notIn authStop 46 = true := by decide
theorem authStop_sub : ∀ c ∈ authStop, c = 47 ∨ c = 63 ∨ c = 35 := by decide
theorem authStop_no_hex : ∀ c ∈ authStop, isHexDigit c = false := by decide

theorem pathStop_63 : notIn pathStop 63 = false := by decide
theorem pathStop_35 : notIn pathStop 35 = false := by decide
theorem pathStop_47 : notIn pathStop 47 = true := by decide

theorem queryStop_35 : notIn queryStop 35 = false := by decide
theorem queryStop_38 : notIn queryStop 38 = true := by decide
theorem queryStop_61 : notIn queryStop 61 = true := by decide

/-- `%3A`, what the colon escape of a relative path writes, is no delimiter of a path segment -/
theorem stopSet_path_pct3A : ∀ x ∈ [37, 51, 65], (stopSet .path).contains x = false := by decide

/-- every delimiter of the parser at a position is in the set minimal quoting escapes there -/
theorem stop_sub_delims (c : Comp) : (stopSet c).all (fun x => c.delims.contains x) = true := by
  cases c <;> decide

theorem digitVal_ascii : ∀ d, d < 10 → digitVal? (48 + d) = some d := by decide +kernel

theorem isPySpace_ascii : ∀ d, d < 10 → isPySpace (48 + d) = false := by decide +kernel

def hexDigits : List Nat := (List.range 103).filter isHexDigit

theorem mem_hexDigits {a : Nat} : a ∈ hexDigits ↔ isHexDigit a = true := by
  unfold hexDigits
  rw [List.mem_filter, List.mem_range]
  refine ⟨fun h => h.2, fun h => ⟨?_, h⟩⟩
  simp only [isHexDigit, Bool.or_eq_true, Bool.and_eq_true, decide_eq_true_eq] at h
  omega

def hexKeys : List (Nat × Nat) := hexDigits.flatMap fun a => hexDigits.map fun b => (a, b)

theorem mem_hexKeys {a b : Nat} : (a, b) ∈ hexKeys ↔ isHexDigit a = true ∧ isHexDigit b = true := by
  simp only [hexKeys, List.mem_flatMap, List.mem_map, Prod.mk.injEq, ← mem_hexDigits]
  constructor
  · rintro ⟨x, hx, y, hy, rfl, rfl⟩
    exact ⟨hx, hy⟩
  · rintro ⟨ha, hb⟩
    exact ⟨a, ha, b, hb, rfl, rfl⟩

/-- the 22 x 22 pairs of hex digits in the order the translator emits them, so that the kernel compares the two
    lists in one linear pass -/
theorem hexMap_eq : hexMap = hexKeys.map fun k => (k.1, k.2, 16 * hexVal k.1 + hexVal k.2) :=
  eq_of_beq (by decide +kernel)

theorem find?_graph (f : Nat → Nat → Nat) (a b : Nat) (ks : List (Nat × Nat)) :
    ((ks.map fun k => (k.1, k.2, f k.1 k.2)).find? (fun e => e.1 == a && e.2.1 == b)).map (·.2.2) =
      if (a, b) ∈ ks then some (f a b) else none := by
  induction ks with
  | nil => rfl
  | cons k ks ih =>
    rw [List.map_cons, List.find?_cons]
    by_cases hk : k = (a, b)
    · subst hk
      simp
    · have : (k.1 == a && k.2 == b) = false := by
        rw [Bool.and_eq_false_iff, beq_eq_false_iff_ne, beq_eq_false_iff_ne]
        by_cases h1 : k.1 = a
        · exact Or.inr fun h2 => hk (Prod.ext h1 h2)
        · exact Or.inl h1
      simp only [this, ih, List.mem_cons, Ne.symm hk, false_or]

theorem hexPair_eq_spec (a b : Nat) : hexPair? a b = hexSpec a b := by
  unfold hexPair? hexSpec
  rw [hexMap_eq, find?_graph (fun a b => 16 * hexVal a + hexVal b)]
  simp only [mem_hexKeys, Bool.and_eq_true]

end C06
