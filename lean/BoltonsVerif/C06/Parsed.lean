import BoltonsVerif.C06.NoAuth
/-
C06 — what the parser produces.  Every URL that `URL(text)` returns has the shape the fixed-point theorems ask
for (a scheme made of scheme characters, at least one path segment, no (empty key, no value) query parameter …),
so that the fixed points can be stated about TEXTS: for every text `t` that parses, `render(parse t)` is a text that
parses and renders to itself.
-/
namespace C06
open C06.Gen

theorem parsePair_ok (p : Text) (hp : p ≠ []) : ¬ ((parsePair p).1 = [] ∧ (parsePair p).2 = none) := by
  intro ⟨h1, h2⟩
  unfold parsePair at h1 h2
  simp only at h1 h2
  by_cases hc : p.contains 61 = true
  · simp at h2
    exact h2 (by simpa using hc)
  · have h61 : ∀ x ∈ p, x ≠ 61 := by
      intro x hx e
      subst e
      apply hc
      simpa using hx
    rw [before_none h61] at h1
    exact hp (plusToSpace_eq_nil (unquote_eq_nil h1))

theorem parseQsl_ok (qs : Text) : ∀ kv ∈ parseQsl qs, ¬ (kv.1 = [] ∧ kv.2 = none) := by
  intro kv hkv
  unfold parseQsl at hkv
  rw [List.mem_map] at hkv
  obtain ⟨p, hp, rfl⟩ := hkv
  rw [List.mem_filter] at hp
  have hne : p ≠ [] := by
    intro e
    have := hp.2
    simp [nonEmpty, e] at this
  exact parsePair_ok p hne

structure ParsedFields (env : Env) (t : Text) (u : URL) : Prop where
  scheme : u.scheme = (schemeOf t).getD []
  parts : ∃ p : Text, u.pathParts = (p.splitOn 47).map maybeUnquote
  query : ∃ q : Text, u.query = parseQsl q

theorem ofText_ok {env : Env} {t : Text} {u : URL} (h : URL.ofText env t = .ok u) :
    ∃ (a : Auth) (host : Text), parseAuthority env ((authorityOf (afterScheme t)).getD []) = .ok a ∧
      (if a.host = [] then some [] else if isAsciiText a.host then env.idnaDec a.host else some a.host) = some host ∧
      u = { scheme := (schemeOf t).getD []
            netlocSep := (authorityOf (afterScheme t)).isSome
            username := maybeUnquote a.username
            password := maybeUnquote a.password
            family := a.family
            host := host
            port := a.port
            pathParts := ((pathOf (afterAuthority (afterScheme t))).splitOn 47).map maybeUnquote
            query := parseQsl ((queryOf (afterPath (afterAuthority (afterScheme t)))).getD [])
            fragment := maybeUnquote
              ((fragmentOf (afterQuery (afterPath (afterAuthority (afterScheme t))))).getD []) } := by
  unfold URL.ofText at h
  simp only at h
  split at h
  · cases h
  · rename_i a ha
    split at h
    · cases h
    · rename_i host hhost
      cases h
      exact ⟨a, host, ha, hhost, rfl⟩

theorem ofText_fields {env : Env} {t : Text} {u : URL} (h : URL.ofText env t = .ok u) : ParsedFields env t u := by
  obtain ⟨a, host, _, _, rfl⟩ := ofText_ok h
  exact ⟨rfl, ⟨_, rfl⟩, ⟨_, rfl⟩⟩

/-- what the parser never returns: a scheme with a character of `:/?#`, an empty list of path segments, an (empty key,
    no value) query parameter -/
structure ParsedShape (u : URL) : Prop where
  scheme_ok : ∀ c ∈ u.scheme, notIn schemeStop c = true
  parts_ne : u.pathParts ≠ []
  query_ok : ∀ kv ∈ u.query, ¬ (kv.1 = [] ∧ kv.2 = none)

theorem ofText_shape {env : Env} {t : Text} {u : URL} (h : URL.ofText env t = .ok u) : ParsedShape u := by
  obtain ⟨hs, ⟨p, hp⟩, ⟨q, hq⟩⟩ := ofText_fields h
  refine ⟨by rw [hs]; exact schemeOf_chars t, ?_, by rw [hq]; exact parseQsl_ok q⟩
  rw [hp]
  simp only [ne_eq, List.map_eq_nil_iff]
  exact List.splitOn_ne_nil 47 p

theorem splitOn_abs {p : Text} (h : p = [] ∨ p.head? = some 47) : ∃ rest, p.splitOn 47 = [] :: rest := by
  rcases h with h | h
  · subst h; exact ⟨[], by simp⟩
  · cases p with
    | nil => simp at h
    | cons x xs =>
      simp at h; subst h
      exact List.head?_eq_some_iff.mp rfl

theorem ofText_path_abs {env : Env} {t : Text} {u : URL} (h : URL.ofText env t = .ok u) (hh : u.host ≠ []) :
    ∃ rest, u.pathParts = [] :: rest := by
  obtain ⟨a, host, ha, hhost, rfl⟩ := ofText_ok h
  simp only at hh ⊢
  -- the authority group matched: otherwise the host would be empty
  cases hau : authorityOf (afterScheme t) with
  | none =>
    exfalso
    rw [hau] at ha
    simp only [Option.getD_none, parseAuthority_nil] at ha
    cases ha
    simp at hhost
    exact hh hhost
  | some au =>
    have hr : ∃ r, afterScheme t = 47 :: 47 :: r := by
      unfold authorityOf at hau
      split at hau
      · rename_i r heq; exact ⟨r, heq⟩
      · cases hau
    obtain ⟨r, hr⟩ := hr
    have hp := path_after_authority r
    have e : afterAuthority (afterScheme t) = r.dropWhile (notIn authStop) := by
      rw [hr]; rfl
    rw [e]
    obtain ⟨rest, hrest⟩ := splitOn_abs hp
    exact ⟨rest.map maybeUnquote, by rw [hrest]; simp [maybeUnquote_nil]⟩

theorem parsed_WF {env : Env} (hl : NfcLaws env.nfc) {t : Text} {u : URL} (h : URL.ofText env t = .ok u)
    (hne : u.host ≠ []) (hhost : HostOK env true u) (hidna : isAsciiText u.host = true → env.idnaDec u.host = some u.host)
    (hport : PortNat u) (hs : Scalars env u) : WF env u where
  scheme_ok := (ofText_shape h).scheme_ok
  host_ne := hne
  host_form := hhost
  idna_dec := hidna
  port_ok := hport
  path_abs := ofText_path_abs h hne
  query_ok := fun kv hkv ⟨h1, h2⟩ => (ofText_shape h).query_ok kv hkv ⟨hl.ne_nil _ h1, h2⟩
  scalars := hs

theorem parsed_WFmin {env : Env} {t : Text} {u : URL} (h : URL.ofText env t = .ok u)
    (hne : u.host ≠ []) (hhost : HostOK env false u) (hidna : isAsciiText u.host = true → env.idnaDec u.host = some u.host)
    (hport : PortNat u)
    (hus : ∀ x ∈ env.nfc u.username, isScalar x = true) (hps : ∀ x ∈ env.nfc u.password, isScalar x = true)
    (h1 : ∀ s ∈ u.pathParts, 37 ∉ s) (h2 : ∀ kv ∈ u.query, 37 ∉ kv.1 ∧ ∀ v, kv.2 = some v → 37 ∉ v)
    (h3 : 37 ∉ u.fragment) : WFmin env u where
  scheme_ok := (ofText_shape h).scheme_ok
  host_ne := hne
  host_form := hhost
  idna_dec := hidna
  port_ok := hport
  path_abs := ofText_path_abs h hne
  query_ok := (ofText_shape h).query_ok
  user_scalar := hus
  pw_scalar := hps
  no_pct_parts := h1
  no_pct_query := h2
  no_pct_frag := h3

theorem parsed_WFna {env : Env} (hl : NfcLaws env.nfc) {t : Text} {u : URL} (h : URL.ofText env t = .ok u)
    (hh : u.host = []) (hu : u.username = []) (hp : u.password = []) (hs : Scalars env u) : WFna env u where
  scheme_ok := (ofText_shape h).scheme_ok
  host_nil := hh
  user_nil := hu
  pw_nil := hp
  parts_ne := (ofText_shape h).parts_ne
  query_ok := fun kv hkv ⟨h1, h2⟩ => (ofText_shape h).query_ok kv hkv ⟨hl.ne_nil _ h1, h2⟩
  scalars := hs

theorem parsed_WFnaMin {env : Env} {t : Text} {u : URL} (h : URL.ofText env t = .ok u)
    (hh : u.host = []) (hu : u.username = []) (hp : u.password = [])
    (h1 : ∀ s ∈ u.pathParts, 37 ∉ s) (h2 : ∀ kv ∈ u.query, 37 ∉ kv.1 ∧ ∀ v, kv.2 = some v → 37 ∉ v)
    (h3 : 37 ∉ u.fragment) : WFnaMin env u where
  scheme_ok := (ofText_shape h).scheme_ok
  host_nil := hh
  user_nil := hu
  pw_nil := hp
  parts_ne := (ofText_shape h).parts_ne
  query_ok := (ofText_shape h).query_ok
  no_pct_parts := h1
  no_pct_query := h2
  no_pct_frag := h3

theorem parseHost_ok_name {env : Env} {host host' : Text} {fam : Family} (h : parseHost env host = .ok (fam, host'))
    (hne : host' ≠ []) (h6 : fam ≠ .inet6) :
    host' = host ∧ fam = (if env.fam4 host then .inet else .none) := by
  rcases parseHost_cases env host with ⟨_, e⟩ | ⟨_, e⟩ | e | ⟨_, e⟩ <;> rw [e] at h <;> cases h
  · exact absurd rfl hne
  · exact absurd rfl h6
  · exact ⟨rfl, rfl⟩

theorem splitHostPort_host {hi host : Text} {port : Option Int} (h : splitHostPort hi = .ok (host, port))
    (h91 : 91 ∉ host) : ∀ c ∈ host, c ∈ hi ∧ c ≠ 58 := by
  unfold splitHostPort at h
  by_cases hc58 : (!hi.contains 58) = true
  · rw [if_pos hc58] at h
    cases h
    intro c hc
    refine ⟨hc, fun e => ?_⟩
    subst e
    simp at hc58
    exact hc58 hc
  rw [if_neg hc58] at h
  by_cases hbr : ((before 58 hi).head? = some 91 && (after 58 hi).contains 93) = true
  · -- the `[…]` repair keeps the `[` at the head of the host
    rw [if_pos hbr] at h
    split at h
    · cases h
      rw [Bool.and_eq_true] at hbr
      have : 91 ∈ before 58 hi := List.mem_of_mem_head? (by simpa using hbr.1)
      exact absurd (by simp [this]) h91
    · cases h
  · rw [if_neg hbr] at h
    split at h
    · cases h
      intro c hc
      exact ⟨(before_sub 58 _).subset hc, before_chars 58 _ c hc⟩
    · cases h

theorem parseAuthority_name {env : Env} {au : Text} {a : Auth} (h : parseAuthority env au = .ok a)
    (hau : ∀ x ∈ au, notIn authStop x = true) (hne : a.host ≠ []) (h6 : a.family ≠ .inet6) (h91 : 91 ∉ a.host) :
    (∀ c ∈ a.host, hostChar c = true) ∧ a.family = (if env.fam4 a.host then .inet else .none) := by
  unfold parseAuthority at h
  simp only at h
  split at h
  · cases h
  · rename_i host port hsp
    split at h
    · cases h
    · rename_i fam host' hph
      cases h
      simp only at hne h6 h91 ⊢
      obtain ⟨e1, e2⟩ := parseHost_ok_name hph hne h6
      subst e1
      refine ⟨?_, e2⟩
      have hi : splitHostPort (rafter 64 au) = .ok (host', port) := by
        by_cases hr : rafter 64 au = []
        · rw [if_pos hr] at hsp; cases hsp; exact absurd rfl hne
        · rw [if_neg hr] at hsp; exact hsp
      intro c hc
      obtain ⟨hm, h58⟩ := splitHostPort_host hi h91 c hc
      have h64 := rafter_chars 64 au c hm
      have h91c : c ≠ 91 := fun e => h91 (e ▸ hc)
      exact hostChar_iff.mpr ⟨hau c ((rafter_sub 64 au).subset hm), h64, h58, h91c⟩

/-- the law of the idna codec the next lemma needs: when `ascii_bytes.decode('idna')` yields an ASCII name, it is
    the name that went in (a name without ACE label is left alone; an ACE label decodes to something non-ASCII) -/
def IdnaAsciiId (env : Env) : Prop :=
  ∀ s h, env.idnaDec s = some h → isAsciiText h = true → h = s

/-- what `HostOK.name` (the idna encoder apart) and `idna_dec` ask of a host, derived from the parser for an ASCII
    host that is not an IPv6 literal and contains no `[` -/
theorem parsed_host_name {env : Env} (hid : IdnaAsciiId env) {t : Text} {u : URL} (h : URL.ofText env t = .ok u)
    (hne : u.host ≠ []) (hu : isAsciiText u.host = true) (h6 : u.family ≠ .inet6) (h91 : 91 ∉ u.host) :
    (∀ c ∈ u.host, hostChar c = true) ∧ u.family = (if env.fam4 u.host then .inet else .none) ∧
    env.idnaDec u.host = some u.host := by
  obtain ⟨a, host, ha, hhost, rfl⟩ := ofText_ok h
  simp only at hne hu h6 h91 ⊢
  have hau := authorityOf_chars (afterScheme t)
  have heq : a.host = host ∧ env.idnaDec host = some host := by
    by_cases hnil : a.host = []
    · rw [if_pos hnil] at hhost
      simp only [Option.some.injEq] at hhost
      exact absurd hhost.symm hne
    · rw [if_neg hnil] at hhost
      by_cases hasc : isAsciiText a.host = true
      · rw [if_pos hasc] at hhost
        have := hid _ _ hhost hu
        exact ⟨this.symm, by rw [this] at hhost ⊢; exact hhost⟩
      · rw [if_neg hasc] at hhost
        simp only [Option.some.injEq] at hhost
        rw [← hhost] at hu
        exact absurd hu hasc
  have hn := parseAuthority_name ha hau (by rw [heq.1]; exact hne) h6 (by rw [heq.1]; exact h91)
  rw [heq.1] at hn
  exact ⟨hn.1, hn.2, heq.2⟩

end C06
