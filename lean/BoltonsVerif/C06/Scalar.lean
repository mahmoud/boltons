import BoltonsVerif.C06.Parsed
/-
C06 — `unquote` (CPython's UTF-8 decoder with errors='replace' included) produces Unicode scalar values only:
no lone surrogate, nothing beyond U+10FFFF.  So whatever `URL(text)` stores in its components can be encoded
and rendered again.
-/
namespace C06
open C06.Gen

/-- encodable text: Unicode scalar values only -/
abbrev Sc (s : Text) : Prop := ∀ x ∈ s, isScalar x = true

theorem Sc.sub {a b : Text} (hb : Sc b) (h : a.Sublist b) : Sc a :=
  fun x hx => hb x (h.subset hx)

theorem Sc.nil : Sc [] := fun x hx => by simp at hx

theorem unquote_Sc {s : Text} (hs : Sc s) : Sc (unquote s) := by
  induction s using ascii_runs_ind with
  | ascii a ha => rw [unquote_ascii a ha]; exact decodeR_scalar _
  | split a c b ha hc ih =>
    intro x hx
    rw [unquote_split a b c hc, unquote_ascii a ha, List.mem_append, List.mem_cons] at hx
    rcases hx with hx | rfl | hx
    · exact decodeR_scalar _ x hx
    · exact hs x (by simp)
    · exact ih (fun y hy => hs y (by simp [hy])) x hx

theorem afterScheme_sub (t : Text) : (afterScheme t).Sublist t := by
  unfold afterScheme
  split
  · rename_i r heq
    split
    · exact List.Sublist.refl _
    · have h1 : (58 :: r).Sublist t := by rw [← heq]; exact List.dropWhile_sublist _
      exact (List.sublist_cons_self 58 r).trans h1
  · exact List.Sublist.refl _

theorem authorityOf_sub (r : Text) : ((authorityOf r).getD []).Sublist r := by
  unfold authorityOf
  split
  · rename_i r'
    simp only [Option.getD_some]
    exact (List.takeWhile_sublist _).trans ((List.sublist_cons_self 47 r').trans (List.sublist_cons_self 47 _))
  · simp

theorem afterAuthority_sub (r : Text) : (afterAuthority r).Sublist r := by
  unfold afterAuthority
  split
  · rename_i r'
    exact (List.dropWhile_sublist _).trans ((List.sublist_cons_self 47 r').trans (List.sublist_cons_self 47 _))
  · exact List.Sublist.refl _

theorem pathOf_sub (r : Text) : (pathOf r).Sublist r := List.takeWhile_sublist _
theorem afterPath_sub (r : Text) : (afterPath r).Sublist r := List.dropWhile_sublist _

theorem queryOf_sub (r : Text) : ((queryOf r).getD []).Sublist r := by
  unfold queryOf
  split
  · rename_i r'
    simp only [Option.getD_some]
    exact (List.takeWhile_sublist _).trans (List.sublist_cons_self 63 r')
  · simp

theorem afterQuery_sub (r : Text) : (afterQuery r).Sublist r := by
  unfold afterQuery
  split
  · rename_i r'
    exact (List.dropWhile_sublist _).trans (List.sublist_cons_self 63 r')
  · exact List.Sublist.refl _

theorem fragmentOf_sub (r : Text) : ((fragmentOf r).getD []).Sublist r := by
  unfold fragmentOf
  split
  · rename_i r'
    simp only [Option.getD_some]
    exact (List.takeWhile_sublist _).trans (List.sublist_cons_self 35 r')
  · simp

theorem splitOn_piece {sep : Nat} {s p : Text} (hs : Sc s) (hp : p ∈ s.splitOn sep) : Sc p := by
  intro x hx
  have := mem_intercalate_of_mem (sep := sep) hp hx
  rw [List.intercalate_splitOn] at this
  exact hs x this

theorem maybeUnquote_Sc {s : Text} (h : Sc s) : Sc (maybeUnquote s) := by
  unfold maybeUnquote
  split
  · exact unquote_Sc h
  · exact h

theorem plusToSpace_Sc {s : Text} (h : Sc s) : Sc (plusToSpace s) := by
  intro x hx
  unfold plusToSpace at hx
  rw [List.mem_map] at hx
  obtain ⟨c, hc, rfl⟩ := hx
  split
  · decide
  · exact h c hc

theorem parsePair_Sc {p : Text} (h : Sc p) :
    Sc (parsePair p).1 ∧ ∀ v, (parsePair p).2 = some v → Sc v := by
  unfold parsePair
  refine ⟨unquote_Sc (plusToSpace_Sc (h.sub (before_sub 61 p))), ?_⟩
  intro v hv
  simp only at hv
  split at hv
  · simp only [Option.some.injEq] at hv
    subst hv
    split
    · exact Sc.nil
    · exact unquote_Sc (plusToSpace_Sc (h.sub (after_sub 61 p)))
  · cases hv

theorem parseQsl_Sc {qs : Text} (h : Sc qs) :
    ∀ kv ∈ parseQsl qs, Sc kv.1 ∧ ∀ v, kv.2 = some v → Sc v := by
  intro kv hkv
  unfold parseQsl at hkv
  rw [List.mem_map] at hkv
  obtain ⟨p, hp, rfl⟩ := hkv
  rw [List.mem_filter, List.mem_flatMap] at hp
  obtain ⟨⟨a, ha, hpa⟩, _⟩ := hp
  exact parsePair_Sc (splitOn_piece (splitOn_piece h ha) hpa)

/-- what `parse_url` calls username and password are pieces of the authority text -/
theorem parseAuthority_Sc {env : Env} {au : Text} {a : Auth} (h : parseAuthority env au = .ok a) (hau : Sc au) :
    Sc a.username ∧ Sc a.password := by
  unfold parseAuthority at h
  simp only at h
  split at h
  · cases h
  · split at h
    · cases h
    · cases h
      constructor
      · simp only; split
        · exact (hau.sub (rbefore_sub 64 au)).sub (before_sub 58 _)
        · exact Sc.nil
      · simp only; split
        · exact (hau.sub (rbefore_sub 64 au)).sub (after_sub 58 _)
        · exact Sc.nil

/-- a URL parsed from encodable text has encodable component texts (for a normaliser that, like NFC, maps
    encodable text to encodable text) -/
theorem parsed_scalars {env : Env} (hnfc : ∀ s, Sc s → Sc (env.nfc s)) {t : Text} {u : URL}
    (h : URL.ofText env t = .ok u) (ht : Sc t) : Scalars env u := by
  obtain ⟨a, host, ha, _, rfl⟩ := ofText_ok h
  have h1 : Sc (afterScheme t) := ht.sub (afterScheme_sub t)
  have h2 : Sc (afterAuthority (afterScheme t)) := h1.sub (afterAuthority_sub _)
  have h3 : Sc (afterPath (afterAuthority (afterScheme t))) := h2.sub (afterPath_sub _)
  have h4 : Sc (afterQuery (afterPath (afterAuthority (afterScheme t)))) := h3.sub (afterQuery_sub _)
  have hA := parseAuthority_Sc ha (h1.sub (authorityOf_sub _))
  refine ⟨hnfc _ (maybeUnquote_Sc hA.1), hnfc _ (maybeUnquote_Sc hA.2),
    hnfc _ (maybeUnquote_Sc (h4.sub (fragmentOf_sub _))), ?_, ?_⟩
  · intro s hs
    simp only [List.mem_map] at hs
    obtain ⟨p, hp, rfl⟩ := hs
    exact hnfc _ (maybeUnquote_Sc (splitOn_piece (h2.sub (pathOf_sub _)) hp))
  · intro kv hkv
    have := parseQsl_Sc (h3.sub (queryOf_sub _)) kv hkv
    exact ⟨hnfc _ this.1, fun v hv => hnfc _ (this.2 v hv)⟩

end C06
