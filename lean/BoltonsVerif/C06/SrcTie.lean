import BoltonsVerif.C06.Props
import BoltonsVerif.Generated.Src_urlutils_quote
/-
C06 — SOURCE TIE: the quoting functions of `boltons/urlutils.py`, translated from the source text on every
run by `harness/py2lean_c06.py` (→ `Generated/Src_urlutils_quote.lean`, namespace `Src.urlutils`), are EQUAL to the
hand model `C06/Model.lean`.  The declared operations of the translation (`lean/BoltonsVerif/PyRtC06.lean`) are written
down independently of the model; the `rt_*` lemmas relate the two, the tie theorems of the quote functions then only
unfold the generated definition and rewrite with them.

  quote_{path,query,fragment,userinfo}_part  =  `C06.quotePart <component> nfc full_quote text`  for EVERY `nfc`
  (the hand model's parameter `nfc` = `unicodedata.normalize('NFC', ·)`, here a parameter of the generated definition).
-/
-- the simp sets name more lemmas than the present source needs: a re-shaped source must still go through
set_option linter.unusedSimpArgs false

namespace C06
open C06.Gen

theorem rt_utf8Char_eq : PyRtC06.utf8Char = C06.utf8Char := by
  funext c; simp [PyRtC06.utf8Char, C06.utf8Char]

theorem rt_utf8_eq : PyRtC06.utf8 = C06.utf8 := by
  funext s; simp [PyRtC06.utf8, C06.utf8, rt_utf8Char_eq]

theorem rt_mapGet_eq : PyRtC06.mapGet = C06.mapGet := by
  funext m k; rfl

theorem rt_join_map (l : List Nat) (f : Nat → List Nat) : PyRtC06.joinEmpty (l.map f) = l.flatMap f := by
  simp [PyRtC06.joinEmpty, List.flatMap_def]

/-- the side condition under which the translator emits a total lookup `_X_QUOTE_MAP[t]` below `t in _Y_DELIMS`:
    every member of every delimiter table is a key (an index) of every quote table -/
theorem src_delims_in_maps :
    ([userinfoDelims, pathDelims, queryDelims, fragmentDelims].all fun d =>
      [userinfoMap, pathMap, queryMap, fragmentMap].all fun m => d.all fun t => decide (t < m.length)) = true := by
  decide +kernel

/-- every table covers the 256 byte values (the lookup below an iteration over a `bytes` object is total) -/
theorem src_maps_cover_bytes :
    ([userinfoMap, pathMap, queryMap, fragmentMap].all fun m => m.length == 256) = true := by
  decide +kernel

/-- a loop that only appends chunks computes, once joined, the concatenation of the chunks -/
theorem src_foldl_chunks {α : Type} (g : α → List Bytes) (body : List Bytes → α → List Bytes)
    (h : ∀ res item, body res item = res ++ g item) :
    ∀ (l : List α) (res : List Bytes),
      PyRtC06.joinEmpty (l.foldl body res) = res.flatten ++ l.flatMap (fun i => (g i).flatten) := by
  intro l
  induction l with
  | nil => intro res; simp [PyRtC06.joinEmpty]
  | cons x r ih => intro res; simp [List.foldl_cons, ih, h, List.flatMap_cons]

/-- the same with the chunks read off the body itself (`body [] item`): usable without knowing the loop -/
theorem src_foldl_join {α : Type} (body : List Bytes → α → List Bytes)
    (h : ∀ res item, body res item = res ++ body [] item) :
    ∀ (l : List α) (res : List Bytes),
      PyRtC06.joinEmpty (l.foldl body res) = res.flatten ++ l.flatMap (fun i => (body [] i).flatten) :=
  src_foldl_chunks (fun i => body [] i) body h

/-- both sides are decided by `full_quote`: case split first, so that the order of the two branches in the source
    (`if full_quote:` / `if not full_quote:`, early return or `else`) does not matter; a comprehension is a `map`
    (`rt_join_map`), an explicit loop with `append` is rewritten by `src_foldl_join` (its shape condition is a side goal) -/
local macro "quote_tie" b:ident : tactic => `(tactic|
  (cases $b:ident <;>
   simp only [quotePart, quoteFull, quoteMin, Comp.map, Comp.delims, rt_utf8_eq, rt_mapGet_eq, rt_join_map,
     Bool.not_true, Bool.not_false, Bool.false_eq_true, if_true, if_false, ↓reduceIte] <;>
   first
    | done
    | rfl
    | (rw [src_foldl_join]
       · simp only [List.flatten_nil, List.nil_append, List.flatten_cons, List.append_nil]
         first
          | done
          | rfl
          | (congr 1; funext t; split <;> simp_all)
       · intro res item
         simp only [List.nil_append]
         first
          | done
          | rfl
          | (split <;> rfl)
          | simp_all)))

theorem src_quote_path_part_eq_model (nfc : Text → Text) (text : Text) (full : Bool) :
    Src.urlutils.quote_path_part nfc text full = quotePart .path nfc full text := by
  unfold Src.urlutils.quote_path_part; quote_tie full

-- non-vacuity: `a/b c?` → `a%2Fb%20c%3F`, and only `/`, `?` when not full
example : Src.urlutils.quote_path_part id [97, 47, 98, 32, 99, 63] true
    = [97, 37, 50, 70, 98, 37, 50, 48, 99, 37, 51, 70] := by decide +kernel
example : Src.urlutils.quote_path_part id [97, 47, 98, 32, 99, 63] false
    = [97, 37, 50, 70, 98, 32, 99, 37, 51, 70] := by decide +kernel

theorem src_quote_query_part_eq_model (nfc : Text → Text) (text : Text) (full : Bool) :
    Src.urlutils.quote_query_part nfc text full = quotePart .query nfc full text := by
  unfold Src.urlutils.quote_query_part; quote_tie full

example : Src.urlutils.quote_query_part id [97, 38, 233] true = [97, 37, 50, 54, 37, 67, 51, 37, 65, 57] := by decide +kernel

theorem src_quote_fragment_part_eq_model (nfc : Text → Text) (text : Text) (full : Bool) :
    Src.urlutils.quote_fragment_part nfc text full = quotePart .fragment nfc full text := by
  unfold Src.urlutils.quote_fragment_part; quote_tie full

example : Src.urlutils.quote_fragment_part id [35, 47] false = [37, 50, 51, 47] := by decide +kernel

theorem src_quote_userinfo_part_eq_model (nfc : Text → Text) (text : Text) (full : Bool) :
    Src.urlutils.quote_userinfo_part nfc text full = quotePart .userinfo nfc full text := by
  unfold Src.urlutils.quote_userinfo_part; quote_tie full

example : Src.urlutils.quote_userinfo_part id [58, 64, 33] true = [37, 51, 65, 37, 52, 48, 33] := by decide +kernel
example : pathDelims ≠ [] ∧ pathMap.length = 256 := by decide +kernel

/-! ## `unquote_to_bytes`: the split-on-`%` loop is the model's left-to-right scan

`Src.urlutils.unquote_to_bytes s = C06.unqBytes (utf8 s)`: the model function is stated on a string whose code points
are its bytes (ASCII, what `unquote` hands over); for every other str the source encodes first, and so does the
right-hand side.  The proof goes through the reference decoder `unqSpec` (`unqBytes_eq_spec`): the pieces between
the `%` signs, decoded one by one, satisfy the three defining equations of `unqSpec`. -/

/-- the contribution of one piece after a `%`, as the list of chunks the loop body appends -/
def unqChunks (item : Bytes) : List Bytes :=
  match PyRtC06.hexGet hexMap (item.take 2) with
  | some v => [v, item.drop 2]
  | none => [[37], item]

def pieceHd (l : Bytes) : Bytes := (PyRtC06.splitOn 37 l).headD []
def pieceTl (l : Bytes) : List Bytes := (PyRtC06.splitOn 37 l).drop 1

theorem split37_eq (l : Bytes) : PyRtC06.splitOn 37 l = pieceHd l :: pieceTl l := by
  unfold pieceHd pieceTl
  cases h : PyRtC06.splitOn 37 l with
  | nil => exact absurd h (PyRtC06.splitOn_ne_nil 37 l)
  | cons a b => simp

theorem split37_pct (r : Bytes) : PyRtC06.splitOn 37 (37 :: r) = [] :: PyRtC06.splitOn 37 r := by
  simp [PyRtC06.splitOn]

theorem split37_ne {x : Nat} (h : x ≠ 37) (r : Bytes) :
    PyRtC06.splitOn 37 (x :: r) = (x :: pieceHd r) :: pieceTl r := by
  rw [PyRtC06.splitOn, if_neg h, split37_eq r]

theorem pieceHd_nil : pieceHd [] = [] := by simp [pieceHd, PyRtC06.splitOn]
theorem pieceTl_nil : pieceTl [] = [] := by simp [pieceTl, PyRtC06.splitOn]
theorem pieceHd_pct (r : Bytes) : pieceHd (37 :: r) = [] := by rw [pieceHd, split37_pct]; rfl
theorem pieceTl_pct (r : Bytes) : pieceTl (37 :: r) = pieceHd r :: pieceTl r := by
  rw [pieceTl, split37_pct, split37_eq r]; rfl
theorem pieceHd_ne {x : Nat} (h : x ≠ 37) (r : Bytes) : pieceHd (x :: r) = x :: pieceHd r := by
  rw [pieceHd, split37_ne h]; rfl
theorem pieceTl_ne {x : Nat} (h : x ≠ 37) (r : Bytes) : pieceTl (x :: r) = pieceTl r := by
  rw [pieceTl, split37_ne h]; rfl

/-- the decoded pieces, joined -/
def piecesDec (l : Bytes) : Bytes := pieceHd l ++ (pieceTl l).flatMap (fun i => (unqChunks i).flatten)

theorem rt_hexGet_pair (a b : Nat) : PyRtC06.hexGet hexMap [a, b] = (hexPair? a b).map (fun v => [v]) := by
  simp [PyRtC06.hexGet, hexPair?, Option.map_map, Function.comp_def]

theorem rt_hexGet_short (k : Bytes) (h : k.length < 2) : PyRtC06.hexGet hexMap k = none := by
  match k, h with
  | [], _ => rfl
  | [_], _ => rfl

theorem piecesDec_nil : piecesDec [] = [] := by simp [piecesDec, pieceHd_nil, pieceTl_nil]

theorem piecesDec_ne {x : Nat} (h : x ≠ 37) (r : Bytes) : piecesDec (x :: r) = x :: piecesDec r := by
  simp [piecesDec, pieceHd_ne h, pieceTl_ne h]

theorem piecesDec_pct (r : Bytes) :
    piecesDec (37 :: r) = (unqChunks (pieceHd r)).flatten ++ (pieceTl r).flatMap (fun i => (unqChunks i).flatten) := by
  simp [piecesDec, pieceHd_pct, pieceTl_pct]

theorem piecesDec_pct_stay (r : Bytes) (h : PyRtC06.hexGet hexMap ((pieceHd r).take 2) = none) :
    piecesDec (37 :: r) = 37 :: piecesDec r := by
  rw [piecesDec_pct]
  simp [unqChunks, h, piecesDec]

/-- after a stray `%` the lookup of the source fails: the piece is cut at the next `%`, and what is left of its first
    two bytes is no key of the hex map -/
theorem hexGet_pieceHd_stray {r : Bytes} (h : Stray r) : PyRtC06.hexGet hexMap ((pieceHd r).take 2) = none := by
  match r, h with
  | [], _ => rw [pieceHd_nil]; exact rt_hexGet_short _ (by decide)
  | [x], _ =>
    by_cases hx : x = 37
    · subst hx; rw [pieceHd_pct]; exact rt_hexGet_short _ (by decide)
    · rw [pieceHd_ne hx, pieceHd_nil]; exact rt_hexGet_short [x] (by simp)
  | a :: b :: r', h =>
    by_cases ha : a = 37
    · subst ha; rw [pieceHd_pct]; exact rt_hexGet_short _ (by decide)
    · rw [pieceHd_ne ha]
      by_cases hb : b = 37
      · subst hb; rw [pieceHd_pct]; exact rt_hexGet_short [a] (by simp)
      · rw [pieceHd_ne hb, List.take_succ_cons, List.take_succ_cons, List.take_zero, rt_hexGet_pair, hexPair_eq_spec,
          hexSpec, if_neg (by simpa using h a b r' rfl)]
        rfl

theorem piecesDec_eq_spec (l : Bytes) : piecesDec l = unqSpec l := by
  induction l using unqSpec_ind with
  | nil => exact piecesDec_nil
  | esc a b r ha hb ih =>
    have ha' : a ≠ 37 := fun e => by rw [e] at ha; simp [isHexDigit] at ha
    have hb' : b ≠ 37 := fun e => by rw [e] at hb; simp [isHexDigit] at hb
    have hp : hexPair? a b = some (16 * hexVal a + hexVal b) := by simp [hexPair_eq_spec, hexSpec, ha, hb]
    rw [piecesDec_pct, pieceHd_ne ha', pieceHd_ne hb', pieceTl_ne ha', pieceTl_ne hb', unqSpec_esc ha hb, ← ih]
    simp [unqChunks, rt_hexGet_pair, hp, piecesDec]
  | stray r h ih => rw [piecesDec_pct_stay r (hexGet_pieceHd_stray h), unqSpec_stray h, ih]
  | other c r hc ih => rw [piecesDec_ne hc, unqSpec_ne hc r, ih]

theorem pieceHd_of_tl_nil : ∀ (l : Bytes), pieceTl l = [] → pieceHd l = l := by
  intro l
  induction l with
  | nil => intro _; exact pieceHd_nil
  | cons x r ih =>
    intro h
    by_cases hx : x = 37
    · subst hx; rw [pieceTl_pct] at h; cases h
    · rw [pieceTl_ne hx] at h; rw [pieceHd_ne hx, ih h]

theorem pieceTl_nil_iff : ∀ (l : Bytes), pieceTl l = [] ↔ l.contains 37 = false := by
  intro l
  induction l with
  | nil => simp [pieceTl_nil]
  | cons x r ih =>
    by_cases hx : x = 37
    · subst hx; simp [pieceTl_pct]
    · rw [pieceTl_ne hx, ih]
      have : (x == 37) = false := by simp [hx]
      simp [eq_comm, hx]

/-- the tie.  The two ways the source may detect "no `%` at all" (`len(bits) == 1` after the split, or `b'%' not in
    string` before it) are both decided by `pieceTl l = []`: whichever test the generated definition contains is
    rewritten by the corresponding fact. -/
theorem src_unquote_to_bytes_eq_model (s : Text) :
    Src.urlutils.unquote_to_bytes s = unqBytes (utf8 s) := by
  rw [unqBytes_eq_spec, ← piecesDec_eq_spec]
  unfold Src.urlutils.unquote_to_bytes
  simp only [rt_utf8_eq]
  cases s with
  | nil => simp [utf8, piecesDec_nil]
  | cons c cs =>
    generalize utf8 (c :: cs) = l
    simp only [split37_eq l]
    by_cases ht : pieceTl l = []
    · have hc : l.contains 37 = false := (pieceTl_nil_iff l).1 ht
      have hm : 37 ∉ l := by simpa using hc
      simp [ht, hc, hm, piecesDec, pieceHd_of_tl_nil l ht, PyRtC06.joinEmpty]
    · have hc : l.contains 37 = true := by
        cases h : l.contains 37
        · exact absurd ((pieceTl_nil_iff l).2 h) ht
        · rfl
      have hlen : ((pieceHd l :: pieceTl l).length == 1) = false := by
        cases h : pieceTl l <;> simp_all
      simp only [hlen, hc, List.isEmpty_cons, Bool.not_false, Bool.not_true, Bool.false_eq_true, if_false,
        List.headD_cons, List.drop_succ_cons, List.drop_zero]
      rw [src_foldl_chunks unqChunks]
      · simp [piecesDec]
      · intro res item
        simp only [unqChunks]
        split <;> simp [*]

-- `a%41%4` → `aA%4`; `%e9%` → `\xe9%`; `é` → its UTF-8 bytes
example : Src.urlutils.unquote_to_bytes [97, 37, 52, 49, 37, 52] = [97, 65, 37, 52] := by decide +kernel
example : Src.urlutils.unquote_to_bytes [37, 101, 57, 37] = [233, 37] := by decide +kernel
example : Src.urlutils.unquote_to_bytes [233] = [195, 169] := by decide +kernel

/-! ## `unquote`: the loop over the regex split is the model's character loop `unqGo`

`Src.urlutils.unquote s = C06.unquote s` (the call with the default `encoding` / `errors`).  The declared operations:
`PyRtC06.asciiSplit` (= `_ASCII_RE.split`), `PyRtC06.pairsFrom1` (the index loop `range(1, len(bits), 2)`),
`PyRtC06.decodeUtf8Replace` (proved equal to the model's `decodeR`). -/

theorem rt_decodeStep_eq : PyRtC06.decodeStep = C06.decodeStep := by
  funext b0 rest
  rfl

theorem rt_decodeGo_eq : ∀ (f : Nat) (l : Bytes), PyRtC06.decodeGo f l = runF C06.decodeStep f l := by
  intro f
  induction f with
  | zero => intro l; rfl
  | succ f ih =>
    intro l
    cases l with
    | nil => rfl
    | cons x rest => simp [PyRtC06.decodeGo, runF, rt_decodeStep_eq, ih]

theorem rt_decode_eq : PyRtC06.decodeUtf8Replace = C06.decodeR := by
  funext bs
  simp [PyRtC06.decodeUtf8Replace, decodeR, run, rt_decodeGo_eq]

/-- what the loop body contributes for one ASCII run: percent-decoded (as `unquote_to_bytes` does it: after encoding),
    then read as UTF-8 -/
def unqD (a : Text) : Text := decodeR (unqBytes (utf8 a))

theorem unqD_ascii (a : Text) (h : ∀ x ∈ a, x < 128) : unqD a = decodeR (unqBytes a) := by
  rw [unqD, utf8_ascii a h]

theorem unqD_nil : unqD [] = [] := by simp [unqD, utf8, unqBytes_nil, decodeR_nil]

def pairsDec (l : List Text) : Text := (PyRtC06.pairsFrom1 l).flatMap fun p => unqD p.1 ++ p.2

theorem pairsDec_cons3 (n0 a n : Text) (t : List Text) :
    pairsDec (n0 :: a :: n :: t) = unqD a ++ (n ++ pairsDec (n :: t)) := by
  simp [pairsDec, PyRtC06.pairsFrom1]

theorem pairsFrom1_head (x y : Text) (tl : List Text) :
    PyRtC06.pairsFrom1 (x :: tl) = PyRtC06.pairsFrom1 (y :: tl) := by
  match tl with
  | [] => simp [PyRtC06.pairsFrom1]
  | [_] => simp [PyRtC06.pairsFrom1]
  | _ :: _ :: _ => simp [PyRtC06.pairsFrom1]

theorem pairsDec_head (x y : Text) (tl : List Text) : pairsDec (x :: tl) = pairsDec (y :: tl) := by
  simp only [pairsDec, pairsFrom1_head x y tl]

theorem asciiSplit_eq_cons (s : Text) : ∃ n0 tl, PyRtC06.asciiSplit s = n0 :: tl := by
  cases h : PyRtC06.asciiSplit s with
  | nil => have := PyRtC06.asciiSplit_length s; rw [h] at this; simp at this
  | cons n0 tl => exact ⟨n0, tl, rfl⟩

/-- `_ASCII_RE.split` on a non-empty ASCII run followed by nothing or by a non-ASCII character … -/
theorem asciiSplit_run {a : Text} (ha : ∀ x ∈ a, x < 128) (hne : a ≠ []) {rest : Text}
    (hr : ∀ c ∈ rest.head?, 128 ≤ c) :
    PyRtC06.asciiSplit (a ++ rest) = [] :: a :: PyRtC06.asciiSplit rest := by
  induction a with
  | nil => exact absurd rfl hne
  | cons x a ih =>
    have hx : x < 128 := ha x (by simp)
    rw [List.cons_append, PyRtC06.asciiSplit]
    by_cases hnil : a = []
    · subst hnil
      rw [List.nil_append]
      cases rest with
      | nil => simp [PyRtC06.asciiSplit, hx]
      | cons c b =>
        have hc : ¬ c < 128 := by have := hr c (by simp); omega
        obtain ⟨n0, tl, hsp⟩ := asciiSplit_eq_cons b
        simp [PyRtC06.asciiSplit, hsp, hc, hx]
    · rw [ih (fun y hy => ha y (by simp [hy])) hnil]
      simp [hx]

/-- … and on a non-ASCII character: it joins the run that follows -/
theorem asciiSplit_nonascii {c : Nat} (hc : 128 ≤ c) (b : Text) :
    PyRtC06.asciiSplit (c :: b) = (c :: (PyRtC06.asciiSplit b).headD []) :: (PyRtC06.asciiSplit b).tail := by
  have hc' : ¬ c < 128 := by omega
  obtain ⟨n0, tl, hsp⟩ := asciiSplit_eq_cons b
  rw [PyRtC06.asciiSplit, hsp]
  simp [hc']

/-- what the loop of the source computes from the split -/
def unqSplit (s : Text) : Text := (PyRtC06.asciiSplit s).headD [] ++ pairsDec (PyRtC06.asciiSplit s)

theorem unqSplit_nonascii {c : Nat} (hc : 128 ≤ c) (b : Text) : unqSplit (c :: b) = c :: unqSplit b := by
  obtain ⟨n0, tl, hsp⟩ := asciiSplit_eq_cons b
  unfold unqSplit
  rw [asciiSplit_nonascii hc, hsp]
  simp [pairsDec_head (c :: n0) n0 tl]

/-- the split of the source and the character loop of the model agree on an ASCII run and around a non-ASCII
    character, hence everywhere -/
theorem unquote_eq_unqSplit (s : Text) : unquote s = unqSplit s := by
  induction s using ascii_runs_ind with
  | ascii a ha =>
    by_cases hne : a = []
    · subst hne; simp [unquote_nil, unqSplit, PyRtC06.asciiSplit, pairsDec, PyRtC06.pairsFrom1]
    · have := asciiSplit_run ha hne (rest := []) (by simp)
      rw [List.append_nil] at this
      rw [unquote_ascii a ha, ← unqD_ascii a ha, unqSplit, this]
      simp [PyRtC06.asciiSplit, pairsDec, PyRtC06.pairsFrom1]
  | split a c b ha hc ih =>
    rw [unquote_split a b c hc, ih, unquote_ascii a ha, ← unqD_ascii a ha]
    by_cases hne : a = []
    · subst hne; simp [unqD_nil, unqSplit_nonascii hc]
    · have h2 := unqSplit_nonascii hc b
      obtain ⟨n0, tl, hsp⟩ := asciiSplit_eq_cons (c :: b)
      unfold unqSplit at h2 ⊢
      rw [asciiSplit_run ha hne (rest := c :: b) (by simp [hc]), hsp]
      rw [hsp] at h2
      simp only [List.headD_cons, List.nil_append, pairsDec_cons3]
      rw [← h2]; rfl

theorem src_unquote_eq_model (s : Text) : Src.urlutils.unquote s = C06.unquote s := by
  unfold Src.urlutils.unquote
  by_cases hp : 37 ∈ s
  · have hc : s.contains 37 = true := by simpa using hp
    simp only [hc, Bool.not_true, Bool.false_eq_true, if_false]
    rw [src_foldl_chunks (fun p => [unqD p.1, p.2])]
    · rw [unquote_eq_unqSplit, unqSplit]
      simp [pairsDec]
    · intro res item
      simp [rt_decode_eq, src_unquote_to_bytes_eq_model, unqD]
  · have hc : s.contains 37 = false := by simpa using hp
    simp [hc, hp, unquote_no_pct s hp]

-- `%c3%a9é%41` → `ééA` (an escape sequence decoded as UTF-8, a raw non-ASCII character kept); no `%`: unchanged
example : Src.urlutils.unquote [37, 99, 51, 37, 97, 57, 233, 37, 52, 49] = [233, 233, 65] := by decide +kernel
example : Src.urlutils.unquote [97, 233, 43] = [97, 233, 43] := by decide +kernel
example : Src.urlutils.unquote [37, 101, 57] = [65533] := by decide +kernel

/-! ## the chain closed: the property theorems of `C06/Props.lean`, restated about the GENERATED definitions

(source text → `Src.urlutils.*` → model → property).  Each is the model-level theorem rewritten with the ties. -/

/-- `unquote_to_bytes` on an ASCII str (what `unquote` hands it) is the model function as stated, and the reference
    percent-decoder -/
theorem src_unquote_to_bytes_ascii (s : Text) (h : ∀ x ∈ s, x < 128) :
    Src.urlutils.unquote_to_bytes s = unqBytes s ∧ Src.urlutils.unquote_to_bytes s = unqSpec s := by
  rw [src_unquote_to_bytes_eq_model, utf8_ascii s h]
  exact ⟨rfl, unqBytes_eq_spec s⟩

/-- `unquote(quote_path_part(s)) == NFC(s)` about the translated source (and likewise for the three other parts) -/
theorem src_unquote_quote_roundtrip (nfc : Text → Text) (s : Text) (hs : ∀ x ∈ nfc s, isScalar x = true) :
    Src.urlutils.unquote (Src.urlutils.quote_path_part nfc s true) = nfc s
    ∧ Src.urlutils.unquote (Src.urlutils.quote_query_part nfc s true) = nfc s
    ∧ Src.urlutils.unquote (Src.urlutils.quote_fragment_part nfc s true) = nfc s
    ∧ Src.urlutils.unquote (Src.urlutils.quote_userinfo_part nfc s true) = nfc s := by
  simp only [src_unquote_eq_model, src_quote_path_part_eq_model, src_quote_query_part_eq_model,
    src_quote_fragment_part_eq_model, src_quote_userinfo_part_eq_model]
  exact ⟨unquote_quote .path nfc s hs, unquote_quote .query nfc s hs, unquote_quote .fragment nfc s hs,
    unquote_quote .userinfo nfc s hs⟩

/-- minimal quoting is undone by `unquote` for every text without `%`, about the translated source -/
theorem src_unquote_quote_min_roundtrip (nfc : Text → Text) (s : Text) (hs : 37 ∉ s) :
    Src.urlutils.unquote (Src.urlutils.quote_path_part nfc s false) = s
    ∧ Src.urlutils.unquote (Src.urlutils.quote_query_part nfc s false) = s
    ∧ Src.urlutils.unquote (Src.urlutils.quote_fragment_part nfc s false) = s
    ∧ Src.urlutils.unquote (Src.urlutils.quote_userinfo_part nfc s false) = s := by
  simp only [src_unquote_eq_model, src_quote_path_part_eq_model, src_quote_query_part_eq_model,
    src_quote_fragment_part_eq_model, src_quote_userinfo_part_eq_model]
  exact ⟨unquote_quote_min .path nfc s hs, unquote_quote_min .query nfc s hs, unquote_quote_min .fragment nfc s hs,
    unquote_quote_min .userinfo nfc s hs⟩

example : Src.urlutils.unquote (Src.urlutils.quote_query_part id [97, 59, 38, 61, 43, 37, 32, 233, 0x1F600] true)
    = [97, 59, 38, 61, 43, 37, 32, 233, 0x1F600] :=
  (src_unquote_quote_roundtrip id _ (by decide)).2.1

end C06
