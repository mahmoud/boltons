import BoltonsVerif.C06.Tables
/- C06 — one function each: the parser's exceptions; a scan that runs up to a stop character (`StopHead`), `str.partition`
   and friends; `int(str(n))`; `'+' -> ' '`; the characters of a join. -/
namespace C06
open C06.Gen

theorem ok_or_parseError {α : Type} {x : Except Err α} (h : ∀ e, x = .error e → e = .urlParseError) :
    (∃ a, x = .ok a) ∨ x = .error .urlParseError := by
  cases x with
  | ok a => exact Or.inl ⟨a, rfl⟩
  | error e => rw [h e rfl]; exact Or.inr rfl

theorem parsePort_err {s : Text} {e : Err} (h : parsePort s = .error e) : e = .urlParseError := by
  unfold parsePort at h
  split at h
  · cases h
  · split at h
    · cases h
    · cases h; rfl

theorem splitHostPort_err {s : Text} {e : Err} (h : splitHostPort s = .error e) : e = .urlParseError := by
  unfold splitHostPort at h
  split at h
  · cases h
  · split at h
    · split at h
      · cases h
      · rename_i e' he; cases h; exact parsePort_err he
    · split at h
      · cases h
      · rename_i e' he; cases h; exact parsePort_err he

/-- the four outcomes of `parse_host` -/
theorem parseHost_cases (env : Env) (host : Text) :
    (host = [] ∧ parseHost env host = .ok (.none, [])) ∨
    (host ≠ [] ∧ parseHost env host = .ok (.inet6, host.tail.dropLast)) ∨
    parseHost env host = .error .urlParseError ∨
    (host ≠ [] ∧ parseHost env host = .ok (if env.fam4 host then .inet else .none, host)) := by
  unfold parseHost
  by_cases h0 : host = []
  · exact Or.inl ⟨h0, if_pos h0⟩
  rw [if_neg h0]
  by_cases hb : (host.contains 58 && host.head? = some 91 && host.getLast? = some 93) = true
  · rw [if_pos hb]
    by_cases hf : env.fam6 host.tail.dropLast = true
    · exact Or.inr (Or.inl ⟨h0, if_pos hf⟩)
    · exact Or.inr (Or.inr (Or.inl (if_neg hf)))
  · exact Or.inr (Or.inr (Or.inr ⟨h0, if_neg hb⟩))

theorem parseHost_err {env : Env} {s : Text} {e : Err} (h : parseHost env s = .error e) : e = .urlParseError := by
  rcases parseHost_cases env s with ⟨_, e'⟩ | ⟨_, e'⟩ | e' | ⟨_, e'⟩ <;> rw [e'] at h <;> cases h
  rfl

theorem parseAuthority_err {env : Env} {au : Text} {e : Err} (h : parseAuthority env au = .error e) :
    e = .urlParseError := by
  unfold parseAuthority at h
  simp only at h
  split at h
  · rename_i e' he
    cases h
    split at he
    · cases he
    · exact splitHostPort_err he
  · split at h
    · rename_i e' he; cases h; exact parseHost_err he
    · cases h

/-- `URL(text)` raises nothing but URLParseError -/
theorem ofText_err {env : Env} {t : Text} {e : Err} (h : URL.ofText env t = .error e) : e = .urlParseError := by
  unfold URL.ofText at h
  simp only at h
  split at h
  · rename_i e' he; cases h; exact parseAuthority_err he
  · split at h
    · cases h; rfl
    · cases h

theorem ofText_total (env : Env) (t : Text) :
    (∃ u, URL.ofText env t = .ok u) ∨ URL.ofText env t = .error .urlParseError :=
  ok_or_parseError fun _ => ofText_err

theorem linkStep_ok (env : Env) (o : LinkOpts) (ret : List Item) (pre m : Text) :
    ∃ r, linkStep env o ret pre m = .ok r := by
  unfold linkStep
  rcases ofText_total env m with ⟨cur, h⟩ | h
  · rw [h]
    simp only []
    by_cases hs : cur.scheme = []
    · rw [if_pos hs]
      by_cases hd : o.defaultScheme ≠ []
      · rw [if_pos hd]
        rcases ofText_total env (o.defaultScheme ++ 58 :: 47 :: 47 :: m) with ⟨cur2, h2⟩ | h2
        · rw [h2]; exact ⟨_, rfl⟩
        · rw [h2]; exact ⟨_, rfl⟩
      · rw [if_neg hd]; exact ⟨_, rfl⟩
    · rw [if_neg hs]; exact ⟨_, rfl⟩
  · rw [h]; exact ⟨_, rfl⟩

theorem linkLoop_ok (env : Env) (o : LinkOpts) (ms : List (Text × Text)) :
    ∀ ret, ∃ r, linkLoop env o ret ms = .ok r := by
  induction ms with
  | nil => intro ret; exact ⟨ret, rfl⟩
  | cons pm rest ih =>
    intro ret
    obtain ⟨pre, m⟩ := pm
    obtain ⟨r1, h1⟩ := linkStep_ok env o ret pre m
    simp only [linkLoop, h1]
    exact ih r1

/-- a scan with `p` stops where `tail` begins: at the end of the text, or at a character `p` rejects -/
def StopHead (p : Nat → Bool) (tail : List Nat) : Prop :=
  tail = [] ∨ ∃ d r, tail = d :: r ∧ p d = false

theorem stopHead_nil (p : Nat → Bool) : StopHead p [] := Or.inl rfl
theorem stopHead_cons {p : Nat → Bool} {d : Nat} (r : List Nat) (h : p d = false) : StopHead p (d :: r) :=
  Or.inr ⟨d, r, rfl, h⟩

theorem takeWhile_append_stop {p : Nat → Bool} {a tail : List Nat}
    (ha : ∀ x ∈ a, p x = true) (ht : StopHead p tail) : (a ++ tail).takeWhile p = a := by
  rw [List.takeWhile_append_of_pos ha]
  rcases ht with rfl | ⟨d, r, rfl, hd⟩
  · simp
  · simp [List.takeWhile, hd]

theorem dropWhile_append_stop {p : Nat → Bool} {a tail : List Nat}
    (ha : ∀ x ∈ a, p x = true) (ht : StopHead p tail) : (a ++ tail).dropWhile p = tail := by
  rw [List.dropWhile_append_of_pos ha]
  rcases ht with rfl | ⟨d, r, rfl, hd⟩
  · rfl
  · simp [List.dropWhile, hd]

theorem mem_takeWhile_true {p : Nat → Bool} {x : Nat} {l : List Nat} (h : x ∈ l.takeWhile p) : p x = true :=
  List.all_eq_true.mp List.all_takeWhile x h

theorem dropWhile_head_false {p : Nat → Bool} {x : Nat} {xs l : List Nat} (h : l.dropWhile p = x :: xs) :
    p x = false := by
  have := List.head?_dropWhile_not p l
  rw [h] at this
  exact this

theorem before_append {c : Nat} {a r : Text} (ha : ∀ x ∈ a, x ≠ c) : before c (a ++ c :: r) = a := by
  unfold before
  exact takeWhile_append_stop (fun x hx => by simp [neq, ha x hx]) (stopHead_cons r (by simp [neq]))

theorem after_append {c : Nat} {a r : Text} (ha : ∀ x ∈ a, x ≠ c) : after c (a ++ c :: r) = r := by
  unfold after
  rw [dropWhile_append_stop (fun x hx => by simp [neq, ha x hx]) (stopHead_cons r (by simp [neq]))]
  rfl

theorem before_chars (c : Nat) (s : Text) : ∀ x ∈ before c s, x ≠ c := by
  intro x hx
  have := mem_takeWhile_true hx
  simpa [neq] using this

theorem takeWhile_neq_none {c : Nat} {a : Text} (ha : ∀ x ∈ a, x ≠ c) : a.takeWhile (neq c) = a := by
  have := takeWhile_append_stop (p := neq c) (a := a) (fun x hx => by simp [neq, ha x hx]) (stopHead_nil _)
  simpa using this

theorem dropWhile_neq_none {c : Nat} {a : Text} (ha : ∀ x ∈ a, x ≠ c) : a.dropWhile (neq c) = [] := by
  have := dropWhile_append_stop (p := neq c) (a := a) (fun x hx => by simp [neq, ha x hx]) (stopHead_nil _)
  simpa using this

theorem before_none {c : Nat} {a : Text} (ha : ∀ x ∈ a, x ≠ c) : before c a = a := takeWhile_neq_none ha

theorem after_none {c : Nat} {a : Text} (ha : ∀ x ∈ a, x ≠ c) : after c a = [] := by
  unfold after
  rw [dropWhile_neq_none ha]
  rfl

theorem rafter_none {c : Nat} {r : Text} (hr : ∀ x ∈ r, x ≠ c) : rafter c r = r := by
  unfold rafter
  rw [takeWhile_neq_none (fun x hx => hr x (by simpa using hx)), List.reverse_reverse]

theorem rafter_append {c : Nat} {a r : Text} (hr : ∀ x ∈ r, x ≠ c) : rafter c (a ++ c :: r) = r := by
  unfold rafter
  have : (a ++ c :: r).reverse = r.reverse ++ c :: a.reverse := by simp
  rw [this, takeWhile_append_stop (fun x hx => by simp [neq, hr x (by simpa using hx)]) (stopHead_cons _ (by simp [neq]))]
  simp

theorem rbefore_append {c : Nat} {a r : Text} (hr : ∀ x ∈ r, x ≠ c) : rbefore c (a ++ c :: r) = a := by
  unfold rbefore
  have : (a ++ c :: r).reverse = r.reverse ++ c :: a.reverse := by simp
  rw [this, dropWhile_append_stop (fun x hx => by simp [neq, hr x (by simpa using hx)]) (stopHead_cons _ (by simp [neq]))]
  simp

theorem before_rest (c : Nat) (s : Text) :
    (s = before c s ∧ s.dropWhile (neq c) = []) ∨ ∃ r, s = before c s ++ c :: r ∧ s.dropWhile (neq c) = c :: r := by
  have hsplit : before c s ++ s.dropWhile (neq c) = s := List.takeWhile_append_dropWhile
  cases hd : s.dropWhile (neq c) with
  | nil => left; rw [hd, List.append_nil] at hsplit; exact ⟨hsplit.symm, rfl⟩
  | cons x r =>
    have hx : x = c := by simpa [neq] using dropWhile_head_false hd
    subst hx
    right; rw [hd] at hsplit; exact ⟨r, hsplit.symm, rfl⟩

theorem before_after_eq {c : Nat} {s : Text} (h : c ∈ s) : before c s ++ c :: after c s = s := by
  rcases before_rest c s with ⟨hs, _⟩ | ⟨r, hs, hd⟩
  · rw [hs] at h
    exact absurd rfl (before_chars c s c h)
  · rw [after, hd]
    exact hs.symm

theorem before_append_mem {c : Nat} {s r : Text} (h : c ∈ s) : before c (s ++ r) = before c s := by
  conv => lhs; rw [← before_after_eq h, List.append_assoc, List.cons_append]
  exact before_append (before_chars c s)

theorem after_append_mem {c : Nat} {s r : Text} (h : c ∈ s) : after c (s ++ r) = after c s ++ r := by
  conv => lhs; rw [← before_after_eq h, List.append_assoc, List.cons_append]
  exact after_append (before_chars c s)

theorem after_sub (c : Nat) (s : Text) : (after c s).Sublist s :=
  (List.tail_sublist _).trans (List.dropWhile_sublist _)

theorem before_sub (c : Nat) (s : Text) : (before c s).Sublist s := List.takeWhile_sublist _

theorem rafter_sub (c : Nat) (s : Text) : (rafter c s).Sublist s := by
  unfold rafter
  have h1 : (s.reverse.takeWhile (neq c)).Sublist s.reverse := List.takeWhile_sublist _
  have := h1.reverse
  simpa using this

theorem rbefore_sub (c : Nat) (s : Text) : (rbefore c s).Sublist s := by
  unfold rbefore
  have h1 : ((s.reverse.dropWhile (neq c)).tail).Sublist s.reverse :=
    (List.tail_sublist _).trans (List.dropWhile_sublist _)
  have := h1.reverse
  simpa using this

theorem rafter_chars (c : Nat) (s : Text) : ∀ x ∈ rafter c s, x ≠ c := by
  intro x hx
  unfold rafter at hx
  have := mem_takeWhile_true (List.mem_reverse.mp hx)
  simpa [neq] using this

theorem digitVal_of_isDigit {c : Nat} (h : isDigit c = true) : digitVal? c = some (c - 48) := by
  simp only [isDigit, Bool.and_eq_true, decide_eq_true_eq] at h
  have := digitVal_ascii (c - 48) (by omega)
  rwa [show 48 + (c - 48) = c by omega] at this

theorem isPyDigit_of_isDigit {c : Nat} (h : isDigit c = true) : isPyDigit c = true := by
  simp [isPyDigit, digitVal_of_isDigit h]

theorem pyNatGo_snoc (ds : Text) (hd : ∀ c ∈ ds, isDigit c = true) (d : Nat) (hdd : d < 10) (acc : Nat) :
    pyNatGo (ds ++ [48 + d]) acc = (pyNatGo ds acc).map (fun v => v * 10 + d) := by
  induction ds generalizing acc with
  | nil =>
    simp [pyNatGo, digitVal_ascii d hdd]
  | cons c ds ih =>
    have hc : isDigit c = true := hd c (by simp)
    simp only [List.cons_append, pyNatGo, digitVal_of_isDigit hc]
    exact ih (fun x hx => hd x (by simp [hx])) _

theorem showNatF_spec (f : Nat) : ∀ n, n < f →
    (∀ c ∈ showNatF f n, isDigit c = true) ∧ showNatF f n ≠ [] ∧ pyNatGo (showNatF f n) 0 = some n := by
  induction f with
  | zero => intro n h; omega
  | succ f ih =>
    intro n hn
    unfold showNatF
    split
    · rename_i h10
      refine ⟨?_, by simp, ?_⟩
      · intro c hc; simp at hc; subst hc; simp [isDigit]; omega
      · simp [pyNatGo, digitVal_ascii n h10]
    · rename_i h10
      have hlt : n / 10 < f := by omega
      obtain ⟨h1, h2, h3⟩ := ih (n / 10) hlt
      refine ⟨?_, by simp, ?_⟩
      · intro c hc
        simp only [List.mem_append, List.mem_singleton] at hc
        rcases hc with hc | rfl
        · exact h1 c hc
        · simp [isDigit]; omega
      · rw [pyNatGo_snoc _ h1 _ (by omega), h3]
        simp; omega

theorem showNat_digits (n : Nat) : ∀ c ∈ showNat n, isDigit c = true := (showNatF_spec (n + 1) n (by omega)).1
theorem showNat_ne_nil (n : Nat) : showNat n ≠ [] := (showNatF_spec (n + 1) n (by omega)).2.1

theorem pyNat_showNat (n : Nat) : pyNat? (showNat n) = some n := by
  have h := showNatF_spec (n + 1) n (by omega)
  unfold showNat at *
  cases hs : showNatF (n + 1) n with
  | nil => exact absurd hs h.2.1
  | cons c rest =>
    rw [hs] at h
    simp only [pyNat?, isPyDigit_of_isDigit (h.1 c (by simp)), if_true]
    exact h.2.2

theorem isDigit_not_space {c : Nat} (h : isDigit c = true) : isPySpace c = false := by
  simp only [isDigit, Bool.and_eq_true, decide_eq_true_eq] at h
  have := isPySpace_ascii (c - 48) (by omega)
  rwa [show 48 + (c - 48) = c by omega] at this

/-- `int(str(n)) == n` for a natural number -/
theorem pyInt_showNat (n : Nat) : pyInt? (showNat n) = some (Int.ofNat n) := by
  have hd := showNat_digits n
  have hne := showNat_ne_nil n
  have hp := pyNat_showNat n
  unfold pyInt?
  cases hs : showNat n with
  | nil => exact absurd hs hne
  | cons c rest =>
    rw [hs] at hd hp
    have hc := hd c (by simp)
    have h1 : (c :: rest).dropWhile isPySpace = c :: rest := by
      simp [List.dropWhile, isDigit_not_space hc]
    rw [h1]
    have hlast : ((c :: rest).reverse).dropWhile isPySpace = (c :: rest).reverse := by
      cases hr : (c :: rest).reverse with
      | nil => simp at hr
      | cons x xs =>
        have hx : x ∈ c :: rest := by
          have : x ∈ (c :: rest).reverse := by rw [hr]; simp
          exact List.mem_reverse.mp this
        simp [List.dropWhile, isDigit_not_space (hd x hx)]
    rw [hlast, List.reverse_reverse]
    have h43 : c ≠ 43 := by simp [isDigit] at hc; omega
    have h45 : c ≠ 45 := by simp [isDigit] at hc; omega
    split
    · rename_i heq; simp at heq; exact absurd heq.1 h43
    · rename_i heq; simp at heq; exact absurd heq.1 h45
    · simp [hp]

theorem plusToSpace_id (q : Text) (h : 43 ∉ q) : plusToSpace q = q := by
  unfold plusToSpace
  induction q with
  | nil => rfl
  | cons x q ih =>
    simp only [List.mem_cons, not_or] at h
    simp only [List.map_cons]
    rw [ih h.2]
    have : x ≠ 43 := fun e => h.1 e.symm
    simp [this]

theorem plusToSpace_eq_nil {s : Text} (h : plusToSpace s = []) : s = [] := by
  unfold plusToSpace at h
  simpa using h

theorem mem_intercalate {sep x : Nat} {ls : List (List Nat)} (h : x ∈ [sep].intercalate ls) :
    x = sep ∨ ∃ l ∈ ls, x ∈ l := by
  induction ls with
  | nil => simp at h
  | cons a rest ih =>
    cases rest with
    | nil => simp at h; exact Or.inr ⟨a, by simp, h⟩
    | cons b rest =>
      rw [List.intercalate_cons_cons] at h
      simp only [List.mem_append, List.mem_singleton] at h
      rcases h with (h | h) | h
      · exact Or.inr ⟨a, by simp, h⟩
      · exact Or.inl h
      · rcases ih h with h | ⟨l, hl, hx⟩
        · exact Or.inl h
        · exact Or.inr ⟨l, by simp [hl], hx⟩

theorem mem_intercalate_of_mem {sep x : Nat} {l : Text} {ls : List Text} (hl : l ∈ ls) (hx : x ∈ l) :
    x ∈ [sep].intercalate ls := by
  induction ls with
  | nil => simp at hl
  | cons a rest ih =>
    cases rest with
    | nil =>
      simp only [List.mem_singleton] at hl
      subst hl
      rw [List.intercalate_singleton]; exact hx
    | cons b r =>
      rw [List.intercalate_cons_cons]
      simp only [List.mem_cons] at hl
      rcases hl with rfl | hl
      · simp [hx]
      · have := ih (by simpa using hl)
        simp [this]

end C06
