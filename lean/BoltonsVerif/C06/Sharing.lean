import BoltonsVerif.C06.Model
/-
C06 - URL objects as the interpreter has them: every object REFERS to a query dictionary, dictionaries are mutable
cells.  The rest of the model treats URL objects as independent values; this file says when that is justified:
as long as every way of making a URL object out of another one (`URL(url)`, `URL.from_parts(query_params=other.query_params)`,
`url.navigate(ref)`) puts the parameters into a dictionary of its own, no two live objects refer to the same cell
(`Unshared`), and then an in-place edit of one object's query is invisible in every other object (`qadd_local`).
Which of the three edges copy is a FACT ABOUT THE CODE: `Gen.fromPartsCopiesQuery`, `Gen.navigateCopiesQuery`,
`Gen.urlCopyCopiesQuery` are regenerated on every run by exercising the current source (edit the derived object, look at
the base, and the other way round); the theorems in Props need all three to be `true`.
-/
namespace C06

abbrev Param := Text × Option Text
abbrev Query := List Param

/-- `objs[i]` = the cell that URL object `i` refers to; `next` = the first cell not yet handed out -/
structure Store where
  dict : Nat → Query
  next : Nat
  objs : List Nat

namespace Store

def empty : Store := ⟨fun _ => [], 0, []⟩

/-- what `list(objs[i].query_params.items(multi=True))` reads -/
def query (s : Store) (i : Nat) : Query :=
  match s.objs[i]? with
  | some q => s.dict q
  | none => []

/-- `objs[i].query_params.add(k, v)`: the CELL is edited -/
def qadd (s : Store) (i : Nat) (kv : Param) : Store :=
  match s.objs[i]? with
  | some q => { s with dict := fun n => if n = q then s.dict q ++ [kv] else s.dict n }
  | none => s

/-- `URL(text)`, `URL()`, `from_parts(query_params=[pairs])`: a new object with a cell of its own -/
def fresh (s : Store) (q0 : Query) : Store :=
  { dict := fun n => if n = s.next then q0 else s.dict n, next := s.next + 1, objs := s.objs ++ [s.next] }

/-- a new object that takes its parameters over from object `j`: copied into a cell of its own (`copies = true`), or
    by installing the very same cell -/
def derive (copies : Bool) (s : Store) (j : Nat) : Store :=
  match s.objs[j]? with
  | some q => if copies then s.fresh (s.dict q) else { s with objs := s.objs ++ [q] }
  | none => s

/-- no two objects refer to the same cell, every cell in use has been handed out -/
def Unshared (s : Store) : Prop :=
  (∀ i j qi qj : Nat, s.objs[i]? = some qi → s.objs[j]? = some qj → i ≠ j → qi ≠ qj) ∧
  (∀ i q : Nat, s.objs[i]? = some q → q < s.next)

theorem empty_unshared : Unshared empty := by
  constructor <;> intro i <;> simp [empty]

theorem getElem?_fresh {s : Store} {q0 : Query} {i q : Nat} :
    (s.fresh q0).objs[i]? = some q ↔ s.objs[i]? = some q ∨ (i = s.objs.length ∧ q = s.next) := by
  simp only [fresh]
  rw [List.getElem?_append]
  split
  · rename_i h
    constructor
    · exact Or.inl
    · rintro (h' | ⟨rfl, _⟩)
      · exact h'
      · omega
  · rename_i h
    rw [List.getElem?_eq_none (Nat.le_of_not_lt h), List.getElem?_singleton]
    simp only [reduceCtorEq, false_or]
    constructor
    · intro h'
      split at h'
      · exact ⟨by omega, by cases h'; rfl⟩
      · cases h'
    · rintro ⟨rfl, rfl⟩; simp

theorem fresh_unshared (s : Store) (q0 : Query) (h : Unshared s) : Unshared (s.fresh q0) := by
  obtain ⟨h1, h2⟩ := h
  constructor
  · intro i j qi qj hi hj hij
    rcases getElem?_fresh.mp hi with hi | ⟨rfl, rfl⟩ <;> rcases getElem?_fresh.mp hj with hj | ⟨rfl, rfl⟩
    · exact h1 i j qi qj hi hj hij
    · have := h2 i qi hi; omega
    · have := h2 j qj hj; omega
    · exact absurd rfl hij
  · intro i q hi
    show q < s.next + 1
    rcases getElem?_fresh.mp hi with hi | ⟨_, rfl⟩
    · have := h2 i q hi; omega
    · omega

theorem derive_unshared (s : Store) (j : Nat) (h : Unshared s) : Unshared (s.derive true j) := by
  unfold derive
  split
  · simpa using fresh_unshared s _ h
  · exact h

theorem qadd_unshared (s : Store) (i : Nat) (kv : Param) (h : Unshared s) : Unshared (s.qadd i kv) := by
  unfold qadd
  split
  · exact ⟨h.1, h.2⟩
  · exact h

/-- an edit of object `i` is invisible in every other object -/
theorem qadd_local (s : Store) (i j : Nat) (kv : Param) (h : Unshared s) (hij : i ≠ j) :
    (s.qadd i kv).query j = s.query j := by
  unfold qadd
  split
  · next q hq =>
    unfold query
    simp only
    split
    · next q' hq' =>
      have := h.1 i j q q' hq hq' hij
      simp [Ne.symm this]
    · rfl
  · rfl

/-- ... and is what the object itself reads afterwards -/
theorem qadd_self (s : Store) (i : Nat) (kv : Param) (q : Nat) (hq : s.objs[i]? = some q) :
    (s.qadd i kv).query i = s.query i ++ [kv] := by
  simp [qadd, query, hq]

/-- the derived object starts with the parameters of the object it was made from -/
theorem derive_takes_over (copies : Bool) (s : Store) (j : Nat) (hj : j < s.objs.length) :
    (s.derive copies j).query s.objs.length = s.query j := by
  have hq : s.objs[j]? = some s.objs[j] := by simp [hj]
  cases copies <;> simp [derive, query, hq, fresh]

/-- why the copy matters: an edge that installs the same cell lets an edit of the derived object show in the base -/
theorem shared_leaks (kv : Param) :
    ((((empty.fresh []).derive false 0).qadd 1 kv).query 0) = [kv] := by
  simp [empty, fresh, derive, qadd, query]

end Store

/-- the ways a URL object is made -/
inductive Edge where
  | urlCopy | fromParts | navigate
deriving DecidableEq

/-- does the edge copy the parameters? - read off the current source by the translator -/
def Edge.copies : Edge → Bool
  | .urlCopy => Gen.urlCopyCopiesQuery
  | .fromParts => Gen.fromPartsCopiesQuery
  | .navigate => Gen.navigateCopiesQuery

/-- a history of constructions and edits -/
inductive Op where
  | fresh (q0 : Query)
  | derive (e : Edge) (j : Nat)
  | qadd (i : Nat) (kv : Param)

def Store.step (s : Store) : Op → Store
  | .fresh q0 => s.fresh q0
  | .derive e j => s.derive e.copies j
  | .qadd i kv => s.qadd i kv

def Store.run (ops : List Op) : Store := ops.foldl Store.step Store.empty

theorem edges_all_copy : ∀ e : Edge, e.copies = true := by
  intro e; cases e <;> decide

theorem run_unshared (ops : List Op) : (Store.run ops).Unshared := by
  unfold Store.run
  suffices h : ∀ s : Store, s.Unshared → (ops.foldl Store.step s).Unshared from h _ Store.empty_unshared
  induction ops with
  | nil => intro s hs; exact hs
  | cons op rest ih =>
    intro s hs
    apply ih
    cases op with
    | fresh q0 => exact Store.fresh_unshared s q0 hs
    | derive e j => simp only [Store.step, edges_all_copy e]; exact Store.derive_unshared s j hs
    | qadd i kv => exact Store.qadd_unshared s i kv hs

end C06
