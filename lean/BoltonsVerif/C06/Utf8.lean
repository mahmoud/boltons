import BoltonsVerif.C06.Model
/- C06 — the fuel driver `run`; CPython's UTF-8 decoder (errors='replace') against the encoder `utf8`. -/
namespace C06

theorem runF_fuel_irrel (step : Nat → List Nat → Nat × Nat) :
    ∀ (f g : Nat) (l : List Nat), l.length ≤ f → l.length ≤ g → runF step f l = runF step g l := by
  intro f
  induction f with
  | zero => intro g l h _; cases l <;> cases g <;> simp_all [runF]
  | succ f ih =>
    intro g l h hg
    cases l with
    | nil => cases g <;> simp [runF]
    | cons x rest =>
      cases g with
      | zero => simp at hg
      | succ g =>
        simp only [runF, List.length_cons] at *
        have h1 : (rest.drop (step x rest).2).length ≤ f := by
          simp only [List.length_drop]; omega
        have h2 : (rest.drop (step x rest).2).length ≤ g := by
          simp only [List.length_drop]; omega
        rw [ih _ _ h1 h2]

theorem run_nil (step : Nat → List Nat → Nat × Nat) : run step [] = [] := by
  simp [run, runF]

theorem run_cons (step : Nat → List Nat → Nat × Nat) (x : Nat) (rest : List Nat) :
    run step (x :: rest) = (step x rest).1 :: run step (rest.drop (step x rest).2) := by
  have h2 : (rest.drop (step x rest).2).length ≤ rest.length := by
    simp only [List.length_drop]; omega
  simp only [run, List.length_cons, runF]
  rw [runF_fuel_irrel step _ _ _ h2 (Nat.le_refl _)]

theorem run_eq_nil (step : Nat → List Nat → Nat × Nat) {l : List Nat} (h : run step l = []) : l = [] := by
  cases l with
  | nil => rfl
  | cons x rest => rw [run_cons] at h; cases h

theorem runF_all {P : Nat → Prop} {step : Nat → List Nat → Nat × Nat} (hstep : ∀ c rest, P (step c rest).1) :
    ∀ (f : Nat) (l : List Nat), ∀ x ∈ runF step f l, P x := by
  intro f
  induction f with
  | zero => intro l x hx; simp [runF] at hx
  | succ f ih =>
    intro l x hx
    cases l with
    | nil => simp [runF] at hx
    | cons a rest =>
      simp only [runF, List.mem_cons] at hx
      rcases hx with rfl | hx
      · exact hstep a rest
      · exact ih _ x hx

theorem run_all {P : Nat → Prop} {step : Nat → List Nat → Nat × Nat} (hstep : ∀ c rest, P (step c rest).1)
    (l : List Nat) : ∀ x ∈ run step l, P x := runF_all hstep _ l

/- In the step lemmas the bytes are written as marker plus payload, so that `omega` meets no subtraction or division. -/

theorem isScalar_repl : isScalar repl = true := by decide

theorem isScalar_iff (c : Nat) : isScalar c = true ↔ (c < 0xD800 ∨ (0xE000 ≤ c ∧ c < 0x110000)) := by
  simp [isScalar]

theorem isCont_iff {b : Nat} : isCont b = true ↔ 0x80 ≤ b ∧ b < 0xC0 := by
  simp [isCont]

theorem isCont_add {y : Nat} (hy : y < 64) : isCont (0x80 + y) = true := isCont_iff.mpr (by omega)

theorem decodeStep_one {b : Nat} (h : b < 0x80) (r : Bytes) : decodeStep b r = (b, 0) := by
  unfold decodeStep
  rw [if_pos h]

theorem decodeStep_two {x y : Nat} (h2 : 2 ≤ x) (hx : x < 32) (hy : y < 64) (r : Bytes) :
    decodeStep (0xC0 + x) ((0x80 + y) :: r) = (x * 64 + y, 1) := by
  unfold decodeStep
  rw [if_neg (by omega), if_neg (by omega), if_pos (by omega)]
  simp only [isCont_add hy, if_true, Nat.add_sub_cancel_left]

/-- `h0` excludes the overlong forms, `hD` the surrogates -/
theorem decodeStep_three {x y z : Nat} (hx : x < 16) (hy : y < 64) (hz : z < 64)
    (h0 : x = 0 → 32 ≤ y) (hD : x = 13 → y < 32) (r : Bytes) :
    decodeStep (0xE0 + x) ((0x80 + y) :: (0x80 + z) :: r) = (x * 4096 + y * 64 + z, 2) := by
  have hg : (if 0x80 + y < 0xA0 then 0xE0 + x == 0xE0 else 0xE0 + x == 0xED) = false := by
    split
    · exact beq_false_of_ne (by omega)
    · exact beq_false_of_ne (by omega)
  unfold decodeStep
  rw [if_neg (by omega), if_neg (by omega), if_neg (by omega), if_pos (by omega)]
  simp only [isCont_add hy, isCont_add hz, hg, Bool.not_true, Bool.or_false, Bool.false_eq_true, if_true,
    if_false, Nat.add_sub_cancel_left]

/-- `h0` excludes the overlong forms, `h4` what lies beyond U+10FFFF -/
theorem decodeStep_four {x y z w : Nat} (hx : x < 5) (hy : y < 64) (hz : z < 64) (hw : w < 64)
    (h0 : x = 0 → 16 ≤ y) (h4 : x = 4 → y < 16) (r : Bytes) :
    decodeStep (0xF0 + x) ((0x80 + y) :: (0x80 + z) :: (0x80 + w) :: r) =
      (x * 262144 + y * 4096 + z * 64 + w, 3) := by
  have hg : (if 0x80 + y < 0x90 then 0xF0 + x == 0xF0 else 0xF0 + x == 0xF4) = false := by
    split
    · exact beq_false_of_ne (by omega)
    · exact beq_false_of_ne (by omega)
  unfold decodeStep
  rw [if_neg (by omega), if_neg (by omega), if_neg (by omega), if_neg (by omega), if_pos (by omega)]
  simp only [isCont_add hy, isCont_add hz, isCont_add hw, hg, Bool.not_true, Bool.or_false,
    Bool.false_eq_true, if_true, if_false, Nat.add_sub_cancel_left]

theorem split3 (c : Nat) : c / 4096 * 4096 + c / 64 % 64 * 64 + c % 64 = c := by
  rw [show c / 4096 = c / 64 / 64 from (Nat.div_div_eq_div_mul c 64 64).symm]
  generalize hq : c / 64 = q
  omega

theorem split4 (c : Nat) :
    c / 262144 * 262144 + c / 4096 % 64 * 4096 + c / 64 % 64 * 64 + c % 64 = c := by
  rw [show c / 262144 = c / 64 / 64 / 64 by rw [Nat.div_div_eq_div_mul, Nat.div_div_eq_div_mul],
    show c / 4096 = c / 64 / 64 from (Nat.div_div_eq_div_mul c 64 64).symm]
  generalize hq : c / 64 = q
  generalize hp : q / 64 = p
  omega

theorem decodeR_nil : decodeR [] = [] := run_nil _

/-- the base-64 digits of `c` are generalised to variables tied to `c` by `split3` / `split4`: what is left is linear -/
theorem decodeR_utf8Char (c : Nat) (hc : isScalar c = true) (rest : Bytes) :
    decodeR (utf8Char c ++ rest) = c :: decodeR rest := by
  rw [isScalar_iff] at hc
  have m64 (n : Nat) : n % 64 < 64 := Nat.mod_lt _ (by decide)
  unfold utf8Char decodeR
  by_cases h1 : c < 0x80
  · rw [if_pos h1, List.singleton_append, run_cons, decodeStep_one h1]
    rfl
  rw [if_neg h1]
  by_cases h2 : c < 0x800
  · have hd := Nat.div_add_mod' c 64
    have hy := m64 c
    generalize c / 64 = x at hd ⊢
    generalize c % 64 = y at hd hy ⊢
    rw [if_pos h2, List.cons_append, List.singleton_append, run_cons,
      decodeStep_two (by omega) (by omega) hy, hd]
    rfl
  rw [if_neg h2]
  by_cases h3 : c < 0x10000
  · have hd := split3 c
    have hy := m64 (c / 64)
    have hz := m64 c
    generalize c / 4096 = x at hd ⊢
    generalize c / 64 % 64 = y at hd hy ⊢
    generalize c % 64 = z at hd hz ⊢
    rw [if_pos h3, List.cons_append, List.cons_append, List.singleton_append, run_cons,
      decodeStep_three (by omega) hy hz (by omega) (by omega), hd]
    rfl
  · have hd := split4 c
    have hy := m64 (c / 4096)
    have hz := m64 (c / 64)
    have hw := m64 c
    generalize c / 262144 = x at hd ⊢
    generalize c / 4096 % 64 = y at hd hy ⊢
    generalize c / 64 % 64 = z at hd hz ⊢
    generalize c % 64 = w at hd hw ⊢
    rw [if_neg h3, List.cons_append, List.cons_append, List.cons_append, List.singleton_append, run_cons,
      decodeStep_four (by omega) hy hz hw (by omega) (by omega), hd]
    rfl

theorem utf8Char_lt (c : Nat) (hc : isScalar c = true) : ∀ b ∈ utf8Char c, b < 256 := by
  rw [isScalar_iff] at hc
  have cont (n : Nat) : 0x80 + n % 64 < 256 := by omega
  intro b hb
  unfold utf8Char at hb
  by_cases h1 : c < 0x80
  · rw [if_pos h1, List.mem_singleton] at hb
    omega
  rw [if_neg h1] at hb
  by_cases h2 : c < 0x800
  · rw [if_pos h2] at hb
    simp only [List.mem_cons, List.not_mem_nil, or_false] at hb
    rcases hb with rfl | rfl
    · omega
    · exact cont _
  rw [if_neg h2] at hb
  by_cases h3 : c < 0x10000
  · rw [if_pos h3] at hb
    simp only [List.mem_cons, List.not_mem_nil, or_false] at hb
    rcases hb with rfl | rfl | rfl
    · omega
    · exact cont _
    · exact cont _
  · rw [if_neg h3] at hb
    simp only [List.mem_cons, List.not_mem_nil, or_false] at hb
    rcases hb with rfl | rfl | rfl | rfl
    · omega
    · exact cont _
    · exact cont _
    · exact cont _

theorem utf8_lt (s : Text) (hs : ∀ c ∈ s, isScalar c = true) : ∀ b ∈ utf8 s, b < 256 := by
  intro b hb
  unfold utf8 at hb
  rw [List.mem_flatMap] at hb
  obtain ⟨c, hc, hin⟩ := hb
  exact utf8Char_lt c (hs c hc) b hin

theorem decodeR_utf8 (s : Text) (hs : ∀ c ∈ s, isScalar c = true) (rest : Bytes) :
    decodeR (utf8 s ++ rest) = s ++ decodeR rest := by
  induction s with
  | nil => simp [utf8]
  | cons c s ih =>
    simp only [utf8, List.flatMap_cons, List.append_assoc, List.cons_append]
    rw [decodeR_utf8Char c (hs c (by simp))]
    have := ih (fun x hx => hs x (by simp [hx]))
    simp only [utf8] at this
    rw [this]

theorem utf8_ascii (a : Text) (h : ∀ x ∈ a, x < 128) : utf8 a = a := by
  induction a with
  | nil => rfl
  | cons x a ih =>
    have hx : x < 128 := h x (by simp)
    have := ih (fun y hy => h y (by simp [hy]))
    simp only [utf8, List.flatMap_cons] at this ⊢
    rw [this]
    simp [utf8Char, hx]

theorem decodeR_ascii (s : Bytes) (h : ∀ c ∈ s, c < 128) : decodeR s = s := by
  induction s with
  | nil => exact decodeR_nil
  | cons c s ih =>
    have hc : c < 128 := h c (by simp)
    unfold decodeR at *
    rw [run_cons, decodeStep_one hc, List.drop_zero, ih (fun x hx => h x (by simp [hx]))]

/-- the guard on the second byte of a three-byte (`lo`, `k1`, `k2` = `0xA0`, `0xE0`, `0xED`) or four-byte (`0x90`,
    `0xF0`, `0xF4`) sequence: no overlong form after the lead byte `k1`, nothing too large after `k2` -/
theorem second_byte_guard {b0 b1 lo k1 k2 : Nat}
    (h : ¬(!isCont b1 || if b1 < lo then b0 == k1 else b0 == k2) = true) :
    (0x80 ≤ b1 ∧ b1 < 0xC0) ∧ (b0 = k1 → lo ≤ b1) ∧ (b0 = k2 → b1 < lo) := by
  simp only [Bool.or_eq_true, Bool.not_eq_true', not_or, Bool.not_eq_false] at h
  refine ⟨isCont_iff.mp h.1, fun hk => Nat.le_of_not_lt fun hlt => ?_, fun hk => Nat.lt_of_not_le fun hle => ?_⟩
  · have := h.2
    rw [if_pos hlt] at this
    exact this (beq_iff_eq.mpr hk)
  · have := h.2
    rw [if_neg (Nat.not_lt.mpr hle)] at this
    exact this (beq_iff_eq.mpr hk)

theorem decodeStep_scalar (b0 : Nat) (rest : Bytes) : isScalar (decodeStep b0 rest).1 = true := by
  -- the branches that yield a decoded value: ASCII (1), two bytes (4), three bytes (9), four bytes (16)
  fun_cases decodeStep b0 rest
  case case1 h =>
    rw [isScalar_iff]; simp only; omega
  case case4 _ h2 h3 b1 _ hc =>
    have := isCont_iff.mp hc
    rw [isScalar_iff]; simp only; omega
  case case9 _ _ h3 h4 b1 hg b2 _ hc =>
    have := second_byte_guard hg
    have := isCont_iff.mp hc
    rw [isScalar_iff]; simp only; omega
  case case16 _ _ _ h4 h5 b1 hg b2 hn b3 _ hc =>
    have := second_byte_guard hg
    have := isCont_iff.mp (by simpa using hn : isCont b2 = true)
    have := isCont_iff.mp hc
    rw [isScalar_iff]; simp only; omega
  -- every other branch yields U+FFFD
  all_goals exact isScalar_repl

theorem decodeR_scalar (bs : Bytes) : ∀ x ∈ decodeR bs, isScalar x = true :=
  run_all (P := fun x => isScalar x = true) decodeStep_scalar bs

end C06
