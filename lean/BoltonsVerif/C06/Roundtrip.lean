import BoltonsVerif.C06.Authority
import BoltonsVerif.C06.Scan
/-
C06 — render → parse round trip of a whole URL, for both quoting modes.

The component lemmas are stated once, for an arbitrary quoting mode, in terms of `Quoted c q d`:
"`q` contains no delimiter of position `c` and unquotes to `d`".  Full quoting provides
`Quoted c (quote s) (nfc s)` for every text; minimal quoting provides `Quoted c (quote s) s` for
every text without `%`.
-/
-- the evaluated `example`s of Props.lean compare `Except Err URL` values by `decide`
deriving instance DecidableEq for Except

namespace C06
open C06.Gen

theorem assemble_eq (u : URL) (auth path qs frag : Text) :
    assemble u auth path qs frag =
      spart u.scheme ++
      (if auth ≠ [] then 47 :: 47 :: auth
       else if path.take 2 = [47, 47] ∨ (u.scheme ≠ [] ∧ (path = [] ∨ path.head? = some 47) ∧ usesNetloc u)
       then [47, 47] else []) ++
      (if path ≠ [] then (if u.scheme ≠ [] ∧ auth ≠ [] ∧ path.head? ≠ some 47 then 47 :: path else path) else []) ++
      qpart qs ++ fpart frag := rfl

theorem assemble_auth (u : URL) {auth path : Text} (qs frag : Text) (ha : auth ≠ [])
    (hp : path = [] ∨ path.head? = some 47) :
    assemble u auth path qs frag = compose u.scheme (some auth) path qs frag := by
  rw [assemble_eq, if_pos ha]
  have : (if path ≠ [] then (if u.scheme ≠ [] ∧ auth ≠ [] ∧ path.head? ≠ some 47 then 47 :: path else path) else [])
      = path := by
    rcases hp with h | h <;> simp [h]
  rw [this]
  simp only [compose, apart, List.append_assoc, List.cons_append]

theorem quotePart_nil (c : Comp) {nfc : Text → Text} (hnil : nfc [] = []) (full : Bool) :
    quotePart c nfc full [] = [] := by
  cases full
  · rfl
  · rw [quotePart_full, quoteFull, hnil]; rfl

/- `D` = what a text decodes to in the quoting mode at hand: `nfc` in full mode, `id` in minimal mode -/

section components
variable (env : Env) (full : Bool) (D : Text → Text)

theorem pathText_parts (parts : List Text) (hne : parts ≠ [])
    (hq : ∀ s ∈ parts, Quoted .path (quotePart .path env.nfc full s) (D s)) :
    ((pathText env full parts).splitOn 47).map maybeUnquote = parts.map D := by
  unfold pathText
  rw [List.splitOn_intercalate, List.map_map]
  · exact List.map_congr_left fun s hs => (hq s hs).maybeUnquote_eq
  · intro x hx h47
    obtain ⟨s, hs, rfl⟩ := List.mem_map.mp hx
    exact stop_ne ((hq s hs).stop 47 h47) (by decide) rfl
  · simpa using hne

theorem pathText_chars (parts : List Text)
    (hq : ∀ s ∈ parts, Quoted .path (quotePart .path env.nfc full s) (D s)) :
    ∀ ch ∈ pathText env full parts, notIn pathStop ch = true := by
  intro ch hch
  rcases mem_intercalate hch with rfl | ⟨x, hx, hm⟩
  · exact pathStop_47
  · obtain ⟨s, hs, rfl⟩ := List.mem_map.mp hx
    exact stop_path ((hq s hs).stop ch hm)

theorem pathText_abs (hnil : env.nfc [] = []) (rest : List Text) :
    pathText env full ([] :: rest) = [] ∨ (pathText env full ([] :: rest)).head? = some 47 := by
  have hq := quotePart_nil .path hnil full
  unfold pathText
  cases rest with
  | nil => left; simp [hq]
  | cons b rest =>
    right
    simp only [List.map_cons]
    rw [List.intercalate_cons_cons, hq]
    simp

/-- the key of a query parameter, and its value if it has one, are faithfully quoted -/
structure PairQ (kv : Text × Option Text) : Prop where
  key : Quoted .query (quotePart .query env.nfc full kv.1) (D kv.1)
  val : ∀ v, kv.2 = some v → Quoted .query (quotePart .query env.nfc full v) (D v)

def decPair (kv : Text × Option Text) : Text × Option Text := (D kv.1, kv.2.map D)

theorem decPair_id : decPair id = id := by
  funext ⟨k, v⟩
  cases v <;> rfl

/-- segments, query pairs and fragment are faithfully quoted; `query_ok`: `parse_qsl` drops a pair with empty key
    and no value -/
structure QuotedParts (parts : List Text) (q : List (Text × Option Text)) (frag : Text) : Prop where
  query_ok : ∀ kv ∈ q, ¬ (D kv.1 = [] ∧ kv.2 = none)
  parts : ∀ s ∈ parts, Quoted .path (quotePart .path env.nfc full s) (D s)
  query : ∀ kv ∈ q, PairQ env full D kv
  frag : Quoted .fragment (quotePart .fragment env.nfc full frag) (D frag)

/-- a rendered parameter consists of `=` and of characters that are no delimiter inside a query -/
theorem pairText_stop (kv : Text × Option Text) (hq : PairQ env full D kv) :
    ∀ ch ∈ pairText env full kv, ch = 61 ∨ (stopSet .query).contains ch = false := by
  intro ch hch
  obtain ⟨k, v⟩ := kv
  cases v with
  | none => exact Or.inr (hq.key.stop ch hch)
  | some v =>
    simp only [pairText, List.mem_append, List.mem_cons] at hch
    rcases hch with h | h | h
    · exact Or.inr (hq.key.stop ch h)
    · exact Or.inl h
    · exact Or.inr ((hq.val v rfl).stop ch h)

/-- `parse_qsl` finds no separator (`&`, `;`) inside a rendered parameter -/
theorem pairText_no_sep (kv : Text × Option Text) (hq : PairQ env full D kv) {x : Nat} (hx : x ∈ stopSet .query)
    (h61 : x ≠ 61) : x ∉ pairText env full kv := fun h =>
  (pairText_stop env full D kv hq x h).elim h61 fun hs => stop_ne hs hx rfl

theorem parsePair_pairText (kv : Text × Option Text) (hq : PairQ env full D kv) :
    parsePair (pairText env full kv) = decPair D kv := by
  obtain ⟨k, v⟩ := kv
  have hk := hq.key.stop
  have hk61 : ∀ x ∈ quotePart .query env.nfc full k, x ≠ 61 := fun x hx => stop_ne (hk x hx) (by decide)
  have hk43 : 43 ∉ quotePart .query env.nfc full k := fun h => stop_ne (hk 43 h) (by decide) rfl
  have huk := hq.key.unq
  cases v with
  | none =>
    have hpt : pairText env full (k, none) = quotePart .query env.nfc full k := rfl
    rw [hpt]
    unfold parsePair decPair
    have hc : (quotePart .query env.nfc full k).contains 61 = false := by
      simp only [List.contains_eq_mem, decide_eq_false_iff_not]
      intro h; exact hk61 61 h rfl
    rw [before_none hk61, plusToSpace_id _ hk43, huk]
    simp only [hc]
    simp
  | some v =>
    have hv43 : 43 ∉ quotePart .query env.nfc full v := fun h => stop_ne ((hq.val v rfl).stop 43 h) (by decide) rfl
    have huv := (hq.val v rfl).unq
    have hpt : pairText env full (k, some v) =
        quotePart .query env.nfc full k ++ 61 :: quotePart .query env.nfc full v := rfl
    rw [hpt]
    unfold parsePair decPair
    have hc : (quotePart .query env.nfc full k ++ 61 :: quotePart .query env.nfc full v).contains 61 = true := by simp
    simp only [before_append hk61, after_append hk61, plusToSpace_id _ hk43, huk, plusToSpace_id _ hv43, huv, hc,
      if_true, Option.map_some]
    split
    · rename_i h
      rw [(hq.val v rfl).eq_nil h]
    · rfl

theorem pairText_ne_nil (kv : Text × Option Text) (hq : PairQ env full D kv)
    (hok : ¬ (D kv.1 = [] ∧ kv.2 = none)) : pairText env full kv ≠ [] := by
  obtain ⟨k, v⟩ := kv
  cases v with
  | none =>
    simp only [pairText]
    intro h
    exact hok ⟨hq.key.eq_nil h, rfl⟩
  | some v => simp [pairText]

theorem flatMap_splitOn_single (ls : List Text) (h : ∀ l ∈ ls, 59 ∉ l) :
    ls.flatMap (fun s => s.splitOn 59) = ls := by
  induction ls with
  | nil => rfl
  | cons a rest ih =>
    simp only [List.flatMap_cons]
    rw [List.splitOn_eq_singleton (h a (by simp)), ih (fun l hl => h l (by simp [hl]))]
    rfl

theorem parseQsl_nil : parseQsl [] = [] := by
  simp [parseQsl, nonEmpty]

theorem parseQsl_queryText (q : List (Text × Option Text))
    (hq : ∀ kv ∈ q, PairQ env full D kv)
    (hok : ∀ kv ∈ q, ¬ (D kv.1 = [] ∧ kv.2 = none)) :
    parseQsl (queryText env full q) = q.map (decPair D) := by
  by_cases hqe : q = []
  · subst hqe; simp [queryText, parseQsl_nil]
  · unfold parseQsl queryText
    rw [List.splitOn_intercalate]
    · rw [flatMap_splitOn_single]
      · have hf : (q.map (pairText env full)).filter nonEmpty = q.map (pairText env full) := by
          rw [List.filter_eq_self]
          intro l hl
          rw [List.mem_map] at hl
          obtain ⟨kv, hkv, rfl⟩ := hl
          have := pairText_ne_nil env full D kv (hq kv hkv) (hok kv hkv)
          cases hp : pairText env full kv with
          | nil => exact absurd hp this
          | cons _ _ => simp [nonEmpty]
        rw [hf, List.map_map]
        apply List.map_congr_left
        intro kv hkv
        exact parsePair_pairText env full D kv (hq kv hkv)
      · intro l hl
        obtain ⟨kv, hkv, rfl⟩ := List.mem_map.mp hl
        exact pairText_no_sep env full D kv (hq kv hkv) (by decide) (by decide)
    · intro l hl
      obtain ⟨kv, hkv, rfl⟩ := List.mem_map.mp hl
      exact pairText_no_sep env full D kv (hq kv hkv) (by decide) (by decide)
    · simpa using hqe

theorem queryText_chars (q : List (Text × Option Text)) (hq : ∀ kv ∈ q, PairQ env full D kv) :
    ∀ ch ∈ queryText env full q, notIn queryStop ch = true := by
  intro ch hch
  unfold queryText at hch
  rcases mem_intercalate hch with h | ⟨l, hl, hx⟩
  · subst h; exact queryStop_38
  · rw [List.mem_map] at hl
    obtain ⟨kv, hkv, rfl⟩ := hl
    exact (pairText_stop env full D kv (hq kv hkv) ch hx).elim (fun h => h ▸ queryStop_61) stop_query

/-- the groups of a rendering decode to what was rendered: path, query and fragment, whatever the authority -/
theorem ofGroups_quoted {scheme : Text} {au : Option Text} {P : Text} {a : Auth} {host : Text}
    {parts : List Text} {q : List (Text × Option Text)} {frag : Text}
    (ha : parseAuthority env (au.getD []) = .ok a)
    (hh : (if a.host = [] then some [] else if isAsciiText a.host then env.idnaDec a.host else some a.host) = some host)
    (hP : (P.splitOn 47).map maybeUnquote = parts.map D)
    (hQ : QuotedParts env full D parts q frag) :
    ofGroups env scheme au P (queryText env full q) (quotePart .fragment env.nfc full frag) =
      .ok { scheme := scheme, netlocSep := au.isSome, username := maybeUnquote a.username,
            password := maybeUnquote a.password, family := a.family, host := host, port := a.port,
            pathParts := parts.map D, query := q.map (decPair D), fragment := D frag } := by
  unfold ofGroups
  simp only [ha, hh, hP, parseQsl_queryText env full D q hQ.query hQ.query_ok, hQ.frag.maybeUnquote_eq]

/-- a host and port that `get_authority` renders and `parse_url` reads back, and an absolute path: all that `to_text`
    needs to know of a URL with authority -/
structure HostShape (u : URL) : Prop where
  host_ne : u.host ≠ []
  host_form : HostOK env full u
  port_ok : PortNat u
  path_abs : ∃ rest, u.pathParts = [] :: rest

theorem HostShape.facts {u : URL} (h : HostShape env full u) : HostFacts env u :=
  hostFacts_of_ok env full u h.host_ne h.port_ok h.host_form

theorem HostShape.text_abs {u : URL} (h : HostShape env full u) (hnil : env.nfc [] = []) :
    pathText env full u.pathParts = [] ∨ (pathText env full u.pathParts).head? = some 47 := by
  obtain ⟨rest, hrest⟩ := h.path_abs
  rw [hrest]
  exact pathText_abs env full hnil rest

/-- "a valid scheme, host and port", an absolute path, and every component faithfully quoted in the mode at hand -/
structure WFq (u : URL) : Prop extends HostShape env full u where
  scheme_ok : ∀ c ∈ u.scheme, notIn schemeStop c = true
  idna_dec : isAsciiText u.host = true → env.idnaDec u.host = some u.host
  user_scalar : ∀ x ∈ env.nfc u.username, isScalar x = true
  pw_scalar : ∀ x ∈ env.nfc u.password, isScalar x = true
  quoted : QuotedParts env full D u.pathParts u.query u.fragment

/-- what comes back: userinfo NFC-normalised (it is always fully quoted), the other texts decoded,
    the `//` remembered; scheme, host, family unchanged; the port unchanged unless it is zero or the scheme's
    default (`portBack`: those are not rendered) -/
def normalG (u : URL) : URL :=
  { u with netlocSep := true
           port := portBack u
           username := env.nfc u.username
           password := env.nfc u.password
           pathParts := u.pathParts.map D
           query := u.query.map (decPair D)
           fragment := D u.fragment }

def urlText (u : URL) : Text :=
  spart u.scheme ++ 47 :: 47 :: ((uiText env u ++ hostinfo u) ++
    (pathText env full u.pathParts ++ (qpart (queryText env full u.query) ++
      fpart (quotePart .fragment env.nfc full u.fragment))))

theorem urlText_eq (u : URL) :
    urlText env full u = compose u.scheme (some (uiText env u ++ hostinfo u)) (pathText env full u.pathParts)
      (queryText env full u.query) (quotePart .fragment env.nfc full u.fragment) := rfl

theorem toText_urlText (u : URL) (hW : HostShape env full u) (hnil : env.nfc [] = []) :
    toText env full u = .ok (urlText env full u) := by
  have hauth : uiText env u ++ hostinfo u ≠ [] := by simp [(hW.facts env full).ne]
  unfold toText
  rw [authority_hostOK env full u hW.host_ne hW.host_form]
  simp only [hauth, and_false, if_false]
  rw [assemble_auth u _ _ hauth (hW.text_abs env full hnil), urlText_eq]

theorem urlText_groups (u : URL) (hW : WFq env full D u) (hnil : env.nfc [] = []) :
    Groups (urlText env full u) u.scheme (some (uiText env u ++ hostinfo u))
      (pathText env full u.pathParts) (queryText env full u.query)
      (quotePart .fragment env.nfc full u.fragment) := by
  rw [urlText_eq]
  exact scan_compose _ _ _ _ _ hW.scheme_ok
    (authText_chars env u (hW.toHostShape.facts env full) hW.user_scalar hW.pw_scalar)
    (pathText_chars env full D u.pathParts hW.quoted.parts)
    (queryText_chars env full D u.query hW.quoted.query)
    (fun c hc => stop_fragment (hW.quoted.frag.stop c hc))
    (fun _ h => by cases h) (fun _ => hW.toHostShape.text_abs env full hnil) (fun h => by cases h)

/-- username and password are written only when there is something to write; read back, both are NFC-normalised -/
theorem maybeUnquote_userinfo {nfc : Text → Text} (hnil : nfc [] = []) (s : Text) (p : Prop) [Decidable p]
    (hs : ∀ x ∈ nfc s, isScalar x = true) (hp : ¬ p → s = []) :
    maybeUnquote (if p then quoteFull userinfoMap nfc s else []) = nfc s := by
  split
  · exact (quoted_full .userinfo nfc s hs).maybeUnquote_eq
  · rename_i h; rw [hp h, hnil]; rfl

theorem ofText_urlText (u : URL) (hW : WFq env full D u) (hnil : env.nfc [] = []) :
    URL.ofText env (urlText env full u) = .ok (normalG env D u) := by
  have hdec : (if u.host = [] then some [] else if isAsciiText u.host = true then env.idnaDec u.host else some u.host)
      = some u.host := by
    rw [if_neg hW.host_ne]
    by_cases ha : isAsciiText u.host = true
    · rw [if_pos ha]; exact hW.idna_dec ha
    · rw [if_neg ha]
  obtain ⟨rest, hrest⟩ := hW.path_abs
  rw [(urlText_groups env full D u hW hnil).ofText,
    ofGroups_quoted env full D (au := some _)
      (parseAuthority_render env u (hW.toHostShape.facts env full) hW.user_scalar) hdec
      (pathText_parts env full D u.pathParts (by rw [hrest]; simp) hW.quoted.parts) hW.quoted]
  simp only []
  rw [maybeUnquote_userinfo hnil u.username _ hW.user_scalar (fun h => by
        simp only [not_or, ne_eq, Classical.not_not] at h; exact h.1),
      maybeUnquote_userinfo hnil u.password _ hW.pw_scalar (fun h => by simpa using h)]
  rfl

end components

/-- what the fixed-point theorems assume of the normaliser (all true of Unicode NFC) -/
structure NfcLaws (nfc : Text → Text) : Prop where
  nil : nfc [] = []
  idem : ∀ s, nfc (nfc s) = nfc s
  ne_nil : ∀ s, nfc s = [] → s = []

theorem quoteFull_idem (m : List (List Nat)) {nfc : Text → Text} (hid : ∀ s, nfc (nfc s) = nfc s) (s : Text) :
    quoteFull m nfc (nfc s) = quoteFull m nfc s := by
  simp [quoteFull, hid]

theorem quotePart_full_nfc {nfc : Text → Text} (hid : ∀ s, nfc (nfc s) = nfc s) (c : Comp) (s : Text) :
    quotePart c nfc true (nfc s) = quotePart c nfc true s := by
  rw [quotePart_full, quotePart_full, quoteFull_idem _ hid]

theorem nfc_ne_iff {nfc : Text → Text} (hl : NfcLaws nfc) (s : Text) : nfc s ≠ [] ↔ s ≠ [] := by
  constructor
  · intro h e; rw [e, hl.nil] at h; exact h rfl
  · intro h e; exact h (hl.ne_nil s e)

/- `hD`: decoding does not change how a text is quoted.  Full mode: `D = nfc` (quoting begins with the idempotent
   `nfc`); minimal mode: `D = id`. -/
section fixed
variable (env : Env) (full : Bool) (D : Text → Text) (hl : NfcLaws env.nfc)
  (hD : ∀ (c : Comp) (s : Text), quotePart c env.nfc full (D s) = quotePart c env.nfc full s)
  (hDnil : D [] = [])

include hl in
theorem normalG_uiText (u : URL) : uiText env (normalG env D u) = uiText env u := by
  unfold uiText normalG
  simp only [quoteFull_idem _ hl.idem, nfc_ne_iff hl]

include hD in
theorem pairText_decPair (kv : Text × Option Text) :
    pairText env full (decPair D kv) = pairText env full kv := by
  obtain ⟨k, v⟩ := kv
  cases v <;> simp [pairText, decPair, hD]

theorem normalG_hostinfo (u : URL) : hostinfo (normalG env D u) = hostinfo u := by
  have hp : portText (normalG env D u) = portText u := by
    unfold portText normalG portBack
    cases hport : u.port with
    | none => rfl
    | some p =>
      by_cases h : p ≠ 0 ∧ some p ≠ (defaultPort u.scheme).map Int.ofNat
      · simp [h]
      · simp [h]
  unfold hostinfo
  rw [hp]
  rfl

theorem normalG_portNat (u : URL) (h : PortNat u) : PortNat (normalG env D u) := by
  rcases h with h | ⟨p, hp⟩
  · left; simp [normalG, portBack, h]
  · unfold PortNat normalG portBack
    rw [hp]
    simp only []
    split
    · right; exact ⟨p, rfl⟩
    · left; rfl

include hD in
theorem pathText_map (parts : List Text) : pathText env full (parts.map D) = pathText env full parts := by
  simp only [pathText, List.map_map]
  congr 1
  apply List.map_congr_left
  intro s _
  simp [hD]

include hD in
theorem queryText_map (q : List (Text × Option Text)) :
    queryText env full (q.map (decPair D)) = queryText env full q := by
  simp only [queryText, List.map_map]
  congr 1
  apply List.map_congr_left
  intro kv _
  exact pairText_decPair env full D hD kv

include hD in
/-- query and fragment of the URL that came back are written as those of the URL that went in -/
theorem compose_decoded (scheme : Text) (au : Option Text) (path : Text) (q : List (Text × Option Text)) (frag : Text) :
    compose scheme au path (queryText env full (q.map (decPair D))) (quotePart .fragment env.nfc full (D frag)) =
      compose scheme au path (queryText env full q) (quotePart .fragment env.nfc full frag) := by
  rw [queryText_map env full D hD, hD]

include hl hD in
theorem normalG_urlText (u : URL) : urlText env full (normalG env D u) = urlText env full u := by
  have hp : pathText env full (normalG env D u).pathParts = pathText env full u.pathParts :=
    pathText_map env full D hD u.pathParts
  rw [urlText_eq, urlText_eq, normalG_uiText env D hl u, normalG_hostinfo env D u, hp]
  exact compose_decoded env full D hD _ _ _ u.query u.fragment

include hDnil in
theorem normalG_hostShape {u : URL} (h : HostShape env full u) : HostShape env full (normalG env D u) where
  host_ne := h.host_ne
  host_form := h.host_form.congr rfl rfl
  port_ok := normalG_portNat env D u h.port_ok
  path_abs := by
    obtain ⟨rest, hr⟩ := h.path_abs
    exact ⟨rest.map D, by simp [normalG, hr, hDnil]⟩

include hl hD hDnil in
/-- render, parse, render again: the same text.  The third clause needs only that the URL that came back still has a
    host that renders (`normalG_hostShape`) and renders to the same text (`normalG_urlText`). -/
theorem render_fixed (u : URL) (hW : WFq env full D u) :
    toText env full u = .ok (urlText env full u) ∧
    URL.ofText env (urlText env full u) = .ok (normalG env D u) ∧
    toText env full (normalG env D u) = .ok (urlText env full u) := by
  refine ⟨toText_urlText env full u hW.toHostShape hl.nil, ofText_urlText env full D u hW hl.nil, ?_⟩
  rw [toText_urlText env full _ (normalG_hostShape env full D hDnil hW.toHostShape) hl.nil,
    normalG_urlText env full D hl hD u]

end fixed

/-- every text stored in the URL is encodable once normalised (no lone surrogates) -/
structure Scalars (env : Env) (u : URL) : Prop where
  username : ∀ x ∈ env.nfc u.username, isScalar x = true
  password : ∀ x ∈ env.nfc u.password, isScalar x = true
  fragment : ∀ x ∈ env.nfc u.fragment, isScalar x = true
  parts : ∀ s ∈ u.pathParts, ∀ x ∈ env.nfc s, isScalar x = true
  query : ∀ kv ∈ u.query, (∀ x ∈ env.nfc kv.1, isScalar x = true) ∧
    ∀ v, kv.2 = some v → ∀ x ∈ env.nfc v, isScalar x = true

/-- FULL quoting: a scheme (any text without `:/?#`) or none, a host (registered name / IPv4 / IPv6 literal), a port
    (absent or any natural number, `port = *DIGIT`) + an absolute path + no (empty key, no value) parameter; the component texts are arbitrary -/
structure WF (env : Env) (u : URL) : Prop where
  scheme_ok : ∀ c ∈ u.scheme, notIn schemeStop c = true
  host_ne : u.host ≠ []
  host_form : HostOK env true u
  idna_dec : isAsciiText u.host = true → env.idnaDec u.host = some u.host
  port_ok : PortNat u
  path_abs : ∃ rest, u.pathParts = [] :: rest
  query_ok : ∀ kv ∈ u.query, ¬ (env.nfc kv.1 = [] ∧ kv.2 = none)
  scalars : Scalars env u

theorem Scalars.quoted {env : Env} {u : URL} (hs : Scalars env u)
    (hq : ∀ kv ∈ u.query, ¬ (env.nfc kv.1 = [] ∧ kv.2 = none)) :
    QuotedParts env true env.nfc u.pathParts u.query u.fragment where
  query_ok := hq
  parts := fun s h => quoted_full .path env.nfc s (hs.parts s h)
  query := fun kv hkv =>
    ⟨quoted_full .query env.nfc kv.1 (hs.query kv hkv).1,
     fun v hv => quoted_full .query env.nfc v ((hs.query kv hkv).2 v hv)⟩
  frag := quoted_full .fragment env.nfc u.fragment hs.fragment

theorem WF.toWFq {env : Env} {u : URL} (hW : WF env u) : WFq env true env.nfc u where
  scheme_ok := hW.scheme_ok
  host_ne := hW.host_ne
  host_form := hW.host_form
  idna_dec := hW.idna_dec
  port_ok := hW.port_ok
  path_abs := hW.path_abs
  user_scalar := hW.scalars.username
  pw_scalar := hW.scalars.password
  quoted := hW.scalars.quoted hW.query_ok

theorem WF.withPort {env : Env} {u : URL} (hW : WF env u) (p : Option Nat) :
    WF env { u with port := p.map Int.ofNat } where
  scheme_ok := hW.scheme_ok
  host_ne := hW.host_ne
  host_form := hW.host_form.congr rfl rfl
  idna_dec := hW.idna_dec
  port_ok := by
    cases p with
    | none => exact Or.inl rfl
    | some n => exact Or.inr ⟨n, rfl⟩
  path_abs := hW.path_abs
  query_ok := hW.query_ok
  scalars := ⟨hW.scalars.username, hW.scalars.password, hW.scalars.fragment, hW.scalars.parts, hW.scalars.query⟩

/-- what comes back in full mode: every text NFC-normalised, the `//` remembered -/
def normal (env : Env) (u : URL) : URL := normalG env env.nfc u

def fullText (env : Env) (u : URL) : Text := urlText env true u

/-- MINIMAL quoting: the same shape, and no `%` in a path segment, query key / value or fragment
    (username and password are always fully quoted, so they may contain anything) -/
structure WFmin (env : Env) (u : URL) : Prop where
  scheme_ok : ∀ c ∈ u.scheme, notIn schemeStop c = true
  host_ne : u.host ≠ []
  host_form : HostOK env false u
  idna_dec : isAsciiText u.host = true → env.idnaDec u.host = some u.host
  port_ok : PortNat u
  path_abs : ∃ rest, u.pathParts = [] :: rest
  query_ok : ∀ kv ∈ u.query, ¬ (kv.1 = [] ∧ kv.2 = none)
  user_scalar : ∀ x ∈ env.nfc u.username, isScalar x = true
  pw_scalar : ∀ x ∈ env.nfc u.password, isScalar x = true
  no_pct_parts : ∀ s ∈ u.pathParts, 37 ∉ s
  no_pct_query : ∀ kv ∈ u.query, 37 ∉ kv.1 ∧ ∀ v, kv.2 = some v → 37 ∉ v
  no_pct_frag : 37 ∉ u.fragment

theorem quotedParts_min (env : Env) {parts : List Text} {q : List (Text × Option Text)} {frag : Text}
    (hq : ∀ kv ∈ q, ¬ (kv.1 = [] ∧ kv.2 = none)) (h1 : ∀ s ∈ parts, 37 ∉ s)
    (h2 : ∀ kv ∈ q, 37 ∉ kv.1 ∧ ∀ v, kv.2 = some v → 37 ∉ v) (h3 : 37 ∉ frag) :
    QuotedParts env false id parts q frag where
  query_ok := hq
  parts := fun s hs => quoted_min .path env.nfc s (h1 s hs)
  query := fun kv hkv =>
    ⟨quoted_min .query env.nfc kv.1 (h2 kv hkv).1, fun v hv => quoted_min .query env.nfc v ((h2 kv hkv).2 v hv)⟩
  frag := quoted_min .fragment env.nfc frag h3

theorem WFmin.toWFq {env : Env} {u : URL} (hW : WFmin env u) : WFq env false id u where
  scheme_ok := hW.scheme_ok
  host_ne := hW.host_ne
  host_form := hW.host_form
  idna_dec := hW.idna_dec
  port_ok := hW.port_ok
  path_abs := hW.path_abs
  user_scalar := hW.user_scalar
  pw_scalar := hW.pw_scalar
  quoted := quotedParts_min env hW.query_ok hW.no_pct_parts hW.no_pct_query hW.no_pct_frag

/-- what comes back in minimal mode: the URL itself, userinfo NFC-normalised, the `//` remembered -/
def normalMin (env : Env) (u : URL) : URL := normalG env id u

def minText (env : Env) (u : URL) : Text := urlText env false u

/-- for a concrete query: a fact about every key and value, in the form `decide` can evaluate -/
theorem forall_kv {P : Text → Prop} {q : List (Text × Option Text)}
    (h : ∀ kv ∈ q, P kv.1 ∧ ∀ v ∈ kv.2, P v) : ∀ kv ∈ q, P kv.1 ∧ ∀ v, kv.2 = some v → P v :=
  fun kv hkv => ⟨(h kv hkv).1, fun v hv => (h kv hkv).2 v (by simp [hv])⟩

/-- a round-trip theorem in the form the evaluated examples state it -/
theorem eval_roundtrip {env : Env} {full : Bool} {u v : URL}
    (h : ∃ t, toText env full u = .ok t ∧ URL.ofText env t = .ok v) :
    ((toText env full u).toOption.bind fun t => (URL.ofText env t).toOption) = some v := by
  obtain ⟨t, h1, h2⟩ := h
  rw [h1, Except.toOption, Option.bind_some, h2]
  rfl

end C06
