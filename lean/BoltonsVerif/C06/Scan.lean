import BoltonsVerif.C06.Proofs
/-
C06 — the `_URL_RE` scanner.  A URL text is the composition of five groups, the authority optional (`compose`); the
scanner finds them again (`scan_compose`), and `URL(text)` is a function of the groups alone (`ofGroups`).
-/
namespace C06
open C06.Gen

/-- `scheme:` or nothing -/
def spart (scheme : Text) : Text := if scheme ≠ [] then scheme ++ [58] else []

def qpart (qs : Text) : Text := if qs ≠ [] then 63 :: qs else []

def fpart (frag : Text) : Text := if frag ≠ [] then 35 :: frag else []

/-- `//authority` or nothing -/
def apart : Option Text → Text
  | some a => 47 :: 47 :: a
  | none => []

theorem spart_nil : spart [] = [] := rfl
theorem spart_of_ne {scheme : Text} (h : scheme ≠ []) : spart scheme = scheme ++ [58] := if_pos h
theorem qpart_nil : qpart [] = [] := rfl
theorem qpart_of_ne {qs : Text} (h : qs ≠ []) : qpart qs = 63 :: qs := if_pos h
theorem fpart_nil : fpart [] = [] := rfl
theorem fpart_of_ne {frag : Text} (h : frag ≠ []) : fpart frag = 35 :: frag := if_pos h

/-- the authority group of a text rendered without authority: empty where `to_text` writes `//`, absent otherwise -/
def emptyAuth (sl : Bool) : Option Text := if sl then some [] else none

theorem emptyAuth_isSome (sl : Bool) : (emptyAuth sl).isSome = sl := by cases sl <;> rfl

theorem emptyAuth_getD (sl : Bool) : (emptyAuth sl).getD [] = [] := by cases sl <;> rfl

theorem apart_emptyAuth (sl : Bool) : apart (emptyAuth sl) = if sl then [47, 47] else [] := by cases sl <;> rfl

/-- a URL text put together from the five groups of `_URL_RE`; `au = some []` is the empty authority of `file:///p` -/
def compose (scheme : Text) (au : Option Text) (path qs frag : Text) : Text :=
  spart scheme ++ (apart au ++ (path ++ (qpart qs ++ fpart frag)))

theorem stopHead_frag {p : Nat → Bool} (h35 : p 35 = false) (frag : Text) : StopHead p (fpart frag) := by
  by_cases hf : frag = []
  · rw [hf, fpart_nil]; exact stopHead_nil p
  · rw [fpart_of_ne hf]; exact stopHead_cons _ h35

theorem stopHead_query_frag {p : Nat → Bool} (h63 : p 63 = false) (h35 : p 35 = false) (qs frag : Text) :
    StopHead p (qpart qs ++ fpart frag) := by
  by_cases hq : qs = []
  · rw [hq, qpart_nil]; exact stopHead_frag h35 frag
  · rw [qpart_of_ne hq]; exact stopHead_cons _ h63

theorem stopHead_path_query_frag {p : Nat → Bool} (h47 : p 47 = false) (h63 : p 63 = false) (h35 : p 35 = false)
    (path qs frag : Text) (hp0 : path = [] ∨ path.head? = some 47) :
    StopHead p (path ++ (qpart qs ++ fpart frag)) := by
  cases path with
  | nil => simpa using stopHead_query_frag h63 h35 qs frag
  | cons x xs =>
    rcases hp0 with h | h
    · cases h
    · simp at h; subst h; exact stopHead_cons _ h47

theorem schemeOf_none {t : Text} (h : (t.dropWhile (notIn schemeStop)).head? ≠ some 58) :
    schemeOf t = none ∧ afterScheme t = t := by
  unfold schemeOf afterScheme
  cases hd : t.dropWhile (notIn schemeStop) with
  | nil => exact ⟨rfl, rfl⟩
  | cons x xs =>
    rw [hd] at h
    have hx : x ≠ 58 := by intro e; subst e; exact h rfl
    constructor
    · split
      · rename_i heq; cases heq; exact absurd rfl hx
      · rfl
    · split
      · rename_i heq; cases heq; exact absurd rfl hx
      · rfl

theorem scan_scheme (scheme rest : Text) (hs : ∀ c ∈ scheme, notIn schemeStop c = true)
    (hrest : scheme = [] → (rest.dropWhile (notIn schemeStop)).head? ≠ some 58) :
    (schemeOf (spart scheme ++ rest)).getD [] = scheme ∧ afterScheme (spart scheme ++ rest) = rest := by
  by_cases hne : scheme = []
  · subst hne
    have := schemeOf_none (hrest rfl)
    rw [spart_nil, List.nil_append, this.1, this.2]
    exact ⟨rfl, rfl⟩
  · have hsp : spart scheme ++ rest = scheme ++ 58 :: rest := by rw [spart_of_ne hne, List.append_assoc]; rfl
    have st := stopHead_cons (p := notIn schemeStop) rest schemeStop_58
    have e1 : (scheme ++ 58 :: rest).takeWhile (notIn schemeStop) = scheme := takeWhile_append_stop hs st
    have e2 : (scheme ++ 58 :: rest).dropWhile (notIn schemeStop) = 58 :: rest := dropWhile_append_stop hs st
    rw [hsp]
    constructor
    · unfold schemeOf; rw [e2]; simp only [e1]; simp [hne]
    · unfold afterScheme; rw [e2]; simp only [e1]; simp [hne]

theorem scan_auth (auth path qs frag : Text) (ha : ∀ c ∈ auth, notIn authStop c = true)
    (hp0 : path = [] ∨ path.head? = some 47) :
    authorityOf (47 :: 47 :: (auth ++ (path ++ (qpart qs ++ fpart frag)))) = some auth ∧
    afterAuthority (47 :: 47 :: (auth ++ (path ++ (qpart qs ++ fpart frag)))) = path ++ (qpart qs ++ fpart frag) := by
  have t1 := stopHead_path_query_frag authStop_47 authStop_63 authStop_35 path qs frag hp0
  constructor
  · simp only [authorityOf]; rw [takeWhile_append_stop ha t1]
  · simp only [afterAuthority]; rw [dropWhile_append_stop ha t1]

theorem scan_rest (path qs frag : Text)
    (hp : ∀ c ∈ path, notIn pathStop c = true)
    (hq : ∀ c ∈ qs, notIn queryStop c = true)
    (hf : ∀ c ∈ frag, notIn fragStop c = true) :
    pathOf (path ++ (qpart qs ++ fpart frag)) = path ∧
    (queryOf (afterPath (path ++ (qpart qs ++ fpart frag)))).getD [] = qs ∧
    (fragmentOf (afterQuery (afterPath (path ++ (qpart qs ++ fpart frag))))).getD [] = frag := by
  have t2 := stopHead_query_frag pathStop_63 pathStop_35 qs frag
  have hP : pathOf (path ++ (qpart qs ++ fpart frag)) = path := by
    unfold pathOf; exact takeWhile_append_stop hp t2
  have hPa : afterPath (path ++ (qpart qs ++ fpart frag)) = qpart qs ++ fpart frag := by
    unfold afterPath; exact dropWhile_append_stop hp t2
  have t3 : StopHead (notIn queryStop) (fpart frag) := stopHead_frag queryStop_35 frag
  have hfr : (fragmentOf (fpart frag)).getD [] = frag := by
    by_cases h : frag = []
    · rw [h, fpart_nil]; rfl
    · rw [fpart_of_ne h]
      simp only [fragmentOf, Option.getD_some]
      simpa using takeWhile_append_stop (p := notIn fragStop) (a := frag) hf (stopHead_nil _)
  refine ⟨hP, ?_⟩
  rw [hPa]
  by_cases hqe : qs = []
  · subst hqe
    rw [qpart_nil, List.nil_append]
    have : queryOf (fpart frag) = none ∧ afterQuery (fpart frag) = fpart frag := by
      by_cases h : frag = []
      · rw [h, fpart_nil]; exact ⟨rfl, rfl⟩
      · rw [fpart_of_ne h]; exact ⟨rfl, rfl⟩
    rw [this.1, this.2]; exact ⟨rfl, hfr⟩
  · rw [qpart_of_ne hqe]
    simp only [List.cons_append, queryOf, afterQuery]
    rw [takeWhile_append_stop hq t3, dropWhile_append_stop hq t3]
    exact ⟨rfl, hfr⟩

theorem authorityOf_none {r : Text} (h : r.take 2 ≠ [47, 47]) : authorityOf r = none ∧ afterAuthority r = r := by
  unfold authorityOf afterAuthority
  constructor
  · split
    · exact absurd rfl h
    · rfl
  · split
    · exact absurd rfl h
    · rfl

theorem head?_query_frag (qs frag : Text) :
    (qpart qs ++ fpart frag).head? = none ∨ (qpart qs ++ fpart frag).head? = some 63 ∨
    (qpart qs ++ fpart frag).head? = some 35 := by
  by_cases hq : qs = []
  · by_cases hf : frag = []
    · left; rw [hq, hf]; rfl
    · right; right; rw [hq, qpart_nil, fpart_of_ne hf]; rfl
  · right; left; rw [qpart_of_ne hq]; rfl

/-- in a path whose first segment has no raw `:` the scheme scan runs into `/`, `?`, `#` or the end -/
theorem path_no_scheme (path qs frag : Text) (hp : ∀ c ∈ path, notIn pathStop c = true)
    (h58 : 58 ∉ before 47 path) :
    ((path ++ (qpart qs ++ fpart frag)).dropWhile (notIn schemeStop)).head? ≠ some 58 := by
  have hA : ∀ c ∈ before 47 path, notIn schemeStop c = true := by
    intro c hc
    have h47 := before_chars 47 path c hc
    have hc58 : c ≠ 58 := fun e => h58 (e ▸ hc)
    have hps := hp c ((before_sub 47 path).subset hc)
    have h63 : c ≠ 63 := by intro e; subst e; rw [pathStop_63] at hps; cases hps
    have h35 : c ≠ 35 := by intro e; subst e; rw [pathStop_35] at hps; cases hps
    simp only [notIn, Bool.not_eq_true', List.contains_eq_mem, decide_eq_false_iff_not]
    intro hm
    rcases schemeStop_sub c hm with h | h | h | h
    · exact hc58 h
    · exact h47 h
    · exact h63 h
    · exact h35 h
  rcases before_rest 47 path with ⟨hsplit, _⟩ | ⟨r, hsplit, _⟩
  · rw [hsplit, dropWhile_append_stop hA (stopHead_query_frag schemeStop_63 schemeStop_35 qs frag)]
    rcases head?_query_frag qs frag with h | h | h <;> rw [h] <;> simp
  · rw [hsplit, List.append_assoc, List.cons_append, dropWhile_append_stop hA (stopHead_cons _ schemeStop_47)]
    simp

theorem take2_append_ne {p tail : Text} (hp : p.take 2 ≠ [47, 47]) (ht : tail.head? ≠ some 47) :
    (p ++ tail).take 2 ≠ [47, 47] := by
  match p, tail with
  | [], [] => simp
  | [], c :: t =>
    intro h
    have : (c :: t).head? = some 47 := by cases t <;> simp at h <;> simp [h]
    exact ht this
  | [a], [] => simp
  | [a], c :: t =>
    intro h
    simp only [List.cons_append, List.nil_append, List.take_succ_cons, List.take_zero, List.cons.injEq,
      and_true] at h
    exact ht (by simp [h.2])
  | a :: b :: r, _ => simpa using hp

/-- the five groups `_URL_RE` finds in `t` -/
structure Groups (t scheme : Text) (au : Option Text) (path qs frag : Text) : Prop where
  scheme : (schemeOf t).getD [] = scheme
  auth : authorityOf (afterScheme t) = au
  path : pathOf (afterAuthority (afterScheme t)) = path
  query : (queryOf (afterPath (afterAuthority (afterScheme t)))).getD [] = qs
  frag : (fragmentOf (afterQuery (afterPath (afterAuthority (afterScheme t))))).getD [] = frag

/-- `Groups` with the authority group `some auth` -/
structure Scanned (t scheme auth path qs frag : Text) : Prop where
  scheme : (schemeOf t).getD [] = scheme
  auth : authorityOf (afterScheme t) = some auth
  path : pathOf (afterAuthority (afterScheme t)) = path
  query : (queryOf (afterPath (afterAuthority (afterScheme t)))).getD [] = qs
  frag : (fragmentOf (afterQuery (afterPath (afterAuthority (afterScheme t))))).getD [] = frag

theorem Groups.scanned {t scheme auth path qs frag : Text} (h : Groups t scheme (some auth) path qs frag) :
    Scanned t scheme auth path qs frag :=
  ⟨h.scheme, h.auth, h.path, h.query, h.frag⟩

/-- `Groups` with the authority group `emptyAuth sl`: a text rendered without authority -/
structure ScannedN (t scheme : Text) (sl : Bool) (path qs frag : Text) : Prop where
  scheme : (schemeOf t).getD [] = scheme
  auth : authorityOf (afterScheme t) = if sl then some [] else none
  path : pathOf (afterAuthority (afterScheme t)) = path
  query : (queryOf (afterPath (afterAuthority (afterScheme t)))).getD [] = qs
  frag : (fragmentOf (afterQuery (afterPath (afterAuthority (afterScheme t))))).getD [] = frag

/-- The scanner inverts `compose` when no group contains a character of its stop class and the groups cannot be
    confused at their borders: without scheme and authority the first path segment has no `:` (`hrel`), after an
    authority the path is empty or absolute (`hau1`), without one it does not begin with `//` (`hau0`). -/
theorem scan_compose (scheme : Text) (au : Option Text) (path qs frag : Text)
    (hs : ∀ c ∈ scheme, notIn schemeStop c = true)
    (ha : ∀ c ∈ au.getD [], notIn authStop c = true)
    (hp : ∀ c ∈ path, notIn pathStop c = true)
    (hq : ∀ c ∈ qs, notIn queryStop c = true)
    (hf : ∀ c ∈ frag, notIn fragStop c = true)
    (hrel : scheme = [] → au = none → 58 ∉ before 47 path)
    (hau1 : au.isSome = true → path = [] ∨ path.head? = some 47)
    (hau0 : au.isSome = false → path.take 2 ≠ [47, 47]) :
    Groups (compose scheme au path qs frag) scheme au path qs frag := by
  have hS := scan_scheme scheme (apart au ++ (path ++ (qpart qs ++ fpart frag))) hs (by
    intro hne
    cases au with
    | some a => simp [apart, schemeStop_47]
    | none => exact path_no_scheme path qs frag hp (hrel hne rfl))
  have hA : authorityOf (apart au ++ (path ++ (qpart qs ++ fpart frag))) = au ∧
      afterAuthority (apart au ++ (path ++ (qpart qs ++ fpart frag))) = path ++ (qpart qs ++ fpart frag) := by
    cases au with
    | some a => exact scan_auth a path qs frag ha (hau1 rfl)
    | none =>
      have hh : (qpart qs ++ fpart frag).head? ≠ some 47 := by
        rcases head?_query_frag qs frag with h | h | h <;> rw [h] <;> simp
      exact authorityOf_none (r := path ++ (qpart qs ++ fpart frag)) (take2_append_ne (hau0 rfl) hh)
  have hR := scan_rest path qs frag hp hq hf
  exact ⟨hS.1, by rw [compose, hS.2]; exact hA.1, by rw [compose, hS.2, hA.2]; exact hR.1,
    by rw [compose, hS.2, hA.2]; exact hR.2.1, by rw [compose, hS.2, hA.2]; exact hR.2.2⟩

/-- what `URL(text)` makes of the five groups -/
def ofGroups (env : Env) (scheme : Text) (au : Option Text) (path qs frag : Text) : Except Err URL :=
  match parseAuthority env (au.getD []) with
  | .error e => .error e
  | .ok a =>
    match (if a.host = [] then some [] else if isAsciiText a.host then env.idnaDec a.host else some a.host) with
    | none => .error .urlParseError
    | some host =>
      .ok { scheme := scheme
            netlocSep := au.isSome
            username := maybeUnquote a.username
            password := maybeUnquote a.password
            family := a.family
            host := host
            port := a.port
            pathParts := (path.splitOn 47).map maybeUnquote
            query := parseQsl qs
            fragment := maybeUnquote frag }

theorem ofText_eq_ofGroups (env : Env) (t : Text) :
    URL.ofText env t = ofGroups env ((schemeOf t).getD []) (authorityOf (afterScheme t))
      (pathOf (afterAuthority (afterScheme t))) ((queryOf (afterPath (afterAuthority (afterScheme t)))).getD [])
      ((fragmentOf (afterQuery (afterPath (afterAuthority (afterScheme t))))).getD []) := rfl

theorem Groups.ofText {env : Env} {t scheme : Text} {au : Option Text} {path qs frag : Text}
    (h : Groups t scheme au path qs frag) : URL.ofText env t = ofGroups env scheme au path qs frag := by
  rw [ofText_eq_ofGroups, h.scheme, h.auth, h.path, h.query, h.frag]

theorem schemeOf_chars (t : Text) : ∀ c ∈ (schemeOf t).getD [], notIn schemeStop c = true := by
  intro c hc
  unfold schemeOf at hc
  split at hc
  · split at hc
    · simp at hc
    · simp only [Option.getD_some] at hc
      exact mem_takeWhile_true hc
  · simp at hc

theorem authorityOf_chars (r : Text) : ∀ x ∈ (authorityOf r).getD [], notIn authStop x = true := by
  intro x hx
  unfold authorityOf at hx
  split at hx
  · simp only [Option.getD_some] at hx
    exact mem_takeWhile_true hx
  · simp at hx

theorem path_after_authority (r : Text) :
    pathOf (r.dropWhile (notIn authStop)) = [] ∨ (pathOf (r.dropWhile (notIn authStop))).head? = some 47 := by
  cases hd : r.dropWhile (notIn authStop) with
  | nil => left; simp [pathOf]
  | cons x xs =>
    have hx := dropWhile_head_false hd
    have hm : x ∈ authStop := by
      simp only [notIn, Bool.not_eq_false', List.contains_eq_mem, decide_eq_true_eq] at hx
      exact hx
    rcases authStop_sub x hm with h | h | h
    · subst h; right; simp [pathOf, List.takeWhile, pathStop_47]
    · subst h; left; simp [pathOf, List.takeWhile, pathStop_63]
    · subst h; left; simp [pathOf, List.takeWhile, pathStop_35]

end C06
