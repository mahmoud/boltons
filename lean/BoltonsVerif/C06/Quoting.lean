import BoltonsVerif.C06.Tables
import BoltonsVerif.C06.Utf8
/-
C06 — quoting and unquoting.  The rows of the quote maps under `unquote_to_bytes`; `unquote` on an ASCII run and around a
non-ASCII character; full and minimal quoting are faithful: `Quoted c q d` says that `q` contains no delimiter of
position `c` and unquotes to `d`, and that is all the round-trip lemmas ask of a quoting.
-/
namespace C06
open C06.Gen

theorem entryOK_cases {c : Comp} {b : Nat} {e : List Nat} (h : entryOK c b e = true) :
    (e = [b] ∧ b ≠ 37 ∧ b < 128 ∧ legalRaw c b = true) ∨
    (∃ x y, e = [37, x, y] ∧ isUpperHex x = true ∧ isUpperHex y = true ∧ hexPair? x y = some b) := by
  unfold entryOK at h
  simp only [Bool.and_eq_true, Bool.or_eq_true] at h
  rcases h.1 with h1 | h1
  · left
    simp only [beq_iff_eq, bne_iff_ne, ne_eq, decide_eq_true_eq] at h1
    exact ⟨h1.1.1.1, h1.1.1.2, h1.1.2, h1.2⟩
  · right
    match e, h1 with
    | [p, x, y], h1 =>
      simp only [Bool.and_eq_true, beq_iff_eq] at h1
      exact ⟨x, y, by rw [h1.1.1.1], h1.1.1.2, h1.1.2, by rw [hexPair_eq_spec]; exact h1.2⟩

theorem entryOK_stop {c : Comp} {b : Nat} {e : List Nat} (h : entryOK c b e = true) :
    ∀ ch ∈ e, (stopSet c).contains ch = false := by
  unfold entryOK at h
  simp only [Bool.and_eq_true] at h
  have h2 := h.2
  rw [List.all_eq_true] at h2
  intro ch hch
  have := h2 ch hch
  simpa using this

theorem isUpperHex_lt {x : Nat} (h : isUpperHex x = true) : x < 128 := by
  simp only [isUpperHex, Bool.or_eq_true, Bool.and_eq_true, decide_eq_true_eq] at h
  omega

theorem entryOK_ascii {c : Comp} {b : Nat} {e : List Nat} (h : entryOK c b e = true) :
    ∀ ch ∈ e, ch < 128 := by
  rcases entryOK_cases h with ⟨he, _, hb, _⟩ | ⟨x, y, he, hx, hy, _⟩
  · subst he; intro ch hch; simp at hch; omega
  · subst he
    intro ch hch
    have := isUpperHex_lt hx
    have := isUpperHex_lt hy
    simp at hch
    omega

theorem unqBytes_nil : unqBytes [] = [] := run_nil _

theorem unqBytes_cons (c : Nat) (rest : Text) :
    unqBytes (c :: rest) = (unqStep c rest).1 :: unqBytes (rest.drop (unqStep c rest).2) := run_cons _ _ _

theorem unqBytes_cons_ne {c : Nat} (h : c ≠ 37) (rest : Text) :
    unqBytes (c :: rest) = c :: unqBytes rest := by
  rw [unqBytes_cons]
  simp [unqStep, h]

theorem unqBytes_escape {x y v : Nat} (hp : hexPair? x y = some v) (rest : Text) :
    unqBytes (37 :: x :: y :: rest) = v :: unqBytes rest := by
  rw [unqBytes_cons]
  simp [unqStep, hp]

theorem unqBytes_entry {c : Comp} {b : Nat} {e : List Nat} (h : entryOK c b e = true) (rest : Text) :
    unqBytes (e ++ rest) = b :: unqBytes rest := by
  rcases entryOK_cases h with ⟨he, hb, _, _⟩ | ⟨x, y, he, _, _, hp⟩
  · subst he; exact unqBytes_cons_ne hb rest
  · subst he; exact unqBytes_escape hp rest

theorem unqBytes_flatMap {f : Nat → Text} (bs : Bytes)
    (h : ∀ b ∈ bs, ∀ rest, unqBytes (f b ++ rest) = b :: unqBytes rest) (rest : Text) :
    unqBytes (bs.flatMap f ++ rest) = bs ++ unqBytes rest := by
  induction bs with
  | nil => rfl
  | cons b bs ih =>
    rw [List.flatMap_cons, List.append_assoc, h b (by simp), ih (fun x hx => h x (by simp [hx]))]
    rfl

/-- the second half of full quoting: every byte through its row of the table -/
def quoteBytes (c : Comp) (bs : Bytes) : Text := bs.flatMap (mapGet c.map)

theorem quoteFull_eq (c : Comp) (nfc : Text → Text) (s : Text) :
    quoteFull c.map nfc s = quoteBytes c (utf8 (nfc s)) := rfl

theorem unqBytes_quoteBytes (c : Comp) (bs : Bytes) (hb : ∀ b ∈ bs, b < 256) (rest : Text) :
    unqBytes (quoteBytes c bs ++ rest) = bs ++ unqBytes rest :=
  unqBytes_flatMap bs (fun b hbm rest => unqBytes_entry (entryOK_of_lt c b (hb b hbm)) rest) rest

theorem quoteBytes_all {P : Nat → Prop} (c : Comp) (hrow : ∀ b e, entryOK c b e = true → ∀ ch ∈ e, P ch)
    (bs : Bytes) (hb : ∀ b ∈ bs, b < 256) : ∀ ch ∈ quoteBytes c bs, P ch := by
  intro ch hch
  obtain ⟨b, hbm, hin⟩ := List.mem_flatMap.mp hch
  exact hrow b _ (entryOK_of_lt c b (hb b hbm)) ch hin

theorem quoteBytes_ascii (c : Comp) (bs : Bytes) (hb : ∀ b ∈ bs, b < 256) : ∀ ch ∈ quoteBytes c bs, ch < 128 :=
  quoteBytes_all c (fun _ _ h => entryOK_ascii h) bs hb

theorem unqGo_ascii (q : Text) (hq : ∀ c ∈ q, c < 128) (acc : Text) :
    unqGo q acc = decodeR (unqBytes (acc.reverse ++ q)) := by
  induction q generalizing acc with
  | nil => simp [unqGo]
  | cons c q ih =>
    have hc : c < 128 := hq c (by simp)
    simp only [unqGo, hc, if_true]
    rw [ih (fun x hx => hq x (by simp [hx]))]
    simp

theorem unquote_nil : unquote [] = [] := by
  simp [unquote, unqGo, unqBytes_nil, decodeR_nil]

theorem maybeUnquote_nil : maybeUnquote [] = [] := by simp [maybeUnquote]

theorem unquote_ascii (q : Text) (hq : ∀ c ∈ q, c < 128) : unquote q = decodeR (unqBytes q) := by
  unfold unquote
  rw [unqGo_ascii q hq]
  simp

theorem unqGo_split (a b : Text) (c : Nat) (hc : ¬ c < 128) :
    ∀ acc, unqGo (a ++ c :: b) acc = unqGo a acc ++ c :: unqGo b [] := by
  induction a with
  | nil => intro acc; simp [unqGo, hc]
  | cons x a ih =>
    intro acc
    simp only [List.cons_append, unqGo]
    split
    · exact ih _
    · rw [ih []]; simp

theorem unquote_split (a b : Text) (c : Nat) (hc : 128 ≤ c) :
    unquote (a ++ c :: b) = unquote a ++ c :: unquote b := by
  unfold unquote
  exact unqGo_split a b c (by omega) []

/-- Every text is ASCII runs separated by single non-ASCII characters.  `unquote_ascii` and `unquote_split` say what
    `unquote` does on the two shapes, so a fact about `unquote` needs neither the loop `unqGo` nor an invariant for
    its accumulator. -/
theorem ascii_runs_ind {P : Text → Prop} (ascii : ∀ a, (∀ x ∈ a, x < 128) → P a)
    (split : ∀ a c b, (∀ x ∈ a, x < 128) → 128 ≤ c → P b → P (a ++ c :: b)) (s : Text) : P s := by
  suffices h : ∀ a, (∀ x ∈ a, x < 128) → P (a ++ s) from h [] (by simp)
  induction s with
  | nil => intro a ha; rw [List.append_nil]; exact ascii a ha
  | cons c s ih =>
    intro a ha
    by_cases hc : c < 128
    · have := ih (a ++ [c]) (by
        intro x hx
        rcases List.mem_append.mp hx with hx | hx
        · exact ha x hx
        · rw [List.mem_singleton.mp hx]; exact hc)
      rwa [List.append_assoc] at this
    · exact split a c s ha (by omega) (ih [] (by simp))

/-- `unquote(quote_X_part(s, full_quote=True)) == NFC(s)` -/
theorem unquote_quoteFull (c : Comp) (nfc : Text → Text) (s : Text)
    (hs : ∀ x ∈ nfc s, isScalar x = true) : unquote (quoteFull c.map nfc s) = nfc s := by
  rw [quoteFull_eq]
  have hb := utf8_lt (nfc s) hs
  rw [unquote_ascii _ (quoteBytes_ascii c _ hb)]
  have := unqBytes_quoteBytes c (utf8 (nfc s)) hb []
  simp only [List.append_nil, unqBytes_nil] at this
  rw [this]
  have := decodeR_utf8 (nfc s) hs []
  simpa [decodeR_nil] using this

/-- what follows a `%` that is no escape: not two hexadecimal digits -/
def Stray (r : Text) : Prop := ∀ a b r', r = a :: b :: r' → ¬ (isHexDigit a = true ∧ isHexDigit b = true)

theorem unqSpec_esc {a b : Nat} (ha : isHexDigit a = true) (hb : isHexDigit b = true) (r : Text) :
    unqSpec (37 :: a :: b :: r) = (16 * hexVal a + hexVal b) :: unqSpec r := by
  simp [unqSpec, ha, hb]

theorem unqSpec_stray {r : Text} (h : Stray r) : unqSpec (37 :: r) = 37 :: unqSpec r := by
  match r, h with
  | [], _ => simp [unqSpec]
  | [_], _ => simp [unqSpec]
  | a :: b :: r', h =>
    rw [unqSpec]
    simp only [Bool.and_eq_true]
    rw [if_neg (h a b r' rfl)]

theorem unqSpec_ne {c : Nat} (h : c ≠ 37) (r : Text) : unqSpec (c :: r) = c :: unqSpec r := by
  rw [unqSpec.eq_def]
  split
  · rename_i heq; cases heq
  · rename_i heq; simp at heq; exact absurd heq.1 h
  · rename_i heq; simp at heq; rw [heq.1, heq.2]

/-- The four situations of the reference decoder: the end, an escape, a stray `%`, any other character.  With
    `unqSpec_esc`, `unqSpec_stray`, `unqSpec_ne` a function is compared with `unqSpec` by its behaviour in each. -/
theorem unqSpec_ind {P : Text → Prop} (nil : P [])
    (esc : ∀ a b r, isHexDigit a = true → isHexDigit b = true → P r → P (37 :: a :: b :: r))
    (stray : ∀ r, Stray r → P r → P (37 :: r)) (other : ∀ c r, c ≠ 37 → P r → P (c :: r)) (s : Text) : P s := by
  induction s using unqSpec.induct with
  | case1 => exact nil
  | case2 a b r h ih =>
    simp only [Bool.and_eq_true] at h
    exact esc a b r h.1 h.2 ih
  | case3 a b r h ih =>
    refine stray _ (fun a' b' r' e => ?_) ih
    cases e
    simpa using h
  | case4 c rest hne ih =>
    by_cases hc : c = 37
    · subst hc
      exact stray rest (fun a b r' e _ => hne a b r' rfl e) ih
    · exact other c rest hc ih

theorem unqBytes_stray {r : Text} (h : Stray r) : unqBytes (37 :: r) = 37 :: unqBytes r := by
  have : unqStep 37 r = (37, 0) := by
    match r, h with
    | [], _ => rfl
    | [_], _ => rfl
    | a :: b :: r', h =>
      have : hexPair? a b = none := by
        rw [hexPair_eq_spec, hexSpec, if_neg (by simpa using h a b r' rfl)]
      simp [unqStep, this]
  rw [unqBytes_cons, this]
  rfl

/-- `unquote_to_bytes` is the reference percent-decoder -/
theorem unqBytes_eq_spec (s : Text) : unqBytes s = unqSpec s := by
  induction s using unqSpec_ind with
  | nil => exact unqBytes_nil
  | esc a b r ha hb ih =>
    rw [unqBytes_escape (v := 16 * hexVal a + hexVal b) (by simp [hexPair_eq_spec, hexSpec, ha, hb]),
      unqSpec_esc ha hb, ih]
  | stray r h ih => rw [unqBytes_stray h, unqSpec_stray h, ih]
  | other c r hc ih => rw [unqBytes_cons_ne hc, unqSpec_ne hc r, ih]

theorem isUpperHex_hex {x : Nat} (h : isUpperHex x = true) : isHexDigit x = true := by
  simp only [isUpperHex, isHexDigit, Bool.or_eq_true, Bool.and_eq_true, decide_eq_true_eq] at *
  omega

theorem wellQuoted_entry {c : Comp} {b : Nat} {e : List Nat} (h : entryOK c b e = true) (rest : Text) :
    wellQuoted c (e ++ rest) = wellQuoted c rest := by
  rcases entryOK_cases h with ⟨he, hb, _, hl⟩ | ⟨x, y, he, hx, hy, _⟩
  · subst he
    simp only [List.cons_append, List.nil_append]
    rw [wellQuoted.eq_def]
    split
    · simp at *
    · rename_i heq; simp at heq; omega
    · rename_i heq; simp at heq; simp [← heq.1, ← heq.2, hb, hl]
  · subst he
    simp [wellQuoted, isUpperHex_hex hx, isUpperHex_hex hy]

theorem wellQuoted_quoteBytes (c : Comp) (bs : Bytes) (hb : ∀ b ∈ bs, b < 256) :
    wellQuoted c (quoteBytes c bs) = true := by
  induction bs with
  | nil => rfl
  | cons b bs ih =>
    rw [quoteBytes, List.flatMap_cons, wellQuoted_entry (entryOK_of_lt c b (hb b (by simp)))]
    exact ih (fun x hx => hb x (by simp [hx]))

theorem unqBytes_no_pct (s : Text) (hp : 37 ∉ s) : unqBytes s = s := by
  induction s with
  | nil => exact unqBytes_nil
  | cons c s ih =>
    simp only [List.mem_cons, not_or] at hp
    rw [unqBytes_cons_ne (fun h => hp.1 h.symm), ih hp.2]

theorem unquote_no_pct (s : Text) (hp : 37 ∉ s) : unquote s = s := by
  induction s using ascii_runs_ind with
  | ascii a ha => rw [unquote_ascii a ha, unqBytes_no_pct a hp, decodeR_ascii a ha]
  | split a c b ha hc ih =>
    simp only [List.mem_append, List.mem_cons, not_or] at hp
    rw [unquote_split a b c hc, ih hp.2.2, unquote_ascii a ha, unqBytes_no_pct a hp.1, decodeR_ascii a ha]

theorem unquote_eq_nil {s : Text} (h : unquote s = []) : s = [] := by
  induction s using ascii_runs_ind with
  | ascii a ha =>
    rw [unquote_ascii a ha] at h
    exact run_eq_nil _ (run_eq_nil _ h)
  | split a c b _ hc _ => rw [unquote_split a b c hc] at h; simp at h

theorem unquote_ne_nil {s : Text} (h : s ≠ []) : unquote s ≠ [] := fun e => h (unquote_eq_nil e)

theorem quotePart_full (c : Comp) (nfc : Text → Text) (s : Text) : quotePart c nfc true s = quoteFull c.map nfc s := rfl

theorem quotePart_min (c : Comp) (nfc : Text → Text) (s : Text) :
    quotePart c nfc false s = quoteMin c.map c.delims s := rfl

section quoted
variable (c : Comp) (nfc : Text → Text) (s : Text) (hs : ∀ x ∈ nfc s, isScalar x = true)
include hs

theorem quoteFull_ascii : ∀ ch ∈ quoteFull c.map nfc s, ch < 128 :=
  quoteBytes_ascii c _ (utf8_lt (nfc s) hs)

theorem quoteFull_stop : ∀ ch ∈ quoteFull c.map nfc s, (stopSet c).contains ch = false :=
  quoteBytes_all c (fun _ _ h => entryOK_stop h) _ (utf8_lt (nfc s) hs)

theorem quoteFull_eq_nil (h : quoteFull c.map nfc s = []) : nfc s = [] := by
  have := unquote_quoteFull c nfc s hs
  rw [h] at this
  rw [← this, unquote_nil]

end quoted

theorem stop_ne {c : Comp} {ch x : Nat} (h : (stopSet c).contains ch = false) (hx : x ∈ stopSet c) : ch ≠ x := by
  rintro rfl
  simp [hx] at h

theorem notIn_of_append {base extra : List Nat} {ch : Nat} (h : (base ++ extra).contains ch = false) :
    notIn base ch = true := by
  simp only [List.contains_eq_mem, List.mem_append, decide_eq_false_iff_not, not_or] at h
  simp [notIn, h.1]

theorem stop_userinfo {ch : Nat} (h : (stopSet .userinfo).contains ch = false) : notIn authStop ch = true :=
  notIn_of_append h

theorem stop_path {ch : Nat} (h : (stopSet .path).contains ch = false) : notIn pathStop ch = true :=
  notIn_of_append h

theorem stop_query {ch : Nat} (h : (stopSet .query).contains ch = false) : notIn queryStop ch = true :=
  notIn_of_append h

theorem stop_fragment {ch : Nat} (h : (stopSet .fragment).contains ch = false) :
    notIn fragStop ch = true := by
  simp only [stopSet] at h
  simp only [notIn, h]; rfl

/-- `q` is a faithful quoting, for position `c`, of the decoded text `d` -/
structure Quoted (c : Comp) (q d : Text) : Prop where
  stop : ∀ ch ∈ q, (stopSet c).contains ch = false
  unq : unquote q = d

theorem Quoted.maybeUnquote_eq {c : Comp} {q d : Text} (h : Quoted c q d) : maybeUnquote q = d := by
  unfold maybeUnquote
  split
  · exact h.unq
  · rename_i h37
    have : 37 ∉ q := by simpa using h37
    rw [← h.unq, unquote_no_pct q this]

theorem Quoted.eq_nil {c : Comp} {q d : Text} (h : Quoted c q d) (hq : q = []) : d = [] := by
  rw [← h.unq, hq, unquote_nil]

theorem quoted_full (c : Comp) (nfc : Text → Text) (s : Text) (hs : ∀ x ∈ nfc s, isScalar x = true) :
    Quoted c (quotePart c nfc true s) (nfc s) :=
  ⟨quoteFull_stop c nfc s hs, unquote_quoteFull c nfc s hs⟩

theorem delims_lt {c : Comp} {t : Nat} (h : c.delims.contains t = true) : t < 128 := by
  have := delimsOK_all c
  unfold delimsOK at this
  rw [List.all_eq_true] at this
  have := this t (by simpa using h)
  simp only [Bool.and_eq_true, decide_eq_true_eq] at this
  exact this.1

/-- the piece minimal quoting emits for one character -/
def minPiece (c : Comp) (t : Nat) : Text := if c.delims.contains t then mapGet c.map t else [t]

theorem quoteMin_eq (c : Comp) (s : Text) : quoteMin c.map c.delims s = s.flatMap (minPiece c) := rfl

theorem quoteMin_cons (c : Comp) (t : Nat) (s : Text) :
    quoteMin c.map c.delims (t :: s) = minPiece c t ++ quoteMin c.map c.delims s := by
  rw [quoteMin_eq, quoteMin_eq, List.flatMap_cons]

theorem minPiece_stop (c : Comp) (t : Nat) : ∀ ch ∈ minPiece c t, (stopSet c).contains ch = false := by
  intro ch hch
  unfold minPiece at hch
  split at hch
  · rename_i hd
    exact entryOK_stop (entryOK_of_lt c t (by have := delims_lt hd; omega)) ch hch
  · rename_i hd
    simp only [List.mem_singleton] at hch
    subst hch
    have := stop_sub_delims c
    rw [List.all_eq_true] at this
    cases hs : (stopSet c).contains ch with
    | false => rfl
    | true => exact absurd (this ch (by simpa using hs)) hd

theorem quoteMin_stop (c : Comp) (s : Text) :
    ∀ ch ∈ quoteMin c.map c.delims s, (stopSet c).contains ch = false := by
  intro ch hch
  rw [quoteMin_eq] at hch
  obtain ⟨t, _, hin⟩ := List.mem_flatMap.mp hch
  exact minPiece_stop c t ch hin

theorem minPiece_ascii (c : Comp) (t : Nat) (ht : t < 128) : ∀ ch ∈ minPiece c t, ch < 128 := by
  intro ch hch
  unfold minPiece at hch
  split at hch
  · exact entryOK_ascii (entryOK_of_lt c t (by omega)) ch hch
  · simp only [List.mem_singleton] at hch; omega

theorem unqBytes_minPiece (c : Comp) (t : Nat) (ht : t < 128) (h37 : t ≠ 37) (rest : Text) :
    unqBytes (minPiece c t ++ rest) = t :: unqBytes rest := by
  unfold minPiece
  split
  · exact unqBytes_entry (entryOK_of_lt c t (by omega)) rest
  · exact unqBytes_cons_ne h37 rest

theorem unqBytes_quoteMin_ascii (c : Comp) (a : Text) (ha : ∀ x ∈ a, x < 128) (hp : 37 ∉ a) (rest : Text) :
    unqBytes (quoteMin c.map c.delims a ++ rest) = a ++ unqBytes rest := by
  rw [quoteMin_eq]
  exact unqBytes_flatMap a (fun t ht rest => unqBytes_minPiece c t (ha t ht) (fun e => hp (e ▸ ht)) rest) rest

theorem quoteMin_append (c : Comp) (a b : Text) :
    quoteMin c.map c.delims (a ++ b) = quoteMin c.map c.delims a ++ quoteMin c.map c.delims b := by
  simp only [quoteMin_eq, List.flatMap_append]

theorem quoteMin_ascii (c : Comp) (a : Text) (ha : ∀ x ∈ a, x < 128) : ∀ ch ∈ quoteMin c.map c.delims a, ch < 128 := by
  intro ch hch
  rw [quoteMin_eq] at hch
  obtain ⟨t, ht, hin⟩ := List.mem_flatMap.mp hch
  exact minPiece_ascii c t (ha t ht) ch hin

/-- a non-ASCII character is no delimiter: it stays raw -/
theorem quoteMin_nonascii (c : Comp) {t : Nat} (ht : 128 ≤ t) (s : Text) :
    quoteMin c.map c.delims (t :: s) = t :: quoteMin c.map c.delims s := by
  have hd : c.delims.contains t = false := by
    cases h : c.delims.contains t with
    | false => rfl
    | true => have := delims_lt h; omega
  rw [quoteMin_cons, minPiece, hd]; rfl

theorem unquote_quoteMin_ascii (c : Comp) (a : Text) (ha : ∀ x ∈ a, x < 128) (hp : 37 ∉ a) :
    unquote (quoteMin c.map c.delims a) = a := by
  have h := unqBytes_quoteMin_ascii c a ha hp []
  rw [List.append_nil, unqBytes_nil, List.append_nil] at h
  rw [unquote_ascii _ (quoteMin_ascii c a ha), h, decodeR_ascii a ha]

theorem unquote_quoteMin (c : Comp) (s : Text) (hs : 37 ∉ s) : unquote (quoteMin c.map c.delims s) = s := by
  induction s using ascii_runs_ind with
  | ascii a ha => exact unquote_quoteMin_ascii c a ha hs
  | split a t b ha ht ih =>
    simp only [List.mem_append, List.mem_cons, not_or] at hs
    rw [quoteMin_append, quoteMin_nonascii c ht, unquote_split _ _ t ht, ih hs.2.2,
      unquote_quoteMin_ascii c a ha hs.1]

theorem quoted_min (c : Comp) (nfc : Text → Text) (s : Text) (hs : 37 ∉ s) :
    Quoted c (quotePart c nfc false s) s :=
  ⟨quoteMin_stop c s, unquote_quoteMin c s hs⟩

end C06
