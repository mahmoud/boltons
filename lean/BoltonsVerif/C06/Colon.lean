import BoltonsVerif.C06.Proofs
import BoltonsVerif.C06.Quoting
/-
C06 — the colon escape of `to_text` for relative references: `first.replace(':', '%3A')` on the first path
segment.  It changes nothing for the decoder (`%3A` is `:`), introduces no delimiter, and removes every raw `:`.
-/
namespace C06
open C06.Gen

/-- `text.replace(':', '%3A')` -/
def escColon (q : Text) : Text := q.flatMap (fun c => if c = 58 then [37, 51, 65] else [c])

theorem escColonFirst_eq (p : Text) : escColonFirst p = escColon (before 47 p) ++ p.dropWhile (neq 47) := rfl

theorem escColon_nil : escColon [] = [] := rfl

theorem escColon_cons (c : Nat) (q : Text) :
    escColon (c :: q) = (if c = 58 then [37, 51, 65] else [c]) ++ escColon q := by
  simp [escColon]

theorem escColon_colon (q : Text) : escColon (58 :: q) = 37 :: 51 :: 65 :: escColon q := by
  rw [escColon_cons, if_pos rfl]; rfl

theorem escColon_ne {c : Nat} (h : c ≠ 58) (q : Text) : escColon (c :: q) = c :: escColon q := by
  rw [escColon_cons, if_neg h]; rfl

theorem escColon_append (a b : Text) : escColon (a ++ b) = escColon a ++ escColon b := by
  simp [escColon]

theorem escColon_no_colon (q : Text) : 58 ∉ escColon q := by
  induction q with
  | nil => simp [escColon]
  | cons c q ih =>
    by_cases hc : c = 58
    · subst hc; rw [escColon_colon]; simp [ih]
    · rw [escColon_ne hc, List.mem_cons, not_or]
      exact ⟨fun e => hc e.symm, ih⟩

theorem escColon_mem {q : Text} {x : Nat} (h : x ∈ escColon q) : x ∈ q ∨ x ∈ [37, 51, 65] := by
  obtain ⟨c, hc, hx⟩ := List.mem_flatMap.mp h
  split at hx
  · exact Or.inr hx
  · exact Or.inl (List.mem_singleton.mp hx ▸ hc)

theorem escColon_all {P : Nat → Prop} {q : Text} (hq : ∀ x ∈ q, P x) (h3A : ∀ x ∈ [37, 51, 65], P x) :
    ∀ x ∈ escColon q, P x :=
  fun x hx => (escColon_mem hx).elim (hq x) (h3A x)

theorem escColon_id {q : Text} (h : 58 ∉ q) : escColon q = q := by
  induction q with
  | nil => rfl
  | cons a l ih =>
    simp only [List.mem_cons, not_or] at h
    rw [escColon_ne (fun e => h.1 e.symm), ih h.2]

theorem unqSpec_pct3A (r : Text) : unqSpec (37 :: 51 :: 65 :: r) = 58 :: unqSpec r := by
  simp [unqSpec, isHexDigit, hexVal]

theorem not_hex_37 : isHexDigit 37 = false := by decide
theorem not_hex_58 : isHexDigit 58 = false := by decide

/-- a stray `%` stays one: the escape puts `%` where a `:` stood, and neither is a hexadecimal digit -/
theorem Stray.escColon {r : Text} (h : Stray r) : Stray (escColon r) := by
  intro a b r' e ⟨ha, hb⟩
  match r, h with
  | [], _ => cases e
  | [x], _ =>
    by_cases hx : x = 58
    · subst hx; cases e; simp [not_hex_37] at ha
    · rw [escColon_ne hx] at e; cases e
  | x :: y :: r0, h =>
    by_cases hx : x = 58
    · subst hx; rw [escColon_colon] at e; cases e; simp [not_hex_37] at ha
    · rw [escColon_ne hx] at e
      by_cases hy : y = 58
      · subst hy; rw [escColon_colon] at e; cases e; simp [not_hex_37] at hb
      · rw [escColon_ne hy] at e; cases e; exact h a b r0 rfl ⟨ha, hb⟩

theorem unqSpec_escColon (q : Text) : unqSpec (escColon q) = unqSpec q := by
  have h37 : (37 : Nat) ≠ 58 := by decide
  induction q using unqSpec_ind with
  | nil => rfl
  | esc a b r ha hb ih =>
    have ha' : a ≠ 58 := by intro e; rw [e, not_hex_58] at ha; cases ha
    have hb' : b ≠ 58 := by intro e; rw [e, not_hex_58] at hb; cases hb
    rw [escColon_ne h37, escColon_ne ha', escColon_ne hb', unqSpec_esc ha hb, unqSpec_esc ha hb, ih]
  | stray r h ih => rw [escColon_ne h37, unqSpec_stray h.escColon, unqSpec_stray h, ih]
  | other c r hc ih =>
    by_cases h58 : c = 58
    · subst h58; rw [escColon_colon, unqSpec_pct3A, unqSpec_ne hc r, ih]
    · rw [escColon_ne h58, unqSpec_ne hc _, unqSpec_ne hc r, ih]

theorem escColon_ascii {q : Text} (h : ∀ c ∈ q, c < 128) : ∀ c ∈ escColon q, c < 128 := escColon_all h (by decide)

theorem unquote_escColon_ascii (q : Text) (h : ∀ c ∈ q, c < 128) : unquote (escColon q) = unquote q := by
  rw [unquote_ascii _ (escColon_ascii h), unquote_ascii _ h, unqBytes_eq_spec, unqBytes_eq_spec, unqSpec_escColon]

theorem unquote_escColon (q : Text) : unquote (escColon q) = unquote q := by
  induction q using ascii_runs_ind with
  | ascii a ha => exact unquote_escColon_ascii a ha
  | split a c b ha hc ih =>
    rw [escColon_append, escColon_ne (by omega), unquote_split _ _ c hc, unquote_split _ _ c hc,
      unquote_escColon_ascii a ha, ih]

theorem escColon_no_slash {q : Text} (h : ∀ x ∈ q, x ≠ 47) : ∀ x ∈ escColon q, x ≠ 47 := escColon_all h (by decide)

theorem escColonFirst_mem {p : Text} {x : Nat} (h : x ∈ escColonFirst p) : x ∈ p ∨ x ∈ [37, 51, 65] := by
  rw [escColonFirst_eq, List.mem_append] at h
  rcases h with h | h
  · exact (escColon_mem h).imp_left fun h' => (before_sub 47 p).subset h'
  · exact Or.inl ((List.dropWhile_sublist _).subset h)

/-- no raw `:` is left before the first `/`: nothing the parser could read as the end of a scheme -/
theorem escColonFirst_no_colon (p : Text) : 58 ∉ before 47 (escColonFirst p) := by
  have h47 := escColon_no_slash (before_chars 47 p)
  rw [escColonFirst_eq]
  rcases before_rest 47 p with ⟨_, hr⟩ | ⟨r, _, hr⟩
  · rw [hr, List.append_nil, before_none h47]; exact escColon_no_colon _
  · rw [hr, before_append h47]; exact escColon_no_colon _

theorem maybeUnquote_escColon (q : Text) : maybeUnquote (escColon q) = maybeUnquote q := by
  by_cases h58 : 58 ∈ q
  · have h37 : 37 ∈ escColon q := by
      obtain ⟨a, b, rfl⟩ := List.append_of_mem h58
      rw [escColon_append, escColon_colon]; simp
    unfold maybeUnquote
    rw [if_pos (by simpa using h37), unquote_escColon]
    split
    · rfl
    · rename_i h; exact unquote_no_pct q (by simpa using h)
  · rw [escColon_id h58]

theorem escColonFirst_parts (p : Text) :
    ((escColonFirst p).splitOn 47).map maybeUnquote = (p.splitOn 47).map maybeUnquote := by
  have h47 : 47 ∉ escColon (before 47 p) := fun h => escColon_no_slash (before_chars 47 p) 47 h rfl
  have hb : 47 ∉ before 47 p := fun h => before_chars 47 p 47 h rfl
  rw [escColonFirst_eq]
  rcases before_rest 47 p with ⟨hp, hr⟩ | ⟨r, hp, hr⟩
  · rw [hr, List.append_nil]
    conv => rhs; rw [hp]
    rw [List.splitOn_eq_singleton h47, List.splitOn_eq_singleton hb]
    simp [maybeUnquote_escColon]
  · rw [hr]
    conv => rhs; rw [hp]
    rw [List.splitOn_append_cons_self_of_not_mem h47, List.splitOn_append_cons_self_of_not_mem hb]
    simp [maybeUnquote_escColon]

end C06
