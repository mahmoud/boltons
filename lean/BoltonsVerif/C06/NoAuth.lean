import BoltonsVerif.C06.Roundtrip
import BoltonsVerif.C06.Colon
/-
C06 — URLs and references WITHOUT an authority: `scheme:path?query#fragment` (mailto:, urn:, …),
`scheme:///path` (a scheme that uses a netloc, with an empty one: `file:///etc/passwd`), and relative
references (`/a/b?q#f`, `a/b`, `?q`, `#f`, the empty reference, `//`-less or with an empty authority).

Rendering them goes through the other half of `to_text`: the `//` that is written although there is no
authority, the first-segment colon escape of a relative path.  Parsing goes through the optional groups
of `_URL_RE` that do NOT match.  The result: render -> parse -> render is the identity on the text, in both
quoting modes.
-/
namespace C06
open C06.Gen

/-- `uses_netloc` depends on the scheme and on whether the URL was parsed with `//` -/
def usesNetlocS (scheme : Text) (ns : Bool) : Bool :=
  if (lookupPort scheme).isSome then true
  else if noNetlocSchemes.contains scheme then false
  else if (lookupPort (lastPiece scheme)).isSome then true
  else ns

theorem usesNetloc_eq (u : URL) : usesNetloc u = usesNetlocS u.scheme u.netlocSep := rfl

theorem usesNetlocS_cases (s : Text) :
    (∀ b, usesNetlocS s b = true) ∨ (∀ b, usesNetlocS s b = false) ∨ (∀ b, usesNetlocS s b = b) := by
  unfold usesNetlocS
  by_cases h1 : (lookupPort s).isSome = true
  · left; intro b; rw [if_pos h1]
  · by_cases h2 : noNetlocSchemes.contains s = true
    · right; left; intro b; rw [if_neg h1, if_pos h2]
    · by_cases h3 : (lookupPort (lastPiece s)).isSome = true
      · left; intro b; rw [if_neg h1, if_neg h2, if_pos h3]
      · right; right; intro b; rw [if_neg h1, if_neg h2, if_neg h3]

/-- `to_text` writes `//` although the authority is empty: the path starts with `//`, or the scheme uses a
    netloc and the path is empty or absolute -/
def slashesS (scheme : Text) (ns : Bool) (P : Text) : Bool :=
  decide (P.take 2 = [47, 47] ∨ (scheme ≠ [] ∧ (P = [] ∨ P.head? = some 47) ∧ usesNetlocS scheme ns = true))

/-- a URL parsed from a text with such a `//` remembers it (`netlocSep`) and writes it again; one parsed from a
    text without does not -/
theorem slashesS_idem (scheme : Text) (ns : Bool) (P : Text) :
    slashesS scheme (slashesS scheme ns P) P = slashesS scheme ns P := by
  rcases usesNetlocS_cases scheme with h | h | h
  · simp [slashesS, h]
  · simp [slashesS, h]
  · unfold slashesS
    simp only [h, decide_eq_true_eq]
    apply decide_eq_decide.mpr
    constructor
    · rintro (hx | ⟨h1, h2, hx | ⟨_, _, h5⟩⟩)
      · exact Or.inl hx
      · exact Or.inl hx
      · exact Or.inr ⟨h1, h2, h5⟩
    · rintro (hx | ⟨h1, h2, h3⟩)
      · exact Or.inl hx
      · exact Or.inr ⟨h1, h2, Or.inr ⟨h1, h2, h3⟩⟩

theorem slashesS_true {scheme : Text} {ns : Bool} {P : Text} (h : slashesS scheme ns P = true) :
    P = [] ∨ P.head? = some 47 := by
  simp only [slashesS, decide_eq_true_eq] at h
  rcases h with h | ⟨_, h, _⟩
  · right
    cases P with
    | nil => simp at h
    | cons a r => cases r <;> simp at h <;> simp [h.1]
  · exact h

theorem slashesS_false {scheme : Text} {ns : Bool} {P : Text} (h : slashesS scheme ns P = false) :
    P.take 2 ≠ [47, 47] := by
  simp only [slashesS, decide_eq_false_iff_not, not_or] at h
  exact h.1

section noauth
variable (env : Env) (full : Bool) (D : Text → Text)

/-- no authority (no host, no userinfo); a scheme or none; any path, query, fragment, every component
    faithfully quoted in the mode at hand -/
structure WFnq (u : URL) : Prop where
  scheme_ok : ∀ c ∈ u.scheme, notIn schemeStop c = true
  host_nil : u.host = []
  user_nil : u.username = []
  pw_nil : u.password = []
  parts_ne : u.pathParts ≠ []
  quoted : QuotedParts env full D u.pathParts u.query u.fragment

/-- the path as `to_text` writes it when there is no authority: in a relative reference (no scheme) every `:`
    of the first segment is escaped, so that it cannot be read as the end of a scheme -/
def pathR (u : URL) : Text :=
  if u.scheme = [] then escColonFirst (pathText env full u.pathParts) else pathText env full u.pathParts

theorem pathR_chars (u : URL) (hq : ∀ s ∈ u.pathParts, Quoted .path (quotePart .path env.nfc full s) (D s)) :
    ∀ ch ∈ pathR env full u, notIn pathStop ch = true := by
  have hP := pathText_chars env full D u.pathParts hq
  intro ch hch
  unfold pathR at hch
  split at hch
  · rcases escColonFirst_mem hch with h | h
    · exact hP ch h
    · exact stop_path (stopSet_path_pct3A ch h)
  · exact hP ch hch

theorem pathR_parts (u : URL) (hne : u.pathParts ≠ [])
    (hq : ∀ s ∈ u.pathParts, Quoted .path (quotePart .path env.nfc full s) (D s)) :
    ((pathR env full u).splitOn 47).map maybeUnquote = u.pathParts.map D := by
  unfold pathR
  split
  · rw [escColonFirst_parts, pathText_parts env full D u.pathParts hne hq]
  · exact pathText_parts env full D u.pathParts hne hq

theorem pathR_no_colon (u : URL) (hs : u.scheme = []) : 58 ∉ before 47 (pathR env full u) := by
  rw [pathR, if_pos hs]
  exact escColonFirst_no_colon _

/-- does `to_text` write `//` for this URL -/
def slashes (u : URL) : Bool := slashesS u.scheme u.netlocSep (pathR env full u)

/-- what comes back: the texts decoded, whether there was a `//` remembered, no port -/
def normalN (u : URL) : URL :=
  { scheme := u.scheme
    netlocSep := slashes env full u
    username := []
    password := []
    family := .none
    host := []
    port := none
    pathParts := u.pathParts.map D
    query := u.query.map (decPair D)
    fragment := D u.fragment }

theorem assemble_noauth (u : URL) (path qs frag : Text) :
    assemble u [] path qs frag =
      compose u.scheme (emptyAuth (slashesS u.scheme u.netlocSep path)) path qs frag := by
  rw [assemble_eq, compose, apart_emptyAuth]
  have hp : (if path ≠ [] then (if u.scheme ≠ [] ∧ ([] : Text) ≠ [] ∧ path.head? ≠ some 47 then 47 :: path else path)
      else []) = path := by
    by_cases h : path = [] <;> simp [h]
  rw [hp]
  -- the condition under which `assemble` writes `//` without an authority is `slashesS`, unfolded
  simp only [slashesS, usesNetloc_eq, ne_eq, not_true_eq_false, if_false, decide_eq_true_eq, List.append_assoc]
  rfl

def urlTextN (u : URL) : Text :=
  compose u.scheme (emptyAuth (slashes env full u)) (pathR env full u)
    (queryText env full u.query) (quotePart .fragment env.nfc full u.fragment)

theorem toText_urlTextN (u : URL) (hh : u.host = []) (hu : u.username = []) (hp : u.password = []) :
    toText env full u = .ok (urlTextN env full u) := by
  unfold toText
  rw [authority_nil env full u hh hu hp]
  simp only [and_true]
  rw [assemble_noauth]
  rfl

theorem urlTextN_groups (u : URL) (hW : WFnq env full D u) :
    Groups (urlTextN env full u) u.scheme (emptyAuth (slashes env full u))
      (pathR env full u) (queryText env full u.query) (quotePart .fragment env.nfc full u.fragment) :=
  scan_compose _ _ _ _ _ hW.scheme_ok
    (by rw [emptyAuth_getD]; simp)
    (pathR_chars env full D u hW.quoted.parts)
    (queryText_chars env full D u.query hW.quoted.query)
    (fun c hc => stop_fragment (hW.quoted.frag.stop c hc))
    (fun hs _ => pathR_no_colon env full u hs)
    (fun h => slashesS_true (by rwa [emptyAuth_isSome] at h))
    (fun h => slashesS_false (by rwa [emptyAuth_isSome] at h))

theorem ofText_urlTextN (u : URL) (hW : WFnq env full D u) :
    URL.ofText env (urlTextN env full u) = .ok (normalN env full D u) := by
  rw [(urlTextN_groups env full D u hW).ofText,
    ofGroups_quoted env full D (by rw [emptyAuth_getD]; exact parseAuthority_nil env) rfl
      (pathR_parts env full D u hW.parts_ne hW.quoted.parts) hW.quoted, emptyAuth_isSome]
  rfl

end noauth

section fixedN
variable (env : Env) (full : Bool) (D : Text → Text)
  (hD : ∀ (c : Comp) (s : Text), quotePart c env.nfc full (D s) = quotePart c env.nfc full s)

include hD in
theorem normalN_pathR (u : URL) : pathR env full (normalN env full D u) = pathR env full u := by
  unfold pathR
  rw [show (normalN env full D u).pathParts = u.pathParts.map D from rfl, pathText_map env full D hD]
  rfl

include hD in
theorem normalN_slashes (u : URL) : slashes env full (normalN env full D u) = slashes env full u := by
  unfold slashes
  rw [normalN_pathR env full D hD u]
  exact slashesS_idem u.scheme u.netlocSep _

include hD in
theorem normalN_urlTextN (u : URL) : urlTextN env full (normalN env full D u) = urlTextN env full u := by
  unfold urlTextN
  rw [normalN_slashes env full D hD u, normalN_pathR env full D hD u]
  exact compose_decoded env full D hD _ _ _ u.query u.fragment

include hD in
/-- render, parse, render again: the same text (what came back has no authority by construction) -/
theorem render_fixedN (u : URL) (hW : WFnq env full D u) :
    toText env full u = .ok (urlTextN env full u) ∧
    URL.ofText env (urlTextN env full u) = .ok (normalN env full D u) ∧
    toText env full (normalN env full D u) = .ok (urlTextN env full u) := by
  refine ⟨toText_urlTextN env full u hW.host_nil hW.user_nil hW.pw_nil, ofText_urlTextN env full D u hW, ?_⟩
  rw [toText_urlTextN env full _ rfl rfl rfl, normalN_urlTextN env full D hD u]

end fixedN

/-- FULL quoting, no authority: a scheme (any text without `:/?#`) or none, no host, no userinfo, at least one
    path segment, arbitrary component texts -/
structure WFna (env : Env) (u : URL) : Prop where
  scheme_ok : ∀ c ∈ u.scheme, notIn schemeStop c = true
  host_nil : u.host = []
  user_nil : u.username = []
  pw_nil : u.password = []
  parts_ne : u.pathParts ≠ []
  query_ok : ∀ kv ∈ u.query, ¬ (env.nfc kv.1 = [] ∧ kv.2 = none)
  scalars : Scalars env u

theorem WFna.toWFnq {env : Env} {u : URL} (hW : WFna env u) : WFnq env true env.nfc u where
  scheme_ok := hW.scheme_ok
  host_nil := hW.host_nil
  user_nil := hW.user_nil
  pw_nil := hW.pw_nil
  parts_ne := hW.parts_ne
  quoted := hW.scalars.quoted hW.query_ok

/-- MINIMAL quoting, no authority: the same shape, and no `%` in a path segment, query key / value or fragment -/
structure WFnaMin (env : Env) (u : URL) : Prop where
  scheme_ok : ∀ c ∈ u.scheme, notIn schemeStop c = true
  host_nil : u.host = []
  user_nil : u.username = []
  pw_nil : u.password = []
  parts_ne : u.pathParts ≠ []
  query_ok : ∀ kv ∈ u.query, ¬ (kv.1 = [] ∧ kv.2 = none)
  no_pct_parts : ∀ s ∈ u.pathParts, 37 ∉ s
  no_pct_query : ∀ kv ∈ u.query, 37 ∉ kv.1 ∧ ∀ v, kv.2 = some v → 37 ∉ v
  no_pct_frag : 37 ∉ u.fragment

theorem WFnaMin.toWFnq {env : Env} {u : URL} (hW : WFnaMin env u) : WFnq env false id u where
  scheme_ok := hW.scheme_ok
  host_nil := hW.host_nil
  user_nil := hW.user_nil
  pw_nil := hW.pw_nil
  parts_ne := hW.parts_ne
  quoted := quotedParts_min env hW.query_ok hW.no_pct_parts hW.no_pct_query hW.no_pct_frag

end C06
