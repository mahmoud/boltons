import BoltonsVerif.PyRt
import BoltonsVerif.C18.Model
/-
PyRtC18 — runtime library of `harness/py2lean_c18.py`, the source translator for the file-like classes of
`boltons/ioutils.py` (round 3c; rules: notes/SRCTIE.md §2c).  Trusted like `PyRt.lean`; validated against CPython
(`io.BytesIO`, `tempfile.TemporaryFile`, the real boltons classes) by `py2lean_c18.selftest`.

1. The SPEC-DECLARED ABSTRACT FILE.  What the classes hold in `_buffer` / `_fileobjs` is an object of the standard
   library.  It is NOT translated; it is the abstract random-access file of the C18 hand model, `C18.File β`
   (`data`, `pos`), whose operations (`File.readN`, `File.readAll`, `File.seek`, `File.write`, `File.readline`) are
   used as they are — no second description of a file exists — wrapped into the Python-level calling convention
   (`FileObj`): integer arguments as Python passes them, the exception class Python raises on a closed file or on a
   bad argument, and three flags the hand model leaves implicit:
     `closed`  — `close()` was called (every later operation: ValueError);
     `real`    — a `tempfile.TemporaryFile` (`io.BufferedRandom`) rather than an `io.BytesIO`;
     `stale`   — (real files) data written since the last `seek`/`flush`/`truncate` may still sit in the userspace
                 buffer, so `os.fstat(fd).st_size` need not be the length of the data.  The hand model assumes
                 `st_size = data.length` outright (`SBytes.len`); here the assumption is made only for a file
                 that is not `stale`, and the tie theorem of `len` shows that the source asks only then.
   Arguments outside what is specified (a seek target before the start of a real file, an unknown `whence` on a
   real file, `fstat` on a stale file, `getvalue` of a real file) give `PyExc.Other`: "not specified".  The tie
   theorems show that the translated methods do not get there from the states they speak about.

2. STATEMENTS.  A Python statement list is a `Stmt σ ρ := σ → Flow ρ × σ` over the record `σ` of all Python
   variables of the method (`self` = the object state); `Flow` says how control leaves the statement.
-/
deriving instance DecidableEq for Except

namespace PyRtC18
open C18 (File)

/-! ## 1. the abstract file object -/

structure FileObj (β : Type) where
  f : File β
  closed : Bool := false
  real : Bool := false
  stale : Bool := false
deriving Repr, DecidableEq

/-- result of an operation on an object: the value or the exception class, and the object afterwards -/
abbrev Res (ρ σ : Type) := Except PyExc ρ × σ

namespace FileObj
variable {β : Type}

/-- `io.BytesIO()` -/
def newMem : FileObj β := ⟨File.empty, false, false, false⟩
/-- `tempfile.TemporaryFile(dir=…)` (mode `w+b`) -/
def newReal : FileObj β := ⟨File.empty, false, true, false⟩

instance : Inhabited (FileObj β) := ⟨newMem⟩

/-- the attribute `closed` -/
def isClosed (o : FileObj β) : Res Bool (FileObj β) := (.ok o.closed, o)

/-- `isinstance(o, BytesIO)` -/
def isMem (o : FileObj β) : Res Bool (FileObj β) := (.ok (!o.real), o)

/-- `o.read(n)`: `n ≥ 0` → `File.readN`; `-1` → `File.readAll`; below `-1`: BytesIO reads all, a real file raises -/
def read (o : FileObj β) (n : Int) : Res (List β) (FileObj β) :=
  if o.closed then (.error .ValueError, o)
  else if n < 0 then
    (if n < -1 ∧ o.real then (.error .ValueError, o) else (.ok o.f.readAll.1, { o with f := o.f.readAll.2 }))
  else (.ok (o.f.readN n.toNat).1, { o with f := (o.f.readN n.toNat).2 })

/-- `o.read()` -/
def readAll (o : FileObj β) : Res (List β) (FileObj β) := read o (-1)

/-- `o.tell()` -/
def tell (o : FileObj β) : Res Int (FileObj β) :=
  if o.closed then (.error .ValueError, o) else (.ok (o.f.pos : Int), o)

/-- where `seek(p, whence)` goes: `none` = not a position -/
def target (o : FileObj β) (p whence : Int) : Option Int :=
  if whence = 0 then some p
  else if whence = 1 then some (o.f.pos + p)
  else if whence = 2 then some (o.f.data.length + p)
  else none

/-- `o.seek(p, whence)` → the new position.  Before the start: BytesIO raises for `whence = 0` and clamps to 0
    otherwise; a real file raises OSError (here: not specified).  A successful seek of a real file leaves no
    size-changing write behind in the buffer. -/
def seek (o : FileObj β) (p whence : Int) : Res Int (FileObj β) :=
  if o.closed then (.error .ValueError, o)
  else match target o p whence with
    | none => (.error (if o.real then .Other else .ValueError), o)
    | some t =>
      if t < 0 then
        (if o.real then (.error .Other, o)
         else if whence = 0 then (.error .ValueError, o)
         else (.ok 0, { o with f := o.f.seek 0 }))
      else (.ok t, { o with f := o.f.seek t.toNat, stale := false })

/-- `o.write(s)` → `len(s)`.  Writing NOTHING changes nothing, also past the end of the data (`File.write` would pad
    the gap there; inside the data it is the identity for `s = []`, `C18.File.write_nil`) -/
def write [Inhabited β] (o : FileObj β) (s : List β) : Res Int (FileObj β) :=
  if o.closed then (.error .ValueError, o)
  else if s.isEmpty then (.ok 0, o)
  else (.ok (s.length : Int), { o with f := o.f.write s, stale := o.real })

/-- `o.readline()` / `o.readline(n)`: a negative limit is no limit -/
def readline (nl : β → Bool) (o : FileObj β) (n : Option Int) : Res (List β) (FileObj β) :=
  if o.closed then (.error .ValueError, o)
  else
    let lim : Option Nat := match n with
      | none => none
      | some k => if k < 0 then none else some k.toNat
    (.ok (o.f.readline nl lim).1, { o with f := (o.f.readline nl lim).2 })

/-- `o.getvalue()` (BytesIO only) -/
def getvalue (o : FileObj β) : Res (List β) (FileObj β) :=
  if o.real then (.error .Other, o)
  else if o.closed then (.error .ValueError, o) else (.ok o.f.data, o)

/-- `o.close()` -/
def close (o : FileObj β) : Res Unit (FileObj β) := (.ok (), { o with closed := true, stale := false })

/-- `o.flush()` -/
def flush (o : FileObj β) : Res Unit (FileObj β) :=
  if o.closed then (.error .ValueError, o) else (.ok (), { o with stale := false })

/-- `o.truncate()` → the position; the data is cut at the position (a real file positioned past its end is
    extended with zero bytes, a BytesIO is left alone) -/
def truncate [Inhabited β] (o : FileObj β) : Res Int (FileObj β) :=
  if o.closed then (.error .ValueError, o)
  else (.ok (o.f.pos : Int),
        { o with f := ⟨if o.real then o.f.data.take o.f.pos ++ List.replicate (o.f.pos - o.f.data.length) default
                        else o.f.data.take o.f.pos, o.f.pos⟩, stale := false })

/-- the file descriptor `o.fileno()` returns is only ever handed to `os.fstat`; it carries no information -/
structure Fd where
deriving Repr, DecidableEq
instance : Inhabited Fd := ⟨⟨⟩⟩

/-- `o.fileno()` (real files) -/
def fileno (o : FileObj β) : Res Fd (FileObj β) :=
  if o.closed then (.error .ValueError, o)
  else if o.real then (.ok ⟨⟩, o) else (.error .Other, o)

/-- `os.fstat(fd).st_size` for the descriptor of `o`: the length of the data, provided nothing written is still
    buffered (`stale`) -/
def fstatSize (o : FileObj β) (_fd : Fd) : Res Int (FileObj β) :=
  if o.closed ∨ !o.real ∨ o.stale then (.error .Other, o) else (.ok (o.f.data.length : Int), o)

end FileObj

/-! ## 1b. the abstract codec file: `codecs.EncodedFile(stream, data_encoding='utf-8')`

What `SpooledStringIO` holds in `_buffer` is a `codecs.StreamRecoder` over a BytesIO / temporary file.  It is the hand
model's pair (stream `File CU`, transliterated `codecs.StreamReader` `C18.Reader`); the operations below ARE the
model's (`Reader.read`, `Reader.readline`, `File.write`, the `bseek` reset), under Python's calling convention.
`PyExc.Other` = not specified: a closed file (the methods check `closed` first), a decoding error (the model only
sets its `bad` flag; Python raises UnicodeDecodeError), `reader.read(size, chars)` with `size ≠ chars`, a sized
`readline` (the hand model has none), a negative seek, a write past the end of the stream. -/

deriving instance DecidableEq for C18.Reader

structure CFile where
  st : File C18.CU
  rd : C18.Reader := {}
  closed : Bool := false
  real : Bool := false
deriving Repr, DecidableEq

namespace CFile
open C18 (Reader CU)

/-- `EncodedFile(BytesIO(), data_encoding='utf-8')` -/
def newMem : CFile := ⟨File.empty, {}, false, false⟩
/-- `EncodedFile(TemporaryFile(dir=…), data_encoding='utf-8')` -/
def newReal : CFile := ⟨File.empty, {}, false, true⟩
instance : Inhabited CFile := ⟨newMem⟩

def isClosed (o : CFile) : Res Bool CFile := (.ok o.closed, o)
/-- `isinstance(o.stream, BytesIO)` -/
def isMem (o : CFile) : Res Bool CFile := (.ok (!o.real), o)

/-- `o.reader.read(size, chars)` with `size = chars`: `Reader.read` (`none` for a negative size) -/
def read (o : CFile) (size chars : Int) : Res (List Char) CFile :=
  if o.closed ∨ size ≠ chars then (.error .Other, o)
  else
    let r := Reader.read o.st o.rd (if size < 0 then none else some size.toNat)
    if r.2.2.bad then (.error .Other, { o with st := r.2.1, rd := r.2.2 })
    else (.ok r.1, { o with st := r.2.1, rd := r.2.2 })

/-- `o.tell()`: the position of the stream -/
def tell (o : CFile) : Res Int CFile :=
  if o.closed then (.error .ValueError, o) else (.ok (o.st.pos : Int), o)

/-- `o.write(bytes)`: the bytes go to the stream at its position (decoding and re-encoding valid UTF-8 is the identity);
    the reader's buffers are not touched; writing nothing changes nothing -/
def write (o : CFile) (b : List CU) : Res Unit CFile :=
  if o.closed then (.error .ValueError, o)
  else if b.isEmpty then (.ok (), o)
  else if o.st.data.length < o.st.pos then (.error .Other, o)     -- a gap: Python pads with NUL bytes, `File.write` with `default`
  else (.ok (), { o with st := o.st.write b })

/-- `o.seek(p)`: raw seek of the stream, the codec buffers are reset (`SStr.bseek`) -/
def seek (o : CFile) (p : Int) : Res Unit CFile :=
  if o.closed then (.error .ValueError, o)
  else if p < 0 then (.error .Other, o)
  else (.ok (), { o with st := o.st.seek p.toNat, rd := Reader.reset })

/-- `o.readline(length).decode('utf-8')`: one line of the codec reader (`Reader.readline`), for `length = None` -/
def readlineText (o : CFile) (length : Option Int) : Res (List Char) CFile :=
  if o.closed ∨ length.isSome then (.error .Other, o)
  else
    let r := Reader.readline o.st o.rd
    if r.2.2.bad then (.error .Other, { o with st := r.2.1, rd := r.2.2 })
    else (.ok r.1, { o with st := r.2.1, rd := r.2.2 })

/-- `o.getvalue()` (a BytesIO underneath) -/
def getvalue (o : CFile) : Res (List CU) CFile :=
  if o.real then (.error .Other, o)
  else if o.closed then (.error .ValueError, o) else (.ok o.st.data, o)

def close (o : CFile) : Res Unit CFile := (.ok (), { o with closed := true })

end CFile

/-- `x and x[-1] not in '<chars>'` (evaluated only for a non-empty `x`) -/
def lastNotIn (x : List Char) (cs : List Char) : Bool :=
  match x.getLast? with
  | some c => !cs.contains c
  | none => false

/-- newline test of `io.BytesIO.readline` -/
def isNL : UInt8 → Bool := C18.isNL

/-- an operation on member `i` of a tuple of file objects (`fs[i].op(…)`; negative `i` counts from the end) -/
def atFile {β ρ : Type} (fs : List (FileObj β)) (i : Int) (op : FileObj β → Res ρ (FileObj β)) :
    Res ρ (List (FileObj β)) :=
  if PyRt.normIdx fs i < 0 then (.error .IndexError, fs)
  else match fs[(PyRt.normIdx fs i).toNat]? with
    | none => (.error .IndexError, fs)
    | some o => ((op o).1, fs.set (PyRt.normIdx fs i).toNat (op o).2)

/-- `[f.op(…) for f in fs]` / `for f in fs: f.op(…)`: the members in order; an exception stops the walk, the members
    visited so far (and the raising one) keep what the operation did to them -/
def forEachFile {β ρ : Type} (op : FileObj β → Res ρ (FileObj β)) : List (FileObj β) → Res (List ρ) (List (FileObj β))
  | [] => (.ok [], [])
  | o :: os =>
    match op o with
    | (.error e, o1) => (.error e, o1 :: os)
    | (.ok r, o1) =>
      match forEachFile op os with
      | (.error e, os1) => (.error e, o1 :: os1)
      | (.ok rs, os1) => (.ok (r :: rs), o1 :: os1)

/-- `sep.join(parts)` on sequences of units -/
def join {β : Type} (sep : List β) : List (List β) → List β
  | [] => []
  | [p] => p
  | p :: q :: ps => p ++ sep ++ join sep (q :: ps)

/-- truth value of an `int` that may be `None` -/
def truthyOptInt : Option Int → Bool
  | none => false
  | some n => n != 0

/-! ## 2. statements -/

inductive Flow (ρ : Type) where
  | next                  -- fell through to the next statement
  | brk | cont            -- `break` / `continue`
  | ret (r : ρ)           -- `return r`
  | exc (e : PyExc)       -- an exception is propagating
deriving Repr

abbrev Stmt (σ ρ : Type) := σ → Flow ρ × σ

variable {σ ρ α : Type}

def skip : Stmt σ ρ := fun s => (.next, s)

/-- `a; b` -/
def seq (a b : Stmt σ ρ) : Stmt σ ρ := fun s =>
  match a s with
  | (.next, s1) => b s1
  | (fl, s1) => (fl, s1)

/-- a state update that cannot raise (assignment of a pure expression) -/
def assign (f : σ → σ) : Stmt σ ρ := fun s => (.next, f s)

/-- `if c: a else: b` (the condition is pure; what can raise in it was bound before by `bindE`) -/
def cond (c : σ → Bool) (a b : Stmt σ ρ) : Stmt σ ρ := fun s => if c s then a s else b s

def ret (e : σ → ρ) : Stmt σ ρ := fun s => (.ret (e s), s)
def raise (e : PyExc) : Stmt σ ρ := fun s => (.exc e, s)
def brk : Stmt σ ρ := fun s => (.brk, s)
def cont : Stmt σ ρ := fun s => (.cont, s)

/-- run an operation that may raise / change the state, hand its value to the rest of the statement -/
def bindE (m : σ → Except PyExc α × σ) (k : α → Stmt σ ρ) : Stmt σ ρ := fun s =>
  match m s with
  | (.ok v, s1) => k v s1
  | (.error e, s1) => (.exc e, s1)

/-- `while c: body` with an explicit bound on the number of tests of the condition -/
def whileLoop (c : σ → Bool) (body : Stmt σ ρ) : Nat → Stmt σ ρ
  | 0 => fun s => (.exc .OutOfFuel, s)
  | n + 1 => fun s =>
    if c s then
      match body s with
      | (.next, s1) => whileLoop c body n s1
      | (.cont, s1) => whileLoop c body n s1
      | (.brk, s1) => (.next, s1)
      | (fl, s1) => (fl, s1)
    else (.next, s)

/-- the result of a method body (every body ends in a `return`; falling through cannot happen) -/
def finish {τ : Type} (proj : σ → τ) (r : Flow ρ × σ) : Except PyExc ρ × τ :=
  match r with
  | (.ret v, s) => (.ok v, proj s)
  | (.exc e, s) => (.error e, proj s)
  | (_, s) => (.error .Other, proj s)

end PyRtC18
