import BoltonsVerif.C13.Model
/-
C13 — the exec namespace of the function `update_wrapper` compiles, and the name its body calls.

`Model.lean` takes for granted that the body `return _call(<invocation>)` of the built function
reaches the user's wrapper.  In the code that depends on NAMES: the body is compiled inside
`execdict = {call_name: wrapper, '_func': func}`; executing the `def` binds the function's own
name in that same dict; and inside the body a parameter of the same name shadows the global.
`update_wrapper` therefore picks `call_name` by the loop

    call_name = '_call'
    while call_name in fb.get_arg_names() + (fb.varargs, fb.varkw, fb.name):
        call_name = '_' + call_name

This file models exactly that: the spellings `_call`, `__call`, `___call`, … are `cn 0, cn 1, …`
for an injective `cn`; `pickCall` is the loop (it needs at most `taken.length` rounds - theorem
`pickCall_fresh`, by the pigeonhole principle - so the fuel is not a restriction); `resolve` is
Python's name lookup for the callee (parameters first, then the exec namespace after the `def`
statement has run).  `Props.lean`: `callee_reaches_wrapper`.
-/
namespace C13

/-- what the name in callee position of the generated body evaluates to -/
inductive Callee where
  | userWrapper          -- the wrapper handed to `update_wrapper`: what `callWrapper` (`Model.lean`) assumes
  | argument             -- a parameter of the same name shadows it: the VALUE of that argument is called
  | self                 -- the `def` re-bound the name: the new function calls itself
  | wrappedFunc          -- the `_func` entry
  | unbound              -- NameError
deriving DecidableEq, Repr

/-- the loop: the first `cn j`, `j ≥ k`, that is not taken (at most `fuel` rounds) -/
def pickFrom (cn : Nat → Name) (taken : List Name) : Nat → Nat → Nat
  | 0, k => k
  | fuel + 1, k => if taken.contains (cn k) then pickFrom cn taken fuel (k + 1) else k

/-- the names the loop avoids: `fb.get_arg_names() + (fb.varargs, fb.varkw, fb.name)` -/
def FB.takenNames (fb : FB) : List Name :=
  fb.args ++ fb.kwonlyargs ++ fb.varargs.toList ++ fb.varkw.toList ++ [fb.name]

def pickCall (cn : Nat → Name) (taken : List Name) : Name :=
  cn (pickFrom cn taken taken.length 0)

/-- the exec namespace once the compiled `def` has run: `{call_name: wrapper, '_func': func}`
    (a later key wins), then the function's own name is bound -/
def execNamespace (callName funcKey fname : Name) : List (Name × Callee) :=
  dset fname Callee.self (dset funcKey Callee.wrappedFunc [(callName, Callee.userWrapper)])

/-- Python's lookup of the callee inside the body: a parameter (local) first, then the globals
    of the function = the exec namespace -/
def resolve (params : List Name) (callName funcKey fname : Name) : Callee :=
  if params.contains callName then .argument
  else (get? callName (execNamespace callName funcKey fname)).getD .unbound

/-- the callee of the function `update_wrapper` builds from the builder state `fb` -/
def FB.callee (fb : FB) (cn : Nat → Name) (funcKey : Name) : Callee :=
  resolve (fb.args ++ fb.varargs.toList ++ fb.kwonlyargs ++ fb.varkw.toList)
    (pickCall cn fb.takenNames) funcKey fb.name

/-- the callee if the name were always `_call` -/
def FB.calleeNaive (fb : FB) (cn : Nat → Name) (funcKey : Name) : Callee :=
  resolve (fb.args ++ fb.varargs.toList ++ fb.kwonlyargs ++ fb.varkw.toList) (cn 0) funcKey fb.name

theorem mem_takenNames {fb : FB} {c : Name} :
    c ∈ fb.takenNames ↔ c ∈ fb.args ++ fb.varargs.toList ++ fb.kwonlyargs ++ fb.varkw.toList ∨ c = fb.name := by
  simp only [FB.takenNames, List.mem_append, List.mem_singleton]
  rw [or_right_comm (a := c ∈ fb.args)]

theorem exists_not_mem_of_length_lt (cs : List Name) (hn : cs.Nodup) (taken : List Name)
    (hl : taken.length < cs.length) : ∃ c ∈ cs, c ∉ taken :=
  Classical.byContradiction fun hno => Nat.not_le_of_lt hl
    (hn.length_le_of_subset fun c hc => Classical.not_not.mp fun h => hno ⟨c, hc, h⟩)

/-- the last candidate `k + fuel` counts: after `fuel` rounds it is returned untested -/
theorem pickFrom_spec (cn : Nat → Name) (taken : List Name) (fuel k : Nat)
    (h : ∃ j, k ≤ j ∧ j ≤ k + fuel ∧ cn j ∉ taken) :
    cn (pickFrom cn taken fuel k) ∉ taken ∧
      ∀ i, k ≤ i → i < pickFrom cn taken fuel k → cn i ∈ taken := by
  induction fuel generalizing k with
  | zero =>
    obtain ⟨j, h1, h2, h3⟩ := h
    have : j = k := by omega
    exact ⟨this ▸ h3, fun i hi1 hi2 => absurd hi2 (by simp only [pickFrom]; omega)⟩
  | succ fuel ih =>
    unfold pickFrom
    by_cases hk : taken.contains (cn k) = true
    · rw [if_pos hk]
      have hk' : cn k ∈ taken := by simpa using hk
      obtain ⟨j, h1, h2, h3⟩ := h
      have hj : j ≠ k := fun e => h3 (e ▸ hk')
      obtain ⟨r1, r2⟩ := ih (k + 1) ⟨j, by omega, by omega, h3⟩
      refine ⟨r1, fun i hi1 hi2 => ?_⟩
      by_cases hik : i = k
      · exact hik ▸ hk'
      · exact r2 i (by omega) hi2
    · rw [if_neg hk]
      exact ⟨by simpa using hk, fun i hi1 hi2 => by omega⟩

/-- the loop of `update_wrapper` ends, within `taken.length` rounds, at a name that is not taken (pigeonhole) -/
theorem pickCall_fresh (cn : Nat → Name) (hinj : ∀ i j, cn i = cn j → i = j) (taken : List Name) :
    pickCall cn taken ∉ taken := by
  have hnodup : ((List.range (taken.length + 1)).map cn).Nodup := by
    unfold List.Nodup
    rw [List.pairwise_map]
    exact (List.nodup_range (n := taken.length + 1)).imp fun {a b} hab hc => hab (hinj a b hc)
  obtain ⟨c, hc, hct⟩ := exists_not_mem_of_length_lt _ hnodup taken (by simp)
  obtain ⟨j, hj, rfl⟩ := List.mem_map.mp hc
  have hj' : j < taken.length + 1 := List.mem_range.mp hj
  exact (pickFrom_spec cn taken taken.length 0 ⟨j, by omega, by omega, hct⟩).1

theorem resolve_fresh {params : List Name} {callName funcKey fname : Name}
    (hp : callName ∉ params) (hf : callName ≠ fname) (hk : callName ≠ funcKey) :
    resolve params callName funcKey fname = .userWrapper := by
  unfold resolve execNamespace
  have : params.contains callName = false := by simpa using hp
  rw [this]
  simp only [Bool.false_eq_true, if_false]
  have h1 : dset funcKey Callee.wrappedFunc [(callName, Callee.userWrapper)] =
      [(callName, Callee.userWrapper), (funcKey, Callee.wrappedFunc)] := by
    simp only [dset, if_neg hk]
  rw [h1]
  simp only [dset, if_neg hf]
  by_cases hfk : funcKey = fname
  · simp only [if_pos hfk, get?]; rfl
  · simp only [if_neg hfk, get?]; rfl

end C13
