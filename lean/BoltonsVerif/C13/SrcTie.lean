import BoltonsVerif.C13.Props
import BoltonsVerif.Generated.Src_funcutils_fb
import BoltonsVerif.PyRtLemmas
/-
C13 — source-translator tie: `boltons.funcutils.FunctionBuilder`.

`Generated/Src_funcutils_fb.lean` is regenerated from `boltons/funcutils.py` on every run
(harness/py2lean.py with the extension module harness/py2lean_c13.py; raising mode, object state
`FunctionBuilder.St κ ν`).  The theorems below state that the generated methods, on a state that stands
for a builder state `fb` of the hand model (`Rep st fb`), compute what `Model.lean` says
(`FB.defaultsDict`, `FB.argNames`, `FB.addArg`, `FB.removeArg`), including WHICH exception leaves the
method (`MissingArgument` / `ExistingArgument` = `ValueError` + the tag in `exc_sub`) and that a failed
call leaves the builder as it was.

Proof style: the generated definitions are unfolded by name only (`simp only [<generated names>]`); what
remains is rewritten with specification lemmas about the runtime operations (`find_eq_get?`,
`set_eq_dset`, `update_eq_dupdate`, `erase_eq_dpop`, `PyRt.Dict.ofPairs_of_nodup`, `dictSelect_eq`, …) and closed by
case analysis on the tests of the model (`by_cases`, `split`) - no step refers to the statement order of the source.
-/
namespace C13
open Src.funcutils

/-- the object state of the translated class at the model's item types -/
abbrev SrcFB := FunctionBuilder.St Name Val

/-- `st` stands for the model builder state `fb`: the same names / defaults / dicts; `defaults` may be `None` or an
    empty tuple where the model has `[]`; no user-defined exception is in flight -/
structure Rep (st : SrcFB) (fb : FB) : Prop where
  name : st.name = fb.name
  args : st.args = fb.args
  defaults : PyRtC13.orEmpty st.defaults = fb.defaults
  kwonlyargs : st.kwonlyargs = fb.kwonlyargs
  kwonlydefaults : st.kwonlydefaults = fb.kwonlydefaults
  varargs : st.varargs = fb.varargs
  varkw : st.varkw = fb.varkw
  tag : st.exc_sub = 0

/-- the state `from_func` / a history of mutators leaves: `defaults` is a tuple, or `None` when `asNone` and there
    are none -/
def conc (fb : FB) (asNone : Bool := false) : SrcFB :=
  { name := fb.name, args := fb.args,
    defaults := if asNone && fb.defaults.isEmpty then none else some fb.defaults,
    kwonlyargs := fb.kwonlyargs, kwonlydefaults := fb.kwonlydefaults, varargs := fb.varargs, varkw := fb.varkw,
    exc_sub := 0 }

theorem rep_conc (fb : FB) (b : Bool) : Rep (conc fb b) fb := by
  refine ⟨rfl, rfl, ?_, rfl, rfl, rfl, rfl, rfl⟩
  unfold conc PyRtC13.orEmpty
  cases b <;> cases hd : fb.defaults <;> simp

section bridge
variable {α : Type}

theorem find_eq_get? (d : List (Name × α)) (k : Name) : PyRt.Dict.find d k = get? k d := by
  induction d with
  | nil => rfl
  | cons p r ih => obtain ⟨k', v⟩ := p; simp only [PyRt.Dict.find, get?, ih]

theorem set_eq_dset (d : List (Name × α)) (k : Name) (v : α) : PyRt.Dict.set d k v = dset k v d := by
  induction d with
  | nil => rfl
  | cons p r ih =>
    obtain ⟨k', v'⟩ := p
    simp only [PyRt.Dict.set, dset, ih]
    by_cases e : k' = k <;> simp [e]

theorem update_eq_dupdate (d o : List (Name × α)) : PyRt.Dict.update d o = dupdate d o := by
  unfold PyRt.Dict.update dupdate
  simp only [set_eq_dset]

theorem erase_eq_dpop {d : List (Name × α)} (hn : (d.map Prod.fst).Nodup) (k : Name) :
    PyRt.Dict.erase d k = dpop k d := by
  rw [dpop_eq_filter hn]
  unfold PyRt.Dict.erase
  apply List.filter_congr
  intro p _
  cases h : (p.1 == k) <;> simp_all [keyNe]

theorem dupdate_append_of_nodup (d o : List (Name × α)) (hn : ((d ++ o).map Prod.fst).Nodup) :
    dupdate d o = d ++ o :=
  (update_eq_dupdate d o).symm.trans (PyRt.Dict.update_of_nodup o d hn)

theorem dict_contains_eq (d : List (Name × α)) (k : Name) : PyRt.Dict.contains d k = (get? k d).isSome := by
  unfold PyRt.Dict.contains; rw [find_eq_get?]

end bridge

theorem keys_zipR_nodup {fb : FB} (wf : WfFB fb) : ((zipR fb.args fb.defaults).map Prod.fst).Nodup := by
  obtain ⟨N, D, hargs, hdfl⟩ := split_defaults fb.args fb.defaults wf.len
  rw [hargs, hdfl, zipR_split]
  have h1 : fb.args.Nodup := nodup_of_append_left wf.nodup
  rw [hargs] at h1
  exact nodup_of_append_right h1

theorem keys_defaultsDict_nodup {fb : FB} (wf : WfFB fb) : (fb.defaultsDict.map Prod.fst).Nodup :=
  keys_dupdate_nodup _ _ (keys_zipR_nodup wf)

/-- `FunctionBuilder.get_defaults_dict()` returns the model's `defaultsDict`, item for item, in dict order -/
theorem src_get_defaults_dict_eq_model (st : SrcFB) (fb : FB) (h : Rep st fb) (wf : WfFB fb) :
    FunctionBuilder.get_defaults_dict st = .ok fb.defaultsDict := by
  have hz := PyRt.Dict.ofPairs_of_nodup _ (keys_zipR_nodup wf)
  simp only [FunctionBuilder.get_defaults_dict, FunctionBuilder.get_defaults_dict.body, PyRtC13.reversed, PyRtC13.zip,
    h.args, h.defaults, h.kwonlydefaults]
  have hzr : (fb.args.reverse.zip fb.defaults.reverse).reverse = zipR fb.args fb.defaults := rfl
  simp only [hzr, hz, update_eq_dupdate, FB.defaultsDict]
  split
  · rfl
  · rename_i hnil
    rw [Classical.not_not.mp hnil]; rfl

example : FunctionBuilder.get_defaults_dict
    (conc ⟨7, none, none, [1, 2, 3], none, none, [20, 30], [4], [(4, 40)], [], none, false⟩) =
    .ok [(2, 20), (3, 30), (4, 40)] := by rfl

theorem src_get_arg_names_eq_model (st : SrcFB) (fb : FB) (h : Rep st fb) (wf : WfFB fb) (b : Bool) :
    FunctionBuilder.get_arg_names st b = .ok (fb.argNames b) := by
  simp only [FunctionBuilder.get_arg_names, FunctionBuilder.get_arg_names.body,
    src_get_defaults_dict_eq_model st fb h wf, h.args, h.kwonlyargs, FB.argNames, dict_contains_eq]
  cases b
  · simp
  · simp only [if_true, List.map_id', Except.ok.injEq]
    apply List.filter_congr
    intro a _
    cases get? a fb.defaultsDict <;> simp

example : FunctionBuilder.get_arg_names
    (conc ⟨7, none, none, [1, 2, 3], none, none, [20, 30], [4, 5], [(4, 40)], [], none, false⟩) true =
    .ok [1, 5] := by rfl

/-- how the outcome of a mutator is read: a normal return leaves a state that stands for the model's new builder;
    `ExistingArgument` / `MissingArgument` are `ValueError` with tag 2 / 1 in `exc_sub`, and the builder is otherwise
    as it was -/
def Ret (st : SrcFB) : Except Err FB → Except PyExc Unit × SrcFB → Prop
  | .ok fb1, (.ok (), st1) => Rep st1 fb1
  | .error .missingArgument, (.error e, st1) => e = PyExc.ValueError ∧ st1 = { st with exc_sub := 1 }
  | .error .existingArgument, (.error e, st1) => e = PyExc.ValueError ∧ st1 = { st with exc_sub := 2 }
  | _, _ => False

theorem ret_cases {st : SrcFB} {r : Except Err FB} {res : Except PyExc Unit × SrcFB} (h : Ret st r res) :
    (∃ fb1 st1, r = .ok fb1 ∧ res = (.ok (), st1) ∧ Rep st1 fb1) ∨
    (r = .error .missingArgument ∧ res = (.error PyExc.ValueError, { st with exc_sub := 1 })) ∨
    (r = .error .existingArgument ∧ res = (.error PyExc.ValueError, { st with exc_sub := 2 })) := by
  obtain ⟨o, st1⟩ := res
  cases r with
  | ok fb1 =>
    cases o with
    | ok u => exact Or.inl ⟨fb1, st1, rfl, rfl, h⟩
    | error e => exact h.elim
  | error e =>
    cases o with
    | ok u => cases e <;> exact h.elim
    | error e2 =>
      cases e with
      | missingArgument => exact Or.inr (Or.inl ⟨rfl, by rw [h.1, h.2]⟩)
      | existingArgument => exact Or.inr (Or.inr ⟨rfl, by rw [h.1, h.2]⟩)
      | syntaxError => exact h.elim

theorem listInsert_len_sub {α β : Type} (l : List α) (m : List β) (x : α) (h : m.length ≤ l.length) :
    PyRtC13.listInsert l (PyRt.len l - PyRt.len m) x =
      l.take (l.length - m.length) ++ x :: l.drop (l.length - m.length) := by
  have hp : PyRtC13.insertPos l (PyRt.len l - PyRt.len m) = l.length - m.length := by
    unfold PyRtC13.insertPos PyRt.len
    rw [if_neg (by omega)]
    omega
  unfold PyRtC13.listInsert
  rw [hp]

/-- `add_arg(arg_name, default, kwonly)` = the model's `addArg`; `ExistingArgument` exactly when the model says so -/
theorem src_add_arg_eq_model (st : SrcFB) (fb : FB) (h : Rep st fb) (wf : WfFB fb) (z : Name) (d : Option Val)
    (k : Bool) : Ret st (fb.addArg z d k) (FunctionBuilder.add_arg st z d k) := by
  obtain ⟨nm, args, dfl, kwo, kwd, va, vk, tag⟩ := st
  obtain ⟨hname, hargs, hdfl, hkwo, hkwd, hva, hvk, htag⟩ := h
  simp only at hname hargs hdfl hkwo hkwd hva hvk htag
  subst hargs hkwo hkwd htag
  have hlen := wf.len
  rw [← hdfl] at hlen
  simp only [FunctionBuilder.add_arg, FunctionBuilder.add_arg.body, FB.addArg, PyRt.contains_iff]
  by_cases ha : z ∈ fb.args
  · simp [ha, Ret]
  · by_cases hk : z ∈ fb.kwonlyargs
    · simp [ha, hk, Ret]
    · cases k <;> cases d <;>
        simp only [ha, hk, if_false, if_true, Bool.false_eq_true, not_false_eq_true, not_true_eq_false, ne_eq,
          reduceCtorEq, Ret, listInsert_len_sub _ _ _ hlen, PyRt.unwrap, Option.getD_some, set_eq_dset] <;>
        refine { name := hname, varargs := hva, varkw := hvk, tag := rfl, args := ?_, defaults := ?_, kwonlyargs := ?_,
                 kwonlydefaults := ?_ } <;> simp [← hdfl, PyRtC13.orEmpty]

example : (FunctionBuilder.add_arg
    (conc ⟨7, none, none, [1, 2, 3], none, none, [20, 30], [4], [], [], none, false⟩) 9 none false).2.args =
    [1, 9, 2, 3] := by rfl
example : (FunctionBuilder.add_arg
    (conc ⟨7, none, none, [1, 2, 3], none, none, [20, 30], [4], [], [], none, false⟩) 4 none false) =
    (.error PyExc.ValueError,
      { conc ⟨7, none, none, [1, 2, 3], none, none, [20, 30], [4], [], [], none, false⟩ with exc_sub := 2 }) := by rfl

theorem dictSelect_eq {α : Type} (d : List (Name × α)) (l : List Name) :
    PyRtC13.dictSelect d l = l.filterMap (fun a => get? a d) := by
  unfold PyRtC13.dictSelect
  congr 1
  funext a
  exact find_eq_get? d a

/-- `remove_arg(arg_name)` = the model's `removeArg`; `MissingArgument` exactly when the name is neither a positional
    nor a keyword-only argument, and then nothing has changed -/
theorem src_remove_arg_eq_model (st : SrcFB) (fb : FB) (h : Rep st fb) (wf : WfFB fb) (x : Name) :
    Ret st (fb.removeArg x) (FunctionBuilder.remove_arg st x) := by
  have hd := src_get_defaults_dict_eq_model st fb h wf
  have hdd := erase_eq_dpop (keys_defaultsDict_nodup wf) x
  have hkd := erase_eq_dpop wf.kwdNodup x
  simp only [FunctionBuilder.remove_arg, FunctionBuilder.remove_arg.body, hd, FB.removeArg, PyRtC13.listRemove?,
    PyRtC13.dictDiscard, dictSelect_eq, h.args, h.kwonlyargs, h.kwonlydefaults, hdd, hkd]
  by_cases ha : x ∈ fb.args
  · simp only [ha, if_true, Ret]
    constructor <;> first | exact h.name | exact h.varargs | exact h.varkw | exact h.tag | rfl
  · by_cases hk : x ∈ fb.kwonlyargs
    · simp only [ha, hk, if_true, if_false, Ret]
      constructor <;> first | exact h.name | exact h.varargs | exact h.varkw | exact h.defaults | rfl
    · simp only [ha, hk, if_false, Ret, reduceIte, reduceCtorEq]
      obtain ⟨nm, args, dfl, kwo, kwd, va, vk, tag⟩ := st
      obtain ⟨_, hargs, _, hkwo, hkwd, _, _, _⟩ := h
      simp only at hargs hkwo hkwd
      subst hargs hkwo hkwd
      first | exact ⟨trivial, rfl⟩ | exact ⟨rfl, rfl⟩ | simp

example : (FunctionBuilder.remove_arg
    (conc ⟨7, none, none, [1, 2, 3], none, none, [20, 30], [4], [(4, 40)], [], none, false⟩) 2) =
    (.ok (), conc ⟨7, none, none, [1, 3], none, none, [30], [4], [(4, 40)], [], none, false⟩) := by rfl
example : (FunctionBuilder.remove_arg
    (conc ⟨7, none, none, [1, 2, 3], none, none, [20, 30], [4], [(4, 40)], [], none, false⟩) 8) =
    (.error PyExc.ValueError,
      { conc ⟨7, none, none, [1, 2, 3], none, none, [20, 30], [4], [(4, 40)], [], none, false⟩ with exc_sub := 1 }) := by
  rfl

theorem remove_cases (st : SrcFB) (fb : FB) (h : Rep st fb) (wf : WfFB fb) (x : Name) :
    (∃ fb1 st1, fb.removeArg x = .ok fb1 ∧ FunctionBuilder.remove_arg st x = (.ok (), st1) ∧ Rep st1 fb1 ∧ WfFB fb1) ∨
    (fb.removeArg x = .error .missingArgument ∧
      FunctionBuilder.remove_arg st x = (.error PyExc.ValueError, { st with exc_sub := 1 })) := by
  rcases ret_cases (src_remove_arg_eq_model st fb h wf x) with ⟨fb1, st1, hm, hs, h1⟩ | ⟨hm, hs⟩ | ⟨hm, _⟩
  · exact Or.inl ⟨fb1, st1, hm, hs, h1, (step_spec wf (.remove x) hm).1⟩
  · exact Or.inr ⟨hm, hs⟩
  · cases removeArg_error hm

theorem add_cases (st : SrcFB) (fb : FB) (h : Rep st fb) (wf : WfFB fb) (z : Name) (d : Option Val) :
    (∃ fb1 st1, fb.addArg z d = .ok fb1 ∧ FunctionBuilder.add_arg st z d false = (.ok (), st1) ∧ Rep st1 fb1 ∧
      WfFB fb1) ∨
    (fb.addArg z d = .error .existingArgument ∧
      FunctionBuilder.add_arg st z d false = (.error PyExc.ValueError, { st with exc_sub := 2 })) := by
  rcases ret_cases (src_add_arg_eq_model st fb h wf z d false) with ⟨fb1, st1, hm, hs, h1⟩ | ⟨hm, _⟩ | ⟨hm, hs⟩
  · exact Or.inl ⟨fb1, st1, hm, hs, h1, (step_spec wf (.add z d false) hm).1⟩
  · cases addArg_error hm
  · exact Or.inr ⟨hm, hs⟩

/-- `loc1` / `loc2` are the loop variables `arg` / `default`, `loc3` is `call_name` -/
abbrev UW := FunctionBuilder.update_wrapper_core.St Name Val

section region
variable [nm : PyRtC13.Names Name]

/-- a translated loop takes `k` (what follows the loop), `kb` (what follows a `break`) and `kexc` (the handler an escaping
    exception reaches); so do `expect_loop` and `call_loop` -/
theorem inject_loop (k kb : UW → Except PyExc Name × SrcFB) (kexc : PyExc → UW → Except PyExc Name × SrcFB)
    (inj : List Name) : ∀ (s : UW) (fb : FB), Rep s.self fb → WfFB fb →
    (∃ fb1 s1, injectAll s.inject_to_varkw fb inj = .ok fb1 ∧
        FunctionBuilder.update_wrapper_core.loop1 k kb kexc inj s = k s1 ∧ Rep s1.self fb1 ∧ WfFB fb1 ∧
        s1.expected_items = s.expected_items) ∨
    (∃ s1, injectAll s.inject_to_varkw fb inj = .error .missingArgument ∧
        FunctionBuilder.update_wrapper_core.loop1 k kb kexc inj s = kexc PyExc.ValueError s1 ∧ s1.self.exc_sub = 1) := by
  induction inj with
  | nil =>
    intro s fb h wf
    exact Or.inl ⟨fb, s, rfl, rfl, h, wf, rfl⟩
  | cons x xs ih =>
    intro s fb h wf
    rcases remove_cases s.self fb h wf x with ⟨fb1, st1, hm, hs, h1, wf1⟩ | ⟨hm, hs⟩
    · -- both sides go on with the rest of the list from the new builder
      have e2 : FunctionBuilder.update_wrapper_core.loop1 k kb kexc (x :: xs) s =
          FunctionBuilder.update_wrapper_core.loop1 k kb kexc xs { s with loc1 := x, self := st1 } := by
        simp only [FunctionBuilder.update_wrapper_core.loop1, hs]
      rw [injectAll_cons_ok xs hm, e2]
      exact ih { s with loc1 := x, self := st1 } fb1 h1 wf1
    · -- `MissingArgument`: the handler decides by `inject_to_varkw` and `fb.varkw`; every case is evaluated on
      -- literal values, so the shape of the handler's tests does not matter
      obtain ⟨⟨nm0, ar, df, ko, kd, va, vk, tg⟩, injd, expd, itv, l1, l2, l3⟩ := s
      simp only at h hs ih ⊢
      have hvk : vk = fb.varkw := h.varkw
      cases itv <;> cases vk
      case true.some v =>
        have h0 : Rep (⟨nm0, ar, df, ko, kd, va, some v, 0⟩ : SrcFB) fb :=
          ⟨h.name, h.args, h.defaults, h.kwonlyargs, h.kwonlydefaults, h.varargs, h.varkw, rfl⟩
        have e1 : injectAll true fb (x :: xs) = injectAll true fb xs := by
          rw [injectAll_cons_error xs hm, ← hvk]; rfl
        have e2 : FunctionBuilder.update_wrapper_core.loop1 k kb kexc (x :: xs)
              ⟨⟨nm0, ar, df, ko, kd, va, some v, tg⟩, injd, expd, true, l1, l2, l3⟩ =
            FunctionBuilder.update_wrapper_core.loop1 k kb kexc xs
              ⟨⟨nm0, ar, df, ko, kd, va, some v, 0⟩, injd, expd, true, x, l2, l3⟩ := by
          simp only [FunctionBuilder.update_wrapper_core.loop1, hs, ne_eq, reduceCtorEq, not_false_eq_true,
            and_self, not_true_eq_false, if_true, if_false, reduceIte]
        rw [e1, e2]
        exact ih ⟨⟨nm0, ar, df, ko, kd, va, some v, 0⟩, injd, expd, true, x, l2, l3⟩ fb h0 wf
      all_goals
        right
        refine ⟨?_, ?h1, ?h2, ?h3⟩
        case h2 =>
          simp only [FunctionBuilder.update_wrapper_core.loop1, hs, ne_eq, reduceCtorEq, not_false_eq_true,
            not_true_eq_false, and_self, and_false, false_and, and_true, true_and, Bool.false_eq_true, if_true, if_false,
            reduceIte]
          rfl
        case h1 => rw [injectAll_cons_error xs hm, ← hvk]; rfl
        case h3 => rfl

theorem expect_loop (k kb : UW → Except PyExc Name × SrcFB) (kexc : PyExc → UW → Except PyExc Name × SrcFB)
    (exp : List (Name × Option Val)) : ∀ (s : UW) (fb : FB), Rep s.self fb → WfFB fb →
    (∃ fb1 s1, expectAll fb exp = .ok fb1 ∧
        FunctionBuilder.update_wrapper_core.loop2 k kb kexc exp s = k s1 ∧ Rep s1.self fb1 ∧ WfFB fb1) ∨
    (∃ s1, expectAll fb exp = .error .existingArgument ∧
        FunctionBuilder.update_wrapper_core.loop2 k kb kexc exp s = kexc PyExc.ValueError s1 ∧ s1.self.exc_sub = 2) := by
  induction exp with
  | nil =>
    intro s fb h wf
    exact Or.inl ⟨fb, s, rfl, rfl, h, wf⟩
  | cons p ps ih =>
    obtain ⟨z, d⟩ := p
    intro s fb h wf
    rcases add_cases s.self fb h wf z d with ⟨fb1, st1, hm, hs, h1, wf1⟩ | ⟨hm, hs⟩
    · have e2 : FunctionBuilder.update_wrapper_core.loop2 k kb kexc ((z, d) :: ps) s =
          FunctionBuilder.update_wrapper_core.loop2 k kb kexc ps { s with loc1 := z, loc2 := d, self := st1 } := by
        simp only [FunctionBuilder.update_wrapper_core.loop2, hs]
      rw [expectAll_cons_ok ps hm, e2]
      exact ih { s with loc1 := z, loc2 := d, self := st1 } fb1 h1 wf1
    · right
      refine ⟨{ s with loc1 := z, loc2 := d, self := { s.self with exc_sub := 2 } }, expectAll_cons_error ps hm, ?_,
        rfl⟩
      simp only [FunctionBuilder.update_wrapper_core.loop2, hs]

/-- the candidate spellings `_call`, `__call`, … as the source builds them -/
def cnOf (nm : PyRtC13.Names Name) : Nat → Name
  | 0 => nm.lit ['_', 'c', 'a', 'l', 'l']
  | j + 1 => nm.cat ['_'] (cnOf nm j)

/-- the test of the `call_name` loop: the candidate is one of the names the model calls `takenNames` -/
theorem taken_cond (st : SrcFB) (fb : FB) (h : Rep st fb) (c : Name) :
    ((PyRt.contains (fb.argNames false) c = true) ∨ (decide (st.varargs = some c) = true) ∨
      (decide (st.varkw = some c) = true) ∨ (decide (c = st.name) = true)) ↔ c ∈ fb.takenNames := by
  rw [PyRt.contains_iff, h.varargs, h.varkw, h.name, mem_takenNames]
  simp only [FB.argNames, decide_eq_true_eq, List.mem_append, Bool.false_eq_true, if_false, Option.mem_toList,
    Option.mem_def, or_assoc, or_left_comm]

/-- `fuel` bounds the model's `pickFrom`, `n` the translated loop -/
theorem call_loop (k kb : UW → Except PyExc Name × SrcFB) (kexc : PyExc → UW → Except PyExc Name × SrcFB)
    (fb : FB) (wf : WfFB fb) : ∀ (fuel j n : Nat) (s : UW), Rep s.self fb → s.loc3 = cnOf nm j → fuel < n →
    cnOf nm (pickFrom (cnOf nm) fb.takenNames fuel j) ∉ fb.takenNames →
    FunctionBuilder.update_wrapper_core.loop3 k kb kexc n s =
      k { s with loc3 := cnOf nm (pickFrom (cnOf nm) fb.takenNames fuel j) } := by
  intro fuel
  induction fuel with
  | zero =>
    intro j n s h hc hn hfree
    obtain ⟨m, rfl⟩ : ∃ m, n = m + 1 := ⟨n - 1, by omega⟩
    simp only [pickFrom] at hfree ⊢
    simp only [FunctionBuilder.update_wrapper_core.loop3, src_get_arg_names_eq_model s.self fb h wf false]
    rw [if_neg (by rw [taken_cond s.self fb h, hc]; exact hfree), ← hc]
  | succ fuel ih =>
    intro j n s h hc hn hfree
    obtain ⟨m, rfl⟩ : ∃ m, n = m + 1 := ⟨n - 1, by omega⟩
    simp only [FunctionBuilder.update_wrapper_core.loop3, src_get_arg_names_eq_model s.self fb h wf false]
    by_cases ht : cnOf nm j ∈ fb.takenNames
    · have hcont : fb.takenNames.contains (cnOf nm j) = true := by simpa using ht
      simp only [pickFrom, hcont, if_true] at hfree ⊢
      rw [if_pos (by rw [taken_cond s.self fb h, hc]; exact ht)]
      rw [ih (j + 1) m { s with loc3 := PyRtC13.Names.cat ['_'] s.loc3 } h (by simp only [hc]; rfl) (by omega) hfree]
    · have hcont : ¬ (fb.takenNames.contains (cnOf nm j) = true) := by simpa using ht
      simp only [pickFrom, hcont, Bool.false_eq_true, if_false] at hfree ⊢
      rw [if_neg (by rw [taken_cond s.self fb h, hc]; exact ht), ← hc]

/-- the decision logic of `update_wrapper`, as translated from the source, is the model's: the `injected` loop is
    `injectAll` (a missing name is skipped when `inject_to_varkw` and there is a `**kw`, else `MissingArgument`), the
    `expected` loop is `expectAll` (`ExistingArgument`), and the name the collision loop returns is the model's
    `pickCall` - for every fuel above the number of taken names the loop ends (no `OutOfFuel`) -/
theorem src_update_wrapper_core_eq_model (st : SrcFB) (fb : FB) (h : Rep st fb) (wf : WfFB fb) (inj : List Name)
    (exp : List (Name × Option Val)) (itv : Bool) (lfuel : Nat)
    (hinj : ∀ i j, cnOf nm i = cnOf nm j → i = j) :
    match injectAll itv fb inj with
    | .error _ => ∃ st1, FunctionBuilder.update_wrapper_core lfuel st inj exp itv = (.error PyExc.ValueError, st1) ∧
        st1.exc_sub = 1
    | .ok fb1 =>
      match expectAll fb1 exp with
      | .error _ => ∃ st1, FunctionBuilder.update_wrapper_core lfuel st inj exp itv = (.error PyExc.ValueError, st1) ∧
          st1.exc_sub = 2
      | .ok fb2 => fb2.takenNames.length < lfuel →
          ∃ st2, FunctionBuilder.update_wrapper_core lfuel st inj exp itv =
            (.ok (pickCall (cnOf nm) fb2.takenNames), st2) ∧ Rep st2 fb2 ∧ WfFB fb2 := by
  simp only [FunctionBuilder.update_wrapper_core, FunctionBuilder.update_wrapper_core.body]
  rcases inject_loop _ _ _ inj (⟨st, inj, exp, itv, default, none, default⟩ : UW) fb h wf with
    ⟨fb1, s1, hm1, hs1, hrep1, hwf1, hexp⟩ | ⟨s1, hm1, hs1, htag⟩
  · simp only at hm1 hexp
    rw [hm1, hs1]
    simp only [hexp]
    rcases expect_loop _ _ _ exp s1 fb1 hrep1 hwf1 with ⟨fb2, s2, hm2, hs2, hrep2, hwf2⟩ | ⟨s2, hm2, hs2, htag⟩
    · rw [hm2, hs2]
      intro hl
      have hfree := pickCall_fresh (cnOf nm) hinj fb2.takenNames
      unfold pickCall at hfree
      rw [call_loop _ _ _ fb2 hwf2 fb2.takenNames.length 0 lfuel
        { s2 with loc3 := PyRtC13.Names.lit ['_', 'c', 'a', 'l', 'l'] } hrep2 rfl hl hfree]
      exact ⟨s2.self, rfl, hrep2, hwf2⟩
    · rw [hm2, hs2]
      exact ⟨s2.self, rfl, htag⟩
  · simp only at hm1
    rw [hm1, hs1]
    exact ⟨s1.self, rfl, htag⟩

/-- the property theorem `callee_reaches_wrapper` (Props.lean) about what the SOURCE computes: whenever the two
    loops go through, the name the translated collision loop returns is - inside the function `get_func` then
    compiles - neither a parameter nor the function's own name nor `_func`, so the body calls the user's wrapper -/
theorem src_call_name_reaches_wrapper (st : SrcFB) (fb : FB) (h : Rep st fb) (wf : WfFB fb) (inj : List Name)
    (exp : List (Name × Option Val)) (itv : Bool) (lfuel : Nat)
    (hinj : ∀ i j, cnOf nm i = cnOf nm j → i = j) (funcKey : Name) (hk : ∀ k, cnOf nm k ≠ funcKey)
    (fb1 fb2 : FB) (h1 : injectAll itv fb inj = .ok fb1) (h2 : expectAll fb1 exp = .ok fb2)
    (hl : fb2.takenNames.length < lfuel) :
    ∃ c st2, FunctionBuilder.update_wrapper_core lfuel st inj exp itv = (.ok c, st2) ∧ Rep st2 fb2 ∧
      resolve (fb2.args ++ fb2.varargs.toList ++ fb2.kwonlyargs ++ fb2.varkw.toList) c funcKey fb2.name =
        .userWrapper := by
  have hm := src_update_wrapper_core_eq_model st fb h wf inj exp itv lfuel hinj
  rw [h1] at hm
  simp only at hm
  rw [h2] at hm
  obtain ⟨st2, e, r, _⟩ := hm hl
  exact ⟨_, st2, e, r, callee_reaches_wrapper (cnOf nm) hinj funcKey hk fb2⟩

end region

/-- non-vacuity: names are numbers, `_call` is 100 and a prefixed `_` adds one -/
@[reducible] def nmEx : PyRtC13.Names Name := ⟨fun _ => (100 : Nat), fun _ (n : Nat) => n + 1⟩

theorem cnOf_nmEx (i : Nat) : cnOf nmEx i = (100 + i : Nat) := by
  induction i with
  | zero => rfl
  | succ i ih =>
    show (cnOf nmEx i : Nat) + 1 = 100 + (i + 1)
    rw [ih]; rfl

theorem cnOf_nmEx_injective : ∀ i j, cnOf nmEx i = cnOf nmEx j → i = j := by
  intro i j e
  rw [cnOf_nmEx, cnOf_nmEx] at e
  exact Nat.add_left_cancel e

/-- Wrapping `f(1, 100, *, 4=40, **9)` with `injected=[1, 8]` (8 is absent: skipped because of `**9`) and
    `expected=[(101, no default)]`: the loop has to skip `_call` (= 100, a parameter) and `__call` (= 101, the expected
    argument) and returns `___call` -/
example :
    (@FunctionBuilder.update_wrapper_core Name Val _ _ _ nmEx 10
        (conc ⟨7, none, none, [1, 100], none, some 9, [], [4], [(4, 40)], [], none, false⟩) [1, 8] [(101, none)] true).1
      = .ok 102 := by rfl
/-- without `**kw` the missing name is `MissingArgument` (tag 1); the first removal has happened -/
example :
    (@FunctionBuilder.update_wrapper_core Name Val _ _ _ nmEx 10
        (conc ⟨7, none, none, [1, 100], none, none, [], [4], [(4, 40)], [], none, false⟩) [1, 8] [(101, none)] true)
      = (.error PyExc.ValueError,
          { conc ⟨7, none, none, [100], none, none, [], [4], [(4, 40)], [], none, false⟩ with exc_sub := 1 }) := by rfl

end C13
