import BoltonsVerif.C13.Session
import BoltonsVerif.C13.Proofs
/-
C13 — the heap telling (`step`) and the pure telling (`pstep`) of a session agree.
The heart is a frame argument: a builder only ever writes at the address
of the dict `from_func` allocated for it, so nothing that existed before is changed; and the
dicts of distinct functions are distinct objects (`Inv`), so an in-place edit of one function
is invisible in every other.
-/
namespace C13

theorem rd_wr_same {h : Heap} {a : Nat} (d : List (Name × Val)) (ha : a < h.length) :
    rd (wr h a d) a = d := by
  simp [rd, wr, ha]

theorem rd_wr_ne {h : Heap} {a b : Nat} (d : List (Name × Val)) (hne : b ≠ a) :
    rd (wr h a d) b = rd h b := by
  simp [rd, wr, List.getElem?_set_ne (Ne.symm hne)]

theorem length_wr (h : Heap) (a : Nat) (d : List (Name × Val)) : (wr h a d).length = h.length := by
  simp [wr]

theorem rd_append_lt (h l : Heap) {a : Nat} (ha : a < h.length) : rd (h ++ l) a = rd h a := by
  simp [rd, List.getElem?_append_left ha]

theorem rd_append_length (h : Heap) (x y : List (Name × Val)) : rd (h ++ [x, y]) h.length = x := by
  simp [rd]

theorem rd_append_length_succ (h : Heap) (x y : List (Name × Val)) : rd (h ++ [x, y]) (h.length + 1) = y := by
  simp [rd]

/-- the builder's two dicts exist and are two objects -/
structure BuilderOk (h : Heap) (b : HFB) : Prop where
  kwd : b.kwd < h.length
  ann : b.ann < h.length
  ne : b.kwd ≠ b.ann

/-- what a mutator may do to the heap: write at the address of the builder's `kwonlydefaults` -/
structure MutFrame (h : Heap) (b : HFB) (h' : Heap) (b' : HFB) : Prop where
  len : h'.length = h.length
  kwd : b'.kwd = b.kwd
  ann : b'.ann = b.ann
  frame : ∀ a, a ≠ b.kwd → rd h' a = rd h a

theorem MutFrame.refl (h : Heap) (b : HFB) : MutFrame h b h b := ⟨rfl, rfl, rfl, fun _ _ => rfl⟩

theorem MutFrame.trans {h h' h'' : Heap} {b b' b'' : HFB} (x : MutFrame h b h' b') (y : MutFrame h' b' h'' b'') :
    MutFrame h b h'' b'' :=
  ⟨y.len.trans x.len, y.kwd.trans x.kwd, y.ann.trans x.ann,
   fun a ha => (y.frame a (by rw [x.kwd]; exact ha)).trans (x.frame a ha)⟩

theorem MutFrame.builderOk {h h' : Heap} {b b' : HFB} (x : MutFrame h b h' b') (hb : BuilderOk h b) : BuilderOk h' b' :=
  ⟨by rw [x.kwd, x.len]; exact hb.kwd, by rw [x.ann, x.len]; exact hb.ann, by rw [x.kwd, x.ann]; exact hb.ne⟩

/-- `r`: the heap telling of an operation, `r'`: the pure one -/
def Sim {α β : Type} (R : α → β → Prop) (r : Except Err α) (r' : Except Err β) : Prop :=
  match r with
  | .ok a => ∃ b, r' = .ok b ∧ R a b
  | .error e => r' = .error e

theorem Sim.ok {α β : Type} {R : α → β → Prop} {a : α} {b : β} (h : R a b) : Sim R (.ok a) (.ok b) := ⟨b, rfl, h⟩

theorem Sim.error {α β : Type} (R : α → β → Prop) (e : Err) : Sim R (.error e) (.error e) := rfl

/-- case analysis on the two outcomes wherever they occur in the goal: both returned, related by `R`, or both raised
    the same exception -/
@[elab_as_elim]
theorem Sim.cases {α β : Type} {R : α → β → Prop} {motive : Except Err α → Except Err β → Prop}
    {r : Except Err α} {r' : Except Err β} (h : Sim R r r')
    (ok : ∀ a b, R a b → motive (.ok a) (.ok b)) (error : ∀ e, motive (.error e) (.error e)) : motive r r' := by
  cases r with
  | error e => cases (show r' = .error e from h); exact error e
  | ok a => obtain ⟨b, rfl, hab⟩ := h; exact ok a b hab

theorem Sim.mono {α β : Type} {R Q : α → β → Prop} {r : Except Err α} {r' : Except Err β} (h : Sim R r r')
    (hq : ∀ a b, R a b → Q a b) : Sim Q r r' := by
  cases r with
  | error e => exact h
  | ok a => obtain ⟨b, e, hab⟩ := h; exact ⟨b, e, hq a b hab⟩

/-- a builder after some mutator calls: it reads as `fb`, and only its own `kwonlydefaults` dict was written -/
structure Mutated (h : Heap) (b : HFB) (p : Heap × HFB) (fb : FB) : Prop where
  read : fb = p.2.read p.1
  frame : MutFrame h b p.1 p.2

theorem Mutated.trans {h : Heap} {b : HFB} {p q : Heap × HFB} {fb : FB} (x : MutFrame h b p.1 p.2)
    (y : Mutated p.1 p.2 q fb) : Mutated h b q fb := ⟨y.read, x.trans y.frame⟩

/-- `hg`: `hApply` never writes the annotations dict, `read` takes it from the heap -/
theorem hApply_sim {g : FB → Except Err FB}
    (hg : ∀ fb fb', g fb = .ok fb' → fb'.annotations = fb.annotations)
    {h : Heap} {b : HFB} (hb : BuilderOk h b) : Sim (Mutated h b) (hApply g h b) (g (b.read h)) := by
  unfold hApply
  cases hgb : g (b.read h) with
  | error e => exact .error _ e
  | ok fb' =>
    refine .ok ⟨?_, ⟨length_wr _ _ _, rfl, rfl, fun a ha => rd_wr_ne _ ha⟩⟩
    show fb' = { fb' with kwonlydefaults := rd (wr h b.kwd fb'.kwonlydefaults) b.kwd,
                          annotations := rd (wr h b.kwd fb'.kwonlydefaults) b.ann }
    rw [rd_wr_same _ hb.kwd, rd_wr_ne _ (Ne.symm hb.ne)]
    have : rd h b.ann = fb'.annotations := (hg _ _ hgb).symm
    rw [this]

theorem hInjectAll_sim (itv : Bool) (xs : List Name) : ∀ {h : Heap} {b : HFB}, BuilderOk h b →
    Sim (Mutated h b) (hInjectAll itv h b xs) (injectAll itv (b.read h) xs) := by
  induction xs with
  | nil => intro h b _; exact .ok ⟨rfl, MutFrame.refl _ _⟩
  | cons x xs ih =>
    intro h b hb
    simp only [hInjectAll, injectAll]
    refine (hApply_sim (g := fun fb => fb.removeArg x) (fun _ _ hr => (removeArg_rest hr).annotations) hb).cases
      (fun p fb hp => ?_) (fun e => ?_)
    · rw [hp.read]
      exact (ih (hp.frame.builderOk hb)).mono fun _ _ => Mutated.trans hp.frame
    · show Sim _ (if _ then _ else _) (if _ then _ else _)
      split
      · exact ih hb
      · exact .error _ e

theorem hRun_sim (ops : List BOp) : ∀ {h : Heap} {b : HFB}, BuilderOk h b →
    Sim (Mutated h b) (hRun h b ops) ((b.read h).run ops) := by
  induction ops with
  | nil => intro h b _; exact .ok ⟨rfl, MutFrame.refl _ _⟩
  | cons op ops ih =>
    intro h b hb
    simp only [hRun, FB.run]
    refine (hApply_sim (g := fun fb => fb.step op) (fun _ _ hs => (step_rest hs).annotations) hb).cases
      (fun p fb hp => ?_) (fun e => .error _ e)
    rw [hp.read]
    exact (ih (hp.frame.builderOk hb)).mono fun _ _ => Mutated.trans hp.frame

theorem hExpectAll_eq_hRun (zs : List (Name × Option Val)) : ∀ (h : Heap) (b : HFB),
    hExpectAll h b zs = hRun h b (zs.map fun zd => .add zd.1 zd.2 false) := by
  induction zs with
  | nil => intro h b; rfl
  | cons zd zs ih =>
    intro h b
    simp only [hExpectAll, List.map_cons, hRun, FB.step]
    cases hApply (fun fb => fb.addArg zd.1 zd.2) h b with
    | ok p => exact ih p.1 p.2
    | error e => rfl

theorem hExpectAll_sim (zs : List (Name × Option Val)) {h : Heap} {b : HFB} (hb : BuilderOk h b) :
    Sim (Mutated h b) (hExpectAll h b zs) (expectAll (b.read h) zs) := by
  rw [hExpectAll_eq_hRun, expectAll_eq_run]
  exact hRun_sim _ hb

theorem hFromFunc_read (h : Heap) (x : HFunc) :
    (hFromFunc h x).2.read (hFromFunc h x).1 = FB.fromFunc (x.read h) := by
  show ({ FB.fromFunc (x.read h) with
          kwonlydefaults := rd (h ++ [kwdOf (x.read h), annOf (x.read h)]) h.length,
          annotations := rd (h ++ [kwdOf (x.read h), annOf (x.read h)]) (h.length + 1) } : FB) = _
  rw [rd_append_length, rd_append_length_succ]
  rfl

theorem hFromFunc_builderOk (h : Heap) (x : HFunc) : BuilderOk (hFromFunc h x).1 (hFromFunc h x).2 := by
  refine ⟨?_, ?_, ?_⟩ <;> simp [hFromFunc]

/-- what building a function does to the heap: two new dicts, everything older untouched -/
structure BuildFrame (h h' : Heap) (w : HFunc) : Prop where
  len : h'.length = h.length + 2
  kwd : w.kwd = h.length
  ann : w.ann = h.length + 1
  frame : ∀ a, a < h.length → rd h' a = rd h a

theorem hFromFunc_buildFrame {h : Heap} {x : HFunc} {h' : Heap} {b' : HFB}
    (hfr : MutFrame (hFromFunc h x).1 (hFromFunc h x).2 h' b') {w : HFunc} (hk : w.kwd = b'.kwd) (ha : w.ann = b'.ann) :
    BuildFrame h h' w := by
  refine ⟨?_, hk.trans hfr.kwd, ha.trans hfr.ann, ?_⟩
  · rw [hfr.len]; simp [hFromFunc]
  · intro a ha
    rw [hfr.frame a (by show a ≠ h.length; omega)]
    exact rd_append_lt _ _ ha

theorem hGetFunc_sim (h : Heap) (b : HFB) (ident : Nat) (wrapped : Option Nat) (body : List Spec) :
    Sim (fun w f => f = w.read h ∧ w.kwd = b.kwd ∧ w.ann = b.ann)
      (hGetFunc h b ident wrapped body) ((b.read h).getFunc ident wrapped body) := by
  unfold hGetFunc
  cases hg : (b.read h).getFunc ident wrapped body with
  | error e => exact .error _ e
  | ok f =>
    refine .ok ⟨?_, rfl, rfl⟩
    unfold FB.getFunc at hg
    split at hg
    · cases hg; rfl
    · cases hg

/-- a function built on the heap: it reads as `f`, and its two dicts are the only new objects -/
structure Built (h : Heap) (p : Heap × HFunc) (f : Func) : Prop where
  read : f = p.2.read p.1
  frame : BuildFrame h p.1 p.2

/-- the common tail of `hUpdateWrapper` and `hBuildHistory`; the `match` in the statement is the one both definitions
    end with -/
theorem hGetFunc_built {h : Heap} {x : HFunc} {p : Heap × HFB} (hfr : MutFrame (hFromFunc h x).1 (hFromFunc h x).2 p.1 p.2)
    (ident : Nat) (wrapped : Option Nat) (body : List Spec) :
    Sim (Built h) (match hGetFunc p.1 p.2 ident wrapped body with | .ok w => .ok (p.1, w) | .error e => .error e)
      ((p.2.read p.1).getFunc ident wrapped body) := by
  refine (hGetFunc_sim p.1 p.2 ident wrapped body).cases (fun w f ⟨hread, hkwd, hann⟩ => ?_) (fun e => .error _ e)
  rw [hread]
  exact .ok ⟨rfl, hFromFunc_buildFrame hfr hkwd hann⟩

theorem hUpdateWrapper_sim (h : Heap) (x : HFunc) (inj : List Name) (exp : List (Name × Option Val))
    (o : Opts) (ident : Nat) :
    Sim (Built h) (hUpdateWrapper h x inj exp o ident) (updateWrapper (x.read h) inj exp o ident) := by
  unfold hUpdateWrapper updateWrapper
  rw [← hFromFunc_read]
  refine (hInjectAll_sim o.injectToVarkw inj (hFromFunc_builderOk h x)).cases (fun p1 fb1 m1 => ?_) (fun e => .error _ e)
  simp only [m1.read]
  refine (hExpectAll_sim exp (m1.frame.builderOk (hFromFunc_builderOk h x))).cases (fun p2 fb2 m2 => ?_) (fun e => .error _ e)
  simp only [m2.read]
  exact hGetFunc_built (m1.frame.trans m2.frame) _ _ _

theorem hBuildHistory_sim (h : Heap) (x : HFunc) (ops : List BOp) (ident : Nat) :
    Sim (Built h) (hBuildHistory h x ops ident) (buildHistoryD (x.read h) ops ident) := by
  unfold hBuildHistory buildHistoryD
  rw [← hFromFunc_read]
  refine (hRun_sim ops (hFromFunc_builderOk h x)).cases (fun p fb m => ?_) (fun e => .error _ e)
  simp only [m.read]
  exact hGetFunc_built m.frame _ _ _

/-- the dicts of the functions of a session exist, and no dict object belongs to two
    functions (or serves as both dicts of one) -/
structure Inv (s : St) : Prop where
  lt : ∀ x ∈ s.funcs, x.kwd < s.heap.length ∧ x.ann < s.heap.length
  kwdAnn : ∀ x ∈ s.funcs, ∀ y ∈ s.funcs, x.kwd ≠ y.ann
  sep : ∀ (i j : Nat) (x y : HFunc), s.funcs[i]? = some x → s.funcs[j]? = some y → i ≠ j →
    x.kwd ≠ y.kwd ∧ x.ann ≠ y.ann

theorem read_congr {h h' : Heap} {x : HFunc} (hk : rd h' x.kwd = rd h x.kwd)
    (ha : rd h' x.ann = rd h x.ann) : x.read h' = x.read h := by
  unfold HFunc.read; rw [hk, ha]

theorem getElem?_concat_some {α : Type} {l : List α} {w x : α} {i : Nat} (h : (l ++ [w])[i]? = some x) :
    l[i]? = some x ∨ (i = l.length ∧ x = w) := by
  rcases Nat.lt_or_ge i l.length with hi | hi
  · rw [List.getElem?_append_left hi] at h; exact Or.inl h
  · rw [List.getElem?_append_right hi] at h
    cases hk : i - l.length with
    | zero => rw [hk] at h; exact Or.inr ⟨by omega, (Option.some.inj h).symm⟩
    | succ k => rw [hk] at h; cases h

theorem append_fresh {s : St} (hi : Inv s) {h' : Heap} {w : HFunc} (hn : BuildFrame s.heap h' w) :
    Inv ⟨h', s.funcs ++ [w]⟩ ∧ (St.view ⟨h', s.funcs ++ [w]⟩) = s.view ++ [w.read h'] := by
  -- an old dict lies below the old end of the heap, the two new ones at and above it
  have hold : ∀ x ∈ s.funcs, x.kwd < s.heap.length ∧ x.ann < s.heap.length := hi.lt
  have hnew : w.kwd = s.heap.length ∧ w.ann = s.heap.length + 1 := ⟨hn.kwd, hn.ann⟩
  constructor
  · refine ⟨?_, ?_, ?_⟩
    · intro x hx
      show x.kwd < h'.length ∧ x.ann < h'.length
      rw [hn.len]
      rcases List.mem_append.mp hx with hx | hx
      · have := hold x hx; omega
      · cases List.mem_singleton.mp hx; omega
    · intro x hx y hy
      rcases List.mem_append.mp hx with hx | hx <;> rcases List.mem_append.mp hy with hy | hy
      · exact hi.kwdAnn x hx y hy
      · cases List.mem_singleton.mp hy; have := hold x hx; omega
      · cases List.mem_singleton.mp hx; have := hold y hy; omega
      · cases List.mem_singleton.mp hx; cases List.mem_singleton.mp hy; omega
    · intro i j x y hx hy hij
      show x.kwd ≠ y.kwd ∧ x.ann ≠ y.ann
      rcases getElem?_concat_some hx with hx' | ⟨hi1, rfl⟩ <;> rcases getElem?_concat_some hy with hy' | ⟨hj1, rfl⟩
      · exact hi.sep i j x y hx' hy' hij
      · have := hold x (List.mem_of_getElem? hx'); omega
      · have := hold y (List.mem_of_getElem? hy'); omega
      · omega
  · unfold St.view
    rw [List.map_append]
    congr 1
    apply List.map_congr_left
    intro x hx
    exact read_congr (hn.frame _ (hold x hx).1) (hn.frame _ (hold x hx).2)

theorem view_getElem? (s : St) (i : Nat) : s.view[i]? = (s.funcs[i]?).map (HFunc.read s.heap) := by
  simp [St.view]

theorem view_length (s : St) : s.view.length = s.funcs.length := by simp [St.view]

theorem edit_at {s : St} (hi : Inv s) {t : Nat} {x : HFunc} (hx : s.funcs[t]? = some x) (a : Nat)
    (d : List (Name × Val))
    (hsep : ∀ j y, s.funcs[j]? = some y → t ≠ j → y.kwd ≠ a ∧ y.ann ≠ a) :
    Inv ⟨wr s.heap a d, s.funcs⟩ ∧
      St.view ⟨wr s.heap a d, s.funcs⟩ = s.view.set t (x.read (wr s.heap a d)) := by
  constructor
  · exact ⟨fun y hy => by show y.kwd < (wr _ _ _).length ∧ y.ann < (wr _ _ _).length
                          rw [length_wr]; exact hi.lt y hy, hi.kwdAnn, hi.sep⟩
  · apply List.ext_getElem?
    intro j
    rw [view_getElem?, List.getElem?_set, view_length, view_getElem?]
    show (s.funcs[j]?).map (HFunc.read (wr s.heap a d)) = _
    by_cases hj : t = j
    · subst hj
      obtain ⟨hlt, _⟩ := List.getElem?_eq_some_iff.mp hx
      rw [if_pos rfl, if_pos hlt, hx]; rfl
    · rw [if_neg hj]
      cases hy : s.funcs[j]? with
      | none => rfl
      | some y =>
        show some (y.read (wr s.heap a d)) = some (y.read s.heap)
        rw [read_congr (rd_wr_ne _ (hsep j y hy hj).1) (rd_wr_ne _ (hsep j y hy hj).2)]

theorem edit_kwd {s : St} (hi : Inv s) {t : Nat} {x : HFunc} (hx : s.funcs[t]? = some x)
    (d : List (Name × Val)) :
    Inv ⟨wr s.heap x.kwd d, s.funcs⟩ ∧
      St.view ⟨wr s.heap x.kwd d, s.funcs⟩ = s.view.set t { x.read s.heap with kwdefaults := d } := by
  have hxm := List.mem_of_getElem? hx
  have h := edit_at hi hx x.kwd d fun j y hy hj =>
    ⟨Ne.symm (hi.sep t j x y hx hy hj).1, Ne.symm (hi.kwdAnn x hxm y (List.mem_of_getElem? hy))⟩
  have hr : x.read (wr s.heap x.kwd d) = { x.read s.heap with kwdefaults := d } := by
    unfold HFunc.read
    rw [rd_wr_same _ (hi.lt x hxm).1, rd_wr_ne _ (Ne.symm (hi.kwdAnn x hxm x hxm))]
  rwa [hr] at h

theorem edit_ann {s : St} (hi : Inv s) {t : Nat} {x : HFunc} (hx : s.funcs[t]? = some x)
    (d : List (Name × Val)) :
    Inv ⟨wr s.heap x.ann d, s.funcs⟩ ∧
      St.view ⟨wr s.heap x.ann d, s.funcs⟩ = s.view.set t { x.read s.heap with ann := d } := by
  have hxm := List.mem_of_getElem? hx
  have h := edit_at hi hx x.ann d fun j y hy hj =>
    ⟨hi.kwdAnn y (List.mem_of_getElem? hy) x hxm, Ne.symm (hi.sep t j x y hx hy hj).2⟩
  have hr : x.read (wr s.heap x.ann d) = { x.read s.heap with ann := d } := by
    unfold HFunc.read
    rw [rd_wr_same _ (hi.lt x hxm).2, rd_wr_ne _ (hi.kwdAnn x hxm x hxm)]
  rwa [hr] at h

/-- a function built on the heap joins the session and the older functions read as before (view and outcome paired,
    as `step` / `pstep` return them) -/
theorem built_joins {s : St} (hi : Inv s) {p : Heap × HFunc} {w : Func} (hb : Built s.heap p w) :
    Inv ⟨p.1, s.funcs ++ [p.2]⟩ ∧
      ((St.view ⟨p.1, s.funcs ++ [p.2]⟩, Res.built) : List Func × Res) = (s.view ++ [w], Res.built) := by
  obtain ⟨hi', hv⟩ := append_fresh hi hb.frame
  exact ⟨hi', by rw [hv, hb.read]⟩

theorem step_refines {s : St} (hi : Inv s) (r : Req) :
    Inv (step s r).1 ∧ ((step s r).1.view, (step s r).2) = pstep s.view r := by
  unfold step pstep
  cases r with
  | wrap t inj exp o =>
    simp only [view_getElem?, view_length]
    cases hx : s.funcs[t]? with
    | none => exact ⟨hi, rfl⟩
    | some x =>
      simp only [Option.map_some]
      exact (hUpdateWrapper_sim s.heap x inj exp o _).cases (fun _ _ hb => built_joins hi hb) fun _ => ⟨hi, rfl⟩
  | hist t ops =>
    simp only [view_getElem?, view_length]
    cases hx : s.funcs[t]? with
    | none => exact ⟨hi, rfl⟩
    | some x =>
      simp only [Option.map_some]
      exact (hBuildHistory_sim s.heap x ops _).cases (fun _ _ hb => built_joins hi hb) fun _ => ⟨hi, rfl⟩
  | setKwd t k v =>
    simp only [view_getElem?]
    cases hx : s.funcs[t]? with
    | none => exact ⟨hi, rfl⟩
    | some x =>
      obtain ⟨hi', hv⟩ := edit_kwd hi hx (upd k v (rd s.heap x.kwd))
      exact ⟨hi', by simp only [Option.map_some]; rw [hv]; rfl⟩
  | setAnn t k v =>
    simp only [view_getElem?]
    cases hx : s.funcs[t]? with
    | none => exact ⟨hi, rfl⟩
    | some x =>
      obtain ⟨hi', hv⟩ := edit_ann hi hx (upd k v (rd s.heap x.ann))
      exact ⟨hi', by simp only [Option.map_some]; rw [hv]; rfl⟩

theorem step_view {s : St} (hi : Inv s) (r : Req) : (step s r).1.view = (pstep s.view r).1 :=
  congrArg Prod.fst (step_refines hi r).2

theorem step_res {s : St} (hi : Inv s) (r : Req) : (step s r).2 = (pstep s.view r).2 :=
  congrArg Prod.snd (step_refines hi r).2

theorem run_refines (rs : List Req) : ∀ {s : St}, Inv s →
    Inv (run s rs).1 ∧ ((run s rs).1.view, (run s rs).2) = prun s.view rs := by
  induction rs with
  | nil => intro s hi; exact ⟨hi, rfl⟩
  | cons r rs ih =>
    intro s hi
    obtain ⟨hi2, h2⟩ := ih (step_refines hi r).1
    refine ⟨hi2, ?_⟩
    simp only [run, prun]
    rw [← step_view hi r, ← step_res hi r, ← h2]

theorem run_view {s : St} (hi : Inv s) (rs : List Req) : (run s rs).1.view = (prun s.view rs).1 :=
  congrArg Prod.fst (run_refines rs hi).2

theorem alloc_spec {s : St} (hi : Inv s) (f : Func) :
    Inv (alloc s f) ∧ (alloc s f).view = s.view ++ [f] := by
  have hn : BuildFrame s.heap (s.heap ++ [f.kwdefaults, f.ann]) ⟨f, s.heap.length, s.heap.length + 1⟩ :=
    ⟨by simp, rfl, rfl, fun a ha => rd_append_lt _ _ ha⟩
  obtain ⟨hi', hv⟩ := append_fresh hi hn
  refine ⟨hi', ?_⟩
  show St.view ⟨_, _⟩ = _
  rw [hv]
  congr 2
  unfold HFunc.read
  rw [rd_append_length, rd_append_length_succ]

theorem inv_empty : Inv ⟨[], []⟩ :=
  ⟨fun x hx => (by cases hx), fun x hx => (by cases hx), fun i j x y hx => (by simp at hx)⟩

theorem foldl_alloc_spec (fs : List Func) : ∀ {s : St}, Inv s →
    Inv (fs.foldl alloc s) ∧ (fs.foldl alloc s).view = s.view ++ fs := by
  induction fs with
  | nil => intro s hi; exact ⟨hi, by simp⟩
  | cons f fs ih =>
    intro s hi
    obtain ⟨hi1, hv1⟩ := alloc_spec hi f
    obtain ⟨hi2, hv2⟩ := ih hi1
    exact ⟨hi2, by rw [List.foldl_cons, hv2, hv1]; simp⟩

theorem init_spec (fs : List Func) : Inv (St.init fs) ∧ (St.init fs).view = fs := by
  obtain ⟨hi, hv⟩ := foldl_alloc_spec fs inv_empty
  exact ⟨hi, by unfold St.init; rw [hv]; rfl⟩

theorem pstep_keeps (fs : List Func) (r : Req) (i : Nat) (f : Func) (hf : fs[i]? = some f)
    (hr : r.edits ≠ some i) : (pstep fs r).1[i]? = some f := by
  obtain ⟨hlt, _⟩ := List.getElem?_eq_some_iff.mp hf
  have happ : ∀ w, (fs ++ [w])[i]? = some f := fun w => by rw [List.getElem?_append_left hlt]; exact hf
  have hset : ∀ t g, r.edits = some t → (fs.set t g)[i]? = some f := fun t g ht => by
    rw [List.getElem?_set_ne (fun (e : t = i) => hr (by rw [ht, e]))]; exact hf
  cases r with
  | wrap t inj exp o | hist t ops =>
    simp only [pstep]
    split
    · exact hf
    · split
      · exact happ _
      · exact hf
  | setKwd t k v | setAnn t k v =>
    simp only [pstep]
    split
    · exact hf
    · exact hset t _ rfl

theorem prun_keeps (rs : List Req) : ∀ (fs : List Func) (i : Nat) (f : Func), fs[i]? = some f →
    (∀ r ∈ rs, r.edits ≠ some i) → (prun fs rs).1[i]? = some f := by
  induction rs with
  | nil => intro fs i f hf _; exact hf
  | cons r rs ih =>
    intro fs i f hf hr
    simp only [prun]
    exact ih _ i f (pstep_keeps fs r i f hf (hr r (List.mem_cons_self ..)))
      (fun r' hr' => hr r' (List.mem_cons_of_mem _ hr'))

end C13
