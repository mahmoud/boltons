import BoltonsVerif.C13.Proofs
import BoltonsVerif.C13.SessionProofs
import BoltonsVerif.C13.Hygiene
import BoltonsVerif.C13.Text
import BoltonsVerif.Generated.C13_Text
/-
C13 — property theorems for the model of `funcutils.wraps / update_wrapper / FunctionBuilder`.

`f` is any well-formed function object (`WfFunc`: distinct parameter names, no more
positional defaults than positional parameters, keyword-only defaults keyed by
keyword-only parameters) - any number of positional-or-keyword parameters, any suffix
of defaults, `*args`, any keyword-only parameters with or without defaults, `**kw`,
any annotations, sync or async.  `sigOf` is `inspect.signature(·, follow_wrapped=False)`
without the annotations, which are looked up by parameter name in `ann` / `retAnn`;
`bind` is CPython's argument binding (`none` = TypeError); `callWrapper w c` is the
call the user's wrapper receives from the generated body when `w` is called with `c`.
-/
namespace C13

/-- exactly which calls a signature accepts (everything else is a TypeError): no surplus
    positional values unless `*args`, no unknown keyword unless `**kw`, no keyword for a
    parameter already filled positionally, and every remaining parameter has a keyword or a
    default -/
theorem accepts_spec (s : Sig) (c : Call) :
    (bind s c).isSome ↔
      (s.varargs.isSome ∨ c.pos.length ≤ s.pos.length) ∧
      (s.varkw.isSome ∨ ∀ kv ∈ c.kws, kv.1 ∈ s.names) ∧
      (∀ p ∈ s.pos.take c.pos.length, get? p.1 c.kws = none) ∧
      (∀ p ∈ s.pos.drop c.pos.length, p.2.isSome ∨ (get? p.1 c.kws).isSome) ∧
      (∀ p ∈ s.kwonly, p.2.isSome ∨ (get? p.1 c.kws).isSome) := by
  have g1 : ¬ (s.varargs.isNone && !(c.pos.drop s.pos.length).isEmpty) = true ↔
      (s.varargs.isSome ∨ c.pos.length ≤ s.pos.length) := by
    cases s.varargs <;> simp [List.drop_eq_nil_iff]
  have g2 : ¬ (s.varkw.isNone && !(c.kws.filter (unknownKw s)).isEmpty) = true ↔
      (s.varkw.isSome ∨ ∀ kv ∈ c.kws, kv.1 ∈ s.names) := by
    cases s.varkw with
    | some v => exact ⟨fun _ => Or.inl rfl, fun _ h => absurd h Bool.false_ne_true⟩
    | none =>
      show ¬ (!(c.kws.filter (unknownKw s)).isEmpty) = true ↔ _
      rw [Bool.not_eq_true', Bool.not_eq_false, List.isEmpty_iff, List.filter_eq_nil_iff]
      simp only [unknownKw, Bool.not_eq_true', List.contains_eq_mem, decide_eq_false_iff_not,
        Classical.not_not, Option.isSome_none, Bool.false_eq_true, false_or]
  rw [bind_isSome_iff, g1, g2, fillPos_isSome_iff, fillPos_nil_isSome_iff, and_assoc]

/-- `annOf f` - what `getfullargspec(f)` reports, and therefore what the builder starts from and
    what ends up in `__annotations__` of the built function - holds the annotation of every
    parameter of `f` (entries of `f.__annotations__` that name no parameter are not carried over) -/
theorem annotations_reported (f : Func) (p : Name) (hp : p ∈ paramNames f) :
    get? p (annOf f) = get? p f.ann := (get?_annOf_eq_ite f p).trans (if_pos hp)

/-- `wraps(f)` (any options) builds a function with the same own signature, the same
    annotations (`annotations_reported`), the same sync/async kind -/
theorem sig_preserved (f : Func) (wf : WfFunc f) (o : Opts) (ident : Nat) :
    ∃ w, updateWrapper f [] [] o ident = .ok w ∧ sigOf w = sigOf f ∧
      w.ann = annOf f ∧ w.retAnn = f.retAnn ∧ w.isAsync = f.isAsync := by
  exact ⟨_, updateWrapper_ok_iff.mpr ⟨_, _, rfl, rfl, names_fromFunc f ▸ wf.nodup, rfl⟩, sigOf_fromFunc f _ _, rfl, rfl, rfl⟩

/-- `__name__`, `__doc__` (also a missing one), `__module__` are the wrapped function's and
    `__wrapped__` points at it -/
theorem metadata_preserved (f : Func) (o : Opts) (ident : Nat) (w : Func)
    (h : updateWrapper f [] [] o ident = .ok w) :
    w.name = f.name ∧ w.doc = f.doc ∧ w.module = f.module ∧
      w.wrapped = (if o.hideWrapped then none else some f.ident) := by
  cases updateWrapper_plain_inv h
  exact ⟨rfl, rfl, rfl, rfl⟩

/-- the wrapper accepts exactly the calls the wrapped function accepts (TypeError for
    exactly the others) -/
theorem accepts_iff (f : Func) (o : Opts) (ident : Nat) (w : Func)
    (h : updateWrapper f [] [] o ident = .ok w) (c : Call) :
    (bind (sigOf w) c).isSome = (bind (sigOf f) c).isSome := by
  rw [sigOf_of_plain h]

/-- every function `update_wrapper` returns - with any `injected` / `expected` lists -
    hands ITS OWN bound arguments on: the call its body makes evaluates, and re-binding that
    call against the function's own signature gives back the same locals, defaults included -/
theorem forwarding_general (f : Func) (inj : List Name) (exp : List (Name × Option Val)) (o : Opts)
    (ident : Nat) (w : Func) (h : updateWrapper f inj exp o ident = .ok w)
    (c : Call) (b : Bound) (hb : bind (sigOf w) c = some b) :
    ∃ c', callWrapper w c = some c' ∧ bind (sigOf w) c' = some b := by
  obtain ⟨fb1, fb2, _, _, hn, rfl⟩ := updateWrapper_ok_iff.mp h
  exact toFunc_forwarding fb2 ident _ hn c b hb

/-- plain `wraps(f)`: every accepted call is forwarded so that the wrapped function sees the
    same bound arguments (defaults included) as the wrapper did - which are the ones it would
    have seen when called directly -/
theorem forwarding (f : Func) (o : Opts) (ident : Nat) (w : Func)
    (h : updateWrapper f [] [] o ident = .ok w) (c : Call) (b : Bound)
    (hb : bind (sigOf f) c = some b) :
    ∃ c', callWrapper w c = some c' ∧ bind (sigOf f) c' = some b := by
  have hs := sigOf_of_plain h
  have := forwarding_general f [] [] o ident w h c b (hs ▸ hb)
  rwa [hs] at this

/-- rejected calls never reach the user's wrapper -/
theorem rejected_not_forwarded (w : Func) (c : Call) (h : bind (sigOf w) c = none) :
    callWrapper w c = none := by
  unfold callWrapper; rw [h]

def Sig.remove (s : Sig) (x : Name) : Sig :=
  ⟨s.pos.filter (keyNe x), s.varargs, s.kwonly.filter (keyNe x), s.varkw⟩

def Sig.removeAll (s : Sig) (xs : List Name) : Sig :=
  ⟨s.pos.filter (keyNotIn xs), s.varargs, s.kwonly.filter (keyNotIn xs), s.varkw⟩

/-- a whole `injected` list: whenever `update_wrapper` succeeds, all the named parameters -
    and nothing else - are gone (names that are no parameter are ignored when `**kw` can
    catch them) -/
theorem injected_removes_all (f : Func) (wf : WfFunc f) (inj : List Name) (o : Opts) (ident : Nat)
    (w : Func) (h : updateWrapper f inj [] o ident = .ok w) :
    sigOf w = (sigOf f).removeAll inj ∧ w.ann = annOf f ∧ w.retAnn = f.retAnn ∧
      w.isAsync = f.isAsync ∧ w.name = f.name ∧ w.doc = f.doc ∧ w.module = f.module := by
  obtain ⟨fb, rfl, u⟩ := updateWrapper_spec wf h
  have hp' : fb.posSig = _ := (filter_keyNotIn_nil _).symm.trans u.posSig
  have r := u.rest
  refine ⟨?_, r.annotations, r.retAnn, r.isAsync, r.name, r.doc, r.module⟩
  rw [sigOf_toFunc, hp', u.kwSig, r.varargs, r.varkw]; rfl

/-- `injected=[x]` for a positional or keyword-only parameter `x`: the own signature loses
    exactly `x`; every remaining parameter keeps its place, kind and default; annotations,
    metadata and kind of function are untouched -/
theorem injected_removes_exactly (f : Func) (wf : WfFunc f) (x : Name)
    (hx : x ∈ f.args ∨ x ∈ f.kwonly) (o : Opts) (ident : Nat) :
    ∃ w, updateWrapper f [x] [] o ident = .ok w ∧ sigOf w = (sigOf f).remove x ∧
      w.ann = annOf f ∧ w.retAnn = f.retAnn ∧ w.isAsync = f.isAsync ∧
      w.name = f.name ∧ w.doc = f.doc ∧ w.module = f.module := by
  obtain ⟨fb', hr, s⟩ := removeArg_mem (wfFB_fromFunc wf) (x := x) hx
  have r := removeArg_rest hr
  have hn : fb'.names.Nodup :=
    (names_sublist r.varargs r.varkw (s.posSig ▸ List.filter_sublist) (s.kwSig ▸ List.filter_sublist)).nodup
      (names_fromFunc f ▸ wf.nodup)
  have h := (updateWrapper_ok_iff (exp := []) (o := o) (ident := ident)).mpr
    ⟨_, _, injectAll_cons_ok [] hr, rfl, hn, rfl⟩
  obtain ⟨hs, hrest'⟩ := injected_removes_all f wf [x] o ident _ h
  refine ⟨_, h, ?_, hrest'⟩
  rw [hs, Sig.removeAll, Sig.remove, keyNotIn_singleton]

/-- a name that is no parameter: MissingArgument, unless `**kw` is there to catch it and
    `inject_to_varkw` is on, in which case the signature is unchanged -/
theorem injected_missing (f : Func) (wf : WfFunc f) (x : Name) (hx : x ∉ f.args) (hk : x ∉ f.kwonly)
    (o : Opts) (ident : Nat) :
    (o.injectToVarkw = true ∧ f.varkw.isSome →
      ∃ w, updateWrapper f [x] [] o ident = .ok w ∧ sigOf w = sigOf f) ∧
    (¬ (o.injectToVarkw = true ∧ f.varkw.isSome) →
      updateWrapper f [x] [] o ident = .error .missingArgument) := by
  have hr : (FB.fromFunc f).removeArg x = .error .missingArgument := removeArg_missing hx hk
  constructor
  · intro hc
    have hc' : (o.injectToVarkw && (FB.fromFunc f).varkw.isSome) = true := by
      simp only [Bool.and_eq_true]; exact hc
    have h1 := (injectAll_cons_error (itv := o.injectToVarkw) [] hr).trans (if_pos hc')
    exact ⟨_, updateWrapper_ok_iff.mpr ⟨_, _, h1, rfl, names_fromFunc f ▸ wf.nodup, rfl⟩, sigOf_fromFunc f _ _⟩
  · intro hc
    have hc' : ¬ ((o.injectToVarkw && (FB.fromFunc f).varkw.isSome) = true) := by
      simp only [Bool.and_eq_true]; exact hc
    unfold updateWrapper
    rw [injectAll_cons_error [] hr, if_neg hc']

/-- `expected=[z]` (no default), `z` a fresh name: the own signature gains exactly the
    positional parameter `z`, placed after every required and in front of every defaulted
    positional parameter (so the result is a legal signature); every other parameter keeps its
    place, kind and default -/
theorem expected_adds_exactly_required (f : Func) (wf : WfFunc f) (z : Name) (hz : z ∉ paramNames f)
    (o : Opts) (ident : Nat) :
    ∃ w pre post, updateWrapper f [] [(z, none)] o ident = .ok w ∧
      (sigOf f).pos = pre ++ post ∧ (sigOf w).pos = pre ++ (z, none) :: post ∧
      (∀ p ∈ pre, p.2 = none) ∧ (∀ p ∈ post, p.2.isSome) ∧
      (sigOf w).varargs = (sigOf f).varargs ∧ (sigOf w).kwonly = (sigOf f).kwonly ∧
      (sigOf w).varkw = (sigOf f).varkw ∧
      w.ann = annOf f ∧ w.retAnn = f.retAnn ∧ w.isAsync = f.isAsync ∧
      w.name = f.name ∧ w.doc = f.doc ∧ w.module = f.module := by
  have hz' := not_mem_of_not_mem_paramNames hz
  obtain ⟨fb', pre, post, hr, hold, hpre, hpost, s⟩ := addArg_required (wfFB_fromFunc wf) (z := z) hz'.1 hz'.2
  have r := addArg_rest hr
  have hn := addArg_names_nodup (wfFB_fromFunc wf) hr (names_fromFunc f ▸ hz) (names_fromFunc f ▸ wf.nodup)
  exact ⟨_, pre, post, updateWrapper_ok_iff.mpr ⟨_, _, rfl, expectAll_cons_ok [] hr, hn, rfl⟩, hold, s.posSig, hpre,
    hpost, r.varargs, s.kwSig.trans (fromFunc_kwSig f), r.varkw, r.annotations, r.retAnn, r.isAsync, r.name, r.doc,
    r.module⟩

/-- `expected=[(z, v)]`, `z` a fresh name: the own signature gains exactly the positional
    parameter `z=v`, appended after the positional parameters -/
theorem expected_adds_exactly_default (f : Func) (wf : WfFunc f) (z : Name) (v : Val)
    (hz : z ∉ paramNames f) (o : Opts) (ident : Nat) :
    ∃ w, updateWrapper f [] [(z, some v)] o ident = .ok w ∧
      sigOf w = { sigOf f with pos := (sigOf f).pos ++ [(z, some v)] } ∧
      w.ann = annOf f ∧ w.retAnn = f.retAnn ∧ w.isAsync = f.isAsync ∧
      w.name = f.name ∧ w.doc = f.doc ∧ w.module = f.module := by
  have hz' := not_mem_of_not_mem_paramNames hz
  obtain ⟨fb', hr, s⟩ := addArg_default (wfFB_fromFunc wf) (z := z) v hz'.1 hz'.2
  have r := addArg_rest hr
  have hn := addArg_names_nodup (wfFB_fromFunc wf) hr (names_fromFunc f ▸ hz) (names_fromFunc f ▸ wf.nodup)
  refine ⟨_, updateWrapper_ok_iff.mpr ⟨_, _, rfl, expectAll_cons_ok [] hr, hn, rfl⟩, ?_, r.annotations, r.retAnn,
    r.isAsync, r.name, r.doc, r.module⟩
  rw [sigOf_toFunc, s.posSig, s.kwSig, r.varargs, r.varkw, fromFunc_kwSig]; rfl

/-- an `expected` name that already is a positional or keyword-only parameter is refused -/
theorem expected_existing (f : Func) (z : Name) (d : Option Val) (hz : z ∈ f.args ∨ z ∈ f.kwonly)
    (o : Opts) (ident : Nat) :
    updateWrapper f [] [(z, d)] o ident = .error .existingArgument := by
  unfold updateWrapper
  simp only [injectAll, expectAll_cons_error [] (addArg_existing (fb := FB.fromFunc f) d false hz)]

/-- the default of a named parameter in a signature (`none` = no such parameter,
    `some none` = required) -/
def Sig.dflt (s : Sig) (p : Name) : Option (Option Val) := get? p (s.pos ++ s.kwonly)

/-- whatever is injected and expected: every parameter that is neither injected nor expected
    keeps its default attached (and a parameter of `f` is still a parameter of the result) -/
theorem defaults_stay_attached (f : Func) (wf : WfFunc f) (inj : List Name)
    (exp : List (Name × Option Val)) (o : Opts) (ident : Nat) (w : Func)
    (h : updateWrapper f inj exp o ident = .ok w) (p : Name) (hi : p ∉ inj)
    (he : p ∉ exp.map Prod.fst) :
    (sigOf w).dflt p = (sigOf f).dflt p := by
  obtain ⟨fb, rfl, u⟩ := updateWrapper_spec wf h
  unfold Sig.dflt
  rw [sigOf_toFunc, get?_append, get?_append]
  show (get? p fb.posSig).or (get? p fb.kwSig) = _
  rw [← get?_filter_keyNotIn he fb.posSig, u.posSig, u.kwSig, get?_filter_keyNotIn hi, get?_filter_keyNotIn hi]

/-- ANY `injected` and `expected` lists together, whenever `update_wrapper` accepts them: the own
    signature changes by exactly those parameters.  Taking the expected names away from the new
    positional parameters leaves the old ones minus the injected names - same order, same defaults;
    every expected name is a positional parameter with exactly the default asked for (`none` =
    required); the keyword-only parameters are the old ones minus the injected names; `*args` and
    `**kw` are untouched; the expected names are pairwise distinct -/
theorem injected_expected_exact (f : Func) (wf : WfFunc f) (inj : List Name)
    (exp : List (Name × Option Val)) (o : Opts) (ident : Nat) (w : Func)
    (h : updateWrapper f inj exp o ident = .ok w) :
    (sigOf w).pos.filter (keyNotIn (exp.map Prod.fst)) = (sigOf f).pos.filter (keyNotIn inj) ∧
      (∀ zd ∈ exp, get? zd.1 (sigOf w).pos = some zd.2) ∧
      (sigOf w).kwonly = (sigOf f).kwonly.filter (keyNotIn inj) ∧
      (sigOf w).varargs = (sigOf f).varargs ∧ (sigOf w).varkw = (sigOf f).varkw ∧
      (exp.map Prod.fst).Nodup := by
  obtain ⟨fb, rfl, u⟩ := updateWrapper_spec wf h
  exact ⟨u.posSig, u.expected, u.kwSig, u.rest.varargs, u.rest.varkw, u.expNodup⟩

theorem get?_annOf_of_not_mem {f : Func} {p : Name} (hp : p ∉ paramNames f) : get? p (annOf f) = none :=
  (get?_annOf_eq_ite f p).trans (if_neg hp)

/-- annotations as `inspect.signature` shows them, whatever is injected and expected: a parameter
    that was a parameter of `f` shows the annotation it had in `f` (or none), a parameter that is
    new shows none.  (For a name that is injected AND expected this describes the code as it is -
    `remove_arg` leaves the builder's `annotations` alone, so the re-added parameter shows the
    annotation of the removed one; the statement leaves that case open and the correspondence
    does not compare it: `readdedW`.) -/
theorem annotations_stay_attached (f : Func) (wf : WfFunc f) (inj : List Name)
    (exp : List (Name × Option Val)) (o : Opts) (ident : Nat) (w : Func)
    (h : updateWrapper f inj exp o ident = .ok w) (p : Name) :
    get? p w.ann = (if p ∈ paramNames f then get? p f.ann else none) ∧ w.retAnn = f.retAnn := by
  obtain ⟨fb, rfl, u⟩ := updateWrapper_spec wf h
  refine ⟨?_, u.rest.retAnn⟩
  show get? p fb.annotations = _
  rw [u.rest.annotations]
  exact get?_annOf_eq_ite f p

/-- the function `update_wrapper` returns is again a well-formed function object - so it can
    be wrapped again, and all of the above applies to stacks of decorators -/
theorem wrapper_wellformed (f : Func) (wf : WfFunc f) (inj : List Name)
    (exp : List (Name × Option Val)) (o : Opts) (ident : Nat) (w : Func)
    (h : updateWrapper f inj exp o ident = .ok w) : WfFunc w := by
  obtain ⟨fb, rfl, u⟩ := updateWrapper_spec wf h
  exact wfFunc_toFunc u.wf u.namesNodup _ _

/-- `wraps` applied `n` times on top of each other (a stack of decorators) -/
def wrapsN (f : Func) (o : Opts) : Nat → Except Err Func
  | 0 => .ok f
  | n + 1 =>
    match wrapsN f o n with
    | .ok w => updateWrapper w [] [] o
    | .error e => .error e

/-- a stack of `n` plain `wraps` decorators still has the innermost function's own signature,
    annotations (of its parameters: what `getfullargspec` / `inspect.signature` report), kind and
    metadata, whatever `n` -/
theorem stacked_wraps (f : Func) (wf : WfFunc f) (o : Opts) (n : Nat) :
    ∃ w, wrapsN f o n = .ok w ∧ WfFunc w ∧ sigOf w = sigOf f ∧ annOf w = annOf f ∧ w.retAnn = f.retAnn ∧
      w.isAsync = f.isAsync ∧ w.name = f.name ∧ w.doc = f.doc ∧ w.module = f.module := by
  induction n with
  | zero => exact ⟨f, rfl, wf, rfl, rfl, rfl, rfl, rfl, rfl, rfl⟩
  | succ n ih =>
    obtain ⟨w, hw, wfw, hs, ha, hr, hy, hn, hd, hm⟩ := ih
    obtain ⟨w', hw', hs', ha', hr', hy'⟩ := sig_preserved w wfw o (w.ident + 1)
    obtain ⟨hn', hd', hm', _⟩ := metadata_preserved w o (w.ident + 1) w' hw'
    have ha'' : annOf w' = annOf w := by
      unfold annOf
      rw [ha', paramNames_of_sigOf hs']
      unfold annOf
      rw [List.filter_filter]
      simp
    refine ⟨w', ?_, wrapper_wellformed w wfw [] [] o _ w' hw', hs'.trans hs, ha''.trans ha, hr'.trans hr,
      hy'.trans hy, hn'.trans hn, hd'.trans hd, hm'.trans hm⟩
    simp only [wrapsN, hw]
    exact hw'

/-- every function of the list is a plain `wraps` of something with `f`'s own signature -/
def PlainOver (f : Func) (ws : List Func) : Prop :=
  ∀ w ∈ ws, ∃ inner o ident, updateWrapper inner [] [] o ident = .ok w ∧ sigOf inner = sigOf f

/-- a call the innermost function accepts travels down any chain of plain wrappers (each user
    wrapper calling the next function with what it received) and arrives with the same bound arguments -/
theorem chain_forwarding (f : Func) (ws : List Func) (hws : PlainOver f ws) (c : Call) (b : Bound)
    (hb : bind (sigOf f) c = some b) :
    ∃ c', travel ws c = some c' ∧ bind (sigOf f) c' = some b := by
  induction ws generalizing c with
  | nil => exact ⟨c, rfl, hb⟩
  | cons w r ih =>
    obtain ⟨⟨inner, o, ident, hw, hs⟩, hr⟩ := List.forall_mem_cons.mp hws
    obtain ⟨c1, h1, h2⟩ := forwarding inner o ident w hw c b (hs ▸ hb)
    rw [hs] at h2
    obtain ⟨c', h3, h4⟩ := ih hr c1 h2
    exact ⟨c', by simp only [travel, h1]; exact h3, h4⟩

/-- every level of a stack built by `stackUp` is a plain `wraps` of a well-formed function with `f`'s own signature -/
theorem stackUp_plainOver (f : Func) (o : Opts) (n : Nat) (ws : List Func)
    (hws : PlainOver f ws) (hwf : ∀ w ∈ ws, WfFunc w ∧ sigOf w = sigOf f) (res : List Func)
    (h : stackUp o n ws = .ok res) : PlainOver f res ∧ ∀ w ∈ res, WfFunc w ∧ sigOf w = sigOf f := by
  induction n generalizing ws with
  | zero => simp only [stackUp, Except.ok.injEq] at h; subst h; exact ⟨hws, hwf⟩
  | succ n ih =>
    cases ws with
    | nil => simp only [stackUp, Except.ok.injEq] at h; subst h; exact ⟨hws, hwf⟩
    | cons w r =>
      obtain ⟨wfw, hsw⟩ := hwf w List.mem_cons_self
      obtain ⟨w', hw', hs', _⟩ := sig_preserved w wfw o (w.ident + 1)
      have hw'' : updateWrapper w [] [] o = .ok w' := hw'
      simp only [stackUp, hw''] at h
      exact ih (w' :: w :: r) (List.forall_mem_cons.mpr ⟨⟨w, o, w.ident + 1, hw', hsw⟩, hws⟩)
        (List.forall_mem_cons.mpr ⟨⟨wrapper_wellformed w wfw [] [] o _ _ hw', hs'.trans hsw⟩, hwf⟩) h

/-- a stack of `n + 1` plain `wraps` decorators: every call the innermost function accepts
    travels down the whole stack - each user wrapper calling the next function with what it
    received - and reaches the innermost function with the same bound arguments, defaults included;
    and the outermost function has the innermost one's own signature, so it accepts exactly those calls -/
theorem stacked_forwarding (f : Func) (wf : WfFunc f) (o : Opts) (n : Nat) (w1 : Func) (ws : List Func)
    (h1 : updateWrapper f [] [] o = .ok w1) (h : stackUp o n [w1] = .ok ws) :
    (∀ w ∈ ws, sigOf w = sigOf f) ∧
    ∀ (c : Call) (b : Bound), bind (sigOf f) c = some b →
      ∃ c', travel ws c = some c' ∧ bind (sigOf f) c' = some b := by
  have hs1 := sigOf_of_plain h1
  have hp : PlainOver f [w1] := List.forall_mem_singleton.mpr ⟨f, o, f.ident + 1, h1, rfl⟩
  have hq : ∀ w ∈ [w1], WfFunc w ∧ sigOf w = sigOf f :=
    List.forall_mem_singleton.mpr ⟨wrapper_wellformed f wf [] [] o _ _ h1, hs1⟩
  obtain ⟨r1, r2⟩ := stackUp_plainOver f o n [w1] hp hq ws h
  exact ⟨fun w hw => (r2 w hw).2, fun c b hb => chain_forwarding f ws r1 c b hb⟩

/-- whatever sequence of `remove_arg` / `add_arg(…[, kwonly=True])` calls is made on
    `FunctionBuilder.from_func(f)`: if `get_func()` then compiles, every parameter never named
    in the history is still there with the default it had in `f`, metadata, annotations and
    sync/async kind are `f`'s, and the result is a well-formed function -/
theorem history_defaults_stay_attached (f : Func) (wf : WfFunc f) (ops : List BOp) (ident : Nat)
    (w : Func) (h : buildHistory f ops ident = .ok w) :
    WfFunc w ∧ (∀ p, p ∉ ops.map BOp.name → (sigOf w).dflt p = (sigOf f).dflt p) ∧
      (sigOf w).varargs = (sigOf f).varargs ∧ (sigOf w).varkw = (sigOf f).varkw ∧
      w.ann = annOf f ∧ w.retAnn = f.retAnn ∧ w.isAsync = f.isAsync ∧
      w.name = f.name ∧ w.doc = f.doc ∧ w.module = f.module := by
  obtain ⟨fb, hr, hn, rfl⟩ := buildHistory_inv h
  obtain ⟨wf', r, hd⟩ := run_spec (wfFB_fromFunc wf) ops hr
  exact ⟨wfFunc_toFunc wf' hn _ _, fun p hp => (hd p hp).trans (by rw [fromFunc_kwSig]; rfl),
    r.varargs, r.varkw, r.annotations, r.retAnn, r.isAsync, r.name, r.doc, r.module⟩

/-- annotations as `inspect.signature` shows them after any builder history (same reading as
    `annotations_stay_attached`; the names left open by the statement are `readded ops`) -/
theorem history_annotations_stay_attached (f : Func) (wf : WfFunc f) (ops : List BOp) (ident : Nat)
    (w : Func) (h : buildHistory f ops ident = .ok w) (p : Name) :
    get? p w.ann = (if p ∈ paramNames f then get? p f.ann else none) := by
  obtain ⟨_, _, _, _, hann, _⟩ := history_defaults_stay_attached f wf ops ident w h
  rw [hann]
  exact get?_annOf_eq_ite f p

/-- the function a builder history compiles forwards its own bound arguments, like every function the builder compiles -/
theorem history_forwarding (f : Func) (ops : List BOp) (ident : Nat) (w : Func)
    (h : buildHistory f ops ident = .ok w) (c : Call) (b : Bound) (hb : bind (sigOf w) c = some b) :
    ∃ c', callWrapper w c = some c' ∧ bind (sigOf w) c' = some b := by
  obtain ⟨fb, _, hn, rfl⟩ := buildHistory_inv h
  exact toFunc_forwarding fb ident none hn c b hb

/-! ## the name the user's wrapper goes by inside the built function (`Hygiene.lean`)

`callWrapper` above takes for granted that the callee of the generated body IS the user's wrapper.
That depends on names: the body runs in `{call_name: wrapper, '_func': func}`, the `def` binds the
function's own name there, and a parameter of the same name shadows it. -/

/-- whatever the parameters, `*args`, `**kw` and the function itself are called - `_call`,
    `__call`, … included - the name `update_wrapper` picks (its `while` loop, which ends within
    as many rounds as there are names to avoid) resolves, inside the body, to the user's wrapper:
    not to an argument, not to the new function itself, not to `_func`.  `cn k` is the spelling
    `'_' * k + '_call'` (any injective numbering that never hits the key `_func`). -/
theorem callee_reaches_wrapper (cn : Nat → Name) (hinj : ∀ i j, cn i = cn j → i = j) (funcKey : Name)
    (hk : ∀ k, cn k ≠ funcKey) (fb : FB) : fb.callee cn funcKey = .userWrapper := by
  have hfresh := pickCall_fresh cn hinj fb.takenNames
  rw [mem_takenNames, not_or] at hfresh
  exact resolve_fresh hfresh.1 hfresh.2 (hk _)

/-! ## the generated source, character by character (`Text.lean`)

`FB.invocationSpecs` drops the ITEM `*`; the code removes CHARACTERS: `_KWONLY_MARKER.sub('', sig)`
with the regex `\*\s*,\s*` on `'(' + ', '.join(items) + ')'`, then `sig[1:-1]`. -/

/-- on the text of any builder state - any names (no `*`, no `,`, no white space in a name), any
    number of parameters of every kind - the regex substitution yields exactly the text of the
    invocation items: the bare `*` and its separator go, the star of `*args`, the stars of `**kw`,
    every name, every `k=k` and every other separator stay -/
theorem invocation_text (sp : Name → List Char) (hsp : ∀ n, NameText (sp n)) (fb : FB) :
    scan .norm ('(' :: (renderItems sp (formatArgspec fb.args fb.varargs fb.varkw fb.kwonlyargs true) ++ [')'])) =
      '(' :: (renderItems sp fb.invocationSpecs ++ [')']) := by
  rw [scan_parens, scan_render sp hsp _ (starNotLast_format _ _ _ _ _)]
  rfl

/-- the same substitution leaves the text of a parameter list WITH `*args` alone, and more
    generally every text without a bare star -/
theorem text_without_marker_unchanged (sp : Name → List Char) (hsp : ∀ n, NameText (sp n)) (l : List Spec)
    (hl : ∀ s ∈ l, notBareStar s = true) :
    scan .norm (renderItems sp l) = renderItems sp l := by
  rw [scan_render sp hsp l (starNotLast_of_allNB hl), List.filter_eq_self.mpr hl]

/-- nothing is lost by reading the text as a list of items: two item lists with the same text
    are the same list (names: not empty, no `*`, `,`, `=`, white space; distinct names are spelled
    differently) - in particular the `def` header and the `_call(...)` argument list Python
    compiles determine the builder's `sigSpecs` / `invocationSpecs` -/
theorem text_determines_items (sp : Name → List Char) (hsp : ∀ n, IdentText (sp n))
    (hinj : ∀ n m, sp n = sp m → n = m) (l l' : List Spec)
    (h : renderItems sp l = renderItems sp l') : l = l' :=
  renderItems_inj sp hsp hinj l l' h

/-- the character-level telling against the source as it is NOW: for each of the 36 builder
    shapes of the regenerated table, `'(' + ', '.join(items) + ')'` is the text `get_sig_str`
    returned, and the regex scanner applied to it, minus the parentheses, is the text
    `get_invocation_str` returned (modulo white space; evaluated by the kernel) -/
theorem generated_text_agrees : Gen.textTable.all textEntryOk = true := by
  unfold Gen.textTable
  repeat rw [all_textEntryOk_cons]
  decide +kernel

/-! ## several uses in one process (`Session.lean`)

A session is any list of requests (`update_wrapper` with any injected / expected lists and options, a builder
history, an in-place edit of `__kwdefaults__` / `__annotations__`), each aimed at any function existing at that
moment; `run` tells it on a heap of shared dict objects, `prun` without one. -/

/-- every state a session can reach keeps the dict objects of distinct functions distinct -/
theorem session_reachable_inv (fs : List Func) (rs : List Req) : Inv (run (St.init fs) rs).1 :=
  (run_refines rs (init_spec fs).1).1

/-- for every session: what the public API shows of every function at the end, and the
    outcome of every request, are those of the heap-free telling, in which each request is
    the pure `updateWrapper` / builder history applied to its target as it is at that moment
    and nothing else moves - no use of `wraps` can disturb another one -/
theorem session_refines (fs : List Func) (rs : List Req) :
    ((run (St.init fs) rs).1.view, (run (St.init fs) rs).2) = prun fs rs := by
  have h := (run_refines rs (init_spec fs).1).2
  rw [(init_spec fs).2] at h
  exact h

/-- one request, whatever it is, changes no function that existed before - the wrapped
    function included - except the one function an in-place edit is aimed at -/
theorem session_noninterference (s : St) (hi : Inv s) (r : Req) (i : Nat) (f : Func)
    (hf : s.view[i]? = some f) (hr : r.edits ≠ some i) : (step s r).1.view[i]? = some f := by
  rw [step_view hi r]
  exact pstep_keeps s.view r i f hf hr

/-- the function a `wraps` / `update_wrapper` request returns is the one `Model.lean`
    describes (so every theorem above applies to it), and it stays that function whatever
    requests follow - on the same wrapped function, on other functions, on itself as a
    target - as long as nobody edits it -/
theorem session_built_stays (s : St) (hi : Inv s) (t : Nat) (inj : List Name)
    (exp : List (Name × Option Val)) (o : Opts) (f w : Func) (hf : s.view[t]? = some f)
    (hw : updateWrapper f inj exp o (s.funcs.length + 1) = .ok w) (rs : List Req)
    (hr : ∀ r ∈ rs, r.edits ≠ some s.funcs.length) :
    (step s (.wrap t inj exp o)).2 = .built ∧
      (run (step s (.wrap t inj exp o)).1 rs).1.view[s.funcs.length]? = some w := by
  have hp : pstep s.view (.wrap t inj exp o) = (s.view ++ [w], .built) := by
    simp only [pstep, hf, view_length, hw]
  refine ⟨(step_res hi _).trans (congrArg Prod.snd hp), ?_⟩
  rw [run_view (step_refines hi _).1, step_view hi, hp]
  apply prun_keeps rs _ _ _ _ hr
  rw [← view_length, List.getElem?_append_right (Nat.le_refl _)]
  simp

/-- plain `wraps(f)` in the middle of any session: the new function has `f`'s own signature,
    annotations, kind and metadata - and still has them after any further requests that do
    not edit it -/
theorem session_wraps_timeless (s : St) (hi : Inv s) (t : Nat) (o : Opts) (f : Func)
    (hf : s.view[t]? = some f) (wf : WfFunc f) (rs : List Req)
    (hr : ∀ r ∈ rs, r.edits ≠ some s.funcs.length) :
    ∃ w, (run (step s (.wrap t [] [] o)).1 rs).1.view[s.funcs.length]? = some w ∧
      sigOf w = sigOf f ∧ w.ann = annOf f ∧ w.retAnn = f.retAnn ∧ w.isAsync = f.isAsync ∧
      w.name = f.name ∧ w.doc = f.doc ∧ w.module = f.module := by
  obtain ⟨w, hw, hs, ha, hret, hasy⟩ := sig_preserved f wf o (s.funcs.length + 1)
  obtain ⟨hn, hd, hm, _⟩ := metadata_preserved f o _ w hw
  exact ⟨w, (session_built_stays s hi t [] [] o f w hf hw rs hr).2, hs, ha, hret, hasy, hn, hd, hm⟩

/-! ## non-vacuity -/

/-- `def f(p1, p2=12, p3=13, *p7, p4, p5=25, **p9)` with annotations, a docstring -/
def exF : Func :=
  ⟨1, 1, some 5, some 2, [1, 2, 3], some 7, [4, 5], some 9, [12, 13], [(5, 25)], [(1, 31), (4, 34)],
   some 39, false, none, []⟩

example : WfFunc exF := ⟨by decide, by decide, by decide, by decide⟩
example : (bind (sigOf exF) ⟨[101, 102, 103, 104], [(4, 110), (8, 111)]⟩) =
    some ⟨[(1, 101), (2, 102), (3, 103)], some [104], [(4, 110), (5, 25)], some [(8, 111)]⟩ := by decide +kernel
example : (bind (sigOf exF) ⟨[101], [(2, 5)]⟩) = none := by decide +kernel   -- p4 missing
example : ¬ ∀ p ∈ (sigOf exF).kwonly, p.2.isSome ∨ (get? p.1 [(2, 5)]).isSome := by decide +kernel
example : (bind (sigOf exF) ⟨[101, 102], [(2, 5), (4, 1)]⟩) = none := by decide +kernel   -- p2 twice
example : (wraps exF).toOption.map (fun w => callWrapper w ⟨[101], [(4, 110), (8, 111)]⟩) =
    some (some ⟨[101, 12, 13], [(4, 110), (5, 25), (8, 111)]⟩) := by decide +kernel
example : (updateWrapper exF [2] []).toOption.map (fun w => (sigOf w).pos) =
    some [(1, none), (3, some 13)] := by decide +kernel
example : (updateWrapper exF [] [(6, none)]).toOption.map (fun w => (sigOf w).pos) =
    some [(1, none), (6, none), (2, some 12), (3, some 13)] := by decide +kernel
example : (updateWrapper exF [4] [(6, some 41)]).toOption.map (fun w => sigOf w) =
    some ⟨[(1, none), (2, some 12), (3, some 13), (6, some 41)], some 7, [(5, some 25)], some 9⟩ := by
  decide +kernel
def errOf (r : Except Err Func) : Option Err :=
  match r with
  | .error e => some e
  | .ok _ => none
example : (buildHistory exF [.remove 2, .add 6 none false, .add 8 (some 42) true, .remove 5]).toOption.map
    (fun w => sigOf w) = some ⟨[(1, none), (6, none), (3, some 13)], some 7, [(4, none), (8, some 42)], some 9⟩ := by
  decide +kernel
example : (wrapsN exF {} 3).toOption.map (fun w => (sigOf w, w.wrapped)) = some (sigOf exF, some 3) := by decide +kernel
example : (match wraps exF with
    | .ok w1 => (stackUp {} 2 [w1]).toOption.bind (fun ws => travel ws ⟨[101], [(4, 110), (8, 111)]⟩)
    | .error _ => none) = some ⟨[101, 12, 13], [(4, 110), (5, 25), (8, 111)]⟩ := by decide +kernel
example : errOf (updateWrapper exF [] [(7, none)]) = some .syntaxError := by decide +kernel
-- p4 (annotated 34) injected and expected again: the name is left open (`readdedW`); p1 keeps 31, p6 is new
example : readdedW [4] [(4, some 44), (6, none)] = [4] := by decide +kernel
example : (updateWrapper exF [4] [(4, some 44), (6, none)]).toOption.map
    (fun w => (get? 1 w.ann, get? 6 w.ann, paramNames w)) = some (some 31, none, [1, 6, 2, 3, 4, 7, 5, 9]) := by decide +kernel
example : readded [.remove 2, .add 6 none false, .remove 5, .add 2 (some 42) true] = [2] := by decide +kernel
example : errOf (updateWrapper { exF with varkw := none } [8] []) = some .missingArgument := by decide +kernel

-- names: `_call` = 90, `__call` = 91, `___call` = 92, …; `_func` = 80
-- def _call(p1, __call): the loop goes on to `___call`; always using `_call` would call the function itself,
-- and with a parameter of that name the argument
example : pickCall (fun k => 90 + k) (FB.fromFunc { exF with name := 90, args := [1, 91, 3] }).takenNames = 92 := by decide +kernel
example : (FB.fromFunc { exF with name := 90 }).calleeNaive (fun k => 90 + k) 80 = .self := by decide +kernel
example : (FB.fromFunc { exF with args := [1, 90, 3] }).calleeNaive (fun k => 90 + k) 80 = .argument := by decide +kernel
example : (FB.fromFunc { exF with name := 90, args := [1, 91, 3] }).callee (fun k => 90 + k) 80 = .userWrapper := by decide +kernel
-- inject p2 (default 12), p4 (keyword-only); expect p6 (required) and p8=48: p1, p3 keep place and default
example : (updateWrapper exF [2, 4] [(6, none), (8, some 48)]).toOption.map (fun w => sigOf w) =
    some ⟨[(1, none), (6, none), (3, some 13), (8, some 48)], some 7, [(5, some 25)], some 9⟩ := by decide +kernel

-- the regex on concrete text: `*, ` goes; `*args,` and `**kw` stay; white space around the comma is eaten
example : scan .norm "(a, b, *, k=k, j=j, **kw)".toList = "(a, b, k=k, j=j, **kw)".toList := by
  rw [String.toList_ofList, String.toList_ofList]; decide +kernel
example : scan .norm "(a, *args, k=k, **kw)".toList = "(a, *args, k=k, **kw)".toList := by
  rw [String.toList_ofList]; decide +kernel
example : scan .norm "(* \t ,  k=k)".toList = "(k=k)".toList := by
  rw [String.toList_ofList, String.toList_ofList]; decide +kernel
example : scan .norm "(a, *)".toList = "(a, *)".toList := by rw [String.toList_ofList]; decide +kernel
example : NameText "kwargs".toList := by
  rw [String.toList_ofList]; exact ⟨by decide +kernel, by decide +kernel⟩
example : IdentText "_call".toList := by
  rw [String.toList_ofList]; exact ⟨by decide +kernel, by decide +kernel⟩
example : splitItems [] "p1, *p7, p4=p4, **p9".toList =
    ["p1".toList, "*p7".toList, "p4=p4".toList, "**p9".toList] := by
  rw [String.toList_ofList, String.toList_ofList, String.toList_ofList, String.toList_ofList,
    String.toList_ofList]
  decide +kernel
example : renderItems (fun n => ['p', Char.ofNat (48 + n)]) (FB.fromFunc exF).invocationSpecs =
    "p1, p2, p3, *p7, p4=p4, p5=p5, **p9".toList := by
  rw [String.toList_ofList]; decide +kernel

/-- the same function wrapped three times, the second time with its keyword-only `p5=25`
    injected; then the user edits the second wrapper: nobody else notices -/
example : (run (St.init [exF]) [.wrap 0 [] [] {}, .wrap 0 [5] [] {}, .wrap 0 [] [] {},
      .setKwd 2 4 (some 77)]).1.view.map (fun w => (sigOf w).kwonly) =
    [[(4, none), (5, some 25)], [(4, none), (5, some 25)], [(4, some 77)], [(4, none), (5, some 25)]] := by
  decide +kernel
example : (run (St.init [exF]) [.wrap 0 [] [] {}, .hist 1 [.remove 5, .add 8 (some 42) true], .wrap 1 [] [] {}]).2 =
    [.built, .built, .built] := by decide +kernel

end C13
