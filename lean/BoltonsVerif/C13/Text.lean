import BoltonsVerif.C13.Model
/-
C13 — the generated source at CHARACTER level.

`Model.lean` treats the text `get_sig_str` / `get_invocation_str` produce as a list of
comma-separated items (`Spec`), and the removal of the keyword-only marker as dropping the item
`*` (`filter notBareStar`).  The code works on characters:

    inspect_formatargspec:   '(' + ', '.join(specs) + ')'
    get_invocation_str:      sig = _KWONLY_MARKER.sub('', sig);  return sig[1:-1]
    _KWONLY_MARKER = re.compile(r"\*\s*,\s*")        (written with re.VERBOSE)

This file has the character-level telling - `renderItems` (the join), `scan` (what
`re.sub(r'\*\s*,\s*', '', ·)` does: left to right, non-overlapping, every `\s*` greedy; since a
comma is no white space no backtracking is ever needed, so a three-state scanner is exact) - and
proves that on every text the builder can produce the two tellings agree (`scan_render`,
`invocation_text` in `Props.lean`): the regex removes the bare `*` item with its separator and
nothing else - not the star of `*args`, not the stars of `**kw` - whatever the names are, as long
as a name contains no `*`, no `,` and no white space.
Conversely the text determines the items (`renderItems_inj`; names additionally without `=`).
Names are spelled by an arbitrary `sp : Name → List Char` with that property.
-/
namespace C13

/-- `\s` on the characters that can occur -/
def isWs (c : Char) : Bool :=
  c == ' ' || c == '\t' || c == '\n' || c == '\r' || c == '\x0b' || c == '\x0c'

def specText (sp : Name → List Char) : Spec → List Char
  | .plain n => sp n
  | .star n => '*' :: sp n
  | .bareStar => ['*']
  | .kw k v => sp k ++ '=' :: sp v
  | .dstar n => '*' :: '*' :: sp n

/-- `', '.join(specs)` -/
def renderItems (sp : Name → List Char) : List Spec → List Char
  | [] => []
  | [s] => specText sp s
  | s :: t :: r => specText sp s ++ ',' :: ' ' :: renderItems sp (t :: r)

/-- states of the scanner for `\*\s*,\s*`: outside a candidate match / inside one, having read
    `*` and some white space (`buf`, given back if no comma follows) / after the comma, eating
    white space -/
inductive MS where
  | norm
  | star (buf : List Char)
  | after

/-- `re.sub(r'\*\s*,\s*', '', text)` -/
def scan : MS → List Char → List Char
  | .norm, [] => []
  | .norm, c :: r => if c = '*' then scan (.star ['*']) r else c :: scan .norm r
  | .star buf, [] => buf
  | .star buf, c :: r =>
    if isWs c then scan (.star (buf ++ [c])) r
    else if c = ',' then scan .after r
    else if c = '*' then buf ++ scan (.star ['*']) r
    else buf ++ c :: scan .norm r
  | .after, [] => []
  | .after, c :: r =>
    if isWs c then scan .after r
    else if c = '*' then scan (.star ['*']) r
    else c :: scan .norm r

/-- what a name may look like for the regex not to be fooled: not empty, no star, no comma, no
    white space (every Python identifier qualifies) -/
def NameText (s : List Char) : Prop :=
  s ≠ [] ∧ ∀ c ∈ s, c ≠ '*' ∧ c ≠ ',' ∧ isWs c = false

theorem NameText.ne_nil {s : List Char} (h : NameText s) : s ≠ [] := h.1

theorem NameText.ne_star {s : List Char} (h : NameText s) {c : Char} (hc : c ∈ s) : c ≠ '*' := (h.2 c hc).1

theorem NameText.ne_comma {s : List Char} (h : NameText s) {c : Char} (hc : c ∈ s) : c ≠ ',' := (h.2 c hc).2.1

theorem NameText.not_ws {s : List Char} (h : NameText s) {c : Char} (hc : c ∈ s) : isWs c = false := (h.2 c hc).2.2

theorem scan_norm_cons (c : Char) (r : List Char) :
    scan .norm (c :: r) = if c = '*' then scan (.star ['*']) r else c :: scan .norm r := rfl

theorem scan_star_cons (buf : List Char) (c : Char) (r : List Char) :
    scan (.star buf) (c :: r) =
      if isWs c then scan (.star (buf ++ [c])) r
      else if c = ',' then scan .after r
      else if c = '*' then buf ++ scan (.star ['*']) r
      else buf ++ c :: scan .norm r := rfl

theorem scan_after_cons (c : Char) (r : List Char) :
    scan .after (c :: r) =
      if isWs c then scan .after r else if c = '*' then scan (.star ['*']) r else c :: scan .norm r := rfl

theorem scan_norm_plain (s rest : List Char) (h : ∀ c ∈ s, c ≠ '*') :
    scan .norm (s ++ rest) = s ++ scan .norm rest := by
  induction s with
  | nil => rfl
  | cons c r ih =>
    rw [List.cons_append, scan_norm_cons, if_neg (h c List.mem_cons_self),
      ih (fun d hd => h d (List.mem_cons_of_mem _ hd)), List.cons_append]

theorem scan_norm_star_keep (c : Char) (r : List Char) (hw : isWs c = false) (hc : c ≠ ',') :
    scan .norm ('*' :: c :: r) = '*' :: scan .norm (c :: r) := by
  rw [scan_norm_cons, if_pos rfl, scan_star_cons, hw, if_neg Bool.false_ne_true, if_neg hc, scan_norm_cons]
  split <;> rfl

theorem scan_norm_marker (c : Char) (r : List Char) (hw : isWs c = false) :
    scan .norm ('*' :: ',' :: ' ' :: c :: r) = scan .norm (c :: r) := by
  rw [scan_norm_cons, if_pos rfl, scan_star_cons, if_neg (by decide), if_pos rfl, scan_after_cons,
    if_pos (by decide), scan_after_cons, hw, if_neg Bool.false_ne_true, scan_norm_cons]

theorem specText_head (sp : Name → List Char) (hsp : ∀ n, NameText (sp n)) (s : Spec) :
    ∃ c r, specText sp s = c :: r ∧ isWs c = false ∧ c ≠ ',' := by
  have hd : ∀ n, ∃ c r, sp n = c :: r ∧ isWs c = false ∧ c ≠ ',' := by
    intro n
    cases h : sp n with
    | nil => exact absurd h (hsp n).ne_nil
    | cons c r =>
      have hc : c ∈ sp n := h ▸ List.mem_cons_self
      exact ⟨c, r, rfl, (hsp n).not_ws hc, (hsp n).ne_comma hc⟩
  cases s with
  | plain n => exact hd n
  | star n => exact ⟨'*', sp n, rfl, by decide, by decide⟩
  | bareStar => exact ⟨'*', [], rfl, by decide, by decide⟩
  | kw k v =>
    obtain ⟨c, r, h, h1, h2⟩ := hd k
    exact ⟨c, r ++ '=' :: sp v, by rw [specText, h]; rfl, h1, h2⟩
  | dstar n => exact ⟨'*', '*' :: sp n, rfl, by decide, by decide⟩

theorem renderItems_cons_cons (sp : Name → List Char) (s t : Spec) (r : List Spec) :
    renderItems sp (s :: t :: r) = specText sp s ++ ',' :: ' ' :: renderItems sp (t :: r) := rfl

theorem renderItems_head (sp : Name → List Char) (hsp : ∀ n, NameText (sp n)) (s : Spec) (l : List Spec) :
    ∃ c r, renderItems sp (s :: l) = c :: r ∧ isWs c = false ∧ c ≠ ',' := by
  obtain ⟨c, r, h, h1, h2⟩ := specText_head sp hsp s
  cases l with
  | nil => exact ⟨c, r, h, h1, h2⟩
  | cons t l' => exact ⟨c, r ++ ',' :: ' ' :: renderItems sp (t :: l'), by rw [renderItems_cons_cons, h]; rfl, h1, h2⟩

theorem scan_norm_item (sp : Name → List Char) (hsp : ∀ n, NameText (sp n)) (s : Spec)
    (hs : notBareStar s = true) (rest : List Char) :
    scan .norm (specText sp s ++ rest) = specText sp s ++ scan .norm rest := by
  have hns : ∀ n, ∀ c ∈ sp n, c ≠ '*' := fun n c hc => (hsp n).ne_star hc
  have hstar : ∀ n, scan .norm ('*' :: (sp n ++ rest)) = '*' :: (sp n ++ scan .norm rest) := by
    intro n
    obtain ⟨c, r, h, h1, h2⟩ := specText_head sp hsp (.plain n)
    have h' : sp n = c :: r := h
    rw [h', List.cons_append, scan_norm_star_keep c _ h1 h2, ← List.cons_append, ← h',
      scan_norm_plain _ _ (hns n)]
  cases s with
  | plain n => exact scan_norm_plain _ _ (hns n)
  | star n => exact hstar n
  | bareStar => exact absurd hs Bool.false_ne_true
  | kw k v =>
    show scan .norm ((sp k ++ '=' :: sp v) ++ rest) = (sp k ++ '=' :: sp v) ++ scan .norm rest
    rw [List.append_assoc, scan_norm_plain _ _ (hns k), List.cons_append, scan_norm_cons,
      if_neg (by decide), scan_norm_plain _ _ (hns v), List.append_assoc, List.cons_append]
  | dstar n =>
    show scan .norm ('*' :: '*' :: (sp n ++ rest)) = '*' :: '*' :: (sp n ++ scan .norm rest)
    rw [scan_norm_star_keep '*' _ (by decide) (by decide), hstar n]

/-- the bare star is never the last item (the builder emits it only in front of keyword-only
    parameters) -/
def starNotLast : List Spec → Bool
  | [] => true
  | [.bareStar] => false
  | _ :: r => starNotLast r

theorem starNotLast_singleton (s : Spec) : starNotLast [s] = notBareStar s := by cases s <;> rfl

theorem starNotLast_cons_cons (s t : Spec) (r : List Spec) :
    starNotLast (s :: t :: r) = starNotLast (t :: r) := by cases s <;> rfl

theorem notBareStar_iff (s : Spec) : notBareStar s = true ↔ s ≠ .bareStar := by
  cases s <;> simp [notBareStar]

theorem starNotLast_iff (l : List Spec) : starNotLast l = true ↔ l.getLast? ≠ some .bareStar := by
  induction l with
  | nil => exact ⟨fun _ h => (nomatch h), fun _ => rfl⟩
  | cons s r ih =>
    cases r with
    | nil => rw [starNotLast_singleton, notBareStar_iff]; exact ⟨fun h e => h (Option.some.inj e), fun h e => h (e ▸ rfl)⟩
    | cons t q => rw [starNotLast_cons_cons, List.getLast?_cons_cons]; exact ih

theorem starNotLast_append_right (a : List Spec) {b : List Spec} (hb : b ≠ []) :
    starNotLast (a ++ b) = starNotLast b := by
  obtain ⟨s, hs⟩ := Option.isSome_iff_exists.mp (List.getLast?_isSome.mpr hb)
  rw [Bool.eq_iff_iff, starNotLast_iff, starNotLast_iff, List.getLast?_append, hs, Option.some_or]

theorem starNotLast_of_allNB {a : List Spec} (ha : ∀ s ∈ a, notBareStar s = true) : starNotLast a = true :=
  (starNotLast_iff a).mpr fun h => Bool.false_ne_true (ha _ (List.mem_of_getLast? h))

theorem filter_ne_nil_of_starNotLast {l : List Spec} (hne : l ≠ []) (h : starNotLast l = true) :
    l.filter notBareStar ≠ [] := by
  obtain ⟨s, hs⟩ := Option.isSome_iff_exists.mp (List.getLast?_isSome.mpr hne)
  have : notBareStar s = true := (notBareStar_iff s).mpr fun e => (starNotLast_iff l).mp h (e ▸ hs)
  exact List.ne_nil_of_mem (List.mem_filter.mpr ⟨List.mem_of_getLast? hs, this⟩)

theorem starNotLast_format (args : List Name) (va vk : Option Name) (kwo : List Name) (asPairs : Bool) :
    starNotLast (formatArgspec args va vk kwo asPairs) = true := by
  unfold formatArgspec
  cases vk with
  | some u => exact starNotLast_append_right _ (List.cons_ne_nil _ _)
  | none =>
    rw [List.append_nil]
    cases kwo with
    | cons k ks =>
      have hne : (k :: ks).map (fun k => if asPairs then Spec.kw k k else Spec.plain k) ≠ [] :=
        List.cons_ne_nil _ _
      rw [starNotLast_append_right _ hne]
      apply starNotLast_of_allNB
      intro s hs
      obtain ⟨k', _, rfl⟩ := List.mem_map.mp hs
      cases asPairs <;> rfl
    | nil =>
      rw [List.map_nil, List.append_nil]
      cases va with
      | some v => exact starNotLast_append_right _ (List.cons_ne_nil _ _)
      | none =>
        rw [List.isEmpty_nil, if_pos rfl, List.append_nil]
        apply starNotLast_of_allNB
        intro s hs
        obtain ⟨a, _, rfl⟩ := List.mem_map.mp hs
        rfl

/-- the regex substitution on the text = dropping the bare-star item.  `hl`: a bare star in last place has no
    comma behind it and stays (`(a, *)`) -/
theorem scan_render (sp : Name → List Char) (hsp : ∀ n, NameText (sp n)) (l : List Spec)
    (hl : starNotLast l = true) :
    scan .norm (renderItems sp l) = renderItems sp (l.filter notBareStar) := by
  induction l with
  | nil => rfl
  | cons s r ih =>
    cases r with
    | nil =>
      rw [starNotLast_singleton] at hl
      rw [List.filter_cons_of_pos hl]
      have h := scan_norm_item sp hsp s hl []
      rw [List.append_nil] at h
      exact h.trans (List.append_nil _)
    | cons t r' =>
      rw [starNotLast_cons_cons] at hl
      rw [renderItems_cons_cons]
      cases hs : notBareStar s with
      | true =>
        -- the item stays; so does its separator, since something is left behind it
        rw [List.filter_cons_of_pos hs, scan_norm_item sp hsp s hs, scan_norm_cons, if_neg (by decide),
          scan_norm_cons, if_neg (by decide), ih hl]
        cases hf : (t :: r').filter notBareStar with
        | nil => exact absurd hf (filter_ne_nil_of_starNotLast (List.cons_ne_nil _ _) hl)
        | cons u v => rfl
      | false =>
        -- the bare star and its separator go
        have hb : s = .bareStar := by cases s <;> first | rfl | cases hs
        subst hb
        obtain ⟨c, q, hcq, hw, _⟩ := renderItems_head sp hsp t r'
        rw [List.filter_cons_of_neg (by rw [hs]; exact Bool.false_ne_true), ← ih hl, hcq]
        exact scan_norm_marker c q hw

theorem scan_close (st : MS) (t : List Char) : scan st (t ++ [')']) = scan st t ++ [')'] := by
  induction t generalizing st with
  | nil => cases st <;> rfl
  | cons c r ih =>
    rw [List.cons_append]
    cases st with
    | norm => rw [scan_norm_cons, scan_norm_cons, apply_ite (· ++ [')']), ih, ih]; rfl
    | star buf =>
      rw [scan_star_cons, scan_star_cons, apply_ite (· ++ [')']), apply_ite (· ++ [')']), apply_ite (· ++ [')']), ih, ih, ih, ih,
        List.append_assoc, List.append_assoc]
      rfl
    | after => rw [scan_after_cons, scan_after_cons, apply_ite (· ++ [')']), apply_ite (· ++ [')']), ih, ih, ih]; rfl

theorem scan_parens (t : List Char) : scan .norm ('(' :: (t ++ [')'])) = '(' :: (scan .norm t ++ [')']) := by
  rw [scan_norm_cons, if_neg (by decide), scan_close]

/-! ### the text determines the items

Splitting the text at `', '` gives back the texts of the items (`splitItems_render`) and distinct items have
distinct texts (`specText_inj`); hence `renderItems_inj`. -/

/-- `NameText` and no `=`, so that `k=v` splits at its only `=` -/
def IdentText (s : List Char) : Prop :=
  s ≠ [] ∧ ∀ c ∈ s, c ≠ '*' ∧ c ≠ ',' ∧ c ≠ '=' ∧ isWs c = false

theorem IdentText.nameText {s : List Char} (h : IdentText s) : NameText s :=
  ⟨h.1, fun c hc => ⟨(h.2 c hc).1, (h.2 c hc).2.1, (h.2 c hc).2.2.2⟩⟩

theorem IdentText.ne_eqSign {s : List Char} (h : IdentText s) {c : Char} (hc : c ∈ s) : c ≠ '=' := (h.2 c hc).2.2.1

/-- `text.split(', ')` for text whose items contain no comma -/
def splitItems : List Char → List Char → List (List Char)
  | acc, [] => [acc]
  | acc, ',' :: ' ' :: r => acc :: splitItems [] r
  | acc, c :: r => splitItems (acc ++ [c]) r

theorem splitItems_sep (acc r : List Char) : splitItems acc (',' :: ' ' :: r) = acc :: splitItems [] r := by
  rw [splitItems]

theorem splitItems_other (acc : List Char) (c : Char) (r : List Char) (hc : c ≠ ',') :
    splitItems acc (c :: r) = splitItems (acc ++ [c]) r := by
  rw [splitItems]
  intro r' h1 h2
  exact hc h1

theorem splitItems_plain (acc t rest : List Char) (h : ∀ c ∈ t, c ≠ ',') :
    splitItems acc (t ++ rest) = splitItems (acc ++ t) rest := by
  induction t generalizing acc with
  | nil => simp
  | cons c r ih =>
    have hc : c ≠ ',' := h c (by simp)
    rw [List.cons_append, splitItems_other _ _ _ hc, ih _ (fun d hd => h d (by simp [hd]))]
    simp

theorem specText_noComma (sp : Name → List Char) (hsp : ∀ n, NameText (sp n)) (s : Spec) :
    ∀ c ∈ specText sp s, c ≠ ',' := by
  have hn : ∀ n, ∀ c ∈ sp n, c ≠ ',' := fun n c hc => (hsp n).ne_comma hc
  intro c hc
  cases s with
  | plain n => exact hn n c hc
  | star n =>
    simp only [specText, List.mem_cons] at hc
    rcases hc with rfl | hc
    · decide
    · exact hn n c hc
  | bareStar =>
    simp only [specText, List.mem_cons, List.not_mem_nil, or_false] at hc
    subst hc; decide
  | kw k v =>
    simp only [specText, List.mem_append, List.mem_cons] at hc
    rcases hc with hc | rfl | hc
    · exact hn k c hc
    · decide
    · exact hn v c hc
  | dstar n =>
    simp only [specText, List.mem_cons] at hc
    rcases hc with rfl | rfl | hc
    · decide
    · decide
    · exact hn n c hc

theorem splitItems_render (sp : Name → List Char) (hsp : ∀ n, NameText (sp n)) (s : Spec) (l : List Spec)
    (acc : List Char) :
    splitItems acc (renderItems sp (s :: l)) =
      (acc ++ specText sp s) :: l.map (specText sp) := by
  induction l generalizing s acc with
  | nil =>
    show splitItems acc (specText sp s) = _
    have := splitItems_plain acc (specText sp s) [] (specText_noComma sp hsp s)
    rw [List.append_nil] at this
    rw [this, splitItems]; rfl
  | cons t r ih =>
    show splitItems acc (specText sp s ++ ',' :: ' ' :: renderItems sp (t :: r)) = _
    rw [splitItems_plain _ _ _ (specText_noComma sp hsp s), splitItems_sep]
    show (acc ++ specText sp s) :: splitItems [] (renderItems sp (t :: r)) = _
    rw [ih t []]
    simp

theorem append_cons_inj {x : Char} {a a' b b' : List Char} (ha : x ∉ a) (ha' : x ∉ a')
    (h : a ++ x :: b = a' ++ x :: b') : a = a' ∧ b = b' := by
  induction a generalizing a' with
  | nil =>
    cases a' with
    | nil => simp at h; exact ⟨rfl, h⟩
    | cons c r =>
      simp only [List.nil_append, List.cons_append, List.cons.injEq] at h
      exact absurd h.1 (fun e => ha' (by simp [e]))
  | cons c r ih =>
    cases a' with
    | nil =>
      simp only [List.nil_append, List.cons_append, List.cons.injEq] at h
      exact absurd h.1.symm (fun e => ha (by simp [e]))
    | cons c' r' =>
      simp only [List.cons_append, List.cons.injEq] at h
      obtain ⟨h1, h2⟩ := ih (fun hm => ha (by simp [hm])) (fun hm => ha' (by simp [hm])) h.2
      exact ⟨by rw [h.1, h1], h2⟩

theorem specText_inj (sp : Name → List Char) (hsp : ∀ n, IdentText (sp n))
    (hinj : ∀ n m, sp n = sp m → n = m) (s s' : Spec) (h : specText sp s = specText sp s') : s = s' := by
  have hne : ∀ n, sp n ≠ [] := fun n => (hsp n).nameText.ne_nil
  have hstar : ∀ n, '*' ∉ sp n := fun n hm => (hsp n).nameText.ne_star hm rfl
  have heq : ∀ n, '=' ∉ sp n := fun n hm => (hsp n).ne_eqSign hm rfl
  have hhead : ∀ n r, sp n ≠ '*' :: r := fun n r e => hstar n (by rw [e]; simp)
  have hkw : ∀ n k v, sp n ≠ sp k ++ '=' :: sp v := fun n k v e => heq n (by rw [e]; simp)
  have hkwhead : ∀ k v r, sp k ++ '=' :: sp v ≠ '*' :: r := by
    intro k v r e
    cases hk : sp k with
    | nil => exact hne k hk
    | cons c t =>
      rw [hk] at e
      exact hstar k (by rw [hk, (List.cons.inj e).1]; exact List.mem_cons_self)
  cases s <;> cases s' <;> simp only [specText] at h
  case plain.plain n m => rw [hinj n m h]
  case plain.star n m => exact absurd h (hhead n _)
  case plain.bareStar n => exact absurd h (hhead n _)
  case plain.kw n k v => exact absurd h (hkw n k v)
  case plain.dstar n m => exact absurd h (hhead n _)
  case star.plain n m => exact absurd h.symm (hhead m _)
  case star.star n m => rw [hinj n m (List.cons.inj h).2]
  case star.bareStar n => exact absurd (List.cons.inj h).2 (hne n)
  case star.kw n k v => exact absurd h.symm (hkwhead k v _)
  case star.dstar n m => exact absurd (List.cons.inj h).2 (hhead n _)
  case bareStar.plain m => exact absurd h.symm (hhead m _)
  case bareStar.star m => exact absurd (List.cons.inj h).2.symm (hne m)
  case bareStar.bareStar => rfl
  case bareStar.kw k v => exact absurd h.symm (hkwhead k v _)
  case bareStar.dstar m => simp at h
  case kw.plain k v m => exact absurd h.symm (hkw m k v)
  case kw.star k v m => exact absurd h (hkwhead k v _)
  case kw.bareStar k v => exact absurd h (hkwhead k v _)
  case kw.kw k v k' v' =>
    obtain ⟨h1, h2⟩ := append_cons_inj (heq k) (heq k') h
    rw [hinj k k' h1, hinj v v' h2]
  case kw.dstar k v m => exact absurd h (hkwhead k v _)
  case dstar.plain n m => exact absurd h.symm (hhead m _)
  case dstar.star n m => exact absurd (List.cons.inj h).2.symm (hhead m _)
  case dstar.bareStar n => simp at h
  case dstar.kw n k v => exact absurd h.symm (hkwhead k v _)
  case dstar.dstar n m => rw [hinj n m (List.cons.inj (List.cons.inj h).2).2]

theorem renderItems_inj (sp : Name → List Char) (hsp : ∀ n, IdentText (sp n))
    (hinj : ∀ n m, sp n = sp m → n = m) (l l' : List Spec)
    (h : renderItems sp l = renderItems sp l') : l = l' := by
  have hsp' : ∀ n, NameText (sp n) := fun n => (hsp n).nameText
  have hne : ∀ s r, renderItems sp (s :: r) ≠ [] := fun s r e => by
    obtain ⟨c, q, hcq, _⟩ := renderItems_head sp hsp' s r
    rw [e] at hcq; cases hcq
  cases l with
  | nil =>
    cases l' with
    | nil => rfl
    | cons s r => exact absurd h.symm (hne s r)
  | cons s r =>
    cases l' with
    | nil => exact absurd h (hne s r)
    | cons s' r' =>
      have h1 := splitItems_render sp hsp' s r []
      have h2 := splitItems_render sp hsp' s' r' []
      rw [h] at h1
      rw [h1] at h2
      simp only [List.nil_append, List.cons.injEq] at h2
      have hmap : (s :: r).map (specText sp) = (s' :: r').map (specText sp) := by
        simp only [List.map_cons, h2.1, h2.2]
      exact (List.map_inj_right (fun a b hab => specText_inj sp hsp hinj a b hab)).mp hmap

/-! the tie to the source: `Generated/C13_Text.lean` holds the text the CURRENT
    `get_sig_str(with_annotations=False)` / `get_invocation_str()` return for 36 builder shapes
    (regenerated on every run); `textEntryOk` compares it, modulo white space, with what this
    file's character-level telling produces (`generated_text_agrees` in `Props.lean`) -/

def stripWs (l : List Char) : List Char := l.filter (fun c => !isWs c)

/-- the spelling used in the generated table: `p<digit>` -/
def spDigit (n : Name) : List Char := ['p', Char.ofNat (48 + n)]

def textEntryOk (e : (List Nat × Option Nat × List Nat × Option Nat) × String × String) : Bool :=
  let args := e.1.1
  let va := e.1.2.1
  let kwo := e.1.2.2.1
  let vk := e.1.2.2.2
  stripWs ('(' :: (renderItems spDigit (formatArgspec args va vk kwo false) ++ [')'])) == stripWs e.2.1.toList &&
  stripWs (((scan .norm ('(' :: (renderItems spDigit (formatArgspec args va vk kwo true) ++ [')']))).drop 1).dropLast)
    == stripWs e.2.2.toList

/-- `textEntryOk` with the characters of the two strings in place of the strings -/
def charsOk (sh : List Nat × Option Nat × List Nat × Option Nat) (sig inv : List Char) : Bool :=
  stripWs ('(' :: (renderItems spDigit (formatArgspec sh.1 sh.2.1 sh.2.2.2 sh.2.2.1 false) ++ [')'])) == stripWs sig &&
  stripWs (((scan .norm ('(' :: (renderItems spDigit (formatArgspec sh.1 sh.2.1 sh.2.2.2 sh.2.2.1 true) ++ [')']))).drop 1).dropLast)
    == stripWs inv

/-- a literal is `String.ofList` of its characters; `String.toList_ofList` gives them back, while evaluating `toList`
    on the literal makes the kernel run the UTF-8 encoder and decoder -/
theorem all_textEntryOk_cons (sh : List Nat × Option Nat × List Nat × Option Nat) (sig inv : List Char)
    (rest : List ((List Nat × Option Nat × List Nat × Option Nat) × String × String)) :
    ((sh, String.ofList sig, String.ofList inv) :: rest).all textEntryOk =
      (charsOk sh sig inv && rest.all textEntryOk) := by
  simp only [List.all_cons, textEntryOk, charsOk, String.toList_ofList]

end C13
