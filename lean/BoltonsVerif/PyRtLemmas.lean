/-
Facts about the runtime library `PyRt` that the tie theorems (`Cxx/SrcTie.lean`) of several properties use, for any element type:
`range` unfolds like the Python loop it stands for, independently of the fuel; indexing and slicing at the two ends of a list
are `head?` / `getLast?` / `take` / `drop` / `dropLast`; a dict built from pairs with distinct keys is the list of pairs; a
generated `for` loop is proved about as a variable (`for_loop`, `for_loop_foldr`); the dict operations commute with a
re-coding of the values (`Dict.mapVals`).
-/
import BoltonsVerif.PyRt

namespace PyRt

theorem rangeUp_fuel (stop step : Int) (hs : 0 < step) :
    ∀ (n m : Nat) (a : Int), (stop - a).toNat ≤ n → (stop - a).toNat ≤ m →
      rangeUp stop step n a = rangeUp stop step m a := by
  intro n
  induction n with
  | zero =>
    intro m a hn _
    cases m with
    | zero => rfl
    | succ m => simp only [rangeUp]; rw [if_neg (by omega)]
  | succ n ih =>
    intro m a hn hm
    cases m with
    | zero => simp only [rangeUp]; rw [if_neg (by omega)]
    | succ m =>
      simp only [rangeUp]
      by_cases h : a < stop
      · rw [if_pos h, if_pos h, ih m (a + step) (by omega) (by omega)]
      · rw [if_neg h, if_neg h]

/-- `for i in range(a, b, s)` with `s > 0`: first `a` (if `a < b`), then `range(a + s, b, s)` -/
theorem range_step_pos (a b s : Int) (hs : 0 < s) :
    range a b s = if a < b then a :: range (a + s) b s else [] := by
  unfold range
  rw [if_pos hs, if_pos hs]
  by_cases h : a < b
  · rw [if_pos h]
    obtain ⟨n, hn⟩ : ∃ n, (b - a).toNat = n + 1 := ⟨(b - a).toNat - 1, by omega⟩
    rw [hn]
    simp only [rangeUp]
    rw [if_pos h, rangeUp_fuel b s hs n (b - (a + s)).toNat (a + s) (by omega) (by omega)]
  · rw [if_neg h]
    cases (b - a).toNat with
    | zero => rfl
    | succ n => simp only [rangeUp]; rw [if_neg h]

theorem range_from (a b : Int) : range a b 1 = if a < b then a :: range (a + 1) b 1 else [] :=
  range_step_pos a b 1 (by omega)

/-- `range(a, b)` has `b - a` items (none when `b ≤ a`) -/
theorem length_range_one (a b : Int) : (range a b 1).length = (b - a).toNat := by
  generalize hn : (b - a).toNat = n
  induction n generalizing a with
  | zero => rw [range_from, if_neg (by omega)]; rfl
  | succ n ih =>
    rw [range_from, if_pos (by omega), List.length_cons, ih (a + 1) (by omega)]

theorem len_nil {α : Type} : len ([] : List α) = 0 := rfl
theorem len_cons {α : Type} (x : α) (l : List α) : len (x :: l) = len l + 1 := by
  simp [len]
theorem len_nonneg {α : Type} (l : List α) : 0 ≤ len l := by simp [len]

theorem len_append {α : Type} (a b : List α) : len (a ++ b) = len a + len b := by
  simp [len]

/-- `(pre ++ x :: rest)[len(pre)]` is `x` -/
theorem index_append_length {α : Type} [Inhabited α] (pre : List α) (x : α) (rest : List α) :
    index (pre ++ x :: rest) (len pre) = x := by
  unfold index normIdx len
  rw [if_neg (by omega), if_neg (by omega)]
  simp

theorem index_zero {α : Type} [Inhabited α] (x : α) (l : List α) : index (x :: l) 0 = x := by
  simp [index, normIdx]

theorem drop_last {α : Type} : ∀ (l : List α) (x : α),
    (x :: l).drop l.length = [(x :: l).getLast (by simp)]
  | [], x => by simp
  | y :: t, x => by
    have := drop_last t y
    simp only [List.length_cons, List.drop_succ_cons]
    rw [this]
    simp [List.getLast_cons]

/-- `l[-1:]` is the list of the last item (empty for an empty list) -/
theorem slice_last {α : Type} (l : List α) :
    slice l (some (-1)) none = match l.getLast? with | none => [] | some x => [x] := by
  unfold slice clampBound
  simp only [List.take_length]
  rw [if_pos (by omega)]
  cases l with
  | nil => simp
  | cons x t =>
    have e : (-1 + ((x :: t).length : Int)).toNat = t.length := by simp only [List.length_cons]; omega
    rw [e, drop_last, List.getLast?_eq_some_getLast (by simp)]

/-! ## dicts (association lists) -/

namespace Dict
variable {κ ν : Type} [DecidableEq κ]

omit [DecidableEq κ] in
@[simp] theorem items_eq (d : Dict κ ν) : items d = d := rfl

theorem find_nil (k : κ) : find ([] : Dict κ ν) k = none := rfl

theorem find_cons (p : κ × ν) (d : Dict κ ν) (k : κ) :
    find (p :: d) k = if p.1 = k then some p.2 else find d k := by
  obtain ⟨a, b⟩ := p
  simp [find]

theorem find_eq_none_iff (d : Dict κ ν) (k : κ) : find d k = none ↔ k ∉ d.map (·.1) := by
  induction d with
  | nil => simp [find]
  | cons p d ih =>
    rw [find_cons]
    by_cases h : p.1 = k
    · simp [h]
    · simp only [if_neg h, ih, List.map_cons, List.mem_cons, not_or]
      exact ⟨fun h2 => ⟨fun e => h e.symm, h2⟩, fun h2 => h2.2⟩

theorem get?_of_find_some {d : Dict κ ν} {k : κ} {v : ν} (h : find d k = some v) : get? d k = .ok v := by
  simp [get?, h]

theorem get?_of_find_none {d : Dict κ ν} {k : κ} (h : find d k = none) :
    get? d k = .error PyExc.KeyError := by
  simp [get?, h]

theorem contains_eq (d : Dict κ ν) (k : κ) : contains d k = (find d k).isSome := rfl

/-- storing under an absent key appends -/
theorem set_of_find_none (d : Dict κ ν) (k : κ) (v : ν) (h : find d k = none) : set d k v = d ++ [(k, v)] := by
  induction d with
  | nil => rfl
  | cons p d ih =>
    obtain ⟨a, b⟩ := p
    rw [find_cons] at h
    by_cases hk : a = k
    · simp [hk] at h
    · simp only [if_neg hk] at h
      simp [set, hk, ih h]

theorem update_of_nodup (l : List (κ × ν)) : ∀ (acc : Dict κ ν), ((acc ++ l).map (·.1)).Nodup →
    update acc l = acc ++ l := by
  induction l with
  | nil => intro acc _; simp [update]
  | cons p l ih =>
    intro acc h
    have hnot : find acc p.1 = none := by
      rw [find_eq_none_iff]
      intro hm
      rw [List.map_append, List.nodup_append] at h
      exact h.2.2 _ hm _ (by simp) rfl
    have e : update acc (p :: l) = update (set acc p.1 p.2) l := by simp [update]
    rw [e, set_of_find_none _ _ _ hnot, ih]
    · simp
    · simpa using h

/-- a dict rebuilt from pairs with pairwise different keys is the list of pairs (same order) -/
theorem ofPairs_of_nodup (l : List (κ × ν)) (h : (l.map (·.1)).Nodup) : ofPairs l = l := by
  have := update_of_nodup l [] (by simpa using h)
  simpa [ofPairs] using this

end Dict

/-- `[(a, b) for a, b in l]` is `l` -/
theorem map_pair_eta {α β : Type} (l : List (α × β)) : l.map (fun (a, b) => (a, b)) = l := by
  induction l with
  | nil => rfl
  | cons p l ih => obtain ⟨a, b⟩ := p; simp [ih]

theorem mod?_natCast (t w : Nat) (hw : 1 ≤ w) :
    mod? (t : Int) (w : Int) = .ok (((t % w : Nat)) : Int) := by
  unfold mod?
  rw [if_neg (by omega)]
  cases t with
  | zero => simp [Int.fmod]
  | succ n => rfl

theorem mod?_zero (a : Int) : mod? a 0 = .error PyExc.ZeroDivisionError := by simp [mod?]

/-! ## lists: membership, length, indexing and slicing at the two ends -/

theorem contains_iff {α : Type} [DecidableEq α] (l : List α) (x : α) : contains l x = true ↔ x ∈ l := by
  simp [contains]

theorem len_eq {α : Type} (l : List α) : len l = (l.length : Int) := rfl

/-- `l[-1]` in the total mode: the last item, `default` for an empty list -/
theorem index_neg_one {α : Type} [Inhabited α] (l : List α) : index l (-1) = l.getLast?.getD default := by
  rcases List.eq_nil_or_concat l with rfl | ⟨i, x, rfl⟩
  · simp [index, normIdx]
  · have e : (-1 + ((i.length : Int) + 1)) = i.length := by omega
    simp [index, normIdx, e]
    intro hneg; omega

/-- `l[len(l) - 1]` is `l[-1]` -/
theorem index_len_sub_one {α : Type} [Inhabited α] (l : List α) : index l (len l - 1) = index l (-1) := by
  rcases List.eq_nil_or_concat l with rfl | ⟨i, x, rfl⟩
  · rfl
  · have e : ((i.length : Int) + 1 - 1) = i.length := by omega
    have e' : (-1 + ((i.length : Int) + 1)) = i.length := by omega
    have h : ¬ ((i.length : Int) < 0) := by omega
    simp [index, normIdx, len, e, e', h]

/-- `l[-1]` in raising mode -/
theorem index?_neg_one {α : Type} (l : List α) :
    index? l (-1) = match l.getLast? with | some x => .ok x | none => .error PyExc.IndexError := by
  rcases List.eq_nil_or_concat l with rfl | ⟨i, x, rfl⟩
  · rfl
  · have e : (-1 + ((i.length : Int) + 1)).toNat = i.length := by omega
    simp [index?, normIdx, e]
    omega

theorem index?_append_last {α : Type} (l : List α) (x : α) : index? (l ++ [x]) (-1) = .ok x := by
  simp [index?_neg_one]

theorem index?_zero {α : Type} (x : α) (l : List α) : index? (x :: l) 0 = .ok x := by
  simp [index?, normIdx]

/-- `l[:n]` for `0 ≤ n` -/
theorem slice_to_nat {α : Type} (l : List α) (n : Nat) : slice l none (some (n : Int)) = l.take n := by
  simp only [slice, clampBound, List.drop_zero]
  rw [if_neg (by omega), List.take_eq_take_iff]
  omega

/-- `l[n:]` for `0 ≤ n` -/
theorem slice_from_nat {α : Type} (l : List α) (n : Nat) : slice l (some (n : Int)) none = l.drop n := by
  simp only [slice, clampBound, List.take_length]
  rw [if_neg (by omega)]
  by_cases h : n ≤ l.length
  · congr 1; omega
  · rw [List.drop_eq_nil_of_le (by omega), List.drop_eq_nil_of_le (by omega)]

/-- `l[:-1]` -/
theorem slice_to_neg_one {α : Type} (l : List α) : slice l none (some (-1)) = l.dropLast := by
  simp only [slice, clampBound, List.drop_zero]
  rw [if_pos (by omega), List.dropLast_eq_take]
  congr 1
  omega

/-! ## generated `for` loops

The translator prints every `for` of a method as a function of its own, `loop<n> k kbreak kexc xs st`: the rounds for `xs` from the
state `st`, then `k` (`kbreak` after a `break`, `kexc` on an exception).  The text differs for every Python function, so the two
rules below take the loop as a VARIABLE with the two facts a proof needs of it; a tie instantiates `loop` with a generated loop
(continuations applied) and proves the facts by unfolding that loop once. -/

/-- the rule for a loop that threads its state: a round takes a state satisfying `I` of the items left to one satisfying `I` of the
    rest, and what follows the loop gives `r` on every state satisfying `I []` -/
theorem for_loop {σ ι ρ : Type} (loop : List ι → σ → ρ) (I : List ι → σ → Prop) (r : ρ)
    (hcons : ∀ x xs s, I (x :: xs) s → ∃ s', loop (x :: xs) s = loop xs s' ∧ I xs s')
    (hnil : ∀ s, I [] s → loop [] s = r) : ∀ xs s, I xs s → loop xs s = r := by
  intro xs
  induction xs with
  | nil => exact hnil
  | cons x xs ih =>
    intro s h
    obtain ⟨s', e, h'⟩ := hcons x xs s h
    exact e.trans (ih s' h')

/-- the rule for a loop whose rounds act on the result of the rest (a generator: `yield` in front of the rest): such a loop is a
    `foldr`.  `P`: what the body needs of, and keeps in, the loop state; `r`: what follows the loop gives on every such state -/
theorem for_loop_foldr {σ ι ρ : Type} (loop : List ι → σ → ρ) (step : ι → ρ → ρ) (P : σ → Prop) (r : ρ)
    (hnil : ∀ s, P s → loop [] s = r)
    (hcons : ∀ x xs s, P s → ∃ s', P s' ∧ loop (x :: xs) s = step x (loop xs s'))
    (xs : List ι) (s : σ) (hs : P s) : loop xs s = xs.foldr step r := by
  induction xs generalizing s with
  | nil => exact hnil s hs
  | cons x xs ih =>
    obtain ⟨s', hs', e⟩ := hcons x xs s hs
    rw [e, ih s' hs', List.foldr_cons]

/-! ## a dict seen through a map on its values

The source states hold the model's association lists with the values re-coded (`Nat` as `Int`, a cell number as a
reference, ...): `mapVals f d`.  `find`, `set`, `erase` commute with the re-coding; the keyed operations
(`get?`, `getD`, `contains`, `del?`, `pop?`, `popD`, `update`) are defined from these three, so for them a tie file needs,
besides these, only that the runtime's `find` / `set` / `erase` are its model's own functions (`setdefault`, `popitem?`,
`keys`, `values`, `items`, `len` act on the list as such). -/

namespace Dict
variable {κ ν ν' : Type} [DecidableEq κ]

omit [DecidableEq κ] in
def mapVals (f : ν → ν') (d : Dict κ ν) : Dict κ ν' := d.map fun p => (p.1, f p.2)

theorem find_mapVals (f : ν → ν') (d : Dict κ ν) (k : κ) : find (mapVals f d) k = (find d k).map f := by
  induction d with
  | nil => rfl
  | cons p d ih =>
    rw [mapVals, List.map_cons, find_cons, find_cons]
    split
    · rfl
    · exact ih

theorem set_mapVals (f : ν → ν') (d : Dict κ ν) (k : κ) (v : ν) :
    set (mapVals f d) k (f v) = mapVals f (set d k v) := by
  induction d with
  | nil => rfl
  | cons p d ih =>
    obtain ⟨a, b⟩ := p
    simp only [mapVals, List.map_cons, set] at ih ⊢
    split
    · rfl
    · rw [List.map_cons, ih]

theorem erase_mapVals (f : ν → ν') (d : Dict κ ν) (k : κ) : erase (mapVals f d) k = mapVals f (erase d k) := by
  unfold erase mapVals
  rw [List.filter_map]
  rfl

end Dict

end PyRt
