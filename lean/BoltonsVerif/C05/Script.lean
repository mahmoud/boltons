import BoltonsVerif.C05.Walk
/-
C05 — blocks that only write, and runs without faults.  On an open file object the generalised functions coincide with
the ones for C04's `Body`, so the `runSave_*` theorems are instances of the theorems about `runScript`.  That a call goes
through is not something the walk of Walk.lean can say: it holds for every plan, and whether a call fails is the plan's
choice.  Under the all-pass plan a call fails only if the file system refuses the event, which outside `init` the
invariant excludes (`J.progress`); so a save with nothing in its way goes through, call by call (the `*_pass`
lemmas, under `J` alone), and a write-only block records exactly C04's `saverTrace`.  The opposite case closes the file:
with the part name taken and no `overwrite_part`, `setup` fails at the exclusive open, whatever the plan, and records
nothing (`setup_blocked`).
-/
namespace C05
open C04

/-- the calls that leave the file object open, whether they go through or not -/
def keepsOpen : Ev → Bool
  | .write _ _ | .flush | .fsync => true
  | _ => false

theorem exe_openf (m : M) (ev : Ev) (hev : keepsOpen ev = true) (h : m.fs.openf.isSome = true) :
    (exe m ev).2.fs.openf.isSome = true := by
  unfold exe
  split
  · exact h
  · rename_i fs' hf
    cases ev <;> simp only [keepsOpen, Bool.false_eq_true] at hev <;>
      simp only [FS.step, FS.write, FS.flush, FS.fsync] at hf <;> split at hf <;> simp at hf <;> subst hf <;> simp [*]

theorem call_openf (plan : Plan) (m : M) (ev : Ev) (hev : keepsOpen ev = true) (h : m.fs.openf.isSome = true) :
    (call plan m ev).2.fs.openf.isSome = true := by
  unfold call
  cases plan m.n with
  | fail e => exact h
  | pass => exact exe_openf m ev hev h
  | appear => exact exe_openf (m.env .appear) ev hev (by rw [env_fs_openf]; exact h)

theorem syncCloseG_open (plan : Plan) (m : M) (h : m.fs.openf.isSome = true) : syncCloseG plan m = syncClose plan m := by
  unfold syncCloseG syncClose
  rw [fcall_open plan m _ h]
  have h1 := call_openf plan m .flush rfl h
  dsimp only
  cases hr : (call plan m .flush).1 with
  | none =>
    have h2 := call_openf plan (call plan m .flush).2 .fsync rfl h1
    dsimp only
    rw [fclose_open plan _ h2]
  | some e =>
    dsimp only
    rw [fclose_open plan _ h1]

theorem finishG_open (cfg : Cfg) (plan : Plan) (m : M) (b : Option Outcome) (h : m.fs.openf.isSome = true) :
    finishG cfg plan m b = finish cfg plan m b := by
  unfold finishG finish
  rw [syncCloseG_open plan m h]

theorem call_pass (fs0 : FS) (plan : Plan) (m : M) (s s' : St) (W : Bytes) (ev : Ev) (hp : plan m.n = .pass)
    (h : J fs0 m s W) (hs : s.step ev = some s') (hf : ∃ fs', m.fs.step ev = .ok fs') :
    ∃ m1, call plan m ev = (none, m1) ∧ J fs0 m1 s' (W ++ evWrites ev) ∧ m1.tr = m.tr ++ [ev] := by
  obtain ⟨fs', hf⟩ := hf
  have ok : (call plan m ev).1 = none := by simp [call, hp, exe, hf]
  rcases J_call fs0 plan m s s' W ev h hs with ⟨m1, hc, c⟩ | ⟨e, m1, hc, -⟩
  · exact ⟨m1, hc, c.inv, c.tr⟩
  · rw [hc] at ok; cases ok

theorem call_pass_nowrite (fs0 : FS) (plan : Plan) (m : M) (s s' : St) (W : Bytes) (ev : Ev) (hp : plan m.n = .pass)
    (h : J fs0 m s W) (hs : s.step ev = some s') (hf : ∃ fs', m.fs.step ev = .ok fs') (hw : evWrites ev = []) :
    ∃ m1, call plan m ev = (none, m1) ∧ J fs0 m1 s' W ∧ m1.tr = m.tr ++ [ev] := by
  obtain ⟨m1, a, b, c⟩ := call_pass fs0 plan m s s' W ev hp h hs hf
  rw [hw, List.append_nil] at b
  exact ⟨m1, a, b, c⟩

/-- the event a statement of the block performs on an open file object -/
def opEv : Op → Ev
  | .write d k => .write d k
  | .flush => .flush
  | .close => .close

theorem runOps_pass (fs0 : FS) (plan : Plan) (hp : ∀ k, plan k = .pass) :
    ∀ (ops : List Op) (m : M) (db us : Bool) (W : Bytes), J fs0 m ⟨.part, true, db, us⟩ W → noCloseOps ops = true →
    (runOps plan m ops).1 = none ∧ (runOps plan m ops).2.tr = m.tr ++ ops.map opEv ∧
    ∃ db' us' W', J fs0 (runOps plan m ops).2 ⟨.part, true, db', us'⟩ W'
  | [], m, db, us, W, h, _ => ⟨rfl, by simp [runOps], db, us, W, h⟩
  | o :: ops, m, db, us, W, h, hnc => by
    -- one statement: a `write` or a `flush` on the open object
    obtain ⟨m1, db1, us1, W1, a, b, c⟩ : ∃ m1 db1 us1 W1, opCall plan m o = (none, m1) ∧ J fs0 m1 ⟨.part, true, db1, us1⟩ W1 ∧
        m1.tr = m.tr ++ [opEv o] := by
      have hop := open_of_J fs0 m db us W h
      cases o with
      | write d k =>
        have hs1 : (St.mk .part true db us).step (.write d k) = some ⟨.part, true, true, true⟩ := by simp [St.step]
        obtain ⟨m1, a, b, c⟩ := call_pass fs0 plan m _ _ W (.write d k) (hp _) h hs1 (h.progress hs1 (by simp) (by simp))
        exact ⟨m1, _, _, _, (fcall_open plan m _ hop).trans a, b, c⟩
      | flush =>
        have hs1 : (St.mk .part true db us).step .flush = some ⟨.part, true, false, us || db⟩ := by simp [St.step]
        obtain ⟨m1, a, b, c⟩ := call_pass fs0 plan m _ _ W .flush (hp _) h hs1 (h.progress hs1 (by simp) (by simp))
        exact ⟨m1, _, _, _, (fcall_open plan m _ hop).trans a, b, c⟩
      | close => simp [noCloseOps] at hnc
    rw [runOps_cons, a]
    obtain ⟨k1, k2, k3⟩ := runOps_pass fs0 plan hp ops m1 db1 us1 W1 b (by cases o <;> simp_all [noCloseOps])
    exact ⟨k1, by rw [k2, c]; simp, k3⟩

theorem callClose_pass (plan : Plan) (m : M) (hp : plan m.n = .pass) : callClose plan m = call plan m .close := by
  simp [callClose, call, hp]

theorem syncCloseG_pass (fs0 : FS) (plan : Plan) (hp : ∀ k, plan k = .pass) (m : M) (db us : Bool) (W : Bytes)
    (h : J fs0 m ⟨.part, true, db, us⟩ W) :
    (syncCloseG plan m).1 = none ∧ (syncCloseG plan m).2.tr = m.tr ++ [Ev.flush, Ev.fsync, Ev.close] ∧
    J fs0 (syncCloseG plan m).2 ⟨.part, false, false, false⟩ W := by
  unfold syncCloseG
  have hs1 : (St.mk .part true db us).step .flush = some ⟨.part, true, false, us || db⟩ := by simp [St.step]
  obtain ⟨m1, a1, b1, c1⟩ := call_pass_nowrite fs0 plan m _ _ W .flush (hp _) h hs1 (h.progress hs1 (by simp) (by simp)) rfl
  have hs2 : (St.mk .part true false (us || db)).step .fsync = some ⟨.part, true, false, false⟩ := by simp [St.step]
  obtain ⟨m2, a2, b2, c2⟩ := call_pass_nowrite fs0 plan m1 _ _ W .fsync (hp _) b1 hs2 (b1.progress hs2 (by simp) (by simp)) rfl
  have hs3 : (St.mk .part true false false).step .close = some ⟨.part, false, false, false⟩ := by simp [St.step]
  obtain ⟨m3, a3, b3, c3⟩ := call_pass_nowrite fs0 plan m2 _ _ W .close (hp _) b2 hs3 (b2.progress hs3 (by simp) (by simp)) rfl
  simp only [fcall_open plan m _ (open_of_J fs0 m db us W h), a1, a2, fclose_open plan m2 (open_of_J fs0 m2 _ _ W b2),
    callClose_pass plan _ (hp _), a3]
  exact ⟨rfl, by rw [c3, c2, c1]; simp, b3⟩

theorem publish_pass (cfg : Cfg) (fs0 : FS) (plan : Plan) (hp : ∀ k, plan k = .pass) (m : M) (W : Bytes)
    (h : J fs0 m ⟨.part, false, false, false⟩ W) (hd : cfg.overwrite = true ∨ m.fs.dir.dest = none) :
    (publish cfg plan m).1 = .ok ∧
    (publish cfg plan m).2.tr = m.tr ++ (if cfg.overwrite then [Ev.renamePartDest] else [Ev.linkPartDest, Ev.unlinkPart]) := by
  unfold publish
  cases how : cfg.overwrite with
  | true =>
    simp only [if_true]
    have hs1 : (St.mk .part false false false).step .renamePartDest = some ⟨.done, false, false, false⟩ := by simp [St.step]
    obtain ⟨m1, a1, -, c1⟩ := call_pass fs0 plan m _ _ W .renamePartDest (hp _) h hs1 (h.progress hs1 (by simp) (by simp))
    simp only [a1]
    exact ⟨trivial, c1⟩
  | false =>
    simp only [Bool.false_eq_true, if_false]
    have hdn : m.fs.dir.dest = none := by
      rcases hd with h | h
      · simp [how] at h
      · exact h
    have hs1 : (St.mk .part false false false).step .linkPartDest = some ⟨.linked, false, false, false⟩ := by simp [St.step]
    obtain ⟨m1, a1, b1, c1⟩ := call_pass_nowrite fs0 plan m _ _ W .linkPartDest (hp _) h hs1 (h.progress hs1 (by simp) (fun _ => hdn)) rfl
    have hs2 : (St.mk .linked false false false).step .unlinkPart = some ⟨.done, false, false, false⟩ := by simp [St.step]
    obtain ⟨m2, a2, -, c2⟩ := call_pass fs0 plan m1 _ _ W .unlinkPart (hp _) b1 hs2 (b1.progress hs2 (by simp) (by simp))
    simp only [a1, a2]
    exact ⟨trivial, by rw [c2, c1]; simp⟩

/-- (no user in this directory) -/
theorem call_pass_dest (plan : Plan) (m : M) (ev : Ev) (hp : plan m.n = .pass) (s s' : St)
    (hs : s.step ev = some s') (hpub : s'.published = false) :
    (call plan m ev).2.fs.dir.dest = m.fs.dir.dest := by
  simp only [call, hp, exe]
  split
  · rfl
  · rename_i fs' hf
    exact step_dest s s' m.fs fs' ev hs hpub hf

theorem rmPart_pass (cfg : Cfg) (fs0 : FS) (plan : Plan) (hp : ∀ k, plan k = .pass) (m : M) (s : St) (W : Bytes)
    (h : J fs0 m s W) (hph : s.phase = .part) :
    (rmPart cfg plan m).tr = m.tr ++ (if cfg.rmPartOnExc then [Ev.unlinkPart] else []) := by
  unfold rmPart
  cases cfg.rmPartOnExc with
  | false => simp
  | true =>
    simp only [if_true]
    obtain ⟨ph, op, db, us⟩ := s
    simp at hph; subst hph
    have hs1 : (St.mk .part op db us).step .unlinkPart = some ⟨.aborted, op, db, us⟩ := by simp [St.step]
    obtain ⟨m1, a1, -, c1⟩ := call_pass fs0 plan m _ _ W .unlinkPart (hp _) h hs1 (h.progress hs1 (by simp) (by simp))
    simp only [a1]
    exact c1

/-- what `__exit__` does at the end: the cleanup when the block raised, the publication otherwise -/
def exitEvs (cfg : Cfg) (raises : Bool) : List Ev :=
  if raises then (if cfg.rmPartOnExc then [Ev.unlinkPart] else [])
  else if cfg.overwrite then [Ev.renamePartDest] else [Ev.linkPartDest, Ev.unlinkPart]

theorem finishG_pass (cfg : Cfg) (fs0 : FS) (plan : Plan) (hp : ∀ k, plan k = .pass) (m : M) (db us : Bool) (W : Bytes)
    (h : J fs0 m ⟨.part, true, db, us⟩ W) (hd : cfg.overwrite = true ∨ fs0.dir.dest = none) (he : m.envDone = false)
    (raises : Bool) :
    (finishG cfg plan m (if raises then some .bodyExc else none)).2.tr =
      m.tr ++ [Ev.flush, Ev.fsync, Ev.close] ++ exitEvs cfg raises ∧
    (raises = false → (finishG cfg plan m (if raises then some .bodyExc else none)).1 = .ok) := by
  unfold finishG
  obtain ⟨ok1, t1, hj⟩ := syncCloseG_pass fs0 plan hp m db us W h
  have e1 := frame_syncCloseG (envDone_frame plan (noEnv_of_pass plan hp) _) m rfl
  cases hsc : syncCloseG plan m with
  | mk r m3 =>
    rw [hsc] at ok1 t1 hj e1
    simp only at ok1 t1 hj e1
    subst ok1
    cases raises with
    | true =>
      simp only [if_true, exitEvs]
      exact ⟨by rw [rmPart_pass cfg fs0 plan hp m3 _ W hj rfl, t1], fun h => by cases h⟩
    | false =>
      simp only [Bool.false_eq_true, if_false, exitEvs]
      -- no other process has acted, so the destination is as at the start
      have hd3 : cfg.overwrite = true ∨ m3.fs.dir.dest = none := by
        rcases hd with hd | hd
        · exact Or.inl hd
        · right
          have := hj.dest (by simp [St.published])
          rw [this, e1, he]; simpa using hd
      obtain ⟨p1, p2⟩ := publish_pass cfg fs0 plan hp m3 W hj hd3
      exact ⟨by rw [p2, t1], fun _ => p1⟩

theorem openPartFile_pass (cfg : Cfg) (fs0 : FS) (plan : Plan) (hp : ∀ k, plan k = .pass) (m : M) (p : Nat) (c : Bool)
    (h : J fs0 m St.init []) (hpart : m.fs.dir.part = none) : (openPartFile cfg plan m p c).1 = none := by
  unfold openPartFile
  have hs1 : St.init.step (.openPart true true p) = some ⟨.part, true, false, false⟩ := by simp [St.step, St.init]
  obtain ⟨m1, a1, hj1, -⟩ := call_pass_nowrite fs0 plan m _ _ [] (.openPart true true p) (hp _) h hs1 (by simp [FS.step, FS.openPart, hpart]) rfl
  have hs2 : (St.mk .part true false false).step .noop = some ⟨.part, true, false, false⟩ := by simp [St.step]
  obtain ⟨m2, a2, hj2, -⟩ := call_pass_nowrite fs0 plan m1 _ _ [] .noop (hp _) hj1 hs2 ⟨_, rfl⟩ rfl
  simp only [a1, a2]
  cases c with
  | false => rfl
  | true =>
    have hs3 : (St.mk .part true false false).step (.chmodPart p) = some ⟨.part, true, false, false⟩ := by simp [St.step]
    obtain ⟨m3, a3, -⟩ := call_pass fs0 plan m2 _ _ [] (.chmodPart p) (hp _) hj2 hs3 (hj2.progress hs3 (by simp) (by simp))
    simp only [if_true, a3]

theorem openPartFileM_pass (cfg : Cfg) (fs0 : FS) (plan : Plan) (hp : ∀ k, plan k = .pass) (m : M)
    (h : J fs0 m St.init []) (hpart : m.fs.dir.part = none) : (openPartFileM cfg plan m).1 = none := by
  unfold openPartFileM
  cases cfg.perms with
  | some p => exact openPartFile_pass cfg fs0 plan hp m p true h hpart
  | none =>
    dsimp only
    have hstat : callStat plan m = (.ok m.fs.destMode, (callStat plan m).2) := by simp [callStat, hp]
    have hfs : (callStat plan m).2.fs = m.fs := by simp [callStat, hp]
    have hj2 : J fs0 (callStat plan m).2 St.init [] :=
      J_congr _ _ _ _ _ h hfs (by simp [callStat, hp]) (by simp [callStat, hp]) (by simp [callStat, hp])
    have hp2 : (callStat plan m).2.fs.dir.part = none := by rw [hfs]; exact hpart
    rw [hstat]
    cases m.fs.destMode with
    | some md => exact openPartFile_pass cfg fs0 plan hp _ md true hj2 hp2
    | none => exact openPartFile_pass cfg fs0 plan hp _ RW_PERMS false hj2 hp2

theorem setup_pass (cfg : Cfg) (fs0 : FS) (e : Nat) (plan : Plan) (hp : ∀ k, plan k = .pass)
    (hpart : fs0.dir.part = none ∨ cfg.overwritePart = true)
    (hdest : fs0.dir.dest = none ∨ cfg.overwrite = true) :
    (setup cfg plan (M.start fs0 e)).1 = none := by
  have h0 := J_start fs0 e
  rw [setup_eq_openPartFileM]
  have hnr : ((M.start fs0 e).fs.dir.dest.isSome && !cfg.overwrite) = false := by
    rcases hdest with h | h <;> simp [M.start, h]
  simp only [hnr, Bool.false_eq_true, if_false]
  cases hpp : fs0.dir.part with
  | none =>
    have hc : (cfg.overwritePart && (M.start fs0 e).fs.dir.part.isSome) = false := by simp [M.start, hpp]
    simp only [hc, Bool.false_eq_true, if_false]
    exact openPartFileM_pass cfg fs0 plan hp _ h0 hpp
  | some i =>
    -- a stale part file is there: it is removed first
    have hop : cfg.overwritePart = true := hpart.resolve_left (by simp [hpp])
    have hc : (cfg.overwritePart && (M.start fs0 e).fs.dir.part.isSome) = true := by simp [M.start, hpp, hop]
    simp only [hc, if_true]
    have hs1 : St.init.step .unlinkPart = some St.init := by simp [St.step, St.init]
    obtain ⟨m1, a1, hj1, ht1⟩ := call_pass_nowrite fs0 plan (M.start fs0 e) _ _ [] .unlinkPart (hp _) h0 hs1
      (by simp [FS.step, FS.unlinkPart, M.start, hpp]) rfl
    rw [a1]
    exact openPartFileM_pass cfg fs0 plan hp m1 hj1 ((hj1.pinit rfl).2 (by simp [ht1]))

/-- **Without faults, and with nothing in its way, the saver goes through**: the events it performs, and no exception
    unless the block raises.  `(p, c)` as in `choosePerms` -/
theorem runScript_nofault (cfg : Cfg) (fs0 : FS) (e : Nat) (sc : Script) (plan : Plan) (hp : ∀ k, plan k = .pass)
    (hpart : fs0.dir.part = none ∨ cfg.overwritePart = true)
    (hdest : fs0.dir.dest = none ∨ cfg.overwrite = true) (hnc : noCloseOps sc.ops = true) :
    (runScript cfg sc plan fs0 e).2.tr =
      (if cfg.overwritePart && fs0.dir.part.isSome then [Ev.unlinkPart] else []) ++
      ([Ev.openPart true true (choosePerms cfg fs0).1, Ev.noop] ++
        if (choosePerms cfg fs0).2 then [Ev.chmodPart (choosePerms cfg fs0).1] else []) ++
      sc.ops.map opEv ++ [Ev.flush, Ev.fsync, Ev.close] ++ exitEvs cfg sc.raises ∧
    (sc.raises = false → (runScript cfg sc plan fs0 e).1 = .ok) := by
  unfold runScript
  have hne := noEnv_of_pass plan hp
  have ok1 := setup_pass cfg fs0 e plan hp hpart hdest
  obtain ⟨sok, _⟩ := setup_spec cfg sc.raises fs0 e plan
  have e1 := frame_setup (envDone_frame plan hne _) cfg (M.start fs0 e) rfl
  cases hsetup : setup cfg plan (M.start fs0 e) with
  | mk r1 m1 =>
    rw [hsetup] at ok1 sok e1
    simp only at ok1 sok e1
    subst ok1
    dsimp only
    obtain ⟨p, c, k5, k6⟩ := (sok rfl).tr
    have hpc := k6 hne (fun k h => by rw [hp k] at h; cases h)
    have hpp : p = (choosePerms cfg fs0).1 := by rw [← hpc]
    have hcc : c = (choosePerms cfg fs0).2 := by rw [← hpc]
    subst hpp; subst hcc
    obtain ⟨ok2, t2, db', us', W', w1⟩ := runOps_pass fs0 plan hp sc.ops m1 false false [] (sok rfl).inv.j hnc
    have e2 := frame_runOps (envDone_frame plan hne _) sc.ops m1 rfl
    obtain ⟨t3, ok3⟩ := finishG_pass cfg fs0 plan hp _ db' us' W' w1 hdest.symm (by rw [e2, e1]; rfl) sc.raises
    have hb : scriptOutcome sc (runOps plan m1 sc.ops).1 = if sc.raises then some .bodyExc else none := by
      simp [scriptOutcome, ok2]
    rw [hb]
    exact ⟨by rw [t3, t2, k5], ok3⟩

theorem opEv_ofBody (body : Body) : (Script.ofBody body).ops.map opEv = body.writes.map (fun w => Ev.write w.1 w.2) := by
  simp [Script.ofBody, List.map_map, Function.comp_def, opEv]

theorem runOps_ofWrites (plan : Plan) : ∀ (ws : List (Bytes × Nat)) (m : M), m.fs.openf.isSome = true →
    runOps plan m (ws.map (fun w => Op.write w.1 w.2)) = runWrites plan m ws ∧ (runWrites plan m ws).2.fs.openf.isSome = true
  | [], m, h => ⟨rfl, h⟩
  | w :: ws, m, h => by
    simp only [List.map_cons, runOps, runWrites]
    rw [fcall_open plan m _ h]
    have h1 := call_openf plan m (.write w.1 w.2) rfl h
    rcases hc : call plan m (.write w.1 w.2) with ⟨_ | e, m1⟩ <;> rw [hc] at h1
    · exact runOps_ofWrites plan ws m1 h1
    · exact ⟨rfl, h1⟩

theorem runScript_ofBody (cfg : Cfg) (body : Body) (plan : Plan) (fs0 : FS) (e : Nat) :
    runScript cfg (Script.ofBody body) plan fs0 e = runSave cfg body plan fs0 e := by
  unfold runScript runSave
  obtain ⟨sok, _⟩ := setup_spec cfg body.raises fs0 e plan
  cases hsetup : setup cfg plan (M.start fs0 e) with
  | mk r1 m1 =>
    rw [hsetup] at sok
    simp only at sok
    cases r1 with
    | some err => rfl
    | none =>
      dsimp only
      obtain ⟨hops, hopen⟩ := runOps_ofWrites plan body.writes m1 (open_of_J fs0 m1 _ _ _ (sok rfl).inv.j)
      rw [show (Script.ofBody body).ops = body.writes.map (fun w => Op.write w.1 w.2) from rfl, hops,
        finishG_open cfg plan _ _ hopen]
      rfl

theorem content_ofBody (body : Body) : (Script.ofBody body).content = newContent body := by
  simp [Script.content, Script.ofBody, newContent, List.map_map, Function.comp_def, opData]

theorem runSave_spec (cfg : Cfg) (fs0 : FS) (e : Nat) (body : Body) (plan : Plan) :
    ∃ s W, Res cfg fs0 e body.raises (newContent body) plan (runSave cfg body plan fs0 e).1 (runSave cfg body plan fs0 e).2 s W := by
  rw [← runScript_ofBody, ← content_ofBody]
  exact runScript_spec cfg fs0 e (Script.ofBody body) plan

theorem runScript_envDone (cfg : Cfg) (sc : Script) (plan : Plan) (fs0 : FS) (e : Nat) (hp : NoEnv plan) :
    (runScript cfg sc plan fs0 e).2.envDone = false :=
  frame_runScript (envDone_frame plan hp false) cfg sc fs0 e rfl

theorem runScript_X (cfg : Cfg) (sc : Script) (plan : Plan) (fs0 : FS) (e : Nat) (hp : NoEnv plan) :
    exec fs0 (runScript cfg sc plan fs0 e).2.tr = some (runScript cfg sc plan fs0 e).2.fs :=
  frame_runScript (X_frame fs0 plan hp) cfg sc fs0 e rfl

theorem runSave_envDone (cfg : Cfg) (body : Body) (plan : Plan) (fs0 : FS) (e : Nat) (hp : NoEnv plan) :
    (runSave cfg body plan fs0 e).2.envDone = false := by
  rw [← runScript_ofBody]; exact runScript_envDone cfg _ plan fs0 e hp

theorem runSave_X (cfg : Cfg) (body : Body) (plan : Plan) (fs0 : FS) (e : Nat) (hp : NoEnv plan) :
    exec fs0 (runSave cfg body plan fs0 e).2.tr = some (runSave cfg body plan fs0 e).2.fs := by
  rw [← runScript_ofBody]; exact runScript_X cfg _ plan fs0 e hp

theorem runScript_nofault_ok (cfg : Cfg) (fs0 : FS) (e : Nat) (sc : Script) (plan : Plan) (hp : ∀ k, plan k = .pass)
    (hpart : fs0.dir.part = none ∨ cfg.overwritePart = true)
    (hdest : fs0.dir.dest = none ∨ cfg.overwrite = true) (hr : sc.raises = false) (hnc : noCloseOps sc.ops = true) :
    (runScript cfg sc plan fs0 e).1 = .ok :=
  (runScript_nofault cfg fs0 e sc plan hp hpart hdest hnc).2 hr

theorem noCloseOps_ofBody (body : Body) : noCloseOps (Script.ofBody body).ops = true := by
  simp only [Script.ofBody]
  induction body.writes with
  | nil => rfl
  | cons w ws ih => exact ih

/-- **Without faults the saver performs exactly C04's `saverTrace`**, so C04's theorems about `saverTrace` are theorems
    about the fault-free runs of this model -/
theorem runSave_nofault_trace (cfg : Cfg) (fs0 : FS) (e : Nat) (body : Body) (plan : Plan) (hp : ∀ k, plan k = .pass)
    (hpart : fs0.dir.part = none ∨ cfg.overwritePart = true)
    (hdest : fs0.dir.dest = none ∨ cfg.overwrite = true) :
    (runSave cfg body plan fs0 e).2.tr = saverTrace cfg fs0 body := by
  rw [← runScript_ofBody, (runScript_nofault cfg fs0 e _ plan hp hpart hdest (noCloseOps_ofBody body)).1, opEv_ofBody]
  simp only [saverTrace, exitEvs, List.append_assoc]
  rfl

theorem runSave_nofault_ok (cfg : Cfg) (fs0 : FS) (e : Nat) (body : Body) (plan : Plan) (hp : ∀ k, plan k = .pass)
    (hpart : fs0.dir.part = none ∨ cfg.overwritePart = true)
    (hdest : fs0.dir.dest = none ∨ cfg.overwrite = true) (hr : body.raises = false) :
    (runSave cfg body plan fs0 e).1 = .ok := by
  rw [← runScript_ofBody]
  exact runScript_nofault_ok cfg fs0 e _ plan hp hpart hdest hr (noCloseOps_ofBody body)

theorem call_open_blocked (plan : Plan) (m : M) (p : Nat) (i : Nat) (h : m.fs.dir.part = some i) :
    (call plan m (.openPart true true p)).1 ≠ none ∧ (call plan m (.openPart true true p)).2.tr = m.tr ∧
    (plan m.n = .pass → (call plan m (.openPart true true p)).1 = some EEXIST) := by
  unfold call
  cases hp : plan m.n with
  | fail x => simp
  | pass => simp [exe, FS.step, FS.openPart, h]
  | appear =>
    simp [exe, FS.step, FS.openPart, env_part, env_tr, h]

theorem openPartFile_blocked (cfg : Cfg) (plan : Plan) (m : M) (p : Nat) (c : Bool) (i : Nat)
    (h : m.fs.dir.part = some i) :
    (openPartFile cfg plan m p c).1 ≠ none ∧ (openPartFile cfg plan m p c).2.tr = m.tr ∧
    (plan m.n = .pass → (openPartFile cfg plan m p c).1 = some EEXIST) := by
  obtain ⟨a, b, c'⟩ := call_open_blocked plan m p i h
  unfold openPartFile
  cases hc : call plan m (.openPart true true p) with
  | mk r1 m1 =>
    rw [hc] at a b c'
    cases r1 with
    | none => simp at a
    | some x => exact ⟨by simp, b, c'⟩

theorem callStat_part (plan : Plan) (m : M) : (callStat plan m).2.tr = m.tr ∧ (callStat plan m).2.fs.dir.part = m.fs.dir.part := by
  unfold callStat
  cases plan m.n with
  | fail x => dsimp only; split <;> exact ⟨rfl, rfl⟩
  | pass => exact ⟨rfl, rfl⟩
  | appear =>
    exact ⟨env_tr m _, env_part m _⟩

theorem openPartFileM_blocked (cfg : Cfg) (plan : Plan) (m : M) (i : Nat) (h : m.fs.dir.part = some i) :
    (openPartFileM cfg plan m).1 ≠ none ∧ (openPartFileM cfg plan m).2.tr = m.tr := by
  unfold openPartFileM
  cases cfg.perms with
  | some p =>
    obtain ⟨a, b, _⟩ := openPartFile_blocked cfg plan m p true i h
    exact ⟨a, b⟩
  | none =>
    dsimp only
    have hst := callStat_part plan m
    rw [h] at hst
    rcases hcs : callStat plan m with ⟨x | _ | md, m2⟩ <;> rw [hcs] at hst
    · exact ⟨by simp, hst.1⟩
    · obtain ⟨a, b, _⟩ := openPartFile_blocked cfg plan m2 RW_PERMS false i hst.2
      exact ⟨a, b.trans hst.1⟩
    · obtain ⟨a, b, _⟩ := openPartFile_blocked cfg plan m2 md true i hst.2
      exact ⟨a, b.trans hst.1⟩

theorem setup_blocked (cfg : Cfg) (plan : Plan) (m : M) (i : Nat) (hop : cfg.overwritePart = false) (h : m.fs.dir.part = some i) :
    (setup cfg plan m).1 ≠ none ∧ (setup cfg plan m).2.tr = m.tr := by
  rw [setup_eq_openPartFileM]
  split
  · exact ⟨by simp, rfl⟩
  · simp only [hop, Bool.false_and, Bool.false_eq_true, if_false]
    exact openPartFileM_blocked cfg plan m i h

end C05
