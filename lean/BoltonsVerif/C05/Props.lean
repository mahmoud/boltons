import BoltonsVerif.C05.Script
import BoltonsVerif.C05.AcceptProofs
import BoltonsVerif.C05.AcceptMore
import BoltonsVerif.C05.AcceptHist
import BoltonsVerif.C05.AcceptEnv
import BoltonsVerif.C05.Classify
import BoltonsVerif.C05.AcceptRef
import BoltonsVerif.C05.PubClean
import BoltonsVerif.C04.Props
import BoltonsVerif.Generated.C05_Consts
/-
C05 — property theorems about `runScript cfg sc plan fs0 e` (the transliterated `AtomicSaver` after
the three `fix:` commits) for EVERY plan (any number of failing calls, at any call sites, failing with
any errno or any other exception class - an error is an opaque number, see Model.lean -, and the
destination appearing before any call), every configuration, every with-block `sc` (any sequence of
write / flush / close calls on the file object, ending normally or by raising) and initial state.

`out` is what the caller sees, `fin` the final machine state (`fin.fs` the file system, and the ghost
observers `fin.published` - a rename/link onto the destination succeeded -, `fin.errs` - how many calls
reported an error -, `fin.envDone` - the environment created the destination during the save -,
`fin.cleanupFaulted` - the plan made a cleanup unlink fail).
-/
namespace C05
open C04

abbrev out (cfg : Cfg) (sc : Script) (plan : Plan) (fs0 : FS) (e : Nat) : Outcome := (runScript cfg sc plan fs0 e).1
abbrev fin (cfg : Cfg) (sc : Script) (plan : Plan) (fs0 : FS) (e : Nat) : M := (runScript cfg sc plan fs0 e).2

/-- the permission bits a completed save must give the destination: explicit, else those of the
    file it replaces, else `0o666 & ~umask` -/
def expectedPerms (cfg : Cfg) (fs0 : FS) : Nat :=
  match cfg.perms with
  | some p => p
  | none => match fs0.destMode with
    | some md => md
    | none => umaskOf fs0.umask RW_PERMS

/-- **A save that is not published leaves the destination exactly as it was** - same directory
    entry, same inode, hence same bytes and same permission bits - whatever failed and wherever.
    If meanwhile another process created the destination (`envDone`; only possible when it was
    absent), the destination is exactly that other process's file. -/
theorem failed_save_preserves_dest (cfg : Cfg) (sc : Script) (plan : Plan) (fs0 : FS) (e : Nat)
    (hst : Start fs0 e) (hnp : (fin cfg sc plan fs0 e).published = false) :
    ((fin cfg sc plan fs0 e).envDone = false →
      (fin cfg sc plan fs0 e).fs.readDest = fs0.readDest ∧ (fin cfg sc plan fs0 e).fs.destMode = fs0.destMode) ∧
    ((fin cfg sc plan fs0 e).envDone = true →
      fs0.dir.dest = none ∧ (fin cfg sc plan fs0 e).fs.readDest = some envBytes ∧
      (fin cfg sc plan fs0 e).fs.destMode = some envMode) := by
  obtain ⟨s, W, r⟩ := runScript_spec cfg fs0 e sc plan
  exact r.j.unpublished_dest hst r.envIno (by rw [r.j.published]; exact hnp)

/-- the same for plans in which no other process interferes -/
theorem failed_save_preserves_dest_noenv (cfg : Cfg) (sc : Script) (plan : Plan) (fs0 : FS) (e : Nat)
    (hst : Start fs0 e) (hne : ∀ k, plan k ≠ .appear) (hnp : (fin cfg sc plan fs0 e).published = false) :
    (fin cfg sc plan fs0 e).fs.readDest = fs0.readDest ∧ (fin cfg sc plan fs0 e).fs.destMode = fs0.destMode :=
  (failed_save_preserves_dest cfg sc plan fs0 e hst hnp).1 (runScript_envDone cfg sc plan fs0 e hne)

/-- **Failure is reported.**  If the caller sees no exception then the save was published, no call
    reported an error and the block did not raise.  (Contrapositive: a raising block, any failing
    call, or a missing publication reaches the caller as an exception - never a silent failure.) -/
theorem failure_is_reported (cfg : Cfg) (sc : Script) (plan : Plan) (fs0 : FS) (e : Nat)
    (hok : out cfg sc plan fs0 e = .ok) :
    (fin cfg sc plan fs0 e).published = true ∧ (fin cfg sc plan fs0 e).errs = 0 ∧ sc.raises = false ∧
    (fin cfg sc plan fs0 e).fs.dir.part = none := by
  obtain ⟨s, W, r⟩ := runScript_spec cfg fs0 e sc plan
  obtain ⟨h1, h2, h3⟩ := r.ok hok
  refine ⟨by rw [← r.j.published]; simp [St.published, h1], h2, h3, GInv.part_none r.j.inv (Or.inr h1)⟩

/-- with `overwrite=True` the converse also holds: an exception means nothing was published -/
theorem raised_means_unpublished (cfg : Cfg) (sc : Script) (plan : Plan) (fs0 : FS) (e : Nat)
    (how : cfg.overwrite = true) (hne : out cfg sc plan fs0 e ≠ .ok) :
    (fin cfg sc plan fs0 e).published = false := by
  obtain ⟨s, W, r⟩ := runScript_spec cfg fs0 e sc plan
  cases hp : (fin cfg sc plan fs0 e).published with
  | false => rfl
  | true =>
    rcases r.pub_ok_or_noclobber hp with h | h
    · exact absurd h hne
    · rw [how] at h; cases h

/-- the only way to get an exception from a save that IS published: `overwrite=False`, the `link`
    onto the destination succeeded and a later call (the `unlink` of the part file) failed -/
theorem raised_but_published_only_after_link (cfg : Cfg) (sc : Script) (plan : Plan) (fs0 : FS) (e : Nat)
    (hne : out cfg sc plan fs0 e ≠ .ok) (hp : (fin cfg sc plan fs0 e).published = true) :
    cfg.overwrite = false ∧ Ev.linkPartDest ∈ (fin cfg sc plan fs0 e).tr := by
  obtain ⟨s, W, r⟩ := runScript_spec cfg fs0 e sc plan
  rcases r.pub_ok_or_noclobber hp with h | h
  · exact absurd h hne
  · exact ⟨h, r.pub_link hp h⟩

/-- **Early refusal.**  `overwrite=False` and the destination exists at entry: `OSError(EEXIST)`,
    and the file system is not touched at all. -/
theorem refused_when_dest_exists (cfg : Cfg) (sc : Script) (plan : Plan) (fs0 : FS) (e : Nat)
    (hd : fs0.dir.dest ≠ none) (how : cfg.overwrite = false) :
    out cfg sc plan fs0 e = .osErr EEXIST ∧ (fin cfg sc plan fs0 e).fs = fs0 := by
  obtain ⟨s, W, r⟩ := runScript_spec cfg fs0 e sc plan
  obtain ⟨a, b, _⟩ := r.refused hd how
  exact ⟨a, b⟩

/-- **Late refusal.**  `overwrite=False` and the destination appears at any point before completion:
    the caller gets an exception, nothing is published (so, by `failed_save_preserves_dest`, the
    destination is exactly the other process's file). -/
theorem refused_when_dest_appears (cfg : Cfg) (sc : Script) (plan : Plan) (fs0 : FS) (e : Nat)
    (how : cfg.overwrite = false) (henv : (fin cfg sc plan fs0 e).envDone = true) :
    out cfg sc plan fs0 e ≠ .ok ∧ (fin cfg sc plan fs0 e).published = false := by
  obtain ⟨s, W, r⟩ := runScript_spec cfg fs0 e sc plan
  have hunp : (fin cfg sc plan fs0 e).published = false := by
    cases hp : (fin cfg sc plan fs0 e).published with
    | false => rfl
    | true =>
      have := r.j.lenv (r.pub_link hp how)
      simp only [fin] at henv
      rw [henv] at this; cases this
  refine ⟨?_, hunp⟩
  intro hok
  have := (failure_is_reported cfg sc plan fs0 e hok).1
  rw [hunp] at this; cases this

/-- `__exit__` never masks the exception raised by the with-block: whatever fails during
    flush / fsync / close / cleanup, the caller sees the block's own exception -/
theorem exit_never_masks_block_exception (cfg : Cfg) (plan : Plan) (m : M) (b : Outcome) :
    (finishG cfg plan m (some b)).1 = b := by
  unfold finishG
  cases syncCloseG plan m with
  | mk r m3 => cases r <;> rfl

/-- **Cleanup.**  After a failed save with `rm_part_on_exc`, unless the plan made the cleanup
    `unlink` itself fail, either no part file is left, or this save never created one (then the
    inode table is untouched and the part name is as at the start - or removed by `overwrite_part`). -/
theorem part_removed (cfg : Cfg) (sc : Script) (plan : Plan) (fs0 : FS) (e : Nat)
    (hne : out cfg sc plan fs0 e ≠ .ok) (hrm : cfg.rmPartOnExc = true)
    (hcf : (fin cfg sc plan fs0 e).cleanupFaulted = false) :
    (fin cfg sc plan fs0 e).fs.dir.part = none ∨
    ((fin cfg sc plan fs0 e).fs.inodes = fs0.inodes ∧
      ((fin cfg sc plan fs0 e).fs.dir.part = fs0.dir.part ∨ cfg.overwritePart = true)) := by
  obtain ⟨s, W, r⟩ := runScript_spec cfg fs0 e sc plan
  rcases r.failed hne with ⟨h1, h2⟩ | ⟨_, h2⟩
  · exact Or.inr (r.j.init_untouched h1 h2)
  · exact Or.inl (h2 hrm hcf)

/-- **A completed save holds exactly the new content**, and the block cannot have raised -/
theorem published_content (cfg : Cfg) (sc : Script) (plan : Plan) (fs0 : FS) (e : Nat)
    (hp : (fin cfg sc plan fs0 e).published = true) :
    (fin cfg sc plan fs0 e).fs.readDest = some sc.content ∧ sc.raises = false := by
  obtain ⟨s, W, r⟩ := runScript_spec cfg fs0 e sc plan
  exact ⟨r.pub_read hp, r.pub_unraised hp⟩

/-- **Permissions of a completed save**: explicit `file_perms`, else those of the replaced file,
    else `0o666 & ~umask` (no interference by another process, `os.stat` not made to claim ENOENT) -/
theorem perms (cfg : Cfg) (sc : Script) (plan : Plan) (fs0 : FS) (e : Nat)
    (hne : ∀ k, plan k ≠ .appear) (hnn : ∀ k, plan k ≠ .fail ENOENT)
    (hp : (fin cfg sc plan fs0 e).published = true) :
    (fin cfg sc plan fs0 e).fs.destMode = some (expectedPerms cfg fs0) := by
  obtain ⟨s, W, r⟩ := runScript_spec cfg fs0 e sc plan
  rw [show (fin cfg sc plan fs0 e).fs.destMode = _ from r.j.published_mode (r.j.published.trans hp), r.pub_mode hp hne hnn]
  rfl

/-- **Crash safety under faults**: whatever fails, the events the saver performs form a trace
    accepted by C04's `SafeTrace` (so `C04.safeTrace_crash_safe` applies to every faulty run too) -/
theorem trace_is_safe (cfg : Cfg) (sc : Script) (plan : Plan) (fs0 : FS) (e : Nat) :
    SafeTrace (fin cfg sc plan fs0 e).tr = true := by
  obtain ⟨s, W, r⟩ := runScript_spec cfg fs0 e sc plan
  simp [SafeTrace, r.j.run]

theorem retry_of_cleanup (cfg : Cfg) (sc2 : Script) (fs fs0 : FS) (e : Nat)
    (hc : fs.dir.part = none ∨ (fs.inodes = fs0.inodes ∧ (fs.dir.part = fs0.dir.part ∨ cfg.overwritePart = true)))
    (hpart : fs0.dir.part = none ∨ cfg.overwritePart = true) (hdest : fs.dir.dest = none ∨ cfg.overwrite = true)
    (hr2 : sc2.raises = false) (hnc2 : noCloseOps sc2.ops = true) :
    out cfg sc2 noFaults fs e = .ok ∧ (fin cfg sc2 noFaults fs e).fs.readDest = some sc2.content ∧
    (fin cfg sc2 noFaults fs e).fs.dir.part = none := by
  have hp2 : fs.dir.part = none ∨ cfg.overwritePart = true := by
    rcases hc with h | ⟨_, h | h⟩
    · exact Or.inl h
    · rcases hpart with hp | hp
      · exact Or.inl (h.trans hp)
      · exact Or.inr hp
    · exact Or.inr h
  have hok := runScript_nofault_ok cfg fs e sc2 noFaults (fun _ => rfl) hp2 hdest hr2 hnc2
  obtain ⟨h1, _, _, h4⟩ := failure_is_reported cfg sc2 noFaults _ e hok
  exact ⟨hok, (published_content cfg sc2 noFaults _ e h1).1, h4⟩

/-- **Retry.**  After a failed save with `rm_part_on_exc` (cleanup unlink not made to fail), started
    with the part name free (or `overwrite_part`), an immediate fault-free retry of a non-raising
    block (one that does not close the file object itself) succeeds - provided the destination may
    be written (`overwrite`, or it is still absent) - and leaves the complete new content and no part file. -/
theorem retry_succeeds (cfg : Cfg) (sc sc2 : Script) (plan : Plan) (fs0 : FS) (e : Nat)
    (hne : out cfg sc plan fs0 e ≠ .ok) (hrm : cfg.rmPartOnExc = true)
    (hcf : (fin cfg sc plan fs0 e).cleanupFaulted = false)
    (hpart : fs0.dir.part = none ∨ cfg.overwritePart = true)
    (hdest : (fin cfg sc plan fs0 e).fs.dir.dest = none ∨ cfg.overwrite = true)
    (hr2 : sc2.raises = false) (hnc2 : noCloseOps sc2.ops = true) :
    out cfg sc2 noFaults (fin cfg sc plan fs0 e).fs e = .ok ∧
    (fin cfg sc2 noFaults (fin cfg sc plan fs0 e).fs e).fs.readDest = some sc2.content ∧
    (fin cfg sc2 noFaults (fin cfg sc plan fs0 e).fs e).fs.dir.part = none := by
  exact retry_of_cleanup cfg sc2 _ fs0 e (part_removed cfg sc plan fs0 e hne hrm hcf) hpart hdest hr2 hnc2

/-- **A pre-existing part file is never reused or overwritten unless `overwrite_part` is set**: the
    save fails, records no event at all (nothing was created, removed, written or renamed), the
    part name still points to the same inode and the inode table is untouched. -/
theorem existing_part_untouched (cfg : Cfg) (sc : Script) (plan : Plan) (fs0 : FS) (e : Nat) (i : Nat)
    (hop : cfg.overwritePart = false) (hpart : fs0.dir.part = some i) :
    out cfg sc plan fs0 e ≠ .ok ∧ (fin cfg sc plan fs0 e).tr = [] ∧
    (fin cfg sc plan fs0 e).fs.dir.part = some i ∧ (fin cfg sc plan fs0 e).fs.inodes = fs0.inodes := by
  obtain ⟨s, W, r⟩ := runScript_spec cfg fs0 e sc plan
  have htr : (fin cfg sc plan fs0 e).tr = [] := by
    simp only [fin, runScript]
    have hs := setup_blocked cfg plan (M.start fs0 e) i hop hpart
    cases hsetup : setup cfg plan (M.start fs0 e) with
    | mk r1 m1 =>
      rw [hsetup] at hs
      cases r1 with
      | none => simp at hs
      | some x => exact hs.2
  have hs : s = St.init := by
    have := r.j.run
    simp only [fin] at htr
    rw [htr] at this
    simpa [St.run] using this.symm
  subst hs
  refine ⟨?_, htr, ?_, (ginv_inodes r.j.inv).1 rfl⟩
  · intro hok
    have := (r.ok hok).1
    simp [St.init] at this
  · have := (r.j.pinit rfl).1 (by simp only [fin] at htr; rw [htr]; simp)
    rw [this, hpart]

/-- **The two semantics agree**: when no other process interferes, the file system the saver ends
    with - whatever failed - is exactly what C04's `exec` makes of the events it recorded (a failed call
    changes nothing; a failing `close()` still closes and is recorded) -/
theorem run_is_exec (cfg : Cfg) (sc : Script) (plan : Plan) (fs0 : FS) (e : Nat) (hne : ∀ k, plan k ≠ .appear) :
    exec fs0 (fin cfg sc plan fs0 e).tr = some (fin cfg sc plan fs0 e).fs :=
  runScript_X cfg sc plan fs0 e hne

/-- hence a crash at ANY point of ANY faulty run is safe: for every plan, every prefix of the events
    performed and both crash semantics, the destination reads the old state or the complete new content
    (`C04.safeTrace_crash_safe` applied to `trace_is_safe`) -/
theorem faulty_run_crash_safe (cfg : Cfg) (sc : Script) (plan : Plan) (fs0 : FS) (e : Nat)
    (hwf : fs0.WF) (hh : fs0.hist = []) (hsy : DestSynced fs0) :
    ∀ p q fs, (fin cfg sc plan fs0 e).tr = p ++ q → exec fs0 p = some fs →
      (fs.destAfterProcCrash = fs0.readDest ∨ fs.destAfterProcCrash = some (allWrites (fin cfg sc plan fs0 e).tr)) ∧
      (∀ r, fs.PowerDest r → r = fs0.readDest ∨ r = some (allWrites (fin cfg sc plan fs0 e).tr)) ∧
      (publishes p = false → fs.destAfterProcCrash = fs0.readDest ∧ ∀ r, fs.PowerDest r → r = fs0.readDest) := by
  intro p q fs ht hx
  have := safeTrace_crash_safe fs0 _ hwf hh hsy (trace_is_safe cfg sc plan fs0 e) p q fs ht hx
  exact ⟨this.1, this.2.1, this.2.2.1⟩

/-- translator obligation (regenerated from the current source on every run): `RW_PERMS` and
    `AtomicSaver._default_file_perms` are the model's `RW_PERMS` (0o666) -/
theorem source_default_perms : Gen.rwPerms = RW_PERMS ∧ Gen.defaultFilePerms = RW_PERMS := by decide

/-- **A fault-free save with nothing in its way completes** (the block may write and flush; it must
    not close the file object itself): no exception (hence, by
    `failure_is_reported` / `published_content` / `perms`: published, new content, right mode, no part file) -/
theorem nofault_save_completes (cfg : Cfg) (sc : Script) (fs0 : FS) (e : Nat)
    (hpart : fs0.dir.part = none ∨ cfg.overwritePart = true)
    (hdest : fs0.dir.dest = none ∨ cfg.overwrite = true) (hr : sc.raises = false)
    (hnc : noCloseOps sc.ops = true) :
    out cfg sc noFaults fs0 e = .ok :=
  runScript_nofault_ok cfg fs0 e sc noFaults (fun _ => rfl) hpart hdest hr hnc

/-- **The fault-free runs of this model are C04's `saverTrace`**: the events recorded by `runSave`
    without faults are exactly the trace C04's theorems speak about -/
theorem nofault_trace_is_saverTrace (cfg : Cfg) (body : Body) (fs0 : FS) (e : Nat)
    (hpart : fs0.dir.part = none ∨ cfg.overwritePart = true)
    (hdest : fs0.dir.dest = none ∨ cfg.overwrite = true) :
    (fin cfg (Script.ofBody body) noFaults fs0 e).tr = saverTrace cfg fs0 body := by
  simp only [fin, runScript_ofBody]
  exact runSave_nofault_trace cfg fs0 e body noFaults (fun _ => rfl) hpart hdest

/-- **The block closes the file object itself** (anywhere among its calls): whatever else happens -
    any plan - the save is never published and the caller gets an exception: Python refuses
    `flush()` on the closed object (`ValueError`, not an `OSError`), which `__exit__` must treat like
    any other failure.  With `failed_save_preserves_dest`, `part_removed` and `retry_succeeds`
    this is the full C05 guarantee for such a block. -/
theorem closed_by_block_not_published (cfg : Cfg) (sc : Script) (plan : Plan) (fs0 : FS) (e : Nat)
    (hcl : noCloseOps sc.ops = false) :
    out cfg sc plan fs0 e ≠ .ok ∧ (fin cfg sc plan fs0 e).published = false :=
  runScript_closed cfg sc plan fs0 e hcl

/-! ### non-vacuity: concrete states and plans satisfying the hypotheses above -/

/-- destination `OLD` (0o640), no part file, the environment's inode unlinked at index 1 -/
def fsEx : FS := ⟨[⟨[79, 76, 68], [], 0o640⟩, envInode], ⟨some 0, none⟩, [], none, 0o022⟩
/-- no destination, a stale part file -/
def fsEx2 : FS := ⟨[⟨[9, 9], [], 0o600⟩, envInode], ⟨none, some 0⟩, [], none, 0o022⟩
def bodyEx : Script := ⟨[.write [78, 69] 0, .write [87] 0], false⟩
/-- calls of a plain save: 0 stat, 1 open, 2 fdopen, 3 chmod, 4-5 write, 6 flush, 7 fsync, 8 close, 9 rename -/
def failAt (k : Nat) (errno : Errno) : Plan := fun n => if n = k then .fail errno else .pass

example : Start fsEx 1 := ⟨by decide, by decide, by decide, by decide, by decide⟩
example : Start fsEx2 1 := ⟨by decide, by decide, by decide, by decide, by decide⟩
-- fsync fails: reported, destination intact, part removed, retry succeeds
example : out {} bodyEx (failAt 7 5) fsEx 1 = .osErr 5 ∧ (fin {} bodyEx (failAt 7 5) fsEx 1).published = false ∧
    (fin {} bodyEx (failAt 7 5) fsEx 1).fs.readDest = some [79, 76, 68] ∧
    (fin {} bodyEx (failAt 7 5) fsEx 1).fs.dir.part = none ∧
    (fin {} bodyEx (failAt 7 5) fsEx 1).cleanupFaulted = false ∧
    out {} bodyEx noFaults (fin {} bodyEx (failAt 7 5) fsEx 1).fs 1 = .ok := by decide
-- a completed save: content, permissions of the replaced file
example : out {} bodyEx noFaults fsEx 1 = .ok ∧ (fin {} bodyEx noFaults fsEx 1).published = true ∧
    (fin {} bodyEx noFaults fsEx 1).fs.readDest = some [78, 69, 87] ∧
    (fin {} bodyEx noFaults fsEx 1).fs.destMode = some 0o640 ∧ expectedPerms {} fsEx = 0o640 := by decide
-- overwrite=False, destination appears just before the link (call 9 of that save): refused, part removed
example : out { overwrite := false, overwritePart := true } bodyEx (fun n => if n = 9 then .appear else .pass) fsEx2 1 = .osErr EEXIST ∧
    (fin { overwrite := false, overwritePart := true } bodyEx (fun n => if n = 9 then .appear else .pass) fsEx2 1).envDone = true ∧
    (fin { overwrite := false, overwritePart := true } bodyEx (fun n => if n = 9 then .appear else .pass) fsEx2 1).fs.readDest = some envBytes := by
  decide
-- pre-existing part file without overwrite_part: EEXIST, untouched
example : out {} bodyEx noFaults fsEx2 1 = .osErr EEXIST ∧ (fin {} bodyEx noFaults fsEx2 1).fs.readPart = some [9, 9] := by decide
-- the unlink after a successful link fails: the caller gets an exception although the save IS published
-- (the exclusion in `raised_means_unpublished`)
example : out { overwrite := false, overwritePart := true } bodyEx (failAt 10 1) fsEx2 1 = .osErr 1 ∧
    (fin { overwrite := false, overwritePart := true } bodyEx (failAt 10 1) fsEx2 1).published = true := by decide

-- the block writes, then closes the file itself (calls: 0 stat, 1 open, 2 fdopen, 3 chmod, 4 write, 5 close, then
-- 6 flush - refused by Python: ValueError -, 7 close, 8 unlink): reported as EVALUE, destination intact, part file
-- removed, and the retry succeeds; the same with a block that raises afterwards: the block's exception is not masked
def closingEx : Script := ⟨[.write [78, 69] 0, .close], false⟩
example : noCloseOps closingEx.ops = false := by decide
example : out {} closingEx noFaults fsEx 1 = .osErr EVALUE ∧ (fin {} closingEx noFaults fsEx 1).n = 9 ∧
    (fin {} closingEx noFaults fsEx 1).fs.readDest = some [79, 76, 68] ∧
    (fin {} closingEx noFaults fsEx 1).fs.dir.part = none ∧
    out {} bodyEx noFaults (fin {} closingEx noFaults fsEx 1).fs 1 = .ok := by decide
example : out {} { closingEx with raises := true } noFaults fsEx 1 = .bodyExc ∧
    (fin {} { closingEx with raises := true } noFaults fsEx 1).fs.dir.part = none := by decide
-- a failure that is not an OSError (code 1002 = MemoryError) at fsync: same guarantees
example : out {} bodyEx (failAt 7 1002) fsEx 1 = .osErr 1002 ∧ (fin {} bodyEx (failAt 7 1002) fsEx 1).fs.dir.part = none := by decide
-- a block that flushes in between completes
example : out {} ⟨[.write [78] 0, .flush, .write [69] 0], false⟩ noFaults fsEx 1 = .ok ∧
    noCloseOps [Op.write [78] 0, .flush, .write [69] 0] = true := by decide

/-! ## The acceptance tie: every ACCEPTED observed trace has the C05 guarantees

The theorems above are about the transliteration `runScript`.  The theorems below do not mention it:
they are about ANY trace of observations (`Obs`: successful calls classified by their effect, calls
that reported an error, the other process's move) that the decidable predicate `Accept` accepts and
that can be executed (`replay`) from an arbitrary initial state `fs0` - whatever sequence of calls
the implementation chose.  The check evaluates `Accept` and `replay` on the trace recorded from the
real `atomic_save` in every case (C05.Driver) and compares the replayed file system with the real one.

`t` the observed trace, `raises` = the with-block ended by raising, `ok` = the caller saw no
exception, `content` = the bytes the block wrote, `m` = the machine state after the replay. -/

/-- **An accepted save that is not published leaves the destination exactly as it was** (or, if another
    process created it meanwhile, exactly that process's file) -/
theorem accepted_preserves_dest (cfg : Cfg) (raises ok : Bool) (content : Bytes) (fs0 : FS) (e : Nat) (t : List Obs) (m : M)
    (hst : Start fs0 e) (h : Observed cfg raises ok content fs0 e t m) (hnp : publishes (oks t) = false) :
    (m.envDone = false → m.fs.readDest = fs0.readDest ∧ m.fs.destMode = fs0.destMode) ∧
    (m.envDone = true → fs0.dir.dest = none ∧ m.fs.readDest = some envBytes ∧ m.fs.destMode = some envMode) := by
  exact h.unpublished_dest hst hnp

/-- **Failure is reported**: an accepted trace whose caller saw no exception is a completed save -
    published, no listed step failed before the publication, the block did not raise, and the part
    name is gone -/
theorem accepted_failure_reported (cfg : Cfg) (raises : Bool) (content : Bytes) (fs0 : FS) (e : Nat) (t : List Obs) (m : M)
    (h : Observed cfg raises true content fs0 e t m) :
    publishes (oks t) = true ∧ failedBefore t = false ∧ raises = false ∧ m.fs.dir.part = none := by
  obtain ⟨a, f⟩ := h.rj
  obtain ⟨hdone, hnf, hnr⟩ := f.completed rfl
  have hpub : a.s.published = true := by simp [St.published, hdone]
  exact ⟨by rw [← f.published]; exact hpub, A.run_pubClean f.run (by rw [← f.published]; exact hpub), hnr, GInv.part_none f.rj.j.inv (Or.inr hdone)⟩

theorem Observed.ok_false_of_unpublished {cfg raises ok content fs0 e t m} (h : Observed cfg raises ok content fs0 e t m)
    (hnp : publishes (oks t) = false) : ok = false := by
  cases hok : ok with
  | false => rfl
  | true =>
    subst hok
    have := (accepted_failure_reported cfg raises content fs0 e t m h).1
    rw [hnp] at this; cases this

/-- **Every trigger blocks the publication**: if the with-block raised, or one of the listed steps
    (creating or chmod-ing the part file, write, flush, fsync, close, link / rename) reported an
    error, an accepted trace contains no publication and the caller saw an exception -/
theorem accepted_trigger_unpublished (cfg : Cfg) (raises ok : Bool) (content : Bytes) (fs0 : FS) (e : Nat) (t : List Obs) (m : M)
    (h : Observed cfg raises ok content fs0 e t m) (htrig : raises = true ∨ failedBefore t = true) :
    publishes (oks t) = false ∧ ok = false := by
  obtain ⟨a, f⟩ := h.rj
  have hunp : a.s.published = false := by
    rcases htrig with hr | hf
    · exact f.rj.raised hr
    · exact f.rj.failed (A.init_run_failed f.run hf)
  refine ⟨by rw [← f.published]; exact hunp, ?_⟩
  exact h.ok_false_of_unpublished (by rw [← f.published]; exact hunp)

/-- **Refusal** (`overwrite=False`): if the destination exists at entry, or another process creates it
    at any point before completion, an accepted trace contains no publication and the caller saw an
    exception (so, by `accepted_preserves_dest`, the destination is untouched / the other process's file) -/
theorem accepted_refusal (cfg : Cfg) (raises ok : Bool) (content : Bytes) (fs0 : FS) (e : Nat) (t : List Obs) (m : M)
    (h : Observed cfg raises ok content fs0 e t m) (how : cfg.overwrite = false)
    (hd : fs0.dir.dest ≠ none ∨ m.envDone = true) :
    publishes (oks t) = false ∧ ok = false := by
  obtain ⟨a, f⟩ := h.rj
  have hunp : publishes (oks t) = false := by
    cases hpp : publishes (oks t) with
    | false => rfl
    | true =>
      exfalso
      rcases publishes_mem _ hpp with hm | hm
      · exact f.rj.norename how (by rw [f.tr]; exact hm)
      · have hl : Ev.linkPartDest ∈ m.tr := by rw [f.tr]; exact hm
        rcases hd with hd | hd
        · exact hd (f.rj.linked hl)
        · have := f.rj.j.lenv hl
          rw [hd] at this; cases this
  refine ⟨hunp, ?_⟩
  exact h.ok_false_of_unpublished hunp

/-- **No-clobber publication is a link, whatever happened before it**.  In an accepted trace of a save with
    `overwrite=False` that IS published: the publishing event is the `link` - never a `rename` / `replace`, not even as a
    fall-back after an earlier attempt failed ("no hard links here: check, then rename" leaves a window one call wide) -,
    the destination did not exist at entry, no other process created it at ANY point of the schedule, the block did not
    raise and no listed step - in particular no earlier attempt to publish, whatever its errno - reported an error before it -/
theorem accepted_noclobber_publication_is_link (cfg : Cfg) (raises ok : Bool) (content : Bytes) (fs0 : FS) (e : Nat)
    (t : List Obs) (m : M) (h : Observed cfg raises ok content fs0 e t m) (how : cfg.overwrite = false)
    (hpub : publishes (oks t) = true) :
    Ev.linkPartDest ∈ oks t ∧ Ev.renamePartDest ∉ oks t ∧ fs0.dir.dest = none ∧ m.envDone = false ∧
    failedBefore t = false ∧ raises = false := by
  obtain ⟨a, f⟩ := h.rj
  have hnr : Ev.renamePartDest ∉ oks t := by rw [← f.tr]; exact f.rj.norename how
  have hl : Ev.linkPartDest ∈ oks t := by
    rcases publishes_mem _ hpub with hm | hm
    · exact absurd hm hnr
    · exact hm
  have hl' : Ev.linkPartDest ∈ m.tr := by rw [f.tr]; exact hl
  refine ⟨hl, hnr, f.rj.linked hl', f.rj.j.lenv hl', ?_, ?_⟩
  · cases hf : failedBefore t with
    | false => rfl
    | true =>
      have := (accepted_trigger_unpublished cfg raises ok content fs0 e t m h (Or.inr hf)).1
      rw [hpub] at this; cases this
  · cases hr : raises with
    | false => rfl
    | true =>
      have := (accepted_trigger_unpublished cfg raises ok content fs0 e t m h (Or.inl hr)).1
      rw [hpub] at this; cases this

/-- **Cleanup**: after an accepted failed save with `rm_part_on_exc`, unless the plan made an unlink of
    the part file fail, either no part file is left, or this save never created one (inode table
    untouched, the part name as at the start - or removed by `overwrite_part`) -/
theorem accepted_part_removed (cfg : Cfg) (raises : Bool) (content : Bytes) (fs0 : FS) (e : Nat) (t : List Obs) (m : M)
    (h : Observed cfg raises false content fs0 e t m) (hrm : cfg.rmPartOnExc = true) (hcf : unlinkFaulted t = false) :
    m.fs.dir.part = none ∨ (m.fs.inodes = fs0.inodes ∧ (m.fs.dir.part = fs0.dir.part ∨ cfg.overwritePart = true)) := by
  obtain ⟨a, f⟩ := h.rj
  have huf : a.ufail = false := by rw [A.init_run_ufail f.run, hcf]
  have hph := f.cleaned rfl hrm huf
  rcases hph with h0 | hab | hdn
  · refine Or.inr (f.rj.j.init_untouched h0 fun hu => ?_)
    cases hop : cfg.overwritePart with
    | true => rfl
    | false => exact absurd hu (f.rj.nounlink hop h0)
  · exact Or.inl (GInv.part_none f.rj.j.inv (Or.inl hab))
  · exact Or.inl (GInv.part_none f.rj.j.inv (Or.inr hdn))

/-- **A pre-existing part file is never reused or overwritten unless `overwrite_part` is set**: in an
    accepted trace the caller saw an exception, the part name still points to the same inode and the
    inode table is untouched (nothing was created or written) -/
theorem accepted_existing_part_untouched (cfg : Cfg) (raises ok : Bool) (content : Bytes) (fs0 : FS) (e : Nat) (t : List Obs) (m : M)
    (i : Nat) (h : Observed cfg raises ok content fs0 e t m) (hop : cfg.overwritePart = false) (hpart : fs0.dir.part = some i) :
    ok = false ∧ m.fs.dir.part = some i ∧ m.fs.inodes = fs0.inodes ∧ publishes (oks t) = false := by
  obtain ⟨a, f⟩ := h.rj
  have h0 : a.s.phase = .init := f.rj.stale hop (by rw [hpart]; simp)
  have hunp : a.s.published = false := by simp [St.published, h0]
  have hino : m.fs.inodes = fs0.inodes := (ginv_inodes f.rj.j.inv).1 h0
  refine ⟨?_, by rw [(f.rj.j.pinit h0).1 (f.rj.nounlink hop h0), hpart], hino, by rw [← f.published]; exact hunp⟩
  exact h.ok_false_of_unpublished (by rw [← f.published]; exact hunp)

/-- **A published destination holds exactly the bytes the block wrote** -/
theorem accepted_content (cfg : Cfg) (raises ok : Bool) (content : Bytes) (fs0 : FS) (e : Nat) (t : List Obs) (m : M)
    (h : Observed cfg raises ok content fs0 e t m) (hpub : publishes (oks t) = true) :
    m.fs.readDest = some content ∧ raises = false := by
  obtain ⟨a, f⟩ := h.rj
  have hsp : a.s.published = true := by rw [f.published]; exact hpub
  have hr : raises = false := by
    cases hh : raises with
    | false => rfl
    | true => have := f.rj.raised hh; rw [hsp] at this; cases this
  exact ⟨h.published_dest hpub, hr⟩

/-- **Permissions of a published destination**: explicit `file_perms`, else those of the replaced
    file, else `0o666 & ~umask` (no interference by another process) -/
theorem accepted_perms (cfg : Cfg) (raises ok : Bool) (content : Bytes) (fs0 : FS) (e : Nat) (t : List Obs) (m : M)
    (h : Observed cfg raises ok content fs0 e t m) (hpub : publishes (oks t) = true) (hne : hasAppear t = false) :
    m.fs.destMode = some (expectedPerms cfg fs0) := by
  -- `expectedPerms cfg fs0` unfolds to `expectedMode cfg fs0.destMode fs0.umask`, in which `published_mode` is stated
  exact h.published_mode hpub hne

/-- **Crash safety of what was observed**: the successful events of an accepted trace satisfy C04's
    `SafeTrace` (so `C04.safeTrace_crash_safe` applies to every observed faulty run) -/
theorem accepted_trace_safe (cfg : Cfg) (raises ok : Bool) (content : Bytes) (um : Nat) (dm0 : Option Nat) (t : List Obs)
    (h : Accept cfg raises ok content um dm0 t = true) : SafeTrace (oks t) = true := by
  unfold Accept at h
  cases ha : A.init.run cfg raises t with
  | none => simp [ha] at h
  | some a =>
    have := A.run_st cfg raises t A.init a ha
    simp only [A.init] at this
    simp [SafeTrace, this]

/-- **The replay is C04's `exec`**: without interference the file system reached by replaying an
    observed trace is `C04.exec` of its successful events (calls that reported an error change nothing) -/
theorem accepted_replay_is_exec (fs0 : FS) (e : Nat) (t : List Obs) (m : M)
    (hne : hasAppear t = false) (hrun : replay (M.start fs0 e) t = some m) :
    exec fs0 (oks t) = some m.fs := by
  rw [← replay_start_tr hrun]
  exact replay_X fs0 t _ m hne (by simp [X, M.start, exec]) hrun

/-- **Retry**: the state an accepted failed save leaves behind (with `rm_part_on_exc`, no unlink of the
    part file made to fail, the part name free at the start or `overwrite_part`, and the destination
    writable) is one from which a fault-free save completes with the full new content and no part file -/
theorem accepted_retry_ready (cfg : Cfg) (raises : Bool) (content : Bytes) (fs0 : FS) (e : Nat) (t : List Obs) (m : M)
    (sc2 : Script) (h : Observed cfg raises false content fs0 e t m) (hrm : cfg.rmPartOnExc = true)
    (hcf : unlinkFaulted t = false) (hpart : fs0.dir.part = none ∨ cfg.overwritePart = true)
    (hdest : m.fs.dir.dest = none ∨ cfg.overwrite = true) (hr2 : sc2.raises = false) (hnc2 : noCloseOps sc2.ops = true) :
    out cfg sc2 noFaults m.fs e = .ok ∧ (fin cfg sc2 noFaults m.fs e).fs.readDest = some sc2.content ∧
    (fin cfg sc2 noFaults m.fs e).fs.dir.part = none := by
  exact retry_of_cleanup cfg sc2 _ fs0 e (accepted_part_removed cfg raises content fs0 e t m h hrm hcf) hpart hdest hr2 hnc2

/-- hence a crash at ANY point of ANY accepted observed run is safe: for every prefix of the successful
    events and both crash semantics the destination reads the old state or the complete new content
    (`C04.safeTrace_crash_safe` applied to `accepted_trace_safe`) -/
theorem accepted_crash_safe (cfg : Cfg) (raises ok : Bool) (content : Bytes) (fs0 : FS) (t : List Obs)
    (hacc : Accept cfg raises ok content fs0.umask fs0.destMode t = true)
    (hwf : fs0.WF) (hh : fs0.hist = []) (hsy : DestSynced fs0) :
    ∀ p q fs, oks t = p ++ q → exec fs0 p = some fs →
      (fs.destAfterProcCrash = fs0.readDest ∨ fs.destAfterProcCrash = some (allWrites (oks t))) ∧
      (∀ r, fs.PowerDest r → r = fs0.readDest ∨ r = some (allWrites (oks t))) ∧
      (publishes p = false → fs.destAfterProcCrash = fs0.readDest ∧ ∀ r, fs.PowerDest r → r = fs0.readDest) := by
  intro p q fs ht hx
  have := safeTrace_crash_safe fs0 _ hwf hh hsy (accepted_trace_safe cfg raises ok content _ _ t hacc) p q fs ht hx
  exact ⟨this.1, this.2.1, this.2.2.1⟩

/-- **The fault-free runs of the transliteration are accepted**: for every configuration, initial state
    and write-only with-block, the events `runScript` performs without faults (`nofault_trace_is_saverTrace`)
    form an accepted trace - as a completed save when the block does not raise, as a failed one when it
    does.  (`Accept` is satisfiable in every configuration, and the theorems about `runScript` and the
    `accepted_*` theorems speak about the same runs there.) -/
theorem nofault_runs_are_accepted (cfg : Cfg) (fs0 : FS) (body : Body) :
    Accept cfg body.raises (!body.raises) (newContent body) fs0.umask fs0.destMode
      ((saverTrace cfg fs0 body).map Obs.ok) = true :=
  saverTrace_accepted cfg fs0 body

/-- **The state an accepted save leaves behind is a legitimate starting state**: well-formed, the
    bookkeeping inode untouched - so every `accepted_*` theorem applies to the NEXT save on the same
    directory (the retry, the same `AtomicSaver` object used again, another saver) -/
theorem accepted_next_start (cfg : Cfg) (raises ok : Bool) (content : Bytes) (fs0 : FS) (e : Nat) (t : List Obs) (m : M)
    (hst : Start fs0 e) (h : Observed cfg raises ok content fs0 e t m) (hne : hasAppear t = false) : Start m.fs e :=
  h.next_start hst hne

/-- **Any number of failed saves in a row leave the destination as it was**: in a history of accepted
    saves (each started in the state its predecessor left; any configurations, any faults) none of which
    is published, the destination has at the end exactly the bytes and mode it had at the start -/
theorem history_of_failures_preserves_dest (e : Nat) (fs0 fs : FS) (saves : List SaveObs)
    (hst : Start fs0 e) (h : History e fs0 saves fs) (hnp : ∀ s ∈ saves, publishes (oks s.t) = false) :
    fs.readDest = fs0.readDest ∧ fs.destMode = fs0.destMode := by
  have := h.toE.view hst
  rw [viewRun_unpublished _ saves hnp] at this
  simp only [viewOf, View.mk.injEq] at this
  exact ⟨this.1, this.2.1⟩

/-- **The destination always holds the content of the last completed save**: in a history of accepted
    saves `pre ++ [s] ++ post` where `s` is published and none of `post` is, the destination holds at the
    end exactly the bytes written by `s`'s block - whatever failed in the saves after it -/
theorem history_last_completed_save_wins (e : Nat) (fs0 fs : FS) (pre post : List SaveObs) (s : SaveObs)
    (hst : Start fs0 e) (h : History e fs0 (pre ++ s :: post) fs) (hpub : publishes (oks s.t) = true)
    (hnp : ∀ x ∈ post, publishes (oks x.t) = false) : fs.readDest = some s.content := by
  have := h.toE.view hst
  rw [List.map_append, List.map_cons, viewRun_append, viewRun, List.foldl_cons, ← viewRun, viewRun_unpublished _ post hnp] at this
  simp only [stepView, hpub, if_true, viewOf, View.mk.injEq] at this
  exact this.1

/-! ### histories in a changing world: one saver object, several saves, the world moves in between

`HistoryE e fs0 steps fs` = any interleaving of accepted, executable saves (`Step.save`: each with its own
configuration, judged by `Accept` with the umask and the destination's permission bits of the state THAT
save starts from) and moves of the world between them (`Step.env`: the destination chmod-ed, deleted,
replaced by another writer's file with its own permission bits, the process umask changed).  The check
sends such histories, recorded on ONE long-lived `AtomicSaver` object (and on two objects taking turns),
to the driver, which judges every save exactly like this. -/

/-- **A move of the world between two saves keeps the state a legitimate starting state**, and so does
    every history: all `accepted_*` theorems apply to every save of a history -/
theorem history_env_next_start (e : Nat) (fs0 fs : FS) (steps : List Step)
    (hst : Start fs0 e) (h : HistoryE e fs0 steps fs) : Start fs e :=
  h.start hst

/-- **What a reader finds at the destination after ANY history is what the trivial specification machine says**
    (`viewRun` = fold of `stepView`): a move of the world acts on (bytes, permission bits, umask) as such; a save that
    is not published leaves all three as they are - whatever failed in it, and wherever; a published save puts the
    block's bytes there with the permission bits `expectedMode cfg <mode of the destination NOW> <umask NOW>` -/
theorem history_view_is_spec (e : Nat) (fs0 fs : FS) (steps : List Step)
    (hst : Start fs0 e) (h : HistoryE e fs0 steps fs) : viewOf fs = viewRun (viewOf fs0) steps :=
  h.view hst

/-- **The permissions of each completed save are a function of the state THAT save starts from only** - explicit
    `file_perms`, else the permission bits the destination has at the time of that save, else `0o666 & ~umask` with the
    umask in force at that time.  In a history `pre ++ [save s] ++ post` with `s` published, `mid` being the state reached
    by `pre`: right after `s` the destination has the mode `expectedMode s.cfg mid.destMode mid.umask`, where
    `(mid.destMode, mid.umask)` is what the specification machine computes from `pre` - nothing remembered from an
    earlier use of the saver object enters -/
theorem perms_depend_on_current_start_only (e : Nat) (fs0 fs : FS) (pre post : List Step) (s : SaveObs)
    (hst : Start fs0 e) (h : HistoryE e fs0 (pre ++ .save s :: post) fs) (hpub : publishes (oks s.t) = true) :
    ∃ mid m, HistoryE e fs0 pre mid ∧ Observed s.cfg s.raises s.ok s.content mid e s.t m ∧ HistoryE e m.fs post fs ∧
      m.fs.destMode = some (expectedMode s.cfg mid.destMode mid.umask) ∧
      m.fs.readDest = some s.content ∧
      viewOf mid = viewRun (viewOf fs0) pre := by
  obtain ⟨mid, h1, h2⟩ := HistoryE.split pre (.save s :: post) fs0 fs h
  cases h2 with
  | save _ _ m _ _ hobs hne hrest =>
    exact ⟨mid, m, h1, hobs, hrest, hobs.published_mode hpub hne, hobs.published_dest hpub, h1.view hst⟩

/-- hence: two completed saves with the same `file_perms` that start in states with the same destination mode and
    the same umask give the destination the same permission bits - whatever histories (other saves through the same
    object, failures, moves of the world) led to those two states, and whatever call sequences the two saves used -/
theorem perms_same_start_same_result (cfg1 cfg2 : Cfg) (r1 r2 ok1 ok2 : Bool) (c1 c2 : Bytes) (fs1 fs2 : FS) (e1 e2 : Nat)
    (t1 t2 : List Obs) (m1 m2 : M)
    (h1 : Observed cfg1 r1 ok1 c1 fs1 e1 t1 m1) (h2 : Observed cfg2 r2 ok2 c2 fs2 e2 t2 m2)
    (hp1 : publishes (oks t1) = true) (hp2 : publishes (oks t2) = true)
    (hn1 : hasAppear t1 = false) (hn2 : hasAppear t2 = false)
    (hcfg : cfg1.perms = cfg2.perms) (hmode : fs1.destMode = fs2.destMode) (hum : fs1.umask = fs2.umask) :
    m1.fs.destMode = m2.fs.destMode := by
  rw [h1.published_mode hp1 hn1, h2.published_mode hp2 hn2]
  simp [expectedMode, hcfg, hmode, hum]

/-- a history in which nothing is published shows a reader exactly what the moves of the world alone produce -/
theorem history_failed_saves_invisible (e : Nat) (fs0 fs : FS) (steps : List Step)
    (hst : Start fs0 e) (h : HistoryE e fs0 steps fs)
    (hnp : ∀ s, Step.save s ∈ steps → publishes (oks s.t) = false) :
    viewOf fs = viewRun (viewOf fs0) (steps.filter (fun st => match st with | .env _ => true | .save _ => false)) := by
  rw [h.view hst]
  clear h hst
  generalize viewOf fs0 = v
  induction steps generalizing v with
  | nil => rfl
  | cons st rest ih =>
    cases st with
    | env x =>
      simp only [viewRun, List.foldl_cons, List.filter_cons, if_true] at ih ⊢
      exact ih (fun s hs => hnp s (by simp [hs])) _
    | save s =>
      have hs := hnp s (by simp)
      simp only [viewRun, List.foldl_cons, List.filter_cons, stepView, hs] at ih ⊢
      exact ih (fun s hs => hnp s (by simp [hs])) _

/-- **Every run of the transliteration is an accepted trace.**  For every configuration, initial state, with-block script
    and EVERY fault plan (any number of failing calls, any errno or exception class; no other process interfering, no
    injected ENOENT - which `os.stat` answers by "absent"): what `runScript` records of its own calls (`M.obs`) is a trace
    that `Accept` accepts - also the runs with overwrite=False in which the `link` succeeded and the `unlink` of the part
    file after it failed, i.e. an exception although published.  So `Accept` is satisfiable under arbitrary faults, and
    the `accepted_*` theorems apply to the very runs the theorems about `runScript` speak of.  (The check compares `M.obs`
    token by token with the trace recorded on the real code in every case.) -/
theorem transliteration_runs_are_accepted (cfg : Cfg) (sc : Script) (plan : Plan) (fs0 : FS) (e : Nat)
    (hne : ∀ k, plan k ≠ .appear) (hnn : ∀ k, plan k ≠ .fail ENOENT) :
    Accept cfg sc.raises (decide (out cfg sc plan fs0 e = .ok)) sc.content fs0.umask fs0.destMode
      (fin cfg sc plan fs0 e).obs = true :=
  runScript_accepted cfg sc plan fs0 e hne hnn

/-- **The transliteration attempts the publication only when everything before it went through**: if its record
    contains a publication (rename / link onto the destination) then no listed step (creating or chmod-ing the part file,
    write, flush, fsync, close, link / rename) reported an error before it.  Stated for plans without interference; `hne`
    is not used, the fact holds under every plan (`runScript_pubClean_anyPlan`, PubClean.lean). -/
theorem no_listed_failure_before_publication (cfg : Cfg) (sc : Script) (plan : Plan) (fs0 : FS) (e : Nat)
    (hne : ∀ k, plan k ≠ .appear) (hpub : publishes (oks (fin cfg sc plan fs0 e).obs) = true) :
    failedBefore (fin cfg sc plan fs0 e).obs = false :=
  runScript_pubClean cfg sc plan fs0 e hne hpub

/-- for EVERY plan (interference included) the recorded observations are faithful bookkeeping: their
    successful events are the recorded events (up to calls without effect), a listed failure is counted
    as an error, a cleanup unlink that the plan made fail shows as such, and `appear` is recorded exactly
    when the other process acted -/
theorem transliteration_observations_faithful (cfg : Cfg) (sc : Script) (plan : Plan) (fs0 : FS) (e : Nat) :
    (oks (fin cfg sc plan fs0 e).obs).filter notNoop = (fin cfg sc plan fs0 e).tr.filter notNoop ∧
    (listedFailed (fin cfg sc plan fs0 e).obs = true → 0 < (fin cfg sc plan fs0 e).errs) ∧
    ((fin cfg sc plan fs0 e).cleanupFaulted = true → unlinkFaulted (fin cfg sc plan fs0 e).obs = true) ∧
    hasAppear (fin cfg sc plan fs0 e).obs = (fin cfg sc plan fs0 e).envDone :=
  let t := runScript_T cfg sc plan fs0 e
  ⟨t.oks, t.lf, t.cf, t.env⟩

/-- **Without `overwrite_part` the transliteration never removes a part file it did not create**: under
    every plan no unlink of the part file precedes its creation -/
theorem no_unlink_before_creation (cfg : Cfg) (sc : Script) (plan : Plan) (fs0 : FS) (e : Nat)
    (hop : cfg.overwritePart = false) : headUnlink (fin cfg sc plan fs0 e).tr = false :=
  runScript_headUnlink cfg sc plan fs0 e hop

/-- **Probes are free**: observations without effect on the automaton - successful calls without effect
    on the two names (stat, lstat, fdopen, fcntl, close of a closed object ...) and calls that failed on
    their own without being a listed step (an `unlink` / `stat` answering ENOENT) - can be inserted or
    removed anywhere without changing the verdict: how many probes an implementation makes, and where,
    is not constrained -/
theorem accept_ignores_probes (cfg : Cfg) (raises ok : Bool) (content : Bytes) (um : Nat) (dm0 : Option Nat) (t : List Obs) :
    Accept cfg raises ok content um dm0 (dropProbes t) = Accept cfg raises ok content um dm0 t :=
  accept_dropProbes cfg raises ok content um dm0 t

/-- translator obligation (regenerated from the current source on every run): inside `AtomicSaver`,
    `atomic_save`, `atomic_rename`, `replace` and `set_cloexec` there is no call by which the file
    system or the process state could be changed behind the recorder's back (os.sendfile, os.umask,
    os.chdir, shutil.*, pathlib.*, tempfile.*, subprocess.* ...): the observed traces are complete -/
theorem source_calls_are_recorded : Gen.unseenCalls = [] := by decide

/-! ### the classification of recorded calls (`C05.classify`, Classify.lean)

The driver evaluates `Accept` / `replay` on a trace that equals `classify` of the raw facts the recorder noted about
every call (checked on every case: `cls=ok`).  What the reading of the `accepted_*` theorems relies on: -/

def Raw.yields (r : Raw) : Ev → Prop
  | .openPart .. => r.kind = .osOpen ∨ r.kind = .builtinOpen
  | .chmodPart _ => r.kind = .chmod
  | .write .. => r.kind = .fileWrite
  | .flush => r.kind = .fileFlush
  | .fsync => r.kind = .fsync
  | .close => r.kind = .fileClose
  | .closeFd => r.kind = .osClose
  | .renamePartDest => r.kind = .rename ∧ r.roles = [.part, .dest]
  | .linkPartDest => r.kind = .link ∧ r.roles = [.part, .dest]
  | .unlinkPart => r.kind = .unlink
  | _ => True

/-- `eventOf` read backwards.  `iteInduction` instead of `split`, which is slow on a term of this size. -/
theorem eventOf_yields (r : Raw) : r.yields (eventOf r) := by
  unfold eventOf
  refine iteInduction (fun _ => trivial) fun _ => ?_
  refine iteInduction (fun _ => trivial) fun _ => ?_
  refine iteInduction (fun _ => trivial) fun _ => ?_
  refine iteInduction (fun _ => trivial) fun _ => ?_
  cases hk : r.kind <;> dsimp only <;>
    (repeat' refine iteInduction (motive := r.yields) (fun _ => ?_) (fun _ => ?_)) <;>
    first | trivial | simp [Raw.yields, *]

theorem eventOf_untouched (r : Raw) (ht : r.touches = false) : eventOf r = .noop := by
  unfold eventOf
  refine iteInduction (motive := (· = Ev.noop)) (fun _ => rfl) fun _ => ?_
  refine iteInduction (motive := (· = Ev.noop)) (fun _ => rfl) fun _ => ?_
  refine iteInduction (motive := (· = Ev.noop)) (fun _ => rfl) fun _ => ?_
  rw [ht]; rfl

/-- **"Listed step" means the same thing on both sides**: when a recorded call acts on the part file (its event is
    one of: create, chmod, write, flush, fsync, close, os.close, rename / link onto the destination, unlink), the flag
    `listed` with which a FAILURE of that call is recorded (`listedKind`: the call's NAME is one of those under which the
    steps "creating or chmod-ing the part file, write, flush, fsync, close, link/rename" appear) is the model's `listedEv`
    of the event the call performs when it goes through - the flag the transliteration uses for its own failures -/
theorem classify_listed_is_model_listed (r : Raw) (hn : eventOf r ≠ .noop) (hu : eventOf r ≠ .unknown)
    (hd : ∀ d, eventOf r ≠ .writeDest d) (ht : eventOf r ≠ .truncDest) (hud : eventOf r ≠ .unlinkDest) :
    listedKind r.kind = listedEv (eventOf r) := by
  have h := eventOf_yields r
  generalize eventOf r = ev at *
  cases ev with
  | noop => exact absurd rfl hn
  | unknown => exact absurd rfl hu
  | writeDest d => exact absurd rfl (hd d)
  | truncDest => exact absurd rfl ht
  | unlinkDest => exact absurd rfl hud
  | openPart => rcases h with h | h <;> rw [h] <;> rfl
  | renamePartDest => rw [h.1]; rfl
  | linkPartDest => rw [h.1]; rfl
  | _ => rw [show r.kind = _ from h]; rfl

/-- **A publication is a rename / replace / link of the part name onto the destination name, and nothing else is** -/
theorem classify_publication_iff (r : Raw) :
    isPub (eventOf r) = true ↔ ((r.kind = .rename ∨ r.kind = .link) ∧ r.roles = [.part, .dest]) := by
  constructor
  · intro h
    have hy := eventOf_yields r
    generalize eventOf r = ev at *
    cases ev <;> first | exact ⟨.inl hy.1, hy.2⟩ | exact ⟨.inr hy.1, hy.2⟩ | cases h
  · rintro ⟨hk | hk, hr⟩ <;> simp [eventOf, hk, hr, isPub, Raw.touches]

/-- **A call on an unrelated path is a probe**: whatever it is called, a call that touches neither the destination nor
    the part file name is observed as a successful call without effect or as a failure; either way the replay goes on
    and the abstract file system is unchanged -/
theorem classify_unrelated_no_effect (r : Raw) (m : M) (ht : r.touches = false) (hc : r.closedAnyway = false) :
    ∃ m', replayStep m (classify1 r).1 = some m' ∧ m'.fs = m.fs ∧ m'.tr = m.tr ++ (if r.ok then [.noop] else []) := by
  unfold classify1
  cases hok : r.ok with
  | true => simp [eventOf_untouched r ht, replayStep, exe, FS.step]
  | false => simp [hc, replayStep]

/-- **A call that reported an error changes nothing** on the abstract file system (except the `close()` that closed all the same) -/
theorem classify_failure_no_effect (r : Raw) (m : M) (hok : r.ok = false) (hc : r.closedAnyway = false) :
    ∃ m', replayStep m (classify1 r).1 = some m' ∧ m'.fs = m.fs ∧ m'.tr = m.tr := by
  simp [classify1, hok, hc, replayStep]

-- the records of a plain save over an existing file whose fsync is made to fail classify to `obsFsyncFails`
def rawBase : Raw := ⟨.other, [], true, false, false, false, false, false, false, true, false, false, false, false, 0, []⟩
def rawFsyncFails : List Raw :=
  [{ rawBase with kind := kindOf "os.stat", roles := [.dest] },
   { rawBase with kind := kindOf "os.open", roles := [.part], wr := true, creat := true, excl := true, created := true, mode := 0o640 },
   { rawBase with kind := kindOf "os.fdopen", roles := [.part] },
   { rawBase with kind := kindOf "os.chmod", roles := [.part], mode := 0o640 },
   { rawBase with kind := kindOf "file.write", roles := [.part], wr := true, data := [78, 69] },
   { rawBase with kind := kindOf "file.write", roles := [.part], wr := true, data := [87] },
   { rawBase with kind := kindOf "file.flush", roles := [.part], wr := true },
   { rawBase with kind := kindOf "os.fsync", roles := [.part], ok := false, inj := true },
   { rawBase with kind := kindOf "file.close", roles := [.part], wr := true },
   { rawBase with kind := kindOf "os.unlink", roles := [.part] }]
-- the same steps under their other names classify to the same observations
example : eventOf { rawBase with kind := kindOf "os.replace", roles := [.part, .dest] } = .renamePartDest ∧
    eventOf { rawBase with kind := kindOf "os.fchmod", roles := [.part], mode := 0o600 } = .chmodPart 0o600 ∧
    eventOf { rawBase with kind := kindOf "os.remove", roles := [.part] } = .unlinkPart ∧
    eventOf { rawBase with kind := kindOf "os.rename", roles := [.dest, .part] } = .unknown ∧
    eventOf { rawBase with kind := kindOf "os.chmod", roles := [.dest], mode := 0o600 } = .unknown ∧
    listedKind (kindOf "os.replace") = true ∧ listedKind (kindOf "os.unlink") = false ∧ listedKind (kindOf "os.stat") = false := by decide

/-! ### non-vacuity of the acceptance theorems: concrete observed traces -/

/-- what the code does for a plain save over an existing file (mode 0o640) when `os.fsync` is made to fail:
    stat, open, fdopen, chmod, two writes, flush, fsync FAILS, close, unlink of the part file -/
def obsFsyncFails : List Obs :=
  [.ok .noop, .ok (.openPart true true 0o640), .ok .noop, .ok (.chmodPart 0o640), .ok (.write [78, 69] 0),
   .ok (.write [87] 0), .ok .flush, .fail true true false, .ok .close, .ok .unlinkPart]
/-- a completed save written differently: no probe at all, the permissions set through the descriptor
    BEFORE `fdopen`, an extra (failing, tolerated) unlink of a part file that is not there -/
def obsOtherOrder : List Obs :=
  [.fail false false true, .ok (.openPart true true 0o640), .ok (.chmodPart 0o640), .ok .noop, .ok (.write [78, 69] 0),
   .ok (.write [87] 0), .ok .flush, .ok .fsync, .ok .close, .ok .renamePartDest]

example : Accept {} false false [78, 69, 87] 0o022 (some 0o640) obsFsyncFails = true := by decide
example : dropProbes obsFsyncFails = [.ok (.openPart true true 0o640), .ok (.chmodPart 0o640), .ok (.write [78, 69] 0),
   .ok (.write [87] 0), .ok .flush, .fail true true false, .ok .close, .ok .unlinkPart] := by decide
example : (replay (M.start fsEx 1) obsFsyncFails).isSome = true ∧ failedBefore obsFsyncFails = true ∧
    unlinkFaulted obsFsyncFails = false ∧ publishes (oks obsFsyncFails) = false := by decide
example : Accept {} false true [78, 69, 87] 0o022 (some 0o640) obsOtherOrder = true ∧
    (replay (M.start fsEx 1) obsOtherOrder).isSome = true ∧ publishes (oks obsOtherOrder) = true ∧
    hasAppear obsOtherOrder = false := by decide
-- the transliteration's own record of the run in which fsync fails (fsEx: destination present, mode 0o640) is the
-- trace `obsFsyncFails` above - and it is accepted; a run that raises although published exists as well
example : (fin {} bodyEx (failAt 7 5) fsEx 1).obs = obsFsyncFails ∧
    (fin {} bodyEx (failAt 7 5) fsEx 1).published = false := by decide
example : out { overwrite := false, overwritePart := true } bodyEx (failAt 10 1) fsEx2 1 ≠ .ok ∧
    (fin { overwrite := false, overwritePart := true } bodyEx (failAt 10 1) fsEx2 1).published = true := by decide
-- ... and that run (exception although published) is accepted as well; its record ends
-- with the link, the unlink that the plan made fail, and the cleanup unlink that went through
example : Accept { overwrite := false, overwritePart := true } false false [78, 69, 87] fsEx2.umask fsEx2.destMode
      (fin { overwrite := false, overwritePart := true } bodyEx (failAt 10 1) fsEx2 1).obs = true ∧
    (fin { overwrite := false, overwritePart := true } bodyEx (failAt 10 1) fsEx2 1).obs.drop 9 =
      [.ok .linkPartDest, .fail false true true, .ok .unlinkPart] ∧
    failedBefore (fin { overwrite := false, overwritePart := true } bodyEx (failAt 10 1) fsEx2 1).obs = false := by decide
-- a history: the save whose fsync fails, then the completed one (from the state the first left)
def mEx1 : M := (replay (M.start fsEx 1) obsFsyncFails).get (by decide)
def mEx2 : M := (replay (M.start mEx1.fs 1) obsOtherOrder).get (by decide)
example : History 1 fsEx [⟨{}, false, false, [78, 69, 87], obsFsyncFails⟩, ⟨{}, false, true, [78, 69, 87], obsOtherOrder⟩] mEx2.fs :=
  History.cons fsEx _ mEx1 _ _ ⟨by decide, by simp [mEx1]⟩ (by decide)
    (History.cons mEx1.fs _ mEx2 _ _ ⟨by decide, by simp [mEx2]⟩ (by decide) (History.nil _))
example : mEx1.fs.readDest = some [79, 76, 68] ∧ mEx2.fs.readDest = some [78, 69, 87] ∧ mEx2.fs.destMode = some 0o640 := by decide
-- a history in a changing world: a new file (umask 022 -> 0o644), the administrator tightens it to 0o600, the SAME saver
-- saves again: the second save must produce 0o600.  The trace of a saver that remembers the permissions it resolved at
-- its first use (creates the part file with 0o666 under the umask, no chmod -> 0o644) is NOT accepted for the second save
def fsNew : FS := ⟨[envInode], ⟨none, none⟩, [], none, 0o022⟩
def obsFirst : List Obs :=
  [.fail false false false, .ok (.openPart true true 0o666), .ok .noop, .ok (.write [86, 49] 0), .ok .flush, .ok .fsync, .ok .close,
   .ok .renamePartDest]
def obsSecond : List Obs :=
  [.ok .noop, .ok (.openPart true true 0o600), .ok .noop, .ok (.chmodPart 0o600), .ok (.write [86, 50] 0), .ok .flush, .ok .fsync,
   .ok .close, .ok .renamePartDest]
def obsSecondStale : List Obs :=
  [.ok (.openPart true true 0o666), .ok .noop, .ok (.write [86, 50] 0), .ok .flush, .ok .fsync, .ok .close, .ok .renamePartDest]
def mH1 : M := (replay (M.start fsNew 0) obsFirst).get (by decide)
def fsH2 : FS := (EnvStep.chmodDest 0o600).apply mH1.fs
def mH3 : M := (replay (M.start fsH2 0) obsSecond).get (by decide)
example : Start fsNew 0 := ⟨by decide, by decide, by decide, by decide, by decide⟩
example : HistoryE 0 fsNew [.save ⟨{}, false, true, [86, 49], obsFirst⟩, .env (.chmodDest 0o600), .save ⟨{}, false, true, [86, 50], obsSecond⟩] mH3.fs :=
  HistoryE.save fsNew _ mH1 _ _ ⟨by decide, by simp [mH1]⟩ (by decide)
    (HistoryE.env mH1.fs _ _ _ (HistoryE.save fsH2 _ mH3 _ _ ⟨by decide, by simp [mH3]⟩ (by decide) (HistoryE.nil _)))
example : viewOf mH1.fs = ⟨some [86, 49], some 0o644, 0o022⟩ ∧ viewOf fsH2 = ⟨some [86, 49], some 0o600, 0o022⟩ ∧
    viewOf mH3.fs = ⟨some [86, 50], some 0o600, 0o022⟩ := by decide
example : viewRun (viewOf fsNew) [.save ⟨{}, false, true, [86, 49], obsFirst⟩, .env (.chmodDest 0o600),
    .save ⟨{}, false, true, [86, 50], obsSecond⟩] = ⟨some [86, 50], some 0o600, 0o022⟩ := by decide
example : Accept {} false true [86, 50] fsH2.umask fsH2.destMode obsSecondStale = false ∧
    acceptCode {} false true [86, 50] fsH2.umask fsH2.destMode obsSecondStale = 4 ∧
    (replay (M.start fsH2 0) obsSecondStale).isSome = true := by decide
-- the destination deleted and the umask changed between two uses: umask default of the umask NOW
example : viewRun ⟨some [1], some 0o777, 0o022⟩ [.env .unlinkDest, .env (.setUmask 0o027),
    .save ⟨{}, false, true, [86, 50], obsSecondStale⟩] = ⟨some [86, 50], some 0o640, 0o027⟩ := by decide
-- rejected: publication after the failed fsync; a silent failure; the part file left behind; a `rename` with
-- overwrite=False; a stale part file removed without overwrite_part; wrong permission bits; content that is not the block's
example : Accept {} false true [78, 69, 87] 0o022 (some 0o640)
    (obsFsyncFails.take 9 ++ [.ok .renamePartDest]) = false := by decide
example : Accept {} false true [78, 69, 87] 0o022 (some 0o640) obsFsyncFails = false := by decide
example : Accept {} false false [78, 69, 87] 0o022 (some 0o640) (obsFsyncFails.take 9) = false := by decide
example : Accept { overwrite := false } false true [78, 69, 87] 0o022 none obsOtherOrder = false := by decide
example : Accept {} false true [78, 69, 87] 0o022 (some 0o640) (.ok .unlinkPart :: obsOtherOrder) = false ∧
    Accept { overwritePart := true } false true [78, 69, 87] 0o022 (some 0o640) (.ok .unlinkPart :: obsOtherOrder) = true := by decide
example : Accept {} false true [78, 69, 87] 0o022 (some 0o600) obsOtherOrder = false ∧
    Accept {} false true [78, 69] 0o022 (some 0o640) obsOtherOrder = false := by decide
-- overwrite=False: the destination appears just before the link, which then fails (EEXIST, a listed step): accepted
-- as a FAILED save only
example : Accept { overwrite := false } false false [78] 0o022 none
    [.ok .noop, .ok (.openPart true true 0o666), .ok .noop, .ok (.write [78] 0), .ok .flush, .ok .fsync, .ok .close,
     .appear, .fail true false false, .ok .unlinkPart] = true := by decide

-- `overwrite=False`, the publishing `os.link` reports "no hard links here" (EPERM / ENOTSUP / ENOSYS - an errno is an
-- opaque number for the model), and the code falls back on "check, then rename": `obsFallback w` is what a recorder sees when
-- the other process creates the destination in the window `w` calls after the failed link (the check itself is a probe)
def obsLinkFails : List Obs :=
  [.fail false false false, .ok (.openPart true true 0o666), .ok .noop, .ok (.write [78] 0), .ok .flush, .ok .fsync, .ok .close,
   .fail true true false]
def obsFallback (appearFirst : Bool) : List Obs :=
  obsLinkFails ++ (if appearFirst then [.ok .noop, .appear, .ok .renamePartDest] else [.ok .noop, .ok .renamePartDest])
-- the abstract file system EXECUTES the schedule with the interference - the other process's file (inode `envIno`, bytes
-- `envBytes`) is replaced by the block's bytes and the caller sees no exception: the clobbering is real ...
example : ((replay (M.start fsNew 0) (obsFallback true)).map fun m => (m.fs.readDest, m.envDone)) = some (some [78], true) := by decide
-- ... and `Accept` refuses the trace, with or without the interference, at the rename (observation 9 / 10); so does it when
-- the caller is told (ok = false)
example : Accept { overwrite := false } false true [78] 0o022 none (obsFallback true) = false ∧
    Accept { overwrite := false } false true [78] 0o022 none (obsFallback false) = false ∧
    Accept { overwrite := false } false false [78] 0o022 none (obsFallback true) = false ∧
    stuckAt { overwrite := false } false A.init (obsFallback true) 0 = some 10 ∧
    stuckAt { overwrite := false } false A.init (obsFallback false) 0 = some 9 := by decide
-- what the code must do instead: clean up and raise; the destination appearing at any boundary after the failed link changes nothing
example : Accept { overwrite := false } false false [78] 0o022 none (obsLinkFails ++ [.ok .unlinkPart]) = true ∧
    Accept { overwrite := false } false false [78] 0o022 none (obsLinkFails ++ [.appear, .ok .unlinkPart]) = true ∧
    Accept { overwrite := false } false false [78] 0o022 none (obsLinkFails ++ [.ok .unlinkPart, .appear]) = true ∧
    ((replay (M.start fsNew 0) (obsLinkFails ++ [.appear, .ok .unlinkPart])).map fun m => (m.fs.readDest, m.fs.dir.part)) =
      some (some envBytes, none) := by decide
-- non-vacuity of `accepted_noclobber_publication_is_link`: the ordinary completed no-clobber save (link, unlink)
example : Accept { overwrite := false } false true [78] 0o022 none
      (obsLinkFails.take 7 ++ [.ok .linkPartDest, .ok .unlinkPart]) = true ∧
    (replay (M.start fsNew 0) (obsLinkFails.take 7 ++ [.ok .linkPartDest, .ok .unlinkPart])).isSome = true ∧
    publishes (oks (obsLinkFails.take 7 ++ [.ok .linkPartDest, .ok .unlinkPart])) = true := by decide

-- the raw records of the run in which fsync fails classify to `obsFsyncFails`
example : (rawFsyncFails.flatMap classify).map Prod.fst = obsFsyncFails := by decide

end C05
