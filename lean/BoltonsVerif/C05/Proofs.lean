import BoltonsVerif.C05.Frame
import BoltonsVerif.C05.Accept
/-
C05 — the invariants of the walk.  `J` ties the machine state of the transliterated saver to (`run`) the state `s` of
C04's acceptance automaton after the events recorded so far, (`inv`) C04's file-system invariant `GInv` (so the new bytes
only ever live in one fresh inode), (`dest`, `envd`) the exact destination entry before publication, (`pinit`) the part
file's name before its creation, (`mode`, `um`) the permission bits of the fresh inode, and (`lenv`) "a `link` in the
trace means the other process never acted", on which the late refusal rests.  `WalkInv` adds `Ran`: the acceptance automaton
of Accept.lean has read everything the machine has recorded of its own calls (`M.obs`) and stands in a state over `s`.
One instrumented call, whatever the plan does to it, preserves both (`J_call`, `WalkInv.call_cases`; the two ways it can end
are `CallOk` / `CallErr`); the primitives that are not a plain `call` have a postcondition each (`callClose_spec`, `rmPart_spec`,
`callStat_spec`).
-/
namespace C05
open C04

/-- (no user in this directory) -/
theorem append_singleton_inj {α} (l : List α) (x y : α) (h : l ++ [x] = l ++ [y]) : x = y := by
  simpa using h

def modeEv : Ev → Bool
  | .openPart _ _ _ => true
  | .chmodPart _ => true
  | _ => false

theorem step_keeps {s s' : St} {e : Ev} {fs fs' : FS} (hs : St.Step s e s') (hf : fs.step e = .ok fs') :
    (isPub e = false → fs'.dir.dest = fs.dir.dest) ∧
    (modeEv e = false → fs'.inodes.map (·.mode) = fs.inodes.map (·.mode)) := by
  cases hs <;> simp only [FS.step, FS.openPart, FS.chmodPart, FS.write, FS.flush, FS.fsync, FS.close, FS.closeFd,
    FS.renamePartDest, FS.linkPartDest, FS.unlinkPart] at hf <;> (repeat' split at hf) <;> cases hf <;>
    simp [isPub, modeEv, FS.setDir, modInode_modes]

theorem publishes_single (ev : Ev) : publishes [ev] = isPub ev := by
  cases ev <;> simp [publishes, isPub]

theorem publishes_eq_any (t : List Ev) : publishes t = t.any isPub := by
  induction t with
  | nil => rfl
  | cons e t ih => rw [publishes_cons, publishes_single, ih, List.any_cons]

theorem publishes_of_mem (t : List Ev) (ev : Ev) (hp : isPub ev = true) (h : ev ∈ t) : publishes t = true := by
  rw [publishes_eq_any, List.any_eq_true]
  exact ⟨ev, h, hp⟩

theorem publishes_mem (l : List Ev) (h : publishes l = true) : Ev.renamePartDest ∈ l ∨ Ev.linkPartDest ∈ l := by
  obtain ⟨p1, e, p2, rfl, -, rfl | rfl⟩ := publishes_split l h
  · exact Or.inl (by simp)
  · exact Or.inr (by simp)

theorem published_of_init {t : List Ev} {s : St} (h : St.init.run t = some s) : s.published = publishes t := by
  rw [(published_run t St.init s h).1]; rfl

theorem St.published_of_step {s s' : St} {ev : Ev} (hs : s.step ev = some s') : s'.published = (s.published || isPub ev) := by
  rw [← publishes_single]; exact (published_step s s' ev hs).1

theorem step_dest (s s' : St) (fs fs' : FS) (ev : Ev) (hs : s.step ev = some s')
    (hp : s'.published = false) (hf : fs.step ev = .ok fs') : fs'.dir.dest = fs.dir.dest := by
  cases hip : isPub ev with
  | false => exact (step_keeps (St.step_spec hs) hf).1 hip
  | true =>
    have := St.published_of_step hs
    rw [hip, hp] at this
    simp at this

/-- `hc`: outside `init` the one fresh inode has mode `cur` -/
theorem mode_step (P : Option Nat → Prop) (ino0 : List Inode) (s s' : St) (fs fs' : FS) (W : Bytes) (e : Ev)
    (cur : Option Nat)
    (hi : GInv P ino0 s fs W) (hs : s.step e = some s') (hf : fs.step e = .ok fs')
    (hc : s.phase ≠ .init → ∀ x, fs.inodes = ino0 ++ [x] → some x.mode = cur) :
    ∀ x', fs'.inodes = ino0 ++ [x'] → some x'.mode = modeAfter fs.umask cur e := by
  intro x' hx'
  cases hme : modeEv e with
  | false =>
    -- the event changes no permission bits: the fresh inode was there before, with the same mode
    have hm := (step_keeps (St.step_spec hs) hf).2 hme
    have he : modeAfter fs.umask cur e = cur := by cases e <;> first | rfl | cases hme
    rw [he]
    by_cases h0 : s.phase = .init
    · rw [(ginv_inodes hi).1 h0, hx'] at hm
      have := congrArg List.length hm
      simp at this
    · obtain ⟨x, hx⟩ := (ginv_inodes hi).2 h0
      rw [hx, hx'] at hm
      simp only [List.map_append, List.map_cons, List.map_nil, List.append_cancel_left_eq, List.cons.injEq, and_true] at hm
      rw [hm]; exact hc h0 x hx
  | true =>
    cases St.step_spec hs with
    | openPart md h0 =>
      have hino := (ginv_inodes hi).1 h0
      simp only [FS.step, FS.openPart] at hf
      split at hf
      · simp at hf
      · simp only [Except.ok.injEq] at hf; subst hf
        simp only [hino, List.append_cancel_left_eq, List.cons.injEq, and_true] at hx'
        subst hx'; simp [modeAfter, umaskOf]
    | chmodPart md h1 =>
      obtain ⟨x, hx⟩ := (ginv_inodes hi).2 (by simp [h1])
      simp only [FS.step, FS.chmodPart, hi.part_some (Or.inl h1), Except.ok.injEq] at hf
      subst hf
      simp only [hx, modInode_append_last, List.append_cancel_left_eq, List.cons.injEq, and_true] at hx'
      subst hx'; simp [modeAfter]
    | _ => cases hme

/-- from `init` (where the file object is closed) the automaton moves only by a call without effect or the removal of a stale
    part file, which both leave it as it is, or by the exclusive creation of the part file -/
theorem St.step_of_init {s s' : St} {e : Ev} (hs : s.step e = some s') (h0 : s.phase = .init) (hcl : s.isOpen = false) :
    (s' = s ∧ (e = .noop ∨ e = .unlinkPart)) ∨ ∃ md, e = .openPart true true md := by
  cases St.step_spec hs with
  | noop => exact Or.inl ⟨rfl, Or.inl rfl⟩
  | unlinkStale => exact Or.inl ⟨rfl, Or.inr rfl⟩
  | openPart md => exact Or.inr ⟨md, rfl⟩
  | chmodPart _ h | rename h | link h | abort h | unlinkLinked h => rw [h0] at h; cases h
  | write _ _ hop | flush hop | fsync hop | close hop | closeFd hop => rw [hcl] at hop; cases hop

/-- nothing leads back into `init` (`step_not_init`), so a step that ends there is one of the two that stay there -/
theorem step_to_init (s s' : St) (e : Ev) (hs : s.step e = some s') (h : s'.phase = .init)
    (ho : s.phase = .init → s.isOpen = false) :
    s.phase = .init ∧ s' = s ∧ (e = .noop ∨ e = .unlinkPart) := by
  have h0 : s.phase = .init := Decidable.byContradiction fun hn => step_not_init s s' e hs hn h
  rcases St.step_of_init hs h0 (ho h0) with ⟨hss, he⟩ | ⟨md, rfl⟩
  · exact ⟨h0, hss, he⟩
  · cases St.step_spec hs; cases h

theorem step_umask (fs fs' : FS) (e : Ev) (hf : fs.step e = .ok fs') : fs'.umask = fs.umask := by
  cases e <;> simp only [FS.step, FS.openPart, FS.chmodPart, FS.write, FS.flush, FS.fsync, FS.close, FS.closeFd,
    FS.renamePartDest, FS.linkPartDest, FS.unlinkPart, FS.truncDest, FS.writeDest, FS.unlinkDest] at hf
  all_goals (repeat' (split at hf))
  all_goals first | (cases hf; rfl) | cases hf

theorem step_close_openf (fs fs' : FS) (h : fs.step .close = .ok fs') : fs'.openf = none := by
  simp only [FS.step, FS.close] at h
  split at h <;> simp at h
  subst h; rfl

theorem run_snoc (s s' s'' : St) (t : List Ev) (e : Ev) (h1 : s.run t = some s') (h2 : s'.step e = some s'') :
    s.run (t ++ [e]) = some s'' := by
  rw [run_append, h1]; simp [St.run, h2]

theorem St.part_or_gone {s : St} (h : s.phase ≠ .init) :
    (s.phase = .part ∨ s.phase = .linked) ∨ (s.phase = .aborted ∨ s.phase = .done) := by
  cases hp : s.phase <;> simp [hp] at h ⊢

theorem exec_snoc {fs0 fs fs' : FS} {tr : List Ev} {ev : Ev} (hf : fs.step ev = .ok fs') (h : exec fs0 tr = some fs) :
    exec fs0 (tr ++ [ev]) = some fs' := by
  rw [exec_append, h]
  simp [exec, hf]

theorem allWrites_snoc (t : List Ev) (ev : Ev) : allWrites (t ++ [ev]) = allWrites t ++ evWrites ev := by
  rw [allWrites_append, allWrites_cons]; simp [allWrites]

theorem foldl_nomode (um : Nat) (evs : List Ev) (cur : Option Nat) (hm : ∀ ev ∈ evs, modeEv ev = false) :
    evs.foldl (modeAfter um) cur = cur := by
  induction evs generalizing cur with
  | nil => rfl
  | cons e evs ih =>
    have he : modeAfter um cur e = cur := by
      have := hm e (by simp)
      cases e <;> simp [modeEv] at this <;> rfl
    simp only [List.foldl_cons, he]
    exact ih cur (fun ev hev => hm ev (by simp [hev]))

theorem env_n (m : M) (a : Act) : (m.env a).n = m.n := by unfold M.env; split <;> rfl
theorem env_tr (m : M) (a : Act) : (m.env a).tr = m.tr := by unfold M.env; split <;> rfl
theorem env_errs (m : M) (a : Act) : (m.env a).errs = m.errs := by unfold M.env; split <;> rfl
theorem env_cleanupFaulted (m : M) (a : Act) : (m.env a).cleanupFaulted = m.cleanupFaulted := by unfold M.env; split <;> rfl
theorem env_envIno (m : M) (a : Act) : (m.env a).envIno = m.envIno := by unfold M.env; split <;> rfl
theorem env_fs_openf (m : M) (a : Act) : (m.env a).fs.openf = m.fs.openf := by unfold M.env; split <;> rfl
theorem env_umask (m : M) (a : Act) : (m.env a).fs.umask = m.fs.umask := by unfold M.env; split <;> rfl
theorem env_part (m : M) (a : Act) : (m.env a).fs.dir.part = m.fs.dir.part := by unfold M.env; split <;> rfl

/-- nothing is recorded about the destination's entry inside `GInv` (the exact entry is `J.dest`) -/
abbrev PT : Option Nat → Prop := fun _ => True

structure J (fs0 : FS) (m : M) (s : St) (W : Bytes) : Prop where
  run : St.init.run m.tr = some s
  inv : GInv PT fs0.inodes s m.fs W
  dest : s.published = false → m.fs.dir.dest = (if m.envDone then some m.envIno else fs0.dir.dest)
  envd : m.envDone = true → fs0.dir.dest = none
  pinit : s.phase = .init → (Ev.unlinkPart ∉ m.tr → m.fs.dir.part = fs0.dir.part) ∧
                            (Ev.unlinkPart ∈ m.tr → m.fs.dir.part = none)
  mode : s.phase ≠ .init → ∀ x, m.fs.inodes = fs0.inodes ++ [x] → some x.mode = m.tr.foldl (modeAfter fs0.umask) none
  um : m.fs.umask = fs0.umask
  lenv : Ev.linkPartDest ∈ m.tr → m.envDone = false

theorem J_start (fs0 : FS) (e : Nat) : J fs0 (M.start fs0 e) St.init [] where
  run := by simp [M.start, St.run]
  inv := by simp [GInv, St.init, M.start, PT]
  dest := by simp [M.start]
  envd := by simp [M.start]
  pinit := by simp [M.start]
  mode := by simp [St.init]
  um := by simp [M.start]
  lenv := by simp [M.start]

theorem J.published {fs0 : FS} {m : M} {s : St} {W : Bytes} (h : J fs0 m s W) : s.published = m.published :=
  published_of_init h.run

/-- while no part file has been created the inode table is the old one, and so is the part name unless a stale part file
    was removed (`hu`: which takes `overwrite_part`) -/
theorem J.init_untouched {cfg : Cfg} {fs0 : FS} {m : M} {s : St} {W : Bytes} (h : J fs0 m s W) (h0 : s.phase = .init)
    (hu : Ev.unlinkPart ∈ m.tr → cfg.overwritePart = true) :
    m.fs.inodes = fs0.inodes ∧ (m.fs.dir.part = fs0.dir.part ∨ cfg.overwritePart = true) := by
  refine ⟨(ginv_inodes h.inv).1 h0, ?_⟩
  by_cases hm : Ev.unlinkPart ∈ m.tr
  · exact Or.inr (hu hm)
  · exact Or.inl ((h.pinit h0).1 hm)

theorem J_env (fs0 : FS) (m : M) (s : St) (W : Bytes) (a : Act) (h : J fs0 m s W) : J fs0 (m.env a) s W := by
  unfold M.env
  split
  · rename_i hc
    obtain ⟨_, hd⟩ := hc
    obtain ⟨ph, op, db, us⟩ := s
    have hunp : St.published ⟨ph, op, db, us⟩ = false := by
      cases ph <;> simp [St.published] <;> have := h.inv <;> simp [GInv, hd] at this
    have h0 := h.dest hunp
    rw [hd] at h0
    have hed : m.envDone = false := by cases hh : m.envDone <;> simp [hh] at h0 ⊢
    have hd0 : fs0.dir.dest = none := by simp [hed] at h0; exact h0.symm
    refine ⟨h.run, ?_, by simp [FS.setDir], fun _ => hd0, by simpa [FS.setDir] using h.pinit,
      by simpa [FS.setDir] using h.mode, by simpa [FS.setDir] using h.um, ?_⟩
    · have hi := h.inv
      cases ph <;> simp [St.published] at hunp <;> simp only [GInv] at hi ⊢ <;> simpa [FS.setDir, PT] using hi
    · intro hl
      exfalso
      have hp := (published_of_init h.run).trans (publishes_of_mem _ _ rfl hl)
      rw [hunp] at hp; cases hp
  · exact h

theorem J_congr (fs0 : FS) (m m' : M) (s : St) (W : Bytes) (h : J fs0 m s W)
    (h1 : m'.fs = m.fs) (h2 : m'.tr = m.tr) (h3 : m'.envIno = m.envIno) (h4 : m'.envDone = m.envDone) :
    J fs0 m' s W where
  run := by rw [h2]; exact h.run
  inv := by rw [h1]; exact h.inv
  dest := by rw [h1, h3, h4]; exact h.dest
  envd := by rw [h4]; exact h.envd
  pinit := by rw [h1, h2]; exact h.pinit
  mode := by rw [h1, h2]; exact h.mode
  um := by rw [h1]; exact h.um
  lenv := by rw [h2, h4]; exact h.lenv

theorem J.link_ok {fs0 : FS} {m : M} {s s' : St} {W : Bytes} {fs' : FS} (h : J fs0 m s W)
    (hs : s.step .linkPartDest = some s') (hf : m.fs.step .linkPartDest = .ok fs') :
    m.envDone = false ∧ fs0.dir.dest = none := by
  have hd : m.fs.dir.dest = none := by
    simp only [FS.step, FS.linkPartDest] at hf
    split at hf
    · cases hf
    · split at hf
      · cases hf
      · assumption
  have hsp : s.published = false := by
    cases St.step_spec hs with
    | link h1 => simp [St.published, h1]
  have := h.dest hsp
  rw [hd] at this
  cases hh : m.envDone <;> simp [hh] at this ⊢
  exact this.symm

theorem J.progress {fs0 : FS} {m : M} {s s' : St} {W : Bytes} {ev : Ev} (h : J fs0 m s W) (hs : s.step ev = some s')
    (hph : s.phase ≠ .init) (hl : ev = .linkPartDest → m.fs.dir.dest = none) : ∃ fs', m.fs.step ev = .ok fs' :=
  h.inv.progress hs hph hl

/-- assumptions about the state at the start used by the property theorems: well-formed, and the
    environment's inode allocated but not linked -/
structure Start (fs0 : FS) (e : Nat) : Prop where
  wf : fs0.WF
  elt : e < fs0.inodes.length
  eino : fs0.inodes[e]? = some envInode
  edest : fs0.dir.dest ≠ some e
  epart : fs0.dir.part ≠ some e

theorem J.unpublished_dest {fs0 : FS} {m : M} {s : St} {W : Bytes} {e : Nat} (j : J fs0 m s W) (hst : Start fs0 e)
    (hei : m.envIno = e) (hnp : s.published = false) :
    (m.envDone = false → m.fs.readDest = fs0.readDest ∧ m.fs.destMode = fs0.destMode) ∧
    (m.envDone = true → fs0.dir.dest = none ∧ m.fs.readDest = some envBytes ∧ m.fs.destMode = some envMode) := by
  have hd := j.dest hnp
  constructor
  · intro he
    simp only [he, Bool.false_eq_true, if_false] at hd
    have : m.fs.inode? m.fs.dir.dest = fs0.inode? fs0.dir.dest := by
      rw [hd]; exact inode?_old fs0 m.fs hst.wf (ginv_old_inodes j.inv)
    simp only [FS.readDest, FS.destMode, this, and_self]
  · intro he
    simp only [he, if_true] at hd
    have h1 : m.fs.inode? m.fs.dir.dest = some envInode := by
      simp only [hd, FS.inode?, hei]
      rw [ginv_old_inodes j.inv e hst.elt, hst.eino]
    refine ⟨j.envd he, ?_, ?_⟩
    · simp [FS.readDest, h1, envInode, Inode.cache]
    · simp [FS.destMode, h1, envInode]

theorem J.published_mode {fs0 : FS} {m : M} {s : St} {W : Bytes} (j : J fs0 m s W) (hsp : s.published = true) :
    m.fs.destMode = m.tr.foldl (modeAfter fs0.umask) none := by
  have hph : s.phase ≠ .init := by intro h; simp [St.published, h] at hsp
  obtain ⟨x, hx⟩ := (ginv_inodes j.inv).2 hph
  have hdest := (ginv_published j.inv hsp).1
  rw [← j.mode hph x hx]
  simp [FS.destMode, FS.inode?, hdest, hx]

structure Ext (m m' : M) : Prop where
  tr : ∃ evs, m'.tr = m.tr ++ evs ∧ ∀ ev ∈ evs, modeEv ev = false
  errs : m.errs ≤ m'.errs
  envIno : m'.envIno = m.envIno

theorem Ext.refl (m : M) : Ext m m := ⟨⟨[], by simp, by simp⟩, Nat.le_refl _, rfl⟩

theorem Ext.same (m m' : M) (ht : m'.tr = m.tr) (he : m.errs ≤ m'.errs) (hi : m'.envIno = m.envIno) : Ext m m' :=
  ⟨⟨[], by simp [ht], by simp⟩, he, hi⟩

theorem Ext.trans {a b c : M} (h1 : Ext a b) (h2 : Ext b c) : Ext a c := by
  obtain ⟨⟨e1, t1, m1⟩, r1, i1⟩ := h1
  obtain ⟨⟨e2, t2, m2⟩, r2, i2⟩ := h2
  refine ⟨⟨e1 ++ e2, by rw [t2, t1, List.append_assoc], ?_⟩, by omega, by rw [i2, i1]⟩
  intro ev hev
  rcases List.mem_append.1 hev with h | h
  · exact m1 ev h
  · exact m2 ev h

theorem Ext.mode (um : Nat) {a b : M} (h : Ext a b) :
    b.tr.foldl (modeAfter um) none = a.tr.foldl (modeAfter um) none := by
  obtain ⟨⟨evs, t, hm⟩, _, _⟩ := h
  rw [t, List.foldl_append, foldl_nomode um evs _ hm]

theorem Ext.mem {a b : M} (h : Ext a b) {ev : Ev} (hm : ev ∈ a.tr) : ev ∈ b.tr := by
  obtain ⟨⟨evs, t, _⟩, _, _⟩ := h
  rw [t]; exact List.mem_append_left _ hm

/-- `Ext` from the exact trace and the two error counts -/
theorem Ext.of_errs {m : M} {r : Option Errno × M} (evs : List Ev) (ht : r.2.tr = m.tr ++ evs) (hm : ∀ ev ∈ evs, modeEv ev = false)
    (hok : r.1 = none → r.2.errs = m.errs) (herr : r.1 ≠ none → r.2.errs = m.errs + 1) (hi : r.2.envIno = m.envIno) :
    Ext m r.2 := by
  refine ⟨⟨evs, ht, hm⟩, ?_, hi⟩
  cases hr : r.1 with
  | none => rw [hok hr]; exact Nat.le_refl _
  | some x => rw [herr (by simp [hr])]; exact Nat.le_succ _

/-- a call from `m` that went through, ending in `m1`: automaton and written bytes advance -/
structure CallOk (I : M → St → Bytes → Prop) (m : M) (s' : St) (W : Bytes) (ev : Ev) (m1 : M) : Prop where
  inv : I m1 s' (W ++ evWrites ev)
  errs : m1.errs = m.errs
  tr : m1.tr = m.tr ++ [ev]
  cf : m1.cleanupFaulted = m.cleanupFaulted
  envIno : m1.envIno = m.envIno

/-- a call from `m` that reported an error, ending in `m1`: only counters (and possibly the environment) have moved -/
structure CallErr (I : M → St → Bytes → Prop) (m : M) (s : St) (W : Bytes) (m1 : M) : Prop where
  inv : I m1 s W
  errs : m1.errs = m.errs + 1
  tr : m1.tr = m.tr
  cf : m1.cleanupFaulted = m.cleanupFaulted
  envIno : m1.envIno = m.envIno

/-- the two ways a call returning `r` can end -/
def CallCases (I : M → St → Bytes → Prop) (m : M) (s s' : St) (W : Bytes) (ev : Ev) (r : Option Errno × M) : Prop :=
  (∃ m1, r = (none, m1) ∧ CallOk I m s' W ev m1) ∨ (∃ e m1, r = (some e, m1) ∧ CallErr I m s W m1)

section
variable {I : M → St → Bytes → Prop} {m m1 : M} {s s' : St} {W : Bytes} {ev : Ev}

theorem CallOk.inv_nowrite (h : CallOk I m s' W ev m1) (hw : evWrites ev = []) : I m1 s' W := by
  have := h.inv; rwa [hw, List.append_nil] at this

theorem CallOk.ext (h : CallOk I m s' W ev m1) (hm : modeEv ev = false) : Ext m m1 :=
  ⟨⟨[ev], h.tr, by simp [hm]⟩, Nat.le_of_eq h.errs.symm, h.envIno⟩

theorem CallErr.ext (h : CallErr I m s W m1) : Ext m m1 :=
  Ext.same m m1 h.tr (by rw [h.errs]; exact Nat.le_succ _) h.envIno

theorem CallCases.failed (e : Errno) (h : CallErr I m s W m1) : CallCases I m s s' W ev (some e, m1) :=
  Or.inr ⟨e, m1, rfl, h⟩

end

theorem J_exe (fs0 : FS) (m : M) (s s' : St) (W : Bytes) (ev : Ev)
    (h : J fs0 m s W) (hs : s.step ev = some s') : CallCases (J fs0) m s s' W ev (exe m ev) := by
  unfold exe
  split
  · exact .failed _ ⟨J_congr _ _ _ _ _ h rfl rfl rfl rfl, rfl, rfl, rfl, rfl⟩
  · rename_i fs' hf
    have hsd : s'.published = false → fs'.dir.dest = m.fs.dir.dest := fun hp => step_dest s s' _ fs' ev hs hp hf
    refine Or.inl ⟨_, rfl, ⟨run_snoc _ _ _ _ _ h.run hs, ginv_step _ _ s s' _ fs' W ev h.inv hs hf, ?_, h.envd, ?_, ?_, ?_, ?_⟩,
      rfl, rfl, rfl, rfl⟩
    · intro hp
      have hsp : s.published = false := by
        have := St.published_of_step hs
        rw [hp] at this
        cases hh : s.published <;> simp [hh] at this ⊢
      have := h.dest hsp
      simp only [hsd hp]
      exact this
    · intro hp
      obtain ⟨h0, -, hev⟩ := step_to_init s s' ev hs hp h.inv.init_closed
      obtain ⟨p1, p2⟩ := h.pinit h0
      rcases hev with rfl | rfl
      · simp [FS.step] at hf; subst hf
        simpa using And.intro p1 p2
      · simp only [FS.step, FS.unlinkPart] at hf
        split at hf <;> simp at hf
        subst hf; simp [FS.setDir]
    · intro hp x' hx'
      simp only [List.foldl_append, List.foldl_cons, List.foldl_nil]
      have := mode_step _ _ s s' m.fs fs' W ev _ h.inv hs hf h.mode x' hx'
      rw [h.um] at this; exact this
    · rw [step_umask _ _ ev hf]; exact h.um
    · intro hl
      simp only [List.mem_append, List.mem_singleton] at hl
      rcases hl with hl | hl
      · exact h.lenv hl
      · subst hl; exact (h.link_ok hs hf).1

/-- the environment's move before the call changes none of the fields a call is measured by -/
theorem CallCases.of_env {I : M → St → Bytes → Prop} {m : M} {s s' : St} {W : Bytes} {ev : Ev} {r : Option Errno × M} (a : Act)
    (h : CallCases I (m.env a) s s' W ev r) : CallCases I m s s' W ev r := by
  rcases h with ⟨m1, hc, c⟩ | ⟨e, m1, hc, c⟩
  · exact Or.inl ⟨m1, hc, c.inv, c.errs.trans (env_errs m a), by rw [c.tr, env_tr], c.cf.trans (env_cleanupFaulted m a),
      c.envIno.trans (env_envIno m a)⟩
  · exact Or.inr ⟨e, m1, hc, c.inv, by rw [c.errs, env_errs], c.tr.trans (env_tr m a), c.cf.trans (env_cleanupFaulted m a),
      c.envIno.trans (env_envIno m a)⟩

theorem J_call (fs0 : FS) (plan : Plan) (m : M) (s s' : St) (W : Bytes) (ev : Ev)
    (h : J fs0 m s W) (hs : s.step ev = some s') : CallCases (J fs0) m s s' W ev (call plan m ev) := by
  unfold call
  cases hp : plan m.n with
  | fail e => exact .failed _ ⟨J_congr _ _ _ _ _ h rfl rfl rfl rfl, rfl, rfl, rfl, rfl⟩
  | pass => exact J_exe fs0 m s s' W ev h hs
  | appear => exact .of_env .appear (J_exe fs0 (m.env .appear) s s' W ev (J_env fs0 m s W _ h) hs)

theorem A.run_append (cfg : Cfg) (raises : Bool) : ∀ (p q : List Obs) (a : A),
    a.run cfg raises (p ++ q) = (a.run cfg raises p).bind (fun a1 => a1.run cfg raises q)
  | [], q, a => rfl
  | o :: p, q, a => by
    simp only [List.cons_append, A.run]
    cases a.step cfg raises o with
    | none => rfl
    | some a1 => exact A.run_append cfg raises p q a1

theorem A.run_snoc {cfg : Cfg} {raises : Bool} {a0 a a' : A} {t : List Obs} {o : Obs}
    (h : a0.run cfg raises t = some a) (ho : a.step cfg raises o = some a') : a0.run cfg raises (t ++ [o]) = some a' := by
  rw [A.run_append, h]; simp [A.run, ho]

/-- `a` is a state of the acceptance automaton over `s` in which it may stand when the machine is `m`.  Its `failed` flag
    needs no bookkeeping of its own in the walk: it is only raised when a call has reported an error, and `errs` is
    tracked anyway -/
structure A.over (a : A) (m : M) (s : St) : Prop where
  st : a.s = s
  errs : a.failed = true → 0 < m.errs

/-- the acceptance automaton has read the machine's record and stands in a state over `s` -/
def Ran (cfg : Cfg) (raises : Bool) (m : M) (s : St) : Prop :=
  ∃ a : A, a.over m s ∧ A.init.run cfg raises m.obs = some a

section
variable {cfg : Cfg} {raises : Bool}

theorem A.over.mono {a : A} {m m' : M} {s : St} (h : a.over m s) (he : m.errs ≤ m'.errs) : a.over m' s :=
  ⟨h.st, fun hf => Nat.lt_of_lt_of_le (h.errs hf) he⟩

theorem Ran.congr {m m' : M} {s : St} (h : Ran cfg raises m s) (ho : m'.obs = m.obs) (he : m.errs ≤ m'.errs) :
    Ran cfg raises m' s := by
  obtain ⟨a, ha, hr⟩ := h
  exact ⟨a, ha.mono he, by rw [ho]; exact hr⟩

theorem Ran.snoc {m m' : M} {s s' : St} {o : Obs} (h : Ran cfg raises m s) (hobs : m'.obs = m.obs ++ [o])
    (hstep : ∀ a : A, a.over m s → ∃ a', a.step cfg raises o = some a' ∧ a'.over m' s') : Ran cfg raises m' s' := by
  obtain ⟨a, ha, hr⟩ := h
  obtain ⟨a', h1, h2⟩ := hstep a ha
  exact ⟨a', h2, by rw [hobs]; exact A.run_snoc hr h1⟩

/-- a failure observation raises `failed` only for a listed step, and then an error has been counted -/
theorem A.over.fail {a : A} {m m' : M} {s : St} {l i u : Bool} (ha : a.over m s) (hle : m.errs ≤ m'.errs) (he : l = true → 0 < m'.errs) :
    A.over { a with failed := a.failed || (l && !a.s.published), ufail := a.ufail || (i && u) } m' s := by
  refine ⟨ha.st, fun hf => ?_⟩
  simp only [Bool.or_eq_true, Bool.and_eq_true] at hf
  rcases hf with hf | hf
  · exact Nat.lt_of_lt_of_le (ha.errs hf) hle
  · exact he hf.1

theorem Ran.fail {m m' : M} {s : St} {l i u : Bool} (h : Ran cfg raises m s)
    (hobs : m'.obs = m.obs ++ [.fail l i u]) (he : l = true → 0 < m'.errs) (hle : m.errs ≤ m'.errs) : Ran cfg raises m' s :=
  h.snoc hobs fun _ ha => ⟨_, rfl, ha.fail hle he⟩

theorem Ran.failClosed {m m' : M} {s s' : St} {l : Bool} (h : Ran cfg raises m s)
    (hobs : m'.obs = m.obs ++ [.failClosed l]) (hs : s.step .close = some s') (he : 0 < m'.errs) : Ran cfg raises m' s' :=
  h.snoc hobs fun a ha => ⟨{ a with s := s', failed := a.failed || (l && !a.s.published) },
    by simp [A.step, ha.st, hs], rfl, fun _ => he⟩

/-- the guard the C05 automaton adds to C04's holds for `ev`, in whatever state over `s` it may be -/
def Allowed (cfg : Cfg) (raises : Bool) (m : M) (s : St) (ev : Ev) : Prop :=
  ∀ a : A, a.over m s → okAllowed cfg raises a ev = true

/-- the events the C05 automaton allows whenever C04's does: all but the publication and the unlink of the part file -/
def unguarded : Ev → Bool
  | .renamePartDest | .linkPartDest | .unlinkPart => false
  | _ => true

theorem Allowed.unguarded {m : M} {s : St} {ev : Ev} (h : unguarded ev = true) : Allowed cfg raises m s ev := by
  intro a _; cases ev <;> first | rfl | cases h

theorem Allowed.unlink {m : M} {s : St} (h : s.phase ≠ .init ∨ cfg.overwritePart = true) :
    Allowed cfg raises m s .unlinkPart := by
  intro a ha
  simp only [okAllowed, ha.st]
  split
  · rcases h with h | h
    · contradiction
    · exact h
  · rfl

theorem Allowed.publish {m : M} {s : St} {ev : Ev} (he : m.errs = 0) (hr : raises = false)
    (hev : ev = .linkPartDest ∨ (ev = .renamePartDest ∧ cfg.overwrite = true)) : Allowed cfg raises m s ev := by
  intro a ha
  have hf : a.failed = false := by
    cases hh : a.failed with
    | false => rfl
    | true => have := ha.errs hh; omega
  rcases hev with rfl | ⟨rfl, how⟩ <;> simp [okAllowed, *]

theorem Ran.ok {m m' : M} {s s' : St} {ev : Ev} (h : Ran cfg raises m s)
    (hobs : m'.obs = m.obs ++ [.ok ev]) (hs : s.step ev = some s') (he : m'.errs = m.errs)
    (hal : Allowed cfg raises m s ev) : Ran cfg raises m' s' :=
  h.snoc hobs fun a ha => ⟨{ a with s := s' }, by simp [A.step, hal a ha, ha.st, hs], rfl, by rw [he]; exact ha.errs⟩

theorem Ran.env {m : M} {s : St} (h : Ran cfg raises m s) (x : Act) : Ran cfg raises (m.env x) s := by
  unfold M.env
  split
  · exact h.snoc rfl fun a ha => ⟨_, rfl, ha.st, ha.errs⟩
  · exact h

theorem Ran.exe_cases {m : M} {s s' : St} {ev : Ev} (h : Ran cfg raises m s) (hs : s.step ev = some s')
    (hal : Allowed cfg raises m s ev) :
    ((exe m ev).1 = none → Ran cfg raises (exe m ev).2 s') ∧ ((exe m ev).1 ≠ none → Ran cfg raises (exe m ev).2 s) := by
  unfold exe
  split
  · exact ⟨fun hn => by simp at hn, fun _ => h.fail rfl (fun _ => Nat.succ_pos _) (Nat.le_succ _)⟩
  · exact ⟨fun _ => h.ok rfl hs rfl hal, fun hn => absurd rfl hn⟩

theorem Ran.call_cases {plan : Plan} {m : M} {s s' : St} {ev : Ev} (h : Ran cfg raises m s) (hs : s.step ev = some s')
    (hal : Allowed cfg raises m s ev) :
    ((call plan m ev).1 = none → Ran cfg raises (call plan m ev).2 s') ∧
    ((call plan m ev).1 ≠ none → Ran cfg raises (call plan m ev).2 s) := by
  unfold call
  cases plan m.n with
  | fail e => exact ⟨fun hn => by simp at hn, fun _ => h.fail rfl (fun _ => Nat.succ_pos _) (Nat.le_succ _)⟩
  | pass => exact Ran.exe_cases h hs hal
  | appear => exact Ran.exe_cases (Ran.env h .appear) hs fun a ha => hal a (ha.mono (Nat.le_of_eq (env_errs m .appear)))

/-- the invariant of the walk: `J`, with the acceptance automaton reading along; `W` is what the recorded events wrote -/
structure WalkInv (cfg : Cfg) (raises : Bool) (fs0 : FS) (m : M) (s : St) (W : Bytes) : Prop where
  j : J fs0 m s W
  ran : Ran cfg raises m s
  w : W = allWrites m.tr

theorem WalkInv.start (cfg : Cfg) (raises : Bool) (fs0 : FS) (e : Nat) : WalkInv cfg raises fs0 (M.start fs0 e) St.init [] :=
  ⟨J_start fs0 e, ⟨A.init, ⟨rfl, fun h => by cases h⟩, rfl⟩, rfl⟩

/-- a move that only adds to the record -/
theorem WalkInv.of_ran {fs0 : FS} {m m' : M} {s : St} {W : Bytes} (h : WalkInv cfg raises fs0 m s W)
    (h1 : m'.fs = m.fs) (h2 : m'.tr = m.tr) (h3 : m'.envIno = m.envIno) (h4 : m'.envDone = m.envDone)
    (hr : Ran cfg raises m' s) : WalkInv cfg raises fs0 m' s W :=
  ⟨J_congr _ _ _ _ _ h.j h1 h2 h3 h4, hr, by rw [h2]; exact h.w⟩

theorem WalkInv.congr {fs0 : FS} {m m' : M} {s : St} {W : Bytes} (h : WalkInv cfg raises fs0 m s W)
    (h1 : m'.fs = m.fs) (h2 : m'.tr = m.tr) (h3 : m'.envIno = m.envIno) (h4 : m'.envDone = m.envDone)
    (h5 : m'.obs = m.obs) (h6 : m.errs ≤ m'.errs) : WalkInv cfg raises fs0 m' s W :=
  h.of_ran h1 h2 h3 h4 (h.ran.congr h5 h6)

theorem WalkInv.env {fs0 : FS} {m : M} {s : St} {W : Bytes} (h : WalkInv cfg raises fs0 m s W) (x : Act) :
    WalkInv cfg raises fs0 (m.env x) s W :=
  ⟨J_env fs0 m s W x h.j, Ran.env h.ran x, by rw [env_tr]; exact h.w⟩

end

theorem WalkInv.call_cases {cfg : Cfg} {raises : Bool} {fs0 : FS} {m : M} {s s' : St} {W : Bytes} (h : WalkInv cfg raises fs0 m s W)
    (plan : Plan) (ev : Ev) (hs : s.step ev = some s') (hal : Allowed cfg raises m s ev) :
    CallCases (WalkInv cfg raises fs0) m s s' W ev (call plan m ev) := by
  have hr := Ran.call_cases (plan := plan) h.ran hs hal
  rcases J_call fs0 plan m s s' W ev h.j hs with ⟨m1, hc, c⟩ | ⟨e, m1, hc, c⟩
  · rw [hc] at hr
    exact Or.inl ⟨m1, hc, ⟨c.inv, hr.1 rfl, by rw [c.tr, allWrites_snoc, h.w]⟩, c.errs, c.tr, c.cf, c.envIno⟩
  · rw [hc] at hr
    exact Or.inr ⟨e, m1, hc, ⟨c.inv, hr.2 (by simp), by rw [c.tr]; exact h.w⟩, c.errs, c.tr, c.cf, c.envIno⟩

/-- what `close()` on the part file object, returning `r` from `m`, leaves: the object closed, the automaton in `s'` -/
structure ClosePost (cfg : Cfg) (raises : Bool) (fs0 : FS) (m : M) (r : Option Errno × M) (s' : St) (W : Bytes) : Prop where
  inv : WalkInv cfg raises fs0 r.2 s' W
  closed : r.2.fs.openf = none
  errs_ok : r.1 = none → r.2.errs = m.errs
  errs_err : r.1 ≠ none → r.2.errs = m.errs + 1
  cf : r.2.cleanupFaulted = m.cleanupFaulted
  ext : Ext m r.2

/-- `ClosePost` for a `close()` that is recorded as the event `close` -/
theorem ClosePost.of_close {cfg : Cfg} {raises : Bool} {fs0 : FS} {m : M} {r : Option Errno × M} {s' : St} {W : Bytes}
    (inv : WalkInv cfg raises fs0 r.2 s' W) (closed : r.2.fs.openf = none) (errs_ok : r.1 = none → r.2.errs = m.errs)
    (errs_err : r.1 ≠ none → r.2.errs = m.errs + 1) (cf : r.2.cleanupFaulted = m.cleanupFaulted)
    (tr : r.2.tr = m.tr ++ [Ev.close]) (envIno : r.2.envIno = m.envIno) : ClosePost cfg raises fs0 m r s' W :=
  ⟨inv, closed, errs_ok, errs_err, cf, Ext.of_errs [.close] tr (by simp [modeEv]) errs_ok errs_err envIno⟩

/-- `file.close()` on the open part file always closes it (even when it is made to fail) -/
theorem callClose_spec {cfg : Cfg} {raises : Bool} (fs0 : FS) (plan : Plan) (m : M) (s s' : St) (W : Bytes)
    (h : WalkInv cfg raises fs0 m s W) (hs : s.step .close = some s') (hopen : s.isOpen = true) :
    ClosePost cfg raises fs0 m (callClose plan m) s' W := by
  have hni : s.phase ≠ .init := fun h0 => by rw [h.j.inv.init_closed h0] at hopen; cases hopen
  -- a `close` that the plan lets through goes through
  have key : ∀ m0 : M, WalkInv cfg raises fs0 m0 s W → ∃ m1, exe m0 .close = (none, m1) ∧ CallOk (WalkInv cfg raises fs0) m0 s' W .close m1 ∧
      m1.fs.openf = none := by
    intro m0 h0
    obtain ⟨fs', hf⟩ := h0.j.progress hs hni (by simp)
    have hr : (exe m0 .close).1 = none := by simp [exe, hf]
    rcases J_exe fs0 m0 s s' W .close h0.j hs with ⟨m1, hc, c⟩ | ⟨e, m1, hc, -⟩
    · have hran := (Ran.exe_cases h0.ran hs (.unguarded rfl)).1 hr
      have ho : (exe m0 .close).2.fs.openf = none := by simp only [exe, hf]; exact step_close_openf _ _ hf
      rw [hc] at hran ho
      exact ⟨m1, hc, ⟨⟨c.inv, hran, by rw [c.tr, allWrites_snoc, h0.w]⟩, c.errs, c.tr, c.cf, c.envIno⟩, ho⟩
    · rw [hc] at hr; cases hr
  unfold callClose
  cases hp : plan m.n with
  | fail e =>
    obtain ⟨fs', hf⟩ := h.j.progress hs hni (by simp)
    obtain ⟨m1, hc, c, -⟩ := key m h
    simp only [hf]
    have hx : m1 = { m with fs := fs', n := m.n + 1, tr := m.tr ++ [Ev.close], obs := m.obs ++ [.ok .close] } := by
      simpa [exe, hf] using hc.symm
    have hj := (c.inv_nowrite rfl).j
    rw [hx] at hj
    exact .of_close (closed := step_close_openf _ _ hf) (errs_ok := by simp) (errs_err := by simp) (cf := rfl) (tr := rfl) (envIno := rfl)
      (inv := ⟨J_congr _ _ _ _ _ hj rfl rfl rfl rfl, h.ran.failClosed rfl hs (Nat.succ_pos _), by rw [allWrites_snoc]; simpa [evWrites] using h.w⟩)
  | pass =>
    obtain ⟨m1, hc, c, ho⟩ := key m h
    simp only [hc]
    exact .of_close (inv := c.inv_nowrite rfl) (closed := ho) (errs_ok := fun _ => c.errs) (errs_err := fun hn => absurd rfl hn)
      (cf := c.cf) (tr := c.tr) (envIno := c.envIno)
  | appear =>
    obtain ⟨m1, hc, c, ho⟩ := key (m.env .appear) (h.env _)
    simp only [hc]
    exact .of_close (inv := c.inv_nowrite rfl) (closed := ho) (errs_ok := fun _ => by rw [c.errs, env_errs])
      (errs_err := fun hn => absurd rfl hn) (cf := by rw [c.cf, env_cleanupFaulted]) (tr := by rw [c.tr, env_tr])
      (envIno := by rw [c.envIno, env_envIno])

/-- what `_rm_part_on_exc`, run from `m` in `s` with the part file under its name, leaves (`m'`, automaton in `s'`) -/
structure RmPost (cfg : Cfg) (raises : Bool) (fs0 : FS) (m : M) (s : St) (W : Bytes) (m' : M) (s' : St) : Prop where
  inv : WalkInv cfg raises fs0 m' s' W
  published : s'.published = s.published
  notinit : s'.phase ≠ .init
  /-- the name is free afterwards, unless the plan made the unlink fail -/
  removed : cfg.rmPartOnExc = true → m'.cleanupFaulted = false → m'.fs.dir.part = none
  ext : Ext m m'

theorem rmPart_spec (cfg : Cfg) {raises : Bool} (fs0 : FS) (plan : Plan) (m : M) (s : St) (W : Bytes)
    (h : WalkInv cfg raises fs0 m s W) (hph : s.phase = .part ∨ s.phase = .linked) :
    ∃ s', RmPost cfg raises fs0 m s W (rmPart cfg plan m) s' := by
  have hni : s.phase ≠ .init := by rcases hph with hph | hph <;> simp [hph]
  unfold rmPart
  cases hrm : cfg.rmPartOnExc with
  | false =>
    simp only [Bool.false_eq_true, if_false]
    exact ⟨s, h, rfl, hni, fun hh => (by rw [hrm] at hh; cases hh), Ext.refl m⟩
  | true =>
    simp only [if_true]
    obtain ⟨s', hs', hpub, hfin⟩ : ∃ s', s.step .unlinkPart = some s' ∧ s'.published = s.published ∧
        (s'.phase = .aborted ∨ s'.phase = .done) := by
      obtain ⟨ph, op, db, us⟩ := s
      rcases hph with hph | hph <;> simp at hph <;> subst hph
      · exact ⟨_, rfl, by simp [St.published]; decide, Or.inl rfl⟩
      · exact ⟨_, rfl, by simp [St.published], Or.inr rfl⟩
    rcases h.call_cases plan .unlinkPart hs' (.unlink (Or.inl hni)) with ⟨m1, hc, c⟩ | ⟨e, m1, hc, c⟩
    · have hk := c.inv_nowrite rfl
      simp only [hc]
      refine ⟨s', hk.congr rfl rfl rfl rfl rfl (Nat.le_refl _), hpub, ?_, ?_, (c.ext rfl).trans (Ext.same _ _ rfl (Nat.le_refl _) rfl)⟩
      · rcases hfin with hf | hf <;> simp [hf]
      · intro _ _; exact GInv.part_none hk.j.inv hfin
    · -- the part file is there: the unlink fails only when the plan makes it fail
      cases hp : plan m.n with
      | fail x' =>
        simp only [hc]
        exact ⟨s, c.inv.congr rfl rfl rfl rfl rfl (Nat.le_refl _), rfl, hni, fun _ hcf => (by simp at hcf), c.ext.trans (Ext.same _ _ rfl (Nat.le_refl _) rfl)⟩
      | pass =>
        obtain ⟨fs', hf⟩ := h.j.progress hs' hni (by simp)
        simp [call, hp, exe, hf] at hc
      | appear =>
        obtain ⟨fs', hf⟩ := (J_env fs0 m s W .appear h.j).progress hs' hni (by simp)
        simp [call, hp, exe, hf] at hc

theorem Ran.statObs {cfg : Cfg} {raises : Bool} {m m' : M} {s : St} (h : Ran cfg raises m s) (b : Bool)
    (hobs : m'.obs = m.obs ++ [if b then Obs.ok Ev.noop else Obs.fail false false false]) (he : m'.errs = m.errs) :
    Ran cfg raises m' s := by
  cases b with
  | true => exact h.ok (by simpa using hobs) rfl he (.unguarded rfl)
  | false => exact h.fail (by simpa using hobs) (fun hh => by cases hh) (Nat.le_of_eq he.symm)

/-- what `os.stat(dest)`, returning `r` from `m`, leaves.  `value`: without interference and without an injected ENOENT
    the answer is the truth -/
structure StatPost (cfg : Cfg) (raises : Bool) (fs0 : FS) (plan : Plan) (m : M) (s : St) (W : Bytes)
    (r : Except Errno (Option Nat) × M) : Prop where
  inv : WalkInv cfg raises fs0 r.2 s W
  tr : r.2.tr = m.tr
  envIno : r.2.envIno = m.envIno
  errs_ok : ∀ v, r.1 = .ok v → r.2.errs = m.errs
  errs_err : ∀ e, r.1 = .error e → r.2.errs = m.errs + 1
  value : NoEnv plan → NoENOENT plan → ∀ v, r.1 = .ok v → v = m.fs.destMode

theorem callStat_spec {cfg : Cfg} {raises : Bool} (fs0 : FS) (plan : Plan) (m : M) (s : St) (W : Bytes) (h : WalkInv cfg raises fs0 m s W) :
    StatPost cfg raises fs0 plan m s W (callStat plan m) := by
  unfold callStat
  cases hp : plan m.n with
  | fail e =>
    by_cases he : e = ENOENT
    · simp only [he, if_true]
      refine ⟨h.of_ran rfl rfl rfl rfl (h.ran.fail rfl (fun hh => by cases hh) (Nat.le_refl _)),
        rfl, rfl, by simp, by simp, ?_⟩
      intro _ h2; exact absurd (he ▸ hp) (h2 m.n)
    · simp only [he, if_false]
      exact ⟨h.of_ran rfl rfl rfl rfl (h.ran.fail rfl (fun hh => by cases hh) (Nat.le_succ _)),
        rfl, rfl, by simp, by simp, by simp⟩
  | pass =>
    exact ⟨h.of_ran rfl rfl rfl rfl (h.ran.statObs _ rfl rfl), rfl, rfl, by simp, by simp, by simp⟩
  | appear =>
    refine ⟨(h.env .appear).of_ran rfl rfl rfl rfl ((Ran.env h.ran .appear).statObs _ rfl rfl),
      env_tr m _, env_envIno m _, by simp [env_errs], by simp, ?_⟩
    intro h1; exact absurd hp (h1 m.n)

theorem envDone_frame (plan : Plan) (hp : NoEnv plan) (b : Bool) : Frame (fun m => m.envDone = b) plan :=
  frame_of_effect (Q := fun _ _ d => d = b) hp fun _ _ _ _ _ _ h => h

theorem noEnv_of_pass (plan : Plan) (hp : ∀ k, plan k = .pass) : NoEnv plan := by
  intro k h; rw [hp k] at h; cases h

def X (fs0 : FS) (m : M) : Prop := exec fs0 m.tr = some m.fs

theorem exe_X (fs0 : FS) (m : M) (ev : Ev) (h : X fs0 m) : X fs0 (exe m ev).2 := by
  unfold exe
  split
  · exact h
  · rename_i fs' hf; exact exec_snoc hf h

theorem X_frame (fs0 : FS) (plan : Plan) (hp : NoEnv plan) : Frame (X fs0) plan :=
  frame_of_effect (Q := fun fs tr _ => exec fs0 tr = some fs) hp fun _ _ _ _ _ hf h => exec_snoc hf h

end C05
