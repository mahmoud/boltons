import BoltonsVerif.C05.Proofs
/-
C05 — the walk: once through `setup`, the with-block and `__exit__`, carrying `WalkInv`.  The block may flush and close the
file object itself: while the object is open `fcall` / `fclose` are `call` / `callClose`; once it is closed every call on
it but `close()` is refused without touching the file system, and a refused `flush()` sends `__exit__` into the cleanup
branch.  `runScript_walk` is the walk as a whole: everything the property theorems need to know about a save (`Res`), and
that the acceptance automaton reads what the save has recorded of its own calls to the end.
-/
namespace C05
open C04

/-- the common postcondition of `publish` and `__exit__` (`finishG`) -/
structure ExitPost (cfg : Cfg) (fs0 : FS) (m : M) (W : Bytes) (r : Outcome × M) (s' : St) : Prop where
  j : J fs0 r.2 s' W
  notinit : s'.phase ≠ .init
  ok : r.1 = .ok → s'.phase = .done ∧ r.2.errs = m.errs ∧ r.2.cleanupFaulted = m.cleanupFaulted
  failed : r.1 ≠ .ok → cfg.rmPartOnExc = true → r.2.cleanupFaulted = false → r.2.fs.dir.part = none
  link : s'.published = true → cfg.overwrite = false → Ev.linkPartDest ∈ r.2.tr
  ext : Ext m r.2

theorem cleanup_spec (cfg : Cfg) {raises : Bool} (fs0 : FS) (plan : Plan) (m m3 : M) (s : St) (W : Bytes) (o : Outcome)
    (hj : WalkInv cfg raises fs0 m3 s W) (hph : s.phase = .part) (x0 : Ext m m3) (ho : o ≠ .ok) :
    ∃ s', ExitPost cfg fs0 m W (o, rmPart cfg plan m3) s' ∧ WalkInv cfg raises fs0 (rmPart cfg plan m3) s' W ∧ s'.published = false := by
  obtain ⟨s', q⟩ := rmPart_spec cfg fs0 plan m3 s W hj (Or.inl hph)
  have hunp : s'.published = false := by rw [q.published]; simp [St.published, hph]
  exact ⟨s',
    { j := q.inv.j, notinit := q.notinit, ok := fun hok => absurd hok ho, failed := fun _ => q.removed,
      link := fun hp => (by rw [hunp] at hp; cases hp), ext := x0.trans q.ext }, q.inv, hunp⟩

/-- `atomic_rename` is only reached when no call has reported an error and the block has not raised: what the
    acceptance automaton demands of a publication -/
theorem publish_spec (cfg : Cfg) {raises : Bool} (fs0 : FS) (plan : Plan) (m : M) (W : Bytes)
    (h : WalkInv cfg raises fs0 m ⟨.part, false, false, false⟩ W) (he0 : m.errs = 0) (hr : raises = false) :
    ∃ s', ExitPost cfg fs0 m W (publish cfg plan m) s' ∧ WalkInv cfg raises fs0 (publish cfg plan m).2 s' W ∧
      (s'.published = true → (publish cfg plan m).1 = .ok ∨ cfg.overwrite = false) := by
  unfold publish
  cases how : cfg.overwrite with
  | true =>
    simp only [if_true]
    have hs1 : (St.mk .part false false false).step .renamePartDest = some ⟨.done, false, false, false⟩ := by simp [St.step]
    rcases h.call_cases plan .renamePartDest hs1 (.publish he0 hr (Or.inr ⟨rfl, how⟩)) with ⟨m1, hc1, c1⟩ | ⟨e, m1, hc1, c1⟩
    · have k1 := c1.inv_nowrite rfl
      simp only [hc1]
      exact ⟨_,
        { j := k1.j, notinit := by simp, ok := fun _ => ⟨rfl, c1.errs, c1.cf⟩, failed := fun hn => by simp at hn,
          link := fun _ hf => by rw [how] at hf; simp at hf, ext := c1.ext rfl }, k1, fun _ => Or.inl trivial⟩
    · simp only [hc1]
      obtain ⟨s', hp, hk, hunp⟩ := cleanup_spec cfg fs0 plan m m1 _ W (.osErr e) c1.inv rfl c1.ext (by simp)
      exact ⟨s', hp, hk, fun h => (by rw [hunp] at h; cases h)⟩
  | false =>
    simp only [Bool.false_eq_true, if_false]
    have hs1 : (St.mk .part false false false).step .linkPartDest = some ⟨.linked, false, false, false⟩ := by simp [St.step]
    rcases h.call_cases plan .linkPartDest hs1 (.publish he0 hr (Or.inl rfl)) with ⟨m1, hc1, c1⟩ | ⟨e, m1, hc1, c1⟩
    · have k1 := c1.inv_nowrite rfl
      simp only [hc1]
      have hs2 : (St.mk .linked false false false).step .unlinkPart = some ⟨.done, false, false, false⟩ := by simp [St.step]
      rcases k1.call_cases plan .unlinkPart hs2 (.unlink (Or.inl (by simp))) with ⟨m2, hc2, c2⟩ | ⟨e, m2, hc2, c2⟩
      · have k2 := c2.inv_nowrite rfl
        simp only [hc2]
        exact ⟨_,
          { j := k2.j, notinit := by simp, ok := fun _ => ⟨rfl, by rw [c2.errs, c1.errs], by rw [c2.cf, c1.cf]⟩,
            failed := fun hn => by simp at hn, link := fun _ _ => by simp [c2.tr, c1.tr],
            ext := (c1.ext rfl).trans (c2.ext rfl) },
          k2, fun _ => Or.inr trivial⟩
      · simp only [hc2]
        obtain ⟨s', q⟩ := rmPart_spec cfg fs0 plan m2 _ W c2.inv (Or.inr rfl)
        exact ⟨s',
          { j := q.inv.j, notinit := q.notinit, ok := fun hn => by simp at hn, failed := fun _ => q.removed,
            link := fun _ _ => q.ext.mem (by simp [c2.tr, c1.tr]), ext := (c1.ext rfl).trans (c2.ext.trans q.ext) },
          q.inv, fun _ => Or.inr trivial⟩
    · simp only [hc1]
      obtain ⟨s', hp, hk, hunp⟩ := cleanup_spec cfg fs0 plan m m1 _ W (.osErr e) c1.inv rfl c1.ext (by simp)
      exact ⟨s', hp, hk, fun h => (by rw [hunp] at h; cases h)⟩

/-- postcondition of a failed step of `setup()` started in `m`, the automaton ending in `s'`: nothing published; either no
    part file was ever created (still `init`) or the cleanup ran -/
structure SetupFail (cfg : Cfg) (raises : Bool) (fs0 : FS) (m m' : M) (s' : St) : Prop where
  inv : WalkInv cfg raises fs0 m' s' []
  unpublished : s'.published = false
  left : (s'.phase = .init ∧ m'.tr = m.tr) ∨
         (s'.phase ≠ .init ∧ (cfg.rmPartOnExc = true → m'.cleanupFaulted = false → m'.fs.dir.part = none))
  errs : m.errs < m'.errs
  envIno : m'.envIno = m.envIno

/-- `_open_part_file` went through from `m`, with the bits `p` passed to `os.open` and (`c`) an `os.chmod` after it -/
structure PartOpened (cfg : Cfg) (raises : Bool) (fs0 : FS) (m m' : M) (p : Nat) (c : Bool) : Prop where
  inv : WalkInv cfg raises fs0 m' ⟨.part, true, false, false⟩ []
  errs : m'.errs = m.errs
  envIno : m'.envIno = m.envIno
  tr : m'.tr = m.tr ++ ([Ev.openPart true true p, Ev.noop] ++ if c then [Ev.chmodPart p] else [])

section
variable {cfg : Cfg} {raises : Bool} {fs0 : FS} {m0 m m' : M} {s' : St}

/-- both postconditions seen from `m0`, which a call without event or error (`os.stat`) has taken to `m` -/
theorem PartOpened.rebase {p : Nat} {c : Bool} (h : PartOpened cfg raises fs0 m m' p c)
    (ht : m.tr = m0.tr) (he : m.errs = m0.errs) (hi : m.envIno = m0.envIno) : PartOpened cfg raises fs0 m0 m' p c :=
  ⟨h.inv, h.errs.trans he, h.envIno.trans hi, by rw [h.tr, ht]⟩

theorem SetupFail.rebase (h : SetupFail cfg raises fs0 m m' s')
    (ht : m.tr = m0.tr) (he : m.errs = m0.errs) (hi : m.envIno = m0.envIno) : SetupFail cfg raises fs0 m0 m' s' :=
  { h with left := h.left.imp (fun q => ⟨q.1, q.2.trans ht⟩) id, errs := he ▸ h.errs, envIno := h.envIno.trans hi }

/-- the call that would have created the part file, or one before it, failed: still `init`, nothing recorded since `m` -/
theorem SetupFail.of_init (k : WalkInv cfg raises fs0 m' St.init []) (ht : m'.tr = m.tr) (he : m'.errs = m.errs + 1)
    (hi : m'.envIno = m.envIno) : SetupFail cfg raises fs0 m m' St.init :=
  ⟨k, by decide, Or.inl ⟨rfl, ht⟩, he ▸ Nat.lt_succ_self _, hi⟩

end

theorem openPartFile_spec (cfg : Cfg) {raises : Bool} (fs0 : FS) (plan : Plan) (m : M) (perms : Nat) (doChmod : Bool)
    (h : WalkInv cfg raises fs0 m St.init []) :
    ((openPartFile cfg plan m perms doChmod).1 = none →
      PartOpened cfg raises fs0 m (openPartFile cfg plan m perms doChmod).2 perms doChmod) ∧
    ((openPartFile cfg plan m perms doChmod).1 ≠ none →
      ∃ s', SetupFail cfg raises fs0 m (openPartFile cfg plan m perms doChmod).2 s') := by
  unfold openPartFile
  have hs1 : St.init.step (.openPart true true perms) = some ⟨.part, true, false, false⟩ := by simp [St.step, St.init]
  rcases h.call_cases plan (.openPart true true perms) hs1 (.unguarded rfl) with ⟨m1, hc1, c1⟩ | ⟨e, m1, hc1, c1⟩
  · have k1 := c1.inv_nowrite rfl
    simp only [hc1]
    -- fdopen
    have hs2 : (St.mk .part true false false).step .noop = some ⟨.part, true, false, false⟩ := by simp [St.step]
    rcases k1.call_cases plan .noop hs2 (.unguarded rfl) with ⟨m2, hc2, c2⟩ | ⟨e, m2, hc2, c2⟩
    · have k2 := c2.inv_nowrite rfl
      simp only [hc2]
      cases doChmod with
      | false =>
        simp only [Bool.false_eq_true, if_false]
        exact ⟨fun _ => ⟨k2, by rw [c2.errs, c1.errs], by rw [c2.envIno, c1.envIno], by simp [c2.tr, c1.tr]⟩, fun hn => by simp at hn⟩
      | true =>
        simp only [if_true]
        have hs3 : (St.mk .part true false false).step (.chmodPart perms) = some ⟨.part, true, false, false⟩ := by simp [St.step]
        rcases k2.call_cases plan (.chmodPart perms) hs3 (.unguarded rfl) with ⟨m3, hc3, c3⟩ | ⟨e, m3, hc3, c3⟩
        · simp only [hc3]
          exact ⟨fun _ => ⟨c3.inv_nowrite rfl, by rw [c3.errs, c2.errs, c1.errs], by rw [c3.envIno, c2.envIno, c1.envIno],
            by simp [c3.tr, c2.tr, c1.tr]⟩, fun hn => by simp at hn⟩
        · simp only [hc3]
          -- except: part_file.close(); finally: _rm_part_on_exc(); raise
          have hs4 : (St.mk .part true false false).step .close = some ⟨.part, false, false, false⟩ := by simp [St.step]
          have p4 := callClose_spec fs0 plan m3 _ _ [] c3.inv hs4 rfl
          obtain ⟨s', q⟩ := rmPart_spec cfg fs0 plan (callClose plan m3).2 _ [] p4.inv (Or.inl rfl)
          refine ⟨fun hn => by simp at hn, fun _ => ⟨s', q.inv, by rw [q.published]; simp [St.published], Or.inr ⟨q.notinit, q.removed⟩, ?_,
            by rw [q.ext.envIno, p4.ext.envIno, c3.envIno, c2.envIno, c1.envIno]⟩⟩
          have := p4.ext.errs
          have := q.ext.errs
          have := c3.errs; have := c2.errs; have := c1.errs
          omega
    · simp only [hc2]
      -- except: os.close(fd); finally: _rm_part_on_exc(); raise
      have hs3 : (St.mk .part true false false).step .closeFd = some ⟨.part, false, false, false⟩ := by simp [St.step]
      obtain ⟨s3, r3, m3, hc3, k3, hp3, he3, ei3⟩ : ∃ (s3 : St) (r3 : Option Errno) (m3 : M), call plan m2 .closeFd = (r3, m3) ∧ WalkInv cfg raises fs0 m3 s3 [] ∧
          s3.phase = .part ∧ m2.errs ≤ m3.errs ∧ m3.envIno = m2.envIno := by
        rcases c2.inv.call_cases plan .closeFd hs3 (.unguarded rfl) with ⟨m3, hc3, c3⟩ | ⟨e3, m3, hc3, c3⟩
        · exact ⟨_, _, m3, hc3, c3.inv_nowrite rfl, rfl, Nat.le_of_eq c3.errs.symm, c3.envIno⟩
        · exact ⟨_, _, m3, hc3, c3.inv, rfl, c3.ext.errs, c3.envIno⟩
      simp only [hc3]
      obtain ⟨s', q⟩ := rmPart_spec cfg fs0 plan m3 s3 [] k3 (Or.inl hp3)
      refine ⟨fun hn => by simp at hn, fun _ => ⟨s', q.inv, ?_, Or.inr ⟨q.notinit, q.removed⟩, ?_, by rw [q.ext.envIno, ei3, c2.envIno, c1.envIno]⟩⟩
      · rw [q.published]; obtain ⟨ph, _, _, _⟩ := s3; simp at hp3; subst hp3; simp [St.published]
      · have := q.ext.errs; have := c2.errs; have := c1.errs; omega
  · simp only [hc1]
    exact ⟨fun hn => by simp at hn, fun _ => ⟨_, .of_init c1.inv c1.tr c1.errs c1.envIno⟩⟩

/-- `(p, c)`: the bits passed to `os.open`, and whether `os.chmod` follows -/
theorem openPartFileM_spec (cfg : Cfg) {raises : Bool} (fs0 : FS) (plan : Plan) (m : M) (h : WalkInv cfg raises fs0 m St.init []) :
    ((openPartFileM cfg plan m).1 = none → ∃ p c, PartOpened cfg raises fs0 m (openPartFileM cfg plan m).2 p c ∧
      (NoEnv plan → NoENOENT plan → (p, c) = choosePerms cfg m.fs)) ∧
    ((openPartFileM cfg plan m).1 ≠ none → ∃ s', SetupFail cfg raises fs0 m (openPartFileM cfg plan m).2 s') := by
  unfold openPartFileM
  cases hperm : cfg.perms with
  | some p =>
    dsimp only
    obtain ⟨o1, o2⟩ := openPartFile_spec cfg fs0 plan m p true h
    exact ⟨fun hn => ⟨p, true, o1 hn, fun _ _ => by simp [choosePerms, hperm]⟩, o2⟩
  | none =>
    dsimp only
    have st := callStat_spec fs0 plan m St.init [] h
    -- `_open_part_file` after an `os.stat` that answered `v`: `(p, c)` is what `choosePerms` makes of a true answer
    have after : ∀ (v : Option Nat) (m2 : M) (p : Nat) (c : Bool), StatPost cfg raises fs0 plan m St.init [] (.ok v, m2) →
        (v = m.fs.destMode → (p, c) = choosePerms cfg m.fs) →
        ((openPartFile cfg plan m2 p c).1 = none → ∃ p' c', PartOpened cfg raises fs0 m (openPartFile cfg plan m2 p c).2 p' c' ∧
          (NoEnv plan → NoENOENT plan → (p', c') = choosePerms cfg m.fs)) ∧
        ((openPartFile cfg plan m2 p c).1 ≠ none → ∃ s', SetupFail cfg raises fs0 m (openPartFile cfg plan m2 p c).2 s') := by
      intro v m2 p c st hv
      obtain ⟨o1, o2⟩ := openPartFile_spec cfg fs0 plan m2 p c st.inv
      exact ⟨fun hn => ⟨p, c, (o1 hn).rebase st.tr (st.errs_ok _ rfl) st.envIno, fun hp1 hp2 => hv (st.value hp1 hp2 _ rfl)⟩,
        fun hn => (o2 hn).imp fun _ f => f.rebase st.tr (st.errs_ok _ rfl) st.envIno⟩
    rcases hstat : callStat plan m with ⟨err | _ | mode, m2⟩ <;> rw [hstat] at st <;> dsimp only
    · exact ⟨fun hn => by simp at hn, fun _ => ⟨_, .of_init st.inv st.tr (st.errs_err err rfl) st.envIno⟩⟩
    · exact after none m2 RW_PERMS false st fun hv => by simp [choosePerms, hperm, ← hv]
    · exact after (some mode) m2 mode true st fun hv => by simp [choosePerms, hperm, ← hv]

structure SetupOk (cfg : Cfg) (raises : Bool) (fs0 : FS) (e : Nat) (plan : Plan) (m' : M) : Prop where
  inv : WalkInv cfg raises fs0 m' ⟨.part, true, false, false⟩ []
  errs : m'.errs = 0
  envIno : m'.envIno = e
  tr : ∃ p c, m'.tr = (if cfg.overwritePart && fs0.dir.part.isSome then [Ev.unlinkPart] else []) ++
          ([Ev.openPart true true p, Ev.noop] ++ if c then [Ev.chmodPart p] else []) ∧
        (NoEnv plan → NoENOENT plan → (p, c) = choosePerms cfg fs0)
  norefuse : fs0.dir.dest = none ∨ cfg.overwrite = true

/-- `SetupFail` for `setup()` as a whole, started in `M.start fs0 e` -/
structure SetupFailStart (cfg : Cfg) (raises : Bool) (fs0 : FS) (e : Nat) (m' : M) (s' : St) : Prop where
  inv : WalkInv cfg raises fs0 m' s' []
  unpublished : s'.published = false
  left : (s'.phase = .init ∧ (Ev.unlinkPart ∈ m'.tr → cfg.overwritePart = true)) ∨
         (s'.phase ≠ .init ∧ (cfg.rmPartOnExc = true → m'.cleanupFaulted = false → m'.fs.dir.part = none))
  errs : 0 < m'.errs
  envIno : m'.envIno = e

theorem setup_spec (cfg : Cfg) (raises : Bool) (fs0 : FS) (e : Nat) (plan : Plan) :
    ((setup cfg plan (M.start fs0 e)).1 = none → SetupOk cfg raises fs0 e plan (setup cfg plan (M.start fs0 e)).2) ∧
    ((setup cfg plan (M.start fs0 e)).1 ≠ none →
      ∃ s', SetupFailStart cfg raises fs0 e (setup cfg plan (M.start fs0 e)).2 s') := by
  have h0 := WalkInv.start cfg raises fs0 e
  rw [setup_eq_openPartFileM]
  by_cases hrefuse : ((M.start fs0 e).fs.dir.dest.isSome && !cfg.overwrite) = true
  · simp only [hrefuse, if_true]
    exact ⟨fun hn => by simp at hn, fun _ => ⟨St.init, h0.congr rfl rfl rfl rfl rfl (Nat.le_succ _), by decide, Or.inl ⟨rfl, by simp [M.start]⟩, by simp, rfl⟩⟩
  · simp only [hrefuse, Bool.false_eq_true, if_false]
    have hnr : fs0.dir.dest = none ∨ cfg.overwrite = true := by
      cases hd : fs0.dir.dest with
      | none => exact Or.inl rfl
      | some i =>
        cases ho : cfg.overwrite with
        | true => exact Or.inr rfl
        | false => exact absurd (by simp [M.start, hd, ho]) hrefuse
    -- the optional removal of a stale part file
    obtain ⟨r1, m1, hst1, k1, ei1, hok1, hbad1⟩ : ∃ (r1 : Option Errno) (m1 : M),
        (if cfg.overwritePart && (M.start fs0 e).fs.dir.part.isSome then call plan (M.start fs0 e) .unlinkPart
          else (none, M.start fs0 e)) = (r1, m1) ∧
        WalkInv cfg raises fs0 m1 St.init [] ∧ m1.envIno = e ∧
        (r1 = none → m1.errs = 0 ∧ m1.tr = (if cfg.overwritePart && fs0.dir.part.isSome then [Ev.unlinkPart] else []) ∧
          (NoEnv plan → m1.envDone = false)) ∧
        (r1 ≠ none → m1.errs = 1 ∧ m1.tr = []) := by
      by_cases hc : (cfg.overwritePart && (M.start fs0 e).fs.dir.part.isSome) = true
      · simp only [hc, if_true]
        have hc' : (cfg.overwritePart && fs0.dir.part.isSome) = true := hc
        have hop : cfg.overwritePart = true := by simp only [Bool.and_eq_true] at hc'; exact hc'.1
        have hs1 : St.init.step .unlinkPart = some St.init := by simp [St.step, St.init]
        have hed := fun hp : NoEnv plan => (envDone_frame plan hp false).call (M.start fs0 e) .unlinkPart rfl
        rcases h0.call_cases plan .unlinkPart hs1 (.unlink (Or.inr hop)) with ⟨m1, hc1, c1⟩ | ⟨err, m1, hc1, c1⟩
        · rw [hc1] at hed
          exact ⟨none, m1, hc1, c1.inv_nowrite rfl, c1.envIno, fun _ => ⟨c1.errs, by simpa [hc', M.start] using c1.tr, hed⟩,
            fun hn => absurd rfl hn⟩
        · exact ⟨some err, m1, hc1, c1.inv, c1.envIno, fun hn => (by cases hn), fun _ => ⟨c1.errs, c1.tr⟩⟩
      · simp only [hc]
        have hc' : ¬ (cfg.overwritePart && fs0.dir.part.isSome) = true := hc
        exact ⟨none, M.start fs0 e, rfl, h0, rfl, fun _ => ⟨rfl, by simp [hc', M.start], fun _ => rfl⟩, fun hn => by simp at hn⟩
    rw [hst1]
    cases r1 with
    | some err =>
      dsimp only
      obtain ⟨b1, b2⟩ := hbad1 (by simp)
      exact ⟨fun hn => by simp at hn, fun _ => ⟨St.init, k1, by decide, Or.inl ⟨rfl, by simp [b2]⟩, by simp [b1], ei1⟩⟩
    | none =>
      dsimp only
      obtain ⟨a1, a2, a3⟩ := hok1 rfl
      obtain ⟨o1, o2⟩ := openPartFileM_spec cfg fs0 plan m1 k1
      refine ⟨fun hn => ?_, fun hn => ?_⟩
      · obtain ⟨p, c, po, hpc⟩ := o1 hn
        refine ⟨po.inv, by rw [po.errs, a1], by rw [po.envIno, ei1], ⟨p, c, by rw [po.tr, a2], fun hp1 hp2 => ?_⟩, hnr⟩
        -- without interference `os.stat` still sees the destination of the start
        have hd := k1.j.dest (by decide)
        simp only [a3 hp1] at hd
        have hdm : m1.fs.destMode = fs0.destMode := by simp [FS.destMode, FS.inode?, hd, (ginv_inodes k1.j.inv).1 rfl]
        rw [hpc hp1 hp2]; simp [choosePerms, hdm]
      · obtain ⟨s', f⟩ := o2 hn
        refine ⟨s', f.inv, f.unpublished, f.left.imp (fun ⟨h0, ht⟩ => ⟨h0, ?_⟩) id, by have := f.errs; omega, by rw [f.envIno, ei1]⟩
        -- nothing recorded since the optional removal of a stale part file, which takes `overwrite_part`
        rw [ht, a2]
        intro hm
        cases hop : cfg.overwritePart
        · simp [hop] at hm
        · rfl

def setupMode (um p : Nat) (c : Bool) : Nat := if c then p else umaskOf um p

theorem foldl_modeAfter_setup (um : Nat) (pre : List Ev) (p : Nat) (c : Bool) (hpre : ∀ ev ∈ pre, modeEv ev = false) :
    (pre ++ ([Ev.openPart true true p, Ev.noop] ++ if c then [Ev.chmodPart p] else [])).foldl (modeAfter um) none
      = some (setupMode um p c) := by
  rw [List.foldl_append, foldl_nomode um pre none hpre]
  cases c <;> simp [modeAfter, setupMode]

theorem setupMode_choose (cfg : Cfg) (fs0 : FS) :
    setupMode fs0.umask (choosePerms cfg fs0).1 (choosePerms cfg fs0).2 = expectedMode cfg fs0.destMode fs0.umask := by
  obtain ⟨ow, owp, rm, txt, perms⟩ := cfg
  unfold choosePerms expectedMode setupMode
  generalize fs0.destMode = dm
  cases perms with
  | some p => simp
  | none => cases dm <;> simp

/-- everything the property theorems need to know about the result of a save -/
structure Res (cfg : Cfg) (fs0 : FS) (e : Nat) (raises : Bool) (content : Bytes) (plan : Plan) (out : Outcome) (m : M) (s : St) (W : Bytes) : Prop where
  j : J fs0 m s W
  envIno : m.envIno = e
  ok : out = .ok → s.phase = .done ∧ m.errs = 0 ∧ raises = false
  pub : s.published = true → raises = false ∧ W = content ∧ (out = .ok ∨ cfg.overwrite = false) ∧
          (cfg.overwrite = false → Ev.linkPartDest ∈ m.tr) ∧
          ∃ p c, m.tr.foldl (modeAfter fs0.umask) none = some (setupMode fs0.umask p c) ∧
            ((∀ k, plan k ≠ .appear) → (∀ k, plan k ≠ .fail ENOENT) → (p, c) = choosePerms cfg fs0)
  failed : out ≠ .ok →
    (s.phase = .init ∧ (Ev.unlinkPart ∈ m.tr → cfg.overwritePart = true)) ∨
    (s.phase ≠ .init ∧ (cfg.rmPartOnExc = true → m.cleanupFaulted = false → m.fs.dir.part = none))
  refused : fs0.dir.dest ≠ none → cfg.overwrite = false → out = .osErr EEXIST ∧ m.fs = fs0 ∧ m.tr = []

section
variable {cfg : Cfg} {fs0 : FS} {e : Nat} {raises : Bool} {content : Bytes} {plan : Plan} {out : Outcome} {m : M} {s : St} {W : Bytes}

/-- `Res.pub` one conclusion at a time, for a machine state that says it is published -/
theorem Res.pub_unraised (r : Res cfg fs0 e raises content plan out m s W) (hp : m.published = true) : raises = false :=
  (r.pub (r.j.published.trans hp)).1

theorem Res.pub_written (r : Res cfg fs0 e raises content plan out m s W) (hp : m.published = true) : W = content :=
  (r.pub (r.j.published.trans hp)).2.1

theorem Res.pub_ok_or_noclobber (r : Res cfg fs0 e raises content plan out m s W) (hp : m.published = true) :
    out = .ok ∨ cfg.overwrite = false :=
  (r.pub (r.j.published.trans hp)).2.2.1

theorem Res.pub_link (r : Res cfg fs0 e raises content plan out m s W) (hp : m.published = true) (how : cfg.overwrite = false) :
    Ev.linkPartDest ∈ m.tr :=
  (r.pub (r.j.published.trans hp)).2.2.2.1 how

theorem Res.pub_read (r : Res cfg fs0 e raises content plan out m s W) (hp : m.published = true) : m.fs.readDest = some content :=
  r.pub_written hp ▸ (ginv_published_read r.j.inv (r.j.published.trans hp)).1

/-- without interference the bits `setup()` chose are `choosePerms` of the start, so the mode is the expected one -/
theorem Res.pub_mode (r : Res cfg fs0 e raises content plan out m s W) (hp : m.published = true) (hne : NoEnv plan) (hnn : NoENOENT plan) :
    m.tr.foldl (modeAfter fs0.umask) none = some (expectedMode cfg fs0.destMode fs0.umask) := by
  obtain ⟨p, c, hm, hpc⟩ := (r.pub (r.j.published.trans hp)).2.2.2.2
  have hpc := hpc hne hnn
  rw [hm, show p = (choosePerms cfg fs0).1 by rw [← hpc], show c = (choosePerms cfg fs0).2 by rw [← hpc], setupMode_choose]

end

theorem open_of_J (fs0 : FS) (m : M) (db us : Bool) (W : Bytes) (h : J fs0 m ⟨.part, true, db, us⟩ W) :
    m.fs.openf.isSome = true := by
  obtain ⟨buf, h7⟩ := ginv_openf h.inv rfl
  simp [h7]

theorem fcall_open (plan : Plan) (m : M) (ev : Ev) (h : m.fs.openf.isSome = true) : fcall plan m ev = call plan m ev := by
  simp [fcall, h]

theorem fclose_open (plan : Plan) (m : M) (h : m.fs.openf.isSome = true) : fclose plan m = callClose plan m := by
  simp [fclose, h]

def noCloseOps : List Op → Bool
  | [] => true
  | .close :: _ => false
  | _ :: t => noCloseOps t

/-- on a closed file object Python refuses `write` / `flush` whatever the plan says -/
theorem fcall_closed {cfg : Cfg} {raises : Bool} (fs0 : FS) (plan : Plan) (m : M) (s : St) (W : Bytes) (ev : Ev)
    (h : WalkInv cfg raises fs0 m s W) (hc : m.fs.openf = none) :
    ∃ e m1, fcall plan m ev = (some e, m1) ∧ CallErr (WalkInv cfg raises fs0) m s W m1 ∧ m1.fs.openf = none := by
  unfold fcall
  simp only [hc, Option.isSome_none, Bool.false_eq_true, if_false]
  cases hp : plan m.n with
  | fail e | pass =>
    exact ⟨_, _, rfl, ⟨h.of_ran rfl rfl rfl rfl (h.ran.fail rfl (fun _ => Nat.succ_pos _) (Nat.le_succ _)), rfl, rfl, rfl, rfl⟩, hc⟩
  | appear =>
    exact ⟨_, _, rfl, ⟨(h.env .appear).of_ran rfl rfl rfl rfl ((Ran.env h.ran .appear).fail rfl (fun _ => Nat.succ_pos _) (by simp [env_errs])),
      by simp, env_tr m _, env_cleanupFaulted m _, env_envIno m _⟩, by simp [env_fs_openf, hc]⟩

/-- `close()` on a closed file object leaves the file system alone, and reports an error only if the plan says so -/
theorem fclose_closed {cfg : Cfg} {raises : Bool} (fs0 : FS) (plan : Plan) (m : M) (s : St) (W : Bytes)
    (h : WalkInv cfg raises fs0 m s W) (hc : m.fs.openf = none) : ClosePost cfg raises fs0 m (fclose plan m) s W := by
  unfold fclose
  simp only [hc, Option.isSome_none, Bool.false_eq_true, if_false]
  cases hp : plan m.n with
  | fail e =>
    exact ⟨h.of_ran rfl rfl rfl rfl (h.ran.fail rfl (fun _ => Nat.succ_pos _) (Nat.le_succ _)), hc, by simp, by simp, rfl,
      Ext.same m _ rfl (Nat.le_succ _) rfl⟩
  | pass =>
    exact ⟨h.of_ran rfl rfl rfl rfl (h.ran.ok rfl rfl rfl (.unguarded rfl)), hc, by simp, by simp, rfl,
      Ext.same m _ rfl (Nat.le_refl _) rfl⟩
  | appear =>
    exact ⟨(h.env .appear).of_ran rfl rfl rfl rfl ((Ran.env h.ran .appear).ok rfl rfl rfl (.unguarded rfl)),
      by simp [env_fs_openf, hc], by simp [env_errs], by simp, env_cleanupFaulted m _,
      Ext.same m _ (env_tr m _) (Nat.le_of_eq (env_errs m _).symm) (env_envIno m _)⟩

/-- `write` / `flush` on the file object: one `call` on the event `ev` while it is open; refused by Python once it is closed -/
theorem fcall_spec {cfg : Cfg} {raises : Bool} (fs0 : FS) (plan : Plan) (m : M) (ev : Ev) (op db us db' us' : Bool) (W : Bytes)
    (h : WalkInv cfg raises fs0 m ⟨.part, op, db, us⟩ W) (hcl : op = false → m.fs.openf = none)
    (hs : (St.mk .part true db us).step ev = some ⟨.part, true, db', us'⟩) (hu : unguarded ev = true) :
    CallCases (WalkInv cfg raises fs0) m ⟨.part, op, db, us⟩ ⟨.part, true, db', us'⟩ W ev (fcall plan m ev) ∧
    ((fcall plan m ev).1 = none → op = true) ∧ (op = false → (fcall plan m ev).2.fs.openf = none) := by
  cases op with
  | true =>
    rw [fcall_open plan m _ (open_of_J fs0 m db us W h.j)]
    exact ⟨h.call_cases plan ev hs (.unguarded hu), fun _ => rfl, fun hh => by cases hh⟩
  | false =>
    obtain ⟨e, m1, hc, c, ho⟩ := fcall_closed fs0 plan m _ W ev h (hcl rfl)
    rw [hc]
    exact ⟨.failed e c, fun hn => (by cases hn), fun _ => ho⟩

theorem fclose_spec {cfg : Cfg} {raises : Bool} (fs0 : FS) (plan : Plan) (m : M) (op db us : Bool) (W : Bytes)
    (h : WalkInv cfg raises fs0 m ⟨.part, op, db, us⟩ W) (hcl : op = false → m.fs.openf = none) :
    ∃ db1 us1, ClosePost cfg raises fs0 m (fclose plan m) ⟨.part, false, db1, us1⟩ W ∧
      (op = true → db1 = false ∧ us1 = (us || db)) := by
  cases op with
  | true =>
    rw [fclose_open plan m (open_of_J fs0 m db us W h.j)]
    exact ⟨false, us || db, callClose_spec fs0 plan m _ _ W h (by simp [St.step]) rfl, fun _ => ⟨rfl, rfl⟩⟩
  | false => exact ⟨db, us, fclose_closed fs0 plan m _ W h (hcl rfl), fun h => by cases h⟩

/-- postcondition of calls `ops` of the block, returning `r` from `m` (file object open iff `op`, `W` written): the part file
    is still unpublished under its name, in `⟨.part, op', db', us'⟩` with `W'` written -/
structure OpsPost (cfg : Cfg) (raises : Bool) (fs0 : FS) (m : M) (op : Bool) (W : Bytes) (ops : List Op) (r : Option Errno × M)
    (op' db' us' : Bool) (W' : Bytes) : Prop where
  inv : WalkInv cfg raises fs0 r.2 ⟨.part, op', db', us'⟩ W'
  closed : op' = false → r.2.fs.openf = none
  written : r.1 = none → W' = W ++ (ops.map opData).flatten
  errs_ok : r.1 = none → r.2.errs = m.errs
  errs_err : r.1 ≠ none → m.errs < r.2.errs
  ext : Ext m r.2
  /-- it is still open only if it was and the block has not called `close()` -/
  stillOpen : op' = true → op = true ∧ (r.1 = none → noCloseOps ops = true)

theorem opCall_spec {cfg : Cfg} {raises : Bool} (fs0 : FS) (plan : Plan) (m : M) (o : Op) (op db us : Bool) (W : Bytes)
    (h : WalkInv cfg raises fs0 m ⟨.part, op, db, us⟩ W) (hcl : op = false → m.fs.openf = none) :
    ∃ op' db' us' W', OpsPost cfg raises fs0 m op W [o] (opCall plan m o) op' db' us' W' := by
  -- `write` and `flush`: one `fcall` on an event `ev` that writes what the statement writes
  have viaFcall : ∀ (ev : Ev) (db' us' : Bool), (St.mk .part true db us).step ev = some ⟨.part, true, db', us'⟩ →
      unguarded ev = true → modeEv ev = false → evWrites ev = opData o → noCloseOps [o] = true →
      ∃ op' db1 us1 W', OpsPost cfg raises fs0 m op W [o] (fcall plan m ev) op' db1 us1 W' := by
    intro ev db' us' hs hu hm hd ho
    obtain ⟨cc, hop, hclosed⟩ := fcall_spec fs0 plan m ev op db us db' us' W h hcl hs hu
    rcases cc with ⟨m1, hc, c⟩ | ⟨e, m1, hc, c⟩ <;> rw [hc] at hop hclosed ⊢
    · exact ⟨true, db', us', _,
      { inv := c.inv, closed := fun hh => (by cases hh), written := fun _ => by simp [hd], errs_ok := fun _ => c.errs,
        errs_err := fun hn => absurd rfl hn, ext := c.ext hm, stillOpen := fun _ => ⟨hop rfl, fun _ => ho⟩ }⟩
    · exact ⟨op, db, us, W,
      { inv := c.inv, closed := hclosed, written := fun hn => (by cases hn), errs_ok := fun hn => (by cases hn),
        errs_err := fun _ => by rw [c.errs]; exact Nat.lt_succ_self _, ext := c.ext,
        stillOpen := fun hh => ⟨hh, fun hn => by cases hn⟩ }⟩
  cases o with
  | write d k => exact viaFcall (.write d k) true true (by simp [St.step]) rfl rfl rfl rfl
  | flush => exact viaFcall .flush false (us || db) (by simp [St.step]) rfl rfl rfl rfl
  | close =>
    obtain ⟨db1, us1, p, -⟩ := fclose_spec fs0 plan m op db us W h hcl
    exact ⟨false, db1, us1, W,
      { inv := p.inv, closed := fun _ => p.closed, written := fun _ => by simp [opData], errs_ok := p.errs_ok,
        errs_err := fun hn => (p.errs_err hn).symm ▸ Nat.lt_succ_self _, ext := p.ext,
        stillOpen := fun hh => by cases hh }⟩

theorem runOps_spec {cfg : Cfg} {raises : Bool} (fs0 : FS) (plan : Plan) : ∀ (ops : List Op) (m : M) (op db us : Bool) (W : Bytes),
    WalkInv cfg raises fs0 m ⟨.part, op, db, us⟩ W → (op = false → m.fs.openf = none) →
    ∃ op' db' us' W', OpsPost cfg raises fs0 m op W ops (runOps plan m ops) op' db' us' W'
  | [], m, op, db, us, W, h, hcl =>
    ⟨op, db, us, W,
      { inv := h, closed := hcl, written := fun _ => by simp, errs_ok := fun _ => rfl, errs_err := fun hn => absurd rfl hn,
        ext := Ext.refl m, stillOpen := fun h => ⟨h, fun _ => rfl⟩ }⟩
  | o :: ops, m, op, db, us, W, h, hcl => by
    rw [runOps_cons]
    obtain ⟨op1, db1, us1, W1, p⟩ := opCall_spec fs0 plan m o op db us W h hcl
    rcases hc : opCall plan m o with ⟨_ | e, m1⟩ <;> rw [hc] at p <;> dsimp only
    · obtain ⟨op', db', us', W', q⟩ := runOps_spec fs0 plan ops m1 op1 db1 us1 W1 p.inv p.closed
      have hW : W1 = W ++ ([o].map opData).flatten := p.written rfl
      have he : m1.errs = m.errs := p.errs_ok rfl
      refine ⟨op', db', us', W',
        { inv := q.inv, closed := q.closed, written := fun hn => ?_, errs_ok := fun hn => (q.errs_ok hn).trans he,
          errs_err := fun hn => ?_, ext := p.ext.trans q.ext, stillOpen := fun hop => ?_ }⟩
      · rw [q.written hn, hW]; simp [List.append_assoc]
      · have := q.errs_err hn; omega
      · obtain ⟨h1, h2⟩ := q.stillOpen hop
        obtain ⟨h3, h4⟩ := p.stillOpen h1
        have h4 := h4 rfl
        exact ⟨h3, fun hn => by have := h2 hn; cases o <;> simp_all [noCloseOps]⟩
    · exact ⟨op1, db1, us1, W1,
      { inv := p.inv, closed := p.closed, written := fun hn => (by cases hn), errs_ok := fun hn => (by cases hn),
        errs_err := fun _ => p.errs_err (by simp), ext := p.ext,
        stillOpen := fun hop => ⟨(p.stillOpen hop).1, fun hn => by cases hn⟩ }⟩

/-- what the inner try/finally of `__exit__` (on a file object open iff `op`), returning `r` from `m`, leaves: the object
    closed; no error leaves it only if the object was still open, and then everything written is flushed and synced -/
structure SyncPost (cfg : Cfg) (raises : Bool) (fs0 : FS) (m : M) (op : Bool) (r : Option Errno × M) (db1 us1 : Bool) (W : Bytes) : Prop where
  inv : WalkInv cfg raises fs0 r.2 ⟨.part, false, db1, us1⟩ W
  wasOpen : r.1 = none → op = true
  synced : r.1 = none → db1 = false ∧ us1 = false
  errs_ok : r.1 = none → r.2.errs = m.errs
  cf_ok : r.1 = none → r.2.cleanupFaulted = m.cleanupFaulted
  errs_err : r.1 ≠ none → m.errs < r.2.errs
  ext : Ext m r.2

theorem SyncPost.of_err {cfg : Cfg} {raises : Bool} {fs0 : FS} {m : M} {op : Bool} {r : Option Errno × M} {db1 us1 : Bool} {W : Bytes}
    (k : WalkInv cfg raises fs0 r.2 ⟨.part, false, db1, us1⟩ W) (hne : r.1 ≠ none) (he : m.errs < r.2.errs) (x : Ext m r.2) :
    SyncPost cfg raises fs0 m op r db1 us1 W :=
  ⟨k, fun hn => absurd hn hne, fun hn => absurd hn hne, fun hn => absurd hn hne, fun hn => absurd hn hne, fun _ => he, x⟩

theorem syncCloseG_spec {cfg : Cfg} {raises : Bool} (fs0 : FS) (plan : Plan) (m : M) (op db us : Bool) (W : Bytes)
    (h : WalkInv cfg raises fs0 m ⟨.part, op, db, us⟩ W) (hcl : op = false → m.fs.openf = none) :
    ∃ db1 us1, SyncPost cfg raises fs0 m op (syncCloseG plan m) db1 us1 W := by
  unfold syncCloseG
  obtain ⟨cc, hop, hclosed⟩ := fcall_spec fs0 plan m .flush op db us false (us || db) W h hcl (by simp [St.step]) rfl
  rcases cc with ⟨m1, hc1, c1⟩ | ⟨e1, m1, hc1, c1⟩ <;> rw [hc1] at hop hclosed ⊢ <;> dsimp only
  · -- `flush()` went through (the object is open): `os.fsync`, then `close()`
    have hs2 : (St.mk .part true false (us || db)).step .fsync = some ⟨.part, true, false, false⟩ := by simp [St.step]
    rcases (c1.inv_nowrite rfl).call_cases plan .fsync hs2 (.unguarded rfl) with ⟨m2, hc2, c2⟩ | ⟨e2, m2, hc2, c2⟩ <;>
      rw [hc2] <;> dsimp only
    · obtain ⟨db3, us3, p3, f3⟩ := fclose_spec fs0 plan m2 true false false W (c2.inv_nowrite rfl) (by simp)
      obtain ⟨rfl, rfl⟩ := f3 rfl
      have x : Ext m (fclose plan m2).2 := ((c1.ext rfl).trans (c2.ext rfl)).trans p3.ext
      cases hr3 : (fclose plan m2).1 with
      | none =>
        exact ⟨false, false,
          { inv := p3.inv, wasOpen := fun _ => hop rfl, synced := fun _ => ⟨rfl, rfl⟩,
            errs_ok := fun _ => by rw [p3.errs_ok hr3, c2.errs, c1.errs], cf_ok := fun _ => by rw [p3.cf, c2.cf, c1.cf],
            errs_err := fun hn => absurd rfl hn, ext := x }⟩
      | some e3 =>
        exact ⟨false, false, .of_err p3.inv (by simp) (by rw [p3.errs_err (by simp [hr3]), c2.errs, c1.errs]; exact Nat.lt_succ_self _) x⟩
    · obtain ⟨db3, us3, p3, -⟩ := fclose_spec fs0 plan m2 true false (us || db) W c2.inv (by simp)
      refine ⟨db3, us3, .of_err p3.inv ?_ ?_ (((c1.ext rfl).trans c2.ext).trans p3.ext)⟩
      · cases hh : (fclose plan m2).1 <;> simp
      · show m.errs < (fclose plan m2).2.errs
        have := p3.ext.errs; have := c2.errs; have := c1.errs; omega
  · -- `flush()` failed or was refused: straight to `close()`
    obtain ⟨db3, us3, p3, -⟩ := fclose_spec fs0 plan m1 op db us W c1.inv hclosed
    refine ⟨db3, us3, .of_err p3.inv ?_ ?_ (c1.ext.trans p3.ext)⟩
    · cases hh : (fclose plan m1).1 <;> simp
    · show m.errs < (fclose plan m1).2.errs
      have := p3.ext.errs; have := c1.errs; omega

/-- `hclean`: the block ends normally only when none of its calls, and none before, has reported an error -/
theorem finishG_spec (cfg : Cfg) {raises : Bool} (fs0 : FS) (plan : Plan) (m : M) (op db us : Bool) (W : Bytes)
    (blockExc : Option Outcome) (h : WalkInv cfg raises fs0 m ⟨.part, op, db, us⟩ W) (hcl : op = false → m.fs.openf = none)
    (hb : blockExc ≠ some .ok) (hclean : blockExc = none → m.errs = 0 ∧ raises = false) :
    ∃ s', ExitPost cfg fs0 m W (finishG cfg plan m blockExc) s' ∧ WalkInv cfg raises fs0 (finishG cfg plan m blockExc).2 s' W ∧
      (s'.published = true → blockExc = none ∧ op = true ∧ ((finishG cfg plan m blockExc).1 = .ok ∨ cfg.overwrite = false)) ∧
      (∀ b, blockExc = some b → (finishG cfg plan m blockExc).1 = b) := by
  unfold finishG
  obtain ⟨db1, us1, p⟩ := syncCloseG_spec fs0 plan m op db us W h hcl
  rcases hsc : syncCloseG plan m with ⟨_ | e, m3⟩ <;> rw [hsc] at p <;> dsimp only
  · obtain ⟨rfl, rfl⟩ := p.synced rfl
    have he : m3.errs = m.errs := p.errs_ok rfl
    have hcf : m3.cleanupFaulted = m.cleanupFaulted := p.cf_ok rfl
    cases blockExc with
    | some b =>
      simp only
      obtain ⟨s', hp, hk, hunp⟩ := cleanup_spec cfg fs0 plan m m3 _ W b p.inv rfl p.ext (by simpa using hb)
      exact ⟨s', hp, hk, fun h => (by rw [hunp] at h; cases h), fun b' hb => by simp at hb; simp [hb]⟩
    | none =>
      simp only
      obtain ⟨s', pp, pk, p7⟩ := publish_spec cfg fs0 plan m3 W p.inv (by rw [he]; exact (hclean rfl).1) (hclean rfl).2
      refine ⟨s',
        { j := pp.j, notinit := pp.notinit, ok := fun hok => ?_, failed := pp.failed, link := pp.link,
          ext := p.ext.trans pp.ext },
        pk, fun hp => ⟨trivial, p.wasOpen rfl, p7 hp⟩, by simp⟩
      obtain ⟨a, b, c⟩ := pp.ok hok; exact ⟨a, by rw [b, he], by rw [c, hcf]⟩
  · obtain ⟨s', hp, hk, hunp⟩ := cleanup_spec cfg fs0 plan m m3 _ W (blockExc.getD (.osErr e)) p.inv rfl p.ext
      (by cases blockExc with
          | none => simp
          | some b => simpa using hb)
    exact ⟨s', hp, hk, fun h => (by rw [hunp] at h; cases h), fun b hb => by simp [hb]⟩

/-- the walk as a whole.  Last conjunct: a block that closes the file object itself is never published -/
theorem runScript_walk (cfg : Cfg) (fs0 : FS) (e : Nat) (sc : Script) (plan : Plan) :
    ∃ s W, Res cfg fs0 e sc.raises sc.content plan (runScript cfg sc plan fs0 e).1 (runScript cfg sc plan fs0 e).2 s W ∧
      WalkInv cfg sc.raises fs0 (runScript cfg sc plan fs0 e).2 s W ∧ (s.published = true → noCloseOps sc.ops = true) := by
  unfold runScript
  obtain ⟨sok, sfail⟩ := setup_spec cfg sc.raises fs0 e plan
  have href := setup_refuses cfg plan (M.start fs0 e)
  cases hsetup : setup cfg plan (M.start fs0 e) with
  | mk r1 m1 =>
    rw [hsetup] at sok sfail href
    simp only at sok sfail
    cases r1 with
    | some err =>
      dsimp only
      obtain ⟨s', f⟩ := sfail (by simp)
      refine ⟨s', [],
        { j := f.inv.j, envIno := f.envIno, ok := fun h => by simp at h, pub := fun hp => by rw [f.unpublished] at hp; simp at hp,
          failed := fun _ => f.left, refused := fun hd ho => ?_ }, f.inv, fun hp => by rw [f.unpublished] at hp; cases hp⟩
      have := href hd ho
      simp only [Prod.mk.injEq, Option.some.injEq] at this
      obtain ⟨rfl, rfl⟩ := this
      exact ⟨rfl, rfl, rfl⟩
    | none =>
      dsimp only
      obtain ⟨p, c, hst, hpc⟩ := (sok rfl).tr
      obtain ⟨op', db', us', W', w⟩ := runOps_spec fs0 plan sc.ops m1 true false false [] (sok rfl).inv (by simp)
      have hb : scriptOutcome sc (runOps plan m1 sc.ops).1 ≠ some .ok := by
        unfold scriptOutcome
        cases (runOps plan m1 sc.ops).1 <;> simp
      have hblock : scriptOutcome sc (runOps plan m1 sc.ops).1 = none →
          (runOps plan m1 sc.ops).1 = none ∧ sc.raises = false := by
        unfold scriptOutcome
        cases (runOps plan m1 sc.ops).1 <;> simp
      obtain ⟨s', fp, fk, fpub, -⟩ := finishG_spec cfg fs0 plan (runOps plan m1 sc.ops).2 op' db' us' W'
        (scriptOutcome sc (runOps plan m1 sc.ops).1) w.inv w.closed hb
        (fun hn => ⟨by rw [w.errs_ok (hblock hn).1, (sok rfl).errs], (hblock hn).2⟩)
      refine ⟨s', W',
        { j := fp.j, envIno := by rw [fp.ext.envIno, w.ext.envIno, (sok rfl).envIno], ok := fun hok => ?_,
          pub := fun hpub => ?_, failed := fun hn => Or.inr ⟨fp.notinit, fp.failed hn⟩, refused := fun hd ho => ?_ }, fk, fun hpub => ?_⟩
      · obtain ⟨a, b, _⟩ := fp.ok hok
        -- a caller who sees no exception has a published save, so the block ended normally
        obtain ⟨hbn, _⟩ := fpub (by simp [St.published, a])
        obtain ⟨hw, hr⟩ := hblock hbn
        exact ⟨a, by rw [b, w.errs_ok hw, (sok rfl).errs], hr⟩
      · obtain ⟨hbn, _, hok⟩ := fpub hpub
        obtain ⟨hw, hr⟩ := hblock hbn
        refine ⟨hr, by simpa [Script.content] using w.written hw, hok, fp.link hpub, p, c, ?_, hpc⟩
        rw [Ext.mode fs0.umask fp.ext, Ext.mode fs0.umask w.ext, hst]
        apply foldl_modeAfter_setup
        intro ev hev
        split at hev <;> simp at hev
        subst hev; rfl
      · have := href hd ho
        simp at this
      · -- a publication needs a block that ended normally and left the file object open
        obtain ⟨hbn, hop, _⟩ := fpub hpub
        exact (w.stillOpen hop).2 (hblock hbn).1

/-- the acceptance automaton reads what a save has recorded of its own calls to the end -/
theorem runScript_ran (cfg : Cfg) (fs0 : FS) (e : Nat) (sc : Script) (plan : Plan) :
    ∃ a, A.init.run cfg sc.raises (runScript cfg sc plan fs0 e).2.obs = some a := by
  obtain ⟨_, _, _, w, _⟩ := runScript_walk cfg fs0 e sc plan
  obtain ⟨a, _, ha⟩ := w.ran
  exact ⟨a, ha⟩

theorem runScript_spec (cfg : Cfg) (fs0 : FS) (e : Nat) (sc : Script) (plan : Plan) :
    ∃ s W, Res cfg fs0 e sc.raises sc.content plan (runScript cfg sc plan fs0 e).1 (runScript cfg sc plan fs0 e).2 s W :=
  let ⟨s, W, r, _⟩ := runScript_walk cfg fs0 e sc plan
  ⟨s, W, r⟩

theorem runScript_closed (cfg : Cfg) (sc : Script) (plan : Plan) (fs0 : FS) (e : Nat) (hcl : noCloseOps sc.ops = false) :
    (runScript cfg sc plan fs0 e).1 ≠ .ok ∧ (runScript cfg sc plan fs0 e).2.published = false := by
  obtain ⟨s, W, r, _, hnc⟩ := runScript_walk cfg fs0 e sc plan
  have hunp : s.published = false := by
    cases hp : s.published with
    | false => rfl
    | true => rw [hnc hp] at hcl; cases hcl
  refine ⟨fun hok => ?_, by rw [← r.j.published, hunp]⟩
  -- a caller who sees no exception has a published save
  simp [St.published, (r.ok hok).1] at hunp

end C05
