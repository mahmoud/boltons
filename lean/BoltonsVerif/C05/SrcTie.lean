import BoltonsVerif.Generated.Src_fileutils
import BoltonsVerif.C05.Props
import BoltonsVerif.C04.Props
import BoltonsVerif.C05.SrcTieTactic
/-
C05 — source-translator tie (effect mode: notes/SRCTIE.md §1f).

`Generated/Src_fileutils.lean` holds `set_cloexec`, `replace`, `atomic_rename` and `AtomicSaver._rm_part_on_exc`,
`_open_part_file`, `setup`, `__enter__`, `__exit__` as regenerated from boltons/fileutils.py on every run; every
`os.*` / `fcntl.fcntl` / file-object call in them is a field of the record `Src.fileutils.Sys W …` over an abstract
world.  This file instantiates the record with the hand model of C05 (`msys plan`: the abstract file system of
C04/Model.lean under a fault plan - each operation IS the model's instrumented call `C05.call` / `callClose` /
`callStat` / `fcall` / `fclose` on the event the call stands for) and proves that the generated definitions compute
what the transliteration (`C05.rmPart`, `publish`, `openPartFile`, `setup`, `finishG`, `runScript`) computes.

What the instance assumes is exactly what the transliteration assumes (C05/Model.lean):
  * the n-th instrumented call goes through (its effect is `FS.step ev`), fails with the plan's error (no effect,
    except that a failing `file.close()` still closes), or is preceded by the other process creating the destination;
  * `os.path.lexists` is a probe that cannot fail and is not counted; `fcntl.fcntl` (set_cloexec) and `fileno()` have
    no effect on the two names, cannot fail and are not counted;
  * an error is an opaque number for the saver: `excOf` turns the model's `Errno` into the exception value the code
    sees (below 1000: an `OSError` with that errno; 1000: an `OSError` without errno; above: another `Exception`).
The two ghost counters of `C05.M` that no model function reads (`errs`, `cleanupFaulted`) are not computed by the
source; the tie is stated up to them (`erase`).

Proof style: both sides are evaluated symbolically.  The combinators of PyRtC05 and the generated bodies are unfolded
by `simp` one statement at a time, the operations of `msys` are rewritten by their specification lemmas into the
model's calls, and the goal is split on the RESULT of the next call (`tie_case`), never by following the order of the
statements of the source.
-/
namespace C05
open C04 PyRtC05 Src.fileutils

/-- paths are the roles of Classify.lean: the two names of the model's directory (and anything else) -/
instance : Inhabited Role := ⟨.other⟩

/-- the exception value the code sees for the model's error number -/
def excOf (e : Errno) : Exc :=
  if e < 1000 then ⟨.osError, some e, 0⟩ else if e = 1000 then ⟨.osError, none, 1000⟩ else ⟨.exception, none, e⟩

def codeOf (x : Exc) : Errno :=
  match x.kind, x.errno with
  | .osError, some n => n
  | _, _ => x.tag

def erase (m : M) : M := { m with errs := 0, cleanupFaulted := false }

def liftU (r : Option Errno × M) : Except Exc Unit × M :=
  match r with
  | (some e, m) => (.error (excOf e), erase m)
  | (none, m) => (.ok (), erase m)

def O_EXCL : Nat := 0o200
-- 131266 = 0o400302 = `conc.open_flags`
@[simp] theorem conc_flags_excl : (131266 &&& O_EXCL != 0) = true := by decide

/-- the model's file system under a fault plan as the operating system of the translated code -/
def msys (plan : Plan) : Sys M Role Unit Unit Unit Unit where
  os_stat p m :=
    match p with
    | .dest =>
      (match callStat plan m with
       | (.ok (some mode), m1) => (.ok ⟨0o100000 + mode⟩, erase m1)
       | (.ok none, m1) => (.error (excOf ENOENT), erase m1)
       | (.error e, m1) => (.error (excOf e), erase m1))
    | _ => (.error (excOf 1001), m)
  os_path_lexists p m :=
    (.ok (match p with | .dest => m.fs.dir.dest.isSome | .part => m.fs.dir.part.isSome | .other => false), m)
  os_open p flags mode m :=
    liftU (call plan m (match p with | .part => .openPart (flags &&& O_EXCL != 0) true mode | _ => .unknown))
  os_fdopen _ _ _ m := liftU (call plan m .noop)
  os_chmod p mode m := liftU (call plan m (match p with | .part => .chmodPart mode | _ => .unknown))
  os_unlink p m := liftU (call plan m (match p with | .part => .unlinkPart | .dest => .unlinkDest | .other => .unknown))
  os_close _ m := liftU (call plan m .closeFd)
  os_fsync _ m := liftU (call plan m .fsync)
  os_rename a b m := liftU (call plan m (match a, b with | .part, .dest => .renamePartDest | _, _ => .unknown))
  os_link a b m := liftU (call plan m (match a, b with | .part, .dest => .linkPartDest | _, _ => .unknown))
  fcntl_fcntl _ _ _ m := (.ok 0, m)
  file_flush _ m := liftU (fcall plan m .flush)
  file_close _ m := liftU (fclose plan m)
  file_fileno _ m := (.ok (), m)

/-- the attributes `__init__` leaves for a configuration (`part_file`: whatever an earlier use left) -/
@[reducible] def conc (cfg : Cfg) (pf : Option Unit) : AtomicSaver.St Role Unit Unit Unit Unit where
  dest_path := .dest
  part_path := .part
  overwrite := cfg.overwrite
  file_perms := cfg.perms
  overwrite_part := cfg.overwritePart
  rm_part_on_exc := cfg.rmPartOnExc
  mode := ()
  buffering := -1
  open_flags := 0o400302      -- O_RDWR | O_CREAT | O_EXCL | O_NOFOLLOW
  part_file := pf

/-! ## the ghost counters are never read -/

theorem erase_erase (m : M) : erase (erase m) = erase m := rfl
@[simp] theorem erase_fs (m : M) : (erase m).fs = m.fs := rfl
@[simp] theorem erase_n (m : M) : (erase m).n = m.n := rfl
@[simp] theorem erase_tr (m : M) : (erase m).tr = m.tr := rfl
@[simp] theorem erase_obs (m : M) : (erase m).obs = m.obs := rfl
@[simp] theorem erase_envDone (m : M) : (erase m).envDone = m.envDone := rfl
@[simp] theorem erase_envIno (m : M) : (erase m).envIno = m.envIno := rfl

theorem env_erase (m : M) (a : Act) : (erase m).env a = erase (m.env a) := by
  by_cases h : a = .appear ∧ m.fs.dir.dest = none <;> simp [M.env, erase, h]

theorem exe_erase (m : M) (ev : Ev) :
    (exe (erase m) ev).1 = (exe m ev).1 ∧ erase (exe (erase m) ev).2 = erase (exe m ev).2 := by
  unfold exe; simp only [erase_fs]; split <;> exact ⟨rfl, rfl⟩

theorem call_erase (plan : Plan) (m : M) (ev : Ev) :
    (call plan (erase m) ev).1 = (call plan m ev).1 ∧ erase (call plan (erase m) ev).2 = erase (call plan m ev).2 := by
  unfold call; simp only [erase_n]
  split
  · exact ⟨rfl, rfl⟩
  · exact exe_erase m ev
  · rw [env_erase]; exact exe_erase (m.env .appear) ev

theorem callClose_erase (plan : Plan) (m : M) :
    (callClose plan (erase m)).1 = (callClose plan m).1 ∧ erase (callClose plan (erase m)).2 = erase (callClose plan m).2 := by
  unfold callClose; simp only [erase_n, erase_fs]
  generalize plan m.n = a
  cases a with
  | fail e => cases m.fs.step .close <;> exact ⟨rfl, rfl⟩
  | pass => exact exe_erase m .close
  | appear => simp only [env_erase]; exact exe_erase (m.env .appear) .close

theorem fcall_erase (plan : Plan) (m : M) (ev : Ev) :
    (fcall plan (erase m) ev).1 = (fcall plan m ev).1 ∧ erase (fcall plan (erase m) ev).2 = erase (fcall plan m ev).2 := by
  unfold fcall; simp only [erase_n, erase_fs]
  by_cases h : m.fs.openf.isSome = true
  · simp only [h, if_true]; exact call_erase plan m ev
  · simp only [h]
    generalize plan m.n = a
    cases a with
    | fail e => exact ⟨rfl, rfl⟩
    | pass => exact ⟨rfl, rfl⟩
    | appear => simp only [env_erase]; exact ⟨rfl, rfl⟩

theorem fclose_erase (plan : Plan) (m : M) :
    (fclose plan (erase m)).1 = (fclose plan m).1 ∧ erase (fclose plan (erase m)).2 = erase (fclose plan m).2 := by
  unfold fclose; simp only [erase_n, erase_fs]
  by_cases h : m.fs.openf.isSome = true
  · simp only [h, if_true]; exact callClose_erase plan m
  · simp only [h]
    generalize plan m.n = a
    cases a with
    | fail e => exact ⟨rfl, rfl⟩
    | pass => exact ⟨rfl, rfl⟩
    | appear => simp only [env_erase]; exact ⟨rfl, rfl⟩

theorem callStat_erase (plan : Plan) (m : M) :
    (callStat plan (erase m)).1 = (callStat plan m).1 ∧ erase (callStat plan (erase m)).2 = erase (callStat plan m).2 := by
  unfold callStat; simp only [erase_n, erase_fs]
  generalize plan m.n = a
  cases a with
  | fail e => by_cases h : e = ENOENT <;> simp only [h, if_true, if_false] <;> constructor <;> first | rfl | trivial
  | pass => exact ⟨rfl, rfl⟩
  | appear => simp only [env_erase]; exact ⟨rfl, rfl⟩

theorem liftU_congr {r r2 : Option Errno × M} (h : r.1 = r2.1 ∧ erase r.2 = erase r2.2) : liftU r = liftU r2 := by
  obtain ⟨a, b⟩ := r; obtain ⟨c, d⟩ := r2
  simp only at h; obtain ⟨rfl, h2⟩ := h
  cases a <;> simp [liftU, h2]

@[simp] theorem msys_unlink_part (plan : Plan) (m : M) :
    (msys plan).os_unlink .part (erase m) = liftU (call plan m .unlinkPart) := liftU_congr (call_erase plan m _)
@[simp] theorem msys_rename (plan : Plan) (m : M) :
    (msys plan).os_rename .part .dest (erase m) = liftU (call plan m .renamePartDest) := liftU_congr (call_erase plan m _)
@[simp] theorem msys_link (plan : Plan) (m : M) :
    (msys plan).os_link .part .dest (erase m) = liftU (call plan m .linkPartDest) := liftU_congr (call_erase plan m _)
@[simp] theorem msys_open (plan : Plan) (m : M) (flags mode : Nat) :
    (msys plan).os_open .part flags mode (erase m) = liftU (call plan m (.openPart (flags &&& O_EXCL != 0) true mode)) :=
  liftU_congr (call_erase plan m _)
@[simp] theorem msys_fdopen (plan : Plan) (m : M) (fd md : Unit) (b : Int) :
    (msys plan).os_fdopen fd md b (erase m) = liftU (call plan m .noop) := liftU_congr (call_erase plan m _)
@[simp] theorem msys_chmod (plan : Plan) (m : M) (mode : Nat) :
    (msys plan).os_chmod .part mode (erase m) = liftU (call plan m (.chmodPart mode)) := liftU_congr (call_erase plan m _)
@[simp] theorem msys_close (plan : Plan) (m : M) (fd : Unit) :
    (msys plan).os_close fd (erase m) = liftU (call plan m .closeFd) := liftU_congr (call_erase plan m _)
@[simp] theorem msys_fsync (plan : Plan) (m : M) (fd : Unit) :
    (msys plan).os_fsync fd (erase m) = liftU (call plan m .fsync) := liftU_congr (call_erase plan m _)
@[simp] theorem msys_flush (plan : Plan) (m : M) (f : Unit) :
    (msys plan).file_flush f (erase m) = liftU (fcall plan m .flush) := liftU_congr (fcall_erase plan m _)
@[simp] theorem msys_fclose (plan : Plan) (m : M) (f : Unit) :
    (msys plan).file_close f (erase m) = liftU (fclose plan m) := liftU_congr (fclose_erase plan m)
@[simp] theorem msys_lexists_dest (plan : Plan) (m : M) :
    (msys plan).os_path_lexists .dest (erase m) = (.ok m.fs.dir.dest.isSome, erase m) := rfl
@[simp] theorem msys_lexists_part (plan : Plan) (m : M) :
    (msys plan).os_path_lexists .part (erase m) = (.ok m.fs.dir.part.isSome, erase m) := rfl
@[simp] theorem msys_fcntl (plan : Plan) (m : M) (fd : Unit) (a b : Nat) :
    (msys plan).fcntl_fcntl fd a b m = (.ok 0, m) := rfl
@[simp] theorem msys_fileno (plan : Plan) (m : M) (f : Unit) : (msys plan).file_fileno f m = (.ok (), m) := rfl

/-- what an operation's result looks like to the code -/
def liftR (r : Option Errno) : Except Exc Unit :=
  match r with
  | some e => .error (excOf e)
  | none => .ok ()

theorem liftU_eq (r : Option Errno × M) : liftU r = (liftR r.1, erase r.2) := by
  obtain ⟨a, b⟩ := r; cases a <;> rfl

theorem excOf_isException (e : Errno) : (excOf e).isException = true := by
  unfold excOf Exc.isException; split
  · simp
  · split <;> simp

/-! ## evaluating a block one statement at a time

Unfolding `Blk.seq` / `tryExcept` / `tryFinally` puts what follows under a `match` stuck at the next call, where `simp`
would evaluate it on an unknown frame, and again in every branch.  The functions below are "what follows, given the
outcome of the first block"; their equations fire on a known outcome only. -/

section
variable {σ R : Type}

def seqK (b : Blk σ R) : Except Exc (Option R) × σ → Except Exc (Option R) × σ
  | (.ok none, s1) => b s1
  | r => r

def tryExceptK (h : Exc → Option (Blk σ R)) (orelse : Blk σ R) : Except Exc (Option R) × σ → Except Exc (Option R) × σ
  | (.error e, s1) =>
    (match h e with
     | some hb => hb s1
     | none => (.error e, s1))
  | (.ok none, s1) => orelse s1
  | r => r

def tryFinallyK (f : Blk σ R) (x : Except Exc (Option R) × σ) : Except Exc (Option R) × σ :=
  Blk.tryFinally.after x.1 (f x.2)

theorem seq_eval (a b : Blk σ R) (s : σ) : a.seq b s = seqK b (a s) := rfl
theorem tryExcept_eval (a : Blk σ R) (h : Exc → Option (Blk σ R)) (o : Blk σ R) (s : σ) :
    Blk.tryExcept a h o s = tryExceptK h o (a s) := rfl
theorem tryFinally_eval (a f : Blk σ R) (s : σ) : Blk.tryFinally a f s = tryFinallyK f (a s) := by
  unfold Blk.tryFinally tryFinallyK
  split <;> simp [*]

@[simp] theorem seqK_fall (b : Blk σ R) (s1 : σ) : seqK b (.ok none, s1) = b s1 := rfl
@[simp] theorem seqK_ret (b : Blk σ R) (v : R) (s1 : σ) : seqK b (.ok (some v), s1) = (.ok (some v), s1) := rfl
@[simp] theorem seqK_err (b : Blk σ R) (e : Exc) (s1 : σ) : seqK b (.error e, s1) = (.error e, s1) := rfl
@[simp] theorem tryExceptK_err (h : Exc → Option (Blk σ R)) (o : Blk σ R) (e : Exc) (s1 : σ) :
    tryExceptK h o (.error e, s1) = (match h e with | some hb => hb s1 | none => (.error e, s1)) := rfl
@[simp] theorem tryExceptK_fall (h : Exc → Option (Blk σ R)) (o : Blk σ R) (s1 : σ) :
    tryExceptK h o (.ok none, s1) = o s1 := rfl
@[simp] theorem tryExceptK_ret (h : Exc → Option (Blk σ R)) (o : Blk σ R) (v : R) (s1 : σ) :
    tryExceptK h o (.ok (some v), s1) = (.ok (some v), s1) := rfl
@[simp] theorem tryFinallyK_mk (f : Blk σ R) (r : Except Exc (Option R)) (s1 : σ) :
    tryFinallyK f (r, s1) = Blk.tryFinally.after r (f s1) := rfl

end

-- `finishMethod` / `finishFunction` stay folded, so that the term under evaluation occurs once
attribute [local simp] runMethod runFunction seq_eval tryExcept_eval tryFinally_eval Blk.tryFinally.after Blk.ite
  Blk.call Blk.callm Blk.skip Blk.assign Blk.ret Blk.raise liftU_eq liftR

/-- symbolic evaluation of both sides: unfold up to the next call, rewrite the operations of `msys` into the model's
    calls, split on the result of that call; repeat until no call is left -/
macro "tie_eval" " [" ds:Lean.Parser.Tactic.simpLemma,* "]" : tactic =>
  `(tactic| ((try simp [*, $ds,*]) <;> repeat' (tie_case <;> try simp [*, $ds,*])))

/-- **`set_cloexec`**: whatever `fcntl.fcntl` answers in the model's world (it always answers), the function returns
    normally and the world is unchanged - the transliteration does not mention it at all -/
theorem src_set_cloexec_eq_model (plan : Plan) (fd : Unit) (m : M) :
    set_cloexec (msys plan) fd m = (.ok (), m) := by
  simp [set_cloexec, set_cloexec.body, finishFunction, Blk.result]

/-- **`replace`** (posix) is one `os.rename` -/
theorem src_replace_eq_model (plan : Plan) (m : M) :
    replace (msys plan) .part .dest (erase m) = liftU (call plan m .renamePartDest) := by
  tie_eval [replace, replace.body, finishFunction, Blk.result]

/-- the part of the model's `publish` that is `atomic_rename(part, dest, overwrite)` -/
def atomicRenameM (overwrite : Bool) (plan : Plan) (m : M) : Option Errno × M :=
  if overwrite then call plan m .renamePartDest
  else
    match call plan m .linkPartDest with
    | (some e, m1) => (some e, m1)
    | (none, m1) => call plan m1 .unlinkPart

theorem publish_eq_atomicRenameM (cfg : Cfg) (plan : Plan) (m : M) :
    publish cfg plan m =
      match atomicRenameM cfg.overwrite plan m with
      | (some e, m1) => (.osErr e, rmPart cfg plan m1)
      | (none, m1) => (.ok, m1) := by
  unfold publish atomicRenameM
  cases cfg.overwrite
  · simp only [Bool.false_eq_true, if_false]
    rcases call plan m .linkPartDest with ⟨_ | e, m1⟩ <;> simp only
    rcases call plan m1 .unlinkPart with ⟨_ | e, m2⟩ <;> simp only
  · simp only [if_true]
    rcases call plan m .renamePartDest with ⟨_ | e, m1⟩ <;> simp only

/-- **`atomic_rename(part, dest, overwrite)`** = the model's rename, or link followed by unlink of the part name -/
theorem src_atomic_rename_eq_model (ow : Bool) (plan : Plan) (m : M) :
    atomic_rename (msys plan) .part .dest ow (erase m) = liftU (atomicRenameM ow plan m) := by
  cases ow <;> tie_eval [atomic_rename, atomic_rename.body, atomicRenameM, finishFunction, Blk.result]

/-- `os.stat(dest)` in the model's world: the mode of a regular file, `ENOENT`, or the plan's error -/
theorem msys_stat (plan : Plan) (m : M) :
    (msys plan).os_stat .dest (erase m) =
      match callStat plan m with
      | (.ok (some mode), m1) => (.ok ⟨0o100000 + mode⟩, erase m1)
      | (.ok none, m1) => (.error (excOf ENOENT), erase m1)
      | (.error e, m1) => (.error (excOf e), erase m1) := by
  have h := callStat_erase plan m
  show (match callStat plan (erase m) with
      | (.ok (some mode), m1) => ((.ok ⟨0o100000 + mode⟩ : Except Exc StatRes), erase m1)
      | (.ok none, m1) => (.error (excOf ENOENT), erase m1)
      | (.error e, m1) => (.error (excOf e), erase m1)) = _
  rcases h1 : callStat plan (erase m) with ⟨r1, m1⟩
  rcases h2 : callStat plan m with ⟨r2, m2⟩
  rw [h1, h2] at h
  obtain ⟨rfl, h⟩ : r1 = r2 ∧ erase m1 = erase m2 := h
  rcases r1 with e | _ | mode <;> simp only [h]

/-- permission bits are 12 bits: what `stat.S_IMODE` of a regular file's `st_mode` gives back -/
def ModesOk (fs : FS) : Prop := ∀ i ∈ fs.inodes, i.mode < 4096

theorem destMode_lt {fs : FS} (h : ModesOk fs) {mode : Nat} (hm : fs.destMode = some mode) : mode < 4096 := by
  unfold FS.destMode FS.inode? at hm
  cases hd : fs.dir.dest with
  | none => simp [hd] at hm
  | some i =>
    simp only [hd, Option.map_eq_some_iff] at hm
    obtain ⟨ino, hi, rfl⟩ := hm
    exact h ino (List.mem_of_getElem? hi)

theorem env_inodes (m : M) (a : Act) : (m.env a).fs.inodes = m.fs.inodes := by
  unfold M.env; split <;> rfl

theorem callStat_mode_lt {plan : Plan} {m m2 : M} {mode : Nat} (h : ModesOk m.fs)
    (hc : callStat plan m = (.ok (some mode), m2)) : mode < 4096 := by
  unfold callStat at hc
  split at hc
  · split at hc <;> simp at hc
  · simp only [Prod.mk.injEq, Except.ok.injEq] at hc
    exact destMode_lt h hc.1
  · simp only [Prod.mk.injEq, Except.ok.injEq] at hc
    refine destMode_lt (fs := (m.env .appear).fs) ?_ hc.1
    intro i hi; rw [env_inodes] at hi; exact h i hi

theorem S_IMODE_reg {mode : Nat} (h : mode < 4096) : S_IMODE (32768 + mode) = mode := by
  unfold S_IMODE; omega

@[simp] theorem erase_cleanup (m : M) (b : Bool) : erase { m with cleanupFaulted := b } = erase m := rfl
@[simp] theorem erase_errs (m : M) (k : Nat) : erase { m with errs := k } = erase m := rfl

theorem excOf_enoent : (excOf ENOENT) = ⟨.osError, some 2, 0⟩ := by decide

/-- stated with `≠` so that it decides the handler's test whichever way the source spells it (`!=` or `==`) -/
theorem excOf_stat_handler (e : Errno) (h : e ≠ ENOENT) :
    (excOf e).isOSError = true → (excOf e).errno ≠ some 2 := by
  unfold excOf; split
  · intro _; simp; exact h
  · split <;> simp

/-- the object afterwards has the attributes of the same configuration (only `part_file` may have changed) -/
def SameCfg (cfg : Cfg) (st : AtomicSaver.St Role Unit Unit Unit Unit) : Prop := st = conc cfg st.part_file

theorem exe_fail_openf {m m1 : M} {ev : Ev} {e : Errno} (h : exe m ev = (some e, m1)) : m1.fs.openf = m.fs.openf := by
  unfold exe at h; split at h <;> simp at h
  obtain ⟨_, rfl⟩ := h; rfl

theorem call_fail_openf {plan : Plan} {m m1 : M} {ev : Ev} {e : Errno} (h : call plan m ev = (some e, m1)) :
    m1.fs.openf = m.fs.openf := by
  unfold call at h; split at h
  · simp at h; obtain ⟨_, rfl⟩ := h; rfl
  · exact exe_fail_openf h
  · rw [exe_fail_openf h, env_fs_openf]

theorem exe_ok_step {m m1 : M} {ev : Ev} (h : exe m ev = (none, m1)) : m.fs.step ev = .ok m1.fs := by
  obtain ⟨fs', hf, rfl⟩ := exe_eq_none.1 h
  exact hf

theorem call_ok_step {plan : Plan} {m m1 : M} {ev : Ev} (h : call plan m ev = (none, m1)) :
    ∃ fs0 : FS, fs0.openf = m.fs.openf ∧ fs0.step ev = .ok m1.fs := by
  unfold call at h; split at h
  · simp at h
  · exact ⟨m.fs, rfl, exe_ok_step h⟩
  · exact ⟨(m.env .appear).fs, env_fs_openf m _, exe_ok_step h⟩

theorem openPart_openf {fs fs1 : FS} {a b : Bool} {p : Nat} (h : fs.step (.openPart a b p) = .ok fs1) :
    fs1.openf.isSome = true := by
  simp only [FS.step, FS.openPart] at h
  split at h
  · split at h <;> simp at h; subst h; rfl
  · simp at h; subst h; rfl

/-- `openPartFile` with the file object's `close()` spelled `fclose` (the same thing while the object is open) -/
def openPartFileF (cfg : Cfg) (plan : Plan) (m : M) (perms : Nat) (doChmod : Bool) : Option Errno × M :=
  match call plan m (.openPart true true perms) with
  | (some e, m1) => (some e, m1)
  | (none, m1) =>
    match call plan m1 .noop with
    | (some e, m2) => (some ((call plan m2 .closeFd).1.getD e), rmPart cfg plan (call plan m2 .closeFd).2)
    | (none, m2) =>
      if doChmod then
        match call plan m2 (.chmodPart perms) with
        | (some e, m3) => (some ((fclose plan m3).1.getD e), rmPart cfg plan (fclose plan m3).2)
        | (none, m3) => (none, m3)
      else (none, m2)

theorem openPartFile_eq_F (cfg : Cfg) (plan : Plan) (m : M) (perms : Nat) (doChmod : Bool) :
    openPartFile cfg plan m perms doChmod = openPartFileF cfg plan m perms doChmod := by
  unfold openPartFile openPartFileF
  rcases h1 : call plan m (.openPart true true perms) with ⟨_ | e, m1⟩ <;> simp only
  rcases h2 : call plan m1 .noop with ⟨_ | e, m2⟩ <;> simp only
  cases doChmod <;> simp only [if_true, if_false, Bool.false_eq_true]
  rcases h3 : call plan m2 (.chmodPart perms) with ⟨_ | e, m3⟩ <;> simp only
  have hopen : m3.fs.openf.isSome = true := by
    obtain ⟨fa, hfa, ha⟩ := call_ok_step h1
    obtain ⟨fb, hfb, hb⟩ := call_ok_step h2
    rw [call_fail_openf h3]
    simp only [FS.step, Except.ok.injEq] at hb
    rw [← hb, hfb]
    exact openPart_openf ha
  simp only [fclose, hopen, if_true]

/-- `rmPart` depends on the configuration through `rm_part_on_exc` only -/
def rmPartB (b : Bool) (plan : Plan) (m : M) : M := rmPart { rmPartOnExc := b } plan m
theorem rmPart_eq (cfg : Cfg) (plan : Plan) (m : M) : rmPart cfg plan m = rmPartB cfg.rmPartOnExc plan m := rfl

/-- `_rm_part_on_exc` on ANY object whose `part_path` is the part name (the form the other proofs use) -/
theorem src_rm_part_raw (st : AtomicSaver.St Role Unit Unit Unit Unit) (plan : Plan) (m : M) (hp : st.part_path = .part) :
    AtomicSaver.rm_part_on_exc (msys plan) st (erase m) = (.ok (), st, erase (rmPartB st.rm_part_on_exc plan m)) := by
  cases hb : st.rm_part_on_exc <;>
  tie_eval [AtomicSaver.rm_part_on_exc, AtomicSaver.rm_part_on_exc.body, rmPartB, rmPart, excOf_isException,
    finishMethod, Blk.result]

/-- **`AtomicSaver._rm_part_on_exc`** as regenerated from the source = the model's `rmPart`: never raises, leaves the
    object alone, and the world is the model's (the unlink is the model's instrumented call; its failure is swallowed) -/
theorem src_rm_part_on_exc_eq_model (cfg : Cfg) (pf : Option Unit) (plan : Plan) (m : M) :
    AtomicSaver.rm_part_on_exc (msys plan) (conc cfg pf) (erase m)
      = (.ok (), conc cfg pf, erase (rmPart cfg plan m)) := by
  rw [src_rm_part_raw (conc cfg pf) plan m rfl, rmPart_eq]

/-- how a translated method relates to the model function it stands for: same exception (as the code sees it) or
    normal return; the world is the model's, up to the ghost counters; the object keeps the attributes of its
    configuration; and (`needFile`) after a normal return it holds the file object -/
def TiePost (cfg : Cfg) (needFile : Bool) (r : Option Errno × M)
    (res : Except Exc Unit × AtomicSaver.St Role Unit Unit Unit Unit × M) : Prop :=
  res.1 = liftR r.1 ∧ res.2.2 = erase r.2 ∧ SameCfg cfg res.2.1 ∧
    (needFile = true → r.1 = none → res.2.1.part_file = some ())

theorem callStat_error_ne {plan : Plan} {m m2 : M} {e : Errno} (h : callStat plan m = (.error e, m2)) : e ≠ ENOENT := by
  unfold callStat at h
  split at h
  · split at h <;> simp at h
    obtain ⟨rfl, _⟩ := h; assumption
  · simp at h
  · simp at h

attribute [local simp] src_set_cloexec_eq_model src_atomic_rename_eq_model src_rm_part_raw rmPart_eq excOf_isException unwrap

/-- **`AtomicSaver._open_part_file`** as regenerated from the source = the model's choice of permissions followed by
    `openPartFile` (`os.open` with `O_EXCL`, `set_cloexec`, `os.fdopen`, `os.chmod`, and on a failure the clean-up:
    close the file object or the descriptor, `_rm_part_on_exc()`, re-raise - a failing close replaces the exception):
    same exception or normal return, same world; the object keeps its configuration and, on success, holds the
    file object.  Hypothesis: permission bits of existing files are 12-bit numbers (`stat.S_IMODE` gives them back). -/
theorem src_open_part_file_eq_model (cfg : Cfg) (pf : Option Unit) (plan : Plan) (m : M) (hm : ModesOk m.fs) :
    TiePost cfg true (openPartFileM cfg plan m) (AtomicSaver.open_part_file (msys plan) (conc cfg pf) (erase m)) := by
  simp only [openPartFileM, openPartFile_eq_F]
  cases hp : cfg.perms with
  | some p =>
    simp only
    tie_eval [AtomicSaver.open_part_file, AtomicSaver.open_part_file.body, openPartFileF]
    all_goals simp [TiePost, finishMethod, Blk.result, SameCfg, hp]
  | none =>
    rcases hcs : callStat plan m with ⟨e | _ | mode, m2⟩ <;> simp only
    · have hno := excOf_stat_handler e (callStat_error_ne hcs)
      cases hos : (excOf e).isOSError <;>
        tie_eval [AtomicSaver.open_part_file, AtomicSaver.open_part_file.body, msys_stat]
      all_goals simp [TiePost, finishMethod, Blk.result, SameCfg, hp]
    · tie_eval [AtomicSaver.open_part_file, AtomicSaver.open_part_file.body, openPartFileF, msys_stat, excOf_enoent,
        Exc.isOSError, RW_PERMS]
      all_goals simp [TiePost, finishMethod, Blk.result, SameCfg, hp]
    · tie_eval [AtomicSaver.open_part_file, AtomicSaver.open_part_file.body, openPartFileF, msys_stat,
        S_IMODE_reg (callStat_mode_lt hm hcs)]
      all_goals simp [TiePost, finishMethod, Blk.result, SameCfg, hp]

theorem call_unlink_modesOk {plan : Plan} {m : M} (h : ModesOk m.fs) : ModesOk (call plan m .unlinkPart).2.fs := by
  have hi : (call plan m .unlinkPart).2.fs.inodes = m.fs.inodes := by
    have hexe : ∀ m0 : M, (exe m0 .unlinkPart).2.fs.inodes = m0.fs.inodes := by
      intro m0; unfold exe
      cases hs : m0.fs.step .unlinkPart with
      | error e => rfl
      | ok fs1 =>
        simp only [FS.step, FS.unlinkPart] at hs
        split at hs <;> simp at hs
        subst hs; rfl
    unfold call; split
    · rfl
    · exact hexe m
    · rw [hexe, env_inodes]
  intro i hin; rw [hi] at hin; exact h i hin

set_option hygiene false in
/-- after `tie_callee`: what the callee's tie theorem `hk` says about the three components -/
macro "tie_use " hk:ident : tactic => `(tactic| (
  simp only [TiePost, SameCfg] at $hk:ident
  obtain ⟨h1, h2, h3, h4⟩ := $hk
  subst h1 h2))

@[simp] theorem excOf_eexist : excOf EEXIST = Exc.osError 17 := by decide

/-- **`AtomicSaver.setup`** as regenerated from the source = the model's `setup`: the refusal (`overwrite=False` and the
    destination exists: `OSError(EEXIST)`, no call made), the removal of a stale part file with `overwrite_part`
    (`os.path.lexists` is an uncounted probe), then `_open_part_file()` (through its own tie theorem) -/
theorem src_setup_eq_model (cfg : Cfg) (pf : Option Unit) (plan : Plan) (m : M) (hm : ModesOk m.fs) :
    TiePost cfg true (setup cfg plan m) (AtomicSaver.setup (msys plan) (conc cfg pf) (erase m)) := by
  rw [setup_eq_openPartFileM]
  have hk0 := src_open_part_file_eq_model cfg pf plan m hm
  have hk1 := src_open_part_file_eq_model cfg pf plan (call plan m .unlinkPart).2 (call_unlink_modesOk hm)
  -- in the order in which the code looks: `overwrite` only when the destination exists, the part name only with
  -- `overwrite_part` (`rotate_left` brings the case that is split further to the front)
  cases hd : m.fs.dir.dest.isSome
  rotate_left
  cases ho : cfg.overwrite
  all_goals (cases hop : cfg.overwritePart; rotate_left; cases hpp : m.fs.dir.part.isSome)
  all_goals
    simp only [Bool.and_true, Bool.and_false, Bool.true_and, Bool.false_and, Bool.not_true, Bool.not_false, if_true, if_false, Bool.false_eq_true]
    tie_eval [AtomicSaver.setup, AtomicSaver.setup.body]
  -- what is left has raised (refusal, failed unlink) or is stuck at `_open_part_file()`, on `m` or after the unlink
  all_goals first
    | (tie_callee
       first | (clear hk1; tie_use hk0) | (clear hk0; tie_use hk1)
       generalize openPartFileM cfg plan _ = r at *
       rcases r with ⟨_ | _, _⟩ <;> simp [TiePost, finishMethod, Blk.result, SameCfg]
       · exact ⟨h3, h4 trivial rfl⟩
       · exact h3)
    | simp [TiePost, finishMethod, Blk.result, SameCfg, Exc.osError]

/-- what `__exit__` does with the outcome `o` the model computes: when the block raised it returns normally (None:
    the block's exception goes on), otherwise it raises the error of the failed step -/
def exitResult (bexc : Option Outcome) (o : Outcome) : Except Exc Unit :=
  match bexc with
  | some _ => .ok ()
  | none =>
    match o with
    | .osErr e => .error (excOf e)
    | _ => .ok ()

def TieExit (cfg : Cfg) (bexc : Option Outcome) (r : Outcome × M)
    (res : Except Exc Unit × AtomicSaver.St Role Unit Unit Unit Unit × M) : Prop :=
  res.1 = exitResult bexc r.1 ∧ res.2.2 = erase r.2 ∧ SameCfg cfg res.2.1

/-- **`AtomicSaver.__exit__`** as regenerated from the source = the model's `finishG`: `flush()`, `os.fsync(fileno())`,
    `close()` in the `finally` clause (an exception of `close()` replaces an earlier one), then `atomic_rename` when the
    block did not raise; on any `Exception` of these steps `_rm_part_on_exc()` and either a normal return (the block's
    exception goes on, unmasked) or the re-raise; `_rm_part_on_exc()` when only the block raised.  For every block
    outcome `bexc`, every plan, every state: same result, same world, same object. -/
theorem src_exit_eq_model (cfg : Cfg) (plan : Plan) (m : M) (bexc : Option Outcome) (ev et : Option Unit) :
    TieExit cfg bexc (finishG cfg plan m bexc)
      (AtomicSaver.exit (msys plan) (conc cfg (some ())) (bexc.map fun _ => ()) ev et (erase m)) := by
  simp only [finishG, syncCloseG, publish_eq_atomicRenameM]
  -- flush / fsync / close come first whatever the block did and whatever `overwrite` says; only then the cases
  tie_eval [AtomicSaver.exit, AtomicSaver.exit.body]
  all_goals (cases bexc <;> simp only [Option.map, Option.getD])
  all_goals (cases hov : cfg.overwrite <;> tie_eval [atomicRenameM])
  all_goals (simp [TieExit, exitResult, finishMethod, Blk.result, SameCfg, hov])

def TieEnter (cfg : Cfg) (r : Option Errno × M)
    (res : Except Exc (Option Unit) × AtomicSaver.St Role Unit Unit Unit Unit × M) : Prop :=
  res.1 = (match r.1 with | some e => .error (excOf e) | none => .ok (some ())) ∧ res.2.2 = erase r.2 ∧
    SameCfg cfg res.2.1 ∧ (r.1 = none → res.2.1.part_file = some ())

/-- **`AtomicSaver.__enter__`** = `setup()`; the value handed to the `with` block is the part file object -/
theorem src_enter_eq_model (cfg : Cfg) (pf : Option Unit) (plan : Plan) (m : M) (hm : ModesOk m.fs) :
    TieEnter cfg (setup cfg plan m) (AtomicSaver.enter (msys plan) (conc cfg pf) (erase m)) := by
  have hk := src_setup_eq_model cfg pf plan m hm
  simp [AtomicSaver.enter, AtomicSaver.enter.body]
  tie_callee
  tie_use hk
  generalize setup cfg plan m = tie_m at *
  rcases tie_m with ⟨_ | _, _⟩ <;> simp [TieEnter, finishMethod, Blk.result, SameCfg]
  · have h5 := h4 trivial rfl
    exact ⟨h5, h3, h5⟩
  · exact h3

theorem codeOf_excOf (e : Errno) : codeOf (excOf e) = e := by
  unfold excOf
  by_cases h1 : e < 1000
  · simp [h1, codeOf]
  · by_cases h2 : e = 1000
    · simp [h2, codeOf]
    · simp [h1, h2, codeOf]

theorem fcall_congr {plan : Plan} {m m2 : M} (ev : Ev) (h : erase m = erase m2) :
    (fcall plan m ev).1 = (fcall plan m2 ev).1 ∧ erase (fcall plan m ev).2 = erase (fcall plan m2 ev).2 := by
  have a := fcall_erase plan m ev; have b := fcall_erase plan m2 ev
  rw [h] at a; exact ⟨a.1.symm.trans b.1, a.2.symm.trans b.2⟩

theorem fclose_congr {plan : Plan} {m m2 : M} (h : erase m = erase m2) :
    (fclose plan m).1 = (fclose plan m2).1 ∧ erase (fclose plan m).2 = erase (fclose plan m2).2 := by
  have a := fclose_erase plan m; have b := fclose_erase plan m2
  rw [h] at a; exact ⟨a.1.symm.trans b.1, a.2.symm.trans b.2⟩

theorem opCall_congr {plan : Plan} {m m2 : M} (op : Op) (h : erase m = erase m2) :
    (opCall plan m op).1 = (opCall plan m2 op).1 ∧ erase (opCall plan m op).2 = erase (opCall plan m2 op).2 := by
  cases op
  · exact fcall_congr _ h
  · exact fcall_congr _ h
  · exact fclose_congr h

/-- the block's own calls do not read the ghost counters either -/
theorem runOps_congr (plan : Plan) (ops : List Op) : ∀ {m m2 : M}, erase m = erase m2 →
    (runOps plan m ops).1 = (runOps plan m2 ops).1 ∧ erase (runOps plan m ops).2 = erase (runOps plan m2 ops).2 := by
  induction ops with
  | nil => intro m m2 h; exact ⟨rfl, h⟩
  | cons op ops ih =>
    intro m m2 h
    have c := opCall_congr (plan := plan) op h
    rw [runOps_cons, runOps_cons]
    rcases h1 : opCall plan m op with ⟨_ | e, a⟩ <;> rcases h2 : opCall plan m2 op with ⟨_ | e2, a2⟩ <;>
      rw [h1, h2] at c <;> simp only at c ⊢
    · exact ih c.2
    · exact absurd c.1 (by simp)
    · exact absurd c.1 (by simp)
    · exact c

/-- `with AtomicSaver(dest, **cfg) as f: <script>` - Python's `with` protocol around the GENERATED `__enter__` and
    `__exit__`: an exception of `__enter__` propagates (no `__exit__`); the block is the script's calls on the file
    object (they are the test's, not boltons': the model's `runOps`); `__exit__` gets the exception information
    (`None` three times, or three objects); when it returns (`None`: false) the block's exception, if any, goes on;
    when it raises, that exception replaces it.  The world starts as `M.start fs envIno`; on a fresh object. -/
def srcWith (cfg : Cfg) (sc : Script) (plan : Plan) (fs : FS) (envIno : Nat) : Outcome × M :=
  match AtomicSaver.enter (msys plan) (conc cfg none) (erase (M.start fs envIno)) with
  | (.error x, _, w1) => (.osErr (codeOf x), w1)
  | (.ok _, st, w1) =>
    let blk := runOps plan w1 sc.ops
    let bexc := scriptOutcome sc blk.1
    match AtomicSaver.exit (msys plan) st (bexc.map fun _ => ()) (bexc.map fun _ => ()) (bexc.map fun _ => ())
        (erase blk.2) with
    | (.error x, _, w3) => (.osErr (codeOf x), w3)
    | (.ok _, _, w3) => (bexc.getD .ok, w3)

theorem finishG_none_ne_bodyExc (cfg : Cfg) (plan : Plan) (m : M) : (finishG cfg plan m none).1 ≠ .bodyExc := by
  unfold finishG
  rcases syncCloseG plan m with ⟨_ | e, m3⟩ <;> simp only [Option.getD]
  · unfold publish
    split
    · rcases call plan m3 .renamePartDest with ⟨_ | e, m4⟩ <;> simp
    · rcases call plan m3 .linkPartDest with ⟨_ | e, m4⟩ <;> simp only
      · rcases call plan m4 .unlinkPart with ⟨_ | e, m5⟩ <;> simp
      · simp
  · simp

/-- **The source, run under the `with` protocol, IS the transliteration**: for every configuration, with-block script,
    fault plan (any number of failing calls, any error, the destination appearing before any call) and initial file
    system with 12-bit permission bits, the generated `__enter__` / `__exit__` (and through them `setup`,
    `_open_part_file`, `_rm_part_on_exc`, `atomic_rename`, `set_cloexec`) produce the outcome of `runScript` and its
    machine state - file system, call count, trace of successful events, recorded observations `M.obs`, the
    environment's flag - up to the two ghost counters. -/
theorem src_with_eq_runScript (cfg : Cfg) (sc : Script) (plan : Plan) (fs : FS) (e : Nat) (hm : ModesOk fs) :
    srcWith cfg sc plan fs e = ((runScript cfg sc plan fs e).1, erase (runScript cfg sc plan fs e).2) := by
  have hk := src_enter_eq_model cfg none plan (M.start fs e) hm
  unfold srcWith runScript
  generalize AtomicSaver.enter (msys plan) (conc cfg none) (erase (M.start fs e)) = res at *
  obtain ⟨r, st, w1⟩ := res
  simp only [TieEnter, SameCfg] at hk
  obtain ⟨h1, h2, h3, h4⟩ := hk
  subst h1 h2
  rcases hs : setup cfg plan (M.start fs e) with ⟨_ | err, m1⟩ <;> rw [hs] at h4 <;> simp only at h4 ⊢
  · -- `__enter__` returned: the block, then `__exit__`
    have hst : st = conc cfg (some ()) := by rw [h3, h4 trivial]
    subst hst
    have hops := runOps_congr plan sc.ops (m := erase m1) (m2 := m1) (erase_erase m1)
    rw [hops.1, hops.2]
    have hx := src_exit_eq_model cfg plan (runOps plan m1 sc.ops).2 (scriptOutcome sc (runOps plan m1 sc.ops).1)
      ((scriptOutcome sc (runOps plan m1 sc.ops).1).map fun _ => ()) ((scriptOutcome sc (runOps plan m1 sc.ops).1).map fun _ => ())
    tie_callee
    simp only [TieExit] at hx
    obtain ⟨g1, g2, _⟩ := hx
    subst g1 g2
    cases hb : scriptOutcome sc (runOps plan m1 sc.ops).1 with
    | some b =>
      simp only [exitResult, Option.getD]
      rw [exit_never_masks_block_exception]
    | none =>
      have hne := finishG_none_ne_bodyExc cfg plan (runOps plan m1 sc.ops).2
      cases ho : (finishG cfg plan (runOps plan m1 sc.ops).2 none).1 with
      | ok => simp [exitResult, ho]
      | bodyExc => exact absurd ho hne
      | osErr e2 => simp [exitResult, ho, codeOf_excOf]
  · simp [codeOf_excOf]

/-- **Every run of the SOURCE is accepted** (`C05.transliteration_runs_are_accepted` transported along the tie): for
    every configuration, script and fault plan without interference by another process and without an injected ENOENT,
    what a recorder of the calls of the generated `__enter__` / `__exit__` observes (`M.obs`) is accepted by
    `C05.Accept` - hence every `accepted_*` theorem of the acceptance layer holds of the source's own runs. -/
theorem src_runs_are_accepted (cfg : Cfg) (sc : Script) (plan : Plan) (fs0 : FS) (e : Nat) (hm : ModesOk fs0)
    (hne : ∀ k, plan k ≠ .appear) (hnn : ∀ k, plan k ≠ .fail ENOENT) :
    Accept cfg sc.raises (decide ((srcWith cfg sc plan fs0 e).1 = .ok)) sc.content fs0.umask fs0.destMode
      (srcWith cfg sc plan fs0 e).2.obs = true := by
  rw [src_with_eq_runScript cfg sc plan fs0 e hm]
  exact transliteration_runs_are_accepted cfg sc plan fs0 e hne hnn

/-- **A fault-free save by the SOURCE emits the safe trace** (`C04.saver_emits_safeTrace` /
    `C05.nofault_trace_is_saverTrace` along the tie): with a write-only block and nothing in the way, the successful
    events of the generated code are exactly `C04.saverTrace`, which satisfies `C04.SafeTrace`. -/
theorem src_nofault_trace_is_safe (cfg : Cfg) (body : Body) (fs0 : FS) (e : Nat) (hm : ModesOk fs0)
    (hpart : fs0.dir.part = none ∨ cfg.overwritePart = true) (hdest : fs0.dir.dest = none ∨ cfg.overwrite = true) :
    (srcWith cfg (Script.ofBody body) noFaults fs0 e).2.tr = saverTrace cfg fs0 body ∧
    SafeTrace (srcWith cfg (Script.ofBody body) noFaults fs0 e).2.tr = true := by
  rw [src_with_eq_runScript cfg _ noFaults fs0 e hm]
  have h := nofault_trace_is_saverTrace cfg body fs0 e hpart hdest
  simp only [fin] at h
  simp only [erase_tr, h]
  exact ⟨trivial, C04.saver_emits_safeTrace cfg fs0 body⟩

/-- **What the SOURCE leaves behind is what the transliteration leaves behind** -/
theorem src_fs_eq_model (cfg : Cfg) (sc : Script) (plan : Plan) (fs0 : FS) (e : Nat) (hm : ModesOk fs0) :
    (srcWith cfg sc plan fs0 e).2.fs = (fin cfg sc plan fs0 e).fs ∧
    (srcWith cfg sc plan fs0 e).2.tr = (fin cfg sc plan fs0 e).tr ∧
    (srcWith cfg sc plan fs0 e).2.obs = (fin cfg sc plan fs0 e).obs ∧
    (srcWith cfg sc plan fs0 e).1 = out cfg sc plan fs0 e := by
  rw [src_with_eq_runScript cfg sc plan fs0 e hm]
  exact ⟨rfl, rfl, rfl, rfl⟩

/-! ## non-vacuity: the generated definitions evaluated on concrete worlds (kernel `decide`) -/

example : ModesOk fsEx ∧ ModesOk fsEx2 := by
  constructor <;> (intro i hi; simp [fsEx, fsEx2, envInode, envMode] at hi; rcases hi with rfl | rfl <;> decide)

/-- a complete save through the generated `__enter__` / `__exit__`: published content, mode of the replaced file -/
example : (srcWith {} bodyEx noFaults fsEx 1).1 = .ok ∧
    (srcWith {} bodyEx noFaults fsEx 1).2.fs.readDest = some [78, 69, 87] ∧
    (srcWith {} bodyEx noFaults fsEx 1).2.fs.destMode = some 0o640 ∧
    (srcWith {} bodyEx noFaults fsEx 1).2.fs.dir.part = none := by decide

/-- `os.fsync` made to fail (a non-OSError class, 1002): the exception reaches the caller, the destination keeps its
    old content, the part file is removed -/
example : (srcWith {} bodyEx (failAt 7 1002) fsEx 1).1 = .osErr 1002 ∧
    (srcWith {} bodyEx (failAt 7 1002) fsEx 1).2.fs.readDest = some [79, 76, 68] ∧
    (srcWith {} bodyEx (failAt 7 1002) fsEx 1).2.fs.dir.part = none := by decide

/-- a stale part file without `overwrite_part`: `os.open(O_EXCL)` refuses, the stale file is left as it was -/
example : (srcWith {} bodyEx noFaults fsEx2 1).1 = .osErr EEXIST ∧
    (srcWith {} bodyEx noFaults fsEx2 1).2.fs.readPart = some [9, 9] := by decide

/-- `overwrite=False` and the destination exists: refused before any call -/
example : (srcWith { overwrite := false } bodyEx noFaults fsEx 1).1 = .osErr EEXIST ∧
    (srcWith { overwrite := false } bodyEx noFaults fsEx 1).2.n = 0 := by decide

/-- the block raises: `__exit__` returns normally (the block's exception goes on), part file removed -/
example : (srcWith {} ⟨[.write [1] 0], true⟩ noFaults fsEx 1).1 = .bodyExc ∧
    (srcWith {} ⟨[.write [1] 0], true⟩ noFaults fsEx 1).2.fs.dir.part = none ∧
    (srcWith {} ⟨[.write [1] 0], true⟩ noFaults fsEx 1).2.fs.readDest = some [79, 76, 68] := by decide

/-- the single methods on concrete worlds: `_rm_part_on_exc` swallows a failing unlink; `atomic_rename` without
    `overwrite` links and unlinks; `set_cloexec` changes nothing; `replace` renames; `_open_part_file`, `setup`,
    `__enter__` create the part file with the mode of the replaced file and hand out the file object -/
example : (AtomicSaver.rm_part_on_exc (msys (failAt 0 13)) (conc {} none) (erase (M.start fsEx2 1))).1.toOption = some () ∧
    (AtomicSaver.rm_part_on_exc (msys (failAt 0 13)) (conc {} none) (erase (M.start fsEx2 1))).2.2.fs.dir.part = some 0 ∧
    (AtomicSaver.rm_part_on_exc (msys noFaults) (conc {} none) (erase (M.start fsEx2 1))).2.2.fs.dir.part = none := by decide
example : (atomic_rename (msys noFaults) Role.part Role.dest false (erase (M.start fsEx2 1))).2.tr = [.linkPartDest, .unlinkPart] ∧
    (atomic_rename (msys noFaults) Role.part Role.dest true (erase (M.start fsEx2 1))).2.tr = [.renamePartDest] ∧
    (replace (msys noFaults) Role.part Role.dest (erase (M.start fsEx2 1))).2.tr = [.renamePartDest] ∧
    (set_cloexec (msys noFaults) () (erase (M.start fsEx2 1))).1.toOption = some () ∧
    (set_cloexec (msys noFaults) () (erase (M.start fsEx2 1))).2.n = 0 := by decide
example : (AtomicSaver.open_part_file (msys noFaults) (conc {} none) (erase (M.start fsEx 1))).2.2.tr
      = [.openPart true true 0o640, .noop, .chmodPart 0o640] ∧
    (AtomicSaver.setup (msys noFaults) (conc { overwritePart := true } none) (erase (M.start fsEx2 1))).2.2.tr
      = [.unlinkPart, .openPart true true 0o666, .noop] ∧
    (AtomicSaver.enter (msys noFaults) (conc {} none) (erase (M.start fsEx 1))).1.toOption = some (some ()) ∧
    (AtomicSaver.exit (msys noFaults) (conc {} (some ())) none none none
        (AtomicSaver.enter (msys noFaults) (conc {} none) (erase (M.start fsEx 1))).2.2).2.2.tr
      = [.openPart true true 0o640, .noop, .chmodPart 0o640, .flush, .fsync, .close, .renamePartDest] := by decide

end C05
