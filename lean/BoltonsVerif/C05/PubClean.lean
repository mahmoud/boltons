import BoltonsVerif.C05.Walk
import BoltonsVerif.C05.AcceptProofs
/-
C05 — no listed step fails before a publication.  This is a fact about the acceptance automaton alone: once a listed
step (creating / chmod-ing the part file, write, flush, fsync, close, link / rename) has reported an error before any
publication, the `failed` flag is up and the guard `okAllowed` lets no publication through (`A.run_failed`), so a trace
the automaton reads to the end has `failedBefore = false` whenever it contains a publication (`A.run_pubClean`).  The
transliteration's own record is such a trace under every plan (`runScript_ran`): it attempts the publication only when
everything before it went through.
-/
namespace C05
open C04

theorem A.run_failed {cfg : Cfg} {raises : Bool} : ∀ (t : List Obs) (a a' : A), a.run cfg raises t = some a' →
    (a.failed = true → a.s.published = false) → a'.failed = true → a'.s.published = false
  | [], a, a', h, hf => by simp [A.run] at h; subst h; exact hf
  | o :: t, a, a', h, hf => by
    obtain ⟨a1, h1, h2⟩ := A.run_cons_some.1 h
    exact A.run_failed t a1 a' h2 (A.step_failed h1 hf)

theorem A.run_pubClean {cfg : Cfg} {raises : Bool} {t : List Obs} {a : A} (h : A.init.run cfg raises t = some a)
    (hp : publishes (oks t) = true) : failedBefore t = false := by
  have hpa : a.s.published = true := (published_of_init (A.run_st cfg raises t A.init a h)).trans hp
  cases hfb : failedBefore t with
  | false => rfl
  | true =>
    have hf := A.init_run_failed h hfb
    have := A.run_failed t A.init a h (fun hh => by cases hh) hf
    rw [hpa] at this; cases this

theorem runScript_pubClean_anyPlan (cfg : Cfg) (sc : Script) (plan : Plan) (fs0 : FS) (e : Nat) :
    publishes (oks (runScript cfg sc plan fs0 e).2.obs) = true → failedBefore (runScript cfg sc plan fs0 e).2.obs = false := by
  obtain ⟨a, ha⟩ := runScript_ran cfg fs0 e sc plan
  exact A.run_pubClean ha

/-- `runScript_pubClean_anyPlan` with the hypothesis under which the properties quote it (which is not needed) -/
theorem runScript_pubClean (cfg : Cfg) (sc : Script) (plan : Plan) (fs0 : FS) (e : Nat) (hp : NoEnv plan) :
    publishes (oks (runScript cfg sc plan fs0 e).2.obs) = true → failedBefore (runScript cfg sc plan fs0 e).2.obs = false :=
  runScript_pubClean_anyPlan cfg sc plan fs0 e

end C05
