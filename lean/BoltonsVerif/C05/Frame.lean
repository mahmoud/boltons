import BoltonsVerif.C05.Model
/-
C05 — a frame principle for the transliteration: a predicate on the machine state that every primitive instrumented
call preserves (`call`, `callClose`, `callStat`, `fcall`, `fclose`, the bookkeeping of `rmPart`, the early refusal) is
preserved by `setup`, the with-block, `__exit__` and the whole `runScript`, whatever the plan and the control flow.
-/
namespace C05
open C04

structure Frame (P : M → Prop) (plan : Plan) : Prop where
  call : ∀ m ev, P m → P (call plan m ev).2
  callClose : ∀ m, P m → P (callClose plan m).2
  callStat : ∀ m, P m → P (callStat plan m).2
  fcall : ∀ m ev, P m → P (fcall plan m ev).2
  fclose : ∀ m, P m → P (fclose plan m).2
  rm : ∀ cfg m, P m → P (rmPart cfg plan m)
  refuse : ∀ m, P m → P { m with errs := m.errs + 1 }

variable {P : M → Prop} {plan : Plan}

theorem andThen_frame {r : Option Errno × M} {α : Type} {f : Errno → M → α × M} {k : M → α × M}
    (h : P r.2) (hf : ∀ e m1, P m1 → P (f e m1).2) (hk : ∀ m1, P m1 → P (k m1).2) :
    P (match r with | (some e, m1) => f e m1 | (none, m1) => k m1).2 := by
  obtain ⟨_ | e, m1⟩ := r
  · exact hk m1 h
  · exact hf e m1 h

theorem frame_openPartFile (F : Frame P plan) (cfg : Cfg) (m : M) (p : Nat) (c : Bool) (h : P m) :
    P (openPartFile cfg plan m p c).2 := by
  unfold openPartFile
  refine andThen_frame (F.call m _ h) (fun e m1 h1 => h1) fun m1 h1 => ?_
  refine andThen_frame (F.call m1 .noop h1) (fun e m2 h2 => F.rm cfg _ (F.call m2 _ h2)) fun m2 h2 => ?_
  cases c with
  | false => exact h2
  | true => exact andThen_frame (F.call m2 _ h2) (fun e m3 h3 => F.rm cfg _ (F.callClose m3 h3)) (fun m3 h3 => h3)

/-- the part of the model's `setup` that is `_open_part_file()`: choice of the permission bits (explicit, else those of
    the replaced file - `os.stat` -, else `RW_PERMS` subject to the umask), then `openPartFile` -/
def openPartFileM (cfg : Cfg) (plan : Plan) (m : M) : Option Errno × M :=
  match cfg.perms with
  | some p => openPartFile cfg plan m p true
  | none =>
    match callStat plan m with
    | (.error e, m2) => (some e, m2)
    | (.ok (some mode), m2) => openPartFile cfg plan m2 mode true
    | (.ok none, m2) => openPartFile cfg plan m2 RW_PERMS false

theorem setup_eq_openPartFileM (cfg : Cfg) (plan : Plan) (m : M) :
    setup cfg plan m =
      if m.fs.dir.dest.isSome && !cfg.overwrite then (some EEXIST, { m with errs := m.errs + 1 }) else
      match (if cfg.overwritePart && m.fs.dir.part.isSome then call plan m .unlinkPart else (none, m)) with
      | (some e, m1) => (some e, m1)
      | (none, m1) => openPartFileM cfg plan m1 := by
  unfold setup openPartFileM
  split
  · rfl
  · rcases (if cfg.overwritePart && m.fs.dir.part.isSome then call plan m .unlinkPart else (none, m)) with ⟨_ | e, m1⟩ <;> rfl

theorem setup_refuses (cfg : Cfg) (plan : Plan) (m : M) (hd : m.fs.dir.dest ≠ none) (ho : cfg.overwrite = false) :
    setup cfg plan m = (some EEXIST, { m with errs := m.errs + 1 }) := by
  unfold setup
  cases h : m.fs.dir.dest with
  | none => exact absurd h hd
  | some i => simp [ho]

theorem frame_openPartFileM (F : Frame P plan) (cfg : Cfg) (m : M) (h : P m) : P (openPartFileM cfg plan m).2 := by
  unfold openPartFileM
  cases cfg.perms with
  | some p => exact frame_openPartFile F cfg _ _ _ h
  | none =>
    dsimp only
    have e2 := F.callStat m h
    rcases h2 : callStat plan m with ⟨e | _ | md, m2⟩ <;> rw [h2] at e2
    · exact e2
    · exact frame_openPartFile F cfg _ _ _ e2
    · exact frame_openPartFile F cfg _ _ _ e2

theorem frame_setup (F : Frame P plan) (cfg : Cfg) (m : M) (h : P m) : P (setup cfg plan m).2 := by
  rw [setup_eq_openPartFileM]
  split
  · exact F.refuse m h
  · have hx : P ((if cfg.overwritePart && m.fs.dir.part.isSome then call plan m .unlinkPart else (none, m)) : Option Errno × M).2 := by
      split
      · exact F.call m .unlinkPart h
      · exact h
    generalize (if cfg.overwritePart && m.fs.dir.part.isSome then call plan m .unlinkPart else (none, m) : Option Errno × M) = x at hx
    obtain ⟨_ | e, m1⟩ := x
    · exact frame_openPartFileM F cfg m1 hx
    · exact hx

def opCall (plan : Plan) (m : M) : Op → Option Errno × M
  | .write d k => fcall plan m (.write d k)
  | .flush => fcall plan m .flush
  | .close => fclose plan m

theorem runOps_cons (plan : Plan) (m : M) (op : Op) (ops : List Op) :
    runOps plan m (op :: ops) =
      match opCall plan m op with
      | (some e, m1) => (some e, m1)
      | (none, m1) => runOps plan m1 ops := by
  cases op <;> rfl

theorem Frame.opCall (F : Frame P plan) (m : M) (op : Op) (h : P m) : P (opCall plan m op).2 := by
  cases op
  · exact F.fcall m _ h
  · exact F.fcall m _ h
  · exact F.fclose m h

theorem frame_runOps (F : Frame P plan) : ∀ (ops : List Op) (m : M), P m → P (runOps plan m ops).2
  | [], m, h => h
  | op :: ops, m, h => by
    rw [runOps_cons]
    exact andThen_frame (F.opCall m op h) (fun e m1 h1 => h1) (fun m1 h1 => frame_runOps F ops m1 h1)

theorem frame_syncCloseG (F : Frame P plan) (m : M) (h : P m) : P (syncCloseG plan m).2 := by
  unfold syncCloseG
  dsimp only
  apply F.fclose
  have e1 := F.fcall m .flush h
  cases h1 : (fcall plan m .flush).1 with
  | some e => exact e1
  | none => exact F.call _ _ e1

theorem frame_publish (F : Frame P plan) (cfg : Cfg) (m : M) (h : P m) : P (publish cfg plan m).2 := by
  unfold publish
  split
  · exact andThen_frame (F.call m _ h) (fun e m1 h1 => F.rm cfg m1 h1) (fun m1 h1 => h1)
  · refine andThen_frame (F.call m _ h) (fun e m1 h1 => F.rm cfg m1 h1) (fun m1 h1 => ?_)
    exact andThen_frame (F.call m1 _ h1) (fun e m2 h2 => F.rm cfg m2 h2) (fun m2 h2 => h2)

theorem frame_finishG (F : Frame P plan) (cfg : Cfg) (m : M) (b : Option Outcome) (h : P m) :
    P (finishG cfg plan m b).2 := by
  unfold finishG
  refine andThen_frame (frame_syncCloseG F m h) (fun e m3 h3 => F.rm cfg m3 h3) (fun m3 h3 => ?_)
  cases b with
  | some x => exact F.rm cfg _ h3
  | none => exact frame_publish F cfg _ h3

theorem frame_runScript (F : Frame P plan) (cfg : Cfg) (sc : Script) (fs0 : FS) (e : Nat) (h : P (M.start fs0 e)) :
    P (runScript cfg sc plan fs0 e).2 := by
  unfold runScript
  exact andThen_frame (frame_setup F cfg (M.start fs0 e) h) (fun e m1 h1 => h1)
    (fun m1 h1 => frame_finishG F cfg _ _ (frame_runOps F _ _ h1))

def NoEnv (plan : Plan) : Prop := ∀ k, plan k ≠ .appear

/-- the plan never answers ENOENT of its own (to `os.stat` that would mean "no destination" whatever is there) -/
def NoENOENT (plan : Plan) : Prop := ∀ k, plan k ≠ .fail ENOENT

/-- without interference the primitives touch the file system, the recorded events and the environment's flag only by
    executing events: what every executed event keeps, every primitive keeps -/
theorem frame_of_effect {Q : FS → List Ev → Bool → Prop} {plan : Plan} (hp : NoEnv plan)
    (step : ∀ fs tr d ev fs', fs.step ev = .ok fs' → Q fs tr d → Q fs' (tr ++ [ev]) d) :
    Frame (fun m => Q m.fs m.tr m.envDone) plan := by
  have hexe : ∀ (m : M) ev, Q m.fs m.tr m.envDone → Q (exe m ev).2.fs (exe m ev).2.tr (exe m ev).2.envDone := by
    intro m ev h
    unfold exe
    split
    · exact h
    · rename_i fs' hf; exact step _ _ _ _ _ hf h
  have hcall : ∀ (m : M) ev, Q m.fs m.tr m.envDone →
      Q (call plan m ev).2.fs (call plan m ev).2.tr (call plan m ev).2.envDone := by
    intro m ev h
    unfold call
    cases hpl : plan m.n with
    | fail e => exact h
    | pass => exact hexe m ev h
    | appear => exact absurd hpl (hp m.n)
  have hclose : ∀ (m : M), Q m.fs m.tr m.envDone →
      Q (callClose plan m).2.fs (callClose plan m).2.tr (callClose plan m).2.envDone := by
    intro m h
    unfold callClose
    cases hpl : plan m.n with
    | fail e =>
      dsimp only
      split
      · rename_i fs' hf; exact step _ _ _ _ _ hf h
      · exact h
    | pass => exact hexe m _ h
    | appear => exact absurd hpl (hp m.n)
  refine { call := hcall, callClose := hclose, callStat := ?_, fcall := ?_, fclose := ?_, rm := ?_, refuse := fun _ h => h }
  · intro m h
    unfold callStat
    cases hpl : plan m.n with
    | fail e => dsimp only; split <;> exact h
    | pass => exact h
    | appear => exact absurd hpl (hp m.n)
  · intro m ev h
    unfold fcall
    split
    · exact hcall m ev h
    · cases hpl : plan m.n with
      | fail e => exact h
      | pass => exact h
      | appear => exact absurd hpl (hp m.n)
  · intro m h
    unfold fclose
    split
    · exact hclose m h
    · cases hpl : plan m.n with
      | fail e => exact h
      | pass => exact h
      | appear => exact absurd hpl (hp m.n)
  · intro cfg m h
    unfold rmPart
    split
    · exact hcall m _ h
    · exact h

end C05
