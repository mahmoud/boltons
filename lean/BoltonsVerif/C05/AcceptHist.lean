import BoltonsVerif.C05.AcceptProofs
/-
C05 — histories of saves.  The state an accepted, executable trace leaves behind is again a legitimate
starting state (`Start`), so the `accepted_*` theorems apply to the next save on the same directory -
the retry, a second use of the same `AtomicSaver` object, another saver - and so on for any number of saves.
-/
namespace C05
open C04

theorem J.next_start {fs0 : FS} {e : Nat} {m : M} {s : St} {W : Bytes} (hj : J fs0 m s W)
    (hst : Start fs0 e) (hei : m.envIno = e) (hne : m.envDone = false) : Start m.fs e := by
  have hold := ginv_old_inodes hj.inv e hst.elt
  by_cases h0 : s.phase = .init
  · -- nothing created: same inode table; the part name as at the start or removed; destination as at the start
    have hino : m.fs.inodes = fs0.inodes := (ginv_inodes hj.inv).1 h0
    have hunp : s.published = false := by simp [St.published, h0]
    have hd := hj.dest hunp
    simp only [hne, Bool.false_eq_true, if_false] at hd
    have hp : m.fs.dir.part = fs0.dir.part ∨ m.fs.dir.part = none := by
      by_cases hu : Ev.unlinkPart ∈ m.tr
      · exact Or.inr ((hj.pinit h0).2 hu)
      · exact Or.inl ((hj.pinit h0).1 hu)
    refine ⟨⟨?_, ?_⟩, by rw [hino]; exact hst.elt, by rw [hold]; exact hst.eino, by rw [hd]; exact hst.edest, ?_⟩
    · intro i hi; rw [hino]; rw [hd] at hi; exact hst.wf.1 i hi
    · intro i hi; rw [hino]
      rcases hp with hp | hp
      · rw [hp] at hi; exact hst.wf.2 i hi
      · rw [hp] at hi; cases hi
    · rcases hp with hp | hp
      · rw [hp]; exact hst.epart
      · rw [hp]; simp
  · obtain ⟨x, hx⟩ := (ginv_inodes hj.inv).2 h0
    have hlen : m.fs.inodes.length = fs0.inodes.length + 1 := by rw [hx]; simp
    have hne' : fs0.inodes.length ≠ e := fun h => by have := hst.elt; omega
    -- the destination: as at the start, or the fresh inode
    have hdest : m.fs.dir.dest = fs0.dir.dest ∨ m.fs.dir.dest = some fs0.inodes.length := by
      cases hp : s.published with
      | false =>
        have hd := hj.dest hp
        simp only [hne, Bool.false_eq_true, if_false] at hd
        exact Or.inl hd
      | true => exact Or.inr (ginv_published hj.inv hp).1
    -- the part name: the fresh inode, or free
    have hpart := (St.part_or_gone h0).imp (GInv.part_some hj.inv) (GInv.part_none hj.inv)
    refine ⟨⟨?_, ?_⟩, by rw [hlen]; have := hst.elt; omega, by rw [hold]; exact hst.eino, ?_, ?_⟩
    · intro i hi
      rcases hdest with hd | hd
      · rw [hd] at hi; have := hst.wf.1 i hi; omega
      · rw [hd] at hi; cases hi; omega
    · intro i hi
      rcases hpart with hp | hp
      · rw [hp] at hi; cases hi; omega
      · rw [hp] at hi; cases hi
    · rcases hdest with hd | hd
      · rw [hd]; exact hst.edest
      · rw [hd]; intro h; cases h; exact hne' rfl
    · rcases hpart with hp | hp
      · rw [hp]; intro h; cases h; exact hne' rfl
      · rw [hp]; simp

theorem Observed.next_start {cfg raises ok content fs0 e t m} (h : Observed cfg raises ok content fs0 e t m)
    (hst : Start fs0 e) (hne : hasAppear t = false) : Start m.fs e := by
  obtain ⟨a, f⟩ := h.rj
  exact f.rj.j.next_start hst h.envIno (h.noenv hne)

/-- one save of a history -/
structure SaveObs where
  cfg : Cfg
  raises : Bool
  ok : Bool
  content : Bytes
  t : List Obs

/-- a history of saves on the same directory (a retry, the same `AtomicSaver` object used again, other
    savers ...): each one accepted and executable from the state its predecessor left, no other process interfering -/
inductive History (e : Nat) : FS → List SaveObs → FS → Prop
  | nil (fs : FS) : History e fs [] fs
  | cons (fs0 : FS) (s : SaveObs) (m : M) (rest : List SaveObs) (fs2 : FS) :
      Observed s.cfg s.raises s.ok s.content fs0 e s.t m → hasAppear s.t = false → History e m.fs rest fs2 →
      History e fs0 (s :: rest) fs2

end C05
