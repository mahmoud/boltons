import BoltonsVerif.C05.AcceptProofs
import BoltonsVerif.C05.Walk
/-
C05 — calls without effect are free.  What the end conditions and the theorems read off a trace of events - the bytes
written, the permission bits, whether an unlink of the part file comes first - does not see `Ev.noop`.  Observations
without effect on the acceptance automaton - successful calls without effect on the two names (`Ev.noop`: stat, lstat,
fdopen, fcntl, calls on unrelated paths, close of a closed object) and calls that failed on their own without being a
listed step (an `unlink` or `stat` answering ENOENT ...) - can be inserted or removed anywhere in a trace without
changing the verdict of `Accept`.  Also here: C04's `saverTrace`, all calls going through, is accepted.
-/
namespace C05
open C04

def notNoop : Ev → Bool
  | .noop => false
  | _ => true

/-- the first event with an effect is an unlink of the part file -/
def headUnlink : List Ev → Bool
  | [] => false
  | .noop :: t => headUnlink t
  | .unlinkPart :: _ => true
  | _ :: _ => false

theorem headUnlink_filter : ∀ (l : List Ev), headUnlink (l.filter notNoop) = headUnlink l
  | [] => rfl
  | ev :: l => by cases ev <;> simp [List.filter, notNoop, headUnlink, headUnlink_filter l]

theorem allWrites_filter : ∀ (l : List Ev), allWrites (l.filter notNoop) = allWrites l
  | [] => rfl
  | ev :: l => by cases ev <;> simp [List.filter, notNoop, allWrites, allWrites_filter l]

theorem mode_filter (um : Nat) : ∀ (l : List Ev) (cur : Option Nat),
    (l.filter notNoop).foldl (modeAfter um) cur = l.foldl (modeAfter um) cur
  | [], _ => rfl
  | ev :: l, cur => by cases ev <;> simp [List.filter, notNoop, modeAfter, mode_filter um l]

def isProbe : Obs → Bool
  | .ok .noop => true
  | .fail false false _ => true
  | _ => false

def dropProbes (t : List Obs) : List Obs := t.filter (fun o => !isProbe o)

theorem dropProbes_cons (o : Obs) (t : List Obs) :
    dropProbes (o :: t) = if isProbe o then dropProbes t else o :: dropProbes t := by
  cases h : isProbe o <;> simp [dropProbes, h]

theorem A.step_probe (cfg : Cfg) (raises : Bool) (a : A) (o : Obs) (h : isProbe o = true) :
    a.step cfg raises o = some a := by
  cases o with
  | ok ev => cases ev <;> simp [isProbe] at h; simp [A.step, okAllowed, St.step]
  | fail l i u =>
    cases l <;> cases i <;> simp [isProbe] at h
    simp [A.step]
  | failClosed l => simp [isProbe] at h
  | appear => simp [isProbe] at h

theorem A.run_dropProbes (cfg : Cfg) (raises : Bool) : ∀ (t : List Obs) (a : A),
    a.run cfg raises (dropProbes t) = a.run cfg raises t
  | [], a => rfl
  | o :: t, a => by
    rw [dropProbes_cons]
    cases hp : isProbe o with
    | true =>
      rw [if_pos rfl, A.run_dropProbes cfg raises t a]
      simp [A.run, A.step_probe cfg raises a o hp]
    | false =>
      simp only [Bool.false_eq_true, if_false, A.run]
      cases a.step cfg raises o with
      | none => rfl
      | some a' => exact A.run_dropProbes cfg raises t a'

theorem oks_dropProbes : ∀ (t : List Obs), (oks (dropProbes t)).filter notNoop = (oks t).filter notNoop
  | [] => rfl
  | o :: t => by
    rw [oks_cons o t, List.filter_append, ← oks_dropProbes t, dropProbes_cons]
    cases hp : isProbe o with
    | true =>
      rw [if_pos rfl]
      cases o with
      | ok ev => cases ev <;> simp [isProbe] at hp; simp [oks, notNoop]
      | fail l i u => simp [oks]
      | failClosed l => simp [isProbe] at hp
      | appear => simp [isProbe] at hp
    | false => rw [if_neg (by simp), oks_cons o (dropProbes t), List.filter_append]

theorem accept_dropProbes (cfg : Cfg) (raises ok : Bool) (content : Bytes) (um : Nat) (dm0 : Option Nat) (t : List Obs) :
    Accept cfg raises ok content um dm0 (dropProbes t) = Accept cfg raises ok content um dm0 t := by
  unfold Accept
  rw [A.run_dropProbes cfg raises t A.init]
  cases A.init.run cfg raises t with
  | none => rfl
  | some a =>
    simp only [accEnd]
    rw [← allWrites_filter (oks (dropProbes t)), ← mode_filter um (oks (dropProbes t)), oks_dropProbes, allWrites_filter, mode_filter]

theorem oks_map_ok (l : List Ev) : oks (l.map Obs.ok) = l := by
  induction l with
  | nil => rfl
  | cons e t ih => simp [oks, ih]

/-- on a trace of successful events the C05 automaton adds to C04's: nothing has failed, no publication after a raising
    block, `rename` only with `overwrite`, and without `overwrite_part` no unlink of the part file before its creation -
    the converses of `A.run_failed`, `RJ.raised`, `RJ.norename`, `A.run_headUnlink` -/
theorem A.run_map_ok (cfg : Cfg) (raises : Bool) : ∀ (l : List Ev) (a : A) (s' : St), a.s.run l = some s' →
    a.failed = false → (raises = true → publishes l = false) → (cfg.overwrite = false → Ev.renamePartDest ∉ l) →
    (a.s.phase = .init → a.s.isOpen = false ∧ (cfg.overwritePart = false → headUnlink l = false)) →
    a.run cfg raises (l.map Obs.ok) = some { a with s := s' }
  | [], a, s', h, _, _, _, _ => by simp [St.run] at h; subst h; rfl
  | ev :: t, a, s', h, hf, hr, hn, hu => by
    obtain ⟨s1, hs, h⟩ := St.run_cons_some.1 h
    have hpc := publishes_cons ev t
    have hal : okAllowed cfg raises a ev = true := by
      have hrf : isPub ev = true → raises = false := by
        intro hp
        cases hh : raises with
        | false => rfl
        | true =>
          have := hr hh
          rw [hpc, publishes_single, hp] at this
          simp at this
      cases ev with
      | renamePartDest =>
        have how : cfg.overwrite = true := by
          cases hh : cfg.overwrite with
          | true => rfl
          | false => exact absurd (List.mem_cons_self) (hn hh)
        simp [okAllowed, hf, hrf rfl, how]
      | linkPartDest => simp [okAllowed, hf, hrf rfl]
      | unlinkPart =>
        simp only [okAllowed]
        split
        · rename_i h0
          cases hop : cfg.overwritePart with
          | true => rfl
          | false => have := (hu h0).2 hop; simp [headUnlink] at this
        · rfl
      | _ => simp [okAllowed]
    have ih := A.run_map_ok cfg raises t { a with s := s1 } s' h hf
      (fun hh => by have := hr hh; rw [hpc] at this; simp only [Bool.or_eq_false_iff] at this; exact this.2)
      (fun hh => fun hm => hn hh (List.mem_cons_of_mem _ hm))
      (fun h1 => by
        -- still in `init`: the event was a call without effect or the removal of a stale part file, the state is the same
        obtain ⟨h0, rfl, hev⟩ := step_to_init a.s s1 ev hs h1 (fun h0 => (hu h0).1)
        rcases hev with rfl | rfl
        · exact ⟨(hu h0).1, fun hop => by simpa [headUnlink] using (hu h0).2 hop⟩
        · exact ⟨(hu h0).1, fun hop => by have := (hu h0).2 hop; simp [headUnlink] at this⟩)
    simp only [List.map_cons, A.run, A.step, hal, if_true, hs, Option.map_some]
    exact ih

/-- (no user in this directory) -/
theorem rename_not_mem_writes (ws : List (Bytes × Nat)) : Ev.renamePartDest ∉ ws.map fun w => Ev.write w.1 w.2 := by
  simp

theorem publishes_ite_nil {c : Prop} [Decidable c] (l : List Ev) :
    publishes (if c then l else []) = (decide c && publishes l) := by
  split <;> simp [*, publishes]

theorem headUnlink_saverTrace (cfg : Cfg) (fs0 : FS) (body : Body) :
    headUnlink (saverTrace cfg fs0 body) = (cfg.overwritePart && fs0.dir.part.isSome) := by
  unfold saverTrace
  cases (cfg.overwritePart && fs0.dir.part.isSome) <;> rfl

/-- of a complete save only the creation of the part file and the `chmod` after it touch the permission bits -/
theorem foldl_modeAfter_saverTrace (cfg : Cfg) (fs0 : FS) (body : Body) :
    (saverTrace cfg fs0 body).foldl (modeAfter fs0.umask) none =
      some (setupMode fs0.umask (choosePerms cfg fs0).1 (choosePerms cfg fs0).2) := by
  have hpre : ∀ ev ∈ saverPre cfg fs0, modeEv ev = false := by
    unfold saverPre; split <;> decide
  have hexit : ∀ ev ∈ exitEvents cfg body, modeEv ev = false := by
    unfold exitEvents; (repeat' split) <;> decide
  have hrest : ∀ ev ∈ body.writes.map (fun w => Ev.write w.1 w.2) ++ ([Ev.flush, Ev.fsync, Ev.close] ++ exitEvents cfg body),
      modeEv ev = false := by
    intro ev hev
    simp only [List.mem_append, List.mem_map] at hev
    rcases hev with ⟨w, _, rfl⟩ | hev | hev
    · rfl
    · simp at hev; rcases hev with rfl | rfl | rfl <;> rfl
    · exact hexit ev hev
  have hl : saverTrace cfg fs0 body =
      (saverPre cfg fs0 ++ ([Ev.openPart true true (choosePerms cfg fs0).1, Ev.noop] ++
        if (choosePerms cfg fs0).2 then [Ev.chmodPart (choosePerms cfg fs0).1] else [])) ++
      (body.writes.map (fun w => Ev.write w.1 w.2) ++ ([Ev.flush, Ev.fsync, Ev.close] ++ exitEvents cfg body)) := by
    simp only [saverTrace, saverPre, exitEvents, List.append_assoc]
  rw [hl, List.foldl_append, foldl_modeAfter_setup fs0.umask _ _ _ hpre]
  exact foldl_nomode fs0.umask _ _ hrest

theorem saverTrace_accepted (cfg : Cfg) (fs0 : FS) (body : Body) :
    Accept cfg body.raises (!body.raises) (newContent body) fs0.umask fs0.destMode
      ((saverTrace cfg fs0 body).map Obs.ok) = true := by
  have hraise : body.raises = true → publishes (saverTrace cfg fs0 body) = false := by
    intro hr
    simp [saverTrace, hr, publishes_append, publishes_writes, publishes_ite_nil, publishes]
  have hren : cfg.overwrite = false → Ev.renamePartDest ∉ saverTrace cfg fs0 body := by
    intro ho
    cases hr : body.raises <;> simp [saverTrace, ho, hr]
  have hrun : A.init.run cfg body.raises ((saverTrace cfg fs0 body).map Obs.ok) =
      some { A.init with s := saverFinal cfg body } :=
    A.run_map_ok cfg body.raises _ A.init _ (saver_run cfg fs0 body) rfl hraise hren
      (fun _ => ⟨rfl, fun hop => by rw [headUnlink_saverTrace, hop]; rfl⟩)
  unfold Accept
  rw [hrun]
  simp only [accEnd, oks_map_ok, allWrites_saverTrace, foldl_modeAfter_saverTrace, setupMode_choose, newContent, A.init, saverFinal, St.published]
  cases hr : body.raises <;> cases hm : cfg.rmPartOnExc <;> simp

end C05
