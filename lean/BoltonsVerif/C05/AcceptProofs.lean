import BoltonsVerif.C05.Accept
import BoltonsVerif.C05.Proofs
/-
C05 — the acceptance tie: the invariant `RJ` (the invariant `J` of Proofs.lean for the machine that replays an observed
trace + what the acceptance automaton's flags mean) is kept by every accepted, executable observation.  `Observed` is the
hypothesis of every `accepted_*` theorem; `Observed.rj` is what it gives, and the last three lemmas are what such a save
leaves at the destination.
-/
namespace C05
open C04

structure RJ (cfg : Cfg) (raises : Bool) (fs0 : FS) (m : M) (a : A) : Prop where
  j : J fs0 m a.s (allWrites m.tr)
  envd : m.envDone = true → a.env = true
  cf : m.cleanupFaulted = a.ufail
  nounlink : cfg.overwritePart = false → a.s.phase = .init → Ev.unlinkPart ∉ m.tr
  norename : cfg.overwrite = false → Ev.renamePartDest ∉ m.tr
  failed : a.failed = true → a.s.published = false
  raised : raises = true → a.s.published = false
  linked : Ev.linkPartDest ∈ m.tr → fs0.dir.dest = none
  stale : cfg.overwritePart = false → fs0.dir.part ≠ none → a.s.phase = .init

theorem RJ_start (cfg : Cfg) (raises : Bool) (fs0 : FS) (e : Nat) : RJ cfg raises fs0 (M.start fs0 e) A.init where
  j := J_start fs0 e
  envd := by simp [M.start]
  cf := rfl
  nounlink := by simp [M.start]
  norename := by simp [M.start]
  failed := fun _ => by decide
  raised := fun _ => by decide
  linked := by simp [M.start]
  stale := fun _ _ => rfl

theorem exe_envDone (m : M) (ev : Ev) : (exe m ev).2.envDone = m.envDone := by
  unfold exe; split <;> rfl

theorem A.run_cons_some {cfg : Cfg} {raises : Bool} {a a' : A} {o : Obs} {t : List Obs} :
    a.run cfg raises (o :: t) = some a' ↔ ∃ a1, a.step cfg raises o = some a1 ∧ a1.run cfg raises t = some a' := by
  simp only [A.run]
  cases a.step cfg raises o <;> simp

theorem A.step_ok_some {cfg : Cfg} {raises : Bool} {a a' : A} {ev : Ev} :
    a.step cfg raises (.ok ev) = some a' ↔
      okAllowed cfg raises a ev = true ∧ ∃ s', a.s.step ev = some s' ∧ a' = { a with s := s' } := by
  simp only [A.step]
  cases okAllowed cfg raises a ev <;> cases a.s.step ev <;> simp [eq_comm]

theorem A.step_failClosed_some {cfg : Cfg} {raises : Bool} {a a' : A} {l : Bool} :
    a.step cfg raises (.failClosed l) = some a' ↔
      ∃ s', a.s.step .close = some s' ∧ a' = { a with s := s', failed := a.failed || (l && !a.s.published) } := by
  simp only [A.step]
  cases a.s.step .close <;> simp [eq_comm]

theorem exe_eq_none {m m' : M} {ev : Ev} : exe m ev = (none, m') ↔
    ∃ fs', m.fs.step ev = .ok fs' ∧ m' = { m with fs := fs', n := m.n + 1, tr := m.tr ++ [ev], obs := m.obs ++ [.ok ev] } := by
  unfold exe
  cases m.fs.step ev <;> simp [eq_comm]

theorem replayStep_ok_some {m m' : M} {ev : Ev} : replayStep m (.ok ev) = some m' ↔ exe m ev = (none, m') := by
  simp only [replayStep]
  rcases exe m ev with ⟨_ | e, m1⟩ <;> simp

theorem replayStep_failClosed_some {m m' : M} {l : Bool} : replayStep m (.failClosed l) = some m' ↔
    ∃ m1, exe m .close = (none, m1) ∧ m' = { m1 with errs := m1.errs + 1 } := by
  simp only [replayStep]
  rcases exe m .close with ⟨_ | e, m1⟩ <;> simp [eq_comm]

theorem replay_cons_some {m m' : M} {o : Obs} {t : List Obs} :
    replay m (o :: t) = some m' ↔ ∃ m1, replayStep m o = some m1 ∧ replay m1 t = some m' := by
  simp only [replay]
  cases replayStep m o <;> simp

/-- what the guard adds to C04's automaton: with a listed step failed, or the block raising, an allowed event publishes nothing -/
theorem okAllowed_unpublished {cfg : Cfg} {raises : Bool} {a : A} {ev : Ev} {s' : St} (hal : okAllowed cfg raises a ev = true)
    (hs : a.s.step ev = some s') (h : a.failed = true ∨ raises = true) (hu : a.s.published = false) : s'.published = false := by
  rw [St.published_of_step hs, hu, Bool.false_or]
  cases ev <;> first | rfl | (rcases h with h | h <;> simp [okAllowed, h] at hal)

/-- once a listed step has failed before any publication the guard lets no publication through: an invariant of the
    automaton alone -/
theorem A.step_failed {cfg : Cfg} {raises : Bool} {a a' : A} {o : Obs} (h : a.step cfg raises o = some a')
    (hf : a.failed = true → a.s.published = false) : a'.failed = true → a'.s.published = false := by
  have keep : ∀ l : Bool, (a.failed || (l && !a.s.published)) = true → a.s.published = false := by
    intro l h
    cases hfa : a.failed with
    | true => exact hf hfa
    | false => cases hp : a.s.published <;> simp [hfa, hp] at h ⊢
  cases o with
  | ok ev =>
    obtain ⟨hal, s', hs, rfl⟩ := A.step_ok_some.1 h
    exact fun hf' => okAllowed_unpublished hal hs (Or.inl hf') (hf hf')
  | fail l i u => cases h; exact keep l
  | failClosed l =>
    obtain ⟨s', hs, rfl⟩ := A.step_failClosed_some.1 h
    intro hf'
    exact (St.published_of_step hs).trans ((Bool.or_false _).trans (keep l hf'))
  | appear => cases h; exact hf

/-- one accepted event that goes through on the file system: `J` advances (`J_exe`), and the guard `okAllowed` is what
    keeps each of the other fields -/
theorem RJ_ok (cfg : Cfg) (raises : Bool) (fs0 : FS) (m m' : M) (a : A) (ev : Ev) (s' : St)
    (h : RJ cfg raises fs0 m a) (hal : okAllowed cfg raises a ev = true) (hs : a.s.step ev = some s')
    (hx : exe m ev = (none, m')) : RJ cfg raises fs0 m' { a with s := s' } := by
  obtain ⟨hj, htr, hcf⟩ : J fs0 m' s' (allWrites m.tr ++ evWrites ev) ∧ m'.tr = m.tr ++ [ev] ∧
      m'.cleanupFaulted = m.cleanupFaulted := by
    rcases J_exe fs0 m a.s s' (allWrites m.tr) ev h.j hs with ⟨m1, hc, c⟩ | ⟨e, m1, hc, -⟩
    · obtain ⟨-, rfl⟩ := Prod.mk.inj (hx.symm.trans hc)
      exact ⟨c.inv, c.tr, c.cf⟩
    · rw [hx] at hc; cases hc
  have hed : m'.envDone = m.envDone := by have := exe_envDone m ev; rw [hx] at this; exact this
  refine ⟨by rw [htr, allWrites_snoc]; exact hj, fun he => h.envd (hed ▸ he), by rw [hcf]; exact h.cf, ?_, ?_, ?_, ?_, ?_, ?_⟩
  · intro hop hph
    simp only at hph
    obtain ⟨h0, -, hev⟩ := step_to_init a.s s' ev hs hph h.j.inv.init_closed
    rw [htr]
    rcases hev with rfl | rfl
    · simpa using h.nounlink hop h0
    · simp [okAllowed, h0, hop] at hal
  · intro how
    rw [htr]
    simp only [List.mem_append, List.mem_singleton, not_or]
    refine ⟨h.norename how, ?_⟩
    intro he; subst he
    simp [okAllowed, how] at hal
  · exact A.step_failed (A.step_ok_some.2 ⟨hal, s', hs, rfl⟩) h.failed
  · exact fun hr => okAllowed_unpublished hal hs (Or.inr hr) (h.raised hr)
  · intro hl
    rw [htr] at hl
    simp only [List.mem_append, List.mem_singleton] at hl
    rcases hl with hl | hl
    · exact h.linked hl
    · subst hl
      obtain ⟨fs', hf, -⟩ := exe_eq_none.1 hx
      exact (h.j.link_ok hs hf).2
  · intro hop hp0
    simp only
    have h0 := h.stale hop hp0
    have hcl := h.j.inv.init_closed h0
    have hpart : m.fs.dir.part = fs0.dir.part := (h.j.pinit h0).1 (h.nounlink hop h0)
    rcases St.step_of_init hs h0 hcl with ⟨rfl, -⟩ | ⟨md, rfl⟩
    · exact h0
    · exfalso
      cases hpp : fs0.dir.part with
      | none => exact hp0 hpp
      | some i =>
        rw [hpp] at hpart
        simp [exe, FS.step, FS.openPart, hpart] at hx

theorem RJ_step (cfg : Cfg) (raises : Bool) (fs0 : FS) (m m' : M) (a a' : A) (o : Obs)
    (h : RJ cfg raises fs0 m a) (ha : a.step cfg raises o = some a') (hm : replayStep m o = some m') :
    RJ cfg raises fs0 m' a' := by
  have hfl := A.step_failed ha h.failed
  cases o with
  | ok ev =>
    obtain ⟨hal, s', hs, rfl⟩ := A.step_ok_some.1 ha
    exact RJ_ok cfg raises fs0 m m' a ev s' h hal hs (replayStep_ok_some.1 hm)
  | fail l i u =>
    cases ha; cases hm
    exact ⟨J_congr fs0 m _ a.s _ h.j rfl rfl rfl rfl, h.envd, by simp [h.cf], h.nounlink, h.norename, hfl, h.raised, h.linked, h.stale⟩
  | failClosed l =>
    obtain ⟨s', hs, rfl⟩ := A.step_failClosed_some.1 ha
    obtain ⟨m1, hx, rfl⟩ := replayStep_failClosed_some.1 hm
    have h1 := RJ_ok cfg raises fs0 m m1 a .close s' h (by simp [okAllowed]) hs hx
    exact ⟨J_congr fs0 m1 _ s' _ h1.j rfl rfl rfl rfl, h1.envd, h1.cf, h1.nounlink, h1.norename, hfl, h1.raised, h1.linked, h1.stale⟩
  | appear =>
    cases ha; cases hm
    have e2 := env_tr m .appear
    have e4 := env_cleanupFaulted m .appear
    exact ⟨by rw [e2]; exact J_env fs0 m a.s _ _ h.j, fun _ => rfl, by rw [e4]; exact h.cf,
      by rw [e2]; exact h.nounlink, by rw [e2]; exact h.norename, h.failed, h.raised, by rw [e2]; exact h.linked, h.stale⟩

theorem RJ_run (cfg : Cfg) (raises : Bool) (fs0 : FS) : ∀ (t : List Obs) (m m' : M) (a a' : A),
    RJ cfg raises fs0 m a → a.run cfg raises t = some a' → replay m t = some m' → RJ cfg raises fs0 m' a'
  | [], m, m', a, a', h, ha, hm => by
    simp [A.run] at ha; simp [replay] at hm; subst ha; subst hm; exact h
  | o :: t, m, m', a, a', h, ha, hm => by
    obtain ⟨a1, h1, ha⟩ := A.run_cons_some.1 ha
    obtain ⟨m1, h2, hm⟩ := replay_cons_some.1 hm
    exact RJ_run cfg raises fs0 t m1 m' a1 a' (RJ_step cfg raises fs0 m m1 a a1 o h h1 h2) ha hm

theorem replayStep_same {m m' : M} {o : Obs} (hm : replayStep m o = some m') :
    m'.tr = m.tr ++ oks [o] ∧ m'.envIno = m.envIno ∧ m'.fs.umask = m.fs.umask := by
  have hexe : ∀ {m m1 : M} {ev : Ev}, exe m ev = (none, m1) →
      m1.tr = m.tr ++ [ev] ∧ m1.envIno = m.envIno ∧ m1.fs.umask = m.fs.umask := by
    intro m m1 ev hx
    obtain ⟨fs', hf, rfl⟩ := exe_eq_none.1 hx
    exact ⟨rfl, rfl, step_umask _ _ _ hf⟩
  cases o with
  | ok ev => simpa [oks] using hexe (replayStep_ok_some.1 hm)
  | fail l i u => cases hm; simp [oks]
  | failClosed l =>
    obtain ⟨m1, hx, rfl⟩ := replayStep_failClosed_some.1 hm
    simpa [oks] using hexe hx
  | appear =>
    cases hm
    exact ⟨by simp [oks, env_tr], env_envIno m .appear, env_umask m .appear⟩

theorem oks_cons (o : Obs) (t : List Obs) : oks (o :: t) = oks [o] ++ oks t := by
  cases o <;> simp [oks]

theorem oks_append (a b : List Obs) : oks (a ++ b) = oks a ++ oks b := by
  induction a with
  | nil => rfl
  | cons o t ih => rw [List.cons_append, oks_cons, oks_cons o t, ih, List.append_assoc]

theorem replay_same : ∀ (t : List Obs) (m m' : M), replay m t = some m' →
    m'.tr = m.tr ++ oks t ∧ m'.envIno = m.envIno ∧ m'.fs.umask = m.fs.umask
  | [], m, m', hm => by simp [replay] at hm; subst hm; simp [oks]
  | o :: t, m, m', hm => by
    obtain ⟨m1, h1, h2⟩ := replay_cons_some.1 hm
    obtain ⟨a1, a2, a3⟩ := replayStep_same h1
    obtain ⟨b1, b2, b3⟩ := replay_same t m1 m' h2
    exact ⟨by rw [b1, a1, oks_cons o t, List.append_assoc], b2.trans a2, b3.trans a3⟩

theorem replay_start_tr {fs0 : FS} {e : Nat} {t : List Obs} {m : M} (h : replay (M.start fs0 e) t = some m) : m.tr = oks t := by
  simpa [M.start] using (replay_same t _ m h).1

theorem A.run_st (cfg : Cfg) (raises : Bool) : ∀ (t : List Obs) (a a' : A),
    a.run cfg raises t = some a' → a.s.run (oks t) = some a'.s
  | [], a, a', ha => by simp [A.run] at ha; subst ha; simp [oks, St.run]
  | o :: t, a, a', ha => by
    obtain ⟨a1, h1, ha⟩ := A.run_cons_some.1 ha
    have ih := A.run_st cfg raises t a1 a' ha
    cases o with
    | ok ev => obtain ⟨_, s', hs, rfl⟩ := A.step_ok_some.1 h1; simpa [oks, St.run, hs] using ih
    | fail l i u => cases h1; simpa [oks] using ih
    | failClosed l => obtain ⟨s', hs, rfl⟩ := A.step_failClosed_some.1 h1; simpa [oks, St.run, hs] using ih
    | appear => cases h1; simpa [oks] using ih

theorem A.run_failed_mono {cfg : Cfg} {raises : Bool} : ∀ (t : List Obs) (a a' : A),
    a.run cfg raises t = some a' → a.failed = true → a'.failed = true
  | [], a, a', ha, hf => by simp [A.run] at ha; subst ha; exact hf
  | o :: t, a, a', ha, hf => by
    obtain ⟨a1, h1, ha⟩ := A.run_cons_some.1 ha
    refine A.run_failed_mono t a1 a' ha ?_
    cases o with
    | ok ev => obtain ⟨_, s', _, rfl⟩ := A.step_ok_some.1 h1; exact hf
    | fail l i u => cases h1; simp [hf]
    | failClosed l => obtain ⟨s', _, rfl⟩ := A.step_failClosed_some.1 h1; simp [hf]
    | appear => cases h1; exact hf

/-- the flags of the automaton are what their names say -/
theorem A.run_flags (cfg : Cfg) (raises : Bool) : ∀ (t : List Obs) (a a' : A),
    a.run cfg raises t = some a' →
    a'.ufail = (a.ufail || unlinkFaulted t) ∧ a'.env = (a.env || hasAppear t) ∧
    (a.s.published = false → failedBefore t = true → a'.failed = true)
  | [], a, a', ha => by simp [A.run] at ha; subst ha; simp [unlinkFaulted, hasAppear, failedBefore]
  | o :: t, a, a', ha => by
    obtain ⟨a1, h1, ha⟩ := A.run_cons_some.1 ha
    obtain ⟨i1, i2, i3⟩ := A.run_flags cfg raises t a1 a' ha
    cases o with
    | ok ev =>
      obtain ⟨_, s', hs, rfl⟩ := A.step_ok_some.1 h1
      refine ⟨by simpa [unlinkFaulted] using i1, by simpa [hasAppear] using i2, ?_⟩
      intro hp hfb
      simp only [failedBefore] at hfb
      split at hfb
      · simp at hfb
      · rename_i hnp
        refine i3 ?_ hfb
        simp only [St.published_of_step hs, hp, Bool.false_or]
        simpa using hnp
    | fail l i u =>
      cases h1
      refine ⟨by simp [unlinkFaulted, i1, Bool.or_assoc], by simpa [hasAppear] using i2, ?_⟩
      intro hp hfb
      simp only [failedBefore, Bool.or_eq_true] at hfb
      rcases hfb with hl | hfb
      · exact A.run_failed_mono t _ a' ha (by simp [hl, hp])
      · exact i3 hp hfb
    | failClosed l =>
      obtain ⟨s', hs, rfl⟩ := A.step_failClosed_some.1 h1
      have hpub : s'.published = a.s.published := (St.published_of_step hs).trans (Bool.or_false _)
      refine ⟨by simpa [unlinkFaulted] using i1, by simpa [hasAppear] using i2, ?_⟩
      intro hp hfb
      simp only [failedBefore, Bool.or_eq_true] at hfb
      rcases hfb with hl | hfb
      · exact A.run_failed_mono t _ a' ha (by simp [hl, hp])
      · exact i3 (by simp only [hpub]; exact hp) hfb
    | appear =>
      cases h1
      refine ⟨by simpa [unlinkFaulted] using i1, by simp [hasAppear] at i2 ⊢; exact i2, ?_⟩
      intro hp hfb
      exact i3 hp (by simpa [failedBefore] using hfb)

section
variable {cfg : Cfg} {raises : Bool} {t : List Obs} {a : A}

theorem A.init_run_ufail (h : A.init.run cfg raises t = some a) : a.ufail = unlinkFaulted t := by
  simpa [A.init] using (A.run_flags cfg raises t A.init a h).1

theorem A.init_run_env (h : A.init.run cfg raises t = some a) : a.env = hasAppear t := by
  simpa [A.init] using (A.run_flags cfg raises t A.init a h).2.1

theorem A.init_run_failed (h : A.init.run cfg raises t = some a) (hf : failedBefore t = true) : a.failed = true :=
  (A.run_flags cfg raises t A.init a h).2.2 (by decide) hf

end

theorem replayStep_X (fs0 : FS) (m m' : M) (o : Obs) (hno : hasAppear [o] = false) (h : X fs0 m)
    (hm : replayStep m o = some m') : X fs0 m' := by
  cases o with
  | ok ev =>
    have := exe_X fs0 m ev h
    rw [replayStep_ok_some.1 hm] at this; exact this
  | fail l i u => cases hm; exact h
  | failClosed l =>
    obtain ⟨m1, hx, rfl⟩ := replayStep_failClosed_some.1 hm
    have := exe_X fs0 m .close h
    rw [hx] at this; exact this
  | appear => simp [hasAppear] at hno

theorem hasAppear_append (a b : List Obs) : hasAppear (a ++ b) = (hasAppear a || hasAppear b) := by
  induction a with
  | nil => simp [hasAppear]
  | cons o t ih => cases o <;> simp [hasAppear, ih]

theorem hasAppear_cons (o : Obs) (t : List Obs) : hasAppear (o :: t) = (hasAppear [o] || hasAppear t) :=
  hasAppear_append [o] t

theorem replay_X (fs0 : FS) : ∀ (t : List Obs) (m m' : M), hasAppear t = false → X fs0 m → replay m t = some m' → X fs0 m'
  | [], m, m', _, h, hm => by simp [replay] at hm; subst hm; exact h
  | o :: t, m, m', hno, h, hm => by
    rw [hasAppear_cons] at hno
    simp only [Bool.or_eq_false_iff] at hno
    obtain ⟨m1, h2, hm⟩ := replay_cons_some.1 hm
    exact replay_X fs0 t m1 m' hno.2 (replayStep_X fs0 m m1 o hno.1 h h2) hm

/-- the end conditions of `Accept`, one by one -/
structure AccEnd (cfg : Cfg) (raises ok : Bool) (content : Bytes) (um : Nat) (dm0 : Option Nat) (t : List Obs) (a : A) : Prop where
  completed : ok = true → a.s.phase = .done ∧ a.failed = false ∧ raises = false
  cleaned : ok = false → cfg.rmPartOnExc = true → a.ufail = false →
    a.s.phase = .init ∨ a.s.phase = .aborted ∨ a.s.phase = .done
  content : a.s.published = true → allWrites (oks t) = content
  mode : a.s.published = true → a.env = false →
    (oks t).foldl (modeAfter um) none = some (expectedMode cfg dm0 um)

theorem accEnd_iff {cfg : Cfg} {raises ok : Bool} {content : Bytes} {um : Nat} {dm0 : Option Nat} {t : List Obs} {a : A} :
    accEnd cfg raises ok content um dm0 t a = true ↔ AccEnd cfg raises ok content um dm0 t a := by
  unfold accEnd
  simp only [Bool.and_eq_true, Bool.or_eq_true, Bool.not_eq_true', beq_iff_eq]
  constructor
  · rintro ⟨⟨⟨h1, h2⟩, h3⟩, h4⟩
    refine ⟨fun hok => ?_, fun hok hrm huf => ?_, fun hp => ?_, fun hp he => ?_⟩
    · rcases h1 with h1 | h1
      · rw [hok] at h1; cases h1
      · exact ⟨h1.1.1, h1.1.2, h1.2⟩
    · rcases h2 with ((((h2 | h2) | h2) | h2) | h2) | h2
      · rw [hok] at h2; cases h2
      · rw [hrm] at h2; cases h2
      · rw [huf] at h2; cases h2
      · exact Or.inl h2
      · exact Or.inr (Or.inl h2)
      · exact Or.inr (Or.inr h2)
    · rcases h3 with h3 | h3
      · rw [hp] at h3; cases h3
      · exact h3
    · rcases h4 with (h4 | h4) | h4
      · rw [hp] at h4; cases h4
      · rw [he] at h4; cases h4
      · exact h4
  · intro h
    refine ⟨⟨⟨?_, ?_⟩, ?_⟩, ?_⟩
    · cases hok : ok with
      | false => exact Or.inl rfl
      | true => obtain ⟨h1, h2, h3⟩ := h.completed hok; exact Or.inr ⟨⟨h1, h2⟩, h3⟩
    · cases hok : ok with
      | true => exact Or.inl (Or.inl (Or.inl (Or.inl (Or.inl rfl))))
      | false =>
        cases hrm : cfg.rmPartOnExc with
        | false => exact Or.inl (Or.inl (Or.inl (Or.inl (Or.inr rfl))))
        | true =>
          cases huf : a.ufail with
          | true => exact Or.inl (Or.inl (Or.inl (Or.inr rfl)))
          | false =>
            rcases h.cleaned hok hrm huf with h2 | h2 | h2
            · exact Or.inl (Or.inl (Or.inr h2))
            · exact Or.inl (Or.inr h2)
            · exact Or.inr h2
    · cases hp : a.s.published with
      | false => exact Or.inl rfl
      | true => exact Or.inr (h.content hp)
    · cases hp : a.s.published with
      | false => exact Or.inl (Or.inl rfl)
      | true =>
        cases he : a.env with
        | true => exact Or.inl (Or.inr rfl)
        | false => exact Or.inr (h.mode hp he)

/-- `t` is the observed trace of a save (configuration `cfg`, `raises` = the with-block ended by raising, `ok` = the caller
    saw no exception, `content` = the bytes the block wrote) started in `fs0`: it is accepted, and executable, ending in `m` -/
structure Observed (cfg : Cfg) (raises ok : Bool) (content : Bytes) (fs0 : FS) (e : Nat) (t : List Obs) (m : M) : Prop where
  acc : Accept cfg raises ok content fs0.umask fs0.destMode t = true
  run : replay (M.start fs0 e) t = some m

/-- what the final state `a` of the acceptance automaton says about an observed save that ended in `m`: `RJ`, and the end
    conditions of `Accept` -/
structure ObservedEnd (cfg : Cfg) (raises ok : Bool) (content : Bytes) (fs0 : FS) (t : List Obs) (m : M) (a : A) : Prop
    extends AccEnd cfg raises ok content fs0.umask fs0.destMode t a where
  run : A.init.run cfg raises t = some a
  rj : RJ cfg raises fs0 m a
  tr : m.tr = oks t
  published : a.s.published = publishes (oks t)

theorem Observed.rj {cfg raises ok content fs0 e t m} (h : Observed cfg raises ok content fs0 e t m) :
    ∃ a, ObservedEnd cfg raises ok content fs0 t m a := by
  have hacc := h.acc
  unfold Accept at hacc
  cases ha : A.init.run cfg raises t with
  | none => simp [ha] at hacc
  | some a =>
    simp only [ha] at hacc
    exact ⟨a, accEnd_iff.1 hacc, ha, RJ_run cfg raises fs0 t _ m A.init a (RJ_start cfg raises fs0 e) ha h.run, replay_start_tr h.run,
      published_of_init (A.run_st cfg raises t A.init a ha)⟩

theorem Observed.envIno {cfg raises ok content fs0 e t m} (h : Observed cfg raises ok content fs0 e t m) : m.envIno = e :=
  (replay_same t _ m h.run).2.1

theorem Observed.umask {cfg raises ok content fs0 e t m} (h : Observed cfg raises ok content fs0 e t m) :
    m.fs.umask = fs0.umask :=
  (replay_same t _ m h.run).2.2

theorem Observed.noenv {cfg raises ok content fs0 e t m} (h : Observed cfg raises ok content fs0 e t m)
    (hne : hasAppear t = false) : m.envDone = false := by
  obtain ⟨a, f⟩ := h.rj
  have henv : a.env = false := by rw [A.init_run_env f.run, hne]
  cases hh : m.envDone with
  | false => rfl
  | true => have := f.rj.envd hh; rw [henv] at this; cases this

theorem Observed.unpublished_dest {cfg raises ok content fs0 e t m} (h : Observed cfg raises ok content fs0 e t m)
    (hst : Start fs0 e) (hnp : publishes (oks t) = false) :
    (m.envDone = false → m.fs.readDest = fs0.readDest ∧ m.fs.destMode = fs0.destMode) ∧
    (m.envDone = true → fs0.dir.dest = none ∧ m.fs.readDest = some envBytes ∧ m.fs.destMode = some envMode) := by
  obtain ⟨a, f⟩ := h.rj
  exact f.rj.j.unpublished_dest hst h.envIno (by rw [f.published]; exact hnp)

theorem Observed.published_dest {cfg raises ok content fs0 e t m} (h : Observed cfg raises ok content fs0 e t m)
    (hpub : publishes (oks t) = true) : m.fs.readDest = some content := by
  obtain ⟨a, f⟩ := h.rj
  have hsp : a.s.published = true := by rw [f.published]; exact hpub
  have hcontent := f.content hsp
  have hi := f.rj.j.inv
  rw [f.tr, hcontent] at hi
  exact (ginv_published_read hi hsp).1

theorem Observed.published_mode {cfg raises ok content fs0 e t m} (h : Observed cfg raises ok content fs0 e t m)
    (hpub : publishes (oks t) = true) (hne : hasAppear t = false) :
    m.fs.destMode = some (expectedMode cfg fs0.destMode fs0.umask) := by
  obtain ⟨a, f⟩ := h.rj
  have hsp : a.s.published = true := by rw [f.published]; exact hpub
  have henv : a.env = false := by rw [A.init_run_env f.run, hne]
  have hmode := f.mode hsp henv
  rw [f.rj.j.published_mode hsp, f.tr, hmode]

end C05
