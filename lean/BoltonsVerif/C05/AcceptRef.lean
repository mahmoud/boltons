import BoltonsVerif.C05.AcceptProofs
import BoltonsVerif.C05.AcceptMore
/-
C05 — the two layers meet: what the transliteration records of its own calls (`M.obs`) is, for every
plan, a trace with the bookkeeping facts `T` (frame principle) which the acceptance automaton reads to the end
(`runScript_walk`), and - without interference - a trace that `Accept` accepts.
-/
namespace C05
open C04

/-- some listed step reported an error -/
def listedFailed : List Obs → Bool
  | [] => false
  | .fail l _ _ :: t => l || listedFailed t
  | .failClosed l :: t => l || listedFailed t
  | _ :: t => listedFailed t

theorem listedFailed_append (a b : List Obs) : listedFailed (a ++ b) = (listedFailed a || listedFailed b) := by
  induction a with
  | nil => simp [listedFailed]
  | cons o t ih => cases o <;> simp [listedFailed, ih, Bool.or_assoc]

theorem unlinkFaulted_append (a b : List Obs) : unlinkFaulted (a ++ b) = (unlinkFaulted a || unlinkFaulted b) := by
  induction a with
  | nil => simp [unlinkFaulted]
  | cons o t ih => cases o <;> simp [unlinkFaulted, ih, Bool.or_assoc]

/-- bookkeeping facts about the recorded observations, kept by every primitive call (`oks` up to `noop`: a passing
    `os.stat` and a `close()` of a closed file object are recorded in `obs` but not in `tr`) -/
structure T (m : M) : Prop where
  oks : (oks m.obs).filter notNoop = m.tr.filter notNoop
  lf : listedFailed m.obs = true → 0 < m.errs
  cf : m.cleanupFaulted = true → unlinkFaulted m.obs = true
  env : hasAppear m.obs = m.envDone

theorem T_start (fs0 : FS) (e : Nat) : T (M.start fs0 e) :=
  ⟨rfl, by simp [M.start, listedFailed], by simp [M.start], rfl⟩

theorem T_snoc (m m' : M) (o : Obs) (h : T m) (hobs : m'.obs = m.obs ++ [o])
    (htr : m'.tr.filter notNoop = m.tr.filter notNoop ++ (oks [o]).filter notNoop)
    (herr : m.errs ≤ m'.errs) (hl : listedFailed [o] = true → 0 < m'.errs)
    (hcf : m'.cleanupFaulted = true → m.cleanupFaulted = true ∨ unlinkFaulted [o] = true)
    (henv : m'.envDone = (m.envDone || hasAppear [o])) : T m' := by
  refine ⟨?_, ?_, ?_, ?_⟩
  · rw [hobs, oks_append, List.filter_append, h.oks, htr]
  · intro hl'
    rw [hobs, listedFailed_append, Bool.or_eq_true] at hl'
    rcases hl' with hl' | hl'
    · have := h.lf hl'; omega
    · exact hl hl'
  · intro hc
    rw [hobs, unlinkFaulted_append, Bool.or_eq_true]
    rcases hcf hc with hc | hc
    · exact Or.inl (h.cf hc)
    · exact Or.inr hc
  · rw [hobs, hasAppear_append, h.env, henv]

theorem T_fail (m m' : M) (l i u : Bool) (h : T m) (hobs : m'.obs = m.obs ++ [.fail l i u]) (htr : m'.tr = m.tr)
    (herr : l = true → 0 < m'.errs) (herr2 : m.errs ≤ m'.errs) (hcf : m'.cleanupFaulted = m.cleanupFaulted)
    (henv : m'.envDone = m.envDone) : T m' :=
  T_snoc m m' _ h hobs (by rw [htr]; simp [oks]) herr2 (by simpa [listedFailed] using herr) (fun hc => Or.inl (hcf ▸ hc))
    (by simp [henv, hasAppear])

theorem T_env (m : M) (a : Act) (h : T m) : T (m.env a) := by
  unfold M.env
  split
  · exact T_snoc m _ .appear h rfl (by simp [oks]) (Nat.le_refl _) (by simp [listedFailed]) (fun hc => Or.inl hc)
      (by simp [hasAppear])
  · exact h

theorem T_exe (m : M) (ev : Ev) (h : T m) : T (exe m ev).2 := by
  unfold exe
  split
  · exact T_fail m _ _ _ _ h rfl rfl (fun _ => Nat.succ_pos _) (Nat.le_succ _) rfl rfl
  · exact T_snoc m _ (.ok ev) h rfl (by simp [oks]) (Nat.le_refl _) (by simp [listedFailed]) (fun hc => Or.inl hc)
      (by simp [hasAppear])

theorem T_call (plan : Plan) (m : M) (ev : Ev) (h : T m) : T (call plan m ev).2 := by
  unfold call
  cases plan m.n with
  | fail e => exact T_fail m _ _ _ _ h rfl rfl (fun _ => Nat.succ_pos _) (Nat.le_succ _) rfl rfl
  | pass => exact T_exe m ev h
  | appear => exact T_exe _ ev (T_env m _ h)

theorem T_callClose (plan : Plan) (m : M) (h : T m) : T (callClose plan m).2 := by
  unfold callClose
  cases plan m.n with
  | fail e =>
    dsimp only
    split
    · exact T_snoc m _ (.failClosed true) h rfl (by simp [oks]) (Nat.le_succ _) (fun _ => Nat.succ_pos _)
        (fun hc => Or.inl hc) (by simp [hasAppear])
    · exact T_fail m _ _ _ _ h rfl rfl (fun _ => Nat.succ_pos _) (Nat.le_succ _) rfl rfl
  | pass => exact T_exe m _ h
  | appear => exact T_exe _ _ (T_env m _ h)

theorem T_noop (m m' : M) (h : T m) (hobs : m'.obs = m.obs ++ [.ok .noop]) (htr : m'.tr = m.tr)
    (herr : m.errs ≤ m'.errs) (hcf : m'.cleanupFaulted = m.cleanupFaulted) (henv : m'.envDone = m.envDone) : T m' :=
  T_snoc m m' _ h hobs (by rw [htr]; simp [oks, notNoop]) herr (by simp [listedFailed]) (fun hc => Or.inl (hcf ▸ hc))
    (by simp [henv, hasAppear])

theorem T_statObs (m m' : M) (h : T m) (b : Bool)
    (hobs : m'.obs = m.obs ++ [if b then Obs.ok Ev.noop else Obs.fail false false false]) (htr : m'.tr = m.tr)
    (herr : m.errs ≤ m'.errs) (hcf : m'.cleanupFaulted = m.cleanupFaulted) (henv : m'.envDone = m.envDone) : T m' := by
  cases b with
  | true => exact T_noop m m' h (by simpa using hobs) htr herr hcf henv
  | false => exact T_fail m m' false false false h (by simpa using hobs) htr (fun hh => by cases hh) herr hcf henv

theorem T_callStat (plan : Plan) (m : M) (h : T m) : T (callStat plan m).2 := by
  unfold callStat
  cases plan m.n with
  | fail e =>
    dsimp only
    split
    · exact T_fail m _ false true false h rfl rfl (fun hh => by cases hh) (Nat.le_refl _) rfl rfl
    · exact T_fail m _ false true false h rfl rfl (fun hh => by cases hh) (Nat.le_succ _) rfl rfl
  | pass => exact T_statObs m _ h _ rfl rfl (Nat.le_refl _) rfl rfl
  | appear => exact T_statObs (m.env .appear) _ (T_env m _ h) _ rfl rfl (Nat.le_refl _) rfl rfl

theorem T_fcall (plan : Plan) (m : M) (ev : Ev) (h : T m) : T (fcall plan m ev).2 := by
  unfold fcall
  split
  · exact T_call plan m ev h
  · cases plan m.n with
    | fail e => exact T_fail m _ _ _ _ h rfl rfl (fun _ => Nat.succ_pos _) (Nat.le_succ _) rfl rfl
    | pass => exact T_fail m _ _ _ _ h rfl rfl (fun _ => Nat.succ_pos _) (Nat.le_succ _) rfl rfl
    | appear =>
      have h1 := T_env m .appear h
      have e3 := env_errs m .appear
      exact T_fail (m.env .appear) _ _ _ _ h1 rfl rfl (fun _ => Nat.succ_pos _) (by show (m.env .appear).errs ≤ m.errs + 1; omega) rfl rfl

theorem T_fclose (plan : Plan) (m : M) (h : T m) : T (fclose plan m).2 := by
  unfold fclose
  split
  · exact T_callClose plan m h
  · cases plan m.n with
    | fail e => exact T_fail m _ _ _ _ h rfl rfl (fun _ => Nat.succ_pos _) (Nat.le_succ _) rfl rfl
    | pass => exact T_noop m _ h rfl rfl (Nat.le_refl _) rfl rfl
    | appear => exact T_noop (m.env .appear) _ (T_env m _ h) rfl rfl (Nat.le_refl _) rfl rfl

theorem T_rm (plan : Plan) (cfg : Cfg) (m : M) (h : T m) : T (rmPart cfg plan m) := by
  unfold rmPart
  split
  · have h1 := T_call plan m .unlinkPart h
    refine ⟨h1.oks, h1.lf, ?_, h1.env⟩
    intro hc
    simp only [Bool.or_eq_true] at hc
    rcases hc with hc | hc
    · exact h1.cf hc
    · -- the plan made this unlink fail: the record says so
      cases hp : plan m.n with
      | fail e =>
        have : (call plan m .unlinkPart).2.obs = m.obs ++ [.fail false true true] := by
          simp [call, hp, listedEv, isUnlinkEv]
        show unlinkFaulted (call plan m .unlinkPart).2.obs = true
        rw [this, unlinkFaulted_append]; simp [unlinkFaulted]
      | pass => simp [hp] at hc
      | appear => simp [hp] at hc
  · exact h

theorem T_frame (plan : Plan) : Frame T plan where
  call := T_call plan
  callClose := T_callClose plan
  callStat := T_callStat plan
  fcall := T_fcall plan
  fclose := T_fclose plan
  rm := fun cfg m h => T_rm plan cfg m h
  refuse := fun _ h => { h with lf := fun _ => Nat.succ_pos _ }

theorem runScript_T (cfg : Cfg) (sc : Script) (plan : Plan) (fs0 : FS) (e : Nat) : T (runScript cfg sc plan fs0 e).2 :=
  frame_runScript (T_frame plan) cfg sc fs0 e (T_start fs0 e)

theorem St.close_needs_open (s s1 : St) (hs : s.step .close = some s1) : s.isOpen = true := by
  obtain ⟨ph, op, db, us⟩ := s
  cases op with
  | true => rfl
  | false => simp [St.step] at hs

theorem A.run_headUnlink {cfg : Cfg} {raises : Bool} (hop : cfg.overwritePart = false) : ∀ (t : List Obs) (a a' : A),
    a.s.phase = .init → a.s.isOpen = false → a.run cfg raises t = some a' → headUnlink (oks t) = false
  | [], _, _, _, _, _ => rfl
  | o :: t, a, a', h0, hc, h => by
    obtain ⟨a1, h1, h2⟩ := A.run_cons_some.1 h
    cases o with
    | ok ev =>
      obtain ⟨hal, s', hs, rfl⟩ := A.step_ok_some.1 h1
      cases ev with
      | noop => cases hs; exact A.run_headUnlink hop t _ a' h0 hc h2
      | unlinkPart => simp [okAllowed, h0, hop] at hal
      | _ => rfl
    | fail l i u => cases h1; exact A.run_headUnlink hop t _ a' (by exact h0) (by exact hc) h2
    | failClosed l =>
      obtain ⟨s', hs, rfl⟩ := A.step_failClosed_some.1 h1
      rw [St.close_needs_open a.s s' hs] at hc; cases hc
    | appear => cases h1; exact A.run_headUnlink hop t _ a' (by exact h0) (by exact hc) h2

theorem runScript_headUnlink (cfg : Cfg) (sc : Script) (plan : Plan) (fs0 : FS) (e : Nat) (hop : cfg.overwritePart = false) :
    headUnlink (runScript cfg sc plan fs0 e).2.tr = false := by
  obtain ⟨a, ha⟩ := runScript_ran cfg fs0 e sc plan
  rw [← headUnlink_filter, ← (runScript_T cfg sc plan fs0 e).oks, headUnlink_filter]
  exact A.run_headUnlink hop _ A.init a rfl rfl ha

/-- that the automaton reads the record to the end comes out of the walk (`WalkInv.ran`); what is left are the end
    conditions, read off `Res` -/
theorem runScript_accepted (cfg : Cfg) (sc : Script) (plan : Plan) (fs0 : FS) (e : Nat)
    (hne : NoEnv plan) (hnn : NoENOENT plan) :
    Accept cfg sc.raises (decide ((runScript cfg sc plan fs0 e).1 = .ok)) sc.content fs0.umask fs0.destMode
      (runScript cfg sc plan fs0 e).2.obs = true := by
  obtain ⟨s, W, r, w, _⟩ := runScript_walk cfg fs0 e sc plan
  obtain ⟨a, ha, harun⟩ := w.ran
  have ht := runScript_T cfg sc plan fs0 e
  generalize (runScript cfg sc plan fs0 e).1 = out at r ⊢
  generalize (runScript cfg sc plan fs0 e).2 = m at r w ha ht harun ⊢
  have hpub : a.s.published = m.published := by rw [ha.st]; exact r.j.published
  unfold Accept
  rw [harun]
  refine accEnd_iff.2 ⟨fun hok => ?_, fun hok hrm huf => ?_, fun hp => ?_, fun hp _ => ?_⟩
  · obtain ⟨hdone, herrs, hraise⟩ := r.ok (of_decide_eq_true hok)
    refine ⟨ha.st ▸ hdone, ?_, hraise⟩
    cases hf : a.failed with
    | false => rfl
    | true => have := ha.errs hf; omega
  · have hcf : m.cleanupFaulted = false := by
      cases hh : m.cleanupFaulted with
      | false => rfl
      | true => have := ht.cf hh; rw [← A.init_run_ufail harun, huf] at this; cases this
    rw [ha.st]
    rcases r.failed (of_decide_eq_false hok) with ⟨h0, _⟩ | ⟨hni, hp⟩
    · exact Or.inl h0
    · -- the part name is free, so the part file is gone, not merely still to be unlinked
      exact Or.inr ((St.part_or_gone hni).resolve_left fun h => by
        have := GInv.part_some r.j.inv h; rw [hp hrm hcf] at this; cases this)
  · rw [← allWrites_filter, ht.oks, allWrites_filter, ← w.w, r.pub_written (hpub ▸ hp)]
  · rw [← mode_filter, ht.oks, mode_filter, r.pub_mode (hpub ▸ hp) hne hnn]

end C05
