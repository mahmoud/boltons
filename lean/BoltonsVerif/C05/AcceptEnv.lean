import BoltonsVerif.C05.AcceptHist
import BoltonsVerif.C05.Env
/-
C05 — histories of saves IN A CHANGING WORLD.  Between two saves (through the same long-lived
`AtomicSaver` object, or through another one) the destination may be chmod-ed, deleted, replaced by
another writer's file, the process umask may change (`EnvStep`).  `HistoryE` = any interleaving of
accepted saves and such moves.  What a reader of the destination sees (`View`: bytes, permission
bits; plus the umask) after ANY such history is computed by a trivial specification machine
(`viewRun`): a move of the world acts on the view, a save that is not published leaves it alone,
and a published save sets it to the block's bytes with the permission bits

    explicit `file_perms`, else those the destination has WHEN THAT SAVE STARTS, else `0o666 & ~umask`
    with the umask in force WHEN THAT SAVE STARTS

- a function of the state the save starts from, not of anything the saver object did or saw before.
-/
namespace C05
open C04

theorem EnvStep.start (x : EnvStep) (fs : FS) (e : Nat) (hst : Start fs e) : Start (x.apply fs) e := by
  obtain ⟨⟨wd, wp⟩, elt, eino, edest, epart⟩ := hst
  cases x with
  | chmodDest md =>
    simp only [EnvStep.apply]
    cases hd : fs.dir.dest with
    | none => exact ⟨⟨wd, wp⟩, elt, eino, edest, epart⟩
    | some i =>
      have hie : i ≠ e := fun h => edest (by rw [hd, h])
      refine ⟨⟨?_, ?_⟩, ?_, ?_, ?_, ?_⟩
      · intro j hj; simp only [modInode_length]; exact wd j hj
      · intro j hj; simp only [modInode_length]; exact wp j hj
      · simp only [modInode_length]; exact elt
      · simp only [modInode_get_ne _ _ _ _ hie]; exact eino
      · exact edest
      · exact epart
  | unlinkDest =>
    simp only [EnvStep.apply]
    cases hd : fs.dir.dest with
    | none => exact ⟨⟨wd, wp⟩, elt, eino, edest, epart⟩
    | some i =>
      refine ⟨⟨?_, ?_⟩, elt, eino, ?_, epart⟩
      · intro j hj; simp [FS.setDir] at hj
      · intro j hj; exact wp j hj
      · simp [FS.setDir]
  | putDest md data =>
    simp only [EnvStep.apply]
    refine ⟨⟨?_, ?_⟩, ?_, ?_, ?_, ?_⟩
    · intro j hj; simp [FS.setDir] at hj; subst hj; simp
    · intro j hj; simp [FS.setDir] at hj ⊢; have := wp j hj; omega
    · simp; omega
    · simp [List.getElem?_append_left elt]; exact eino
    · simp [FS.setDir]; omega
    · exact epart
  | setUmask um => exact ⟨⟨wd, wp⟩, elt, eino, edest, epart⟩
  | putPart md data =>
    simp only [EnvStep.apply]
    refine ⟨⟨?_, ?_⟩, ?_, ?_, ?_, ?_⟩
    · intro j hj; simp [FS.setDir] at hj ⊢; have := wd j hj; omega
    · intro j hj; simp [FS.setDir] at hj; subst hj; simp
    · simp; omega
    · simp [List.getElem?_append_left elt]; exact eino
    · exact edest
    · simp [FS.setDir]; omega
  | unlinkPart =>
    simp only [EnvStep.apply]
    cases hd : fs.dir.part with
    | none => exact ⟨⟨wd, wp⟩, elt, eino, edest, epart⟩
    | some i =>
      refine ⟨⟨?_, ?_⟩, elt, eino, edest, ?_⟩
      · intro j hj; exact wd j hj
      · intro j hj; simp [FS.setDir] at hj
      · simp [FS.setDir]

/-! ### what a reader of the destination sees -/

structure View where
  bytes : Option Bytes
  mode : Option Nat
  umask : Nat
deriving DecidableEq, Repr

def viewOf (fs : FS) : View := ⟨fs.readDest, fs.destMode, fs.umask⟩

/-- the move of the world, on the view -/
def EnvStep.view (v : View) : EnvStep → View
  | .chmodDest md => { v with mode := v.mode.map (fun _ => md) }
  | .unlinkDest => { v with bytes := none, mode := none }
  | .putDest md data => ⟨some data, some md, v.umask⟩
  | .setUmask um => { v with umask := um }
  | .putPart _ _ => v
  | .unlinkPart => v

theorem EnvStep.view_apply (x : EnvStep) (fs : FS) (hwf : fs.WF) : viewOf (x.apply fs) = x.view (viewOf fs) := by
  cases x with
  | chmodDest md =>
    simp only [EnvStep.apply, EnvStep.view, viewOf]
    cases hd : fs.dir.dest with
    | none => simp [FS.readDest, FS.destMode, FS.inode?, hd]
    | some i =>
      have hlt := hwf.1 i hd
      simp only [FS.readDest, FS.destMode, FS.inode?, hd, modInode_get_eq]
      have : fs.inodes[i]? = some fs.inodes[i] := List.getElem?_eq_getElem hlt
      simp [this, Inode.cache]
  | unlinkDest =>
    simp only [EnvStep.apply, EnvStep.view, viewOf]
    cases hd : fs.dir.dest with
    | none => simp [FS.readDest, FS.destMode, FS.inode?, hd]
    | some i => simp [FS.readDest, FS.destMode, FS.inode?, FS.setDir]
  | putDest md data =>
    simp [EnvStep.apply, EnvStep.view, viewOf, FS.readDest, FS.destMode, FS.inode?, FS.setDir, Inode.cache]
  | setUmask um => simp [EnvStep.apply, EnvStep.view, viewOf, FS.readDest, FS.destMode, FS.inode?]
  | putPart md data =>
    simp only [EnvStep.apply, EnvStep.view, viewOf, FS.readDest, FS.destMode, FS.inode?, FS.setDir]
    cases hd : fs.dir.dest with
    | none => rfl
    | some i => simp [List.getElem?_append_left (hwf.1 i hd)]
  | unlinkPart =>
    simp only [EnvStep.apply, EnvStep.view, viewOf]
    cases hd : fs.dir.part with
    | none => rfl
    | some i => simp [FS.readDest, FS.destMode, FS.inode?, FS.setDir]

inductive Step where
  | save (s : SaveObs)
  | env (x : EnvStep)

/-- any interleaving of accepted, executable saves (each started in the state its predecessor left; no other process
    acting WHILE a save runs) and moves of the world between them -/
inductive HistoryE (e : Nat) : FS → List Step → FS → Prop
  | nil (fs : FS) : HistoryE e fs [] fs
  | save (fs0 : FS) (s : SaveObs) (m : M) (rest : List Step) (fs2 : FS) :
      Observed s.cfg s.raises s.ok s.content fs0 e s.t m → hasAppear s.t = false → HistoryE e m.fs rest fs2 →
      HistoryE e fs0 (.save s :: rest) fs2
  | env (fs0 : FS) (x : EnvStep) (rest : List Step) (fs2 : FS) :
      HistoryE e (x.apply fs0) rest fs2 → HistoryE e fs0 (.env x :: rest) fs2

theorem HistoryE.start {e : Nat} {fs0 fs : FS} {l : List Step} (h : HistoryE e fs0 l fs) (hst : Start fs0 e) : Start fs e := by
  induction h with
  | nil fs => exact hst
  | save fs0 s m rest fs2 hobs hne _ ih => exact ih (hobs.next_start hst hne)
  | env fs0 x rest fs2 _ ih => exact ih (x.start fs0 e hst)

theorem HistoryE.split {e : Nat} : ∀ (p q : List Step) (fs0 fs : FS), HistoryE e fs0 (p ++ q) fs →
    ∃ mid, HistoryE e fs0 p mid ∧ HistoryE e mid q fs
  | [], q, fs0, fs, h => ⟨fs0, HistoryE.nil fs0, h⟩
  | .save s :: p, q, fs0, fs, h => by
    cases h with
    | save _ _ m _ _ hobs hne hrest =>
      obtain ⟨mid, h1, h2⟩ := HistoryE.split p q m.fs fs hrest
      exact ⟨mid, HistoryE.save fs0 s m p mid hobs hne h1, h2⟩
  | .env x :: p, q, fs0, fs, h => by
    cases h with
    | env _ _ _ _ hrest =>
      obtain ⟨mid, h1, h2⟩ := HistoryE.split p q (x.apply fs0) fs hrest
      exact ⟨mid, HistoryE.env fs0 x p mid h1, h2⟩

/-- the specification machine: what one step does to the view -/
def stepView (v : View) : Step → View
  | .env x => x.view v
  | .save s => if publishes (oks s.t) then ⟨some s.content, some (expectedMode s.cfg v.mode v.umask), v.umask⟩ else v

def viewRun (v : View) (l : List Step) : View := l.foldl stepView v

theorem Observed.view {cfg raises ok content fs0 e t m} (h : Observed cfg raises ok content fs0 e t m)
    (hst : Start fs0 e) (hne : hasAppear t = false) :
    viewOf m.fs = stepView (viewOf fs0) (.save ⟨cfg, raises, ok, content, t⟩) := by
  simp only [stepView]
  cases hp : publishes (oks t) with
  | false =>
    obtain ⟨h1, h2⟩ := (h.unpublished_dest hst hp).1 (h.noenv hne)
    simp [viewOf, h1, h2, h.umask]
  | true =>
    simp [viewOf, h.published_dest hp, h.published_mode hp hne, h.umask]

theorem HistoryE.view {e : Nat} {fs0 fs : FS} {l : List Step} (h : HistoryE e fs0 l fs) (hst : Start fs0 e) :
    viewOf fs = viewRun (viewOf fs0) l := by
  induction h with
  | nil fs => rfl
  | save fs0 s m rest fs2 hobs hne _ ih =>
    rw [ih (hobs.next_start hst hne), hobs.view hst hne]
    rfl
  | env fs0 x rest fs2 _ ih =>
    rw [ih (x.start fs0 e hst), x.view_apply fs0 hst.wf]
    rfl

theorem History.toE {e : Nat} {fs0 fs : FS} {l : List SaveObs} (h : History e fs0 l fs) :
    HistoryE e fs0 (l.map .save) fs := by
  induction h with
  | nil fs => exact .nil fs
  | cons fs0 s m rest fs2 hobs hne _ ih => exact .save fs0 s m _ fs2 hobs hne ih

theorem viewRun_append (v : View) (p q : List Step) : viewRun v (p ++ q) = viewRun (viewRun v p) q := List.foldl_append ..

theorem viewRun_unpublished (v : View) : ∀ (l : List SaveObs), (∀ s ∈ l, publishes (oks s.t) = false) →
    viewRun v (l.map .save) = v
  | [], _ => rfl
  | s :: l, h => by
    have hs := h s (by simp)
    simp only [List.map_cons, viewRun, List.foldl_cons, stepView, hs]
    exact viewRun_unpublished v l (fun x hx => h x (by simp [hx]))

end C05
