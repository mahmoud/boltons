import BoltonsVerif.C01.PtrProofs
import BoltonsVerif.C01.Concrete
/-
C01 — every public mutator of the concrete layer (`Concrete.lean`: dict + pointer-level linked
list + `_map`, the three structures after which `OMD3`, `Inv3`, `hstep3`, `add3_spec`, … are named) commutes with the
abstraction to the two-structure model `OMD`.
-/
namespace C01
open Spec

section sim
variable {K V : Type} [DecidableEq K]

/-- the three structures are consistent: `_map` indexes the cells exactly, and the dict holds for
    every key the values of its cells -/
structure Inv3 (s : OMD3 K V) : Prop where
  ll : PInv s.ll
  inv : Inv s.abs

theorem OMD3.abs_vals (s : OMD3 K V) : s.abs.vals = s.vals := rfl
theorem OMD3.abs_cells (s : OMD3 K V) : s.abs.cells = s.ll.flat := rfl

theorem Inv3.of_abs {s' : OMD3 K V} {t : OMD K V} (hl : PInv s'.ll) (he : s'.abs = t) (hi : Inv t) : Inv3 s' :=
  ⟨hl, he ▸ hi⟩

theorem Inv3.dhas_eq {s : OMD3 K V} (h : Inv3 s) (k : K) : dhas k s.vals = s.ll.flat.any (isK k) :=
  h.inv.dhas_eq k

theorem Inv3.any_of_dget {s : OMD3 K V} (h : Inv3 s) {k : K} {vs : List V} (hd : dget k s.vals = some vs) :
    s.ll.flat.any (isK k) = true := by
  rw [← h.dhas_eq]; simp [dhas, hd]

theorem inv3_empty : Inv3 (OMD3.empty : OMD3 K V) := by
  have he : (OMD3.empty : OMD3 K V).abs = OMD.empty := by
    simp [OMD3.abs, OMD3.empty, PL.flat, abs_empty, LL.flat, LL.empty, OMD.empty]
  exact Inv3.of_abs pinv_empty he inv_empty

theorem add3_spec {s : OMD3 K V} (h : Inv3 s) (k : K) (v : V) :
    Inv3 (s.add k v) ∧ (s.add k v).abs = s.abs.add k v := by
  have he : (s.add k v).abs = s.abs.add k v := by
    simp only [OMD3.abs, OMD3.add, OMD.add, pflat_insert h.ll]
  exact ⟨Inv3.of_abs (pinsert_spec h.ll k v).1 he (inv_add h.inv k v), he⟩

theorem addlist3_spec {s : OMD3 K V} (h : Inv3 s) (k : K) (vs : List V) :
    Inv3 (s.addlist k vs) ∧ (s.addlist k vs).abs = s.abs.addlist k vs := by
  have he : (s.addlist k vs).abs = s.abs.addlist k vs := by
    unfold OMD3.addlist OMD.addlist
    split
    · rfl
    · simp only [OMD3.abs, (pinsertAll_spec h.ll k vs).2]
  refine ⟨Inv3.of_abs ?_ he (inv_addlist h.inv k vs), he⟩
  unfold OMD3.addlist
  split
  · exact h.ll
  · exact (pinsertAll_spec h.ll k vs).1

theorem setitem3_spec {s : OMD3 K V} (h : Inv3 s) (k : K) (v : V) :
    Sim Inv3 OMD3.abs (s.setitem k v) (s.abs.setitem k v, .unit) := by
  unfold OMD3.setitem
  by_cases hh : dhas k s.vals = true
  · obtain ⟨l', e1, i1, f1⟩ := premoveAll_ok h.ll (h.dhas_eq k ▸ hh)
    simp only [hh, ↓reduceIte, e1]
    have he : (⟨dset k [v] s.vals, l'.insert k v⟩ : OMD3 K V).abs = s.abs.setitem k v := by
      simp only [OMD3.abs, OMD.setitem, pflat_insert i1, f1, hh, ↓reduceIte]
    exact ⟨Inv3.of_abs (pinsert_spec i1 k v).1 he (inv_setitem h.inv k v), he, rfl⟩
  · simp only [hh, Bool.false_eq_true, ↓reduceIte]
    have he : (⟨dset k [v] s.vals, s.ll.insert k v⟩ : OMD3 K V).abs = s.abs.setitem k v := by
      simp only [OMD3.abs, OMD.setitem, pflat_insert h.ll, hh, Bool.false_eq_true, ↓reduceIte]
    exact ⟨Inv3.of_abs (pinsert_spec h.ll k v).1 he (inv_setitem h.inv k v), he, rfl⟩

/-- `_remove_all(k)` for a key of the dict, together with `del dict[k]` -/
theorem removeAll3_ok {s : OMD3 K V} (h : Inv3 s) {k : K} (hk : s.ll.flat.any (isK k) = true) :
    ∃ l', s.ll.removeAll k = .ok l' ∧ Inv3 ⟨ddel k s.vals, l'⟩ ∧ (⟨ddel k s.vals, l'⟩ : OMD3 K V).abs = s.abs.delKey k := by
  obtain ⟨l', e1, i1, f1⟩ := premoveAll_ok h.ll hk
  have he : (⟨ddel k s.vals, l'⟩ : OMD3 K V).abs = s.abs.delKey k := by simp only [OMD3.abs, OMD.delKey, f1]
  exact ⟨l', e1, Inv3.of_abs i1 he (inv_delKey h.inv k), he⟩

theorem delitem3_spec {s : OMD3 K V} (h : Inv3 s) (k : K) : Sim Inv3 OMD3.abs (s.delitem k) (s.abs.delitem k) := by
  unfold OMD3.delitem OMD.delitem
  rw [OMD3.abs_vals]
  by_cases hh : dhas k s.vals = true
  · obtain ⟨l', e1, i, a⟩ := removeAll3_ok h (h.dhas_eq k ▸ hh)
    simp only [hh, ↓reduceIte, e1]
    exact ⟨i, a, rfl⟩
  · simp only [hh, Bool.false_eq_true, ↓reduceIte]
    exact ⟨h, rfl, rfl⟩

theorem delIfHas3_spec {s : OMD3 K V} (h : Inv3 s) (k : K) :
    Sim Inv3 OMD3.abs (s.delIfHas k) (s.abs.delIfHas k, .unit) := by
  have hd := delitem3_spec h k
  unfold OMD3.delIfHas OMD.delIfHas
  rw [OMD3.abs_vals]
  by_cases hh : dhas k s.vals = true
  · rw [show s.abs.delitem k = (s.abs.delKey k, .unit) by simp [OMD.delitem, OMD3.abs_vals, hh]] at hd
    simpa only [hh, ↓reduceIte] using hd
  · simp only [hh, Bool.false_eq_true, ↓reduceIte]
    exact ⟨h, rfl, rfl⟩

theorem addAll3_spec {s : OMD3 K V} (h : Inv3 s) (l : List (K × V)) :
    Inv3 (s.addAll l) ∧ (s.addAll l).abs = s.abs.addAll l := by
  induction l generalizing s with
  | nil => exact ⟨h, rfl⟩
  | cons p r ih =>
    obtain ⟨i1, e1⟩ := add3_spec h p.1 p.2
    have := ih i1
    simp only [OMD3.addAll, OMD.addAll, List.foldl_cons] at this ⊢
    rw [← e1]
    exact this

theorem setAll3_spec {s : OMD3 K V} (h : Inv3 s) (l : List (K × V)) :
    Sim Inv3 OMD3.abs (s.setAll l) (s.abs.setAll l, .unit) := by
  induction l generalizing s with
  | nil => exact ⟨h, rfl, rfl⟩
  | cons p r ih =>
    obtain ⟨s1, e1, i1, a1⟩ := (setitem3_spec h p.1 p.2).split
    have := ih i1
    rw [a1] at this
    simp only [OMD3.setAll, e1]
    exact this

theorem delKeys3_spec {s : OMD3 K V} (h : Inv3 s) (ks : List K) :
    Sim Inv3 OMD3.abs (s.delKeys ks) (ks.foldl OMD.delIfHas s.abs, .unit) := by
  induction ks generalizing s with
  | nil => exact ⟨h, rfl, rfl⟩
  | cons k r ih =>
    obtain ⟨s1, e1, i1, a1⟩ := (delIfHas3_spec h k).split
    have := ih i1
    rw [a1] at this
    simp only [OMD3.delKeys, e1]
    exact this

theorem updPairs3_spec {s : OMD3 K V} (h : Inv3 s) (seen : List K) (l : List (K × V)) :
    Sim Inv3 OMD3.abs (s.updPairs seen l) (s.abs.updPairs seen l, .unit) := by
  induction l generalizing s seen with
  | nil => exact ⟨h, rfl, rfl⟩
  | cons p r ih =>
    by_cases hs : p.1 ∈ seen
    · obtain ⟨i1, a1⟩ := add3_spec h p.1 p.2
      have := ih i1 seen
      rw [a1] at this
      simpa only [OMD3.updPairs, OMD.updPairs, hs, ↓reduceIte] using this
    · obtain ⟨s1, e1, i1, a1⟩ := (delIfHas3_spec h p.1).split
      obtain ⟨i1', a1'⟩ := add3_spec i1 p.1 p.2
      have := ih i1' (p.1 :: seen)
      rw [a1', a1] at this
      simpa only [OMD3.updPairs, OMD.updPairs, hs, ↓reduceIte, e1] using this

theorem update3_spec {s : OMD3 K V} (h : Inv3 s) (E : Arg K V) (F : List (K × V)) :
    Sim Inv3 OMD3.abs (s.update E F) (s.abs.update E F, .unit) := by
  have h1 : Sim Inv3 OMD3.abs (s.updateE E) ((match E with
        | .self => s.abs
        | .omd t => (t.keys.foldl OMD.delIfHas s.abs).addAll t.cells
        | .mapping m => s.abs.setAll m
        | .pairs l => s.abs.updPairs [] l), .unit) := by
    cases E with
    | self => exact ⟨h, rfl, rfl⟩
    | omd t =>
      obtain ⟨s1, e1, i1, a1⟩ := (delKeys3_spec h t.keys).split
      simp only [OMD3.updateE, e1]
      exact .of Out.unit (a1 ▸ addAll3_spec i1 t.cells)
    | mapping m => exact setAll3_spec h m
    | pairs l => exact updPairs3_spec h [] l
  obtain ⟨s1, e1, i1, a1⟩ := h1.split
  have := setAll3_spec i1 F
  rw [a1] at this
  simp only [OMD3.update, e1]
  cases E <;> exact this

theorem updateExtend3_spec {s : OMD3 K V} (h : Inv3 s) (E : Arg K V) (F : List (K × V)) :
    Sim Inv3 OMD3.abs (s.updateExtend E F) (s.abs.updateExtend E F) := by
  have h2 : ∀ l, Sim Inv3 OMD3.abs ((s.addAll l).addAll F, (Out.unit : Out K V)) ((s.abs.addAll l).addAll F, .unit) :=
      fun l => by
    obtain ⟨i1, a1⟩ := addAll3_spec h l
    exact .of Out.unit (a1 ▸ addAll3_spec i1 F)
  unfold OMD3.updateExtend OMD.updateExtend
  cases E with
  | self =>
    simp only
    cases hi : s.abs.items with
    | error e => exact ⟨h, rfl, rfl⟩
    | ok l => exact h2 l
  | _ => exact h2 _

theorem fromPairs3_spec (l : List (K × V)) :
    Inv3 (OMD3.fromPairs l) ∧ (OMD3.fromPairs l : OMD3 K V).abs = OMD.fromPairs l :=
  addAll3_spec inv3_empty l

theorem copy3_spec (s : OMD3 K V) : Inv3 s.copy ∧ s.copy.abs = s.abs.copy := fromPairs3_spec _

theorem clear3_spec {s : OMD3 K V} (h : Inv3 s) : Inv3 s.clear ∧ s.clear.abs = OMD.empty := by
  have hc := pclear_spec h.ll
  have he : s.clear.abs = OMD.empty := by
    simp only [OMD3.abs, OMD3.clear, PL.flat, hc.2, OMD.empty]; rfl
  exact ⟨Inv3.of_abs hc.1 he inv_empty, he⟩

theorem new3_spec (E : Option (Arg K V)) (F : List (K × V)) : Sim Inv3 OMD3.abs (OMD3.new E F) (OMD.new E F) := by
  cases E with
  | none => exact setAll3_spec (inv3_empty (K := K) (V := V)) F
  | some E =>
    obtain ⟨s', o, e3, e, i⟩ := (updateExtend3_spec (inv3_empty (K := K) (V := V)) E []).elim
    rw [show (OMD3.empty : OMD3 K V).abs = OMD.empty from rfl] at e
    simp only [OMD3.new, OMD.new, e3, e]
    cases o with
    | unit => exact setAll3_spec i F
    | _ => exact ⟨i, rfl, rfl⟩

theorem setdefault3_spec {s : OMD3 K V} (h : Inv3 s) (k : K) (v : V) :
    Sim Inv3 OMD3.abs (s.setdefault k v) (s.abs.setdefault k v) := by
  unfold OMD3.setdefault OMD.setdefault
  rw [OMD3.abs_vals]
  by_cases hh : dhas k s.vals = true
  · simp only [hh, ↓reduceIte]
    exact ⟨h, rfl, rfl⟩
  · obtain ⟨s', e, i, a⟩ := (setitem3_spec h k v).split
    simp only [hh, Bool.false_eq_true, ↓reduceIte, e]
    exact ⟨i, a, by rw [a]; cases (s.abs.setitem k v).getitem k <;> rfl⟩

theorem popall3_spec {s : OMD3 K V} (h : Inv3 s) (k : K) (d : Bool) :
    Sim Inv3 OMD3.abs (s.popall k d) (s.abs.popall k d) := by
  unfold OMD3.popall OMD.popall
  rw [OMD3.abs_vals]
  cases hd : dget k s.vals with
  | none => exact ⟨h, rfl, rfl⟩
  | some vs =>
    obtain ⟨l', e1, i, a⟩ := removeAll3_ok h (h.any_of_dget hd)
    simp only [e1]
    exact ⟨i, a, rfl⟩

theorem pop3_spec {s : OMD3 K V} (h : Inv3 s) (k : K) (d : Bool) : Sim Inv3 OMD3.abs (s.pop k d) (s.abs.pop k d) := by
  obtain ⟨s', o, e3, e, i⟩ := (popall3_spec h k false).elim
  unfold OMD3.pop OMD.pop
  unfold OMD.popall at e
  rw [OMD3.abs_vals] at e ⊢
  rw [e3]
  cases hd : dget k s.vals <;> simp only [hd] at e ⊢ <;> obtain ⟨ea, rfl⟩ := Prod.mk.inj e <;>
    exact ⟨i, ea.symm, rfl⟩

theorem poplastKey3_spec {s : OMD3 K V} (h : Inv3 s) (k : K) (d : Bool) :
    Sim Inv3 OMD3.abs (s.poplastKey k d) (s.abs.poplastKey k d) := by
  have hp := poplastKey_spec h.inv k d
  unfold OMD3.poplastKey
  unfold OMD.poplastKey at hp ⊢
  rw [OMD3.abs_cells, OMD3.abs_vals] at hp ⊢
  by_cases ha : s.ll.flat.any (isK k) = true
  · obtain ⟨l', e1, i1, f1⟩ := premove_ok h.ll ha
    simp only [ha, ↓reduceIte, e1] at hp ⊢
    have key : ∀ (vals' : List (K × List V)) (o : Out K V), Inv ⟨vals', rmLast k s.ll.flat⟩ →
        Sim Inv3 OMD3.abs ((⟨vals', l'⟩ : OMD3 K V), o) (⟨vals', rmLast k s.ll.flat⟩, o) :=
      fun vals' o hi =>
        have ha' : (⟨vals', l'⟩ : OMD3 K V).abs = ⟨vals', rmLast k s.ll.flat⟩ := by rw [OMD3.abs, f1]
        .of o ⟨Inv3.of_abs i1 ha' hi, ha'⟩
    cases hd : dget k s.vals with
    | none => simp only [hd] at hp ⊢; exact key _ _ hp.inv
    | some vs => cases hl : vs.getLast? <;> simp only [hd, hl] at hp ⊢ <;> exact key _ _ hp.inv
  · simp only [ha, Bool.false_eq_true, ↓reduceIte, premove_keyError h.ll ha]
    exact ⟨h, rfl, rfl⟩

theorem poplast3_spec {s : OMD3 K V} (h : Inv3 s) (k : Option K) (d : Bool) :
    Sim Inv3 OMD3.abs (s.poplast k d) (s.abs.poplast k d) := by
  cases k with
  | some k => exact poplastKey3_spec h k d
  | none =>
    unfold OMD3.poplast OMD.poplast
    simp only [OMD3.abs_cells, OMD3.abs_vals, plastKey_eq h.ll]
    by_cases he : s.vals.isEmpty = true <;> simp only [he, ↓reduceIte]
    · exact ⟨h, rfl, rfl⟩
    · cases hl : s.ll.flat.getLast? with
      | none => exact ⟨h, rfl, rfl⟩
      | some p => exact poplastKey3_spec h p.1 d

theorem popitem3_spec {s : OMD3 K V} (h : Inv3 s) : Sim Inv3 OMD3.abs s.popitem s.abs.popitem := by
  unfold OMD3.popitem OMD.popitem
  simp only [OMD3.abs_cells, OMD3.abs_vals, plastKey_eq h.ll]
  by_cases he : s.vals.isEmpty = true <;> simp only [he, ↓reduceIte]
  · exact ⟨h, rfl, rfl⟩
  · cases hl : s.ll.flat.getLast? with
    | none => exact ⟨h, rfl, rfl⟩
    | some p =>
      obtain ⟨s', o, e3, e, i⟩ := (pop3_spec h p.1 false).elim
      simp only [Option.map_some, e3, e]
      cases o <;> exact ⟨i, rfl, rfl⟩

theorem reversed3_spec {s : OMD3 K V} (h : Inv3 s) : s.reversed = s.abs.reversed := by
  rw [OMD3.reversed, pflatBack_eq h.ll]; rfl

structure HInv3 (st : HState3 K V) : Prop where
  s : Inv3 st.s
  t : Inv3 st.t

theorem HInv3.abs {st : HState3 K V} (hi : HInv3 st) : HInv st.abs := ⟨hi.s.inv, hi.t.inv⟩

theorem hinv3_init : HInv3 (HState3.init : HState3 K V) := ⟨inv3_empty, inv3_empty⟩

theorem withS3_spec (st : HState3 K V) (hi : HInv3 st) {r3 : OMD3 K V × Out K V} {r : OMD K V × Out K V}
    (h : Sim Inv3 OMD3.abs r3 r) : Sim HInv3 HState3.abs (st.withS r3) (st.abs.withS r) :=
  ⟨⟨h.inv, hi.t⟩, congrArg (HState.mk · st.t.abs) h.abs, h.out⟩

theorem hstep3_spec (st : HState3 K V) (op : HOp K V) (hi : HInv3 st) :
    Sim HInv3 HState3.abs (hstep3 st op) (hstep st.abs op) := by
  cases op with
  | new E F => exact withS3_spec st hi (new3_spec _ F)
  | add k v => exact withS3_spec st hi (.of .unit (add3_spec hi.s k v))
  | addlist k vs => exact withS3_spec st hi (.of .unit (addlist3_spec hi.s k vs))
  | setitem k v => exact withS3_spec st hi (setitem3_spec hi.s k v)
  | delitem k => exact withS3_spec st hi (delitem3_spec hi.s k)
  | update E F => exact withS3_spec st hi (update3_spec hi.s (E.resolve st.abs) F)
  | updateExtend E F => exact withS3_spec st hi (updateExtend3_spec hi.s _ F)
  | setdefault k v => exact withS3_spec st hi (setdefault3_spec hi.s k v)
  | pop k d => exact withS3_spec st hi (pop3_spec hi.s k d)
  | popall k d => exact withS3_spec st hi (popall3_spec hi.s k d)
  | poplast k d => exact withS3_spec st hi (poplast3_spec hi.s k d)
  | popitem => exact withS3_spec st hi (popitem3_spec hi.s)
  | clear => exact withS3_spec st hi (.of .unit (clear3_spec hi.s))
  | addlistAbort k vs => exact ⟨hi, rfl, rfl⟩
  | updateAbort l =>
    obtain ⟨s', e, i, a⟩ := (updPairs3_spec hi.s [] l).split
    simp only [hstep3, e]
    exact withS3_spec st hi (.of .abort ⟨i, a⟩)
  | updateExtendAbort l => exact withS3_spec st hi (.of .abort (addAll3_spec hi.s l))
  | updateMapAbort l =>
    obtain ⟨s', e, i, a⟩ := (setAll3_spec hi.s l).split
    simp only [hstep3, e]
    exact withS3_spec st hi (.of .abort ⟨i, a⟩)
  | rejected => exact ⟨hi, rfl, rfl⟩
  | copyToT => exact ⟨⟨hi.s, (copy3_spec st.s).1⟩, congrArg (HState.mk st.s.abs) (copy3_spec st.s).2, rfl⟩
  | copyToS => exact withS3_spec st hi (.of .unit (copy3_spec st.s))
  | swap => exact ⟨⟨hi.t, hi.s⟩, rfl, rfl⟩

theorem isRun_hrun3 : IsRun (hstep3 (K := K) (V := V)) hrun3 := ⟨fun _ => rfl, fun _ _ _ => rfl⟩

theorem hrun3_spec (st : HState3 K V) (hi : HInv3 st) (ops : List (HOp K V)) :
    (hrun3 st ops).map (fun r => (r.1.abs, r.2)) = hrun st.abs ops ∧ ∀ r ∈ hrun3 st ops, HInv3 r.1 :=
  isRun_hrun3.sim isRun_hrun hstep3_spec st hi ops

/-- the two refinements composed, step by step -/
theorem hrun3_refines_spec (ops : List (HOp K V)) :
    (hrun3 (HState3.init : HState3 K V) ops).map (fun r => (absH r.1.abs, r.2)) = Spec.hrun ⟨[], []⟩ ops :=
  (isRun_hrun3.sim isRun_spec (a := absH ∘ HState3.abs)
    (fun st op hi => have h := (hstep3_spec st op hi).comp (hstep_spec st.abs op hi.abs); ⟨h.inv.1, h.abs, h.out⟩)
    HState3.init hinv3_init ops).1

end sim
end C01
