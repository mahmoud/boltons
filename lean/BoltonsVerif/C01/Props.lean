import BoltonsVerif.C01.Proofs
import BoltonsVerif.C01.ConcreteProofs
import BoltonsVerif.C01.OwnProofs
import BoltonsVerif.C01.OwnCompound
import BoltonsVerif.C01.Natural
import BoltonsVerif.C01.KeyNatural
import BoltonsVerif.C01.Iter
import BoltonsVerif.Generated.C01_Effects
/-
C01 — the property theorems for OrderedMultiDict, each a short derivation from the lemma files, and examples showing
that their hypotheses can be met.

Histories (`HOp`) run on two registers so that OMD-valued arguments, copies and comparison
partners are themselves products of arbitrary histories.  `K`, `V` are arbitrary types with
decidable equality on keys: nothing depends on a bound on keys, values, sizes or history length.
-/
namespace C01
open Spec
variable {K V : Type} [DecidableEq K]

theorem inv_init : HInv (HState.init : HState K V) := hinv_init

/-- every public mutator (with any argument that is itself a consistent OMD, a mapping, or any
    iterable of pairs) preserves the invariant -/
theorem inv_step (st : HState K V) (hi : HInv st) (op : HOp K V) : HInv (hstep st op).1 :=
  (hstep_spec st op hi).inv

/-- … and is exactly the corresponding one-line operation on the plain list of pairs:
    same resulting pair list, same return value / same exception -/
theorem refines_step (st : HState K V) (hi : HInv st) (op : HOp K V) :
    absH (hstep st op).1 = (Spec.hstep (absH st) op).1 ∧ (hstep st op).2 = (Spec.hstep (absH st) op).2 :=
  ⟨(hstep_spec st op hi).abs, (hstep_spec st op hi).out⟩

/-- for every finite history of public operations, after every prefix: the pair list and the
    return value are those of the plain list of pairs -/
theorem refines_history (ops : List (HOp K V)) :
    (hrun (HState.init : HState K V) ops).map (fun r => (absH r.1, r.2)) =
      Spec.hrun ⟨[], []⟩ ops :=
  (hrun_spec HState.init hinv_init ops).1

theorem inv_history (ops : List (HOp K V)) (r : HState K V × Out K V)
    (hr : r ∈ hrun (HState.init : HState K V) ops) : HInv r.1 :=
  (hrun_spec HState.init hinv_init ops).2 r hr

/-- all readers of a state that satisfies the invariant, against the list-of-pairs readers.
    Keyed readers use the dict, ordered readers the cells: under `Inv` they cannot disagree. -/
structure ReadsAgree (s : OMD K V) : Prop where
  itemsM   : s.itemsM = s.cells
  keysM    : s.keysM = s.cells.map (·.1)
  valuesM  : s.valuesM = s.cells.map (·.2)
  keys     : s.keys = Spec.keys s.cells
  items    : s.items = .ok (Spec.items s.cells)
  values   : s.values = .ok (Spec.values s.cells)
  getitem  : ∀ k, s.getitem k = Spec.getitem s.cells k
  get      : ∀ k, s.get k = .ok (Spec.last k s.cells)
  getlist  : ∀ k, s.getlist k = Spec.valsOf k s.cells
  contains : ∀ k, s.contains k = Spec.has k s.cells
  len      : s.len = Spec.len s.cells
  bool     : s.bool = !s.cells.isEmpty
  iter     : s.iter = Spec.keys s.cells
  reversed : s.reversed = .ok (Spec.reversed s.cells)
  todict   : s.todict = .ok (Spec.items s.cells)
  todictM  : s.todictM = Spec.todictM s.cells
  counts   : s.counts = .ok (Spec.counts s.cells)

theorem reads_agree (s : OMD K V) (h : Inv s) : ReadsAgree s :=
  { itemsM := rfl, keysM := rfl, valuesM := rfl, keys := rfl
    items := items_spec h, values := values_spec h
    getitem := getitem_spec h, get := get_spec h, getlist := getlist_spec h
    contains := contains_spec h, len := len_spec h, reversed := reversed_spec h
    bool := by rw [OMD.bool, vals_isEmpty_eq h], iter := rfl
    todict := todict_spec h, todictM := todictM_spec h, counts := counts_spec h }

/-- after every prefix of every history all reads of both registers agree with the plain list -/
theorem reads_agree_history (ops : List (HOp K V)) (r : HState K V × Out K V)
    (hr : r ∈ hrun (HState.init : HState K V) ops) : ReadsAgree r.1.s ∧ ReadsAgree r.1.t :=
  ⟨reads_agree _ (inv_history ops r hr).s, reads_agree _ (inv_history ops r hr).t⟩

/-- "no operation leaves the mapping in a state where its reads disagree with one another or
    raise": the relations among the model's own readers, with no reference to the specification.
    They hold in every state with `Inv`, hence (by `inv_history`) after every prefix of every history. -/
theorem reads_mutually_consistent (s : OMD K V) (h : Inv s) :
    s.len = s.keys.length ∧
    (∀ k, s.contains k = true ↔ k ∈ s.keys) ∧
    (∀ k, s.contains k = true ↔ k ∈ s.keysM) ∧
    (∀ k, s.getlist k = (s.itemsM.filter (isK k)).map (·.2)) ∧
    s.keysM = s.itemsM.map (·.1) ∧ s.valuesM = s.itemsM.map (·.2) ∧
    s.reversed = .ok s.keys.reverse ∧
    (∀ k, s.contains k = false ↔ s.getitem k = .error .keyError) ∧
    (∃ l, s.items = .ok l ∧ s.values = .ok (l.map (·.2)) ∧ s.todict = .ok l ∧ l.map (·.1) = s.keys ∧
      ∀ p ∈ l, s.getitem p.1 = .ok p.2 ∧ s.get p.1 = .ok (some p.2) ∧ (s.getlist p.1).getLast? = some p.2) := by
  have r := reads_agree s h
  refine ⟨r.len, ?_, ?_, r.getlist, rfl, rfl, r.reversed, ?_, ?_⟩
  · intro k; rw [r.contains, has_iff, r.keys]; exact (mem_keys _ _).symm
  · intro k; rw [r.contains, has_iff]; exact valsOf_ne_nil_iff _ _
  · intro k
    rw [r.contains, r.getitem, spec_getitem_error_iff]
    simp
  · refine ⟨Spec.items s.cells, r.items, ?_, r.todict, ?_, ?_⟩
    · rw [r.values]; rfl
    · rw [r.keys]; exact items_fst _
    · intro p hp
      have hl := mem_items hp
      refine ⟨by rw [r.getitem]; simp [Spec.getitem, hl], by rw [r.get, hl], by rw [r.getlist]; exact hl⟩

/-- the only exception a single-key read raises is the KeyError of an absent key -/
theorem getitem_error_iff (s : OMD K V) (h : Inv s) (k : K) :
    (∃ e, s.getitem k = .error e) ↔ (s.contains k = false ∧ s.getitem k = .error .keyError) := by
  rw [getitem_spec h, contains_spec h]
  constructor
  · rintro ⟨e, he⟩
    obtain ⟨rfl, hh⟩ := (spec_getitem_error_iff k s.cells e).mp he
    exact ⟨hh, he⟩
  · exact fun h => ⟨_, h.2⟩

/-- `keys()` lists every key once … -/
theorem keys_nodup (L : List (K × V)) : (Spec.keys L).Nodup := nodup_dedup _

/-- … exactly the keys that have a pair … -/
theorem mem_keys_iff (L : List (K × V)) (k : K) : k ∈ Spec.keys L ↔ k ∈ L.map (·.1) := mem_dedup _ k

/-- … in order of first appearance: appending a pair adds its key at the end iff it is new -/
theorem keys_append_pair (L : List (K × V)) (k : K) (v : V) :
    Spec.keys (L ++ [(k, v)]) = if k ∈ L.map (·.1) then Spec.keys L else Spec.keys L ++ [k] := by
  simp [Spec.keys, dedup_concat]

/-- single-value reads see the key's most recent pair -/
theorem last_append_pair (L : List (K × V)) (k k' : K) (v : V) :
    Spec.last k' (L ++ [(k, v)]) = if k = k' then some v else Spec.last k' L := by
  by_cases e : k = k'
  · subst e; simp [last_concat]
  · simp [Spec.last, valsOf_append, valsOf_single, e]

/-- assignment replaces all of a key's pairs by one pair at the end -/
theorem setitem_valsOf (L : List (K × V)) (k k' : K) (v : V) :
    Spec.valsOf k' (Spec.setitem L k v) = if k' = k then [v] else Spec.valsOf k' L := by
  simp only [Spec.setitem, Spec.remove, valsOf_append, valsOf_remove, valsOf_single]
  by_cases e : k' = k
  · subst e; simp
  · have : ¬ k = k' := fun e' => e e'.symm
    simp [e, this]

/-- `update` with pairs (or another OMD) replaces all pairs of every key it mentions and keeps
    every pair it brings, duplicates included -/
theorem update_pairs_valsOf (L l : List (K × V)) (k : K) :
    Spec.valsOf k (Spec.update L (.pairs l) []) =
      if k ∈ l.map (·.1) then Spec.valsOf k l else Spec.valsOf k L := by
  simp only [Spec.update, Spec.setAll, List.foldl_nil, Spec.replaceBy, valsOf_append]
  rw [valsOf_filter_key fun a => !decide (a ∈ l.map (·.1))]
  by_cases hk : k ∈ l.map (·.1)
  · simp [hk]
  · simp [hk, valsOf_eq_nil_of_not_mem hk]

/-- `update` with a mapping (assignment key after key) has the same closed form -/
theorem update_mapping_eq (L m : List (K × V)) (hm : (dkeys m).Nodup) :
    Spec.update L (.mapping m) [] = Spec.replaceBy L m := by
  simp only [Spec.update, Spec.setAll, List.foldl_nil]
  exact setAll_eq_replaceBy L m hm

/-- an operation that raises leaves both pair lists as they were (and, by `inv_step`, every
    read still agrees with them) -/
theorem failed_op_changes_nothing (st : HState K V) (hi : HInv st) (op : HOp K V) (e : Err)
    (h : (hstep st op).2 = .err e) : absH (hstep st op).1 = absH st := by
  obtain ⟨h1, h2⟩ := refines_step st hi op
  rw [h1]
  exact spec_err_unchanged (absH st) op e (by rw [← h2]; exact h)


/-- in a well-formed heap the walk along `NEXT` from `root` (what `iteritems` / `iterkeys` follow)
    and the walk along `PREV` (what `__reversed__` follows) meet the same cells, in opposite
    orders, and `root[PREV][KEY]` (what `poplast()` / `popitem()` read) is the key of the last pair -/
theorem heap_walks_agree (l : PL K V) (h : PInv l) :
    l.idsBack = l.ids.reverse ∧ l.abs.cells.map (·.id) = l.ids ∧ l.lastKey = l.flat.getLast?.map (·.1) :=
  ⟨h.shape.idsBack_eq, ids_of_cells h, plastKey_eq h⟩

/-- `_insert`: `last = root[PREV]; cell = [last, root, k, v]; last[NEXT] = root[PREV] = cell`
    keeps the heap well formed and appends exactly one cell (a new object) to what the walk reads -/
theorem heap_insert (l : PL K V) (h : PInv l) (k : K) (v : V) :
    PInv (l.insert k v) ∧ (l.insert k v).abs = l.abs.insert k v := pinsert_spec h k v

/-- `_remove` / `_remove_all`: the unlinking assignment
    `cell[PREV][NEXT], cell[NEXT][PREV] = cell[NEXT], cell[PREV]` takes exactly the cells named by
    `_map[k]` (the last one / all of them) out of what the walk reads; same exceptions -/
theorem heap_remove (l : PL K V) (h : PInv l) (k : K) :
    (∀ l', l.remove k = .ok l' → l.abs.remove k = .ok l'.abs ∧ PInv l') ∧
    (∀ e, l.remove k = .error e → l.abs.remove k = .error e) ∧
    (∀ l', l.removeAll k = .ok l' → l.abs.removeAll k = .ok l'.abs ∧ PInv l') ∧
    (∀ e, l.removeAll k = .error e → l.abs.removeAll k = .error e) := by
  exact ⟨(premove_abs h k).ok, (premove_abs h k).error, (premoveAll_abs h k).ok, (premoveAll_abs h k).error⟩

/-- `_clear_ll`: `root[:] = [root, root, None]`, `_map.clear()` -/
theorem heap_clear (l : PL K V) (h : PInv l) : PInv l.clear ∧ l.clear.abs = l.abs.clear := pclear_spec h

/-- `_insert(k, v)` appends one cell to the walk and keeps the index exact -/
theorem insert_appends_cell (l : LL K V) (h : LLInv l) (k : K) (v : V) :
    LLInv (l.insert k v) ∧ (l.insert k v).flat = l.flat ++ [(k, v)] :=
  ⟨llinv_insert h k v, flat_insert l k v⟩

/-- `_remove(k)`: KeyError exactly when the key has no cell (never an IndexError from an emptied
    `_map` entry); otherwise exactly the LAST cell of the key leaves the walk, index still exact -/
theorem remove_unlinks_last_cell_of_key (l : LL K V) (h : LLInv l) (k : K) :
    if l.flat.any (isK k) = true then
      ∃ l', l.remove k = .ok l' ∧ LLInv l' ∧ l'.flat = rmLast k l.flat
    else l.remove k = .error .keyError := by
  split
  · exact remove_ok h ‹_›
  · exact remove_keyError h ‹_›

/-- `_remove_all(k)`: KeyError exactly when the key has no cell; otherwise every cell of the key
    leaves the walk and the key leaves the index -/
theorem removeAll_unlinks_every_cell_of_key (l : LL K V) (h : LLInv l) (k : K) :
    if l.flat.any (isK k) = true then
      ∃ l', l.removeAll k = .ok l' ∧ LLInv l' ∧ l'.flat = l.flat.filter (notK k)
    else l.removeAll k = .error .keyError := by
  split
  · exact removeAll_ok h ‹_›
  · exact removeAll_keyError h ‹_›

/-- `__reversed__`, which walks the `PREV` pointers, reads what the model's `reversed` reads from the
    reversed pair list (and so, by `reads_agree`, yields `keys()` reversed) -/
theorem reversed_walks_prev (s : OMD3 K V) (h : Inv3 s) :
    s.reversed = s.abs.reversed ∧ s.reversed = .ok (Spec.reversed s.abs.cells) :=
  ⟨reversed3_spec h, by rw [reversed3_spec h]; exact reversed_spec h.inv⟩

/-- one step of any public operation on the concrete layer is the step of the two-structure model
    on its abstraction: same pairs, same dict, same return value or exception; the three
    structures stay consistent -/
theorem concrete_step (st : HState3 K V) (hi : HInv3 st) (op : HOp K V) :
    HInv3 (hstep3 st op).1 ∧ (hstep3 st op).1.abs = (hstep st.abs op).1 ∧
      (hstep3 st op).2 = (hstep st.abs op).2 :=
  ⟨(hstep3_spec st op hi).inv, (hstep3_spec st op hi).abs, (hstep3_spec st op hi).out⟩

/-- for every history, after every prefix: the concrete layer (dict + pointer heap + `_map`)
    shows the pairs and returns the values of the plain list of pairs -/
theorem concrete_refines_history (ops : List (HOp K V)) :
    (hrun3 (HState3.init : HState3 K V) ops).map (fun r => (absH r.1.abs, r.2)) = Spec.hrun ⟨[], []⟩ ops :=
  hrun3_refines_spec ops

/-- … and in every state a history reaches, the heap is a well-formed circular doubly linked list
    through `root`, `_map[k]` is exactly the list of the cells of key `k` (in link order, by
    identity; no entry without cells), cell identities are distinct, and the dict holds the values
    of those cells -/
theorem index_exact_history (ops : List (HOp K V)) (r : HState3 K V × Out K V)
    (hr : r ∈ hrun3 (HState3.init : HState3 K V) ops) : HInv3 r.1 :=
  (hrun3_spec HState3.init hinv3_init ops).2 r hr

/-- in a consistent state the guarded helper calls of the public methods never raise on their own:
    `_remove_all(k)` succeeds for every key of the dict, and `_remove(k)` raises KeyError exactly
    for the keys that are not in the dict (this is `poplast`'s "missing key" path) -/
theorem helpers_raise_only_for_missing_keys (s : OMD3 K V) (h : Inv3 s) (k : K) :
    (dhas k s.vals = true → (∃ l, s.ll.removeAll k = .ok l) ∧ (∃ l, s.ll.remove k = .ok l)) ∧
    (dhas k s.vals = false → s.ll.remove k = .error .keyError ∧ s.ll.removeAll k = .error .keyError) := by
  rw [h.dhas_eq]
  refine ⟨fun hd => ?_, fun hd => ?_⟩
  · obtain ⟨l1, e1, _⟩ := premoveAll_ok h.ll hd
    obtain ⟨l2, e2, _⟩ := premove_ok h.ll hd
    exact ⟨⟨l1, e1⟩, ⟨l2, e2⟩⟩
  · have hn : ¬ s.ll.flat.any (isK k) = true := by rw [hd]; exact Bool.false_ne_true
    exact ⟨premove_keyError h.ll hn, premoveAll_keyError h.ll hn⟩

/-- an argument iterable that raises after yielding `l`: `update` has then taken over exactly `l`
    (as if `update(l)` had been called), `update_extend` has appended exactly `l`, `addlist`
    (which materialises its argument first) has changed nothing; the iterable's exception
    propagates, and by `inv_step` / `refines_step` the dictionary is consistent afterwards -/
theorem aborted_argument (st : HState K V) (k : K) (vs : List V) (l : List (K × V)) :
    hstep st (.addlistAbort k vs) = (st, .abort) ∧
    hstep st (.updateAbort l) = ((hstep st (.update (.pairs l) [])).1, .abort) ∧
    hstep st (.updateExtendAbort l) = ((hstep st (.updateExtend (.pairs l) [])).1, .abort) := by
  refine ⟨rfl, ?_, ?_⟩
  · simp [hstep, OMD.update, OMD.setAll, HArg.resolve]
  · simp [hstep, OMD.updateExtend, OMD.addAll, HState.withS, HArg.resolve]

/-- a mapping argument whose `keys()` / `__getitem__` raises after delivering the items `l`: `update` has
    then assigned exactly `l` (as if `update(dict(l))` had been called); a call that raises on its
    first look at the argument (unhashable key, not iterable, too many arguments) has changed nothing.
    Malformed ITEMS (not pairs, unhashable keys) in an iterable of pairs raise at the unpacking / at
    the `seen` test, before the item is looked at further: they are `updateAbort` / `updateExtendAbort`
    with the well-formed prefix. -/
theorem aborted_mapping_argument (st : HState K V) (l : List (K × V)) :
    hstep st (.updateMapAbort l) = ((hstep st (.update (.mapping l) [])).1, .abort) ∧
    hstep st .rejected = (st, .abort) := by
  refine ⟨?_, rfl⟩
  simp [hstep, OMD.update, OMD.setAll, HArg.resolve]

/-- whatever an argument does half way, the dictionary is consistent afterwards and still the plain
    list of pairs (instances of `inv_step` / `refines_step`, spelled out for the aborting operations) -/
theorem aborted_argument_consistent (st : HState K V) (hi : HInv st) (k : K) (vs : List V) (l : List (K × V)) :
    ∀ op ∈ [HOp.addlistAbort k vs, .updateAbort l, .updateExtendAbort l, .updateMapAbort l, .rejected],
      (hstep st op).2 = .abort ∧ HInv (hstep st op).1 ∧ ReadsAgree (hstep st op).1.s ∧
        absH (hstep st op).1 = (Spec.hstep (absH st) op).1 := by
  intro op hop
  refine ⟨?_, inv_step st hi op, reads_agree _ (inv_step st hi op).s, (refines_step st hi op).1⟩
  simp only [List.mem_cons, List.not_mem_nil, or_false] at hop
  rcases hop with rfl | rfl | rfl | rfl | rfl <;> rfl

/-- `fromkeys(keys, default)` is a consistent dictionary with one pair per listed key, in order
    (a key listed `n` times holds `default` `n` times); its `keys()` are the listed keys without repeats -/
theorem fromkeys_spec (ks : List K) (d : V) :
    Inv (OMD.fromkeys ks d) ∧ (OMD.fromkeys ks d).cells = ks.map (fun k => (k, d)) ∧
    (OMD.fromkeys ks d).keys = dedup ks ∧
    ∀ k, (OMD.fromkeys ks d).getlist k = List.replicate (ks.count k) d := by
  have h := fromPairs_spec (ks.map fun k => (k, d))
  refine ⟨h.1, h.2, ?_, fun k => ?_⟩
  · show dedup ((OMD.fromPairs (ks.map fun k => (k, d))).cells.map (·.1)) = dedup ks
    rw [h.2, List.map_map]; congr 1; simp [Function.comp_def]
  · show (OMD.fromPairs (ks.map fun k => (k, d))).getlist k = _
    rw [getlist_spec h.1, h.2, valsOf_mapConst]

/-- the view objects (`viewkeys()` / `viewvalues()` / `viewitems()`) hold a reference to the
    dictionary; iterating them, `len` and `in` are the readers of the dictionary's CURRENT state, so
    they equal the reads of the plain list as it is now, and never raise -/
theorem views_read_current_state [DecidableEq V] (s : OMD K V) (h : Inv s) :
    s.viewKeysIter = Spec.keys s.cells ∧ s.viewLen = Spec.len s.cells ∧
    (∀ k, s.viewKeysContains k = Spec.has k s.cells) ∧
    s.viewValuesIter = .ok (Spec.values s.cells) ∧ s.viewItemsIter = .ok (Spec.items s.cells) ∧
    (∀ k v, s.viewItemsContains k v = .ok (decide (Spec.last k s.cells = some v))) ∧
    (∀ v, s.viewValuesContains v = .ok (decide (v ∈ Spec.values s.cells))) :=
  ⟨rfl, len_spec h, contains_spec h, viewValuesIter_spec h, items_spec h, viewItemsContains_spec h,
   fun v => by simp [OMD.viewValuesContains, viewValuesIter_spec h]⟩

/-- … after every prefix of every history (a view taken at any time shows the state of the moment
    it is used) -/
theorem views_live_history [DecidableEq V] (ops : List (HOp K V)) (r : HState K V × Out K V)
    (hr : r ∈ hrun (HState.init : HState K V) ops) :
    r.1.s.viewItemsIter = .ok (Spec.items r.1.s.cells) ∧ r.1.s.viewKeysIter = Spec.keys r.1.s.cells ∧
    r.1.s.viewValuesIter = .ok (Spec.values r.1.s.cells) :=
  have h := (inv_history ops r hr).s
  ⟨items_spec h, rfl, viewValuesIter_spec h⟩

/-- `copy()`, `copy.copy`, `copy.deepcopy` and a pickle round trip (all: rebuild from
    `items(multi=True)`) give a consistent dictionary with the same pairs — even from a
    dictionary whose two structures had drifted apart -/
theorem copy_complete (s : OMD K V) : Inv s.copy ∧ s.copy.cells = s.cells := copy_spec s

/-- the constructor from any iterable of pairs keeps every pair, in order -/
theorem fromPairs_complete (l : List (K × V)) :
    Inv (OMD.fromPairs l) ∧ (OMD.fromPairs l : OMD K V).cells = l := fromPairs_spec l

/-- `omd == other_omd` is true exactly when the pair lists are equal -/
theorem eq_omd_iff [DecidableEq V] (s t : OMD K V) (hs : Inv s) (ht : Inv t) :
    s.eqOMD t = true ↔ s.cells = t.cells := eqOMD_iff hs ht

/-- `omd == mapping` never raises and is true exactly when the mapping has the same keys and, for
    each key, the value the OMD shows for it (its most recent one) -/
theorem eq_mapping_iff [DecidableEq V] (s : OMD K V) (h : Inv s) (m : List (K × V)) (hm : (dkeys m).Nodup) :
    (∃ b, s.eqMapping m = .ok b ∧ (b = true ↔ ∀ k, dget k m = Spec.last k s.cells)) :=
  ⟨_, eqMapping_spec h m, spec_eqMapping_iff s.cells m hm⟩

/-- the membership test of `__eq__` (`selfk not in other or other[selfk] != …`) changes nothing for mappings without
    `__missing__`: there the loop without it (`other[selfk]` alone, `eqMappingOld`) and the loop with it agree on every
    input; with a `__missing__` answer the loop without it can say True for a mapping that lacks a key (the example below) -/
theorem eq_mapping_fix_conservative [DecidableEq V] (s : OMD K V) (m : List (K × V)) :
    s.eqMappingOld m none = s.eqMapping m := by
  unfold OMD.eqMappingOld OMD.eqMapping
  split
  · rfl
  · generalize s.keys = ks
    induction ks with
    | nil => rfl
    | cons k r ih =>
      simp only [OMD.eqMapLoopOld, OMD.eqMapLoop]
      cases dget k m with
      | none => rfl
      | some mv =>
        simp only [Option.orElse]
        rw [ih]

/-- `omd != other` is the negation of `omd == other`, for OMDs and for mappings -/
theorem ne_iff [DecidableEq V] (s t : OMD K V) (hs : Inv s) (ht : Inv t) (m : List (K × V)) :
    (s.neOMD t = true ↔ s.cells ≠ t.cells) ∧
    (∃ b, s.eqMapping m = .ok b ∧ s.neMapping m = .ok (!b)) := by
  refine ⟨?_, ?_⟩
  · have := eq_omd_iff s t hs ht
    rw [OMD.neOMD, Ne, ← this]; cases s.eqOMD t <;> simp
  · exact ⟨_, eqMapping_spec hs m, by simp [OMD.neMapping, eqMapping_spec hs m]⟩

/-- a dictionary equals its own `todict()` -/
theorem eq_todict_self [DecidableEq V] (s : OMD K V) (h : Inv s) :
    ∃ l, s.todict = .ok l ∧ s.eqMapping l = .ok true := by
  refine ⟨Spec.items s.cells, todict_spec h, ?_⟩
  rw [eqMapping_spec h]
  congr 1
  rw [spec_eqMapping_iff s.cells _ (by rw [dkeys, items_fst]; exact nodup_dedup _)]
  exact fun k => dget_items s.cells k

/-- `repr(omd)` is the class name applied to the list display of the pairs, in order, and that list
    handed to the constructor gives a dictionary equal to the original (`eval(repr(omd)) == omd` whenever the
    `repr` of the keys and values evaluates back to them) -/
theorem repr_spec [DecidableEq V] (s : OMD K V) (h : Inv s) (cn : String) (rk : K → String) (rv : V → String) :
    s.reprText cn rk rv = Spec.reprText cn rk rv s.cells ∧ (OMD.fromPairs s.itemsM).eqOMD s = true :=
  ⟨rfl, (eq_omd_iff _ s (fromPairs_spec _).1 h).mpr (fromPairs_spec _).2⟩

/-- `inverted()` is a consistent dictionary holding the swapped pairs in the same order -/
theorem inverted_spec [DecidableEq V] (s : OMD K V) :
    Inv s.inverted ∧ s.inverted.cells = s.cells.map (fun p => (p.2, p.1)) := fromPairs_spec _

/-- `sorted(key, reverse)` is a consistent dictionary whose pairs are a permutation of the
    original pairs … -/
theorem sorted_perm (s : OMD K V) (le : K × V → K × V → Bool) (rev : Bool) :
    Inv (s.sorted le rev) ∧ (s.sorted le rev).cells.Perm s.cells :=
  ⟨(fromPairs_spec _).1, by rw [sorted_cells]; exact sortBy_perm _ _⟩

/-- … in the order of the key function (ascending, or descending with `reverse`), whenever the
    key function induces a total preorder `le` on pairs … -/
theorem sorted_sorted (s : OMD K V) (le : K × V → K × V → Bool) (rev : Bool)
    (htot : ∀ a b, le a b = true ∨ le b a = true)
    (htr : ∀ a b c, le a b = true → le b c = true → le a c = true) :
    (s.sorted le rev).cells.Pairwise (fun a b => flipIf rev le a b = true) := by
  rw [sorted_cells]
  exact sortBy_sorted _ (flipIf_total rev le htot) (flipIf_trans rev le htr) _

/-- … and pairs that are already in that order stay as they are -/
theorem sorted_of_sorted (s : OMD K V) (le : K × V → K × V → Bool) (rev : Bool)
    (h : s.cells.Pairwise (fun a b => flipIf rev le a b = true)) : (s.sorted le rev).cells = s.cells := by
  rw [sorted_cells]
  exact sortBy_of_sorted _ _ h

/-- `sorted` is stable (like the built-in, also with `reverse=True`): pairs with equal sort keys
    keep their relative order -/
theorem sorted_stable (s : OMD K V) (le : K × V → K × V → Bool) (rev : Bool)
    (htr : ∀ a b c, le a b = true → le b c = true → le a c = true) (a : K × V) :
    (s.sorted le rev).cells.filter (eqv le a) = s.cells.filter (eqv le a) := by
  rw [sorted_cells]
  have := sortBy_filter_eqv (flipIf rev le) (flipIf_trans rev le htr) a s.cells
  rwa [eqv_flipIf] at this

/-- … so `sorted` is THE stable sort: any list of pairs that is in the requested order and keeps
    every class of equal sort keys as it was in the dictionary is the result of `sorted` -/
theorem sorted_unique (s : OMD K V) (le : K × V → K × V → Bool) (rev : Bool)
    (htot : ∀ a b, le a b = true ∨ le b a = true)
    (htr : ∀ a b c, le a b = true → le b c = true → le a c = true)
    (R : List (K × V)) (hR : R.Pairwise (fun a b => flipIf rev le a b = true))
    (hst : ∀ a, R.filter (eqv le a) = s.cells.filter (eqv le a)) : R = (s.sorted le rev).cells := by
  have hrefl : ∀ a, flipIf rev le a a = true := fun a => by
    rcases flipIf_total rev le htot a a with h | h <;> exact h
  apply sorted_ext (flipIf rev le) hrefl R _ hR (sorted_sorted s le rev htot htr)
  intro a
  rw [eqv_flipIf, hst a, sorted_stable s le rev htr a]

/-- `sortedvalues(key, reverse)` does not raise, gives a consistent dictionary with the same key
    sequence, and every key's values are its old values sorted (a permutation, in the order of
    the key function, ascending or descending with `reverse`) -/
theorem sortedvalues_sorted (s : OMD K V) (h : Inv s) (le : V → V → Bool) (rev : Bool)
    (htot : ∀ a b, le a b = true ∨ le b a = true)
    (htr : ∀ a b c, le a b = true → le b c = true → le a c = true) :
    ∃ r, s.sortedvalues le rev = (r, .unit) ∧ Inv r ∧ r.cells.map (·.1) = s.cells.map (·.1) ∧
      ∀ k, (Spec.valsOf k r.cells).Perm (Spec.valsOf k s.cells) ∧
           (Spec.valsOf k r.cells).Pairwise (fun a b => flipIf rev le a b = true) := by
  obtain ⟨r, h1, h2, h3, h4⟩ := sortedvalues_spec h le rev
  refine ⟨r, h1, h2, h3, fun k => ?_⟩
  rw [h4 k]
  refine ⟨(List.reverse_perm _).trans (sortBy_perm _ _), ?_⟩
  rw [List.pairwise_reverse]
  have := sortBy_sorted (flipIf (!rev) le) (flipIf_total _ le htot) (flipIf_trans _ le htr) (Spec.valsOf k s.cells)
  refine this.imp ?_
  intro a b hab
  cases rev <;> simpa [flipIf] using hab


/-- no operation looks inside a value: relabelling the values of a whole history by ANY function `f`
    (values handed in, values inside OMD / mapping / pair arguments) relabels every pair list reached
    and every return value by `f` and changes nothing else - same key order, same lengths, same
    exceptions, after every prefix -/
theorem values_are_opaque {W : Type} (f : V → W) (ops : List (HOp K V)) :
    (hrun (HState.init : HState K W) (ops.map (HOp.mapV f))).map (fun r => (absH r.1, r.2)) =
      (hrun (HState.init : HState K V) ops).map (fun r => (mapSt f (absH r.1), r.2.mapV f)) := by
  simp only [HOp.mapV_eq, Out.mapV_eq]
  exact hrun_relab (fun _ _ e => e) f ops

/-- alias forms of keys (`1`, `1.0`, `True` are ONE key): let every pair also carry the key OBJECT it
    was inserted with (`V := KO × V`).  Forgetting those objects turns the history into the history
    over `==`-classes of keys that the correspondence runs: which alias object travels with a pair
    never influences a pair list, a key order, a length, a return value or an exception -/
theorem alias_objects_do_not_matter {KO : Type} (ops : List (HOp K (KO × V))) :
    (hrun (HState.init : HState K V) (ops.map (HOp.mapV Prod.snd))).map (fun r => (absH r.1, r.2)) =
      (hrun (HState.init : HState K (KO × V)) ops).map (fun r => (mapSt Prod.snd (absH r.1), r.2.mapV Prod.snd)) :=
  values_are_opaque Prod.snd ops

/-- keys are only ever compared for equality: renaming the keys of a whole history by any INJECTIVE
    function renames every pair list reached and every return value and changes nothing else (no
    operation depends on an order, a hash or anything else about a key than which keys it equals) -/
theorem keys_are_only_compared {K' : Type} [DecidableEq K'] (g : K → K') (hg : Function.Injective g)
    (ops : List (HOp K V)) :
    (hrun (HState.init : HState K' V) (ops.map (HOp.mapK g))).map (fun r => (absH r.1, r.2)) =
      (hrun (HState.init : HState K V) ops).map (fun r => (mapStK g (absH r.1), r.2.mapK g)) := by
  simp only [HOp.mapK_eq, Out.mapK_eq]
  exact hrun_relab hg id ops

/-- a generator of `iteritems(multi=True)` / `iterkeys(multi=True)` / `itervalues(multi=True)` that is
    paused at a cell which is (still) linked goes on with exactly the cells that come after that cell
    in the list AS IT IS NOW - whatever happened to the dictionary since the generator was made
    (every public operation keeps `PInv`: `index_exact_history`) -/
theorem paused_generator_continues (l : PL K V) (h : PInv l) (A B : List Nat) (c : Nat)
    (e : l.ids = A ++ c :: B) : l.rest c = c :: B := rest_of_linked (e ▸ h.shape)

/-- … so a pair added meanwhile is still visited, at the end -/
theorem paused_generator_sees_insert (l : PL K V) (h : PInv l) (A B : List Nat) (c : Nat)
    (e : l.ids = A ++ c :: B) (k : K) (v : V) : (l.insert k v).rest c = c :: B ++ [l.fresh] := by
  have e' : (l.insert k v).ids = A ++ c :: (B ++ [l.fresh]) := by rw [ids_insert h, e]; simp
  exact paused_generator_continues _ (pinsert_spec h k v).1 A (B ++ [l.fresh]) c e'

/-- … and when the very cell it is paused at is unlinked (`cell[PREV][NEXT], cell[NEXT][PREV] =
    cell[NEXT], cell[PREV]` leaves the cell's own fields alone), it yields that stale pair once more and
    then goes on with the cells that came after it -/
theorem paused_generator_survives_unlink (n p : Ptrs) (A B : List Nat) (c : Nat) (h : Shape n p (A ++ c :: B))
    (fuel : Nat) (hl : B.length < fuel) : walk (unlinkP c (n, p)).1 (fuel + 1) c = c :: B :=
  walk_from_unlinked h fuel hl

/-- in every state reached by any history of operations that create, store or hand out list objects
    (`add`, `addlist` with a list of the caller's or with an iterator, `[]=`, `del`, `popall`, `poplast`,
    `getlist`, `todict(multi=True)`, `clear`, and the caller making lists and writing to any list it
    holds): no list object is stored under two keys and none of the stored ones is in the caller's hands -/
theorem own_separation_history (ops : List (OwnOp K V)) : Sep (ownRun (Own.empty : Own K V) ops) :=
  ownRun_sep _ sep_empty ops

/-- each of these operations changes the dereferenced storage exactly as the model's `vals` does, and
    reads and the caller's own doings do not change it at all -/
theorem own_step_refines (o : Own K V) (h : Sep o) (op : OwnOp K V) :
    Sep (ownStep o op) ∧ (ownStep o op).vals = valsStep o o.vals op := ownStep_spec h op

/-- `valsStep` IS the `vals` component of the operations of `Model.lean` -/
theorem own_vals_is_model_vals (o : Own K V) (s : OMD K V) (h : Inv s) (k : K) (v : V) (vs : List V) (d : Bool) :
    valsStep o s.vals (.add k v) = (s.add k v).vals ∧
    valsStep o s.vals (.addlistVals k vs) = (s.addlist k vs).vals ∧
    valsStep o s.vals (.setitem k v) = (s.setitem k v).vals ∧
    valsStep o s.vals (.delKey k) = (s.delKey k).vals ∧
    valsStep o s.vals (.popall k) = (s.popall k d).1.vals ∧
    valsStep o s.vals (.poplast k) = (s.poplastKey k d).1.vals ∧
    valsStep o s.vals .clear = (OMD.empty : OMD K V).vals := by
  refine ⟨rfl, ?_, rfl, rfl, ?_, ?_, rfl⟩
  · simp only [valsStep, OMD.addlist]; split <;> rfl
  · simp only [valsStep, OMD.popall]
    cases hk : dget k s.vals with
    | none => exact ddel_absent k s.vals hk
    | some vs => rfl
  · simp only [valsStep, OMD.poplastKey, show s.cells.any (isK k) = dhas k s.vals from (h.dhas_eq k).symm, dhas]
    cases hk : dget k s.vals with
    | none => rfl
    | some vs =>
      obtain ⟨x, hx⟩ := getLast?_of_ne ((h.dget_some k vs).mp hk).2
      simp only [Option.isSome_some, ↓reduceIte, hx]

/-- the compound mutators reach the dict storage only through those primitive statements: for `update` / `|=`
    (with self, another OMD, a mapping, any iterable of pairs, keyword arguments), `update_extend` (hence the
    constructor, `copy`, the copy module, pickle), `setdefault` and `pop` (hence `popitem`), running the listed
    primitives on the ownership layer from any separated state that reads as the model's storage gives a
    separated state that reads as the model's storage after the mutator: no public mutator can make the
    dictionary share a list object with its caller, or two keys share one -/
theorem compound_mutators_keep_separation (o : Own K V) (h : Sep o) (s : OMD K V) (hv : o.vals = s.vals)
    (E : Arg K V) (F : List (K × V)) (k : K) (v : V) (d : Bool) :
    (Sep (ownRun o (compileUpdate s E F)) ∧ (ownRun o (compileUpdate s E F)).vals = (s.update E F).vals) ∧
    (Sep (ownRun o (compileUpdateExtend s E F)) ∧
      (ownRun o (compileUpdateExtend s E F)).vals = (s.updateExtend E F).1.vals) ∧
    (Sep (ownRun o (compileSetdefault s k v)) ∧ (ownRun o (compileSetdefault s k v)).vals = (s.setdefault k v).1.vals) ∧
    (Sep (ownRun o [.popall k]) ∧ (ownRun o [.popall k]).vals = (s.pop k d).1.vals) := by
  have run := fun ops hp => ownRun_pure o ops o h hp
  refine ⟨?_, ?_, ?_, ?_⟩
  · have := run _ (compileUpdate_pure s E F)
    exact ⟨this.1, by rw [this.2, hv, update_vals]⟩
  · have := run _ (compileUpdateExtend_pure s E F)
    exact ⟨this.1, by rw [this.2, hv, updateExtend_vals]⟩
  · have := run (compileSetdefault s k v) (by unfold compileSetdefault; split <;> rfl)
    exact ⟨this.1, by rw [this.2, hv, setdefault_vals]⟩
  · have := run [OwnOp.popall k] rfl
    exact ⟨this.1, by rw [this.2, hv, pop_vals]⟩

/-- a caller that writes whatever it likes into any list object it holds - one it handed to `addlist`,
    one it got from `getlist` / `todict(multi=True)` / `popall` - cannot change what the dictionary reads -/
theorem caller_writes_are_invisible (o : Own K V) (h : Sep o) (i : Nat) (vs : List V) :
    (o.callerWrite i vs).vals = o.vals ∧ Sep (o.callerWrite i vs) :=
  ⟨(Own.callerWrite_spec h i vs).2, (Own.callerWrite_spec h i vs).1⟩

/-- `getlist(k)` gives the caller a NEW list object holding the key's values; `popall(k)` gives it the
    stored object itself, which the dictionary no longer refers to; `addlist(k, a)` takes the contents
    of the caller's list `a` and not the object -/
theorem handed_out_lists_are_the_callers (o : Own K V) (h : Sep o) (k : K) :
    ((o.getlist k).1.look (o.getlist k).2 = (dget k o.vals).getD [] ∧ (o.getlist k).2 ∉ (o.getlist k).1.ids) ∧
    (∀ i, (o.popall k).2 = some i → o.look i = (dget k o.vals).getD [] ∧ i ∉ (o.popall k).1.ids) ∧
    (∀ a ∈ o.caller, a ∉ (o.addlistFrom k a).ids ∧ (o.addlistFrom k a).caller = o.caller) := by
  have hc := Own.addlistFrom_caller o k
  exact ⟨Own.getlist_handout h k, fun i hi => Own.popall_handout h k hi,
    fun a ha => ⟨fun hi => (Own.addlistFrom_spec h k a).1.apart a hi (hc a ▸ ha), hc a⟩⟩

/-! `Generated.C01.methods` is regenerated on every run from the current source of BOTH copies of the class
(`boltons/dictutils.py`, `boltons/urlutils.py`) by a static, transitive effect analysis (`regen` in
`harness/bv/props/c01.py`): for every public method, may it write the dict's own storage (`dictW`), may
it write the linked list or its cell index (`llW`), may it write THROUGH one of its arguments (`argW`), may it store an
argument object itself as a per-key value list (`keepsArg`).  The theorems below are re-proved over the
regenerated table, so they are proof obligations about the code as it is today. -/

/-- the operations the model has a state-changing `HOp` for (`__init__` = `new`, `__setstate__` =
    the copy module / pickle, `__ior__` = `update`) -/
def modelledMutators : List String :=
  ["__init__", "__setstate__", "add", "addlist", "__setitem__", "__delitem__", "update", "update_extend",
   "__ior__", "setdefault", "pop", "popall", "poplast", "popitem", "clear"]

/-- the methods the model treats as pure functions of the state (`Model.lean`, "readers", equality,
    derived containers, copies) -/
def modelledReaders : List String :=
  ["__getstate__", "__reduce_ex__", "get", "getlist", "copy", "__getitem__", "__eq__", "__ne__", "iteritems",
   "iterkeys", "itervalues", "todict", "sorted", "sortedvalues", "inverted", "counts", "keys", "values", "items",
   "__iter__", "__reversed__", "__repr__", "fromkeys", "viewkeys", "viewvalues", "viewitems"]

/-- "every mutator updates both structures together": in the current source of both copies no public
    method may write the dict's storage without also writing the linked list / cell index, or the
    other way round -/
theorem source_mutators_write_both_structures :
    ∀ m ∈ Generated.C01.methods, m.dictW = m.llW := by decide

/-- every operation the model has a state-changing step for is defined by the class itself, in both
    copies, and writes both structures; none of dict's own mutators is inherited unchanged (an
    inherited `popitem` / `setdefault` / … would change the dict behind the linked list's back) -/
theorem source_modelled_mutators_present :
    (∀ f ∈ ["dictutils", "urlutils"], ∀ n ∈ modelledMutators,
      (⟨f, n, true, true, false, false⟩ : Generated.C01.Method) ∈ Generated.C01.methods) ∧
    Generated.C01.inheritedMutators = [] := by
  -- the flags are tested once per row; what is looked up per name is the (file, name) of the rows that pass
  have h : ∀ f ∈ ["dictutils", "urlutils"], ∀ n ∈ modelledMutators,
      (f, n) ∈ (Generated.C01.methods.filter fun m => m.dictW && m.llW && !m.argW && !m.keepsArg).map
        fun m => (m.file, m.name) := by decide +kernel
  refine ⟨fun f hf n hn => ?_, by decide⟩
  obtain ⟨⟨mf, mn, a, b, c, d⟩, hm, e⟩ := List.mem_map.mp (h f hf n hn)
  obtain ⟨hm1, hm2⟩ := List.mem_filter.mp hm
  simp only [Bool.and_eq_true, Bool.not_eq_eq_eq_not, Bool.not_true] at hm2
  obtain ⟨⟨⟨rfl, rfl⟩, rfl⟩, rfl⟩ := hm2
  obtain ⟨rfl, rfl⟩ := Prod.mk.inj e
  exact hm1

/-- the readers, which the model takes to be pure functions of the state, write neither structure in
    the current source (a reader that re-ordered a value list or re-linked cells would make "every
    read" depend on the reads made before) -/
theorem source_readers_write_nothing :
    ∀ m ∈ Generated.C01.methods, m.name ∈ modelledReaders → m.dictW = false ∧ m.llW = false := by
  -- only the rows that write something have to be looked up among the readers' names
  have h : ∀ m ∈ Generated.C01.methods.filter (fun m => m.dictW || m.llW), m.name ∉ modelledReaders := by
    decide +kernel
  intro m hm hr
  have hw : (m.dictW || m.llW) = false := by
    cases hw : (m.dictW || m.llW)
    · rfl
    · exact absurd hr (h m (List.mem_filter.mpr ⟨hm, hw⟩))
  exact Bool.or_eq_false_iff.mp hw

/-- arguments are only read and never kept: in the current source no public method may write through an
    object the caller passed in (the model hands `update` / `update_extend` / `==` / the constructor their
    OMD, mapping and iterable arguments by value), and none may store an argument object itself as a
    per-key value list (the `Sep` invariant of the ownership layer: `addlist` copies, `[]=` wraps) -/
theorem source_arguments_only_read :
    ∀ m ∈ Generated.C01.methods, m.argW = false ∧ m.keepsArg = false := by decide +kernel

/-- an interleaved multi-valued state reached by a history with replacement and removal -/
def demoOps : List (HOp Nat Nat) :=
  [.new (some (.pairs [(0, 0), (1, 1), (0, 2), (2, 3), (1, 0)])) [],
   .update (.pairs [(3, 0), (3, 1), (0, 5)]) [], .copyToT, .poplast none false, .setitem 1 7,
   .updateExtend .regT [], .popitem, .delitem 9]

example : (hrun HState.init demoOps).map (fun r => (r.1.s.cells, r.2)) =
    [([(0, 0), (1, 1), (0, 2), (2, 3), (1, 0)], .unit),
     ([(1, 1), (2, 3), (1, 0), (3, 0), (3, 1), (0, 5)], .unit),
     ([(1, 1), (2, 3), (1, 0), (3, 0), (3, 1), (0, 5)], .unit),
     ([(1, 1), (2, 3), (1, 0), (3, 0), (3, 1)], .val 5),
     ([(2, 3), (3, 0), (3, 1), (1, 7)], .unit),
     ([(2, 3), (3, 0), (3, 1), (1, 7), (1, 1), (2, 3), (1, 0), (3, 0), (3, 1), (0, 5)], .unit),
     ([(2, 3), (3, 0), (3, 1), (1, 7), (1, 1), (2, 3), (1, 0), (3, 0), (3, 1)], .pair 0 5),
     ([(2, 3), (3, 0), (3, 1), (1, 7), (1, 1), (2, 3), (1, 0), (3, 0), (3, 1)], .err .keyError)] := by
  decide +kernel

/-- the hypotheses `HInv st` / `Inv s` are met by every state of that history … -/
example : ∀ r ∈ hrun HState.init demoOps, HInv r.1 := inv_history demoOps
/-- … e.g. by this interleaved multi-valued dictionary (dict order `0, 1`; pair order `0, 1, 0`) -/
example : Inv (⟨[(0, [1, 3]), (1, [2])], [(0, 1), (1, 2), (0, 3)]⟩ : OMD Nat Nat) :=
  (fromPairs_complete [(0, 1), (1, 2), (0, 3)]).1
/-- a mapping has unique keys (`eq_mapping_iff`, `update_mapping_eq`) -/
example : (dkeys [(1, 2), (0, 3)]).Nodup := by decide
/-- key functions induce total preorders (`sorted_sorted`, `sortedvalues_sorted`): by value … -/
example : (∀ a b : Nat × Nat, decide (a.2 ≤ b.2) = true ∨ decide (b.2 ≤ a.2) = true) ∧
    (∀ a b c : Nat × Nat, decide (a.2 ≤ b.2) = true → decide (b.2 ≤ c.2) = true → decide (a.2 ≤ c.2) = true) :=
  ⟨by intro a b; simp only [decide_eq_true_eq]; omega, by intro a b c; simp only [decide_eq_true_eq]; omega⟩
/-- … and by parity of the value, where distinct values tie -/
example : (∀ a b : Nat, decide (a % 2 ≤ b % 2) = true ∨ decide (b % 2 ≤ a % 2) = true) ∧
    (∀ a b c : Nat, decide (a % 2 ≤ b % 2) = true → decide (b % 2 ≤ c % 2) = true → decide (a % 2 ≤ c % 2) = true) :=
  ⟨by intro a b; simp only [decide_eq_true_eq]; omega, by intro a b c; simp only [decide_eq_true_eq]; omega⟩
/-- pairs already in descending value order (`sorted_of_sorted` with `reverse`) -/
example : ([(0, 3), (1, 2), (1, 0)] : List (Nat × Nat)).Pairwise
    (fun a b => flipIf true (fun a b : Nat × Nat => decide (a.2 ≤ b.2)) a b = true) := by decide
/-- a failing operation (`failed_op_changes_nothing`): `del` of an absent key -/
example : (hstep (⟨OMD.fromPairs [(0, 1)], OMD.empty⟩ : HState Nat Nat) (.delitem 5)).2 = .err .keyError := by decide


/-- the concrete layer on a short history: the `NEXT` and `PREV` fields of the heap (`root` = 0; cells 2 and
    3 are garbage after the second and third step), the two walks, the index `_map`, the pairs -/
def demoOps3 : List (HOp Nat Nat) :=
  [.new (some (.pairs [(0, 0), (1, 1), (0, 2)])) [], .poplast (some 0) false, .setitem 1 7, .add 0 4, .delitem 1]

example : (hrun3 HState3.init demoOps3).map
    (fun r => (r.1.s.ll.nxt, r.1.s.ll.prv, r.1.s.ll.ids, r.1.s.ll.idsBack, r.1.s.ll.map, r.1.s.ll.flat)) =
    [([(1, 2), (0, 1), (2, 3), (3, 0)], [(1, 0), (0, 3), (2, 1), (3, 2)], [1, 2, 3], [3, 2, 1],
      [(0, [1, 3]), (1, [2])], [(0, 0), (1, 1), (0, 2)]),
     ([(1, 2), (0, 1), (2, 0), (3, 0)], [(1, 0), (0, 2), (2, 1), (3, 2)], [1, 2], [2, 1],
      [(0, [1]), (1, [2])], [(0, 0), (1, 1)]),
     ([(1, 4), (0, 1), (2, 0), (3, 0), (4, 0)], [(1, 0), (0, 4), (2, 1), (3, 2), (4, 1)], [1, 4], [4, 1],
      [(0, [1]), (1, [4])], [(0, 0), (1, 7)]),
     ([(1, 4), (0, 1), (2, 0), (3, 0), (4, 5), (5, 0)], [(1, 0), (0, 5), (2, 1), (3, 2), (4, 1), (5, 4)], [1, 4, 5], [5, 4, 1],
      [(0, [1, 5]), (1, [4])], [(0, 0), (1, 7), (0, 4)]),
     ([(1, 5), (0, 1), (2, 0), (3, 0), (4, 5), (5, 0)], [(1, 0), (0, 5), (2, 1), (3, 2), (4, 1), (5, 1)], [1, 5], [5, 1],
      [(0, [1, 5])], [(0, 0), (0, 4)])] := by
  rfl
/-- `HInv3` / `Inv3` / `PInv` / `LLInv` are met by every state of that history (and of `demoOps`) -/
example : ∀ r ∈ hrun3 HState3.init demoOps3, HInv3 r.1 := index_exact_history demoOps3
example : ∀ r ∈ hrun3 HState3.init demoOps, HInv3 r.1 := index_exact_history demoOps
/-- … in particular the hypotheses `PInv l` (`heap_*`), `LLInv l` (`insert_appends_cell`, `remove_…`) and `Inv3 s`
    (`helpers_raise_only_for_missing_keys`, `reversed_walks_prev`) hold for the heaps of that history -/
example : ∀ r ∈ hrun3 HState3.init demoOps3, Inv3 r.1.s ∧ PInv r.1.s.ll ∧ LLInv r.1.s.ll.abs :=
  fun r hr => ⟨(index_exact_history demoOps3 r hr).s, (index_exact_history demoOps3 r hr).s.ll,
    (index_exact_history demoOps3 r hr).s.ll.ll⟩
/-- an index that has drifted from the cells (what a `_remove_all` that keeps the emptied entry produces): `_remove`
    then raises IndexError where KeyError / the default is due -/
example : (⟨[], [(0, [])], 1⟩ : LL Nat Nat).remove 0 = .error .indexError := rfl
example : ((⟨[], ⟨[], [], [], [(0, [])], 1⟩⟩ : OMD3 Nat Nat).poplastKey 0 true).2 = .err .indexError := rfl
example : ((hrun HState.init [.add 0 1, .add 1 2, .updateAbort [(0, 5), (2, 6)], .addlistAbort 1 [7]]).map
    (fun r => (r.1.s.cells, r.2))) =
    [([(0, 1)], .unit), ([(0, 1), (1, 2)], .unit), ([(1, 2), (0, 5), (2, 6)], .abort), ([(1, 2), (0, 5), (2, 6)], .abort)] := by
  decide +kernel
/-- stability: two pairs with equal sort keys (the value) keep their order, also in reverse -/
example : ((OMD.fromPairs [(1, 2), (0, 2), (2, 3)] : OMD Nat Nat).sorted (fun a b => decide (a.2 ≤ b.2)) true).cells =
    [(2, 3), (1, 2), (0, 2)] := by decide
/-- the hypotheses of `sorted_unique` are met by that list: in descending order, classes of equal values as before -/
example : ([(2, 3), (1, 2), (0, 2)] : List (Nat × Nat)).Pairwise
      (fun a b => flipIf true (fun a b : Nat × Nat => decide (a.2 ≤ b.2)) a b = true) ∧
    ∀ a, ([(2, 3), (1, 2), (0, 2)] : List (Nat × Nat)).filter (eqv (fun a b : Nat × Nat => decide (a.2 ≤ b.2)) a) =
      (OMD.fromPairs [(1, 2), (0, 2), (2, 3)] : OMD Nat Nat).cells.filter (eqv (fun a b : Nat × Nat => decide (a.2 ≤ b.2)) a) := by
  refine ⟨by decide, fun a => ?_⟩
  have h := sorted_stable (OMD.fromPairs [(1, 2), (0, 2), (2, 3)] : OMD Nat Nat) (fun a b => decide (a.2 ≤ b.2)) true
    (by intro a b c; simp only [decide_eq_true_eq]; omega) a
  have e : ((OMD.fromPairs [(1, 2), (0, 2), (2, 3)] : OMD Nat Nat).sorted (fun a b => decide (a.2 ≤ b.2)) true).cells =
      [(2, 3), (1, 2), (0, 2)] := by decide
  rw [e] at h
  exact h
example : (OMD.fromPairs [(0, 1), (1, 2), (0, 3)] : OMD Nat Nat).todict = .ok [(0, 3), (1, 2)] := rfl

example : Spec.keys [(2, 3), (3, 0), (3, 1), (1, 7), (1, 1), (2, 3)] = [2, 3, 1] := by decide
example : Spec.items [(2, 3), (3, 0), (3, 1), (1, 7), (1, 1), (2, 4)] = [(2, 4), (3, 1), (1, 1)] := by decide
example : (OMD.fromPairs [(0, 1), (1, 2), (0, 3)] : OMD Nat Nat).eqMapping [(1, 2), (0, 3)] = .ok true := rfl
example : (OMD.fromPairs [(0, 1), (1, 2), (0, 3)] : OMD Nat Nat).eqMapping [(1, 2), (0, 1)] = .ok false := rfl
example : ((OMD.fromPairs [(1, 2), (0, 3), (1, 0), (0, 1), (1, 1)] : OMD Nat Nat).sortedvalues
    (fun a b => decide (a ≤ b)) false).1.cells = [(1, 0), (0, 1), (1, 1), (0, 3), (1, 2)] := by decide +kernel
example : ((OMD.fromPairs [(1, 2), (0, 3), (1, 0)] : OMD Nat Nat).sorted
    (fun a b => decide (a.2 ≤ b.2)) true).cells = [(0, 3), (1, 2), (1, 0)] := by decide
/-- a state that violates `Inv` (a key with cells whose value list is empty): its reads disagree -/
example : (⟨[(0, [])], [(0, 1), (0, 2)]⟩ : OMD Nat Nat).items = .error .indexError := rfl

/-- the regenerated table is not empty and has both kinds of rows, in both copies -/
example : (⟨"dictutils", "add", true, true, false, false⟩ : Generated.C01.Method) ∈ Generated.C01.methods ∧
    (⟨"urlutils", "__reversed__", false, false, false, false⟩ : Generated.C01.Method) ∈ Generated.C01.methods := by decide +kernel
/-- what `source_mutators_write_both_structures` excludes: a method that deletes from the dict and leaves the cells linked -/
example : ¬ (∀ m ∈ [(⟨"dictutils", "__delitem__", true, false, false, false⟩ : Generated.C01.Method)], m.dictW = m.llW) := by decide

/-- a mapping that raises half way, a rejected call, `fromkeys` with a repeated key, the views of an interleaved state -/
example : ((hrun HState.init [.add 0 1, .add 1 2, .add 0 3, .updateMapAbort [(1, 5), (2, 6)], .rejected]).map
    (fun r => (r.1.s.cells, r.2))) =
    [([(0, 1)], .unit), ([(0, 1), (1, 2)], .unit), ([(0, 1), (1, 2), (0, 3)], .unit),
     ([(0, 1), (0, 3), (1, 5), (2, 6)], .abort), ([(0, 1), (0, 3), (1, 5), (2, 6)], .abort)] := by decide +kernel
example : (OMD.fromkeys [1, 2, 1] 7 : OMD Nat Nat).cells = [(1, 7), (2, 7), (1, 7)] ∧
    (OMD.fromkeys [1, 2, 1] 7 : OMD Nat Nat).getlist 1 = [7, 7] := by decide
example : (OMD.fromPairs [(0, 1), (1, 2), (0, 3)] : OMD Nat Nat).viewItemsIter = .ok [(0, 3), (1, 2)] ∧
    (OMD.fromPairs [(0, 1), (1, 2), (0, 3)] : OMD Nat Nat).viewItemsContains 0 1 = .ok false ∧
    (OMD.fromPairs [(0, 1), (1, 2), (0, 3)] : OMD Nat Nat).viewValuesContains 3 = .ok true := ⟨rfl, rfl, rfl⟩

/-- the caller appends to the list it handed to `addlist` and to the list `getlist` returned: the storage is as before -/
example : let o0 : Own Nat Nat := (Own.empty.callerNew [1, 2]).1
    let o1 := ownRun o0 [.addlistFrom 7 0, .add 7 3, .getlist 7]
    (o1.vals = [(7, [1, 2, 3])] ∧ o1.caller = [3, 0]) ∧
    (ownRun o1 [.callerWrite 0 [9], .callerWrite 3 [], .callerWrite 1 [8]]).vals = [(7, [1, 2, 3])] := by decide +kernel
/-- the dict adopting the caller's list object 0: `Sep` is violated and the write shows -/
example : let bad : Own Nat Nat := ⟨[(7, 0)], [(0, [1, 2])], 1, [0]⟩
    ¬ (∀ i ∈ bad.ids, i ∉ bad.caller) ∧ (bad.callerWrite 0 [9]).vals = [(7, [9])] := by decide +kernel

example : (OMD.fromPairs [(0, 1), (1, 2), (0, 3)] : OMD Nat Nat).reprText "OrderedMultiDict" toString toString =
    "OrderedMultiDict([(0, 1), (1, 2), (0, 3)])" := by decide +kernel

/-- without the membership test `OrderedMultiDict([(1, 0)]) == Counter({3: 0})` is True (the Counter answers 0 for the
    key 1 it lacks); with it the loop says False, as the statement demands -/
example : (OMD.fromPairs [(1, 0)] : OMD Nat Nat).eqMappingOld [(3, 0)] (some 0) = .ok true ∧
    (OMD.fromPairs [(1, 0)] : OMD Nat Nat).eqMapping [(3, 0)] = .ok false ∧
    ¬ (∀ k, dget k [(3, 0)] = Spec.last k (OMD.fromPairs [(1, 0)] : OMD Nat Nat).cells) :=
  ⟨rfl, rfl, fun h => by have := h 1; simp [dget, Spec.last, Spec.valsOf, OMD.fromPairs, OMD.addAll, OMD.add, OMD.empty, isK] at this⟩

/-- a history whose pairs carry key objects (here: 10 / 11 stand for two alias objects of key 1), and its projection -/
example : (hrun (HState.init : HState Nat (Nat × Nat)) [.add 1 (10, 5), .add 2 (20, 6), .setitem 1 (11, 7), .poplast none false]).map
      (fun r => (mapSt Prod.snd (absH r.1)).s) = [[(1, 5)], [(1, 5), (2, 6)], [(2, 6), (1, 7)], [(2, 6)]] ∧
    (hrun (HState.init : HState Nat Nat) ([HOp.add 1 (10, 5), .add 2 (20, 6), .setitem 1 (11, 7), .poplast none false].map
      (HOp.mapV Prod.snd))).map (fun r => r.1.s.cells) = [[(1, 5)], [(1, 5), (2, 6)], [(2, 6), (1, 7)], [(2, 6)]] := by decide +kernel

/-- an injective renaming of keys (`keys_are_only_compared`) -/
example : Function.Injective (fun k : Nat => k + 10) := fun a b h => by simpa using h
/-- a generator paused at the second of three cells (ids 1, 2, 3): it goes on with 2, 3; after `add` it also meets the new
    cell 4; the hypotheses `PInv` / `l.ids = A ++ c :: B` hold for that heap -/
example : let l : PL Nat Nat := ((hrun3 HState3.init [.new (some (.pairs [(0, 0), (1, 1), (0, 2)])) []]).map (·.1.s.ll)).headD PL.empty
    l.ids = [1] ++ 2 :: [3] ∧ l.rest 2 = [2, 3] ∧ (l.insert 5 5).rest 2 = [2, 3, 4] ∧
    walk (unlinkP 2 (l.nxt, l.prv)).1 l.fresh 2 = [2, 3] := by decide +kernel

/-- `update` with pairs as primitive storage steps: a repeated key is deleted once, at its first occurrence -/
example : compileUpdate (OMD.fromPairs [(0, 1)] : OMD Nat Nat) (.pairs [(0, 5), (2, 6), (0, 7)]) [(3, 8)] =
    [.delKey 0, .add 0 5, .delKey 2, .add 2 6, .add 0 7, .setitem 3 8] := rfl
/-- `Sep o` and `o.vals = s.vals` are met, e.g., by the layer run next to the model from the empty dictionary -/
example : Sep (ownRun (Own.empty : Own Nat Nat) [.add 0 1, .add 1 2, .add 0 3]) ∧
    (ownRun (Own.empty : Own Nat Nat) [.add 0 1, .add 1 2, .add 0 3]).vals = (OMD.fromPairs [(0, 1), (1, 2), (0, 3)] : OMD Nat Nat).vals :=
  ⟨own_separation_history _, by decide⟩

end C01
