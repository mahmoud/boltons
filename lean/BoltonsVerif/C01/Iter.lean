import BoltonsVerif.C01.PtrProofs
/-
C01 — generators paused while the dictionary changes (pointer level).  A generator of `iteritems(multi=True)` /
`iterkeys(multi=True)` / `itervalues(multi=True)` holds one reference, `curr`, into the heap of cells and follows `NEXT`
until it meets `root`.  The dictionary may change between two `next()` calls; what the generator yields afterwards follows
from the pointer assignments of `_insert` and of the unlinking statement alone.
-/
namespace C01
variable {K V : Type} [DecidableEq K]

theorem walk_from_linked (n : Ptrs) (A B : List Nat) (c fuel : Nat) (hf : Fwd n 0 (A ++ c :: B) 0)
    (h0 : 0 ∉ A ++ c :: B) (hl : B.length < fuel) : walk n (fuel + 1) c = c :: B := by
  have hs := (fwd_split n 0 0 c A B).mp hf
  have hc : c ≠ 0 := fun e => h0 (by simp [e])
  have hB : (0 : Nat) ∉ B := fun hm => h0 (by simp [hm])
  simp only [walk, hc, ↓reduceIte]
  rw [walk_fwd n B c fuel hs.2 hB (by omega)]

/-- a cell that has just been unlinked keeps its own `NEXT`: the walk from it still reads the cells that came after it -/
theorem walk_from_unlinked {n p : Ptrs} {A B : List Nat} {c : Nat} (h : Shape n p (A ++ c :: B)) (fuel : Nat)
    (hl : B.length < fuel) : walk (unlinkP c (n, p)).1 (fuel + 1) c = c :: B := by
  have h0 : (0 : Nat) ∉ A ++ c :: B := (List.nodup_cons.mp h.nodup).1
  have hc : c ≠ 0 := fun e => h0 (by simp [e])
  have hs := (fwd_split n 0 0 c A B).mp h.fwd
  have hnext : look (unlinkP c (n, p)).1 c = look n c := by
    simp only [unlinkP, look_dset]; split <;> rfl
  have hs' := shape_unlink h
  simp only [walk, hc, ↓reduceIte, hnext]
  congr 1
  cases B with
  | nil =>
    have : look n c = 0 := hs.2
    rw [this]; cases fuel <;> simp [walk]
  | cons b B' =>
    have hb : look n c = b := hs.2.1
    rw [hb]
    cases fuel with
    | zero => simp at hl
    | succ f =>
      have h0' : (0 : Nat) ∉ A ++ b :: B' := (List.nodup_cons.mp hs'.nodup).1
      exact walk_from_linked _ A B' b f hs'.fwd h0' (by simp at hl ⊢; omega)

/-- what a generator that is paused with `curr` = cell `cur` (`0` = `root`: exhausted) will still visit -/
def PL.rest (l : PL K V) (cur : Nat) : List Nat := walk l.nxt l.fresh cur

/-- a new generator starts at `root[NEXT]` and visits every cell -/
theorem rest_fresh (l : PL K V) : l.rest (look l.nxt 0) = l.ids := rfl

theorem rest_of_linked {l : PL K V} {A B : List Nat} {c : Nat} (h : PShape l (A ++ c :: B)) : l.rest c = c :: B := by
  have hlen := h.len
  simp only [List.length_append, List.length_cons] at hlen
  unfold PL.rest
  cases hfr : l.fresh with
  | zero => omega
  | succ f => exact walk_from_linked l.nxt A B c f h.shape.fwd h.zero_not_mem (by omega)

theorem ids_insert {l : PL K V} (h : PInv l) (k : K) (v : V) : (l.insert k v).ids = l.ids ++ [l.fresh] := by
  have hi := pinsert_spec h k v
  rw [← ids_of_cells hi.1, hi.2, ← ids_of_cells h]
  simp [LL.insert, PL.abs]

end C01
