/-
C01 — SOURCE TIE (heap mode).  `Src.dictutils.OMD.*` are generated by `harness/py2lean.py` from
the current text of `boltons.dictutils.OrderedMultiDict.{_clear_ll, _insert, _remove, _remove_all, add, addlist,
__setitem__, __delitem__, popall, clear, poplast, pop, popitem, __getitem__, getlist, iterkeys, iteritems}` on every run.  The cells `[PREV, NEXT, KEY, VALUE]` and `root`
(`[PREV, NEXT, None]`) live in the object store (`PyHeap.Heap`); the per-key lists of the dict (`d`) and of `_map` are
value lists mutated through ITEM ALIASES (notes/SRCTIE.md §2) — the representation of `C01/Concrete.lean`
(`OMD3 = {vals, ll : PL}`, `PL = {nxt, prv, pay, map, fresh}`: the pointer level of `Ptr.lean`).

`concO s` embeds an `OMD3` state into the source's state record: `root` is cell 0, the cell object with identity `i`
is cell `i` of the store (`PL.fresh` = the next unused address, because `_insert` is the only allocation), cell `i` =
`[ref prv[i], ref nxt[i], key, value]`, `_map` maps keys to lists of references.  Every store operation on a `concO`
state is rewritten into the model's pointer-field update by specification lemmas (`get?_*`, `set?_*`, `alloc_cellP`);
the side conditions "the address is allocated" come from `PClosed` and are discharged by `simp`.
-/
import BoltonsVerif.Generated.Src_dictutils_omd
import BoltonsVerif.PyRtLemmas
import BoltonsVerif.C01.ConcreteProofs

set_option linter.unusedSectionVars false
namespace C01

open Src.dictutils PyHeap

variable {K V : Type} [DecidableEq K] [Inhabited K] [Inhabited V]

/-- the Python list at address `a`: `root` (`[PREV, NEXT, None]`) or a cell `[PREV, NEXT, KEY, VALUE]` -/
def cellP (l : PL K V) (a : Nat) : List (Val K V) :=
  match dget a l.pay with
  | some kv => [.ref (look l.prv a), .ref (look l.nxt a), .key kv.1, .val kv.2]
  | none => [.ref (look l.prv a), .ref (look l.nxt a), .none]

/-- the object store: `root` at address 0, the cell with identity `i` at address `i` -/
def heapP (l : PL K V) : Heap K V := ⟨(List.range l.fresh).map (cellP l)⟩

/-- `self._map`: keys to lists of references -/
def concMapP (m : List (K × List Nat)) : PyRt.Dict K (List (Val K V)) := m.map fun p => (p.1, p.2.map Val.ref)

def concO (s : OMD3 K V) : OMD.St K V :=
  { heap := heapP s.ll, d := s.vals, map := concMapP s.ll.map, root := .ref 0 }

/-- every stored reference points at an allocated cell; `root` exists -/
structure PClosed (l : PL K V) : Prop where
  pos : 0 < l.fresh
  prv : ∀ a, a < l.fresh → look l.prv a < l.fresh
  nxt : ∀ a, a < l.fresh → look l.nxt a < l.fresh
  map : ∀ p ∈ l.map, ∀ c ∈ p.2, c < l.fresh

omit [Inhabited K] [Inhabited V] in
theorem PClosed.ids_lt {l : PL K V} (hc : PClosed l) {k : K} {ids : List Nat} (hk : dget k l.map = some ids) :
    ∀ c ∈ ids, c < l.fresh := by
  obtain ⟨p, hp, rfl⟩ := mem_of_dget hk
  exact hc.map p hp

omit [DecidableEq K] [Inhabited K] [Inhabited V] in
theorem heapP_congr (l l' : PL K V) (h1 : l.prv = l'.prv) (h2 : l.nxt = l'.nxt) (h3 : l.pay = l'.pay)
    (h4 : l.fresh = l'.fresh) : heapP l = heapP l' := by
  unfold heapP cellP
  rw [h1, h2, h3, h4]

omit [DecidableEq K] [Inhabited K] [Inhabited V] in
theorem cell_heapP (l : PL K V) {a : Nat} (ha : a < l.fresh) : (heapP l).cell a = cellP l a := by
  simp [Heap.cell, heapP, ha]

omit [DecidableEq K] [Inhabited K] [Inhabited V] in
theorem next_heapP (l : PL K V) : Heap.next (heapP l) = .ref l.fresh := by
  simp [Heap.next, heapP]

omit [DecidableEq K] [Inhabited K] [Inhabited V] in
theorem get?_prvP (l : PL K V) {a : Nat} (ha : a < l.fresh) :
    Heap.get? (heapP l) (.ref a) 0 = .ok (.ref (look l.prv a)) := by
  simp only [Heap.get?, cell_heapP l ha, cellP]
  cases dget a l.pay <;> simp [PyRt.index?, PyRt.normIdx]

omit [DecidableEq K] [Inhabited K] [Inhabited V] in
theorem get?_nxtP (l : PL K V) {a : Nat} (ha : a < l.fresh) :
    Heap.get? (heapP l) (.ref a) 1 = .ok (.ref (look l.nxt a)) := by
  simp only [Heap.get?, cell_heapP l ha, cellP]
  cases dget a l.pay <;> simp [PyRt.index?, PyRt.normIdx]

omit [DecidableEq K] [Inhabited K] [Inhabited V] in
/-- `cell[KEY]`: the key of a cell, `None` for `root` -/
theorem get?_keyP (l : PL K V) {a : Nat} (ha : a < l.fresh) :
    Heap.get? (heapP l) (.ref a) 2 = .ok (match dget a l.pay with | some kv => .key kv.1 | none => .none) := by
  simp only [Heap.get?, cell_heapP l ha, cellP]
  cases dget a l.pay <;> simp [PyRt.index?, PyRt.normIdx]

omit [Inhabited K] [Inhabited V] in
/-- `root[PREV][KEY]` is the model's `lastKey` (`None` when `root[PREV]` is `root` itself) -/
theorem get?_lastKeyP {l : PL K V} (hc : PClosed l) :
    Heap.get? (heapP l) (.ref (look l.prv 0)) 2 = .ok (match l.lastKey with | some k => .key k | none => .none) := by
  rw [get?_keyP l (hc.prv 0 hc.pos), PL.lastKey]
  cases dget (look l.prv 0) l.pay <;> rfl

omit [DecidableEq K] [Inhabited K] [Inhabited V] in
/-- `cell[VALUE]` of a cell (`root` has no such slot: IndexError) -/
theorem get?_valP (l : PL K V) {a : Nat} (ha : a < l.fresh) {kv : K × V} (hp : dget a l.pay = some kv) :
    Heap.get? (heapP l) (.ref a) 3 = .ok (.val kv.2) := by
  simp only [Heap.get?, cell_heapP l ha, cellP, hp]
  simp [PyRt.index?, PyRt.normIdx]

omit [DecidableEq K] [Inhabited K] [Inhabited V] in
theorem heapP_ext (l l' : PL K V) (hf : l'.fresh = l.fresh) (c : List (List (Val K V)))
    (hlen : c.length = l.fresh) (hc : ∀ b, b < l.fresh → c.getD b [] = cellP l' b) :
    (⟨c⟩ : Heap K V) = heapP l' := by
  unfold heapP
  congr 1
  apply List.ext_getElem
  · simp [hlen, hf]
  · intro i h1 h2
    have hi : i < l.fresh := by omega
    have := hc i hi
    simp only [List.getD_eq_getElem?_getD, List.getElem?_eq_getElem h1, Option.getD_some] at this
    simp [this]

omit [DecidableEq K] [Inhabited K] [Inhabited V] in
theorem set?_genP (l l' : PL K V) {a : Nat} (ha : a < l.fresh) (i : Nat) (hi : i < 3) (v : Val K V)
    (hf : l'.fresh = l.fresh) (hsame : ∀ b, b ≠ a → cellP l' b = cellP l b)
    (hat : cellP l' a = (cellP l a).set i v) :
    Heap.set? (heapP l) (.ref a) (i : Int) v = .ok (heapP l') := by
  have hlen : 3 ≤ (cellP l a).length := by unfold cellP; cases dget a l.pay <;> simp
  simp only [Heap.set?, cell_heapP l ha, PyRt.normIdx]
  have h1 : ¬ ((i : Int) < 0) := by omega
  simp only [h1, if_false]
  have h2 : (0 : Int) ≤ (i : Int) ∧ (i : Int) < (((cellP l a).length : Nat) : Int) := by omega
  rw [if_pos h2]
  congr 1
  apply heapP_ext l l' hf
  · simp [heapP]
  · intro b hb
    simp only [heapP, List.getD_eq_getElem?_getD, List.getElem?_set, List.length_map, List.length_range]
    by_cases e : a = b
    · subst e
      simp [hb, hat]
    · simp only [e, if_false]
      simp [hb, hsame b (Ne.symm e)]

omit [DecidableEq K] [Inhabited K] [Inhabited V] in
theorem set?_prvP (l : PL K V) {a : Nat} (ha : a < l.fresh) (x : Nat) :
    Heap.set? (heapP l) (.ref a) 0 (.ref x) = .ok (heapP { l with prv := dset a x l.prv }) := by
  refine set?_genP l _ ha 0 (by omega) _ rfl ?_ ?_
  · intro b hb; simp [cellP, look_dset, hb]
  · simp only [cellP, look_dset]; cases dget a l.pay <;> simp

omit [DecidableEq K] [Inhabited K] [Inhabited V] in
theorem set?_nxtP (l : PL K V) {a : Nat} (ha : a < l.fresh) (x : Nat) :
    Heap.set? (heapP l) (.ref a) 1 (.ref x) = .ok (heapP { l with nxt := dset a x l.nxt }) := by
  refine set?_genP l _ ha 1 (by omega) _ rfl ?_ ?_
  · intro b hb; simp [cellP, look_dset, hb]
  · simp only [cellP, look_dset]; cases dget a l.pay <;> simp

omit [DecidableEq K] [Inhabited K] [Inhabited V] in
/-- `cell = [last, root, k, v]`: the new cell is cell `fresh` -/
theorem alloc_cellP (l : PL K V) (p n : Nat) (k : K) (v : V) :
    Heap.alloc (heapP l) [.ref p, .ref n, .key k, .val v] =
      heapP { l with prv := dset l.fresh p l.prv, nxt := dset l.fresh n l.nxt, pay := dset l.fresh (k, v) l.pay,
                     fresh := l.fresh + 1 } := by
  unfold Heap.alloc
  apply heapP_ext { l with fresh := l.fresh + 1 }
  · rfl
  · simp [heapP]
  · intro b hb
    simp only [heapP, List.getD_eq_getElem?_getD]
    by_cases e : b = l.fresh
    · subst e
      simp [cellP, look_dset, dget_dset]
    · have hb' : b < l.fresh := by simp only at hb; omega
      simp [List.getElem?_append_left, hb', cellP, look_dset, dget_dset, e]

omit [DecidableEq K] [Inhabited K] [Inhabited V] in
/-- `self.root[:] = [self.root, self.root, None]` -/
theorem assign_rootP (l : PL K V) (h0 : 0 < l.fresh) (hp : dget 0 l.pay = none) :
    Heap.assign? (heapP l) (.ref 0) [.ref 0, .ref 0, .none] =
      .ok (heapP { l with nxt := dset 0 0 l.nxt, prv := dset 0 0 l.prv }) := by
  unfold Heap.assign?
  simp only
  congr 1
  apply heapP_ext l
  · rfl
  · simp [heapP]
  · intro b hb
    simp only [heapP, List.getD_eq_getElem?_getD, List.getElem?_set, List.length_map, List.length_range]
    by_cases e : 0 = b
    · subst e
      simp [h0, cellP, look_dset, hp]
    · simp only [e, if_false]
      simp [hb, cellP, look_dset, Ne.symm e]

omit [Inhabited K] [Inhabited V] in
theorem find_eq_dget {β : Type} (d : List (K × β)) (k : K) : PyRt.Dict.find d k = dget k d := by
  induction d with
  | nil => rfl
  | cons p d ih => obtain ⟨a, b⟩ := p; simp only [PyRt.Dict.find, dget, ih]

omit [Inhabited K] [Inhabited V] in
theorem set_eq_dset {β : Type} (d : List (K × β)) (k : K) (v : β) : PyRt.Dict.set d k v = dset k v d := by
  induction d with
  | nil => rfl
  | cons p d ih => obtain ⟨a, b⟩ := p; simp only [PyRt.Dict.set, dset, ih]

omit [Inhabited K] [Inhabited V] in
theorem erase_eq_ddel {β : Type} (d : List (K × β)) (k : K) : PyRt.Dict.erase d k = ddel k d := rfl

omit [Inhabited K] [Inhabited V] in
theorem contains_eq_dhas {β : Type} (d : List (K × β)) (k : K) : PyRt.Dict.contains d k = dhas k d := by
  rw [PyRt.Dict.contains_eq, find_eq_dget]; rfl

omit [Inhabited K] [Inhabited V] in
theorem get?_eq_dget {β : Type} (d : List (K × β)) (k : K) :
    PyRt.Dict.get? d k = match dget k d with | some b => .ok b | none => .error PyExc.KeyError := by
  unfold PyRt.Dict.get?; rw [find_eq_dget]; cases dget k d <;> rfl

omit [Inhabited K] [Inhabited V] in
theorem del?_eq_ddel {β : Type} (d : List (K × β)) (k : K) :
    PyRt.Dict.del? d k = if dhas k d then .ok (ddel k d) else .error PyExc.KeyError := by
  unfold PyRt.Dict.del?; rw [contains_eq_dhas]; rfl

omit [Inhabited K] [Inhabited V] in
theorem setdefault_snd {β : Type} (d : List (K × β)) (k : K) (x : β) :
    (PyRt.Dict.setdefault d k x).2 = if dhas k d then d else dset k x d := by
  unfold PyRt.Dict.setdefault dhas
  rw [← find_eq_dget]
  cases hf : PyRt.Dict.find d k with
  | some y => rfl
  | none => exact (PyRt.Dict.set_of_find_none d k x hf).symm.trans (set_eq_dset d k x)

omit [Inhabited K] [Inhabited V] in
/-- `d.setdefault(k, [])` followed by storing the list back: the same as storing it directly -/
theorem set_setdefault {β : Type} (d : PyRt.Dict K β) (k : K) (x v : β) :
    PyRt.Dict.set (PyRt.Dict.setdefault d k x).2 k v = PyRt.Dict.set d k v := by
  rw [setdefault_snd, set_eq_dset, set_eq_dset]
  split
  · rfl
  · exact dset_dset k x v d

omit [Inhabited K] [Inhabited V] in
theorem get?_setdefault {β : Type} (d : PyRt.Dict K β) (k : K) (x : β) :
    PyRt.Dict.get? (PyRt.Dict.setdefault d k x).2 k = .ok ((PyRt.Dict.find d k).getD x) := by
  unfold PyRt.Dict.get?
  rw [setdefault_snd, find_eq_dget, find_eq_dget, dhas]
  cases hd : dget k d with
  | some y => simp [hd]
  | none => simp [dget_dset]

omit [Inhabited K] [Inhabited V] in
theorem find_concMapP (m : List (K × List Nat)) (k : K) :
    PyRt.Dict.find (concMapP m : PyRt.Dict K (List (Val K V))) k = (dget k m).map fun ids => ids.map Val.ref :=
  (find_eq_dget _ k).trans (dget_mapSnd _ k m)

omit [Inhabited K] [Inhabited V] in
theorem get?_concMapP (m : List (K × List Nat)) (k : K) :
    PyRt.Dict.get? (concMapP m : PyRt.Dict K (List (Val K V))) k = match dget k m with
      | some ids => .ok (ids.map Val.ref)
      | none => .error PyExc.KeyError := by
  rw [get?_eq_dget, concMapP, dget_mapSnd]
  cases dget k m <;> rfl

omit [Inhabited K] [Inhabited V] in
theorem set_concMapP (m : List (K × List Nat)) (k : K) (ids : List Nat) :
    PyRt.Dict.set (concMapP m : PyRt.Dict K (List (Val K V))) k (ids.map Val.ref) = concMapP (dset k ids m) :=
  (set_eq_dset _ k _).trans (dset_mapSnd _ k ids m)

omit [Inhabited K] [Inhabited V] in
theorem erase_concMapP (m : List (K × List Nat)) (k : K) :
    PyRt.Dict.erase (concMapP m : PyRt.Dict K (List (Val K V))) k = concMapP (ddel k m) :=
  ddel_mapSnd _ k m

omit [Inhabited K] [Inhabited V] in
theorem del?_concMapP (m : List (K × List Nat)) (k : K) :
    PyRt.Dict.del? (concMapP m : PyRt.Dict K (List (Val K V))) k =
      if dhas k m then .ok (concMapP (ddel k m)) else .error PyExc.KeyError := by
  rw [del?_eq_ddel, concMapP, ddel_mapSnd, dhas, dhas, dget_mapSnd, Option.isSome_map]
  rfl

omit [DecidableEq K] [Inhabited K] [Inhabited V] in
/-- a `simp` rule for the side conditions `look … < fresh` of `get?_prvP`, `set?_prvP`, … after pointer writes; its own
    hypotheses are discharged the same way, which nests: hence `maxDischargeDepth` in the ties below -/
theorem look_dset_lt {m : Ptrs} {a b x f : Nat} (hx : x < f) (hb : look m b < f) : (look (dset a x m) b < f) = True := by
  rw [look_dset]
  split <;> simp [hx, hb]

/-- SOURCE TIE: `_clear_ll()` is `PL.clear` (`root` has no payload: it is not a cell) -/
theorem src_clear_ll_eq_model (s : OMD3 K V) (hc : PClosed s.ll) (hr : dget 0 s.ll.pay = none) :
    OMD.clear_ll (concO s) = (.ok (), concO ⟨s.vals, s.ll.clear⟩) := by
  unfold OMD.clear_ll OMD.clear_ll.body PL.clear
  simp (config := { maxDischargeDepth := 8 }) only [concO, get?_prvP, get?_nxtP, set?_prvP, set?_nxtP, alloc_cellP, next_heapP, get?_concMapP, look_dset_lt,
    assign_rootP s.ll hc.pos hr, concMapP, List.map_nil]
  rfl

/-- SOURCE TIE: `_insert(k, v)` is `PL.insert` (one new cell at address `fresh`, spliced in before `root`, appended to
    the key's cell list) -/
theorem src_insert_eq_model (s : OMD3 K V) (hc : PClosed s.ll) (k : K) (v : V) :
    OMD.insert (concO s) k v = (.ok (), concO ⟨s.vals, s.ll.insert k v⟩) := by
  have h0 := hc.pos
  have hp := hc.prv 0 h0
  have hf : s.ll.fresh < s.ll.fresh + 1 := Nat.lt_succ_self _
  have h01 : 0 < s.ll.fresh + 1 := Nat.succ_pos _
  have hp1 : look s.ll.prv 0 < s.ll.fresh + 1 := Nat.lt_succ_of_lt hp
  unfold OMD.insert OMD.insert.body PL.insert
  have e : PyRt.append ((Option.map (fun ids => List.map Val.ref ids) (dget k s.ll.map)).getD [])
      (Val.ref s.ll.fresh : Val K V) = ((dget k s.ll.map).getD [] ++ [s.ll.fresh]).map Val.ref := by
    cases dget k s.ll.map <;> simp [PyRt.append]
  simp only [concO, get?_setdefault, set_setdefault, find_concMapP]
  simp (config := { maxDischargeDepth := 8 }) only [concO, get?_prvP, get?_nxtP, set?_prvP, set?_nxtP, alloc_cellP, next_heapP, get?_concMapP, look_dset_lt,
    h0, hp, hf, h01, hp1, e, set_concMapP]
  rfl


omit [DecidableEq K] [Inhabited K] [Inhabited V] in
theorem popLast?_refs (ids : List Nat) :
    PyRt.popLast? (ids.map (Val.ref : Nat → Val K V)) = match ids.getLast? with
      | some c => .ok (.ref c, ids.dropLast.map Val.ref)
      | none => .error PyExc.IndexError := by
  unfold PyRt.popLast?
  rw [List.getLast?_map]
  cases ids.getLast? with
  | none => rfl
  | some c => simp [List.map_dropLast]

omit [DecidableEq K] [Inhabited K] [Inhabited V] in
/-- the splice `cell[PREV][NEXT], cell[NEXT][PREV] = cell[NEXT], cell[PREV]` on the store is `unlinkP` -/
theorem heapP_unlink (l : PL K V) (c : Nat) :
    heapP { l with nxt := dset (look l.prv c) (look l.nxt c) l.nxt, prv := dset (look l.nxt c) (look l.prv c) l.prv }
      = heapP { l with nxt := (unlinkP c (l.nxt, l.prv)).1, prv := (unlinkP c (l.nxt, l.prv)).2 } := rfl

omit [DecidableEq K] [Inhabited K] [Inhabited V] in
/-- the splice reads `cell[NEXT]` again after it has written `cell[PREV][NEXT] = cell[NEXT]`; should `cell[PREV]` be the cell
    itself, what was written there is the value it had -/
theorem look_dset_of_eq (m : Ptrs) (a x c : Nat) (h : x = look m c) : look (dset a x m) c = look m c := by
  rw [look_dset]; split
  · exact h
  · rfl

/-- SOURCE TIE: `_remove(k)` is `PL.remove`: KeyError for a key without cells, IndexError for an empty cell list (both
    before anything is written), else the key's last cell is spliced out -/
theorem src_remove_eq_model (s : OMD3 K V) (hc : PClosed s.ll) (k : K) :
    OMD.remove (concO s) k = match s.ll.remove k with
      | .ok l => (.ok (), concO ⟨s.vals, l⟩)
      | .error .keyError => (.error PyExc.KeyError, concO s)
      | .error .indexError => (.error PyExc.IndexError, concO s) := by
  unfold OMD.remove OMD.remove.body PL.remove
  cases hk : dget k s.ll.map with
  | none => simp only [concO, get?_concMapP, hk]
  | some ids =>
    cases hlast : ids.getLast? with
    | none => simp only [concO, get?_concMapP, hk, popLast?_refs, hlast]
    | some c =>
      have hcf : c < s.ll.fresh := hc.ids_lt hk c (List.mem_of_getLast? hlast)
      have hpc := hc.prv c hcf
      have hnc := hc.nxt c hcf
      have hself := look_dset_of_eq s.ll.nxt (look s.ll.prv c) (look s.ll.nxt c) c rfl
      simp only [concO, get?_concMapP, hk, popLast?_refs, hlast, set_concMapP]
      cases hdl : ids.dropLast with
      | nil =>
        simp (config := { maxDischargeDepth := 8 }) only [concO, get?_prvP, get?_nxtP, set?_prvP, set?_nxtP, alloc_cellP, next_heapP, get?_concMapP, look_dset_lt,
          hcf, hpc, hnc, hself, dget_dset, del?_concMapP, dhas, ddel_dset, unlinkP, List.map_nil, ne_eq,
          not_true_eq_false, not_false_eq_true, if_true, Option.isSome_some, List.isEmpty_nil]
        rfl
      | cons a r =>
        simp (config := { maxDischargeDepth := 8 }) only [concO, get?_prvP, get?_nxtP, set?_prvP, set?_nxtP, alloc_cellP, next_heapP, get?_concMapP, look_dset_lt,
          hcf, hpc, hnc, hself, dget_dset, unlinkP, List.map_cons, ne_eq, reduceCtorEq,
          not_false_eq_true, not_true_eq_false, if_false, List.isEmpty_cons, Bool.false_eq_true]
        rfl

def PtrsClosed (f : Nat) (np : Ptrs × Ptrs) : Prop := ∀ a, a < f → look np.1 a < f ∧ look np.2 a < f

omit [DecidableEq K] [Inhabited K] [Inhabited V] in
theorem PClosed.ptrs {l : PL K V} (hc : PClosed l) : PtrsClosed l.fresh (l.nxt, l.prv) :=
  fun a ha => ⟨hc.nxt a ha, hc.prv a ha⟩

omit [DecidableEq K] [Inhabited K] [Inhabited V] in
theorem PtrsClosed.unlink {f : Nat} {np : Ptrs × Ptrs} (h : PtrsClosed f np) {c : Nat} (hc : c < f) :
    PtrsClosed f (unlinkP c np) := by
  intro a ha
  have h1 := h c hc
  have h2 := h a ha
  simp only [unlinkP, look_dset]
  constructor <;> split <;> omega

/-- the rule for a generated `while` loop (`loop<n> k kbreak kexc fuel st`) taken as a variable: every round uses up one
    item of a list `xs` that only the proof sees, under an invariant `I` over the items left; fuel above their number is
    enough, and what follows the loop gives `r` on every state satisfying `I []` (the fuel twin of `PyRt.for_loop`) -/
theorem while_loop {σ ι ρ : Type} (loop : Nat → σ → ρ) (I : List ι → σ → Prop) (r : ρ)
    (hcons : ∀ n x xs s, I (x :: xs) s → ∃ s', loop (n + 1) s = loop n s' ∧ I xs s')
    (hnil : ∀ n s, I [] s → loop (n + 1) s = r) : ∀ xs n s, xs.length + 1 ≤ n → I xs s → loop n s = r := by
  intro xs
  induction xs with
  | nil =>
    intro n s hn h
    obtain ⟨n, rfl⟩ : ∃ m, n = m + 1 := ⟨n - 1, by omega⟩
    exact hnil n s h
  | cons x xs ih =>
    intro n s hn h
    rw [List.length_cons] at hn
    obtain ⟨n, rfl⟩ : ∃ m, n = m + 1 := ⟨n - 1, by omega⟩
    obtain ⟨s', e, h'⟩ := hcons n x xs s h
    exact e.trans (ih n s' (by omega) h')

/-- SOURCE TIE: `_remove_all(k)` is `PL.removeAll` for every loop fuel above the number of the key's cells
    (termination); KeyError — before anything is written — for a key without cells -/
theorem src_remove_all_eq_model (s : OMD3 K V) (hc : PClosed s.ll) (k : K) (lfuel : Nat)
    (hf : ((dget k s.ll.map).getD []).length + 1 ≤ lfuel) :
    OMD.remove_all lfuel (concO s) k = match s.ll.removeAll k with
      | .ok l => (.ok (), concO ⟨s.vals, l⟩)
      | .error _ => (.error PyExc.KeyError, concO s) := by
  unfold OMD.remove_all OMD.remove_all.body PL.removeAll
  cases hk : dget k s.ll.map with
  | none => simp only [concO, get?_concMapP, hk]
  | some ids =>
    rw [hk] at hf
    simp only [Option.getD_some] at hf
    simp only [concO, get?_concMapP, hk]
    -- the `while values:` loop splices the key's cells out last to first: `rs` = the cells `_map` still lists, read
    -- backwards; `np` = the pointer fields so far; folding `unlinkP` over what is left gives the model's fields
    refine while_loop _ (fun rs (st : OMD.remove_all.St K V) => ∃ (M : List (K × List Nat)) (np : Ptrs × Ptrs),
        st.self = { heap := heapP { s.ll with nxt := np.1, prv := np.2 }, d := s.vals, map := concMapP M, root := .ref 0 } ∧
        st.k_ = k ∧ dget k M = some rs.reverse ∧ (∀ c ∈ rs, c < s.ll.fresh) ∧ PtrsClosed s.ll.fresh np ∧
        ddel k M = ddel k s.ll.map ∧
        rs.foldl (fun np c => unlinkP c np) np = ids.reverse.foldl (fun np c => unlinkP c np) (s.ll.nxt, s.ll.prv))
      _ ?_ ?_ ids.reverse lfuel _ (by rw [List.length_reverse]; exact hf)
      ⟨s.ll.map, (s.ll.nxt, s.ll.prv), rfl, rfl, by rw [List.reverse_reverse]; exact hk,
        fun c hm => hc.ids_lt hk c (List.mem_reverse.mp hm), hc.ptrs, rfl, rfl⟩
    · rintro n c rs st ⟨M, np, hst, hk', hget, hlt, hcl, hdel, hfold⟩
      have hcf : c < s.ll.fresh := hlt c List.mem_cons_self
      have hc1 := (hcl c hcf).1
      have hc2 := (hcl c hcf).2
      have hself := look_dset_of_eq np.1 (look np.2 c) (look np.1 c) c rfl
      have hlast : (c :: rs).reverse.getLast? = some c := by simp
      have hdl : (c :: rs).reverse.dropLast = rs.reverse := by simp
      have hmne : ((c :: rs).reverse.map (Val.ref : Nat → Val K V)) ≠ [] := by simp
      refine ⟨{ st with self := { heap := heapP { s.ll with nxt := (unlinkP c np).1, prv := (unlinkP c np).2 },
                                  d := s.vals, map := concMapP (dset k rs.reverse M), root := .ref 0 },
                        loc2 := .ref c, loc3 := .ref (look np.1 c), loc4 := .ref (look np.2 c) }, ?_,
        dset k rs.reverse M, unlinkP c np, rfl, hk', by rw [dget_dset]; simp,
        fun x hx => hlt x (List.mem_cons_of_mem _ hx), hcl.unlink hcf, by rw [ddel_dset, hdel], hfold⟩
      rw [OMD.remove_all.loop1]
      simp only [hst, hk', get?_concMapP, hget, ne_eq, hmne, not_false_eq_true, if_true, popLast?_refs, hlast, hdl,
        set_concMapP]
      simp (config := { maxDischargeDepth := 8 }) only [get?_prvP, get?_nxtP, set?_prvP, set?_nxtP, hcf, hc1, hc2, hself]
      rfl
    · rintro n st ⟨M, np, hst, hk', hget, -, -, hdel, hfold⟩
      have hh : dhas k M = true := by simp [dhas, hget]
      rw [OMD.remove_all.loop1]
      simp only [hst, hk', get?_concMapP, hget, List.reverse_nil, List.map_nil, ne_eq, not_true_eq_false, if_false,
        del?_concMapP, hh, if_true, hdel, ← hfold, List.foldl_nil, Prod.mk.injEq, OMD.St.mk.injEq, true_and, and_true]
      exact heapP_congr _ _ rfl rfl rfl rfl

omit [Inhabited K] [Inhabited V] in
theorem PClosed.insert {l : PL K V} (hc : PClosed l) (k : K) (v : V) : PClosed (l.insert k v) := by
  have h0 := hc.pos
  have hp0 := hc.prv 0 h0
  unfold PL.insert
  refine ⟨Nat.succ_pos _, ?_, ?_, ?_⟩
  · intro a ha
    have ha : a < l.fresh + 1 := ha
    show look (dset 0 l.fresh (dset l.fresh (look l.prv 0) l.prv)) a < l.fresh + 1
    rw [look_dset, look_dset]
    split
    · exact Nat.lt_succ_self _
    · split
      · exact Nat.lt_succ_of_lt hp0
      · exact Nat.lt_succ_of_lt (hc.prv a (by omega))
  · intro a ha
    have ha : a < l.fresh + 1 := ha
    show look (dset (look l.prv 0) l.fresh (dset l.fresh 0 l.nxt)) a < l.fresh + 1
    rw [look_dset, look_dset]
    split
    · exact Nat.lt_succ_self _
    · split
      · exact Nat.succ_pos _
      · exact Nat.lt_succ_of_lt (hc.nxt a (by omega))
  · intro p hp c hcm
    simp only at hp ⊢
    rcases mem_dset hp with h1 | h1
    · exact Nat.lt_succ_of_lt (hc.map p h1 c hcm)
    · rw [h1] at hcm
      rcases List.mem_append.1 hcm with h2 | h2
      · cases hk : dget k l.map with
        | none => rw [hk] at h2; simp at h2
        | some ids =>
          rw [hk] at h2
          exact Nat.lt_succ_of_lt (hc.ids_lt hk c h2)
      · simp at h2; omega

omit [DecidableEq K] [Inhabited K] [Inhabited V] in
theorem PtrsClosed.fold {f : Nat} (cs : List Nat) : ∀ (np : Ptrs × Ptrs), PtrsClosed f np → (∀ c ∈ cs, c < f) →
    PtrsClosed f (cs.foldl (fun np c => unlinkP c np) np) := by
  induction cs with
  | nil => intro np h _; exact h
  | cons c cs ih =>
    intro np h hlt
    exact ih _ (h.unlink (hlt c (by simp))) (fun x hx => hlt x (List.mem_cons_of_mem _ hx))

omit [Inhabited K] [Inhabited V] in
theorem PClosed.removeAll {l l' : PL K V} (hc : PClosed l) {k : K} (h : l.removeAll k = .ok l') : PClosed l' := by
  unfold PL.removeAll at h
  cases hk : dget k l.map with
  | none => simp [hk] at h
  | some ids =>
    simp only [hk, Except.ok.injEq] at h
    subst h
    have hcl := PtrsClosed.fold ids.reverse _ hc.ptrs (fun c hcm => hc.ids_lt hk c (List.mem_reverse.1 hcm))
    exact ⟨hc.pos, fun a ha => (hcl a ha).2, fun a ha => (hcl a ha).1, fun q hq => hc.map q (mem_ddel hq)⟩

omit [DecidableEq K] [Inhabited K] [Inhabited V] in
theorem PClosed.clear {l : PL K V} (hc : PClosed l) : PClosed l.clear := by
  have h0 := hc.pos
  unfold PL.clear
  refine ⟨h0, ?_, ?_, by simp⟩
  · intro a ha; simp only at ha ⊢; rw [look_dset]; split
    · exact h0
    · exact hc.prv a ha
  · intro a ha; simp only at ha ⊢; rw [look_dset]; split
    · exact h0
    · exact hc.nxt a ha

omit [DecidableEq K] [Inhabited K] [Inhabited V] in
theorem PClosed.empty : PClosed (PL.empty : PL K V) :=
  ⟨Nat.one_pos, by intro a ha; simp [PL.empty, look, dget], by intro a ha; simp [PL.empty, look, dget], by simp [PL.empty]⟩

omit [Inhabited K] [Inhabited V] in
theorem PClosed.remove {l l' : PL K V} (hc : PClosed l) {k : K} (h : l.remove k = .ok l') : PClosed l' := by
  unfold PL.remove at h
  cases hk : dget k l.map with
  | none => simp [hk] at h
  | some ids =>
    cases hl : ids.getLast? with
    | none => simp [hk, hl] at h
    | some c =>
      simp only [hk, hl, Except.ok.injEq] at h
      subst h
      have hids := hc.ids_lt hk
      have hcl := hc.ptrs.unlink (hids c (List.mem_of_getLast? hl))
      refine ⟨hc.pos, fun a ha => (hcl a ha).2, fun a ha => (hcl a ha).1, ?_⟩
      intro q hq x hx
      simp only at hq
      split at hq
      · exact hc.map q (mem_ddel hq) x hx
      · rcases mem_dset hq with h1 | h1
        · exact hc.map q h1 x hx
        · rw [h1] at hx; exact hids x (List.dropLast_subset _ hx)

omit [Inhabited K] [Inhabited V] in
theorem PClosed.insertAll {l : PL K V} (hc : PClosed l) (k : K) (vs : List V) :
    PClosed (vs.foldl (fun l v => l.insert k v) l) := by
  induction vs generalizing l with
  | nil => exact hc
  | cons v vs ih => exact ih (hc.insert k v)

omit [Inhabited K] [Inhabited V] in
theorem concO_d (s : OMD3 K V) (X : List (K × List V)) (st : OMD.St K V) (hst : st = concO s) :
    { st with d := X } = concO ⟨X, s.ll⟩ := by subst hst; rfl

/-- SOURCE TIE: `add(k, v)` never raises and is `OMD3.add` -/
theorem src_add_eq_model (s : OMD3 K V) (hc : PClosed s.ll) (k : K) (v : V) :
    Src.dictutils.OMD.add (concO s) k v = (.ok (), concO (s.add k v)) := by
  have hi := src_insert_eq_model ⟨(PyRt.Dict.setdefault s.vals k []).2, s.ll⟩ hc k v
  simp only [concO] at hi
  unfold Src.dictutils.OMD.add Src.dictutils.OMD.add.body OMD3.add
  simp only [concO, hi, get?_setdefault, set_setdefault, PyRt.append]
  simp only [find_eq_dget, set_eq_dset]

/-- the cells the loop of `_remove_all(k)` has to splice out: fuel above their number suffices -/
def cellCount (s : OMD3 K V) (k : K) : Nat := ((dget k s.ll.map).getD []).length

/-- SOURCE TIE: `self[k] = v` is `OMD3.setitem` (a bookkeeping KeyError of `_remove_all` leaves everything as it was) -/
theorem src_setitem_eq_model (s : OMD3 K V) (hc : PClosed s.ll) (k : K) (v : V) (lfuel : Nat)
    (hf : cellCount s k + 1 ≤ lfuel) :
    Src.dictutils.OMD.setitem lfuel (concO s) k v = match s.setitem k v with
      | (s', .unit) => (.ok (), concO s')
      | (s', _) => (.error PyExc.KeyError, concO s') := by
  have hra := src_remove_all_eq_model s hc k lfuel hf
  have hi := src_insert_eq_model s hc k v
  simp only [concO] at hra hi
  unfold Src.dictutils.OMD.setitem Src.dictutils.OMD.setitem.body OMD3.setitem
  cases hh : dhas k s.vals with
  | false =>
    simp only [concO, contains_eq_dhas, hh, Bool.false_eq_true, if_false, hi, set_eq_dset]
  | true =>
    simp only [concO, contains_eq_dhas, hh, if_true, hra]
    cases hr : s.ll.removeAll k with
    | error e => simp only [concO]
    | ok l' =>
      have hi' := src_insert_eq_model ⟨s.vals, l'⟩ (hc.removeAll hr) k v
      simp only [concO] at hi'
      simp only [concO, hi', set_eq_dset]

/-- SOURCE TIE: `del self[k]` is `OMD3.delitem` -/
theorem src_delitem_eq_model (s : OMD3 K V) (hc : PClosed s.ll) (k : K) (lfuel : Nat)
    (hf : cellCount s k + 1 ≤ lfuel) :
    Src.dictutils.OMD.delitem lfuel (concO s) k = match s.delitem k with
      | (s', .unit) => (.ok (), concO s')
      | (s', _) => (.error PyExc.KeyError, concO s') := by
  have hra := src_remove_all_eq_model ⟨ddel k s.vals, s.ll⟩ hc k lfuel hf
  simp only [concO] at hra
  unfold Src.dictutils.OMD.delitem Src.dictutils.OMD.delitem.body OMD3.delitem
  simp only [concO, PyRt.Dict.del?, contains_eq_dhas, erase_eq_ddel]
  cases hh : dhas k s.vals with
  | false => simp only [Bool.false_eq_true, if_false]
  | true =>
    simp only [if_true, hra]
    cases hr : s.ll.removeAll k with
    | error e => simp only [concO]
    | ok l' => simp only [concO]

/-- SOURCE TIE: `clear()` is `OMD3.clear` -/
theorem src_clear_eq_model (s : OMD3 K V) (hc : PClosed s.ll) (hr : dget 0 s.ll.pay = none) :
    Src.dictutils.OMD.clear (concO s) = (.ok (), concO s.clear) := by
  have hcl := src_clear_ll_eq_model ⟨([] : List (K × List V)), s.ll⟩ hc hr
  simp only [concO] at hcl
  unfold Src.dictutils.OMD.clear Src.dictutils.OMD.clear.body OMD3.clear
  simp only [concO, hcl]

/-- SOURCE TIE: `popall(k[, default])` is `OMD3.popall` (`none` = the argument is omitted) -/
theorem src_popall_eq_model (s : OMD3 K V) (hc : PClosed s.ll) (k : K) (dflt : Option (List V)) (lfuel : Nat)
    (hf : cellCount s k + 1 ≤ lfuel) :
    Src.dictutils.OMD.popall lfuel (concO s) k dflt = match s.popall k dflt.isSome with
      | (s', .vals vs) => (.ok vs, concO s')
      | (s', .dflt) => (.ok (dflt.getD []), concO s')
      | (s', _) => (.error PyExc.KeyError, concO s') := by
  have hra := src_remove_all_eq_model s hc k lfuel hf
  simp only [concO] at hra
  unfold Src.dictutils.OMD.popall Src.dictutils.OMD.popall.body OMD3.popall
  simp only [concO, contains_eq_dhas, dhas]
  cases hk : dget k s.vals with
  | none =>
    cases dflt with
    | none => simp [PyRt.Dict.pop?, find_eq_dget, hk]
    | some d => simp [PyRt.Dict.popD, find_eq_dget, hk, PyRt.unwrap]
  | some vs =>
    simp only [Option.isSome_some, if_true, hra]
    cases hr : s.ll.removeAll k with
    | error e => simp only [concO]
    | ok l' =>
      cases dflt with
      | none => simp [PyRt.Dict.pop?, find_eq_dget, hk, concO, erase_eq_ddel]
      | some d => simp [PyRt.Dict.popD, find_eq_dget, hk, concO, erase_eq_ddel]

/-- SOURCE TIE: `addlist(k, values)` (a list of values) never raises and is `OMD3.addlist` -/
theorem src_addlist_eq_model (s : OMD3 K V) (hc : PClosed s.ll) (k : K) (vs : List V) :
    Src.dictutils.OMD.addlist (concO s) k vs = (.ok (), concO (s.addlist k vs)) := by
  unfold Src.dictutils.OMD.addlist Src.dictutils.OMD.addlist.body OMD3.addlist
  cases vs with
  | nil => simp
  | cons x r =>
    simp only [ne_eq, reduceCtorEq, not_false_eq_true, not_true_eq_false, if_false, List.isEmpty_cons,
      Bool.false_eq_true]
    -- the `for subv in v: self._insert(k, subv)` loop: the store is the image of the cells inserted so far (`l`), and
    -- inserting the values left gives the model's list
    refine PyRt.for_loop _ (fun xs (st : OMD.addlist.St K V) => ∃ l, PClosed l ∧
        st.self = concO ⟨(PyRt.Dict.setdefault s.vals k []).2, l⟩ ∧ st.k_ = k ∧ st.v = x :: r ∧
        xs.foldl (fun l v => l.insert k v) l = (x :: r).foldl (fun l v => l.insert k v) s.ll) _ ?_ ?_ _ _
      ⟨s.ll, hc, rfl, rfl, rfl, rfl⟩
    · rintro y ys st ⟨l, hl, hs, hk, hv, hfold⟩
      refine ⟨{ st with self := concO ⟨(PyRt.Dict.setdefault s.vals k []).2, l.insert k y⟩, loc2 := y }, ?_,
        l.insert k y, hl.insert k y, rfl, hk, hv, hfold⟩
      rw [OMD.addlist.loop1]
      simp only [hs, hk, src_insert_eq_model ⟨(PyRt.Dict.setdefault s.vals k []).2, l⟩ hl k y]
    · rintro st ⟨l, hl, hs, hk, hv, hfold⟩
      simp only [OMD.addlist.loop1, hs, hk, hv, concO, get?_setdefault, set_setdefault, ← hfold, List.foldl_nil]
      simp only [find_eq_dget, set_eq_dset]

/-- non-vacuity: the hypotheses hold of a fresh object, and a history evaluated on the GENERATED definitions:
    `add(1, 10); add(2, 20); add(1, 11); popall(1)` returns `[10, 11]` and leaves key 2 -/
example : PClosed (OMD3.empty : OMD3 Nat Nat).ll ∧ dget 0 (OMD3.empty : OMD3 Nat Nat).ll.pay = none :=
  ⟨PClosed.empty, rfl⟩

example :
    (let st1 := (Src.dictutils.OMD.add (concO (OMD3.empty : OMD3 Nat Nat)) 1 10).2
     let st2 := (Src.dictutils.OMD.add st1 2 20).2
     let st3 := (Src.dictutils.OMD.add st2 1 11).2
     let r := Src.dictutils.OMD.popall 5 st3 1 none
     ((match r.1 with | .ok l => l | .error _ => []), r.2.d)) = ([10, 11], [(2, [20])]) := by decide

/-! ## the methods that read a KEY back out of a cell — `poplast`, `pop`, `popitem`

`k = self.root[PREV][KEY]` is translated with a CHECKED UNBOXING (`PyRtC01.unboxKey?`, notes/SRCTIE.md):
the ties below show what the generated definitions do in every `PClosed` state, including that the unboxing cannot
fail (`PyExc.Other`) when `root[PREV]` is a cell, which is the case whenever the dict is not empty in a state the class
can reach (`SrcInv`, further down). -/

/-- what the caller of `poplast` / `pop` gets for the model's outcome (`.dflt` = the caller's own default object) -/
def resV (dflt : Option V) : Out K V → Except PyExc V
  | .val v => .ok v
  | .dflt => .ok (PyRt.unwrap dflt)
  | .err .indexError => .error PyExc.IndexError
  | _ => .error PyExc.KeyError

/-- SOURCE TIE: `poplast(k[, default])` with a key is `OMD3.poplastKey`: `_remove(k)` inside `try / except KeyError`
    (default or KeyError; an IndexError of the bookkeeping propagates), then the key's last value leaves the dict -/
theorem src_poplast_key_eq_model (s : OMD3 K V) (hc : PClosed s.ll) (k : K) (dflt : Option V) :
    Src.dictutils.OMD.poplast (concO s) (some k) dflt =
      (resV dflt (s.poplastKey k dflt.isSome).2, concO (s.poplastKey k dflt.isSome).1) := by
  have hr := src_remove_eq_model s hc k
  simp only [concO] at hr
  unfold Src.dictutils.OMD.poplast Src.dictutils.OMD.poplast.body OMD3.poplastKey
  simp only [concO, PyRt.unwrap, Option.getD_some, reduceCtorEq, if_false, hr]
  cases hrem : s.ll.remove k with
  | error e =>
    cases e <;> cases dflt <;> simp [resV, PyRt.unwrap, concO]
  | ok l =>
    simp only [get?_eq_dget]
    cases hk : dget k s.vals with
    | none => simp [resV, concO]
    | some vs =>
      simp only [PyRt.popLast?]
      cases hl : vs.getLast? with
      | none => simp [resV, concO]
      | some v =>
        simp only [set_eq_dset, get?_eq_dget, dget_dset_self, del?_eq_ddel, dhas, Option.isSome_some, if_true, ddel_dset]
        cases hd : vs.dropLast with
        | nil => simp [resV, concO]
        | cons a r => simp [resV, concO]

/-- `poplast()` without a key in a non-empty dict whose `root[PREV]` is a cell with key `k`: the checked unboxing
    succeeds and the call continues as `poplast(k)` -/
theorem src_poplast_nokey (s : OMD3 K V) (hc : PClosed s.ll) (dflt : Option V) (hv : s.vals ≠ []) (k : K)
    (hk : s.ll.lastKey = some k) :
    Src.dictutils.OMD.poplast (concO s) none dflt = Src.dictutils.OMD.poplast (concO s) (some k) dflt := by
  unfold Src.dictutils.OMD.poplast Src.dictutils.OMD.poplast.body
  simp only [concO, get?_prvP s.ll hc.pos, get?_lastKeyP hc, hk, PyRtC01.unboxKey?, hv, ne_eq, not_false_eq_true,
    not_true_eq_false, if_true, reduceCtorEq, if_false]

/-- SOURCE TIE: `poplast([k[, default]])` is `OMD3.poplast`.  Without a key: an empty dict gives the default / KeyError;
    otherwise `k = root[PREV][KEY]` — `hlast`: that link is a cell (true in every reachable state, `SrcInv.lastKey`) —
    and the call is `poplast(k)` -/
theorem src_poplast_eq_model (s : OMD3 K V) (hc : PClosed s.ll) (ko : Option K) (dflt : Option V)
    (hlast : ko = none → s.vals ≠ [] → s.ll.lastKey ≠ none) :
    Src.dictutils.OMD.poplast (concO s) ko dflt =
      (resV dflt (s.poplast ko dflt.isSome).2, concO (s.poplast ko dflt.isSome).1) := by
  cases ko with
  | some k => exact src_poplast_key_eq_model s hc k dflt
  | none =>
    by_cases hv : s.vals = []
    · unfold Src.dictutils.OMD.poplast Src.dictutils.OMD.poplast.body OMD3.poplast
      cases dflt <;> simp [concO, hv, resV, PyRt.unwrap]
    · cases hk : s.ll.lastKey with
      | none => exact absurd hk (hlast rfl hv)
      | some k =>
        rw [src_poplast_nokey s hc dflt hv k hk, src_poplast_key_eq_model s hc k dflt]
        have he : s.vals.isEmpty = false := List.isEmpty_eq_false_iff.mpr hv
        simp only [OMD3.poplast, he, hk, Bool.false_eq_true, if_false]

/-- without the hypothesis: when `root[PREV]` is `root` itself although the dict is not empty (a state the class cannot
    reach), the key read back is `None`, which the static key type cannot hold: the translation says `PyExc.Other` and
    nothing is changed -/
theorem src_poplast_unmodelled (s : OMD3 K V) (hc : PClosed s.ll) (dflt : Option V) (hv : s.vals ≠ [])
    (hk : s.ll.lastKey = none) :
    Src.dictutils.OMD.poplast (concO s) none dflt = (.error PyExc.Other, concO s) := by
  unfold Src.dictutils.OMD.poplast Src.dictutils.OMD.poplast.body
  simp only [concO, get?_prvP s.ll hc.pos, get?_lastKeyP hc, hk, PyRtC01.unboxKey?, hv, ne_eq, not_false_eq_true,
    not_true_eq_false, if_true, if_false]

/-- SOURCE TIE: `pop(k[, default])` is `OMD3.pop`: `popall(k)[-1]` inside `try / except KeyError` -/
theorem src_pop_eq_model (s : OMD3 K V) (hc : PClosed s.ll) (k : K) (dflt : Option V) (lfuel : Nat)
    (hf : cellCount s k + 1 ≤ lfuel) :
    Src.dictutils.OMD.pop lfuel (concO s) k dflt =
      (resV dflt (s.pop k dflt.isSome).2, concO (s.pop k dflt.isSome).1) := by
  have hpa := src_popall_eq_model s hc k none lfuel hf
  unfold Src.dictutils.OMD.pop Src.dictutils.OMD.pop.body OMD3.pop
  simp only [hpa, Option.isSome_none]
  unfold OMD3.popall PL.removeAll
  cases hk : dget k s.vals with
  | none => cases dflt <;> simp [resV, PyRt.unwrap]
  | some vs =>
    cases hm : dget k s.ll.map with
    | none => cases dflt <;> simp [resV, PyRt.unwrap]
    | some ids =>
      simp only [PyRt.index?_neg_one]
      cases vs.getLast? <;> simp [resV]

omit [Inhabited K] [Inhabited V] in
theorem pop_nodefault_out (s : OMD3 K V) (k : K) :
    (∃ v, (s.pop k false).2 = .val v) ∨ (∃ e, (s.pop k false).2 = .err e) := by
  unfold OMD3.pop OMD3.popall PL.removeAll
  cases dget k s.vals with
  | none => right; exact ⟨_, rfl⟩
  | some vs =>
    cases dget k s.ll.map with
    | none => right; exact ⟨_, rfl⟩
    | some ids =>
      cases hl : vs.getLast? with
      | none => right; simp [hl]
      | some v => left; simp [hl]

/-- what the caller of `popitem` gets for the model's outcome -/
def resP : Out K V → Except PyExc (K × V)
  | .pair k v => .ok (k, v)
  | .err .indexError => .error PyExc.IndexError
  | _ => .error PyExc.KeyError

/-- SOURCE TIE: `popitem()` is `OMD3.popitem`: KeyError on an empty dict, else `k = root[PREV][KEY]` (`hlast`: that link
    is a cell) and `(k, self.pop(k))` -/
theorem src_popitem_eq_model (s : OMD3 K V) (hc : PClosed s.ll) (lfuel : Nat)
    (hlast : s.vals ≠ [] → s.ll.lastKey ≠ none)
    (hf : ∀ k, s.ll.lastKey = some k → cellCount s k + 1 ≤ lfuel) :
    Src.dictutils.OMD.popitem lfuel (concO s) = (resP s.popitem.2, concO s.popitem.1) := by
  by_cases hv : s.vals = []
  · unfold Src.dictutils.OMD.popitem Src.dictutils.OMD.popitem.body OMD3.popitem
    simp [concO, hv, resP]
  · have he : s.vals.isEmpty = false := List.isEmpty_eq_false_iff.mpr hv
    cases hk : s.ll.lastKey with
    | none => exact absurd hk (hlast hv)
    | some k =>
      have hpop := src_pop_eq_model s hc k none lfuel (hf k hk)
      simp only [concO] at hpop
      unfold Src.dictutils.OMD.popitem Src.dictutils.OMD.popitem.body OMD3.popitem
      simp only [concO, get?_prvP s.ll hc.pos, get?_lastKeyP hc, PyRtC01.unboxKey?, hv, ne_eq,
        not_false_eq_true, not_true_eq_false, if_false, hpop, he, hk, Bool.false_eq_true, Option.isSome_none]
      rcases pop_nodefault_out s k with ⟨v', hq⟩ | ⟨e, hq⟩
      · generalize s.pop k false = q at hq ⊢
        obtain ⟨q1, q2⟩ := q
        simp only at hq
        subst hq
        simp [resV, resP]
      · generalize s.pop k false = q at hq ⊢
        obtain ⟨q1, q2⟩ := q
        simp only at hq
        subst hq
        cases e <;> simp [resV, resP]

/-- non-vacuity of these ties, evaluated on the GENERATED definitions: after `add(1, 10); add(2, 20); add(1, 11)`,
    `poplast()` returns 11 (the key read back out of `root[PREV]` is 1) and leaves `1 -> [10], 2 -> [20]`; then
    `popitem()` returns `(2, 20)`; then `pop(7, 99)` returns the default; then `poplast(7)` raises KeyError -/
example :
    (let st1 := (Src.dictutils.OMD.add (concO (OMD3.empty : OMD3 Nat Nat)) 1 10).2
     let st2 := (Src.dictutils.OMD.add st1 2 20).2
     let st3 := (Src.dictutils.OMD.add st2 1 11).2
     let r1 := Src.dictutils.OMD.poplast st3 none none
     let r2 := Src.dictutils.OMD.popitem 5 r1.2
     let r3 := Src.dictutils.OMD.pop 5 r2.2 7 (some 99)
     let r4 := Src.dictutils.OMD.poplast r3.2 (some 7) none
     ((match r1.1 with | .ok v => some v | .error _ => none), r1.2.d,
      (match r2.1 with | .ok p => some p | .error _ => none), r2.2.d,
      (match r3.1 with | .ok v => some v | .error _ => none),
      (match r4.1 with | .error PyExc.KeyError => true | _ => false))) =
    (some 11, [(1, [10]), (2, [20])], some (2, 20), [(1, [10])], some 99, true) := by rfl

/-- … and the hypothesis `hlast` of the ties holds in that state (the last link is a cell) -/
example : ((((OMD3.empty : OMD3 Nat Nat).add 1 10).add 2 20).add 1 11).ll.lastKey = some 1 := by decide

/-- the public mutators whose source is translated -/
inductive TOp (K V : Type) where
  | add (k : K) (v : V)
  | addlist (k : K) (vs : List V)
  | setitem (k : K) (v : V)
  | delitem (k : K)
  | popall (k : K) (d : Option (List V))      -- `none`: the default argument is omitted
  | pop (k : K) (d : Option V)
  | poplast (k : Option K) (d : Option V)
  | popitem
  | clear

/-- the operation of the model (`Model.lean`'s `HOp`; a default is "given or not") -/
def TOp.toHOp : TOp K V → HOp K V
  | .add k v => .add k v
  | .addlist k vs => .addlist k vs
  | .setitem k v => .setitem k v
  | .delitem k => .delitem k
  | .popall k d => .popall k d.isSome
  | .pop k d => .pop k d.isSome
  | .poplast k d => .poplast k d.isSome
  | .popitem => .popitem
  | .clear => .clear

/-- the same call on the concrete layer `OMD3` -/
def mstep (s : OMD3 K V) : TOp K V → OMD3 K V × Out K V
  | .add k v => (s.add k v, .unit)
  | .addlist k vs => (s.addlist k vs, .unit)
  | .setitem k v => s.setitem k v
  | .delitem k => s.delitem k
  | .popall k d => s.popall k d.isSome
  | .pop k d => s.pop k d.isSome
  | .poplast k d => s.poplast k d.isSome
  | .popitem => s.popitem
  | .clear => (s.clear, .unit)

omit [Inhabited K] [Inhabited V] in
theorem mstep_eq_hstep3 (s t : OMD3 K V) (op : TOp K V) :
    hstep3 ⟨s, t⟩ op.toHOp = (⟨(mstep s op).1, t⟩, (mstep s op).2) := by
  cases op <;> rfl

/-- what the caller of a translated method sees -/
inductive SrcRes (K V : Type) where
  | none
  | val (v : V)
  | vals (l : List V)
  | pair (k : K) (v : V)
  | exc (e : PyExc)

def excOf : Err → PyExc
  | .keyError => PyExc.KeyError
  | .indexError => PyExc.IndexError

/-- the model's outcome as the caller sees it: `.dflt` is the caller's own default argument -/
def render : TOp K V → Out K V → SrcRes K V
  | _, .unit => .none
  | _, .val v => .val v
  | _, .vals l => .vals l
  | _, .pair k v => .pair k v
  | _, .err e => .exc (excOf e)
  | .popall _ d, .dflt => .vals (d.getD [])
  | .pop _ d, .dflt => .val (PyRt.unwrap d)
  | .poplast _ d, .dflt => .val (PyRt.unwrap d)
  | _, _ => .exc PyExc.Other

/-- the loop fuel of `_remove_all`, read off the object itself: more than all the cells `_map` lists (`+ 1`: the loop
    test runs once more, on the emptied list) -/
def srcFuel (st : OMD.St K V) : Nat := (st.map.map fun p => p.2.length).sum + 1

def liftU (r : Except PyExc Unit × OMD.St K V) : SrcRes K V × OMD.St K V :=
  (match r.1 with | .ok _ => .none | .error e => .exc e, r.2)
def liftV (r : Except PyExc V × OMD.St K V) : SrcRes K V × OMD.St K V :=
  (match r.1 with | .ok v => .val v | .error e => .exc e, r.2)
def liftL (r : Except PyExc (List V) × OMD.St K V) : SrcRes K V × OMD.St K V :=
  (match r.1 with | .ok l => .vals l | .error e => .exc e, r.2)
def liftP (r : Except PyExc (K × V) × OMD.St K V) : SrcRes K V × OMD.St K V :=
  (match r.1 with | .ok p => .pair p.1 p.2 | .error e => .exc e, r.2)

/-- one public call on the GENERATED definitions -/
def srcStep (st : OMD.St K V) : TOp K V → SrcRes K V × OMD.St K V
  | .add k v => liftU (Src.dictutils.OMD.add st k v)
  | .addlist k vs => liftU (Src.dictutils.OMD.addlist st k vs)
  | .setitem k v => liftU (Src.dictutils.OMD.setitem (srcFuel st) st k v)
  | .delitem k => liftU (Src.dictutils.OMD.delitem (srcFuel st) st k)
  | .popall k d => liftL (Src.dictutils.OMD.popall (srcFuel st) st k d)
  | .pop k d => liftV (Src.dictutils.OMD.pop (srcFuel st) st k d)
  | .poplast k d => liftV (Src.dictutils.OMD.poplast st k d)
  | .popitem => liftP (Src.dictutils.OMD.popitem (srcFuel st) st)
  | .clear => liftU (Src.dictutils.OMD.clear st)

def srcRun (st : OMD.St K V) : List (TOp K V) → List (SrcRes K V) × OMD.St K V
  | [] => ([], st)
  | op :: ops => let r := srcStep st op; let q := srcRun r.2 ops; (r.1 :: q.1, q.2)

def mrun (s : OMD3 K V) : List (TOp K V) → List (OMD3 K V × Out K V)
  | [] => []
  | op :: ops => let r := mstep s op; r :: mrun r.1 ops

/-- the state is one the class can be in (`Inv3`: a well-formed circular list through `root`, `_map` indexes the cells
    exactly, the dict holds their values) and every stored reference points at an allocated cell -/
structure SrcInv (s : OMD3 K V) : Prop where
  inv : Inv3 s
  closed : PClosed s.ll

omit [Inhabited K] [Inhabited V] in
theorem SrcInv.empty : SrcInv (OMD3.empty : OMD3 K V) := ⟨inv3_empty, PClosed.empty⟩

omit [Inhabited K] [Inhabited V] in
/-- `root` is not a cell -/
theorem SrcInv.root {s : OMD3 K V} (h : SrcInv s) : dget 0 s.ll.pay = none := h.inv.ll.shape.pay0

omit [Inhabited K] [Inhabited V] in
/-- when the dict is not empty, `root[PREV]` is a cell: the checked unboxing of its key succeeds -/
theorem SrcInv.lastKey {s : OMD3 K V} (h : SrcInv s) (hv : s.vals ≠ []) : s.ll.lastKey ≠ none := by
  rw [plastKey_eq h.inv.ll]
  cases hs : s.vals with
  | nil => exact absurd hs hv
  | cons p r =>
    have hd : dhas p.1 s.vals = true := by simp [hs, dhas, dget]
    rw [h.inv.dhas_eq p.1] at hd
    cases hf : s.ll.flat with
    | nil => rw [hf] at hd; simp at hd
    | cons a b => simp

omit [Inhabited K] [Inhabited V] in
theorem PClosed.popall {s : OMD3 K V} (hc : PClosed s.ll) (k : K) (d : Bool) : PClosed (s.popall k d).1.ll := by
  unfold OMD3.popall
  cases dget k s.vals with
  | none => exact hc
  | some vs =>
    simp only
    cases hr : s.ll.removeAll k with
    | error e => exact hc
    | ok l => exact hc.removeAll hr

omit [Inhabited K] [Inhabited V] in
theorem pop_fst (s : OMD3 K V) (k : K) (d : Bool) : (s.pop k d).1 = (s.popall k false).1 := by
  unfold OMD3.pop
  generalize s.popall k false = q
  obtain ⟨q1, q2⟩ := q
  cases q2 with
  | err e => cases e <;> rfl
  | _ => rfl

omit [Inhabited K] [Inhabited V] in
theorem PClosed.poplastKey {s : OMD3 K V} (hc : PClosed s.ll) (k : K) (d : Bool) : PClosed (s.poplastKey k d).1.ll := by
  unfold OMD3.poplastKey
  cases hr : s.ll.remove k with
  | error e => cases e <;> exact hc
  | ok l =>
    have := hc.remove hr
    simp only
    cases dget k s.vals with
    | none => exact this
    | some vs =>
      simp only
      cases vs.getLast? <;> exact this

omit [Inhabited K] [Inhabited V] in
theorem PClosed.mstep {s : OMD3 K V} (hc : PClosed s.ll) (op : TOp K V) : PClosed (C01.mstep s op).1.ll := by
  cases op with
  | add k v => exact hc.insert k v
  | addlist k vs =>
    simp only [C01.mstep, OMD3.addlist]
    split
    · exact hc
    · exact hc.insertAll k vs
  | setitem k v =>
    simp only [C01.mstep, OMD3.setitem]
    by_cases hh : dhas k s.vals = true
    · simp only [hh, if_true]
      cases hr : s.ll.removeAll k with
      | error e => exact hc
      | ok l => exact (hc.removeAll hr).insert k v
    · simp only [hh, if_false]
      exact hc.insert k v
  | delitem k =>
    simp only [C01.mstep, OMD3.delitem]
    split
    · cases hr : s.ll.removeAll k with
      | error e => exact hc
      | ok l => exact hc.removeAll hr
    · exact hc
  | popall k d => exact hc.popall k _
  | pop k d => simp only [C01.mstep, pop_fst]; exact hc.popall k _
  | poplast ko d =>
    simp only [C01.mstep, OMD3.poplast]
    cases ko with
    | some k => exact hc.poplastKey k _
    | none =>
      simp only
      split
      · exact hc
      · cases s.ll.lastKey with
        | none => exact hc
        | some k => exact hc.poplastKey k _
  | popitem =>
    simp only [C01.mstep, OMD3.popitem]
    split
    · exact hc
    · cases s.ll.lastKey with
      | none => exact hc
      | some k =>
        simp only
        have h := hc.popall k false
        rw [← pop_fst s k false] at h
        generalize s.pop k false = q at h ⊢
        obtain ⟨q1, q2⟩ := q
        cases q2 <;> exact h
  | clear => exact hc.clear

omit [Inhabited K] [Inhabited V] in
theorem SrcInv.mstep {s : OMD3 K V} (h : SrcInv s) (op : TOp K V) : SrcInv (C01.mstep s op).1 := by
  refine ⟨?_, h.closed.mstep op⟩
  have := (hstep3_spec ⟨s, OMD3.empty⟩ op.toHOp ⟨h.inv, inv3_empty⟩).inv.s
  rw [mstep_eq_hstep3] at this
  exact this

omit [Inhabited K] [Inhabited V] in
theorem length_le_sum (m : List (K × List Nat)) (k : K) :
    ((dget k m).getD []).length ≤ (m.map fun p => p.2.length).sum := by
  induction m with
  | nil => simp [dget]
  | cons p m ih =>
    simp only [dget, List.map_cons, List.sum_cons]
    split
    · simp
    · omega

omit [Inhabited K] [Inhabited V] in
theorem srcFuel_ok (s : OMD3 K V) (k : K) : cellCount s k + 1 ≤ srcFuel (concO s) := by
  have := length_le_sum s.ll.map k
  simp only [cellCount, srcFuel, concO, concMapP, List.map_map]
  have e : ((fun p : K × List (Val K V) => p.2.length) ∘ fun p : K × List Nat => (p.1, p.2.map Val.ref)) =
      fun p : K × List Nat => p.2.length := by funext p; simp
  rw [e]; omega

omit [Inhabited K] [Inhabited V] in
theorem mstep_out (s : OMD3 K V) (hi : Inv3 s) (op : TOp K V) :
    (mstep s op).2 = (Spec.hstep ⟨s.ll.flat, []⟩ op.toHOp).2 := by
  have h3 := (hstep3_spec ⟨s, OMD3.empty⟩ op.toHOp ⟨hi, inv3_empty⟩).out
  rw [mstep_eq_hstep3] at h3
  exact h3.trans (hstep_spec _ op.toHOp (HInv3.abs ⟨hi, inv3_empty⟩)).out

/-- SOURCE TIE, one step: a public call on the GENERATED definitions, in a state the class can be in, returns / raises
    what the concrete model `OMD3` says (as the caller sees it: `render`) and ends in the image of the model's state; the
    invariant is kept.  The loop fuel is read off the object (`srcFuel`) and the checked unboxing never fails. -/
theorem src_omd_step_simulates (s : OMD3 K V) (hi : SrcInv s) (op : TOp K V) :
    srcStep (concO s) op = (render op (mstep s op).2, concO (mstep s op).1) ∧ SrcInv (mstep s op).1 := by
  refine ⟨?_, hi.mstep op⟩
  have hc := hi.closed
  -- which outcomes the call can have is read off the specification: `render` and the result translation of the
  -- method's own tie agree on those
  have ho := mstep_out s hi.inv op
  cases op with
  | add k v => simp [srcStep, liftU, mstep, render, src_add_eq_model s hc k v]
  | addlist k vs => simp [srcStep, liftU, mstep, render, src_addlist_eq_model s hc k vs]
  | clear => simp [srcStep, liftU, mstep, render, src_clear_eq_model s hc hi.root]
  | setitem k v =>
    simp only [srcStep, mstep, src_setitem_eq_model s hc k v _ (srcFuel_ok s k)] at ho ⊢
    generalize s.setitem k v = q at ho ⊢
    obtain ⟨q1, q2⟩ := q
    subst ho
    rfl
  | delitem k =>
    simp only [srcStep, mstep, src_delitem_eq_model s hc k _ (srcFuel_ok s k)] at ho ⊢
    generalize s.delitem k = q at ho ⊢
    obtain ⟨q1, q2⟩ := q
    subst ho
    simp only [TOp.toHOp, Spec.hstep, Spec.withS, Spec.delitem]
    cases Spec.has k s.ll.flat <;> rfl
  | popall k d =>
    simp only [srcStep, mstep, src_popall_eq_model s hc k d _ (srcFuel_ok s k)] at ho ⊢
    generalize s.popall k d.isSome = q at ho ⊢
    obtain ⟨q1, q2⟩ := q
    subst ho
    simp only [TOp.toHOp, Spec.hstep, Spec.withS, Spec.popall]
    cases Spec.has k s.ll.flat <;> cases d <;> rfl
  | pop k d =>
    simp only [srcStep, mstep, src_pop_eq_model s hc k d _ (srcFuel_ok s k)] at ho ⊢
    rw [ho]
    simp only [TOp.toHOp, Spec.hstep, Spec.withS, Spec.pop]
    cases Spec.last k s.ll.flat <;> cases d <;> rfl
  | poplast ko d =>
    simp only [srcStep, mstep, src_poplast_eq_model s hc ko d (fun _ hv => hi.lastKey hv)] at ho ⊢
    rw [ho]
    cases ko with
    | some k =>
      simp only [TOp.toHOp, Spec.hstep, Spec.withS, Spec.poplast]
      cases Spec.last k s.ll.flat <;> cases d <;> rfl
    | none =>
      simp only [TOp.toHOp, Spec.hstep, Spec.withS, Spec.poplast]
      cases s.ll.flat.getLast? <;> cases d <;> rfl
  | popitem =>
    simp only [srcStep, mstep, src_popitem_eq_model s hc _ hi.lastKey (fun k _ => srcFuel_ok s k)] at ho ⊢
    rw [ho]
    simp only [TOp.toHOp, Spec.hstep, Spec.withS, Spec.popitem]
    cases s.ll.flat.getLast? <;> rfl

/-- SOURCE TIE, whole histories: from the state `__new__` leaves (an empty dict, `root` alone in the store), every
    finite history of translated public calls, run on the GENERATED definitions, returns / raises call by call what the
    concrete model says and ends in the image of the model's state; every state on the way satisfies `SrcInv` -/
theorem src_omd_run_simulates (ops : List (TOp K V)) : ∀ (s : OMD3 K V), SrcInv s →
    (srcRun (concO s) ops).1 = (List.zip ops (mrun s ops)).map (fun p => render p.1 p.2.2) ∧
    (srcRun (concO s) ops).2 = concO (((mrun s ops).getLast?.map (·.1)).getD s) ∧
    ∀ r ∈ mrun s ops, SrcInv r.1 := by
  induction ops with
  | nil => intro s _; simp [srcRun, mrun]
  | cons op ops ih =>
    intro s hi
    obtain ⟨h1, h2⟩ := src_omd_step_simulates s hi op
    obtain ⟨i1, i2, i3⟩ := ih (mstep s op).1 h2
    simp only [srcRun, mrun, h1, i1, i2, List.zip_cons_cons, List.map_cons, List.mem_cons]
    refine ⟨trivial, ?_, ?_⟩
    · cases hm : mrun (mstep s op).1 ops with
      | nil => simp
      | cons a b =>
        cases hl : (a :: b).getLast? with
        | none => simp at hl
        | some x => simp [List.getLast?_cons_cons, hl]
    · rintro r (rfl | hr)
      · exact h2
      · exact i3 r hr

omit [Inhabited K] [Inhabited V] in
theorem mrun_eq_hrun3 (ops : List (TOp K V)) (s t : OMD3 K V) :
    hrun3 ⟨s, t⟩ (ops.map TOp.toHOp) = (mrun s ops).map fun r => (⟨r.1, t⟩, r.2) :=
  ((IsRun.map (step := mstep) (run := mrun) ⟨fun _ => rfl, fun _ _ _ => rfl⟩ isRun_hrun3 (I := fun _ => True)
    (a := fun s => ⟨s, t⟩) (c := id) (fun s op _ => ⟨trivial, (mstep_eq_hstep3 s t op).symm⟩) ops s trivial).1).symm

/-- SOURCE TIE down to the SPECIFICATION: a history of translated public calls on a fresh object, run on the GENERATED
    definitions, returns / raises call by call what the one-line operations on the plain LIST OF PAIRS return
    (`Spec.hrun`, through `hrun3_refines_spec`, i.e. `concrete_refines_history`), as the caller sees them; and the store it ends in is the image of a
    concrete state whose walk `iteritems(multi=True)` is the specification's pair list -/
theorem src_omd_history_refines (ops : List (TOp K V)) :
    (srcRun (concO (OMD3.empty : OMD3 K V)) ops).1 =
      (List.zip ops (Spec.hrun ⟨[], []⟩ (ops.map TOp.toHOp))).map (fun p => render p.1 p.2.2) ∧
    ∃ s : OMD3 K V, (srcRun (concO (OMD3.empty : OMD3 K V)) ops).2 = concO s ∧ SrcInv s ∧
      s.ll.flat = (((Spec.hrun ⟨[], []⟩ (ops.map TOp.toHOp)).getLast?.map (·.1.s)).getD []) := by
  obtain ⟨h1, h2, h3⟩ := src_omd_run_simulates ops (OMD3.empty : OMD3 K V) SrcInv.empty
  have hc := hrun3_refines_spec (K := K) (V := V) (ops.map TOp.toHOp)
  have hm := mrun_eq_hrun3 ops (OMD3.empty : OMD3 K V) OMD3.empty
  have hinit : (HState3.init : HState3 K V) = ⟨OMD3.empty, OMD3.empty⟩ := rfl
  rw [hinit, hm, List.map_map] at hc
  refine ⟨?_, _, h2, ?_, ?_⟩
  · rw [h1, ← hc]
    simp only [List.zip_map_right, List.map_map]
    rfl
  · cases hl : (mrun (OMD3.empty : OMD3 K V) ops).getLast? with
    | none => exact SrcInv.empty
    | some r => exact h3 r (List.mem_of_getLast? hl)
  · rw [← hc, List.getLast?_map]
    cases hl : (mrun (OMD3.empty : OMD3 K V) ops).getLast? with
    | none => simp [OMD3.empty, PL.flat, abs_empty, LL.flat, LL.empty]
    | some r => simp [absH, HState3.abs, OMD3.abs]

/-- non-vacuity of the history tie: a 9-call history evaluated on the GENERATED machine (`srcRun`, fuel read off the
    object): two keys, a re-assignment, `poplast()` / `popitem()` reading their key back out of the store, a default, a
    KeyError — the visible results call by call, and the dict at the end -/
example :
    (let r := srcRun (concO (OMD3.empty : OMD3 Nat Nat))
        [.add 1 10, .add 2 20, .addlist 1 [11, 12], .setitem 2 21, .poplast none none, .popitem, .pop 7 (some 99),
         .poplast (some 7) none, .popall 1 none]
     (r.1.map (fun x => match x with
        | .none => (0, 0, 0) | .val v => (1, v, 0) | .vals l => (2, l.length, l.sum) | .pair k v => (3, k, v)
        | .exc PyExc.KeyError => (4, 0, 0) | .exc _ => (5, 0, 0)), r.2.d)) =
    ([(0, 0, 0), (0, 0, 0), (0, 0, 0), (0, 0, 0), (1, 21, 0), (3, 1, 12), (1, 99, 0), (4, 0, 0), (4, 0, 0)], []) := by
  rfl

/-- SOURCE TIE: `self[k]` is the model's `getitem` (`dict[k][-1]`: KeyError for an absent key, IndexError for an empty
    value list) -/
theorem src_getitem_eq_model (s : OMD3 K V) (k : K) :
    Src.dictutils.OMD.getitem (concO s) k =
      match s.abs.getitem k with | .ok v => .ok v | .error e => .error (excOf e) := by
  unfold Src.dictutils.OMD.getitem Src.dictutils.OMD.getitem.body OMD.getitem
  simp only [concO, get?_eq_dget, OMD3.abs]
  cases dget k s.vals with
  | none => rfl
  | some vs => simp only [PyRt.index?_neg_one]; cases vs.getLast? <;> rfl

/-- SOURCE TIE: `getlist(k[, default])` never raises, changes nothing and returns (a copy of) the key's value list, the
    default, or `[]`; without a default it is the model's `getlist` -/
theorem src_getlist_eq_model (s : OMD3 K V) (k : K) (dflt : Option (List V)) :
    Src.dictutils.OMD.getlist (concO s) k dflt =
      (.ok (match dget k s.vals with | some vs => vs | none => dflt.getD []), concO s) ∧
    (Src.dictutils.OMD.getlist (concO s) k none).1 = .ok (s.abs.getlist k) := by
  have h : ∀ d : Option (List V), Src.dictutils.OMD.getlist (concO s) k d =
      (.ok (match dget k s.vals with | some vs => vs | none => d.getD []), concO s) := by
    intro d
    unfold Src.dictutils.OMD.getlist Src.dictutils.OMD.getlist.body
    simp only [concO, get?_eq_dget]
    cases dget k s.vals with
    | none => cases d <;> simp [PyRt.unwrap]
    | some vs => simp [PyRt.slice]
  refine ⟨h dflt, ?_⟩
  rw [h none]
  simp only [OMD.getlist, OMD3.abs]
  cases dget k s.vals <;> rfl

/-- non-vacuity, on the generated definitions -/
example :
    (let st := (Src.dictutils.OMD.add (Src.dictutils.OMD.add (concO (OMD3.empty : OMD3 Nat Nat)) 1 10).2 1 11).2
     ((match Src.dictutils.OMD.getitem st 1 with | .ok v => some v | .error _ => none),
      (match (Src.dictutils.OMD.getlist st 1 none).1 with | .ok l => l | .error _ => []),
      (match Src.dictutils.OMD.getitem st 2 with | .error PyExc.KeyError => true | _ => false))) =
    (some 11, [10, 11], true) := by rfl

/-- the pairs held by the cells `is` (for the walk `l.ids`: `l.flat`) -/
def pairsOf (l : PL K V) (is : List Nat) : List (K × V) := is.filterMap fun i => dget i l.pay

omit [Inhabited K] [Inhabited V] in
theorem pairsOf_ids_eq_flat {l : PL K V} (h : PInv l) : pairsOf l l.ids = l.flat := by
  rw [PL.flat, LL.flat, PL.abs, h.shape.cells_eq, h.shape.ids_eq]
  simp only [pairsOf, cellsOf, List.map_filterMap]
  congr 1
  funext i
  simp only [cellAt]
  cases dget i l.pay <;> rfl

omit [Inhabited K] [Inhabited V] in
/-- the rule for a generated `while curr is not root` walk of the store, the loop taken as a variable and given only by what
    one turn does: `At st c` says that the loop state `st` is paused with `curr` at the link `c`; `res st ps` is what the loop
    gives from `st` when the cells still ahead hold the pairs `ps`.  Walking `NEXT` from `a` meets the cells `is` (each one
    allocated, not `root`, with a payload) and then `root`; fuel above their number is enough. -/
theorem walk_loop {σ ρ : Type} (l : PL K V) (loop : Nat → σ → ρ) (At : σ → Nat → Prop) (res : σ → List (K × V) → ρ)
    (hstop : ∀ n st, At st 0 → loop (n + 1) st = res st [])
    (hstep : ∀ n st c kv ps, At st c → c ≠ 0 → c < l.fresh → dget c l.pay = some kv →
      ∃ st', At st' (look l.nxt c) ∧ (loop n st' = res st' ps → loop (n + 1) st = res st (kv :: ps))) :
    ∀ (is : List Nat) (a F : Nat) (st : σ), Fwd l.nxt a is 0 →
      (∀ i ∈ is, i ≠ 0 ∧ i < l.fresh ∧ (dget i l.pay).isSome) → is.length + 1 ≤ F → At st (look l.nxt a) →
      loop F st = res st (pairsOf l is) := by
  intro is
  induction is with
  | nil =>
    intro a F st hf _ hF hat
    obtain ⟨F', rfl⟩ : ∃ F', F = F' + 1 := ⟨F - 1, by omega⟩
    rw [show look l.nxt a = 0 from hf] at hat
    exact hstop F' st hat
  | cons i r ih =>
    intro a F st hf hall hF hat
    rw [List.length_cons] at hF
    obtain ⟨F', rfl⟩ : ∃ F', F = F' + 1 := ⟨F - 1, by omega⟩
    obtain ⟨n0, lt, py⟩ := hall i List.mem_cons_self
    obtain ⟨kv, hkv⟩ := Option.isSome_iff_exists.mp py
    rw [hf.1] at hat
    obtain ⟨st', hat', h⟩ := hstep F' st i kv (pairsOf l r) hat n0 lt hkv
    rw [pairsOf, List.filterMap_cons, hkv]
    exact h (ih i F' st' hf.2 (fun j hj => hall j (List.mem_cons_of_mem _ hj)) (by omega) hat')

omit [Inhabited K] [Inhabited V] in
/-- … started at `root[NEXT]` in a state the class can be in, with fuel `≥` the number of allocated cells: the pairs ahead
    are the model's cell list -/
theorem SrcInv.walk_loop {σ ρ : Type} {s : OMD3 K V} (hi : SrcInv s) {F : Nat} (hF : s.ll.fresh ≤ F) (loop : Nat → σ → ρ)
    (At : σ → Nat → Prop) (res : σ → List (K × V) → ρ)
    (hstop : ∀ n st, At st 0 → loop (n + 1) st = res st [])
    (hstep : ∀ n st c kv ps, At st c → c ≠ 0 → c < s.ll.fresh → dget c s.ll.pay = some kv →
      ∃ st', At st' (look s.ll.nxt c) ∧ (loop n st' = res st' ps → loop (n + 1) st = res st (kv :: ps)))
    (st : σ) (hat : At st (look s.ll.nxt 0)) : loop F st = res st s.ll.flat := by
  have hsh := hi.inv.ll.shape
  rw [← pairsOf_ids_eq_flat hi.inv.ll]
  exact C01.walk_loop s.ll loop At res hstop hstep s.ll.ids 0 F st hsh.shape.fwd
    (fun i hm => ⟨fun e => hsh.zero_not_mem (e ▸ hm), hsh.lt i hm, hsh.pay i hm⟩) (by have := hsh.len; omega) hat

/-- `iterkeys()` as the source computes it: `yielded` is the list of the keys added so far -/
def dedupL (seen : List K) : List K → List K
  | [] => []
  | k :: r => if PyRt.contains seen k = true then dedupL seen r else k :: dedupL (seen ++ [k]) r

omit [Inhabited K] [Inhabited V] in
/-- … which is the model's `dedupAux` (only membership in the accumulator matters) -/
theorem dedupL_eq (l : List K) : ∀ (seen seen' : List K), (∀ x, x ∈ seen ↔ x ∈ seen') →
    dedupL seen l = dedupAux seen' l := by
  induction l with
  | nil => intro _ _ _; rfl
  | cons k r ih =>
    intro seen seen' h
    simp only [dedupL, dedupAux, PyRt.contains_iff, h k]
    split
    · exact ih seen seen' h
    · rw [ih (seen ++ [k]) (k :: seen') (by intro x; simp [h x, or_comm])]

/-- SOURCE TIE: `iterkeys(multi)` on a state the class can be in, with loop fuel `≥` the number of allocated cells:
    termination (no `OutOfFuel`), no failing unboxing, and the generator yields the model's `keysM` (every key, in link
    order = the keys of `iteritems(multi=True)`) / `keys` (`dedup`: first occurrences) -/
theorem src_iterkeys_eq_model (s : OMD3 K V) (hi : SrcInv s) (multi : Bool) (lfuel : Nat) (hf : s.ll.fresh ≤ lfuel) :
    Src.dictutils.OMD.iterkeys lfuel (concO s) multi = .ok (if multi then s.abs.keysM else s.abs.keys) := by
  unfold Src.dictutils.OMD.iterkeys Src.dictutils.OMD.iterkeys.body
  simp only [concO, get?_nxtP s.ll hi.closed.pos]
  cases multi with
  | true =>
    -- every key on the way, then `root` ends the loop
    simp only [if_true]
    refine hi.walk_loop hf _
      (fun (st : OMD.iterkeys.St K V) c => st.self.heap = heapP s.ll ∧ st.loc2 = .ref 0 ∧ st.loc3 = .ref c)
      (fun _ ps => Except.ok (ps.map (·.1))) ?_ ?_ _ ?_
    · rintro n st ⟨hh, h2, h3⟩
      rw [OMD.iterkeys.loop1]
      simp [h2, h3, Val.is?]
    · rintro n st c kv ps ⟨hh, h2, h3⟩ n0 lt hkv
      refine ⟨{ st with loc4 := kv.1, loc3 := .ref (look s.ll.nxt c) }, ⟨hh, h2, rfl⟩, fun ih => ?_⟩
      simp only [h2] at ih
      rw [OMD.iterkeys.loop1]
      simp only [h2, h3, hh, Val.is?, get?_keyP s.ll lt, get?_nxtP s.ll lt, hkv, PyRtC01.unboxKey?, beq_iff_eq, n0,
        not_false_eq_true, if_true, PyRt.yieldCons, ih, List.map_cons]
    · exact ⟨rfl, rfl, rfl⟩
  | false =>
    -- first occurrences only: `yielded` (`loc1`) grows on the way
    simp only [Bool.false_eq_true, if_false]
    refine (hi.walk_loop hf _
      (fun (st : OMD.iterkeys.St K V) c => st.self.heap = heapP s.ll ∧ st.loc2 = .ref 0 ∧ st.loc3 = .ref c)
      (fun st ps => Except.ok (dedupL st.loc1 (ps.map (·.1)))) ?_ ?_ _ ⟨rfl, rfl, rfl⟩).trans ?_
    · rintro n st ⟨hh, h2, h3⟩
      rw [OMD.iterkeys.loop2]
      simp [h2, h3, Val.is?, dedupL]
    · rintro n st c kv ps ⟨hh, h2, h3⟩ n0 lt hkv
      by_cases hm : PyRt.contains st.loc1 kv.1 = true
      · refine ⟨{ st with loc5 := kv.1, loc3 := .ref (look s.ll.nxt c) }, ⟨hh, h2, rfl⟩, fun ih => ?_⟩
        simp only [h2] at ih
        rw [OMD.iterkeys.loop2]
        simp only [h2, h3, hh, Val.is?, get?_keyP s.ll lt, get?_nxtP s.ll lt, hkv, PyRtC01.unboxKey?, beq_iff_eq, n0,
          not_false_eq_true, if_true, List.map_cons, dedupL, hm, not_true_eq_false, if_false, ih]
      · refine ⟨{ st with loc5 := kv.1, loc1 := st.loc1 ++ [kv.1], loc3 := .ref (look s.ll.nxt c) }, ⟨hh, h2, rfl⟩,
          fun ih => ?_⟩
        simp only [h2] at ih
        rw [OMD.iterkeys.loop2]
        simp only [h2, h3, hh, Val.is?, get?_keyP s.ll lt, get?_nxtP s.ll lt, hkv, PyRtC01.unboxKey?, beq_iff_eq, n0,
          Bool.false_eq_true, not_false_eq_true, if_true, List.map_cons, dedupL, hm, if_false, ih, PyRt.yieldCons]
    · simp only [OMD.keys, dedup, OMD3.abs]
      exact congrArg _ (dedupL_eq _ [] [] (fun _ => Iff.rfl))

/-- non-vacuity, on the generated definitions: `add(1,10); add(2,20); add(1,11)` then `iterkeys(True)` / `iterkeys()` -/
example :
    (let st := (Src.dictutils.OMD.add (Src.dictutils.OMD.add (Src.dictutils.OMD.add
        (concO (OMD3.empty : OMD3 Nat Nat)) 1 10).2 2 20).2 1 11).2
     ((match Src.dictutils.OMD.iterkeys 9 st true with | .ok l => l | .error _ => []),
      (match Src.dictutils.OMD.iterkeys 9 st false with | .ok l => l | .error _ => []))) = ([1, 2, 1], [1, 2]) := by rfl

/-- the `for key in self.iterkeys(): yield key, self[key]` loop is the model's `mapE` over the keys -/
theorem iteritems_loop2 (s : OMD3 K V) : ∀ (ks : List K) (st : OMD.iteritems.St K V), st.self = concO s →
    OMD.iteritems.loop2 (fun _ => .ok []) (fun _ => .ok []) (fun e _ => .error e) ks st =
      match mapE (fun k => match s.abs.getitem k with | .error e => .error e | .ok v => .ok (k, v)) ks with
      | .ok l => .ok l
      | .error e => .error (excOf e) := by
  intro ks
  induction ks with
  | nil => intro st _; rfl
  | cons k r ih =>
    intro st hst
    have h := ih { st with loc5 := k } hst
    simp only [OMD.iteritems.loop2, mapE, hst, src_getitem_eq_model s k]
    cases s.abs.getitem k with
    | error e => rfl
    | ok v =>
      simp only [hst] at h
      simp only [h, PyRt.yieldCons]
      cases mapE (fun k => match s.abs.getitem k with | .error e => .error e | .ok v => .ok (k, v)) r <;> rfl

/-- SOURCE TIE: `iteritems(multi)` on a state the class can be in, loop fuel `≥` the number of allocated cells:
    `multi=True` yields the pairs of the walk — the model's `itemsM`, which IS the abstraction `OMD3.abs` / the
    specification's list of pairs —, `multi=False` the model's `items` (each key once, with its latest value) -/
theorem src_iteritems_eq_model (s : OMD3 K V) (hi : SrcInv s) (multi : Bool) (lfuel : Nat) (hf : s.ll.fresh ≤ lfuel) :
    Src.dictutils.OMD.iteritems lfuel (concO s) multi =
      if multi then .ok s.abs.itemsM
      else match s.abs.items with | .ok l => .ok l | .error e => .error (excOf e) := by
  have hk := src_iterkeys_eq_model s hi false lfuel hf
  simp only [concO, Bool.false_eq_true, if_false] at hk
  unfold Src.dictutils.OMD.iteritems Src.dictutils.OMD.iteritems.body
  simp only [concO, get?_nxtP s.ll hi.closed.pos]
  cases multi with
  | true =>
    -- every pair on the way, then `root` ends the loop
    simp only [if_true]
    refine hi.walk_loop hf _
      (fun (st : OMD.iteritems.St K V) c => st.self.heap = heapP s.ll ∧ st.loc1 = .ref 0 ∧ st.loc2 = .ref c)
      (fun _ ps => Except.ok ps) ?_ ?_ _ ?_
    · rintro n st ⟨hh, h1, h2⟩
      rw [OMD.iteritems.loop1]
      simp [h1, h2, Val.is?]
    · rintro n st c kv ps ⟨hh, h1, h2⟩ n0 lt hkv
      refine ⟨{ st with loc3 := kv.1, loc4 := kv.2, loc2 := .ref (look s.ll.nxt c) }, ⟨hh, h1, rfl⟩, fun ih => ?_⟩
      simp only [h1] at ih
      rw [OMD.iteritems.loop1]
      simp only [h1, h2, hh, Val.is?, get?_keyP s.ll lt, get?_valP s.ll lt hkv, get?_nxtP s.ll lt, hkv,
        PyRtC01.unboxKey?, PyRtC01.unboxVal?, beq_iff_eq, n0, not_false_eq_true, if_true, PyRt.yieldCons, ih]
    · exact ⟨rfl, rfl, rfl⟩
  | false =>
    simp only [Bool.false_eq_true, if_false, hk]
    exact iteritems_loop2 s s.abs.keys _ rfl

/-- non-vacuity, on the generated definitions -/
example :
    (let st := (Src.dictutils.OMD.add (Src.dictutils.OMD.add (Src.dictutils.OMD.add
        (concO (OMD3.empty : OMD3 Nat Nat)) 1 10).2 2 20).2 1 11).2
     ((match Src.dictutils.OMD.iteritems 9 st true with | .ok l => l | .error _ => []),
      (match Src.dictutils.OMD.iteritems 9 st false with | .ok l => l | .error _ => []))) =
    ([(1, 10), (2, 20), (1, 11)], [(1, 11), (2, 20)]) := by rfl

end C01
