import BoltonsVerif.C01.Spec
import BoltonsVerif.C01.Sim
import BoltonsVerif.InsertionSort
/-
C01 helper lemmas: the association-list dict, the per-key view of the cell list, the
representation invariant `Inv` and its preservation by every mutator, and the refinement of
every mutator / reader to the list-of-pairs specification.
-/
namespace C01
open Spec

section list
variable {α : Type}

theorem filter_true (l : List α) : l.filter (fun _ => true) = l := List.filter_eq_self.mpr fun _ _ => rfl

theorem nodup_concat {l : List α} {x : α} (h : l.Nodup) (hx : x ∉ l) : (l ++ [x]).Nodup :=
  List.nodup_append.mpr ⟨h, List.nodup_cons.mpr ⟨List.not_mem_nil, List.nodup_nil⟩,
    fun _ ha _ hb e => hx (List.mem_singleton.mp hb ▸ e ▸ ha)⟩

theorem getLast?_of_ne {l : List α} (h : l ≠ []) : ∃ v, l.getLast? = some v := by
  cases hl : l.getLast? with
  | none => exact absurd (List.getLast?_eq_none_iff.mp hl) h
  | some v => exact ⟨v, rfl⟩

theorem isEmpty_of_getLast? {l : List α} {a : α} (h : l.getLast? = some a) : l.isEmpty = false :=
  List.isEmpty_eq_false_iff.mpr (List.ne_nil_of_mem (List.mem_of_getLast? h))

theorem subset_of_nodup_length_le [DecidableEq α] : ∀ (a b : List α), a.Nodup → a ⊆ b → b.length ≤ a.length → b ⊆ a := by
  intro a
  induction a with
  | nil => intro b _ _ hl; cases b <;> simp_all
  | cons x a ih =>
    intro b hn hs hl
    rw [List.nodup_cons] at hn
    have hx : x ∈ b := hs (by simp)
    have h1 : a ⊆ b.erase x := by
      intro y hy
      have : y ≠ x := fun e => hn.1 (e ▸ hy)
      exact (List.mem_erase_of_ne this).mpr (hs (by simp [hy]))
    have h2 : (b.erase x).length ≤ a.length := by
      rw [List.length_erase_of_mem hx]; simp at hl; omega
    have := ih (b.erase x) hn.2 h1 h2
    intro y hy
    by_cases e : y = x
    · simp [e]
    · exact List.mem_cons_of_mem _ (this ((List.mem_erase_of_ne e).mpr hy))

theorem mapE_filterMap {α β : Type} (f : α → Except Err β) (g : α → Option β) (l : List α)
    (h : ∀ a ∈ l, ∃ b, f a = .ok b ∧ g a = some b) : mapE f l = .ok (l.filterMap g) := by
  induction l with
  | nil => rfl
  | cons a r ih =>
    obtain ⟨b, hf, hg⟩ := h a (by simp)
    have := ih (fun x hx => h x (by simp [hx]))
    simp [mapE, hf, this, hg]

theorem mapE_map {α β : Type} (f : α → Except Err β) (g : α → β) (l : List α)
    (h : ∀ a ∈ l, f a = .ok (g a)) : mapE f l = .ok (l.map g) :=
  List.filterMap_eq_map' ▸ mapE_filterMap f (fun a => some (g a)) l fun a ha => ⟨g a, h a ha, rfl⟩

end list

section dict
variable {K β : Type} [DecidableEq K]

def dkeys (d : List (K × β)) : List K := d.map (·.1)

theorem dget_dset (k k' : K) (b : β) (d : List (K × β)) :
    dget k' (dset k b d) = if k' = k then some b else dget k' d := by
  induction d with
  | nil => simp [dset, dget, eq_comm]
  | cons p r ih => grind [dset, dget]

theorem dget_dset_self (k : K) (b : β) (d : List (K × β)) : dget k (dset k b d) = some b := by
  rw [dget_dset, if_pos rfl]

theorem ddel_cons (k : K) (p : K × β) (r : List (K × β)) :
    ddel k (p :: r) = if p.1 = k then ddel k r else p :: ddel k r := by
  by_cases e : p.1 = k <;> simp [ddel, notK, e]

theorem dget_ddel (k k' : K) (d : List (K × β)) :
    dget k' (ddel k d) = if k' = k then none else dget k' d := by
  induction d with
  | nil => simp [ddel, dget]
  | cons p r ih =>
    rw [ddel_cons]
    by_cases e : p.1 = k
    · rw [if_pos e, ih, dget]
      by_cases e' : k' = k
      · simp [e']
      · simp [e', e, Ne.symm e']
    · rw [if_neg e, dget, dget, ih]
      by_cases e' : p.1 = k'
      · simp [e', e' ▸ e]
      · simp [e']

theorem ddel_absent (k : K) (d : List (K × β)) (h : dget k d = none) : ddel k d = d := by
  induction d with
  | nil => rfl
  | cons p r ih =>
    rw [dget] at h
    by_cases e : p.1 = k
    · rw [if_pos e] at h; cases h
    · rw [if_neg e] at h; rw [ddel_cons, if_neg e, ih h]

theorem dget_mapSnd {γ : Type} (f : β → γ) (k : K) (d : List (K × β)) :
    dget k (d.map fun kv => (kv.1, f kv.2)) = (dget k d).map f := by
  induction d with
  | nil => rfl
  | cons p r ih => simp only [List.map_cons, dget]; split <;> simp_all

theorem dset_mapSnd {γ : Type} (f : β → γ) (k : K) (b : β) (d : List (K × β)) :
    dset k (f b) (d.map fun kv => (kv.1, f kv.2)) = (dset k b d).map fun kv => (kv.1, f kv.2) := by
  induction d with
  | nil => rfl
  | cons p r ih => simp only [List.map_cons, dset]; split <;> simp [ih]

theorem ddel_mapSnd {γ : Type} (f : β → γ) (k : K) (d : List (K × β)) :
    ddel k (d.map fun kv => (kv.1, f kv.2)) = (ddel k d).map fun kv => (kv.1, f kv.2) := by
  unfold ddel; rw [List.filter_map]; rfl

theorem dset_dset (k : K) (b b' : β) (d : List (K × β)) : dset k b' (dset k b d) = dset k b' d := by
  induction d with
  | nil => simp [dset]
  | cons p r ih => simp only [dset]; split <;> simp [dset, *]

theorem ddel_dset (k : K) (b : β) (d : List (K × β)) : ddel k (dset k b d) = ddel k d := by
  induction d with
  | nil => simp [dset, ddel, notK]
  | cons p r ih => rw [dset]; split <;> simp [ddel_cons, *]

theorem mem_of_dget {k : K} {b : β} {d : List (K × β)} (h : dget k d = some b) : ∃ p ∈ d, p.2 = b := by
  induction d with
  | nil => cases h
  | cons p r ih =>
    rw [dget] at h
    split at h
    · exact ⟨p, List.mem_cons_self, Option.some.inj h⟩
    · obtain ⟨q, hq, hb⟩ := ih h
      exact ⟨q, List.mem_cons_of_mem _ hq, hb⟩

theorem mem_dset {k : K} {b : β} {p : K × β} {d : List (K × β)} (h : p ∈ dset k b d) : p ∈ d ∨ p.2 = b := by
  induction d with
  | nil => exact Or.inr (List.mem_singleton.mp h ▸ rfl)
  | cons q r ih =>
    rw [dset] at h
    split at h
    · exact (List.mem_cons.mp h).elim (fun e => Or.inr (e ▸ rfl)) (fun h' => Or.inl (List.mem_cons_of_mem _ h'))
    · exact (List.mem_cons.mp h).elim (fun e => Or.inl (e ▸ List.mem_cons_self))
        (fun h' => (ih h').imp_left (List.mem_cons_of_mem _))

theorem mem_ddel {k : K} {p : K × β} {d : List (K × β)} (h : p ∈ ddel k d) : p ∈ d := (List.mem_filter.mp h).1

theorem dget_isSome_iff (k : K) (d : List (K × β)) : (dget k d).isSome ↔ k ∈ dkeys d := by
  induction d with
  | nil => simp [dget, dkeys]
  | cons p r ih => simp only [dget, dkeys, List.map_cons, List.mem_cons] at *; grind

theorem dget_none_iff (k : K) (d : List (K × β)) : dget k d = none ↔ k ∉ dkeys d := by
  rw [← dget_isSome_iff]; cases dget k d <;> simp

theorem dkeys_dset (k : K) (b : β) (d : List (K × β)) :
    dkeys (dset k b d) = if k ∈ dkeys d then dkeys d else dkeys d ++ [k] := by
  induction d with
  | nil => simp [dset, dkeys]
  | cons p r ih => simp only [dkeys, dset, List.map_cons, List.mem_cons] at *; grind

theorem nodup_dset (k : K) (b : β) (d : List (K × β)) (h : (dkeys d).Nodup) :
    (dkeys (dset k b d)).Nodup := by
  rw [dkeys_dset]
  split
  · exact h
  · exact nodup_concat h ‹_›

theorem nodup_ddel (k : K) (d : List (K × β)) (h : (dkeys d).Nodup) : (dkeys (ddel k d)).Nodup := by
  unfold dkeys ddel at *
  exact h.sublist (List.Sublist.map _ List.filter_sublist)

theorem mem_dkeys_ddel (k k' : K) (d : List (K × β)) : k' ∈ dkeys (ddel k d) ↔ k' ∈ dkeys d ∧ k' ≠ k := by
  rw [← dget_isSome_iff, dget_ddel, ← dget_isSome_iff]
  split <;> simp_all

end dict

section cells
variable {K V : Type} [DecidableEq K]

theorem isK_iff (k : K) (p : K × V) : isK k p = true ↔ p.1 = k := by simp [isK]
theorem notK_iff (k : K) (p : K × V) : notK k p = true ↔ p.1 ≠ k := by simp [notK]

@[simp] theorem valsOf_nil (k : K) : valsOf k ([] : List (K × V)) = [] := rfl

theorem valsOf_cons (k : K) (p : K × V) (L : List (K × V)) :
    valsOf k (p :: L) = if p.1 = k then p.2 :: valsOf k L else valsOf k L := by
  by_cases h : p.1 = k <;> simp [valsOf, isK, h]

theorem valsOf_append (k : K) (A B : List (K × V)) : valsOf k (A ++ B) = valsOf k A ++ valsOf k B := by
  simp [valsOf]

theorem valsOf_single (k k' : K) (v : V) : valsOf k' [(k, v)] = if k = k' then [v] else [] := by
  simp [valsOf_cons]

theorem valsOf_filter_key (q : K → Bool) (k : K) (L : List (K × V)) :
    valsOf k (L.filter fun p => q p.1) = if q k = true then valsOf k L else [] := by
  induction L with
  | nil => simp
  | cons p r ih =>
    by_cases e : p.1 = k
    · subst e; cases hq : q p.1 <;> simp [valsOf_cons, hq, ih]
    · cases hq : q p.1 <;> simp [valsOf_cons, hq, ih, e]

theorem valsOf_remove (k k' : K) (L : List (K × V)) :
    valsOf k' (L.filter (notK k)) = if k' = k then [] else valsOf k' L :=
  (valsOf_filter_key (fun a => !decide (a = k)) k' L).trans (by by_cases e : k' = k <;> simp [e])

theorem valsOf_mapPair (k k' : K) (vs : List V) :
    valsOf k' (vs.map fun v => (k, v)) = if k = k' then vs else [] := by
  induction vs with
  | nil => simp
  | cons v r ih => simp only [List.map_cons, valsOf_cons, ih]; split <;> simp_all

theorem valsOf_append_mapPair (k k' : K) (A : List (K × V)) (vs : List V) :
    valsOf k' (A ++ vs.map fun v => (k, v)) = if k' = k then valsOf k A ++ vs else valsOf k' A := by
  rw [valsOf_append, valsOf_mapPair]
  by_cases e : k' = k
  · simp [e]
  · simp [e, Ne.symm e]

theorem valsOf_ne_nil_iff (k : K) (L : List (K × V)) : valsOf k L ≠ [] ↔ k ∈ L.map (·.1) := by
  induction L with
  | nil => simp
  | cons p r ih => simp only [valsOf_cons, List.map_cons, List.mem_cons]; grind

theorem has_iff (k : K) (L : List (K × V)) : has k L = true ↔ valsOf k L ≠ [] := by
  rw [valsOf_ne_nil_iff]
  simp only [has, List.any_eq_true, isK, decide_eq_true_eq, List.mem_map]

theorem valsOf_eq_nil_of_not_has {k : K} {L : List (K × V)} (h : ¬ has k L = true) : valsOf k L = [] :=
  Classical.not_not.mp (mt (has_iff k L).mpr h)

theorem valsOf_eq_nil_of_not_mem {k : K} {L : List (K × V)} (h : k ∉ L.map (·.1)) : valsOf k L = [] :=
  Classical.not_not.mp (mt (valsOf_ne_nil_iff k L).mp h)

theorem remove_eq_self (k : K) (L : List (K × V)) (h : valsOf k L = []) : L.filter (notK k) = L := by
  rw [List.filter_eq_self]
  intro p hp
  rw [notK_iff]
  intro e
  have : k ∈ L.map (·.1) := by rw [← e]; exact List.mem_map_of_mem hp
  rw [← valsOf_ne_nil_iff] at this
  exact this h

theorem valsOf_reverse (k : K) (L : List (K × V)) : valsOf k L.reverse = (valsOf k L).reverse := by
  simp [valsOf, List.filter_reverse]

theorem valsOf_mapConst (k : K) (d : V) (ks : List K) :
    valsOf k (ks.map fun k' => (k', d)) = List.replicate (ks.count k) d := by
  induction ks with
  | nil => rfl
  | cons a r ih =>
    rw [List.map_cons, valsOf_cons, ih]
    by_cases e : a = k
    · subst e; simp [List.replicate_succ]
    · simp [e]

end cells

section spec
variable {K V : Type} [DecidableEq K]

theorem mem_dedupAux (seen l : List K) (k : K) : k ∈ dedupAux seen l ↔ k ∈ l ∧ k ∉ seen := by
  induction l generalizing seen with
  | nil => simp [dedupAux]
  | cons a r ih =>
    simp only [dedupAux]
    split
    · rename_i ha
      rw [ih, List.mem_cons]
      exact ⟨fun h => ⟨Or.inr h.1, h.2⟩, fun h => ⟨h.1.resolve_left fun e => h.2 (e ▸ ha), h.2⟩⟩
    · simp only [List.mem_cons, ih]
      by_cases e : k = a
      · subst e; simpa
      · simp [e]

theorem mem_dedup (l : List K) (k : K) : k ∈ dedup l ↔ k ∈ l := by simp [dedup, mem_dedupAux]

theorem nodup_dedupAux (seen l : List K) : (dedupAux seen l).Nodup := by
  induction l generalizing seen with
  | nil => simp [dedupAux]
  | cons a r ih =>
    simp only [dedupAux]
    split
    · exact ih seen
    · rw [List.nodup_cons]
      refine ⟨?_, ih _⟩
      rw [mem_dedupAux]; simp

theorem nodup_dedup (l : List K) : (dedup l).Nodup := nodup_dedupAux [] l

theorem dedupAux_concat (seen l : List K) (k : K) :
    dedupAux seen (l ++ [k]) = if k ∈ seen ∨ k ∈ l then dedupAux seen l else dedupAux seen l ++ [k] := by
  induction l generalizing seen with
  | nil => simp [dedupAux]
  | cons a r ih =>
    simp only [List.cons_append, dedupAux]
    split
    · rename_i ha
      rw [ih]
      by_cases e : k = a
      · subst e; simp [ha]
      · simp [e]
    · rw [ih]
      by_cases e : k = a
      · simp [e]
      · simp only [List.mem_cons, e, false_or]; split <;> rfl

theorem dedup_concat (l : List K) (k : K) :
    dedup (l ++ [k]) = if k ∈ l then dedup l else dedup l ++ [k] := by
  simp [dedup, dedupAux_concat]

theorem mem_keys (L : List (K × V)) (k : K) : k ∈ Spec.keys L ↔ valsOf k L ≠ [] := by
  rw [Spec.keys, mem_dedup, valsOf_ne_nil_iff]

theorem valsOf_eq_nil_of_not_mem_keys {k : K} {L : List (K × V)} (h : k ∉ Spec.keys L) : valsOf k L = [] :=
  valsOf_eq_nil_of_not_mem (mt (mem_dedup _ k).mpr h)

theorem last_isSome_iff (k : K) (L : List (K × V)) : (Spec.last k L).isSome ↔ valsOf k L ≠ [] := by
  unfold Spec.last
  cases hv : valsOf k L with
  | nil => simp
  | cons a r =>
    obtain ⟨v, hv'⟩ := getLast?_of_ne (l := a :: r) (by simp)
    simp [hv']

theorem last_concat (k : K) (v : V) (A : List (K × V)) : Spec.last k (A ++ [(k, v)]) = some v := by
  simp [Spec.last, valsOf_append, valsOf_single]

theorem spec_getitem_error_iff (k : K) (L : List (K × V)) (e : Err) :
    Spec.getitem L k = .error e ↔ e = .keyError ∧ has k L = false := by
  unfold Spec.getitem
  cases hl : Spec.last k L with
  | none =>
    have : ¬ has k L = true := fun hh => by
      have := (last_isSome_iff k L).mpr ((has_iff k L).mp hh); simp [hl] at this
    simp [this, eq_comm]
  | some v =>
    have : has k L = true := (has_iff k L).mpr ((last_isSome_iff k L).mp (by simp [hl]))
    simp [this]

theorem items_fst (L : List (K × V)) : (Spec.items L).map (·.1) = Spec.keys L := by
  unfold Spec.items
  have : ∀ ks : List K, (∀ k ∈ ks, (Spec.last k L).isSome) →
      (ks.filterMap fun k => (Spec.last k L).map fun v => (k, v)).map (·.1) = ks := by
    intro ks
    induction ks with
    | nil => intro _; rfl
    | cons k r ih =>
      intro hk
      have h1 := hk k (by simp)
      cases hl : Spec.last k L with
      | none => simp [hl] at h1
      | some v =>
        rw [List.filterMap_cons]
        simp only [hl, Option.map_some, List.map_cons]
        rw [ih (fun x hx => hk x (by simp [hx]))]
  exact this _ (fun k hk => (last_isSome_iff k L).mpr ((mem_keys L k).mp hk))

theorem mem_items {L : List (K × V)} {p : K × V} (h : p ∈ Spec.items L) : Spec.last p.1 L = some p.2 := by
  unfold Spec.items at h
  obtain ⟨k, _, hk⟩ := List.mem_filterMap.mp h
  cases hl : Spec.last k L with
  | none => simp [hl] at hk
  | some v => simp [hl] at hk; subst hk; exact hl

theorem dget_items (L : List (K × V)) (k : K) : dget k (Spec.items L) = Spec.last k L := by
  have key : ∀ ks : List K, dget k (ks.filterMap fun x => (Spec.last x L).map fun v => (x, v)) =
      if k ∈ ks then Spec.last k L else none := by
    intro ks
    induction ks with
    | nil => rfl
    | cons x r ih =>
      rw [List.filterMap_cons]
      by_cases e : x = k
      · subst e
        cases hl : Spec.last x L <;> simp [hl, dget, ih]
      · have e' : ¬ k = x := fun e' => e e'.symm
        cases Spec.last x L <;> simp [dget, ih, e, e']
  rw [Spec.items, key]
  split
  · rfl
  · rename_i hk
    simp [Spec.last, valsOf_eq_nil_of_not_mem_keys hk]

theorem valsOf_rmLast (k k' : K) (L : List (K × V)) :
    valsOf k' (rmLast k L) = if k' = k then (valsOf k L).dropLast else valsOf k' L := by
  induction L with
  | nil => simp [rmLast]
  | cons p r ih =>
    simp only [rmLast]
    split
    · rename_i ha
      have ha := (has_iff k r).mp ha
      simp only [valsOf_cons, ih]
      by_cases e : k' = k
      · subst e
        by_cases e2 : p.1 = k'
        · simp [e2, List.dropLast_cons_of_ne_nil ha]
        · simp [e2]
      · simp [e]
    · rename_i ha
      have hn : valsOf k r = [] := valsOf_eq_nil_of_not_has ha
      split
      · rename_i e2
        by_cases e : k' = k
        · subst e; simp [valsOf_cons, e2, hn]
        · have : ¬ p.1 = k' := by rw [e2]; exact fun e' => e e'.symm
          simp [valsOf_cons, e, this]
      · rename_i e2
        by_cases e : k' = k
        · subst e; simp [valsOf_cons, e2, hn]
        · simp [e]

theorem rmLast_concat (k : K) (v : V) (A : List (K × V)) : rmLast k (A ++ [(k, v)]) = A := by
  induction A with
  | nil => simp [rmLast]
  | cons a r ih => simp [rmLast, ih, isK]

theorem last_of_getLast? {L : List (K × V)} {p : K × V} (hc : L.getLast? = some p) : Spec.last p.1 L = some p.2 := by
  obtain ⟨ys, rfl⟩ := List.getLast?_eq_some_iff.mp hc
  exact last_concat p.1 p.2 ys

theorem rmLast_of_getLast? {L : List (K × V)} {p : K × V} (hc : L.getLast? = some p) : rmLast p.1 L = L.dropLast := by
  obtain ⟨ys, rfl⟩ := List.getLast?_eq_some_iff.mp hc
  rw [show ys ++ [p] = ys ++ [(p.1, p.2)] from rfl, rmLast_concat, List.dropLast_concat]

theorem setAll_eq_replaceBy (L m : List (K × V)) (hm : (dkeys m).Nodup) :
    Spec.setAll L m = Spec.replaceBy L m := by
  induction m generalizing L with
  | nil => simp [Spec.setAll, Spec.replaceBy, filter_true]
  | cons p r ih =>
    simp only [dkeys, List.map_cons, List.nodup_cons] at hm
    have := ih (Spec.setitem L p.1 p.2) hm.2
    simp only [Spec.setAll, List.foldl_cons] at this ⊢
    rw [this]
    simp only [Spec.replaceBy, Spec.setitem, Spec.remove, List.filter_append, List.filter_filter, List.map_cons,
      List.filter_cons, List.filter_nil]
    have hp : (!decide (p.1 ∈ r.map (·.1))) = true := by simp; simpa using hm.1
    simp only [hp, ↓reduceIte, List.append_assoc, List.cons_append, List.nil_append]
    congr 1
    apply List.filter_congr
    intro q _
    by_cases e : q.1 = p.1 <;> simp [notK, e]

end spec

section index
variable {K V : Type} [DecidableEq K]

def ne? (l : List V) : Option (List V) := if l.isEmpty then none else some l

@[simp] theorem ne?_nil : ne? ([] : List V) = none := rfl
theorem ne?_of_ne {l : List V} (h : l ≠ []) : ne? l = some l := by
  cases l <;> simp_all [ne?]
theorem ne?_eq_none {l : List V} : ne? l = none ↔ l = [] := by cases l <;> simp [ne?]
theorem ne?_eq_some {l m : List V} : ne? l = some m ↔ l = m ∧ m ≠ [] := by
  cases l <;> simp [ne?] <;> grind
theorem ne?_getD (l : List V) : (ne? l).getD [] = l := by cases l <;> simp [ne?]

/-- the index invariant: a dict that holds the per-key lists `f k` and has no entry for an empty one.  `Inv`
    (`f = valsOf · cells`) and `LLInv` (`f = idsOf · cells`) carry these two fields for their own dict; that the dict
    operations keep them is proved here, once (`Indexes.dset`, `.ddel`, `.dropLast`), and reaches them through
    `Inv.indexes` / `Indexes.inv`, `LLInv.indexes` / `Indexes.llinv` -/
structure Indexes (d : List (K × List V)) (f : K → List V) : Prop where
  nodup : (dkeys d).Nodup
  agree : ∀ k, dget k d = ne? (f k)

theorem Indexes.nil {f : K → List V} (hf : ∀ k, f k = []) : Indexes ([] : List (K × List V)) f :=
  ⟨List.nodup_nil, fun k => by rw [hf]; rfl⟩

variable {d : List (K × List V)} {f f' : K → List V}

theorem Indexes.dset (h : Indexes d f) (k : K) {l : List V} (hl : l ≠ [])
    (hf : ∀ k', f' k' = if k' = k then l else f k') : Indexes (dset k l d) f' := by
  refine ⟨nodup_dset _ _ _ h.nodup, fun k' => ?_⟩
  rw [dget_dset, hf]
  split
  · exact (ne?_of_ne hl).symm
  · exact h.agree k'

theorem Indexes.ddel (h : Indexes d f) (k : K) (hf : ∀ k', f' k' = if k' = k then [] else f k') :
    Indexes (ddel k d) f' := by
  refine ⟨nodup_ddel _ _ h.nodup, fun k' => ?_⟩
  rw [dget_ddel, hf]
  split
  · rfl
  · exact h.agree k'

/-- `l = d[k]; l.pop(); if not l: del d[k]` -/
theorem Indexes.dropLast (h : Indexes d f) (k : K) (hf : ∀ k', f' k' = if k' = k then (f k).dropLast else f k') :
    Indexes (if (f k).dropLast.isEmpty then C01.ddel k d else C01.dset k (f k).dropLast d) f' := by
  split
  · rename_i he
    exact h.ddel k (fun k' => by rw [hf]; split <;> simp_all)
  · rename_i he
    exact h.dset k (by simpa using he) hf

end index

section inv
variable {K V : Type} [DecidableEq K]

/-- `dict[k]` is exactly the values of `k`'s cells in cell order, no entry for a key without cells, dict keys unique -/
structure Inv (s : OMD K V) : Prop where
  nodup : (dkeys s.vals).Nodup
  agree : ∀ k, dget k s.vals = ne? (valsOf k s.cells)

theorem Inv.indexes {s : OMD K V} (h : Inv s) : Indexes s.vals (valsOf · s.cells) := ⟨h.nodup, h.agree⟩

theorem Indexes.inv {vals : List (K × List V)} {cells : List (K × V)} (h : Indexes vals (valsOf · cells)) :
    Inv ⟨vals, cells⟩ := ⟨h.nodup, h.agree⟩

theorem Inv.getD_eq {s : OMD K V} (h : Inv s) (k : K) : (dget k s.vals).getD [] = valsOf k s.cells := by
  rw [h.agree, ne?_getD]

theorem Inv.dhas_eq {s : OMD K V} (h : Inv s) (k : K) : dhas k s.vals = has k s.cells := by
  rw [Bool.eq_iff_iff, has_iff, C01.dhas, h.agree]
  cases hv : valsOf k s.cells <;> simp [ne?]

theorem Inv.dget_none {s : OMD K V} (h : Inv s) (k : K) : dget k s.vals = none ↔ valsOf k s.cells = [] := by
  rw [h.agree, ne?_eq_none]

theorem Inv.dget_some {s : OMD K V} (h : Inv s) (k : K) (vs : List V) :
    dget k s.vals = some vs ↔ valsOf k s.cells = vs ∧ vs ≠ [] := by
  rw [h.agree, ne?_eq_some]

theorem inv_empty : Inv (OMD.empty : OMD K V) := (Indexes.nil fun _ => rfl).inv

theorem inv_addlist {s : OMD K V} (h : Inv s) (k : K) (vs : List V) : Inv (s.addlist k vs) := by
  unfold OMD.addlist
  split
  · exact h
  · rename_i hne
    rw [h.getD_eq]
    exact (h.indexes.dset k (fun e => hne (by simp [(List.append_eq_nil_iff.mp e).2]))
      (valsOf_append_mapPair k · s.cells vs)).inv

theorem inv_add {s : OMD K V} (h : Inv s) (k : K) (v : V) : Inv (s.add k v) := inv_addlist h k [v]

theorem inv_delKey {s : OMD K V} (h : Inv s) (k : K) : Inv (s.delKey k) :=
  (h.indexes.ddel k (valsOf_remove k · s.cells)).inv

theorem Inv.filter_notK {s : OMD K V} (h : Inv s) {k : K} (hh : ¬ dhas k s.vals = true) :
    s.cells.filter (notK k) = s.cells :=
  remove_eq_self k _ (valsOf_eq_nil_of_not_has (h.dhas_eq k ▸ hh))

theorem Inv.dget_last {s : OMD K V} (h : Inv s) (k : K) :
    (dget k s.vals = none ∧ Spec.last k s.cells = none) ∨
    ∃ vs v, dget k s.vals = some vs ∧ vs.getLast? = some v ∧ Spec.last k s.cells = some v := by
  rw [h.agree, Spec.last]
  cases hv : valsOf k s.cells with
  | nil => exact Or.inl ⟨rfl, rfl⟩
  | cons a r =>
    obtain ⟨v, hv'⟩ := getLast?_of_ne (l := a :: r) (by simp)
    exact Or.inr ⟨_, v, rfl, hv', hv'⟩

end inv

section readers
variable {K V : Type} [DecidableEq K]

theorem getitem_spec {s : OMD K V} (h : Inv s) (k : K) : s.getitem k = Spec.getitem s.cells k := by
  unfold OMD.getitem Spec.getitem
  rcases h.dget_last k with ⟨h1, h2⟩ | ⟨vs, v, h1, h2, h3⟩
  · simp only [h1, h2]
  · simp only [h1, h2, h3]

theorem get_spec {s : OMD K V} (h : Inv s) (k : K) : s.get k = .ok (Spec.last k s.cells) := by
  unfold OMD.get
  rcases h.dget_last k with ⟨h1, h2⟩ | ⟨vs, v, h1, h2, h3⟩
  · simp only [h1, h2]
  · simp only [h1, h2, h3]

theorem getlist_spec {s : OMD K V} (h : Inv s) (k : K) : s.getlist k = valsOf k s.cells := h.getD_eq k

theorem contains_spec {s : OMD K V} (h : Inv s) (k : K) : s.contains k = has k s.cells := h.dhas_eq k

theorem keys_spec (s : OMD K V) : s.keys = Spec.keys s.cells := rfl

theorem getitem_of_mem_keys {s : OMD K V} (h : Inv s) {k : K} (hk : k ∈ Spec.keys s.cells) :
    ∃ v, Spec.last k s.cells = some v ∧ s.getitem k = .ok v := by
  obtain ⟨v, hv⟩ := getLast?_of_ne ((mem_keys _ _).mp hk)
  exact ⟨v, hv, by rw [getitem_spec h, Spec.getitem, show Spec.last k s.cells = some v from hv]⟩

theorem items_spec {s : OMD K V} (h : Inv s) : s.items = .ok (Spec.items s.cells) := by
  unfold OMD.items Spec.items
  rw [keys_spec]
  apply mapE_filterMap
  intro k hk
  obtain ⟨v, hl, hg⟩ := getitem_of_mem_keys h hk
  exact ⟨(k, v), by simp [hg], by simp [hl]⟩

theorem todict_spec {s : OMD K V} (h : Inv s) : s.todict = .ok (Spec.items s.cells) := items_spec h

theorem values_spec {s : OMD K V} (h : Inv s) : s.values = .ok (Spec.values s.cells) := by
  simp [OMD.values, items_spec h, Spec.values]

theorem todictM_spec {s : OMD K V} (h : Inv s) : s.todictM = Spec.todictM s.cells := by
  simp [OMD.todictM, Spec.todictM, keys_spec, getlist_spec h]

theorem counts_spec {s : OMD K V} (h : Inv s) : s.counts = .ok (Spec.counts s.cells) := by
  unfold OMD.counts Spec.counts
  rw [keys_spec]
  apply mapE_map
  intro k hk
  rw [mem_keys] at hk
  rw [h.agree, ne?_of_ne hk]

theorem len_spec {s : OMD K V} (h : Inv s) : s.len = Spec.len s.cells := by
  unfold OMD.len Spec.len
  have hp : (dkeys s.vals).Perm (Spec.keys s.cells) :=
    (List.perm_ext_iff_of_nodup h.nodup (nodup_dedup _)).mpr (fun k => by
      rw [← dget_isSome_iff, h.agree, mem_dedup, ← valsOf_ne_nil_iff]
      cases valsOf k s.cells <;> simp [ne?])
  simpa [dkeys] using hp.length_eq

theorem vals_isEmpty_eq {s : OMD K V} (h : Inv s) : s.vals.isEmpty = s.cells.isEmpty := by
  have := len_spec h
  unfold OMD.len Spec.len Spec.keys at this
  cases hv : s.vals with
  | nil =>
    cases hc : s.cells with
    | nil => rfl
    | cons p r => rw [hv, hc] at this; simp [dedup, dedupAux] at this
  | cons a r =>
    cases hc : s.cells with
    | nil => rw [hv, hc] at this; simp [dedup, dedupAux] at this
    | cons p r => rfl

def keepLast : List K → List K
  | [] => []
  | k :: r => if k ∈ r then keepLast r else k :: keepLast r

theorem keepLast_eq (r : List K) : keepLast r = (dedup r.reverse).reverse := by
  induction r with
  | nil => simp [keepLast, dedup, dedupAux]
  | cons k r ih =>
    simp only [keepLast, List.reverse_cons, dedup_concat, List.mem_reverse]
    split <;> simp [ih]

/-- `N k = len(dict[k])`; invariant: the counter of `k` (default 1) + the cells of `k` still ahead in `R` = `N k + 1`,
    so it reaches `N k` exactly at the last cell of `k` -/
theorem reversedAux_spec (vals : List (K × List V)) (N : K → Nat) (lengths : List (K × Nat)) (R : List (K × V))
    (hv : ∀ p ∈ R, ∃ vs, dget p.1 vals = some vs ∧ vs.length = N p.1)
    (hl : ∀ k, (dget k lengths).getD 1 + (valsOf k R).length = N k + 1) :
    OMD.reversedAux vals lengths R = .ok (keepLast (R.map (·.1))) := by
  induction R generalizing lengths with
  | nil => rfl
  | cons p r ih =>
    obtain ⟨vs, hvs, hlen⟩ := hv p (by simp)
    have ih' := ih (dset p.1 ((dget p.1 lengths).getD 1 + 1) lengths) (fun q hq => hv q (by simp [hq])) (by
      intro k
      have := hl k
      rw [valsOf_cons] at this
      rw [dget_dset]
      by_cases e : k = p.1
      · subst e
        rw [if_pos rfl] at this ⊢
        simp only [List.length_cons, Option.getD_some] at this ⊢
        omega
      · rw [if_neg e]
        rw [if_neg (Ne.symm e)] at this
        exact this)
    simp only [OMD.reversedAux, hvs, ih', List.map_cons, keepLast]
    have h1 := hl p.1
    simp only [valsOf_cons, ↓reduceIte, List.length_cons] at h1
    congr 1
    by_cases hm : p.1 ∈ r.map (·.1)
    · have : valsOf p.1 r ≠ [] := (valsOf_ne_nil_iff p.1 r).mpr hm
      have : 0 < (valsOf p.1 r).length := List.length_pos_iff.mpr this
      simp only [hm, ↓reduceIte]
      rw [if_neg]; omega
    · have : valsOf p.1 r = [] := valsOf_eq_nil_of_not_mem hm
      simp only [hm, ↓reduceIte]
      rw [if_pos]; rw [this] at h1; simp at h1; omega

theorem reversed_spec {s : OMD K V} (h : Inv s) : s.reversed = .ok (Spec.reversed s.cells) := by
  unfold OMD.reversed Spec.reversed Spec.keys
  rw [reversedAux_spec s.vals (fun k => (valsOf k s.cells).length) [] s.cells.reverse]
  · rw [keepLast_eq]; simp
  · intro p hp
    have hm : p.1 ∈ s.cells.map (·.1) := List.mem_map_of_mem (List.mem_reverse.mp hp)
    have hne := (valsOf_ne_nil_iff p.1 s.cells).mpr hm
    exact ⟨_, by rw [h.agree, ne?_of_ne hne], rfl⟩
  · intro k; simp [dget, valsOf_reverse]; omega

theorem zipEq_iff [DecidableEq V] (a b : List (K × V)) : OMD.zipEq a b = true ↔ a = b := by
  induction a generalizing b with
  | nil => cases b <;> simp [OMD.zipEq]
  | cons x xs ih =>
    cases b with
    | nil => simp [OMD.zipEq]
    | cons y ys =>
      rw [OMD.zipEq, List.cons.injEq, ← ih]
      by_cases h : x = y
      · subst h; simp
      · have : x.1 ≠ y.1 ∨ x.2 ≠ y.2 := by
          by_cases h1 : x.1 = y.1
          · exact Or.inr fun h2 => h (Prod.ext h1 h2)
          · exact Or.inl h1
        simp [this, h]

theorem eqOMD_iff [DecidableEq V] {s t : OMD K V} (hs : Inv s) (ht : Inv t) :
    s.eqOMD t = true ↔ s.cells = t.cells := by
  unfold OMD.eqOMD
  constructor
  · intro h
    split at h
    · simp at h
    · exact (zipEq_iff _ _).mp h
  · intro e
    have : t.len = s.len := by rw [len_spec hs, len_spec ht, e]
    simp [this, (zipEq_iff _ _).mpr e]

theorem eqMapLoop_spec [DecidableEq V] {s : OMD K V} (h : Inv s) (m : List (K × V)) (ks : List K)
    (hk : ∀ k ∈ ks, valsOf k s.cells ≠ []) :
    s.eqMapLoop m ks = .ok (ks.all fun k => decide (dget k m = Spec.last k s.cells)) := by
  induction ks with
  | nil => rfl
  | cons k r ih =>
    have ih' := ih (fun x hx => hk x (by simp [hx]))
    obtain ⟨v, hv⟩ := getLast?_of_ne (hk k (by simp))
    have hl : Spec.last k s.cells = some v := hv
    simp only [OMD.eqMapLoop, List.all_cons, hl]
    cases hm : dget k m with
    | none => simp
    | some mv =>
      simp only [getitem_spec h, Spec.getitem, hl]
      by_cases e : mv = v
      · subst e; simp [ih']
      · simp [e]

theorem eqMapping_spec [DecidableEq V] {s : OMD K V} (h : Inv s) (m : List (K × V)) :
    s.eqMapping m = .ok (Spec.eqMapping s.cells m) := by
  unfold OMD.eqMapping Spec.eqMapping
  rw [len_spec h]
  split
  · rename_i hne; simp [hne]
  · rename_i he
    simp only [ne_eq, Decidable.not_not] at he
    rw [eqMapLoop_spec h m s.keys (fun k hk => (mem_keys _ _).mp hk)]
    simp [he, keys_spec]

theorem spec_eqMapping_iff [DecidableEq V] (L m : List (K × V)) (hm : (dkeys m).Nodup) :
    Spec.eqMapping L m = true ↔ ∀ k, dget k m = Spec.last k L := by
  unfold Spec.eqMapping Spec.len
  simp only [Bool.and_eq_true, decide_eq_true_eq, List.all_eq_true]
  constructor
  · rintro ⟨hlen, hall⟩ k
    by_cases hk : k ∈ Spec.keys L
    · exact hall k hk
    · have hsub : Spec.keys L ⊆ dkeys m := by
        intro x hx
        rw [← dget_isSome_iff, hall x hx, last_isSome_iff]
        exact (mem_keys _ _).mp hx
      have hrev := subset_of_nodup_length_le (Spec.keys L) (dkeys m) (nodup_dedup _) hsub
        (by simp [dkeys, hlen])
      have h1 : k ∉ dkeys m := fun hh => hk (hrev hh)
      have h2 : valsOf k L = [] := valsOf_eq_nil_of_not_mem_keys hk
      rw [(dget_none_iff k m).mpr h1]; simp [Spec.last, h2]
  · intro h
    refine ⟨?_, fun k _ => h k⟩
    have hp : (dkeys m).Perm (Spec.keys L) :=
      (List.perm_ext_iff_of_nodup hm (nodup_dedup _)).mpr (fun k => by
        rw [← dget_isSome_iff, h k, last_isSome_iff]
        exact (mem_keys L k).symm)
    simpa [dkeys] using hp.length_eq

end readers

section mutators
variable {K V : Type} [DecidableEq K]

theorem setitem_cells {s : OMD K V} (h : Inv s) (k : K) (v : V) :
    (s.setitem k v).cells = s.cells.filter (notK k) ++ [(k, v)] := by
  simp only [OMD.setitem]
  split
  · rfl
  · rw [h.filter_notK ‹_›]

theorem inv_setitem {s : OMD K V} (h : Inv s) (k : K) (v : V) : Inv (s.setitem k v) := by
  refine Indexes.inv (cells := (s.setitem k v).cells) (h.indexes.dset k (l := [v]) (by simp) fun k' => ?_)
  rw [setitem_cells h, show [(k, v)] = [v].map (fun v => (k, v)) from rfl, valsOf_append_mapPair, valsOf_remove,
    valsOf_remove]
  split <;> simp [*]

theorem inv_delIfHas {s : OMD K V} (h : Inv s) (k : K) : Inv (s.delIfHas k) := by
  unfold OMD.delIfHas; split
  · exact inv_delKey h k
  · exact h

theorem delIfHas_cells {s : OMD K V} (h : Inv s) (k : K) : (s.delIfHas k).cells = s.cells.filter (notK k) := by
  unfold OMD.delIfHas; split
  · rfl
  · rw [h.filter_notK ‹_›]

@[simp] theorem add_cells (s : OMD K V) (k : K) (v : V) : (s.add k v).cells = s.cells ++ [(k, v)] := rfl

theorem addAll_spec {s : OMD K V} (h : Inv s) (l : List (K × V)) :
    Inv (s.addAll l) ∧ (s.addAll l).cells = s.cells ++ l := by
  induction l generalizing s with
  | nil => simp [OMD.addAll, h]
  | cons p r ih =>
    have := ih (inv_add h p.1 p.2)
    simp only [OMD.addAll, List.foldl_cons] at this ⊢
    refine ⟨this.1, ?_⟩
    rw [this.2]; simp

theorem setAll_spec {s : OMD K V} (h : Inv s) (l : List (K × V)) :
    Inv (s.setAll l) ∧ (s.setAll l).cells = Spec.setAll s.cells l := by
  induction l generalizing s with
  | nil => simp [OMD.setAll, Spec.setAll, h]
  | cons p r ih =>
    have := ih (inv_setitem h p.1 p.2)
    simp only [OMD.setAll, Spec.setAll, List.foldl_cons] at this ⊢
    refine ⟨this.1, ?_⟩
    rw [this.2, setitem_cells h]; rfl

theorem fromPairs_spec (l : List (K × V)) : Inv (OMD.fromPairs l) ∧ (OMD.fromPairs l : OMD K V).cells = l := by
  have := addAll_spec (inv_empty (K := K) (V := V)) l
  simpa [OMD.fromPairs, OMD.empty] using this

theorem delKeys_spec {s : OMD K V} (h : Inv s) (ks : List K) :
    Inv (ks.foldl OMD.delIfHas s) ∧
    (ks.foldl OMD.delIfHas s).cells = s.cells.filter (fun p => !decide (p.1 ∈ ks)) := by
  induction ks generalizing s with
  | nil => exact ⟨h, by simp [filter_true]⟩
  | cons k r ih =>
    have := ih (inv_delIfHas h k)
    simp only [List.foldl_cons]
    refine ⟨this.1, ?_⟩
    rw [this.2, delIfHas_cells h, List.filter_filter]
    apply List.filter_congr
    intro p _
    by_cases e : p.1 = k <;> simp [notK, e]

theorem updPairs_spec {s : OMD K V} (h : Inv s) (seen : List K) (l : List (K × V)) :
    Inv (s.updPairs seen l) ∧
    (s.updPairs seen l).cells =
      s.cells.filter (fun p => decide (p.1 ∈ seen) || !decide (p.1 ∈ l.map (·.1))) ++ l := by
  induction l generalizing s seen with
  | nil => exact ⟨h, by simp [OMD.updPairs, filter_true]⟩
  | cons p r ih =>
    simp only [OMD.updPairs]
    split
    · rename_i hs
      have := ih (inv_add h p.1 p.2) seen
      refine ⟨this.1, ?_⟩
      rw [this.2]
      simp only [add_cells, List.filter_append, List.filter_cons, List.filter_nil, hs, decide_true, Bool.true_or,
        ↓reduceIte, List.append_assoc, List.cons_append, List.nil_append, List.map_cons, List.mem_cons]
      congr 1
      apply List.filter_congr
      intro q _
      by_cases e : q.1 = p.1 <;> simp [e, hs]
    · rename_i hs
      have := ih (inv_add (inv_delIfHas h p.1) p.1 p.2) (p.1 :: seen)
      refine ⟨this.1, ?_⟩
      rw [this.2]
      simp only [add_cells, delIfHas_cells h, List.filter_append, List.filter_cons, List.filter_nil, List.mem_cons,
        true_or, decide_true, Bool.true_or, ↓reduceIte, List.append_assoc, List.cons_append, List.nil_append,
        List.map_cons, List.filter_filter]
      congr 1
      apply List.filter_congr
      intro q _
      by_cases e : q.1 = p.1 <;> simp [e, hs, notK]

theorem updPairs_nil_spec {s : OMD K V} (h : Inv s) (l : List (K × V)) :
    Inv (s.updPairs [] l) ∧ (s.updPairs [] l).cells = replaceBy s.cells l :=
  ⟨(updPairs_spec h [] l).1, (updPairs_spec h [] l).2.trans (by simp [replaceBy])⟩

def absArg : Arg K V → Spec.Arg K V
  | .self => .self
  | .omd t => .omd t.cells
  | .mapping m => .mapping m
  | .pairs l => .pairs l

theorem update_spec {s : OMD K V} (h : Inv s) (E : Arg K V) (F : List (K × V)) :
    Inv (s.update E F) ∧ (s.update E F).cells = Spec.update s.cells (absArg E) F := by
  have h1 : ∃ s1, s.update E F = s1.setAll F ∧ Inv s1 ∧ Spec.update s.cells (absArg E) F = Spec.setAll s1.cells F := by
    cases E with
    | self => exact ⟨s, rfl, h, rfl⟩
    | omd t =>
      have h1 := delKeys_spec h t.keys
      have h2 := addAll_spec h1.1 t.cells
      refine ⟨_, rfl, h2.1, ?_⟩
      rw [h2.2, h1.2]
      simp only [Spec.update, absArg, replaceBy, OMD.keys, mem_dedup]
    | mapping m => exact ⟨_, rfl, (setAll_spec h m).1, by rw [(setAll_spec h m).2]; rfl⟩
    | pairs l => exact ⟨_, rfl, (updPairs_nil_spec h l).1, by rw [(updPairs_nil_spec h l).2]; rfl⟩
  obtain ⟨s1, e1, i1, e2⟩ := h1
  rw [e1, e2]
  exact setAll_spec i1 F

theorem delitem_spec {s : OMD K V} (h : Inv s) (k : K) :
    Sim Inv OMD.cells (s.delitem k) (Spec.delitem s.cells k) := by
  unfold OMD.delitem Spec.delitem
  rw [h.dhas_eq]
  split
  · exact ⟨inv_delKey h k, rfl, rfl⟩
  · exact ⟨h, rfl, rfl⟩

theorem setdefault_spec {s : OMD K V} (h : Inv s) (k : K) (v : V) :
    Sim Inv OMD.cells (s.setdefault k v) (Spec.setdefault s.cells k v) := by
  unfold OMD.setdefault Spec.setdefault
  rw [h.dhas_eq]
  by_cases hh : has k s.cells = true
  · simp only [hh, ↓reduceIte]
    rw [getitem_spec h]
    have := (last_isSome_iff k s.cells).mpr ((has_iff k s.cells).mp hh)
    cases hl : Spec.last k s.cells with
    | none => simp [hl] at this
    | some x => exact ⟨h, rfl, by simp [Spec.getitem, hl]⟩
  · simp only [hh, Bool.false_eq_true, ↓reduceIte]
    have hv : valsOf k s.cells = [] := valsOf_eq_nil_of_not_has hh
    have hl : Spec.last k s.cells = none := by simp [Spec.last, hv]
    have hc : (s.setitem k v).cells = s.cells ++ [(k, v)] := by rw [setitem_cells h, remove_eq_self k _ hv]
    rw [getitem_spec (inv_setitem h k v), hc, hl]
    exact ⟨inv_setitem h k v, hc, by simp [Spec.getitem, last_concat]⟩

theorem popall_spec {s : OMD K V} (h : Inv s) (k : K) (d : Bool) :
    Sim Inv OMD.cells (s.popall k d) (Spec.popall s.cells k d) := by
  unfold OMD.popall Spec.popall
  by_cases hh : has k s.cells = true
  · rw [h.agree, ne?_of_ne ((has_iff k s.cells).mp hh), if_pos hh]
    exact ⟨inv_delKey h k, rfl, rfl⟩
  · rw [h.agree, valsOf_eq_nil_of_not_has hh, if_neg hh]
    exact ⟨h, rfl, rfl⟩

theorem pop_spec {s : OMD K V} (h : Inv s) (k : K) (d : Bool) :
    Sim Inv OMD.cells (s.pop k d) (Spec.pop s.cells k d) := by
  unfold OMD.pop Spec.pop
  rcases h.dget_last k with ⟨h1, h2⟩ | ⟨vs, v, h1, h2, h3⟩
  · simp only [h1, h2]; exact ⟨h, rfl, rfl⟩
  · simp only [h1, h2, h3]; exact ⟨inv_delKey h k, rfl, rfl⟩

theorem poplastKey_spec {s : OMD K V} (h : Inv s) (k : K) (d : Bool) :
    Sim Inv OMD.cells (s.poplastKey k d) (Spec.poplast s.cells (some k) d) := by
  unfold OMD.poplastKey Spec.poplast Spec.last
  by_cases ha : s.cells.any (isK k) = true
  · have hne := (has_iff k s.cells).mp ha
    obtain ⟨x, hx⟩ := getLast?_of_ne hne
    simp only [ha, ↓reduceIte, h.agree, ne?_of_ne hne, hx]
    exact ⟨(h.indexes.dropLast k (valsOf_rmLast k · s.cells)).inv, rfl, rfl⟩
  · simp only [ha, valsOf_eq_nil_of_not_has ha, List.getLast?_nil, Bool.false_eq_true, ↓reduceIte]
    exact ⟨h, rfl, rfl⟩

theorem poplast_spec {s : OMD K V} (h : Inv s) (k : Option K) (d : Bool) :
    Sim Inv OMD.cells (s.poplast k d) (Spec.poplast s.cells k d) := by
  cases k with
  | some k => exact poplastKey_spec h k d
  | none =>
    unfold OMD.poplast
    simp only
    rw [vals_isEmpty_eq h]
    cases hc : s.cells.getLast? with
    | none =>
      simp only [List.isEmpty_iff.mpr (List.getLast?_eq_none_iff.mp hc), ↓reduceIte, Spec.poplast, hc]
      exact ⟨h, rfl, rfl⟩
    | some p =>
      have := poplastKey_spec h p.1 d
      simp only [isEmpty_of_getLast? hc, Bool.false_eq_true, ↓reduceIte, Spec.poplast, hc, last_of_getLast? hc,
        rmLast_of_getLast? hc] at this ⊢
      exact this

theorem popitem_spec {s : OMD K V} (h : Inv s) :
    Sim Inv OMD.cells s.popitem (Spec.popitem s.cells) := by
  unfold OMD.popitem Spec.popitem
  rw [vals_isEmpty_eq h]
  cases hc : s.cells.getLast? with
  | none =>
    simp only [List.isEmpty_iff.mpr (List.getLast?_eq_none_iff.mp hc), ↓reduceIte]
    exact ⟨h, rfl, rfl⟩
  | some p =>
    have hp := pop_spec h p.1 false
    simp only [Spec.pop, last_of_getLast? hc] at hp
    obtain ⟨s', e, i, a⟩ := hp.split
    simp only [isEmpty_of_getLast? hc, Bool.false_eq_true, ↓reduceIte, e]
    exact ⟨i, a, rfl⟩

theorem updateExtend_spec {s : OMD K V} (h : Inv s) (E : Arg K V) (F : List (K × V)) :
    Sim Inv OMD.cells (s.updateExtend E F) (Spec.updateExtend s.cells (absArg E) F, .unit) := by
  have h2 : ∀ l, Sim Inv OMD.cells ((s.addAll l).addAll F, (Out.unit : Out K V)) (s.cells ++ l ++ F, .unit) :=
    fun l => by
      have h1 := addAll_spec h l
      have h2 := addAll_spec h1.1 F
      exact ⟨h2.1, by rw [h2.2, h1.2], rfl⟩
  cases E <;> simp only [OMD.updateExtend, Spec.updateExtend, items_spec h, absArg] <;> exact h2 _

theorem new_spec (E : Option (Arg K V)) (F : List (K × V)) :
    Sim Inv OMD.cells (OMD.new E F) (Spec.new (E.map absArg) F, .unit) := by
  unfold OMD.new Spec.new
  cases E with
  | none => exact .of _ (setAll_spec (inv_empty (K := K) (V := V)) F)
  | some E =>
    obtain ⟨s', e, i, a⟩ := (updateExtend_spec (inv_empty (K := K) (V := V)) E []).split
    simp only [Option.map_some, e]
    exact .of _ (a ▸ setAll_spec i F)

theorem sorted_cells (s : OMD K V) (le : K × V → K × V → Bool) (rev : Bool) :
    (s.sorted le rev).cells = sortBy (flipIf rev le) s.cells := (fromPairs_spec _).2

theorem copy_spec (s : OMD K V) : Inv s.copy ∧ s.copy.cells = s.cells := fromPairs_spec s.cells

end mutators

section history
variable {K V : Type} [DecidableEq K]

def absH (st : HState K V) : Spec.HState K V := ⟨st.s.cells, st.t.cells⟩

structure HInv (st : HState K V) : Prop where
  s : Inv st.s
  t : Inv st.t

theorem resolve_spec (st : HState K V) (E : HArg K V) : absArg (E.resolve st) = Spec.resolve (absH st) E := by
  cases E with
  | fresh l => exact congrArg Spec.Arg.omd (fromPairs_spec l).2
  | _ => rfl

theorem resolveNew_spec (st : HState K V) (E : Option (HArg K V)) :
    (E.map (HArg.resolveNew st)).map absArg = E.map (Spec.resolveNew (absH st)) := by
  cases E with
  | none => rfl
  | some E =>
    cases E with
    | fresh l => exact congrArg (some ∘ Spec.Arg.omd) (fromPairs_spec l).2
    | _ => rfl

theorem withS_spec (st : HState K V) (hi : HInv st) {r : OMD K V × Out K V} {q : List (K × V) × Out K V}
    (h : Sim Inv OMD.cells r q) : Sim HInv absH (st.withS r) (Spec.withS (absH st) q) :=
  ⟨⟨h.inv, hi.t⟩, congrArg (Spec.HState.mk · st.t.cells) h.abs, h.out⟩

theorem hstep_spec (st : HState K V) (op : HOp K V) (hi : HInv st) :
    Sim HInv absH (hstep st op) (Spec.hstep (absH st) op) := by
  cases op with
  | new E F => exact withS_spec st hi (resolveNew_spec st E ▸ new_spec _ F)
  | add k v => exact withS_spec st hi (.of .unit ⟨inv_add hi.s k v, rfl⟩)
  | addlist k vs =>
    refine withS_spec st hi (.of .unit ⟨inv_addlist hi.s k vs, ?_⟩)
    show (st.s.addlist k vs).cells = _
    unfold OMD.addlist
    split
    · rename_i he; rw [List.isEmpty_iff.mp he]; exact (List.append_nil _).symm
    · rfl
  | setitem k v => exact withS_spec st hi (.of .unit ⟨inv_setitem hi.s k v, setitem_cells hi.s k v⟩)
  | delitem k => exact withS_spec st hi (delitem_spec hi.s k)
  | update E F =>
    exact withS_spec st hi (.of .unit (resolve_spec st E ▸ update_spec hi.s (E.resolve st) F))
  | updateExtend E F =>
    exact withS_spec st hi (resolve_spec st E ▸ updateExtend_spec hi.s (E.resolve st) F)
  | setdefault k v => exact withS_spec st hi (setdefault_spec hi.s k v)
  | pop k d => exact withS_spec st hi (pop_spec hi.s k d)
  | popall k d => exact withS_spec st hi (popall_spec hi.s k d)
  | poplast k d => exact withS_spec st hi (poplast_spec hi.s k d)
  | popitem => exact withS_spec st hi (popitem_spec hi.s)
  | clear => exact withS_spec st hi (.of .unit ⟨inv_empty, rfl⟩)
  | addlistAbort k vs => exact ⟨hi, rfl, rfl⟩
  | updateAbort l => exact withS_spec st hi (.of .abort (updPairs_nil_spec hi.s l))
  | updateExtendAbort l => exact withS_spec st hi (.of .abort (addAll_spec hi.s l))
  | updateMapAbort l => exact withS_spec st hi (.of .abort (setAll_spec hi.s l))
  | rejected => exact ⟨hi, rfl, rfl⟩
  | copyToT => exact ⟨⟨hi.s, (copy_spec st.s).1⟩, congrArg (Spec.HState.mk st.s.cells) (copy_spec st.s).2, rfl⟩
  | copyToS => exact withS_spec st hi (.of .unit (copy_spec st.s))
  | swap => exact ⟨⟨hi.t, hi.s⟩, rfl, rfl⟩

theorem hinv_init : HInv (HState.init : HState K V) := ⟨inv_empty, inv_empty⟩

theorem isRun_hrun : IsRun (hstep (K := K) (V := V)) hrun := ⟨fun _ => rfl, fun _ _ _ => rfl⟩
theorem isRun_spec : IsRun (Spec.hstep (K := K) (V := V)) Spec.hrun := ⟨fun _ => rfl, fun _ _ _ => rfl⟩

theorem hrun_spec (st : HState K V) (hi : HInv st) (ops : List (HOp K V)) :
    (hrun st ops).map (fun r => (absH r.1, r.2)) = Spec.hrun (absH st) ops ∧
    ∀ r ∈ hrun st ops, HInv r.1 := isRun_hrun.sim isRun_spec hstep_spec st hi ops

theorem spec_err_unchanged (st : Spec.HState K V) (op : HOp K V) (e : Err)
    (h : (Spec.hstep st op).2 = .err e) : (Spec.hstep st op).1 = st := by
  -- a branch of a `Spec` operation that changes the list returns a value, and the others keep the list
  have keep : ∀ r : List (K × V) × Out K V, (r.2 = .err e → r.1 = st.s) →
      (Spec.withS st r).2 = .err e → (Spec.withS st r).1 = st :=
    fun r hr h => by cases st; exact congrArg (Spec.HState.mk · _) (hr h)
  cases op with
  | delitem k =>
    refine keep _ ?_ h; unfold Spec.delitem; split
    · intro hr; cases hr
    · exact fun _ => rfl
  | setdefault k v =>
    refine keep _ ?_ h; unfold Spec.setdefault; split
    · intro hr; cases hr
    · intro hr; cases hr
  | pop k d =>
    refine keep _ ?_ h; unfold Spec.pop; split
    · intro hr; cases hr
    · exact fun _ => rfl
  | popall k d =>
    refine keep _ ?_ h; unfold Spec.popall; split
    · intro hr; cases hr
    · exact fun _ => rfl
  | poplast k d =>
    refine keep _ ?_ h; unfold Spec.poplast; split <;> split
    · intro hr; cases hr
    · exact fun _ => rfl
    · intro hr; cases hr
    · exact fun _ => rfl
  | popitem =>
    refine keep _ ?_ h; unfold Spec.popitem; split
    · intro hr; cases hr
    · exact fun _ => rfl
  | _ => cases h

end history

section sorting
variable {α : Type}

theorem insBy_eq (le : α → α → Bool) : insBy le = InsSort.insBy le := by
  funext x l
  induction l with
  | nil => rfl
  | cons y ys ih => simp only [insBy, InsSort.insBy, ih]

theorem sortBy_eq (le : α → α → Bool) (l : List α) : sortBy le l = l.foldr (InsSort.insBy le) [] := by
  rw [sortBy, insBy_eq]

theorem insBy_perm (le : α → α → Bool) (x : α) (l : List α) : (insBy le x l).Perm (x :: l) :=
  insBy_eq le ▸ InsSort.insBy_perm le x l

theorem sortBy_perm (le : α → α → Bool) (l : List α) : (sortBy le l).Perm l :=
  sortBy_eq le l ▸ InsSort.foldr_insBy_perm le l

theorem insBy_sorted (le : α → α → Bool) (htot : ∀ a b, le a b = true ∨ le b a = true)
    (htr : ∀ a b c, le a b = true → le b c = true → le a c = true) (x : α) (l : List α)
    (h : l.Pairwise (fun a b => le a b = true)) : (insBy le x l).Pairwise (fun a b => le a b = true) :=
  insBy_eq le ▸ InsSort.insBy_sorted le htot htr x l h

theorem sortBy_sorted (le : α → α → Bool) (htot : ∀ a b, le a b = true ∨ le b a = true)
    (htr : ∀ a b c, le a b = true → le b c = true → le a c = true) (l : List α) :
    (sortBy le l).Pairwise (fun a b => le a b = true) :=
  sortBy_eq le l ▸ InsSort.foldr_insBy_sorted le htot htr l

theorem sortBy_of_sorted (le : α → α → Bool) (l : List α)
    (h : l.Pairwise (fun a b => le a b = true)) : sortBy le l = l := by
  induction l with
  | nil => rfl
  | cons x xs ih =>
    rw [List.pairwise_cons] at h
    simp only [sortBy, List.foldr_cons] at ih ⊢
    rw [ih h.2]
    cases xs with
    | nil => rfl
    | cons y ys => simp [insBy, h.1 y (by simp)]

theorem flipIf_total (rev : Bool) (le : α → α → Bool) (htot : ∀ a b, le a b = true ∨ le b a = true) :
    ∀ a b, flipIf rev le a b = true ∨ flipIf rev le b a = true := by
  intro a b; cases rev
  · exact htot a b
  · exact htot b a

theorem flipIf_trans (rev : Bool) (le : α → α → Bool)
    (htr : ∀ a b c, le a b = true → le b c = true → le a c = true) :
    ∀ a b c, flipIf rev le a b = true → flipIf rev le b c = true → flipIf rev le a c = true := by
  intro a b c; cases rev
  · exact htr a b c
  · exact fun h1 h2 => htr c b a h2 h1

/-- `a` and `b` have the same sort key -/
def eqv (le : α → α → Bool) (a b : α) : Bool := le a b && le b a

theorem eqv_flipIf (rev : Bool) (le : α → α → Bool) (a : α) : eqv (flipIf rev le) a = eqv le a := by
  funext b
  cases rev
  · rfl
  · simp [eqv, flipIf, Bool.and_comm]

theorem insBy_filter_eqv (le : α → α → Bool)
    (htr : ∀ a b c, le a b = true → le b c = true → le a c = true) (a x : α) (l : List α) :
    (insBy le x l).filter (eqv le a) = if eqv le a x = true then x :: l.filter (eqv le a) else l.filter (eqv le a) := by
  induction l with
  | nil => simp [insBy, List.filter_cons]
  | cons y ys ih =>
    simp only [insBy]
    split
    · simp only [List.filter_cons]
    · rename_i hxy
      rw [List.filter_cons, ih]
      by_cases hax : eqv le a x = true
      · have hay : ¬ eqv le a y = true := by
          intro hay
          simp only [eqv, Bool.and_eq_true] at hax hay
          exact hxy (htr _ _ _ hax.2 hay.1)
        simp [hax, hay]
      · simp [hax, List.filter_cons]

theorem sortBy_filter_eqv (le : α → α → Bool)
    (htr : ∀ a b c, le a b = true → le b c = true → le a c = true) (a : α) (l : List α) :
    (sortBy le l).filter (eqv le a) = l.filter (eqv le a) := by
  induction l with
  | nil => rfl
  | cons x xs ih =>
    simp only [sortBy, List.foldr_cons] at ih ⊢
    rw [insBy_filter_eqv le htr, ih, List.filter_cons]

theorem sorted_ext (le : α → α → Bool) (hrefl : ∀ a, le a a = true) :
    ∀ (A B : List α), A.Pairwise (fun a b => le a b = true) → B.Pairwise (fun a b => le a b = true) →
      (∀ a, A.filter (eqv le a) = B.filter (eqv le a)) → A = B := by
  intro A
  induction A with
  | nil =>
    intro B _ _ h
    cases B with
    | nil => rfl
    | cons y ys => have := h y; simp [eqv, hrefl] at this
  | cons x xs ih =>
    intro B hA hB h
    cases B with
    | nil => have := h x; simp [eqv, hrefl] at this
    | cons y ys =>
      rw [List.pairwise_cons] at hA hB
      have hxx : eqv le x x = true := by simp [eqv, hrefl]
      have hyy : eqv le y y = true := by simp [eqv, hrefl]
      -- each head occurs in the other list, so (both sorted) the heads are equivalent; each is the first of its class
      have hxB : x ∈ y :: ys := by
        have h1 := h x
        rw [List.filter_cons, if_pos hxx] at h1
        have : x ∈ (y :: ys).filter (eqv le x) := by rw [← h1]; simp
        exact (List.mem_filter.mp this).1
      have hyA : y ∈ x :: xs := by
        have h1 := h y
        rw [List.filter_cons (xs := ys), if_pos hyy] at h1
        have : y ∈ (x :: xs).filter (eqv le y) := by rw [h1]; simp
        exact (List.mem_filter.mp this).1
      have hxy : le x y = true := by
        rcases List.mem_cons.mp hyA with e | hm
        · rw [e]; exact hrefl _
        · exact hA.1 y hm
      have hyx : le y x = true := by
        rcases List.mem_cons.mp hxB with e | hm
        · rw [e]; exact hrefl _
        · exact hB.1 x hm
      have hexy : eqv le x y = true := by simp [eqv, hxy, hyx]
      have hhead : x = y := by
        have h1 := h x
        rw [List.filter_cons, if_pos hxx, List.filter_cons, if_pos hexy] at h1
        exact (List.cons.inj h1).1
      subst hhead
      congr 1
      apply ih ys hA.2 hB.2
      intro a
      have h1 := h a
      rw [List.filter_cons, List.filter_cons] at h1
      split at h1
      · exact (List.cons.inj h1).2
      · exact h1

end sorting

section sortedvalues
variable {K V : Type} [DecidableEq K]

theorem count_keys (k : K) (L : List (K × V)) : (L.map (·.1)).count k = (valsOf k L).length := by
  induction L with
  | nil => rfl
  | cons p r ih =>
    simp only [List.map_cons, List.count_cons, valsOf_cons, ih]
    by_cases e : p.1 = k <;> simp [e]

/-- values are `pop()`ped off the END of the key's sorted list: after `ks.count k` rounds `B` holds its last
    `ks.count k`, reversed; the precondition says no list is popped empty -/
theorem svLoop_spec (ks : List K) : ∀ (ret : OMD K V) (m : List (K × List V)), Inv ret →
    (∀ k, ks.count k ≤ ((dget k m).getD []).length) →
    ∃ ret' B, OMD.svLoop ret m ks = (ret', .unit) ∧ Inv ret' ∧ ret'.cells = ret.cells ++ B ∧
      B.map (·.1) = ks ∧ ∀ k, valsOf k B = (((dget k m).getD []).reverse).take (ks.count k) := by
  induction ks with
  | nil =>
    intro ret m hr _
    exact ⟨ret, [], rfl, hr, by simp, rfl, by simp⟩
  | cons k r ih =>
    intro ret m hr hm
    have hk := hm k
    simp only [List.count_cons_self] at hk
    cases hd : dget k m with
    | none => simp [hd] at hk
    | some l =>
      simp only [hd, Option.getD_some] at hk
      have hne : l ≠ [] := by intro e; subst e; simp at hk
      obtain ⟨v, hv⟩ := getLast?_of_ne hne
      obtain ⟨ys, hys⟩ := List.getLast?_eq_some_iff.mp hv
      have hdl : l.dropLast = ys := by rw [hys]; simp
      have hm' : ∀ k', r.count k' ≤ ((dget k' (dset k ys m)).getD []).length := by
        intro k'
        rw [dget_dset]
        split
        · rename_i e; subst e
          simp only [Option.getD_some]
          rw [hys] at hk; simp at hk; omega
        · rename_i e
          have := hm k'
          have hne' : ¬ (k == k') = true := by simp; exact fun e' => e e'.symm
          simp only [List.count_cons, hne', Bool.false_eq_true, ↓reduceIte, Nat.add_zero] at this
          exact this
      obtain ⟨ret', B', h1, h2, h3, h4, h5⟩ := ih (ret.add k v) (dset k ys m) (inv_add hr k v) hm'
      refine ⟨ret', (k, v) :: B', ?_, h2, ?_, ?_, ?_⟩
      · simp only [OMD.svLoop, hd, hv, hdl]; exact h1
      · rw [h3]; simp
      · simp [h4]
      · intro k'
        rw [valsOf_cons, h5 k', dget_dset]
        by_cases e : k = k'
        · subst e
          simp only [↓reduceIte, Option.getD_some, hd, List.count_cons_self]
          rw [hys]; simp [List.take_succ_cons]
        · have e' : ¬ k' = k := fun x => e x.symm
          simp [e, e']

theorem sortedvalues_spec {s : OMD K V} (h : Inv s) (le : V → V → Bool) (rev : Bool) :
    ∃ r, s.sortedvalues le rev = (r, .unit) ∧ Inv r ∧ r.cells.map (·.1) = s.cells.map (·.1) ∧
      ∀ k, valsOf k r.cells = (sortBy (flipIf (!rev) le) (valsOf k s.cells)).reverse := by
  unfold OMD.sortedvalues
  have hg : ∀ k, (dget k (s.vals.map fun kv => (kv.1, sortBy (flipIf (!rev) le) kv.2))).getD [] =
      sortBy (flipIf (!rev) le) (valsOf k s.cells) := by
    intro k
    rw [dget_mapSnd, h.agree]
    cases hv : valsOf k s.cells <;> simp [ne?, sortBy]
  obtain ⟨r, B, h1, h2, h3, h4, h5⟩ := svLoop_spec s.keysM (OMD.empty : OMD K V) _ inv_empty (by
    intro k
    rw [hg, (sortBy_perm _ _).length_eq, OMD.keysM, count_keys]
    exact Nat.le_refl _)
  refine ⟨r, h1, h2, ?_, ?_⟩
  · rw [h3]; simpa [OMD.empty, OMD.keysM] using h4
  · intro k
    rw [h3]
    simp only [OMD.empty, List.nil_append, h5 k, hg]
    apply List.take_of_length_le
    rw [List.length_reverse, (sortBy_perm _ _).length_eq, OMD.keysM, count_keys]
    exact Nat.le_refl _

end sortedvalues

section views
variable {K V : Type} [DecidableEq K]

theorem viewValuesIter_spec {s : OMD K V} (h : Inv s) : s.viewValuesIter = .ok (Spec.values s.cells) := by
  unfold OMD.viewValuesIter OMD.iter
  rw [keys_spec]
  have : Spec.values s.cells = (Spec.keys s.cells).filterMap (fun k => Spec.last k s.cells) := by
    simp only [Spec.values, Spec.items, List.map_filterMap]
    congr 1
    funext k
    cases Spec.last k s.cells <;> rfl
  rw [this]
  apply mapE_filterMap
  intro k hk
  obtain ⟨v, hl, hg⟩ := getitem_of_mem_keys h hk
  exact ⟨v, by simp [hg], by simp [hl]⟩

theorem viewItemsContains_spec [DecidableEq V] {s : OMD K V} (h : Inv s) (k : K) (v : V) :
    s.viewItemsContains k v = .ok (decide (Spec.last k s.cells = some v)) := by
  unfold OMD.viewItemsContains
  rw [getitem_spec h]
  unfold Spec.getitem
  cases Spec.last k s.cells with
  | none => simp
  | some x => simp

end views
end C01
