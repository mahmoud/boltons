import BoltonsVerif.C01.Proofs
import BoltonsVerif.C01.LL
/-
C01 — the cell-index level (`LL.lean`: cells with identities + the per-key cell index `_map`):
the invariant `LLInv` ("`_map[k]` is exactly the list of the cells of key `k`, in link order, and
there is no entry without cells") and what the helpers `_insert` / `_remove` / `_remove_all` do to
the walk of the list.
-/
namespace C01
open Spec

section ll
variable {K V : Type} [DecidableEq K]

def idsOf (k : K) (cells : List (Cell K V)) : List Nat := (cells.filter (keyIs k)).map (·.id)

/-- `LL.flat` on the bare cell list (`flat_eq`): the lemmas speak of lists that are not yet the `cells` of a record -/
def flatC (cells : List (Cell K V)) : List (K × V) := cells.map fun c => (c.key, c.val)

theorem flat_eq (l : LL K V) : l.flat = flatC l.cells := rfl

structure LLInv (l : LL K V) : Prop where
  ids_nodup : (l.cells.map (·.id)).Nodup
  ids_lt : ∀ c ∈ l.cells, c.id < l.fresh
  map_nodup : (dkeys l.map).Nodup
  map_agree : ∀ k, dget k l.map = ne? (idsOf k l.cells)

theorem LLInv.indexes {l : LL K V} (h : LLInv l) : Indexes l.map (idsOf · l.cells) := ⟨h.map_nodup, h.map_agree⟩

theorem Indexes.llinv {l : LL K V} (hn : (l.cells.map (·.id)).Nodup) (hlt : ∀ c ∈ l.cells, c.id < l.fresh)
    (hi : Indexes l.map (idsOf · l.cells)) : LLInv l := ⟨hn, hlt, hi.nodup, hi.agree⟩

/-- a helper that only unlinks cells has the two fields about identities from the invariant it started with -/
theorem Indexes.llinv_of_sublist {l l' : LL K V} (h : LLInv l) (hs : l'.cells.Sublist l.cells) (hf : l'.fresh = l.fresh)
    (hi : Indexes l'.map (idsOf · l'.cells)) : LLInv l' :=
  hi.llinv (h.ids_nodup.sublist (hs.map _)) fun c hc => hf ▸ h.ids_lt c (hs.subset hc)

@[simp] theorem idsOf_nil (k : K) : idsOf k ([] : List (Cell K V)) = [] := rfl

theorem idsOf_cons (k : K) (x : Cell K V) (xs : List (Cell K V)) :
    idsOf k (x :: xs) = if x.key = k then x.id :: idsOf k xs else idsOf k xs := by
  by_cases h : x.key = k <;> simp [idsOf, keyIs, h]

theorem idsOf_append (k : K) (a b : List (Cell K V)) : idsOf k (a ++ b) = idsOf k a ++ idsOf k b := by
  simp [idsOf]

theorem idsOf_subset (k : K) (cells : List (Cell K V)) : ∀ c ∈ idsOf k cells, c ∈ cells.map (·.id) := by
  intro c hc
  obtain ⟨x, hx, rfl⟩ := List.mem_map.mp hc
  exact List.mem_map_of_mem (List.mem_filter.mp hx).1

theorem valsOf_proj {β : Type} (f : Cell K V → β) (k : K) (cells : List (Cell K V)) :
    valsOf k (cells.map fun x => (x.key, f x)) = (cells.filter (keyIs k)).map f := by
  unfold valsOf
  rw [List.filter_map, List.map_map]
  rfl

theorem idsOf_eq_valsOf (k : K) (cells : List (Cell K V)) :
    idsOf k cells = valsOf k (cells.map fun x => (x.key, x.id)) := (valsOf_proj (·.id) k cells).symm

theorem idsOf_length (k : K) (cells : List (Cell K V)) : (idsOf k cells).length = (valsOf k (flatC cells)).length := by
  rw [flatC, valsOf_proj, idsOf, List.length_map, List.length_map]

theorem idsOf_eq_nil_iff_valsOf {β : Type} (f : Cell K V → β) (k : K) (cells : List (Cell K V)) :
    idsOf k cells = [] ↔ valsOf k (cells.map fun x => (x.key, f x)) = [] := by
  rw [valsOf_proj, idsOf, List.map_eq_nil_iff, List.map_eq_nil_iff]

theorem idsOf_ne_nil_iff_any (k : K) (l : LL K V) : idsOf k l.cells ≠ [] ↔ l.flat.any (isK k) = true := by
  rw [← Spec.has, has_iff, Ne, idsOf_eq_nil_iff_valsOf (·.val)]; rfl

theorem llinv_empty : LLInv (LL.empty : LL K V) :=
  ⟨by simp [LL.empty], by simp [LL.empty], by simp [LL.empty, dkeys], by simp [LL.empty, dget]⟩

theorem llinv_clear (l : LL K V) : LLInv l.clear :=
  ⟨by simp [LL.clear], by simp [LL.clear], by simp [LL.clear, dkeys], by simp [LL.clear, dget]⟩

theorem flat_insert (l : LL K V) (k : K) (v : V) : (l.insert k v).flat = l.flat ++ [(k, v)] := by
  simp [LL.insert, LL.flat]

theorem llinv_insert {l : LL K V} (h : LLInv l) (k : K) (v : V) : LLInv (l.insert k v) := by
  have hi : Indexes (l.insert k v).map (idsOf · (l.insert k v).cells) :=
    h.indexes.dset k (by simp) fun k' => by
      simp only [LL.insert, idsOf_append, idsOf_cons, idsOf_nil, h.map_agree, ne?_getD]
      by_cases e : k' = k
      · simp [e]
      · simp [e, Ne.symm e]
  refine hi.llinv ?_ ?_
  · simp only [LL.insert, List.map_append, List.map_cons, List.map_nil]
    refine nodup_concat h.ids_nodup fun ha => ?_
    obtain ⟨c, hc, e⟩ := List.mem_map.mp ha
    exact Nat.ne_of_lt (h.ids_lt c hc) e
  · intro c hc
    simp only [LL.insert, List.mem_append, List.mem_singleton] at hc ⊢
    rcases hc with hc | rfl
    · exact Nat.lt_succ_of_lt (h.ids_lt c hc)
    · exact Nat.lt_succ_self _

theorem insertAll_spec {l : LL K V} (h : LLInv l) (k : K) (vs : List V) :
    LLInv (vs.foldl (fun l v => l.insert k v) l) ∧
    (vs.foldl (fun l v => l.insert k v) l).flat = l.flat ++ vs.map (fun v => (k, v)) := by
  induction vs generalizing l with
  | nil => simp [h]
  | cons v r ih =>
    have := ih (llinv_insert h k v)
    simp only [List.foldl_cons]
    refine ⟨this.1, ?_⟩
    rw [this.2, flat_insert]; simp

theorem unlink_not_mem (c : Nat) (cells : List (Cell K V)) (h : c ∉ cells.map (·.id)) :
    LL.unlink c cells = cells := by
  unfold LL.unlink
  rw [List.filter_eq_self]
  intro x hx
  simp only [notId, Bool.not_eq_eq_eq_not, Bool.not_true, decide_eq_false_iff_not]
  intro e
  exact h (e ▸ List.mem_map_of_mem hx)

theorem unlink_sublist (c : Nat) (cells : List (Cell K V)) : (LL.unlink c cells).Sublist cells :=
  List.filter_sublist

/-- used at `f = (·.id)` for the index `_map` and at `f = (·.val)` for the walk -/
theorem unlink_last {β : Type} (f : Cell K V → β) (k : K) : ∀ (cells : List (Cell K V)), (cells.map (·.id)).Nodup →
    ∀ c, (idsOf k cells).getLast? = some c →
    (LL.unlink c cells).map (fun x => (x.key, f x)) = rmLast k (cells.map fun x => (x.key, f x)) := by
  intro cells
  induction cells with
  | nil => intro _ c hc; simp at hc
  | cons x xs ih =>
    intro hnd c hc
    simp only [List.map_cons, List.nodup_cons] at hnd
    by_cases hxs : idsOf k xs = []
    · -- `x` is the only (hence the last) cell of the key
      have hk : x.key = k := by
        by_cases e : x.key = k
        · exact e
        · simp [idsOf_cons, e, hxs] at hc
      have hcx : c = x.id := by simp [idsOf_cons, hk, hxs] at hc; exact hc.symm
      subst hcx
      have hun : LL.unlink x.id (x :: xs) = xs := by
        simp only [LL.unlink, List.filter_cons, notId, decide_true, Bool.not_true, Bool.false_eq_true, ↓reduceIte]
        exact unlink_not_mem x.id xs hnd.1
      have hany : ¬ (xs.map fun x => (x.key, f x)).any (isK k) = true := by
        rw [← Spec.has, has_iff]; simp [(idsOf_eq_nil_iff_valsOf f k xs).mp hxs]
      rw [hun, List.map_cons]
      simp [rmLast, hany, hk]
    · -- the last cell of the key is further down
      have hlast : (idsOf k (x :: xs)).getLast? = (idsOf k xs).getLast? := by
        rw [idsOf_cons]; split
        · exact List.getLast?_cons_of_ne_nil hxs
        · rfl
      rw [hlast] at hc
      have hmem : c ∈ xs.map (·.id) := idsOf_subset k xs c (List.mem_of_getLast? hc)
      have hne : ¬ x.id = c := fun e => hnd.1 (e ▸ hmem)
      have hun : LL.unlink c (x :: xs) = x :: LL.unlink c xs := by
        simp [LL.unlink, notId, hne]
      have hany : (xs.map fun x => (x.key, f x)).any (isK k) = true := by
        rw [← Spec.has, has_iff]; exact fun e => hxs ((idsOf_eq_nil_iff_valsOf f k xs).mpr e)
      rw [hun, List.map_cons, ih hnd.2 c hc, List.map_cons]
      simp [rmLast, hany]

theorem LLInv.map_eq_none {l : LL K V} (h : LLInv l) {k : K} (hk : ¬ l.flat.any (isK k) = true) :
    dget k l.map = none := by
  rw [h.map_agree, ne?_eq_none]; exact Classical.not_not.mp (mt (idsOf_ne_nil_iff_any k l).mp hk)

theorem LLInv.map_eq_some {l : LL K V} (h : LLInv l) {k : K} (hk : l.flat.any (isK k) = true) :
    dget k l.map = some (idsOf k l.cells) := by
  rw [h.map_agree]; exact ne?_of_ne ((idsOf_ne_nil_iff_any k l).mpr hk)

theorem remove_keyError {l : LL K V} (h : LLInv l) {k : K} (hk : ¬ l.flat.any (isK k) = true) :
    l.remove k = .error .keyError := by
  simp only [LL.remove, h.map_eq_none hk]

theorem remove_ok {l : LL K V} (h : LLInv l) {k : K} (hk : l.flat.any (isK k) = true) :
    ∃ l', l.remove k = .ok l' ∧ LLInv l' ∧ l'.flat = rmLast k l.flat := by
  obtain ⟨c, hc⟩ := getLast?_of_ne ((idsOf_ne_nil_iff_any k l).mpr hk)
  have u2 : ∀ k', idsOf k' (LL.unlink c l.cells) = if k' = k then (idsOf k l.cells).dropLast else idsOf k' l.cells :=
    fun k' => by
      rw [idsOf_eq_valsOf, unlink_last (·.id) k l.cells h.ids_nodup c hc, valsOf_rmLast, ← idsOf_eq_valsOf,
        ← idsOf_eq_valsOf]
  simp only [LL.remove, h.map_eq_some hk, hc]
  exact ⟨_, rfl, (h.indexes.dropLast k u2).llinv_of_sublist h (unlink_sublist c l.cells) rfl,
    unlink_last (·.val) k l.cells h.ids_nodup c hc⟩

theorem foldl_unlink (ids : List Nat) (cells : List (Cell K V)) :
    ids.foldl (fun cs c => LL.unlink c cs) cells = cells.filter (fun x => !decide (x.id ∈ ids)) := by
  induction ids generalizing cells with
  | nil => simp [filter_true]
  | cons c r ih =>
    simp only [List.foldl_cons]
    rw [ih]
    simp only [LL.unlink, List.filter_filter]
    apply List.filter_congr
    intro x _
    by_cases e : x.id = c <;> simp [notId, e]

theorem unlinkAll_eq (ids : List Nat) (cells : List (Cell K V)) :
    LL.unlinkAll ids cells = cells.filter (fun x => !decide (x.id ∈ ids)) := by
  unfold LL.unlinkAll
  rw [foldl_unlink]
  apply List.filter_congr
  intro x _
  simp

theorem mem_idsOf_iff (k : K) : ∀ (cells : List (Cell K V)), (cells.map (·.id)).Nodup →
    ∀ x ∈ cells, (x.id ∈ idsOf k cells ↔ x.key = k) := by
  intro cells
  induction cells with
  | nil => intro _ x hx; simp at hx
  | cons y ys ih =>
    intro hnd x hx
    simp only [List.map_cons, List.nodup_cons] at hnd
    have hsub : ∀ c ∈ idsOf k ys, c ∈ ys.map (·.id) := idsOf_subset k ys
    rcases List.mem_cons.mp hx with rfl | hx'
    · rw [idsOf_cons]
      by_cases e : x.key = k
      · simp [e]
      · simp only [e, ↓reduceIte, iff_false]
        exact fun hh => hnd.1 (hsub _ hh)
    · have hne : x.id ≠ y.id := fun e => hnd.1 (e ▸ List.mem_map_of_mem hx')
      rw [idsOf_cons]
      split
      · simp only [List.mem_cons, hne, false_or]; exact ih hnd.2 x hx'
      · exact ih hnd.2 x hx'

theorem unlinkAll_key (k : K) (cells : List (Cell K V)) (hnd : (cells.map (·.id)).Nodup) :
    LL.unlinkAll (idsOf k cells) cells = cells.filter (fun x => !keyIs k x) := by
  rw [unlinkAll_eq]
  apply List.filter_congr
  intro x hx
  have := mem_idsOf_iff k cells hnd x hx
  by_cases e : x.key = k
  · simp [keyIs, e, this.mpr e]
  · have : x.id ∉ idsOf k cells := fun hh => e (this.mp hh)
    simp [keyIs, e, this]

theorem flatC_filter_key (k : K) (cells : List (Cell K V)) :
    flatC (cells.filter (fun x => !keyIs k x)) = (flatC cells).filter (notK k) := by
  unfold flatC
  rw [List.filter_map]
  rfl

theorem idsOf_filter_key (k k' : K) (cells : List (Cell K V)) :
    idsOf k' (cells.filter (fun x => !keyIs k x)) = if k' = k then [] else idsOf k' cells := by
  rw [idsOf_eq_valsOf, idsOf_eq_valsOf, ← valsOf_remove, List.filter_map]
  rfl

theorem removeAll_keyError {l : LL K V} (h : LLInv l) {k : K} (hk : ¬ l.flat.any (isK k) = true) :
    l.removeAll k = .error .keyError := by
  simp only [LL.removeAll, h.map_eq_none hk]

theorem removeAll_ok {l : LL K V} (h : LLInv l) {k : K} (hk : l.flat.any (isK k) = true) :
    ∃ l', l.removeAll k = .ok l' ∧ LLInv l' ∧ l'.flat = l.flat.filter (notK k) := by
  have hu := unlinkAll_key k l.cells h.ids_nodup
  have hi : Indexes (ddel k l.map) (idsOf · (LL.unlinkAll (idsOf k l.cells) l.cells)) :=
    h.indexes.ddel k fun k' => by rw [hu, idsOf_filter_key]
  simp only [LL.removeAll, h.map_eq_some hk]
  have hs : (LL.unlinkAll (idsOf k l.cells) l.cells).Sublist l.cells := hu ▸ List.filter_sublist
  refine ⟨_, rfl, hi.llinv_of_sublist h hs rfl, ?_⟩
  show flatC (LL.unlinkAll (idsOf k l.cells) l.cells) = _
  rw [hu, flatC_filter_key]; rfl

theorem llinv_remove {l l' : LL K V} (h : LLInv l) {k : K} (e : l.remove k = .ok l') : LLInv l' := by
  by_cases hk : l.flat.any (isK k) = true
  · obtain ⟨_, e', i, _⟩ := remove_ok h hk
    exact Except.ok.inj (e.symm.trans e') ▸ i
  · rw [remove_keyError h hk] at e; cases e

theorem llinv_removeAll {l l' : LL K V} (h : LLInv l) {k : K} (e : l.removeAll k = .ok l') : LLInv l' := by
  by_cases hk : l.flat.any (isK k) = true
  · obtain ⟨_, e', i, _⟩ := removeAll_ok h hk
    exact Except.ok.inj (e.symm.trans e') ▸ i
  · rw [removeAll_keyError h hk] at e; cases e

theorem lastKey_eq (l : LL K V) : l.lastKey = l.flat.getLast?.map (·.1) := by
  simp [LL.lastKey, LL.flat, List.getLast?_map]
  cases l.cells.getLast? <;> rfl

end ll

end C01
