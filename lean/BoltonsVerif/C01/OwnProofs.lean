import BoltonsVerif.C01.Own
import BoltonsVerif.C01.Proofs
/-
C01 — proofs for the ownership layer (`Own.lean`): the separation invariant `Sep` is kept by every
operation, the dereferenced storage moves exactly as the `vals` component of the model's operations,
and nothing the caller does to the list objects it holds can be seen through the dictionary.
-/
namespace C01
variable {K V : Type} [DecidableEq K]

/-- `Own.vals` with the heap and the storage as separate arguments: the lemmas change one and keep the other -/
def deref (heap : List (Nat × List V)) (d : List (K × Nat)) : List (K × List V) :=
  d.map fun kv => (kv.1, (dget kv.2 heap).getD [])

def oidsOf (d : List (K × Nat)) : List Nat := d.map (·.2)

theorem Own.vals_eq (o : Own K V) : o.vals = deref o.heap o.d := rfl
theorem Own.ids_eq (o : Own K V) : o.ids = oidsOf o.d := rfl

theorem Own.dget_vals (o : Own K V) (k : K) : dget k o.vals = (dget k o.d).map o.look := dget_mapSnd o.look k o.d

theorem mem_oidsOf_of_dget {d : List (K × Nat)} {k : K} {i : Nat} (h : dget k d = some i) : i ∈ oidsOf d := by
  obtain ⟨p, hp, rfl⟩ := mem_of_dget h
  exact List.mem_map_of_mem hp

theorem deref_frame (heap : List (Nat × List V)) (d : List (K × Nat)) (i : Nat) (x : List V)
    (h : i ∉ oidsOf d) : deref (dset i x heap) d = deref heap d :=
  List.map_congr_left fun p hp => by
    rw [dget_dset, if_neg (fun e : p.2 = i => h (e ▸ List.mem_map_of_mem (f := (·.2)) hp))]

theorem deref_write (heap : List (Nat × List V)) (d : List (K × Nat)) (k : K) (i : Nat) (x : List V)
    (hn : (oidsOf d).Nodup) (hk : dget k d = some i) :
    deref (dset i x heap) d = dset k x (deref heap d) := by
  induction d with
  | nil => cases hk
  | cons p r ih =>
    rw [oidsOf, List.map_cons, List.nodup_cons] at hn
    rw [dget] at hk
    show (p.1, (dget p.2 (dset i x heap)).getD []) :: deref (dset i x heap) r =
      dset k x ((p.1, (dget p.2 heap).getD []) :: deref heap r)
    rw [dset]
    by_cases e : p.1 = k
    · rw [if_pos e] at hk
      cases hk
      rw [if_pos e, deref_frame heap r _ x hn.1, dget_dset, if_pos rfl]
      rfl
    · rw [if_neg e] at hk
      have hne : p.2 ≠ i := fun e' => hn.1 (e' ▸ mem_oidsOf_of_dget hk)
      rw [if_neg e, ih hn.2 hk, dget_dset, if_neg hne]

theorem deref_store (heap : List (Nat × List V)) (d : List (K × Nat)) (k : K) (j : Nat) (x : List V)
    (hj : j ∉ oidsOf d) : deref (dset j x heap) (dset k j d) = dset k x (deref heap d) := by
  rw [← deref_frame heap d j x hj]
  refine (dset_mapSnd (fun i => (dget i (dset j x heap)).getD []) k j d).symm.trans ?_
  rw [dget_dset, if_pos rfl]
  rfl

theorem deref_ddel (heap : List (Nat × List V)) (d : List (K × Nat)) (k : K) :
    deref heap (ddel k d) = ddel k (deref heap d) := (ddel_mapSnd (fun i => (dget i heap).getD []) k d).symm

theorem mem_oidsOf_dset (d : List (K × Nat)) (k : K) (j : Nat) :
    ∀ i ∈ oidsOf (dset k j d), i = j ∨ i ∈ oidsOf d := by
  intro i hi
  obtain ⟨p, hp, rfl⟩ := List.mem_map.mp hi
  exact (mem_dset hp).symm.imp_right (List.mem_map_of_mem ·)

theorem nodup_oidsOf_dset (d : List (K × Nat)) (k : K) (j : Nat) (hn : (oidsOf d).Nodup) (hj : j ∉ oidsOf d) :
    (oidsOf (dset k j d)).Nodup := by
  induction d with
  | nil => simp [dset, oidsOf]
  | cons p r ih =>
    rw [oidsOf, List.map_cons, List.nodup_cons] at hn
    have hj' : j ≠ p.2 ∧ j ∉ oidsOf r :=
      ⟨fun e => hj (e ▸ List.mem_cons_self), fun h => hj (List.mem_cons_of_mem _ h)⟩
    rw [dset]
    by_cases e : p.1 = k
    · rw [if_pos e]
      exact List.nodup_cons.mpr ⟨hj'.2, hn.2⟩
    · rw [if_neg e]
      refine List.nodup_cons.mpr ⟨fun hp => ?_, ih hn.2 hj'.2⟩
      rcases mem_oidsOf_dset r k j p.2 hp with h | h
      · exact hj'.1 h.symm
      · exact hn.1 h

theorem oidsOf_ddel_sublist (d : List (K × Nat)) (k : K) : (oidsOf (ddel k d)).Sublist (oidsOf d) :=
  List.filter_sublist.map _

theorem not_mem_oidsOf_ddel (d : List (K × Nat)) (k : K) (i : Nat) (hn : (oidsOf d).Nodup) (hk : dget k d = some i) :
    i ∉ oidsOf (ddel k d) := by
  induction d with
  | nil => cases hk
  | cons p r ih =>
    rw [oidsOf, List.map_cons, List.nodup_cons] at hn
    rw [dget] at hk
    rw [ddel_cons]
    by_cases e : p.1 = k
    · rw [if_pos e] at hk ⊢
      cases hk
      exact fun hi => hn.1 ((oidsOf_ddel_sublist r k).subset hi)
    · rw [if_neg e] at hk ⊢
      intro hi
      rcases List.mem_cons.mp hi with h | h
      · subst h; exact hn.1 (mem_oidsOf_of_dget hk)
      · exact ih hn.2 hk h

/-- separation: no list object is stored under two keys, none of the stored ones is held by the
    caller, every id in use is below `next` -/
structure Sep (o : Own K V) : Prop where
  nodup : o.ids.Nodup
  apart : ∀ i ∈ o.ids, i ∉ o.caller
  bound : ∀ i ∈ o.ids, i < o.next
  cbound : ∀ i ∈ o.caller, i < o.next

theorem sep_empty : Sep (Own.empty : Own K V) := ⟨by simp [Own.empty, Own.ids], by simp [Own.empty, Own.ids],
  by simp [Own.empty, Own.ids], by simp [Own.empty]⟩

theorem Sep.next_fresh {o : Own K V} (h : Sep o) : o.next ∉ oidsOf o.d := fun hi => by
  have := h.bound _ hi; omega

/-- `Sep` does not look at the heap and is monotone: the dict may drop references, `next` may grow, the caller may
    receive objects the dict does not (or no longer) refer to -/
theorem Sep.mono {o o' : Own K V} (h : Sep o) (hs : o'.ids.Sublist o.ids) (hn : o.next ≤ o'.next)
    (hc : ∀ i ∈ o'.caller, i ∈ o.caller ∨ (i ∉ o'.ids ∧ i < o'.next)) : Sep o' where
  nodup := h.nodup.sublist hs
  apart i hi hic := (hc i hic).elim (h.apart i (hs.subset hi)) (fun e => e.1 hi)
  bound i hi := Nat.lt_of_lt_of_le (h.bound i (hs.subset hi)) hn
  cbound i hi := (hc i hi).elim (fun e => Nat.lt_of_lt_of_le (h.cbound i e) hn) (fun e => e.2)

theorem Sep.keep {o o' : Own K V} (h : Sep o) (hs : o'.ids.Sublist o.ids) (hn : o.next ≤ o'.next)
    (hc : o'.caller = o.caller) : Sep o' := h.mono hs hn fun _ hi => Or.inl (hc ▸ hi)

theorem sep_store {o : Own K V} (h : Sep o) (k : K) (x : List V) :
    Sep (⟨dset k o.next o.d, dset o.next x o.heap, o.next + 1, o.caller⟩ : Own K V) ∧
    (⟨dset k o.next o.d, dset o.next x o.heap, o.next + 1, o.caller⟩ : Own K V).vals = dset k x o.vals := by
  have hf := h.next_fresh
  refine ⟨⟨nodup_oidsOf_dset o.d k o.next h.nodup hf, ?_, ?_, ?_⟩, deref_store o.heap o.d k o.next x hf⟩
  · intro i hi
    rcases mem_oidsOf_dset o.d k o.next i hi with e | e
    · subst e; intro hc; have := h.cbound _ hc; omega
    · exact h.apart i e
  · intro i hi
    rcases mem_oidsOf_dset o.d k o.next i hi with e | e
    · subst e; show o.next < o.next + 1; omega
    · have := h.bound i e; show i < o.next + 1; omega
  · intro i hi; have := h.cbound i hi; show i < o.next + 1; omega

theorem Own.extend_spec {o : Own K V} (h : Sep o) (k : K) (vs : List V) :
    Sep (o.extend k vs) ∧ (o.extend k vs).vals = dset k ((dget k o.vals).getD [] ++ vs) o.vals := by
  unfold Own.extend
  cases hk : dget k o.d with
  | some i =>
    refine ⟨h.keep (List.Sublist.refl _) (Nat.le_refl _) rfl, ?_⟩
    rw [Own.dget_vals, hk]
    exact deref_write o.heap o.d k i _ h.nodup hk
  | none =>
    refine ⟨(sep_store h k vs).1, (sep_store h k vs).2.trans ?_⟩
    rw [Own.dget_vals, hk]
    rfl

theorem Own.extend_caller (o : Own K V) (k : K) (vs : List V) : (o.extend k vs).caller = o.caller := by
  unfold Own.extend; split <;> rfl

/-- an object allocated by the method for itself (`v = list(v)`): not stored, not the caller's -/
theorem sep_scratch {o : Own K V} (h : Sep o) (x : List V) :
    Sep (⟨o.d, dset o.next x o.heap, o.next + 1, o.caller⟩ : Own K V) ∧
    (⟨o.d, dset o.next x o.heap, o.next + 1, o.caller⟩ : Own K V).vals = o.vals :=
  ⟨h.keep (List.Sublist.refl _) (Nat.le_succ _) rfl, deref_frame _ _ _ _ h.next_fresh⟩

theorem Own.addlistVals_spec {o : Own K V} (h : Sep o) (k : K) (vs : List V) :
    Sep (o.addlistVals k vs) ∧
    (o.addlistVals k vs).vals = (if vs.isEmpty then o.vals else dset k ((dget k o.vals).getD [] ++ vs) o.vals) := by
  unfold Own.addlistVals
  split
  · exact ⟨h, rfl⟩
  · obtain ⟨s1, v1⟩ := sep_scratch h vs
    have l1 : (⟨o.d, dset o.next vs o.heap, o.next + 1, o.caller⟩ : Own K V).look o.next = vs := by
      simp [Own.look, dget_dset]
    obtain ⟨s2, v2⟩ := Own.extend_spec s1 k
      ((⟨o.d, dset o.next vs o.heap, o.next + 1, o.caller⟩ : Own K V).look o.next)
    exact ⟨s2, by rw [v2, v1, l1]⟩

theorem Own.addlistVals_caller (o : Own K V) (k : K) (vs : List V) : (o.addlistVals k vs).caller = o.caller := by
  unfold Own.addlistVals; split
  · rfl
  · exact Own.extend_caller _ k _

theorem Own.addlistFrom_spec {o : Own K V} (h : Sep o) (k : K) (a : Nat) :
    Sep (o.addlistFrom k a) ∧
    (o.addlistFrom k a).vals =
      (if (o.look a).isEmpty then o.vals else dset k ((dget k o.vals).getD [] ++ o.look a) o.vals) :=
  Own.addlistVals_spec h k (o.look a)

theorem Own.addlistFrom_caller (o : Own K V) (k : K) (a : Nat) : (o.addlistFrom k a).caller = o.caller :=
  Own.addlistVals_caller o k (o.look a)

theorem Own.setitem_spec {o : Own K V} (h : Sep o) (k : K) (v : V) :
    Sep (o.setitem k v) ∧ (o.setitem k v).vals = dset k [v] o.vals := sep_store h k [v]

theorem Own.delKey_spec {o : Own K V} (h : Sep o) (k : K) :
    Sep (o.delKey k) ∧ (o.delKey k).vals = ddel k o.vals :=
  ⟨h.keep (oidsOf_ddel_sublist o.d k) (Nat.le_refl _) rfl, deref_ddel _ _ _⟩

theorem Own.popall_spec {o : Own K V} (h : Sep o) (k : K) :
    Sep (o.popall k).1 ∧ (o.popall k).1.vals = ddel k o.vals := by
  unfold Own.popall
  cases hk : dget k o.d with
  | none =>
    have hv : dget k o.vals = none := by rw [Own.dget_vals, hk]; rfl
    exact ⟨h, (ddel_absent k o.vals hv).symm⟩
  | some i =>
    have hp := not_mem_oidsOf_ddel o.d k i h.nodup hk
    exact ⟨h.mono (oidsOf_ddel_sublist o.d k) (Nat.le_refl _) fun j hj => (List.mem_cons.mp hj).elim
        (fun e => Or.inr (by subst e; exact ⟨hp, h.bound _ (mem_oidsOf_of_dget hk)⟩)) Or.inl, deref_ddel _ _ _⟩

/-- the object `popall(k)` hands to the caller holds the key's values and is no longer referred to by the dict -/
theorem Own.popall_handout {o : Own K V} (h : Sep o) (k : K) {i : Nat} (hi : (o.popall k).2 = some i) :
    o.look i = (dget k o.vals).getD [] ∧ i ∉ (o.popall k).1.ids := by
  unfold Own.popall at hi ⊢
  cases hk : dget k o.d with
  | none => rw [hk] at hi; cases hi
  | some j =>
    rw [hk] at hi
    cases hi
    refine ⟨?_, not_mem_oidsOf_ddel o.d k _ h.nodup hk⟩
    rw [Own.dget_vals, hk]; rfl

theorem Own.poplast_spec {o : Own K V} (h : Sep o) (k : K) :
    Sep (o.poplast k) ∧
    (o.poplast k).vals = (match dget k o.vals with
      | none => o.vals
      | some vs => if vs.dropLast.isEmpty then ddel k o.vals else dset k vs.dropLast o.vals) := by
  unfold Own.poplast
  cases hk : dget k o.d with
  | none =>
    refine ⟨h, ?_⟩
    rw [Own.dget_vals, hk]; rfl
  | some i =>
    have hv : dget k o.vals = some (o.look i) := by rw [Own.dget_vals, hk]; rfl
    simp only [hv]
    split
    · refine ⟨h.keep (oidsOf_ddel_sublist o.d k) (Nat.le_refl _) rfl, ?_⟩
      simp only [Own.vals_eq]
      rw [deref_frame _ _ _ _ (not_mem_oidsOf_ddel o.d k i h.nodup hk)]
      exact deref_ddel _ _ _
    · refine ⟨h.keep (List.Sublist.refl _) (Nat.le_refl _) rfl, ?_⟩
      simp only [Own.vals_eq]
      exact deref_write o.heap o.d k i _ h.nodup hk

theorem Own.clear_spec {o : Own K V} (h : Sep o) : Sep o.clear ∧ o.clear.vals = [] :=
  ⟨h.keep (List.nil_sublist _) (Nat.le_refl _) rfl, rfl⟩

/-- a new list object for the caller (`getlist`, or a list the caller makes itself) -/
theorem sep_handout {o : Own K V} (h : Sep o) (x : List V) :
    Sep (⟨o.d, dset o.next x o.heap, o.next + 1, o.next :: o.caller⟩ : Own K V) ∧
    (⟨o.d, dset o.next x o.heap, o.next + 1, o.next :: o.caller⟩ : Own K V).vals = o.vals :=
  ⟨h.mono (List.Sublist.refl _) (Nat.le_succ _) fun i hi => (List.mem_cons.mp hi).elim
      (fun e => Or.inr (by subst e; exact ⟨h.next_fresh, Nat.lt_succ_self _⟩)) Or.inl,
    deref_frame _ _ _ _ h.next_fresh⟩

theorem Own.getlist_spec {o : Own K V} (h : Sep o) (k : K) :
    Sep (o.getlist k).1 ∧ (o.getlist k).1.vals = o.vals := sep_handout h _

/-- the object `getlist(k)` hands to the caller holds the key's values and is not one the dict refers to -/
theorem Own.getlist_handout {o : Own K V} (h : Sep o) (k : K) :
    (o.getlist k).1.look (o.getlist k).2 = (dget k o.vals).getD [] ∧ (o.getlist k).2 ∉ (o.getlist k).1.ids := by
  refine ⟨?_, h.next_fresh⟩
  simp only [Own.getlist, Own.look, dget_dset, ↓reduceIte, Option.getD_some]
  rw [Own.dget_vals]

theorem Own.todictM_spec {o : Own K V} (h : Sep o) (ks : List K) :
    Sep (o.todictM ks) ∧ (o.todictM ks).vals = o.vals := by
  induction ks generalizing o with
  | nil => exact ⟨h, rfl⟩
  | cons k r ih =>
    obtain ⟨s, v⟩ := Own.getlist_spec h k
    obtain ⟨s2, v2⟩ := ih s
    exact ⟨s2, by rw [Own.todictM, v2, v]⟩

theorem Own.callerWrite_spec {o : Own K V} (h : Sep o) (i : Nat) (vs : List V) :
    Sep (o.callerWrite i vs) ∧ (o.callerWrite i vs).vals = o.vals := by
  unfold Own.callerWrite
  split
  · rename_i hc
    exact ⟨h.keep (List.Sublist.refl _) (Nat.le_refl _) rfl, deref_frame _ _ _ _ (fun hi => h.apart i hi hc)⟩
  · exact ⟨h, rfl⟩

theorem ownStep_spec {o : Own K V} (h : Sep o) (op : OwnOp K V) :
    Sep (ownStep o op) ∧ (ownStep o op).vals = valsStep o o.vals op := by
  cases op with
  | add k v => exact Own.extend_spec h k [v]
  | addlistFrom k a =>
    simp only [ownStep, valsStep]
    split
    · exact Own.addlistFrom_spec h k a
    · exact ⟨h, rfl⟩
  | addlistVals k vs => exact Own.addlistVals_spec h k vs
  | setitem k v => exact Own.setitem_spec h k v
  | delKey k => exact Own.delKey_spec h k
  | popall k => exact Own.popall_spec h k
  | poplast k => exact Own.poplast_spec h k
  | getlist k => exact Own.getlist_spec h k
  | todictM ks => exact Own.todictM_spec h ks
  | clear => exact Own.clear_spec h
  | callerNew vs => exact sep_handout h vs
  | callerWrite i vs => exact Own.callerWrite_spec h i vs

theorem ownRun_sep (o : Own K V) (h : Sep o) (ops : List (OwnOp K V)) : Sep (ownRun o ops) := by
  induction ops generalizing o with
  | nil => exact h
  | cons op r ih => exact ih _ (ownStep_spec h op).1

end C01
