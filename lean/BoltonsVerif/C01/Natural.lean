import BoltonsVerif.C01.Relabel
/-
C01 — relabelling the values of a history by a function `f`: the maps in which `values_are_opaque` (Props.lean) is
stated, and that they are `relab id f` of `Relabel.lean`, where the theorem is proved.
-/
namespace C01
open Spec
variable {K V W : Type} [DecidableEq K]

def mapP (f : V → W) (L : List (K × V)) : List (K × W) := L.map fun p => (p.1, f p.2)

def Out.mapV (f : V → W) : Out K V → Out K W
  | .unit => .unit
  | .dflt => .dflt
  | .val v => .val (f v)
  | .vals l => .vals (l.map f)
  | .pair k v => .pair k (f v)
  | .err e => .err e
  | .abort => .abort

def HArg.mapV (f : V → W) : HArg K V → HArg K W
  | .self => .self
  | .regT => .regT
  | .fresh l => .fresh (mapP f l)
  | .mapping m => .mapping (mapP f m)
  | .pairs l => .pairs (mapP f l)

def HOp.mapV (f : V → W) : HOp K V → HOp K W
  | .new E F => .new (E.map (HArg.mapV f)) (mapP f F)
  | .add k v => .add k (f v)
  | .addlist k vs => .addlist k (vs.map f)
  | .setitem k v => .setitem k (f v)
  | .delitem k => .delitem k
  | .update E F => .update (E.mapV f) (mapP f F)
  | .updateExtend E F => .updateExtend (E.mapV f) (mapP f F)
  | .setdefault k v => .setdefault k (f v)
  | .pop k d => .pop k d
  | .popall k d => .popall k d
  | .poplast k d => .poplast k d
  | .popitem => .popitem
  | .clear => .clear
  | .addlistAbort k vs => .addlistAbort k (vs.map f)
  | .updateAbort l => .updateAbort (mapP f l)
  | .updateExtendAbort l => .updateExtendAbort (mapP f l)
  | .updateMapAbort l => .updateMapAbort (mapP f l)
  | .rejected => .rejected
  | .copyToT => .copyToT
  | .copyToS => .copyToS
  | .swap => .swap

def mapSt (f : V → W) (st : Spec.HState K V) : Spec.HState K W := ⟨mapP f st.s, mapP f st.t⟩

section lemmas
variable (f : V → W)

@[simp] theorem mapP_nil : mapP f ([] : List (K × V)) = [] := rfl

end lemmas

theorem HArg.mapV_eq (f : V → W) : (HArg.mapV f : HArg K V → HArg K W) = HArg.relab id f :=
  funext fun E => by cases E <;> rfl

theorem HOp.mapV_eq (f : V → W) : (HOp.mapV f : HOp K V → HOp K W) = HOp.relab id f :=
  funext fun op => by cases op <;> simp [HOp.mapV, HOp.relab, HArg.mapV_eq, mapP, C01.relab]

theorem Out.mapV_eq (f : V → W) (o : Out K V) : o.mapV f = o.relab id f := by cases o <;> rfl

end C01
