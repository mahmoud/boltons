import BoltonsVerif.C01.OwnProofs
/-
C01 — the compound mutators on the ownership layer: `update` / `|=` / `update_extend` / the constructor /
`setdefault` / `pop` / `popitem` touch the dict storage only through the statements modelled as `OwnOp`
primitives (`add` → setdefault + append, `[]=` → a new one-element list, `del` → the key leaves, `popall` → the
stored object goes to the caller).  `compile*` lists those primitive steps for each compound mutator of
`Model.lean`; the theorems say that running them changes the dereferenced storage exactly as the model's `vals`.
Together with `ownRun_sep`: no public mutator can make the dictionary share a list object with its caller.
-/
namespace C01
variable {K V : Type} [DecidableEq K]

/-- the primitives whose storage effect does not depend on the heap -/
def OwnOp.pure : OwnOp K V → Bool
  | .addlistFrom _ _ => false
  | _ => true

theorem valsStep_pure (o o' : Own K V) (vals : List (K × List V)) (op : OwnOp K V) (h : op.pure = true) :
    valsStep o vals op = valsStep o' vals op := by
  cases op <;> first | rfl | cases h

/-- `o'` stays while the state moves along the run: `valsStep` does not look at it for these primitives (`valsStep_pure`) -/
theorem ownRun_pure (o' : Own K V) (ops : List (OwnOp K V)) : ∀ (o : Own K V), Sep o → ops.all OwnOp.pure = true →
    Sep (ownRun o ops) ∧ (ownRun o ops).vals = ops.foldl (valsStep o') o.vals := by
  induction ops with
  | nil => intro o h _; exact ⟨h, rfl⟩
  | cons op r ih =>
    intro o h hp
    rw [List.all_cons, Bool.and_eq_true] at hp
    obtain ⟨s1, v1⟩ := ownStep_spec h op
    have := ih (ownStep o op) s1 hp.2
    rw [v1, valsStep_pure o o' o.vals op hp.1] at this
    exact this

def compileAddAll (l : List (K × V)) : List (OwnOp K V) := l.map fun p => .add p.1 p.2
def compileSetAll (l : List (K × V)) : List (OwnOp K V) := l.map fun p => .setitem p.1 p.2
def compileDelKeys (ks : List K) : List (OwnOp K V) := ks.map fun k => .delKey k

/-- the `seen` loop of `update`: `del self[k]` at the first occurrence of a key, then `add` -/
def compileUpdPairs (seen : List K) : List (K × V) → List (OwnOp K V)
  | [] => []
  | p :: r => if p.1 ∈ seen then .add p.1 p.2 :: compileUpdPairs seen r
              else .delKey p.1 :: .add p.1 p.2 :: compileUpdPairs (p.1 :: seen) r

theorem all_pure_map {α : Type} (f : α → OwnOp K V) (hf : ∀ a, (f a).pure = true) (l : List α) :
    (l.map f).all OwnOp.pure = true := by
  rw [List.all_map, List.all_eq_true]
  exact fun a _ => hf a

theorem delIfHas_vals (s : OMD K V) (k : K) : (s.delIfHas k).vals = ddel k s.vals := by
  unfold OMD.delIfHas
  split
  · rfl
  · rename_i h
    refine (ddel_absent k s.vals ?_).symm
    cases hk : dget k s.vals with
    | none => rfl
    | some x => simp [dhas, hk] at h

section vals
variable (o : Own K V)

/-- a loop of the model whose body is one primitive per element -/
theorem foldl_vals {α : Type} (f : OMD K V → α → OMD K V) (c : α → OwnOp K V)
    (h : ∀ s a, (f s a).vals = valsStep o s.vals (c a)) (l : List α) : ∀ (s : OMD K V),
    (l.foldl f s).vals = (l.map c).foldl (valsStep o) s.vals := by
  induction l with
  | nil => intro s; rfl
  | cons a r ih => intro s; rw [List.foldl_cons, ih, h]; rfl

theorem addAll_vals (l : List (K × V)) (s : OMD K V) :
    (s.addAll l).vals = (compileAddAll l).foldl (valsStep o) s.vals :=
  foldl_vals o (fun a (p : K × V) => a.add p.1 p.2) (fun p => .add p.1 p.2) (fun _ _ => rfl) l s

theorem setAll_vals (l : List (K × V)) (s : OMD K V) :
    (s.setAll l).vals = (compileSetAll l).foldl (valsStep o) s.vals :=
  foldl_vals o (fun a (p : K × V) => a.setitem p.1 p.2) (fun p => .setitem p.1 p.2) (fun _ _ => rfl) l s

theorem delKeys_vals (ks : List K) (s : OMD K V) :
    (ks.foldl OMD.delIfHas s).vals = (compileDelKeys ks).foldl (valsStep o) s.vals :=
  foldl_vals o OMD.delIfHas (fun k => .delKey k) delIfHas_vals ks s

theorem updPairs_vals (l : List (K × V)) : ∀ (s : OMD K V) (seen : List K),
    (s.updPairs seen l).vals = (compileUpdPairs seen l).foldl (valsStep o) s.vals := by
  induction l with
  | nil => intro s seen; rfl
  | cons p r ih =>
    intro s seen
    simp only [OMD.updPairs, compileUpdPairs]
    split
    · exact ih (s.add p.1 p.2) seen
    · simp only [List.foldl_cons]
      rw [ih ((s.delIfHas p.1).add p.1 p.2) (p.1 :: seen)]
      congr 1
      show dset p.1 ((dget p.1 (s.delIfHas p.1).vals).getD [] ++ [p.2]) (s.delIfHas p.1).vals = _
      rw [delIfHas_vals]
      rfl

end vals

theorem compileUpdPairs_pure (l : List (K × V)) : ∀ seen, (compileUpdPairs (V := V) seen l).all OwnOp.pure = true := by
  induction l with
  | nil => intro seen; rfl
  | cons p r ih =>
    intro seen
    simp only [compileUpdPairs]
    split
    · exact ih seen
    · exact ih _

def compileUpdate (s : OMD K V) (E : Arg K V) (F : List (K × V)) : List (OwnOp K V) :=
  (match E with
    | .self => []
    | .omd t => compileDelKeys t.keys ++ compileAddAll t.cells
    | .mapping m => compileSetAll m
    | .pairs l => compileUpdPairs [] l) ++ compileSetAll F

theorem update_vals (o : Own K V) (s : OMD K V) (E : Arg K V) (F : List (K × V)) :
    (s.update E F).vals = (compileUpdate s E F).foldl (valsStep o) s.vals := by
  unfold OMD.update compileUpdate
  cases E <;> simp only [List.nil_append, List.foldl_append, setAll_vals o, addAll_vals o, delKeys_vals o, updPairs_vals o]

theorem compileUpdate_pure (s : OMD K V) (E : Arg K V) (F : List (K × V)) :
    (compileUpdate s E F).all OwnOp.pure = true := by
  have hA := all_pure_map (K := K) (V := V) (fun p : K × V => .add p.1 p.2) (fun _ => rfl)
  have hS := all_pure_map (K := K) (V := V) (fun p : K × V => .setitem p.1 p.2) (fun _ => rfl)
  have hD := all_pure_map (K := K) (V := V) (fun k : K => .delKey k) (fun _ => rfl)
  cases E <;>
    simp only [compileUpdate, compileAddAll, compileSetAll, compileDelKeys, List.all_append, List.nil_append, hA, hS, hD,
      compileUpdPairs_pure, Bool.and_self]

def compileUpdateExtend (s : OMD K V) (E : Arg K V) (F : List (K × V)) : List (OwnOp K V) :=
  match E with
  | .self => (match s.items with | .ok l => compileAddAll l ++ compileAddAll F | .error _ => [])
  | .omd t => compileAddAll t.cells ++ compileAddAll F
  | .mapping m => compileAddAll m ++ compileAddAll F
  | .pairs l => compileAddAll l ++ compileAddAll F

theorem updateExtend_vals (o : Own K V) (s : OMD K V) (E : Arg K V) (F : List (K × V)) :
    (s.updateExtend E F).1.vals = (compileUpdateExtend s E F).foldl (valsStep o) s.vals := by
  unfold OMD.updateExtend compileUpdateExtend
  cases E with
  | self => cases s.items <;> simp only [List.foldl_append, addAll_vals o, List.foldl_nil]
  | _ => simp only [List.foldl_append, addAll_vals o]

theorem compileUpdateExtend_pure (s : OMD K V) (E : Arg K V) (F : List (K × V)) :
    (compileUpdateExtend s E F).all OwnOp.pure = true := by
  have hA := all_pure_map (K := K) (V := V) (fun p : K × V => .add p.1 p.2) (fun _ => rfl)
  unfold compileUpdateExtend
  cases E with
  | self => cases s.items <;> simp only [compileAddAll, List.all_append, hA, Bool.and_self, List.all_nil]
  | _ => simp only [compileAddAll, List.all_append, hA, Bool.and_self]

/-- `setdefault(k, v)`: `self[k] = v` only when the key is absent -/
def compileSetdefault (s : OMD K V) (k : K) (v : V) : List (OwnOp K V) :=
  if dhas k s.vals then [] else [.setitem k v]

theorem setdefault_vals (o : Own K V) (s : OMD K V) (k : K) (v : V) :
    (s.setdefault k v).1.vals = (compileSetdefault s k v).foldl (valsStep o) s.vals := by
  unfold OMD.setdefault compileSetdefault
  split <;> rfl

/-- `pop(k)` / `popitem()`: `popall` of the key -/
theorem pop_vals (o : Own K V) (s : OMD K V) (k : K) (d : Bool) :
    (s.pop k d).1.vals = ([OwnOp.popall k] : List (OwnOp K V)).foldl (valsStep o) s.vals := by
  unfold OMD.pop
  cases hk : dget k s.vals with
  | none => exact (ddel_absent k s.vals hk).symm
  | some vs => rfl

end C01
