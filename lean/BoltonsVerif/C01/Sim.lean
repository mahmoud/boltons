/-
C01 — simulation between two layers of the model, independent of what the layers are.  Every layer has a step
function `state → operation → state × return value` and a history function that lists the result of every step; a lower
layer refines the one above it when each step from a state with the layer's invariant keeps the invariant, commutes
with the abstraction function and returns the same value (`Sim`).  Refinements compose (`Sim.comp`) and carry over from
steps to histories (`IsRun.sim`).  An operation of the model that returns only a state has no value to put in a `Sim`: its
lemma says `I s' ∧ a s' = t`, and `Sim.of` / `Sim.split` pass between the two forms.
-/
namespace C01

variable {σ τ υ ι ι' ω ω' : Type}

structure Sim (I : σ → Prop) (a : σ → τ) (r : σ × ω) (q : τ × ω) : Prop where
  inv : I r.1
  abs : a r.1 = q.1
  out : r.2 = q.2

/-- for an operation that is given by its new state alone, beside any return value `o` -/
theorem Sim.of {I : σ → Prop} {a : σ → τ} {s : σ} {t : τ} (o : ω) (h : I s ∧ a s = t) : Sim I a (s, o) (t, o) :=
  ⟨h.1, h.2, rfl⟩

theorem Sim.split {I : σ → Prop} {a : σ → τ} {r : σ × ω} {t : τ} {o : ω} (h : Sim I a r (t, o)) :
    ∃ s, r = (s, o) ∧ I s ∧ a s = t := ⟨r.1, Prod.ext rfl h.out, h.inv, h.abs⟩

/-- to go on with what a simulated call returned (`match s.pop k d with | (s', .val v) => ..`): both sides returned the
    same value, in states related by `a` -/
theorem Sim.elim {I : σ → Prop} {a : σ → τ} {r : σ × ω} {q : τ × ω} (h : Sim I a r q) :
    ∃ s o, r = (s, o) ∧ q = (a s, o) ∧ I s :=
  ⟨r.1, r.2, rfl, Prod.ext h.abs.symm h.out.symm, h.inv⟩

theorem Sim.comp {I : σ → Prop} {J : τ → Prop} {a : σ → τ} {b : τ → υ} {r : σ × ω} {q : τ × ω} {p : υ × ω}
    (h : Sim I a r q) (h' : Sim J b q p) : Sim (fun s => I s ∧ J (a s)) (b ∘ a) r p :=
  ⟨⟨h.inv, h.abs ▸ h'.inv⟩, (congrArg b h.abs).trans h'.abs, h.out.trans h'.out⟩

structure IsRun (step : σ → ι → σ × ω) (run : σ → List ι → List (σ × ω)) : Prop where
  nil : ∀ s, run s [] = []
  cons : ∀ s op ops, run s (op :: ops) = step s op :: run (step s op).1 ops

theorem IsRun.map {step : σ → ι → σ × ω} {run} (hr : IsRun step run) {step' : τ → ι' → τ × ω'} {run'}
    (hr' : IsRun step' run') {I : σ → Prop} {a : σ → τ} {b : ι → ι'} {c : ω → ω'}
    (h : ∀ s op, I s → I (step s op).1 ∧ (a (step s op).1, c (step s op).2) = step' (a s) (b op)) (ops : List ι) :
    ∀ s, I s → (run s ops).map (fun r => (a r.1, c r.2)) = run' (a s) (ops.map b) ∧ ∀ r ∈ run s ops, I r.1 := by
  induction ops with
  | nil => intro s _; rw [hr.nil, List.map_nil, List.map_nil, hr'.nil]; exact ⟨rfl, fun _ hm => nomatch hm⟩
  | cons op ops ih =>
    intro s hs
    obtain ⟨h1, h2⟩ := h s op hs
    obtain ⟨i1, i2⟩ := ih _ h1
    rw [hr.cons, List.map_cons, List.map_cons, hr'.cons, ← h2, i1]
    exact ⟨rfl, fun r hm => (List.mem_cons.mp hm).elim (fun e => e ▸ h1) (i2 r)⟩

theorem IsRun.sim {step : σ → ι → σ × ω} {run} (hr : IsRun step run) {step' : τ → ι → τ × ω} {run'}
    (hr' : IsRun step' run') {I : σ → Prop} {a : σ → τ}
    (h : ∀ s op, I s → Sim I a (step s op) (step' (a s) op)) (s : σ) (hs : I s) (ops : List ι) :
    (run s ops).map (fun r => (a r.1, r.2)) = run' (a s) ops ∧ ∀ r ∈ run s ops, I r.1 := by
  have := hr.map hr' (b := id) (c := id) (fun s op hs => ⟨(h s op hs).inv, Prod.ext (h s op hs).abs (h s op hs).out⟩)
    ops s hs
  rwa [List.map_id] at this

end C01
