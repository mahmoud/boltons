import BoltonsVerif.C01.Natural
/-
C01 — renaming the keys of a history by a function `g`: the maps in which `keys_are_only_compared` (Props.lean) is
stated, and that they are `relab g id` of `Relabel.lean`, where the theorem is proved.
-/
namespace C01
open Spec
variable {K K' V : Type} [DecidableEq K] [DecidableEq K']

def mapKL (g : K → K') (L : List (K × V)) : List (K' × V) := L.map fun p => (g p.1, p.2)

def Out.mapK (g : K → K') : Out K V → Out K' V
  | .unit => .unit
  | .dflt => .dflt
  | .val v => .val v
  | .vals l => .vals l
  | .pair k v => .pair (g k) v
  | .err e => .err e
  | .abort => .abort

def HArg.mapK (g : K → K') : HArg K V → HArg K' V
  | .self => .self
  | .regT => .regT
  | .fresh l => .fresh (mapKL g l)
  | .mapping m => .mapping (mapKL g m)
  | .pairs l => .pairs (mapKL g l)

def HOp.mapK (g : K → K') : HOp K V → HOp K' V
  | .new E F => .new (E.map (HArg.mapK g)) (mapKL g F)
  | .add k v => .add (g k) v
  | .addlist k vs => .addlist (g k) vs
  | .setitem k v => .setitem (g k) v
  | .delitem k => .delitem (g k)
  | .update E F => .update (E.mapK g) (mapKL g F)
  | .updateExtend E F => .updateExtend (E.mapK g) (mapKL g F)
  | .setdefault k v => .setdefault (g k) v
  | .pop k d => .pop (g k) d
  | .popall k d => .popall (g k) d
  | .poplast k d => .poplast (k.map g) d
  | .popitem => .popitem
  | .clear => .clear
  | .addlistAbort k vs => .addlistAbort (g k) vs
  | .updateAbort l => .updateAbort (mapKL g l)
  | .updateExtendAbort l => .updateExtendAbort (mapKL g l)
  | .updateMapAbort l => .updateMapAbort (mapKL g l)
  | .rejected => .rejected
  | .copyToT => .copyToT
  | .copyToS => .copyToS
  | .swap => .swap

def mapStK (g : K → K') (st : Spec.HState K V) : Spec.HState K' V := ⟨mapKL g st.s, mapKL g st.t⟩

section lemmas
variable (g : K → K')

@[simp] theorem mapK_nil : mapKL g ([] : List (K × V)) = [] := rfl

end lemmas

theorem HArg.mapK_eq (g : K → K') : (HArg.mapK g : HArg K V → HArg K' V) = HArg.relab g id :=
  funext fun E => by cases E <;> rfl

theorem HOp.mapK_eq (g : K → K') : (HOp.mapK g : HOp K V → HOp K' V) = HOp.relab g id :=
  funext fun op => by cases op <;> simp [HOp.mapK, HOp.relab, HArg.mapK_eq, mapKL, C01.relab]

theorem Out.mapK_eq (g : K → K') (o : Out K V) : o.mapK g = o.relab g id := by
  cases o <;> simp [Out.mapK, Out.relab]

end C01
