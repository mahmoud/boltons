import BoltonsVerif.C01.Proofs
/-
C01 — rename the keys of a whole history by an INJECTIVE `g` and relabel its values by ANY `f`: every pair list reached
and every return value is renamed / relabelled alike and nothing else changes.  `Natural.lean` is `g = id`,
`KeyNatural.lean` is `f = id`.
-/
namespace C01
open Spec
variable {K K' V W : Type} [DecidableEq K] [DecidableEq K']

def relab (g : K → K') (f : V → W) (L : List (K × V)) : List (K' × W) := L.map fun p => (g p.1, f p.2)

def Out.relab (g : K → K') (f : V → W) : Out K V → Out K' W
  | .unit => .unit
  | .dflt => .dflt
  | .val v => .val (f v)
  | .vals l => .vals (l.map f)
  | .pair k v => .pair (g k) (f v)
  | .err e => .err e
  | .abort => .abort

def HArg.relab (g : K → K') (f : V → W) : HArg K V → HArg K' W
  | .self => .self
  | .regT => .regT
  | .fresh l => .fresh (C01.relab g f l)
  | .mapping m => .mapping (C01.relab g f m)
  | .pairs l => .pairs (C01.relab g f l)

def HOp.relab (g : K → K') (f : V → W) : HOp K V → HOp K' W
  | .new E F => .new (E.map (HArg.relab g f)) (C01.relab g f F)
  | .add k v => .add (g k) (f v)
  | .addlist k vs => .addlist (g k) (vs.map f)
  | .setitem k v => .setitem (g k) (f v)
  | .delitem k => .delitem (g k)
  | .update E F => .update (E.relab g f) (C01.relab g f F)
  | .updateExtend E F => .updateExtend (E.relab g f) (C01.relab g f F)
  | .setdefault k v => .setdefault (g k) (f v)
  | .pop k d => .pop (g k) d
  | .popall k d => .popall (g k) d
  | .poplast k d => .poplast (k.map g) d
  | .popitem => .popitem
  | .clear => .clear
  | .addlistAbort k vs => .addlistAbort (g k) (vs.map f)
  | .updateAbort l => .updateAbort (C01.relab g f l)
  | .updateExtendAbort l => .updateExtendAbort (C01.relab g f l)
  | .updateMapAbort l => .updateMapAbort (C01.relab g f l)
  | .rejected => .rejected
  | .copyToT => .copyToT
  | .copyToS => .copyToS
  | .swap => .swap

def relabSt (g : K → K') (f : V → W) (st : Spec.HState K V) : Spec.HState K' W := ⟨relab g f st.s, relab g f st.t⟩

section lemmas
variable (g : K → K') (f : V → W)

@[simp] theorem relab_nil : relab g f ([] : List (K × V)) = [] := rfl
@[simp] theorem relab_append (A B : List (K × V)) : relab g f (A ++ B) = relab g f A ++ relab g f B := by
  simp [relab]
@[simp] theorem relab_cons (p : K × V) (A : List (K × V)) : relab g f (p :: A) = (g p.1, f p.2) :: relab g f A := rfl
theorem relab_fst (L : List (K × V)) : (relab g f L).map (·.1) = (L.map (·.1)).map g := by simp [relab]

theorem getLast?_relab (L : List (K × V)) : (relab g f L).getLast? = L.getLast?.map fun p => (g p.1, f p.2) := by
  simp [relab, List.getLast?_map]

theorem dropLast_relab (L : List (K × V)) : (relab g f L).dropLast = relab g f L.dropLast := by
  simp [relab, List.map_dropLast]

theorem relab_filter_key (q : K → Bool) (q' : K' → Bool) (hq : ∀ k, q' (g k) = q k) (L : List (K × V)) :
    (relab g f L).filter (fun p => q' p.1) = relab g f (L.filter fun p => q p.1) := by
  rw [relab, List.filter_map]
  congr 2
  funext p
  exact hq p.1

variable {g} (hg : Function.Injective g)
include hg

theorem decide_eq_inj (a b : K) : decide (g a = g b) = decide (a = b) := decide_eq_decide.mpr hg.eq_iff

theorem mem_map_inj (a : K) (l : List K) : g a ∈ l.map g ↔ a ∈ l :=
  ⟨fun h => by obtain ⟨b, hb, e⟩ := List.mem_map.mp h; exact hg e ▸ hb, fun h => List.mem_map.mpr ⟨a, h, rfl⟩⟩

theorem remove_relab (L : List (K × V)) (k : K) : Spec.remove (relab g f L) (g k) = relab g f (Spec.remove L k) :=
  relab_filter_key g f (fun a => !decide (a = k)) (fun a => !decide (a = g k)) (fun a => by rw [decide_eq_inj hg]) L

theorem valsOf_relab (k : K) (L : List (K × V)) : valsOf (g k) (relab g f L) = (valsOf k L).map f := by
  unfold valsOf
  show ((relab g f L).filter fun p => decide (p.1 = g k)).map _ = _
  rw [relab_filter_key g f (fun a => decide (a = k)) (fun a => decide (a = g k)) (fun a => decide_eq_inj hg a k)]
  rw [relab, List.map_map, List.map_map]
  rfl

theorem has_relab (k : K) (L : List (K × V)) : has (g k) (relab g f L) = has k L := by
  rw [Bool.eq_iff_iff, has_iff, has_iff, valsOf_relab f hg]
  simp

theorem last_relab (k : K) (L : List (K × V)) : Spec.last (g k) (relab g f L) = (Spec.last k L).map f := by
  simp [Spec.last, valsOf_relab f hg, List.getLast?_map]

theorem dedupAux_map (seen l : List K) : dedupAux (seen.map g) (l.map g) = (dedupAux seen l).map g := by
  induction l generalizing seen with
  | nil => rfl
  | cons a r ih =>
    simp only [List.map_cons, dedupAux, mem_map_inj hg]
    split
    · exact ih seen
    · rw [← List.map_cons, ih]; rfl

theorem keys_relab (L : List (K × V)) : Spec.keys (relab g f L) = (Spec.keys L).map g := by
  rw [Spec.keys, relab_fst]
  exact dedupAux_map hg [] _

theorem items_relab (L : List (K × V)) : Spec.items (relab g f L) = relab g f (Spec.items L) := by
  unfold Spec.items
  rw [keys_relab f hg, List.filterMap_map]
  show _ = List.map _ (List.filterMap _ _)
  rw [List.map_filterMap]
  congr 1
  funext k
  simp only [Function.comp, last_relab f hg]
  cases Spec.last k L <;> rfl

theorem setitem_relab (L : List (K × V)) (k : K) (v : V) :
    Spec.setitem (relab g f L) (g k) (f v) = relab g f (Spec.setitem L k v) := by
  simp [Spec.setitem, remove_relab f hg]

theorem setAll_relab (F : List (K × V)) : ∀ (L : List (K × V)),
    Spec.setAll (relab g f L) (relab g f F) = relab g f (Spec.setAll L F) := by
  induction F with
  | nil => intro L; rfl
  | cons p r ih =>
    intro L
    simp only [Spec.setAll, relab_cons, List.foldl_cons] at ih ⊢
    rw [setitem_relab f hg]; exact ih _

theorem replaceBy_relab (L l : List (K × V)) :
    Spec.replaceBy (relab g f L) (relab g f l) = relab g f (Spec.replaceBy L l) := by
  simp only [Spec.replaceBy, relab_append]
  congr 1
  apply relab_filter_key g f (fun a => !decide (a ∈ l.map (·.1))) (fun a => !decide (a ∈ (relab g f l).map (·.1)))
  intro a
  rw [relab_fst, decide_eq_decide.mpr (mem_map_inj hg a _)]

theorem rmLast_relab (k : K) (L : List (K × V)) : rmLast (g k) (relab g f L) = relab g f (rmLast k L) := by
  induction L with
  | nil => rfl
  | cons p r ih =>
    have ha : (relab g f r).any (isK (g k)) = r.any (isK k) := has_relab f hg k r
    simp only [relab_cons, rmLast, ha, hg.eq_iff]
    split
    · simp [ih]
    · split <;> simp

end lemmas

theorem spec_hstep_relab {g : K → K'} (hg : Function.Injective g) (f : V → W) (st : Spec.HState K V) (op : HOp K V) :
    Spec.hstep (relabSt g f st) (op.relab g f) =
      (relabSt g f (Spec.hstep st op).1, ((Spec.hstep st op).2).relab g f) := by
  obtain ⟨s, t⟩ := st
  cases op with
  | new E F =>
    simp only [Spec.hstep, HOp.relab, relabSt, Spec.new, Out.relab]
    congr 2
    cases E with
    | none => exact setAll_relab f hg F []
    | some E =>
      cases E <;>
        simp only [Option.map_some, HArg.relab, Spec.resolveNew, Spec.resolve, Spec.updateExtend, List.nil_append,
          List.append_nil] <;> exact setAll_relab f hg F _
  | add k v => simp [Spec.hstep, HOp.relab, relabSt, Out.relab]
  | addlist k vs =>
    simp only [Spec.hstep, HOp.relab, relabSt, Out.relab, relab_append]
    congr 3
    simp [relab, List.map_map, Function.comp_def]
  | setitem k v => simp [Spec.hstep, HOp.relab, relabSt, Out.relab, setitem_relab f hg]
  | delitem k =>
    simp only [Spec.hstep, HOp.relab, relabSt, Spec.withS, Spec.delitem, has_relab f hg]
    split <;> simp [Out.relab, remove_relab f hg]
  | update E F =>
    simp only [Spec.hstep, HOp.relab, relabSt, Out.relab, Spec.update]
    congr 2
    cases E <;> simp only [HArg.relab, Spec.resolve, replaceBy_relab f hg, setAll_relab f hg]
  | updateExtend E F =>
    simp only [Spec.hstep, HOp.relab, relabSt, Out.relab, Spec.updateExtend]
    congr 2
    cases E <;> simp [HArg.relab, Spec.resolve, items_relab f hg]
  | setdefault k v =>
    simp only [Spec.hstep, HOp.relab, relabSt, Spec.withS, Spec.setdefault, last_relab f hg]
    cases Spec.last k s <;> simp [Out.relab]
  | pop k d =>
    simp only [Spec.hstep, HOp.relab, relabSt, Spec.withS, Spec.pop, last_relab f hg]
    cases Spec.last k s <;> cases d <;> simp [Out.relab, remove_relab f hg, Spec.missing]
  | popall k d =>
    simp only [Spec.hstep, HOp.relab, relabSt, Spec.withS, Spec.popall, has_relab f hg]
    split <;> cases d <;> simp [Out.relab, remove_relab f hg, valsOf_relab f hg, Spec.missing]
  | poplast k d =>
    cases k with
    | some k =>
      simp only [Spec.hstep, HOp.relab, relabSt, Spec.withS, Spec.poplast, Option.map_some, last_relab f hg]
      cases Spec.last k s <;> cases d <;> simp [Out.relab, rmLast_relab f hg, Spec.missing]
    | none =>
      simp only [Spec.hstep, HOp.relab, relabSt, Spec.withS, Spec.poplast, Option.map_none, getLast?_relab]
      cases s.getLast? <;> cases d <;> simp [Out.relab, dropLast_relab, Spec.missing]
  | popitem =>
    simp only [Spec.hstep, HOp.relab, relabSt, Spec.withS, Spec.popitem, getLast?_relab]
    cases s.getLast? <;> simp [Out.relab, remove_relab f hg]
  | clear => rfl
  | addlistAbort k vs => rfl
  | updateAbort l => simp [Spec.hstep, HOp.relab, relabSt, Out.relab, replaceBy_relab f hg]
  | updateExtendAbort l => simp [Spec.hstep, HOp.relab, relabSt, Out.relab]
  | updateMapAbort l => simp [Spec.hstep, HOp.relab, relabSt, Out.relab, setAll_relab f hg]
  | rejected => rfl
  | copyToT => rfl
  | copyToS => rfl
  | swap => rfl

theorem spec_hrun_relab {g : K → K'} (hg : Function.Injective g) (f : V → W) (ops : List (HOp K V))
    (st : Spec.HState K V) :
    Spec.hrun (relabSt g f st) (ops.map (HOp.relab g f)) =
      (Spec.hrun st ops).map fun r => (relabSt g f r.1, r.2.relab g f) :=
  (isRun_spec.map isRun_spec (I := fun _ => True)
    (fun s op _ => ⟨trivial, (spec_hstep_relab hg f s op).symm⟩) ops st trivial).1.symm

theorem hrun_relab {g : K → K'} (hg : Function.Injective g) (f : V → W) (ops : List (HOp K V)) :
    (hrun (HState.init : HState K' W) (ops.map (HOp.relab g f))).map (fun r => (absH r.1, r.2)) =
      (hrun (HState.init : HState K V) ops).map (fun r => (relabSt g f (absH r.1), r.2.relab g f)) := by
  rw [(hrun_spec HState.init hinv_init _).1]
  have h := spec_hrun_relab hg f ops (absH HState.init)
  rw [show relabSt g f (absH (HState.init : HState K V)) = absH HState.init from rfl] at h
  rw [h, ← (hrun_spec HState.init hinv_init ops).1, List.map_map]
  rfl

end C01
