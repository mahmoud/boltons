import BoltonsVerif.C01.LLProofs
import BoltonsVerif.C01.Ptr
/-
C01 — the pointer level (`Ptr.lean`) refines the list of identified cells (`LL.lean`):
the shape invariant of the circular doubly linked list (`Fwd` along `NEXT`, `Bwd` along `PREV`),
what `_insert` and the unlinking assignment do to it, and the commutation of the four helpers
with the read-back `PL.abs` (`pinsert_spec`, `premove_ok`, …: the `p` tells them from `llinv_insert`, `remove_ok`, … of
the cell level).
-/
namespace C01

theorem look_dset (m : Ptrs) (k b a : Nat) : look (dset k b m) a = if a = k then b else look m a := by
  unfold look; rw [dget_dset]; split <;> rfl

/-- `a → l₀ → l₁ → … → b` along `NEXT` -/
def Fwd (n : Ptrs) : Nat → List Nat → Nat → Prop
  | a, [], b => look n a = b
  | a, x :: xs, b => look n a = x ∧ Fwd n x xs b

/-- the `PREV` pointers of `l₀, l₁, …, b` point one step back, down to `a` -/
def Bwd (p : Ptrs) : Nat → List Nat → Nat → Prop
  | a, [], b => look p b = a
  | a, x :: xs, b => look p x = a ∧ Bwd p x xs b

def lastOr (a : Nat) (l : List Nat) : Nat := l.getLast?.getD a

def headOr (l : List Nat) (b : Nat) : Nat := l.head?.getD b

@[simp] theorem lastOr_nil (a : Nat) : lastOr a [] = a := rfl
theorem lastOr_cons (a x : Nat) (xs : List Nat) : lastOr a (x :: xs) = lastOr x xs := by
  cases xs with
  | nil => rfl
  | cons y ys =>
    cases h : (y :: ys).getLast? with
    | none => simp at h
    | some v => simp [lastOr, List.getLast?_cons_cons, h]

theorem lastOr_mem (a : Nat) (l : List Nat) : lastOr a l ∈ a :: l := by
  induction l generalizing a with
  | nil => simp
  | cons x xs ih => rw [lastOr_cons]; exact List.mem_cons_of_mem _ (ih x)

theorem lastOr_reverse (a : Nat) (l : List Nat) : lastOr a l.reverse = headOr l a := by simp [lastOr, headOr]
theorem headOr_reverse (l : List Nat) (b : Nat) : headOr l.reverse b = lastOr b l := by simp [lastOr, headOr]

theorem fwd_split (n : Ptrs) (a b c : Nat) (A B : List Nat) :
    Fwd n a (A ++ c :: B) b ↔ Fwd n a A c ∧ Fwd n c B b := by
  induction A generalizing a with
  | nil => simp [Fwd]
  | cons x xs ih => simp only [List.cons_append, Fwd, ih, and_assoc]

theorem bwd_split (p : Ptrs) (a b c : Nat) (A B : List Nat) :
    Bwd p a (A ++ c :: B) b ↔ Bwd p a A c ∧ Bwd p c B b := by
  induction A generalizing a with
  | nil => simp [Bwd]
  | cons x xs ih => simp only [List.cons_append, Bwd, ih, and_assoc]

theorem fwd_congr (n n' : Ptrs) (a b : Nat) (l : List Nat) (h : ∀ x ∈ a :: l, look n' x = look n x) :
    Fwd n a l b → Fwd n' a l b := by
  induction l generalizing a with
  | nil => intro hf; simp only [Fwd] at hf ⊢; rw [h a (by simp)]; exact hf
  | cons x xs ih =>
    intro hf
    simp only [Fwd] at hf ⊢
    exact ⟨by rw [h a (by simp)]; exact hf.1, ih x (fun y hy => h y (List.mem_cons_of_mem _ hy)) hf.2⟩

theorem bwd_iff_fwd (p : Ptrs) (l : List Nat) : ∀ a b, Bwd p a l b ↔ Fwd p b l.reverse a := by
  induction l with
  | nil => intro a b; exact Iff.rfl
  | cons x xs ih =>
    intro a b
    rw [List.reverse_cons, show xs.reverse ++ [x] = xs.reverse ++ x :: [] from rfl, fwd_split, ← ih]
    exact and_comm

theorem fwd_head (n : Ptrs) (a b : Nat) (l : List Nat) : Fwd n a l b → look n a = headOr l b := by
  cases l with
  | nil => intro h; exact h
  | cons x xs => intro h; exact h.1

theorem bwd_last (p : Ptrs) (a b : Nat) (l : List Nat) (h : Bwd p a l b) : look p b = lastOr a l :=
  (fwd_head p b a l.reverse ((bwd_iff_fwd p l a b).mp h)).trans (headOr_reverse l a)

/-- redirect the `NEXT` pointer of the last node of the chain -/
theorem fwd_relast (n : Ptrs) (a b b' : Nat) (l : List Nat) (hnd : (a :: l).Nodup) :
    Fwd n a l b → Fwd (dset (lastOr a l) b' n) a l b' := by
  induction l generalizing a with
  | nil => intro _; simp [Fwd, look_dset]
  | cons x xs ih =>
    intro hf
    simp only [Fwd] at hf ⊢
    rw [lastOr_cons]
    have hne : a ≠ lastOr x xs := by
      intro e
      have := lastOr_mem x xs
      rw [← e] at this
      exact (List.nodup_cons.mp hnd).1 this
    exact ⟨by rw [look_dset, if_neg hne]; exact hf.1, ih x (List.nodup_cons.mp hnd).2 hf.2⟩

theorem walk_fwd (n : Ptrs) (l : List Nat) : ∀ (a fuel : Nat), Fwd n a l 0 → 0 ∉ l → l.length < fuel →
    walk n fuel (look n a) = l := by
  induction l with
  | nil =>
    intro a fuel hf _ hl
    simp only [Fwd] at hf
    cases fuel with
    | zero => simp at hl
    | succ f => simp [walk, hf]
  | cons x xs ih =>
    intro a fuel hf h0 hl
    simp only [Fwd] at hf
    cases fuel with
    | zero => simp at hl
    | succ f =>
      have hx : x ≠ 0 := fun e => h0 (by simp [e])
      simp only [walk, hf.1, hx, ↓reduceIte]
      rw [ih x f hf.2 (fun hh => h0 (List.mem_cons_of_mem _ hh)) (by simp at hl; omega)]

theorem walk_bwd (p : Ptrs) (l : List Nat) (b fuel : Nat) (hb : Bwd p 0 l b) (h0 : 0 ∉ l) (hl : l.length < fuel) :
    walk p fuel (look p b) = l.reverse :=
  walk_fwd p l.reverse b fuel ((bwd_iff_fwd p l 0 b).mp hb) (by simpa using h0) (by simpa using hl)

structure Shape (n p : Ptrs) (l : List Nat) : Prop where
  fwd : Fwd n 0 l 0
  bwd : Bwd p 0 l 0
  nodup : (0 :: l).Nodup

theorem shape_empty : Shape [] [] [] := ⟨rfl, rfl, by simp⟩

theorem shape_clear (n p : Ptrs) : Shape (dset 0 0 n) (dset 0 0 p) [] :=
  ⟨by simp [Fwd, look_dset], by simp [Bwd, look_dset], by simp⟩

/-- the inverse of `fwd_unlink`; `_insert` is `B = []` along `NEXT` and `A = []` along `PREV`, the list read backwards -/
theorem fwd_insert {n : Ptrs} {A B : List Nat} {c : Nat} (hf : Fwd n 0 (A ++ B) 0) (hnd : (0 :: (A ++ B)).Nodup)
    (hc : c ∉ 0 :: (A ++ B)) : Fwd (dset (lastOr 0 A) c (dset c (headOr B 0) n)) 0 (A ++ c :: B) 0 := by
  rw [show (0 :: (A ++ B)) = (0 :: A) ++ B from rfl] at hnd hc
  obtain ⟨ndA, _, hdis⟩ := List.nodup_append.mp hnd
  have hcA : ∀ x ∈ 0 :: A, x ≠ c := fun x hx e => hc (List.mem_append_left _ (e ▸ hx))
  have hcB : ∀ x ∈ B, x ≠ c := fun x hx e => hc (List.mem_append_right _ (e ▸ hx))
  have hlc := hcA _ (lastOr_mem 0 A)
  -- the chain up to the end of `A`, whatever it pointed to, now ends in `c`
  have hA : ∀ b, Fwd n 0 A b → Fwd (dset (lastOr 0 A) c (dset c (headOr B 0) n)) 0 A c := fun b h =>
    fwd_relast _ 0 b c A ndA (fwd_congr n _ 0 b A (fun x hx => by rw [look_dset, if_neg (hcA x hx)]) h)
  rw [fwd_split]
  cases B with
  | nil =>
    rw [List.append_nil] at hf
    exact ⟨hA 0 hf, by simp [Fwd, look_dset, headOr, hlc.symm]⟩
  | cons y B' =>
    rw [fwd_split] at hf
    refine ⟨hA y hf.1, by simp [look_dset, headOr, hlc.symm], ?_⟩
    apply fwd_congr n _ y 0 B' _ hf.2
    intro x hx
    rw [look_dset, look_dset, if_neg (hcB x hx), if_neg]
    exact fun e => hdis _ (lastOr_mem 0 A) x hx e.symm

theorem fwd_unlink {n : Ptrs} {A B : List Nat} {c : Nat} (hf : Fwd n 0 (A ++ c :: B) 0)
    (hnd : (0 :: (A ++ c :: B)).Nodup) : Fwd (dset (lastOr 0 A) (headOr B 0) n) 0 (A ++ B) 0 := by
  rw [fwd_split] at hf
  rw [show (0 :: (A ++ c :: B)) = (0 :: A) ++ (c :: B) from rfl, List.nodup_append] at hnd
  obtain ⟨ndA, _, hdis⟩ := hnd
  cases B with
  | nil =>
    simp only [headOr, List.head?_nil, Option.getD_none, List.append_nil]
    exact fwd_relast n 0 c 0 A ndA hf.1
  | cons y B' =>
    simp only [headOr, List.head?_cons, Option.getD_some]
    rw [fwd_split]
    refine ⟨fwd_relast n 0 c y A ndA hf.1, ?_⟩
    apply fwd_congr n _ y 0 B' _ hf.2.2
    intro x hx
    rw [look_dset, if_neg]
    intro e
    exact hdis _ (lastOr_mem 0 A) x (List.mem_cons_of_mem _ hx) e.symm

theorem nodup_cons_reverse {l : List Nat} (h : (0 :: l).Nodup) : (0 :: l.reverse).Nodup := by
  rw [List.nodup_cons, List.mem_reverse, (List.reverse_perm _).nodup_iff]
  exact List.nodup_cons.mp h

/-- `last = root[PREV]; cell = [last, root, …]; last[NEXT] = root[PREV] = cell` appends the new cell -/
theorem shape_insert {n p : Ptrs} {l : List Nat} (h : Shape n p l) (c : Nat) (hc : c ∉ 0 :: l) :
    Shape (dset (look p 0) c (dset c 0 n)) (dset 0 c (dset c (look p 0) p)) (l ++ [c]) := by
  have hlast : look p 0 = lastOr 0 l := bwd_last p 0 0 l h.bwd
  refine ⟨?_, ?_, ?_⟩
  · rw [hlast]
    exact fwd_insert (A := l) (B := []) (by rw [List.append_nil]; exact h.fwd) (by rw [List.append_nil]; exact h.nodup)
      (by rw [List.append_nil]; exact hc)
  · -- along `PREV` the new cell goes in right after `root`, on the list read backwards
    have := fwd_insert (A := []) (B := l.reverse) (c := c) ((bwd_iff_fwd p l 0 0).mp h.bwd) (nodup_cons_reverse h.nodup)
      (by simpa using hc)
    rw [headOr_reverse, ← hlast] at this
    rw [bwd_iff_fwd, List.reverse_append]
    exact this
  · exact nodup_concat (l := 0 :: l) h.nodup hc

/-- `cell[PREV][NEXT], cell[NEXT][PREV] = cell[NEXT], cell[PREV]` takes the cell out of the list -/
theorem shape_unlink {n p : Ptrs} {A B : List Nat} {c : Nat} (h : Shape n p (A ++ c :: B)) :
    Shape (unlinkP c (n, p)).1 (unlinkP c (n, p)).2 (A ++ B) := by
  obtain ⟨hf, hb, hnd⟩ := h
  have hp : look p c = lastOr 0 A := bwd_last p 0 c A ((bwd_split p 0 0 c A B).mp hb).1
  have hn : look n c = headOr B 0 := fwd_head n c 0 B ((fwd_split n 0 0 c A B).mp hf).2
  simp only [unlinkP, hp, hn]
  refine ⟨fwd_unlink hf hnd, ?_, ?_⟩
  · -- along `PREV` it is the same splice, on the list read backwards
    have e : (A ++ c :: B).reverse = B.reverse ++ c :: A.reverse := by simp
    have hb' := (bwd_iff_fwd p _ 0 0).mp hb
    have hnd' := nodup_cons_reverse hnd
    rw [e] at hb' hnd'
    have := fwd_unlink hb' hnd'
    rw [lastOr_reverse, headOr_reverse, ← List.reverse_append, ← bwd_iff_fwd] at this
    exact this
  · rw [show (0 :: (A ++ c :: B)) = (0 :: A) ++ (c :: B) from rfl, List.nodup_append] at hnd
    rw [show (0 :: (A ++ B)) = (0 :: A) ++ B from rfl, List.nodup_append]
    exact ⟨hnd.1, (List.nodup_cons.mp hnd.2.1).2, fun x hx y hy => hnd.2.2 x hx y (List.mem_cons_of_mem _ hy)⟩

/-- unlinking a member of the list, however the list is written -/
theorem shape_unlink_mem {n p : Ptrs} {l : List Nat} {c : Nat} (h : Shape n p l) (hc : c ∈ l) :
    Shape (unlinkP c (n, p)).1 (unlinkP c (n, p)).2 (l.filter (fun i => !decide (i = c))) := by
  obtain ⟨A, B, rfl⟩ := List.append_of_mem hc
  have hnd := h.nodup
  have hA : c ∉ A ∧ c ∉ B := by
    have : (A ++ c :: B).Nodup := (List.nodup_cons.mp hnd).2
    rw [List.nodup_append] at this
    refine ⟨fun hh => this.2.2 c hh c (by simp) rfl, (List.nodup_cons.mp this.2.1).1⟩
  have hfilt : (A ++ c :: B).filter (fun i => !decide (i = c)) = A ++ B := by
    rw [List.filter_append, List.filter_cons]
    simp only [decide_true, Bool.not_true, Bool.false_eq_true, ↓reduceIte]
    rw [List.filter_eq_self.mpr, List.filter_eq_self.mpr]
    · intro x hx; simp; intro e; exact hA.2 (e ▸ hx)
    · intro x hx; simp; intro e; exact hA.1 (e ▸ hx)
  rw [hfilt]
  exact shape_unlink h

/-- the `while values: cell = values.pop(); unlink` loop -/
theorem shape_unlink_all (cs : List Nat) : ∀ {n p : Ptrs} {l : List Nat}, Shape n p l → cs.Nodup → (∀ c ∈ cs, c ∈ l) →
    Shape (cs.foldl (fun np c => unlinkP c np) (n, p)).1 (cs.foldl (fun np c => unlinkP c np) (n, p)).2
      (l.filter (fun i => !decide (i ∈ cs))) := by
  induction cs with
  | nil =>
    intro n p l h _ _
    simp only [List.foldl_nil, List.not_mem_nil, decide_false, Bool.not_false]
    rw [filter_true]
    exact h
  | cons c cs ih =>
    intro n p l h hnd hsub
    rw [List.nodup_cons] at hnd
    have h1 := shape_unlink_mem h (hsub c (by simp))
    have h2 := ih (n := (unlinkP c (n, p)).1) (p := (unlinkP c (n, p)).2) h1 hnd.2 (by
      intro x hx
      rw [List.mem_filter]
      refine ⟨hsub x (List.mem_cons_of_mem _ hx), ?_⟩
      simp only [Bool.not_eq_eq_eq_not, Bool.not_true, decide_eq_false_iff_not]
      intro e; exact hnd.1 (e ▸ hx))
    simp only [List.foldl_cons]
    rw [List.filter_filter] at h2
    have : (fun i => !decide (i ∈ c :: cs)) = fun a => (!decide (a ∈ cs)) && !decide (a = c) := by
      funext i; by_cases e : i = c <;> simp [e]
    rw [this]
    exact h2

section pl
variable {K V : Type} [DecidableEq K]

/-- the cells reachable from `root` are `is`, in this order -/
structure PShape (l : PL K V) (is : List Nat) : Prop where
  shape : Shape l.nxt l.prv is
  lt : ∀ i ∈ is, i < l.fresh
  len : is.length < l.fresh
  pay : ∀ i ∈ is, (dget i l.pay).isSome
  pay0 : dget 0 l.pay = none

theorem PShape.zero_not_mem {l : PL K V} {is : List Nat} (h : PShape l is) : 0 ∉ is :=
  (List.nodup_cons.mp h.shape.nodup).1

theorem PShape.ids_eq {l : PL K V} {is : List Nat} (h : PShape l is) : l.ids = is :=
  walk_fwd l.nxt is 0 l.fresh h.shape.fwd h.zero_not_mem h.len

theorem PShape.idsBack_eq {l : PL K V} {is : List Nat} (h : PShape l is) : l.idsBack = is.reverse :=
  walk_bwd l.prv is 0 l.fresh h.shape.bwd h.zero_not_mem h.len

/-- `PL.cells` with the payload and the walk as separate arguments (`PShape.cells_eq`): the lemmas change one and keep
    the other -/
def cellsOf (pay : List (Nat × (K × V))) (is : List Nat) : List (Cell K V) := is.filterMap (cellAt pay)

theorem PShape.cells_eq {l : PL K V} {is : List Nat} (h : PShape l is) : l.cells = cellsOf l.pay is := by
  rw [PL.cells, h.ids_eq]; rfl

theorem cellAt_id (pay : List (Nat × (K × V))) (i : Nat) (x : Cell K V) (h : cellAt pay i = some x) : x.id = i := by
  unfold cellAt at h
  cases hd : dget i pay with
  | none => simp [hd] at h
  | some kv => simp [hd] at h; rw [← h]

theorem cellsOf_ids (pay : List (Nat × (K × V))) (is : List Nat) (h : ∀ i ∈ is, (dget i pay).isSome) :
    (cellsOf pay is).map (·.id) = is := by
  induction is with
  | nil => rfl
  | cons i r ih =>
    have hi := h i (by simp)
    cases hd : dget i pay with
    | none => simp [hd] at hi
    | some kv =>
      simp only [cellsOf, List.filterMap_cons, cellAt, hd, Option.map_some, List.map_cons]
      congr 1
      exact ih (fun j hj => h j (List.mem_cons_of_mem _ hj))

theorem cellsOf_filter (pay : List (Nat × (K × V))) (q : Nat → Bool) (is : List Nat) :
    (cellsOf pay is).filter (fun x => q x.id) = cellsOf pay (is.filter q) := by
  rw [cellsOf, cellsOf, List.filter_filterMap, List.filterMap_filter]
  congr 1; funext i
  unfold cellAt
  cases dget i pay <;> cases h : q i <;> simp [Option.filter, h]

theorem cellsOf_congr (pay pay' : List (Nat × (K × V))) (is : List Nat) (h : ∀ i ∈ is, dget i pay' = dget i pay) :
    cellsOf pay' is = cellsOf pay is := by
  unfold cellsOf
  induction is with
  | nil => rfl
  | cons i r ih =>
    simp only [List.filterMap_cons, cellAt, h i (by simp)]
    rw [ih (fun j hj => h j (List.mem_cons_of_mem _ hj))]

structure PInv (l : PL K V) : Prop where
  shape : PShape l l.ids
  ll : LLInv l.abs

theorem PShape.pinv {l : PL K V} {is : List Nat} (h : PShape l is) (hl : LLInv l.abs) : PInv l :=
  ⟨by rw [h.ids_eq]; exact h, hl⟩

theorem pshape_empty : PShape (PL.empty : PL K V) [] :=
  ⟨shape_empty, by simp, by simp [PL.empty], by simp, rfl⟩

theorem abs_empty : (PL.empty : PL K V).abs = LL.empty := by
  unfold PL.abs PL.cells
  rw [pshape_empty.ids_eq]
  rfl

theorem pinv_empty : PInv (PL.empty : PL K V) := pshape_empty.pinv (by rw [abs_empty]; exact llinv_empty)

theorem pclear_spec {l : PL K V} (h : PInv l) : PInv l.clear ∧ l.clear.abs = l.abs.clear := by
  have hs : PShape l.clear [] :=
    ⟨shape_clear _ _, by simp, by have := h.shape.len; simp only [PL.clear, List.length_nil]; omega, by simp,
     h.shape.pay0⟩
  have ha : l.clear.abs = l.abs.clear := by
    simp only [PL.abs, hs.cells_eq, LL.clear]; rfl
  exact ⟨hs.pinv (by rw [ha]; exact llinv_clear _), ha⟩

theorem pinsert_spec {l : PL K V} (h : PInv l) (k : K) (v : V) :
    PInv (l.insert k v) ∧ (l.insert k v).abs = l.abs.insert k v := by
  have hs := h.shape
  have hfresh : l.fresh ∉ 0 :: l.ids := by
    simp only [List.mem_cons, not_or]
    refine ⟨fun e => by have := hs.len; omega, fun hm => Nat.lt_irrefl _ (hs.lt _ hm)⟩
  have hne : ∀ i ∈ l.ids, i ≠ l.fresh := fun i hi e => hfresh (List.mem_cons_of_mem _ (e ▸ hi))
  have hs' : PShape (l.insert k v) (l.ids ++ [l.fresh]) := by
    refine ⟨shape_insert hs.shape l.fresh hfresh, ?_, ?_, ?_, ?_⟩
    · intro i hi
      simp only [List.mem_append, List.mem_singleton] at hi
      rcases hi with hi | rfl
      · exact Nat.lt_succ_of_lt (hs.lt i hi)
      · exact Nat.lt_succ_self _
    · simp only [PL.insert, List.length_append, List.length_singleton]; have := hs.len; omega
    · intro i hi
      simp only [List.mem_append, List.mem_singleton] at hi
      simp only [PL.insert, dget_dset]
      split
      · rfl
      · rcases hi with hi | e
        · exact hs.pay i hi
        · rename_i hne'; exact absurd e hne'
    · simp only [PL.insert, dget_dset]
      rw [if_neg (fun e => by have := hs.len; omega)]
      exact hs.pay0
  have ha : (l.insert k v).abs = l.abs.insert k v := by
    simp only [PL.abs, hs'.cells_eq, hs.cells_eq, LL.insert]
    congr 1
    show cellsOf (dset l.fresh (k, v) l.pay) (l.ids ++ [l.fresh]) = cellsOf l.pay l.ids ++ [⟨l.fresh, k, v⟩]
    have h1 : cellsOf (dset l.fresh (k, v) l.pay) l.ids = cellsOf l.pay l.ids :=
      cellsOf_congr _ _ _ (fun i hi => by rw [dget_dset, if_neg (hne i hi)])
    simp only [cellsOf, List.filterMap_append] at h1 ⊢
    rw [h1]
    simp [cellAt, dget_dset]
  exact ⟨hs'.pinv (by rw [ha]; exact llinv_insert h.ll k v), ha⟩

theorem pflat_insert {l : PL K V} (h : PInv l) (k : K) (v : V) : (l.insert k v).flat = l.flat ++ [(k, v)] := by
  rw [PL.flat, (pinsert_spec h k v).2, flat_insert]; rfl

theorem pinsertAll_spec {l : PL K V} (h : PInv l) (k : K) (vs : List V) :
    PInv (vs.foldl (fun l v => l.insert k v) l) ∧
    (vs.foldl (fun l v => l.insert k v) l).flat = l.flat ++ vs.map (fun v => (k, v)) := by
  induction vs generalizing l with
  | nil => simp [h]
  | cons v r ih =>
    have := ih (pinsert_spec h k v).1
    simp only [List.foldl_cons]
    refine ⟨this.1, ?_⟩
    rw [this.2, pflat_insert h]; simp

theorem ids_of_cells {l : PL K V} (h : PInv l) : l.abs.cells.map (·.id) = l.ids := by
  show l.cells.map (·.id) = l.ids
  rw [h.shape.cells_eq]; exact cellsOf_ids _ _ h.shape.pay

theorem pshape_filter {l : PL K V} (h : PInv l) {np : Ptrs × Ptrs} {q : Nat → Bool} (M : List (K × List Nat))
    (hsh : Shape np.1 np.2 (l.ids.filter q)) :
    PShape (⟨np.1, np.2, l.pay, M, l.fresh⟩ : PL K V) (l.ids.filter q) ∧
    (⟨np.1, np.2, l.pay, M, l.fresh⟩ : PL K V).abs = ⟨l.abs.cells.filter (fun x => q x.id), M, l.fresh⟩ := by
  have hs' : PShape (⟨np.1, np.2, l.pay, M, l.fresh⟩ : PL K V) (l.ids.filter q) :=
    ⟨hsh, fun i hi => h.shape.lt i (List.mem_filter.mp hi).1,
     Nat.lt_of_le_of_lt (List.length_filter_le _ _) h.shape.len,
     fun i hi => h.shape.pay i (List.mem_filter.mp hi).1, h.shape.pay0⟩
  refine ⟨hs', ?_⟩
  simp only [PL.abs, hs'.cells_eq, h.shape.cells_eq]
  congr 1
  exact (cellsOf_filter l.pay q l.ids).symm

theorem mem_ids_of_map {l : PL K V} (h : PInv l) {k : K} {ids : List Nat} (hd : dget k l.map = some ids) :
    ∀ c ∈ ids, c ∈ l.ids := by
  have hagree := h.ll.map_agree k
  rw [show l.abs.map = l.map from rfl, hd] at hagree
  intro c hc
  rw [← ids_of_cells h]
  exact idsOf_subset k _ c (((ne?_eq_some).mp hagree.symm).1 ▸ hc)

/-- a pointer-level helper `r` against the cell-level helper `R` on the read-back: the same exception, or a well-formed
    heap that reads back as `R`'s result -/
structure ReadsBackAs (r : Except Err (PL K V)) (R : Except Err (LL K V)) : Prop where
  ok : ∀ l', r = .ok l' → R = .ok l'.abs ∧ PInv l'
  error : ∀ e, r = .error e → R = .error e

theorem ReadsBackAs.of_ok {r : Except Err (PL K V)} {R : Except Err (LL K V)} (h : ReadsBackAs r R) {L' : LL K V}
    (e : R = .ok L') : ∃ l', r = .ok l' ∧ l'.abs = L' ∧ PInv l' := by
  cases hq : r with
  | error e' => rw [h.error e' hq] at e; cases e
  | ok l' =>
    obtain ⟨a1, a2⟩ := h.ok l' hq
    exact ⟨l', rfl, (Except.ok.inj (a1.symm.trans e)), a2⟩

theorem ReadsBackAs.of_error {r : Except Err (PL K V)} {R : Except Err (LL K V)} (h : ReadsBackAs r R) {e : Err}
    (he : R = .error e) : r = .error e := by
  cases hq : r with
  | error e' => exact congrArg Except.error (Except.error.inj ((h.error e' hq).symm.trans he))
  | ok l' => rw [(h.ok l' hq).1] at he; cases he

/-- the case analysis of a pointer-level helper shows `PShape` only; the other half of `PInv l'`, `LLInv l'.abs`, is a
    fact about the cell level (`hinv`) -/
theorem ReadsBackAs.of_shape {r : Except Err (PL K V)} {R : Except Err (LL K V)} (hinv : ∀ L', R = .ok L' → LLInv L')
    (h : (∀ l', r = .ok l' → R = .ok l'.abs ∧ PShape l' l'.ids) ∧ ∀ e, r = .error e → R = .error e) :
    ReadsBackAs r R :=
  ⟨fun l' hl => ⟨(h.1 l' hl).1, (h.1 l' hl).2.pinv (hinv _ (h.1 l' hl).1)⟩, h.2⟩

theorem premove_abs {l : PL K V} (h : PInv l) (k : K) : ReadsBackAs (l.remove k) (l.abs.remove k) := by
  refine .of_shape (fun _ => llinv_remove h.ll) ?_
  unfold PL.remove LL.remove
  rw [show l.abs.map = l.map from rfl]
  cases hd : dget k l.map with
  | none => exact ⟨fun _ hl => (nomatch hl), fun _ he => congrArg Except.error (Except.error.inj he)⟩
  | some ids =>
    simp only
    cases hc : ids.getLast? with
    | none => exact ⟨fun _ hl => (nomatch hl), fun _ he => congrArg Except.error (Except.error.inj he)⟩
    | some c =>
      refine ⟨fun l' hl => ?_, fun _ he => (nomatch he)⟩
      cases hl
      obtain ⟨hs', ha⟩ := pshape_filter h (if ids.dropLast.isEmpty then ddel k l.map else dset k ids.dropLast l.map)
        (shape_unlink_mem h.shape.shape (mem_ids_of_map h hd c (List.mem_of_getLast? hc)))
      exact ⟨by rw [ha]; rfl, by rw [hs'.ids_eq]; exact hs'⟩

theorem premove_ok {l : PL K V} (h : PInv l) {k : K} (hk : l.flat.any (isK k) = true) :
    ∃ l', l.remove k = .ok l' ∧ PInv l' ∧ l'.flat = rmLast k l.flat := by
  obtain ⟨L', e, _, f⟩ := remove_ok h.ll hk
  obtain ⟨l', e', rfl, i⟩ := (premove_abs h k).of_ok e
  exact ⟨l', e', i, f⟩

theorem premove_keyError {l : PL K V} (h : PInv l) {k : K} (hk : ¬ l.flat.any (isK k) = true) :
    l.remove k = .error .keyError := (premove_abs h k).of_error (remove_keyError h.ll hk)

theorem premoveAll_abs {l : PL K V} (h : PInv l) (k : K) : ReadsBackAs (l.removeAll k) (l.abs.removeAll k) := by
  refine .of_shape (fun _ => llinv_removeAll h.ll) ?_
  have hagree := h.ll.map_agree k
  unfold PL.removeAll LL.removeAll
  rw [show l.abs.map = l.map from rfl] at hagree ⊢
  cases hd : dget k l.map with
  | none => exact ⟨fun _ hl => (nomatch hl), fun _ he => congrArg Except.error (Except.error.inj he)⟩
  | some ids =>
    refine ⟨fun l' hl => ?_, fun _ he => (nomatch he)⟩
    cases hl
    rw [hd] at hagree
    have hnd : ids.reverse.Nodup := by
      rw [(List.reverse_perm ids).nodup_iff, ((ne?_eq_some).mp hagree.symm).1.symm]
      exact h.ll.ids_nodup.sublist ((List.filter_sublist).map _)
    obtain ⟨hs', ha⟩ := pshape_filter h (ddel k l.map) (shape_unlink_all ids.reverse h.shape.shape hnd
      fun c hc => mem_ids_of_map h hd c (List.mem_reverse.mp hc))
    refine ⟨?_, by rw [hs'.ids_eq]; exact hs'⟩
    simp only [ha, unlinkAll_eq]
    congr 2
    apply List.filter_congr
    intro x _
    simp

theorem premoveAll_ok {l : PL K V} (h : PInv l) {k : K} (hk : l.flat.any (isK k) = true) :
    ∃ l', l.removeAll k = .ok l' ∧ PInv l' ∧ l'.flat = l.flat.filter (notK k) := by
  obtain ⟨L', e, _, f⟩ := removeAll_ok h.ll hk
  obtain ⟨l', e', rfl, i⟩ := (premoveAll_abs h k).of_ok e
  exact ⟨l', e', i, f⟩

theorem premoveAll_keyError {l : PL K V} (h : PInv l) {k : K} (hk : ¬ l.flat.any (isK k) = true) :
    l.removeAll k = .error .keyError := (premoveAll_abs h k).of_error (removeAll_keyError h.ll hk)

theorem cellsOf_getLast? (pay : List (Nat × (K × V))) (is : List Nat) (h : ∀ i ∈ is, (dget i pay).isSome) :
    (cellsOf pay is).getLast? = is.getLast?.bind (cellAt pay) := by
  rw [cellsOf, List.getLast?_filterMap]
  cases hl : is.getLast? with
  | none => rw [List.getLast?_eq_none_iff.mp hl]; rfl
  | some i =>
    obtain ⟨ys, rfl⟩ := List.getLast?_eq_some_iff.mp hl
    obtain ⟨kv, hkv⟩ := Option.isSome_iff_exists.mp (h i (by simp))
    simp [cellAt, hkv]

theorem plastKey_eq {l : PL K V} (h : PInv l) : l.lastKey = l.flat.getLast?.map (·.1) := by
  have hp : look l.prv 0 = lastOr 0 l.ids := bwd_last l.prv 0 0 l.ids h.shape.shape.bwd
  have hf : l.flat = (cellsOf l.pay l.ids).map fun c => (c.key, c.val) := by
    rw [PL.flat, LL.flat, PL.abs, h.shape.cells_eq]
  rw [PL.lastKey, hp, hf, List.getLast?_map, cellsOf_getLast? l.pay l.ids h.shape.pay]
  unfold lastOr
  cases hl : l.ids.getLast? with
  | none => simp [h.shape.pay0]
  | some i => simp [cellAt]; cases dget i l.pay <;> rfl

theorem pflatBack_eq {l : PL K V} (h : PInv l) : l.flatBack = l.flat.reverse := by
  rw [PL.flatBack, h.shape.idsBack_eq, PL.flat, LL.flat, PL.abs, h.shape.cells_eq, cellsOf, List.filterMap_reverse,
    List.map_reverse]

end pl
end C01
