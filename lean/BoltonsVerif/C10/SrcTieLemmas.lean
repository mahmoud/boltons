/-
C10 — lemmas for the SOURCE TIE that do not mention the generated code.

`Src.listutils.translate_index` (regenerated from the text of `BarrelList._translate_index` on every
run) walks the sub-lists with a CPS loop function over a state record whose field names / order depend on
the order in which the Python locals are first bound.  To keep the tie proof independent of that
naming, the loop is characterised ABSTRACTLY here: any function `loop k kb xs s` that

  * on `[]` calls the `else:` continuation `k`,
  * on `x :: xs` tests `rel s < len(lists s [x])` (any decidable proposition equivalent to it), and either
    leaves through the `break` continuation `kb` or goes on with a state in which `rel` has been decreased by that length and
    `lists` is unchanged,

computes the model's `translate`: `scan_items` is that induction, once, for a loop over any list of items standing for
the sub-lists; `ScanShape` (a loop over `range(len(lists))`), `EnumShape` (over `enumerate(lists)`) and `ListShape`
(over the sub-lists, with a hand-kept counter) are its three instances.  In `SrcTie.lean` the projections `rel`,
`lsts` and the two state transformers are found by UNIFICATION against the generated definition
(the `nil` / `cons` fields are closed by `rfl`), so renumbered locals, extra locals, reordered assignments and fast paths in front
of the loop do not disturb the proof.
-/
import BoltonsVerif.PyRtLemmas
import BoltonsVerif.C10.Model

namespace C10

variable {α : Type}

/-- `index += len(self)` for a negative index, as the source does it -/
def pyNorm (index len : Int) : Int := if index < 0 then index + len else index

/-- "`loop` is a scan over the sub-lists": see the file header.  `test x s` is the loop's exit test,
    `exit kb x s` what the loop body does when the test holds (`kb s'` for a `break` in state `s'`, the
    returned value for an early `return`), `nxt x s` the state the next iteration starts in. -/
structure ScanShape {S R : Type} (loop : (S → R) → (S → R) → List Int → S → R)
    (rel : S → Int) (lsts : S → List (List α)) (test : Int → S → Prop)
    (dec : ∀ x s, Decidable (test x s)) (exit : (S → R) → Int → S → R) (nxt : Int → S → S) : Prop where
  nil : ∀ k kb s, loop k kb [] s = k s
  cons : ∀ k kb x xs s, loop k kb (x :: xs) s =
      @ite R (test x s) (dec x s) (exit kb x s) (loop k kb xs (nxt x s))
  test_iff : ∀ x s, test x s ↔ rel s < PyRt.len (PyRt.index (lsts s) x)
  nxt_rel : ∀ x s, rel (nxt x s) = rel s - PyRt.len (PyRt.index (lsts s) x)
  nxt_lsts : ∀ x s, lsts (nxt x s) = lsts s

/-- the same loop written with the branches the other way round
    (`if rel_idx >= len_list: rel_idx -= len_list; continue` … `break`) -/
theorem ScanShape.of_swapped {S R : Type} {loop : (S → R) → (S → R) → List Int → S → R}
    {rel : S → Int} {lsts : S → List (List α)} {ntest : Int → S → Prop}
    {dec : ∀ x s, Decidable (ntest x s)} {exit : (S → R) → Int → S → R} {nxt : Int → S → S}
    (nil : ∀ k kb s, loop k kb [] s = k s)
    (cons : ∀ k kb x xs s, loop k kb (x :: xs) s =
      @ite R (ntest x s) (dec x s) (loop k kb xs (nxt x s)) (exit kb x s))
    (ntest_iff : ∀ x s, ntest x s ↔ ¬ rel s < PyRt.len (PyRt.index (lsts s) x))
    (nxt_rel : ∀ x s, rel (nxt x s) = rel s - PyRt.len (PyRt.index (lsts s) x))
    (nxt_lsts : ∀ x s, lsts (nxt x s) = lsts s) :
    ScanShape loop rel lsts (fun x s => ¬ ntest x s) (fun x s => @instDecidableNot _ (dec x s)) exit nxt where
  nil := nil
  cons := fun k kb x xs s => (cons k kb x xs s).trans (ite_not _ _ _).symm
  test_iff := fun x s => (not_congr (ntest_iff x s)).trans Classical.not_not
  nxt_rel := nxt_rel
  nxt_lsts := nxt_lsts

/-- an index inside the first sub-list stays there (what a "head access" fast path returns) -/
theorem translate_head (l : List α) (rest : List (List α)) (k : Nat) (h : k < l.length) :
    translate (l :: rest) k = (0, k) := by
  cases rest <;> simp [translate, h]

theorem translate_single (l : List α) (k : Nat) : translate [l] k = (0, k) := rfl

theorem foldl_fixed {S ι β : Type} (nxt : ι → S → S) (f : S → β) (hf : ∀ x s, f (nxt x s) = f s) :
    ∀ (pre : List ι) (s : S), f (pre.foldl (fun s x => nxt x s) s) = f s
  | [], _ => rfl
  | x :: pre, s => (foldl_fixed nxt f hf pre (nxt x s)).trans (hf x s)

theorem foldl_counter {S ι : Type} (nxt : ι → S → S) (f : S → Int) (hf : ∀ x s, f (nxt x s) = f s + 1) :
    ∀ (pre : List ι) (s : S), f (pre.foldl (fun s x => nxt x s) s) = f s + pre.length
  | [], s => by simp
  | x :: pre, s => by
    rw [List.foldl_cons, foldl_counter nxt f hf pre, hf, List.length_cons]
    omega

/-- The induction behind all three loop shapes: the item `x` stands for the sub-list `sub x`.  `P` is an invariant of
    the loop body under which `test` and `nxt` are what they should be (`lsts s = lists` for a loop that looks the
    sub-list up in the state, `True` for one whose item carries it). -/
theorem scan_items {S R ι : Type} {loop : (S → R) → (S → R) → List ι → S → R}
    {rel : S → Int} {sub : ι → List α} {P : S → Prop} {test : ι → S → Prop} {dec : ∀ x s, Decidable (test x s)}
    {exit : (S → R) → ι → S → R} {nxt : ι → S → S}
    (nil : ∀ k kb s, loop k kb [] s = k s)
    (cons : ∀ k kb x xs s, loop k kb (x :: xs) s =
      @ite R (test x s) (dec x s) (exit kb x s) (loop k kb xs (nxt x s)))
    (test_iff : ∀ x s, P s → (test x s ↔ rel s < PyRt.len (sub x)))
    (nxt_rel : ∀ x s, P s → rel (nxt x s) = rel s - PyRt.len (sub x))
    (nxt_P : ∀ x s, P s → P (nxt x s)) (k kb : S → R) :
    ∀ (items : List ι) (lists : List (List α)) (r : Nat) (s : S), items.map sub = lists → lists ≠ [] → P s →
      rel s = r →
      ∃ pre x post, items = pre ++ x :: post ∧ pre.length = (translate lists r).1 ∧
        rel (pre.foldl (fun s x => nxt x s) s) = ((translate lists r).2 : Int) ∧
        (loop k kb items s = exit kb x (pre.foldl (fun s x => nxt x s) s) ∨
         (loop k kb items s = k (nxt x (pre.foldl (fun s x => nxt x s) s)) ∧
          pre.length + 1 = lists.length)) := by
  intro items
  induction items with
  | nil => intro lists r s hmap hne; exact absurd hmap.symm hne
  | cons x rest ih =>
    intro lists r s hmap _ hP hr
    subst hmap
    have ht := test_iff x s hP
    rw [hr] at ht
    rw [cons]
    by_cases hlt : (r : Int) < PyRt.len (sub x)
    · rw [if_pos (ht.2 hlt), List.map_cons, translate_head _ _ r (by unfold PyRt.len at hlt; omega)]
      exact ⟨[], x, rest, rfl, rfl, hr, Or.inl rfl⟩
    · rw [if_neg (fun h => hlt (ht.1 h))]
      cases rest with
      | nil => rw [nil]; exact ⟨[], x, [], rfl, rfl, hr, Or.inr ⟨rfl, rfl⟩⟩
      | cons y ys =>
        have hlt' : ¬ r < (sub x).length := by unfold PyRt.len at hlt; omega
        obtain ⟨pre, x', post, hsplit, hlen, hrel, hloop⟩ := ih _ (r - (sub x).length) (nxt x s) rfl (by simp)
          (nxt_P x s hP) (by rw [nxt_rel x s hP, hr]; unfold PyRt.len; omega)
        refine ⟨x :: pre, x', post, by rw [hsplit]; rfl, ?_, ?_, ?_⟩
        · simp only [List.map_cons, translate, if_neg hlt', List.length_cons] at hlen ⊢
          rw [hlen]
        · simpa only [List.map_cons, translate, if_neg hlt', List.foldl_cons] using hrel
        · simpa only [List.length_cons, List.map_cons, Nat.add_right_cancel_iff, List.foldl_cons] using hloop

theorem scan_items_neg {S R ι : Type} {loop : (S → R) → (S → R) → List ι → S → R}
    {rel : S → Int} {sub : ι → List α} {test : ι → S → Prop} {dec : ∀ x s, Decidable (test x s)}
    {exit : (S → R) → ι → S → R} {nxt : ι → S → S}
    (cons : ∀ k kb x xs s, loop k kb (x :: xs) s =
      @ite R (test x s) (dec x s) (exit kb x s) (loop k kb xs (nxt x s)))
    (k kb : S → R) (x : ι) (xs : List ι) (s : S) (ht : test x s ↔ rel s < PyRt.len (sub x)) (h2 : rel s < 0) :
    loop k kb (x :: xs) s = exit kb x s := by
  have := PyRt.len_nonneg (sub x)
  rw [cons, if_pos (ht.2 (by omega))]

theorem range_split {b x : Int} {post : List Int} : ∀ (pre : List Int) (a : Int),
    PyRt.range a b 1 = pre ++ x :: post → x = a + pre.length := by
  intro pre
  induction pre with
  | nil =>
    intro a h
    rw [PyRt.range_from] at h
    split at h
    · injection h with h1 _; simp [h1]
    · cases h
  | cons p pre ih =>
    intro a h
    rw [PyRt.range_from] at h
    split at h
    · injection h with _ h2
      rw [ih (a + 1) h2, List.length_cons]
      omega
    · cases h

theorem map_index_range : ∀ (suf pre : List (List α)),
    (PyRt.range (PyRt.len pre) (PyRt.len (pre ++ suf)) 1).map (PyRt.index (pre ++ suf)) = suf := by
  intro suf
  induction suf with
  | nil => intro pre; rw [PyRt.range_from, if_neg (by simp)]; rfl
  | cons l rest ih =>
    intro pre
    have := PyRt.len_nonneg rest
    rw [PyRt.range_from, if_pos (by rw [PyRt.len_append, PyRt.len_cons]; omega), List.map_cons,
      PyRt.index_append_length]
    have h := ih (pre ++ [l])
    rw [PyRt.len_append pre [l], PyRt.len_cons, PyRt.len_nil, List.append_assoc] at h
    simpa using h

/-- the scan from sub-list 0, as a rule for goals `loop k kb (range(0, len(lists))) s = v`: the goal's
    continuations and state are found by unification; what is left is to evaluate the two continuations
    in a state described only through `rel` and the fields the loop body leaves alone -/
theorem scan_loop_eq {S R : Type} {loop : (S → R) → (S → R) → List Int → S → R}
    {rel : S → Int} {lsts : S → List (List α)} {test : Int → S → Prop}
    {dec : ∀ x s, Decidable (test x s)} {exit : (S → R) → Int → S → R} {nxt : Int → S → S}
    (H : ScanShape loop rel lsts test dec exit nxt)
    (k kb : S → R) (s : S) (lists : List (List α)) (r : Nat) (v : R)
    (h1 : lsts s = lists) (h2 : rel s = r) (hne : lists ≠ [])
    (hb : ∀ s', rel s' = ((translate lists r).2 : Int) →
      (∀ (f : S → List (List α)), (∀ x s, f (nxt x s) = f s) → f s' = f s) →
      exit kb ((translate lists r).1 : Int) s' = v)
    (hk : ∀ s', rel s' = ((translate lists r).2 : Int) →
      (∀ (f : S → List (List α)), (∀ x s, f (nxt x s) = f s) → f s' = f s) →
      ((translate lists r).1 : Int) + 1 = PyRt.len lists →
      k (nxt ((translate lists r).1 : Int) s') = v) :
    loop k kb (PyRt.range 0 (PyRt.len lists) 1) s = v := by
  obtain ⟨pre, x, post, hsplit, hlen, e2, e3⟩ := scan_items (sub := PyRt.index lists) (P := fun s => lsts s = lists)
    H.nil H.cons (fun x s hP => by rw [← hP]; exact H.test_iff x s) (fun x s hP => by rw [← hP]; exact H.nxt_rel x s)
    (fun x s hP => (H.nxt_lsts x s).trans hP) k kb (PyRt.range 0 (PyRt.len lists) 1) lists r s
    (map_index_range lists []) hne h1 h2
  have hx : x = ((translate lists r).1 : Int) := by rw [← hlen, range_split pre 0 hsplit]; omega
  have ef := fun (f : S → List (List α)) hf => foldl_fixed nxt f hf pre s
  subst hx
  rcases e3 with e3 | ⟨e3, e4⟩
  · rw [e3]; exact hb _ e2 ef
  · rw [e3]; exact hk _ e2 ef (by rw [← hlen]; unfold PyRt.len; omega)

/-- with a NEGATIVE `rel` the scan leaves through the `break` at sub-list 0 at once -/
theorem scan_loop_neg {S R : Type} {loop : (S → R) → (S → R) → List Int → S → R}
    {rel : S → Int} {lsts : S → List (List α)} {test : Int → S → Prop}
    {dec : ∀ x s, Decidable (test x s)} {exit : (S → R) → Int → S → R} {nxt : Int → S → S}
    (H : ScanShape loop rel lsts test dec exit nxt)
    (k kb : S → R) (s : S) (lists : List (List α)) (v : R)
    (h1 : lsts s = lists) (h2 : rel s < 0) (hne : lists ≠ [])
    (hb : exit kb 0 s = v) :
    loop k kb (PyRt.range 0 (PyRt.len lists) 1) s = v := by
  obtain ⟨l, rest, rfl⟩ := List.exists_cons_of_ne_nil hne
  have hr0 := PyRt.len_nonneg rest
  rw [PyRt.range_from, if_pos (by rw [PyRt.len_cons]; omega), ← hb]
  exact scan_items_neg (sub := PyRt.index (lsts s)) H.cons k kb 0 _ s (H.test_iff 0 s) h2

/-- `list(enumerate(l, start))` (the translator's `PyRt.enumerate`, restated here so that this file does
    not depend on the translator's version of the runtime library) -/
def pyEnumerate {β : Type} : List β → Int → List (Int × β)
  | [], _ => []
  | x :: xs, i => (i, x) :: pyEnumerate xs (i + 1)

/-- "`loop` is a scan over `enumerate(lists)`": the sub-list comes with the loop item instead of being
    looked up in the state -/
structure EnumShape {S R : Type} (loop : (S → R) → (S → R) → List (Int × List α) → S → R)
    (rel : S → Int) (test : Int → List α → S → Prop)
    (dec : ∀ x l s, Decidable (test x l s)) (exit : (S → R) → Int → List α → S → R)
    (nxt : Int → List α → S → S) : Prop where
  nil : ∀ k kb s, loop k kb [] s = k s
  cons : ∀ k kb x l xs s, loop k kb ((x, l) :: xs) s =
      @ite R (test x l s) (dec x l s) (exit kb x l s) (loop k kb xs (nxt x l s))
  test_iff : ∀ x l s, test x l s ↔ rel s < PyRt.len l
  nxt_rel : ∀ x l s, rel (nxt x l s) = rel s - PyRt.len l

theorem EnumShape.of_swapped {S R : Type} {loop : (S → R) → (S → R) → List (Int × List α) → S → R}
    {rel : S → Int} {ntest : Int → List α → S → Prop}
    {dec : ∀ x l s, Decidable (ntest x l s)} {exit : (S → R) → Int → List α → S → R}
    {nxt : Int → List α → S → S}
    (nil : ∀ k kb s, loop k kb [] s = k s)
    (cons : ∀ k kb x l xs s, loop k kb ((x, l) :: xs) s =
      @ite R (ntest x l s) (dec x l s) (loop k kb xs (nxt x l s)) (exit kb x l s))
    (ntest_iff : ∀ x l s, ntest x l s ↔ ¬ rel s < PyRt.len l)
    (nxt_rel : ∀ x l s, rel (nxt x l s) = rel s - PyRt.len l) :
    EnumShape loop rel (fun x l s => ¬ ntest x l s) (fun x l s => @instDecidableNot _ (dec x l s))
      exit nxt where
  nil := nil
  cons := fun k kb x l xs s => (cons k kb x l xs s).trans (ite_not _ _ _).symm
  test_iff := fun x l s => (not_congr (ntest_iff x l s)).trans Classical.not_not
  nxt_rel := nxt_rel

theorem map_snd_pyEnumerate {β : Type} : ∀ (l : List β) (i : Int), (pyEnumerate l i).map Prod.snd = l
  | [], _ => rfl
  | x :: xs, i => by rw [pyEnumerate, List.map_cons, map_snd_pyEnumerate xs]

theorem pyEnumerate_split {β : Type} {x : Int × β} {post : List (Int × β)} : ∀ (pre : List (Int × β)) (l : List β)
    (i : Int), pyEnumerate l i = pre ++ x :: post → x.1 = i + pre.length := by
  intro pre
  induction pre with
  | nil =>
    intro l i h
    cases l with
    | nil => cases h
    | cons a l => injection h with h1 _; simp [← h1]
  | cons p pre ih =>
    intro l i h
    cases l with
    | nil => cases h
    | cons a l =>
      injection h with _ h2
      rw [ih l (i + 1) h2, List.length_cons]
      omega

/-- the scan from sub-list 0 as a rule for goals `loop k kb (enumerate(lists, 0)) s = v`; the second premise of `hb` /
    `hk` says that whatever the loop body leaves alone (e.g. the parameter field `self_lists`) is unchanged -/
theorem scan_enum_eq {S R : Type} {loop : (S → R) → (S → R) → List (Int × List α) → S → R}
    {rel : S → Int} {test : Int → List α → S → Prop}
    {dec : ∀ x l s, Decidable (test x l s)} {exit : (S → R) → Int → List α → S → R}
    {nxt : Int → List α → S → S}
    (H : EnumShape loop rel test dec exit nxt)
    (k kb : S → R) (s : S) (lists : List (List α)) (r : Nat) (v : R)
    (h2 : rel s = r) (hne : lists ≠ [])
    (hb : ∀ s', rel s' = ((translate lists r).2 : Int) →
      (∀ (f : S → List (List α)), (∀ x l s, f (nxt x l s) = f s) → f s' = f s) →
      exit kb ((translate lists r).1 : Int) (PyRt.index lists ((translate lists r).1 : Int)) s' = v)
    (hk : ∀ s', rel s' = ((translate lists r).2 : Int) →
      (∀ (f : S → List (List α)), (∀ x l s, f (nxt x l s) = f s) → f s' = f s) →
      ((translate lists r).1 : Int) + 1 = PyRt.len lists →
      k (nxt ((translate lists r).1 : Int) (PyRt.index lists ((translate lists r).1 : Int)) s') = v) :
    loop k kb (pyEnumerate lists 0) s = v := by
  obtain ⟨pre, x, post, hsplit, hlen, e2, e3⟩ := scan_items (sub := Prod.snd) (P := fun _ => True)
    (test := fun p s => test p.1 p.2 s) (exit := fun kb p s => exit kb p.1 p.2 s) (nxt := fun p s => nxt p.1 p.2 s)
    H.nil (fun k kb p xs s => H.cons k kb p.1 p.2 xs s) (fun p s _ => H.test_iff p.1 p.2 s)
    (fun p s _ => H.nxt_rel p.1 p.2 s) (fun _ _ _ => trivial) k kb _ lists r s (map_snd_pyEnumerate lists 0) hne
    trivial h2
  obtain ⟨x1, x2⟩ := x
  have hx1 : x1 = ((translate lists r).1 : Int) := by
    have h : x1 = 0 + (pre.length : Int) := pyEnumerate_split pre lists 0 hsplit
    rw [← hlen]; omega
  have hx2 : x2 = PyRt.index lists ((translate lists r).1 : Int) := by
    have := congrArg (List.map Prod.snd) hsplit
    rw [map_snd_pyEnumerate, List.map_append, List.map_cons] at this
    rw [← hlen, ← List.length_map (f := Prod.snd), this]
    exact (PyRt.index_append_length _ _ _).symm
  have ef := fun (f : S → List (List α)) (hf : ∀ x l s, f (nxt x l s) = f s) =>
    foldl_fixed (fun (p : Int × List α) s => nxt p.1 p.2 s) f (fun p s => hf p.1 p.2 s) pre s
  subst hx1 hx2
  rcases e3 with e3 | ⟨e3, e4⟩
  · rw [e3]; exact hb _ e2 ef
  · rw [e3]; exact hk _ e2 ef (by rw [← hlen]; unfold PyRt.len; omega)

theorem scan_enum_neg {S R : Type} {loop : (S → R) → (S → R) → List (Int × List α) → S → R}
    {rel : S → Int} {test : Int → List α → S → Prop}
    {dec : ∀ x l s, Decidable (test x l s)} {exit : (S → R) → Int → List α → S → R}
    {nxt : Int → List α → S → S}
    (H : EnumShape loop rel test dec exit nxt)
    (k kb : S → R) (s : S) (lists : List (List α)) (v : R)
    (h2 : rel s < 0) (hne : lists ≠ [])
    (hb : exit kb 0 (PyRt.index lists 0) s = v) :
    loop k kb (pyEnumerate lists 0) s = v := by
  obtain ⟨l, rest, rfl⟩ := List.exists_cons_of_ne_nil hne
  rw [PyRt.index_zero] at hb
  rw [← hb]
  exact scan_items_neg (sub := Prod.snd) (test := fun p s => test p.1 p.2 s) (exit := fun kb p s => exit kb p.1 p.2 s)
    (nxt := fun p s => nxt p.1 p.2 s) (fun k kb p xs s => H.cons k kb p.1 p.2 xs s) k kb (0, l) _ s
    (H.test_iff 0 l s) h2

/-- "`loop` is a scan over the sub-lists themselves" (`for cur in lists:` with a hand-kept counter) -/
structure ListShape {S R : Type} (loop : (S → R) → (S → R) → List (List α) → S → R)
    (rel : S → Int) (test : List α → S → Prop)
    (dec : ∀ l s, Decidable (test l s)) (exit : (S → R) → List α → S → R)
    (nxt : List α → S → S) : Prop where
  nil : ∀ k kb s, loop k kb [] s = k s
  cons : ∀ k kb l xs s, loop k kb (l :: xs) s =
      @ite R (test l s) (dec l s) (exit kb l s) (loop k kb xs (nxt l s))
  test_iff : ∀ l s, test l s ↔ rel s < PyRt.len l
  nxt_rel : ∀ l s, rel (nxt l s) = rel s - PyRt.len l

theorem ListShape.of_swapped {S R : Type} {loop : (S → R) → (S → R) → List (List α) → S → R}
    {rel : S → Int} {ntest : List α → S → Prop}
    {dec : ∀ l s, Decidable (ntest l s)} {exit : (S → R) → List α → S → R}
    {nxt : List α → S → S}
    (nil : ∀ k kb s, loop k kb [] s = k s)
    (cons : ∀ k kb l xs s, loop k kb (l :: xs) s =
      @ite R (ntest l s) (dec l s) (loop k kb xs (nxt l s)) (exit kb l s))
    (ntest_iff : ∀ l s, ntest l s ↔ ¬ rel s < PyRt.len l)
    (nxt_rel : ∀ l s, rel (nxt l s) = rel s - PyRt.len l) :
    ListShape loop rel (fun l s => ¬ ntest l s) (fun l s => @instDecidableNot _ (dec l s)) exit nxt where
  nil := nil
  cons := fun k kb l xs s => (cons k kb l xs s).trans (ite_not _ _ _).symm
  test_iff := fun l s => (not_congr (ntest_iff l s)).trans Classical.not_not
  nxt_rel := nxt_rel

theorem scan_list_eq {S R : Type} {loop : (S → R) → (S → R) → List (List α) → S → R}
    {rel : S → Int} {test : List α → S → Prop}
    {dec : ∀ l s, Decidable (test l s)} {exit : (S → R) → List α → S → R}
    {nxt : List α → S → S}
    (H : ListShape loop rel test dec exit nxt)
    (k kb : S → R) (s : S) (lists : List (List α)) (r : Nat) (v : R)
    (h2 : rel s = r) (hne : lists ≠ [])
    (hb : ∀ s', rel s' = ((translate lists r).2 : Int) →
      (∀ (f : S → Int), (∀ l s, f (nxt l s) = f s + 1) → f s' = f s + ((translate lists r).1 : Int)) →
      (∀ (f : S → List (List α)), (∀ l s, f (nxt l s) = f s) → f s' = f s) →
      exit kb (PyRt.index lists ((translate lists r).1 : Int)) s' = v)
    (hk : ∀ s', rel s' = ((translate lists r).2 : Int) →
      (∀ (f : S → Int), (∀ l s, f (nxt l s) = f s + 1) → f s' = f s + ((translate lists r).1 : Int)) →
      (∀ (f : S → List (List α)), (∀ l s, f (nxt l s) = f s) → f s' = f s) →
      ((translate lists r).1 : Int) + 1 = PyRt.len lists →
      k (nxt (PyRt.index lists ((translate lists r).1 : Int)) s') = v) :
    loop k kb lists s = v := by
  obtain ⟨pre, x, post, hsplit, hlen, e2, e3⟩ := scan_items (sub := id) (P := fun _ => True) H.nil H.cons
    (fun l s _ => H.test_iff l s) (fun l s _ => H.nxt_rel l s) (fun _ _ _ => trivial) k kb lists lists r s
    (List.map_id lists) hne trivial h2
  have hx : x = PyRt.index lists ((translate lists r).1 : Int) := by
    have h := PyRt.index_append_length pre x post
    rw [← hsplit] at h
    rw [← hlen]; exact h.symm
  have ec : ∀ (f : S → Int), (∀ l s, f (nxt l s) = f s + 1) →
      f (pre.foldl (fun s x => nxt x s) s) = f s + ((translate lists r).1 : Int) :=
    fun f hf => by rw [← hlen]; exact foldl_counter nxt f hf pre s
  have ef := fun (f : S → List (List α)) hf => foldl_fixed nxt f hf pre s
  subst hx
  rcases e3 with e3 | ⟨e3, e4⟩
  · rw [e3]; exact hb _ e2 ec ef
  · rw [e3]; exact hk _ e2 ec ef (by rw [← hlen]; unfold PyRt.len; omega)

theorem scan_list_neg {S R : Type} {loop : (S → R) → (S → R) → List (List α) → S → R}
    {rel : S → Int} {test : List α → S → Prop}
    {dec : ∀ l s, Decidable (test l s)} {exit : (S → R) → List α → S → R}
    {nxt : List α → S → S}
    (H : ListShape loop rel test dec exit nxt)
    (k kb : S → R) (s : S) (lists : List (List α)) (v : R)
    (h2 : rel s < 0) (hne : lists ≠ [])
    (hb : exit kb (PyRt.index lists 0) s = v) :
    loop k kb lists s = v := by
  obtain ⟨l, rest, rfl⟩ := List.exists_cons_of_ne_nil hne
  rw [PyRt.index_zero] at hb
  rw [← hb]
  exact scan_items_neg (sub := id) H.cons k kb l rest s (H.test_iff l s) h2

/-- normal forms for exit tests written as a difference (`rel_idx - len_list < 0`, `len_list - rel_idx > 0`) -/
theorem sub_neg_iff (a b : Int) : a - b < 0 ↔ a < b := by omega
theorem sub_pos_iff (a b : Int) : 0 < a - b ↔ b < a := by omega
theorem sub_nonneg_iff (a b : Int) : 0 ≤ a - b ↔ b ≤ a := by omega
theorem sub_nonpos_iff (a b : Int) : a - b ≤ 0 ↔ a ≤ b := by omega

/-- `lists[-1]` is the sub-list whose number is `len(lists) - 1` -/
theorem index_neg_one_eq {β : Type} [Inhabited β] (l : List β) (i : Int) (h : i + 1 = PyRt.len l) :
    PyRt.index l (-1) = PyRt.index l i := by
  rw [← PyRt.index_len_sub_one, ← h, Int.add_sub_cancel]

end C10
