/-
C10 — SOURCE TIE of the priority queue (heap mode).  `Src.queueutils.BPQ.*` are generated by
`harness/py2lean.py` from the current text of `boltons.queueutils.BasePriorityQueue.{add, remove, _cull, peek, pop,
__len__}` on every run.  An entry `[priority, count, task]` is ONE cell of the object store (`PyHeap.Heap`), referenced
from both `_entry_map[task]` and the backend `_pq`; `remove` writes `_REMOVED` into it through the dict and `_cull`
sees the mark through the backend.  The backend is ABSTRACT on both sides: a `PyHeap.Backend` instance `SB` (truthiness,
`[0]`, `_push_entry`, `_pop_entry` on a container of REFERENCES, comparing entries through the store) in the generated
code, a `C10.Backend` record `B` (a container of entry VALUES, `mark count` standing for the shared mutation) in
`Model.lean`.  `Impl SB B content repr` says that `SB` on references does what `B` does on the entries the references
point at (`repr : β → σ` replaces every entry by the reference to its cell; marking changes no reference).

`concQ repr g s` embeds a model state `s : PQ T β` together with the ghost list `g` of ALL entries ever allocated (in
allocation order, with their current marks; cell `i` of the store is `g[i]`) into the source's state record.  Because
`add` allocates exactly one cell per `next(self._counter)`, the address of an entry IS its count (`GInv.counts`), which
is how the model's "the counter is the identity of the shared object" becomes literally true of the store.

The runner scans `C10/SrcTie.lean`, which restates the tie theorems of this file at its end.
-/
import BoltonsVerif.Generated.Src_queueutils_bpq
import BoltonsVerif.PyRtLemmas
import BoltonsVerif.C10.Queue

set_option linter.unusedSectionVars false
namespace C10
namespace QTie

open Src.queueutils PyHeap

variable {T V σ β : Type} [DecidableEq T] [Inhabited T] [Inhabited V]

def taskVal : Option T → Val T V
  | some t => .key t
  | none => .sentinel

/-- the Python list `[priority, count, task]` -/
def cellOfE (e : Entry T) : List (Val T V) := [.int e.prio, .int (e.count : Int), taskVal e.task]

/-- the object store: cell `i` is the `i`-th entry ever allocated -/
def heapOf (g : List (Entry T)) : Heap T V := ⟨g.map cellOfE⟩

/-- `self._entry_map`: tasks to references (the address of an entry is its count) -/
def concMap (m : EMap T) : PyRt.Dict T (Val T V) := m.map fun x => (x.1, .ref x.2.2)

/-- the default `priority_key` on ints: `-float(p or 0)` is `-p` -/
def negKey : Int → Except PyExc Int := fun p => .ok (-p)

def concQ (repr : β → σ) (g : List (Entry T)) (s : PQ T β) : BPQ.St T V σ :=
  { heap := heapOf g, pq := repr s.pq, entry_map := concMap s.emap, counter := s.counter, get_priority := negKey }

/-- every entry the backend `b` holds is, with its present mark, cell number `count` of the ghost list `g` -/
def Enc (content : β → List (Entry T)) (g : List (Entry T)) (b : β) : Prop :=
  ∀ e ∈ content b, g[e.count]? = some e

structure Impl (SB : PyHeap.Backend T V σ) (B : Backend T β) (content : β → List (Entry T)) (repr : β → σ) : Prop where
  truthy : ∀ b, SB.truthy (repr b) = decide (B.size b ≠ 0)
  front : ∀ b, SB.front (repr b) = match B.front b with
    | some e => .ok (.ref e.count)
    | none => .error PyExc.IndexError
  push : ∀ g b e, Enc content g b → g[e.count]? = some e →
    SB.push (heapOf g) (repr b) (.ref e.count) = .ok (repr (B.push e b))
  pop : ∀ g b, Enc content g b → SB.pop (heapOf g) (repr b) = match B.popFront b with
    | some (e, b') => .ok (.ref e.count, repr b')
    | none => .error PyExc.IndexError
  mark : ∀ c b, repr (B.mark c b) = repr b
  empty : ∀ b, B.size b = 0 → B.front b = none ∧ B.popFront b = none

structure GInv (wf : β → Prop) (content : β → List (Entry T)) (g : List (Entry T)) (s : PQ T β) : Prop where
  len : g.length = s.counter
  counts : ∀ i (h : i < g.length), (g[i]'h).count = i
  enc : Enc content g s.pq
  inv : Inv wf content s

omit [DecidableEq T] [Inhabited T] [Inhabited V] in
theorem next_heapOf (g : List (Entry T)) : Heap.next (heapOf g : Heap T V) = .ref g.length := by
  simp [Heap.next, heapOf]

omit [DecidableEq T] [Inhabited T] [Inhabited V] in
theorem alloc_heapOf (g : List (Entry T)) (p : Int) (n : Nat) (t : T) :
    Heap.alloc (heapOf g : Heap T V) [.int p, .int (n : Int), .key t] = heapOf (g ++ [⟨p, n, some t⟩]) := by
  simp [Heap.alloc, heapOf, cellOfE, taskVal]

omit [DecidableEq T] [Inhabited T] [Inhabited V] in
theorem cell_heapOf (g : List (Entry T)) {c : Nat} {e : Entry T} (h : g[c]? = some e) :
    (heapOf g : Heap T V).cell c = cellOfE e := by
  simp [Heap.cell, heapOf, h]

omit [DecidableEq T] [Inhabited T] [Inhabited V] in
theorem unpack?_heapOf (g : List (Entry T)) {c : Nat} {e : Entry T} (h : g[c]? = some e) :
    Heap.unpack? (heapOf g : Heap T V) (.ref c) 3 = .ok (cellOfE e) := by
  simp [Heap.unpack?, cell_heapOf g h, cellOfE]

omit [DecidableEq T] [Inhabited T] [Inhabited V] in
/-- `entry[-1] = _REMOVED` on the cell at address `c`: the ghost entry with count `c` is marked -/
theorem set?_mark (g : List (Entry T)) (hcnt : ∀ i (h : i < g.length), (g[i]'h).count = i) {c : Nat}
    (hc : c < g.length) :
    Heap.set? (heapOf g : Heap T V) (.ref c) (-1) .sentinel = .ok (heapOf (g.map (markEntry c))) := by
  have hcell := cell_heapOf (V := V) g (List.getElem?_eq_getElem hc)
  simp only [Heap.set?, hcell, PyRt.normIdx, cellOfE, List.length_cons, List.length_nil]
  simp only [show ((-1 : Int) < 0) from by omega, if_true]
  rw [if_pos (by omega)]
  congr 1
  simp only [heapOf]
  congr 1
  apply List.ext_getElem
  · simp
  · intro i h1 h2
    simp only [List.length_set, List.length_map] at h1
    simp only [List.getElem_set, List.getElem_map]
    have hci := hcnt i h1
    by_cases e : c = i
    · subst e
      simp [markEntry, hci, cellOfE, taskVal]
    · simp only [e, if_false]
      have : ¬ (g[i]'h1).count = c := by rw [hci]; exact Ne.symm e
      simp [markEntry, this]

omit [Inhabited T] [Inhabited V] in
theorem find_concMap (m : EMap T) (t : T) :
    PyRt.Dict.find (concMap m : PyRt.Dict T (Val T V)) t = (emLookup t m).map fun v => Val.ref v.2 := by
  induction m with
  | nil => rfl
  | cons x m ih =>
    simp only [concMap, List.map_cons, PyRt.Dict.find_cons, emLookup] at ih ⊢
    by_cases h : x.1 = t
    · simp [h]
    · simp only [if_neg h]; exact ih

omit [Inhabited T] [Inhabited V] in
theorem contains_concMap (m : EMap T) (t : T) :
    PyRt.Dict.contains (concMap m : PyRt.Dict T (Val T V)) t = (emLookup t m).isSome := by
  rw [PyRt.Dict.contains_eq, find_concMap]; cases emLookup t m <;> rfl

omit [Inhabited T] [Inhabited V] in
theorem erase_concMap (m : EMap T) (t : T) :
    PyRt.Dict.erase (concMap m : PyRt.Dict T (Val T V)) t = concMap (emErase t m) := by
  unfold PyRt.Dict.erase concMap emErase
  rw [List.filter_map]
  rfl

omit [Inhabited T] [Inhabited V] in
theorem pop?_concMap (m : EMap T) (t : T) :
    PyRt.Dict.pop? (concMap m : PyRt.Dict T (Val T V)) t = match emLookup t m with
      | some v => .ok (.ref v.2, concMap (emErase t m))
      | none => .error PyExc.KeyError := by
  unfold PyRt.Dict.pop?
  rw [find_concMap, erase_concMap]
  cases emLookup t m <;> rfl

omit [Inhabited T] [Inhabited V] in
theorem del?_concMap (m : EMap T) (t : T) :
    PyRt.Dict.del? (concMap m : PyRt.Dict T (Val T V)) t =
      if (emLookup t m).isSome then .ok (concMap (emErase t m)) else .error PyExc.KeyError := by
  unfold PyRt.Dict.del?
  rw [contains_concMap, erase_concMap]

omit [Inhabited T] [Inhabited V] in
theorem set_concMap (m : EMap T) (t : T) (p : Int) (c : Nat) :
    PyRt.Dict.set (concMap m : PyRt.Dict T (Val T V)) t (.ref c) = concMap (emSet t (p, c) m) := by
  induction m with
  | nil => rfl
  | cons x m ih =>
    simp only [concMap, List.map_cons, PyRt.Dict.set, emSet] at ih ⊢
    by_cases h : x.1 = t
    · simp [h]
    · simp only [if_neg h, List.map_cons, ih]

omit [DecidableEq T] [Inhabited T] [Inhabited V] in
theorem len_concMap (m : EMap T) : PyRt.Dict.len (concMap m : PyRt.Dict T (Val T V)) = (m.length : Int) := by
  simp [PyRt.Dict.len, concMap]

section methods
variable {SB : PyHeap.Backend T V σ} {B : Backend T β} {wf : β → Prop} {content : β → List (Entry T)} {repr : β → σ}

omit [Inhabited T] [Inhabited V] in
theorem GInv.count_lt (hG : GInv wf content g s) {t : T} {v : Int × Nat} (hl : emLookup t s.emap = some v) :
    v.2 < g.length := by
  rw [hG.len]
  exact hG.inv.count_lt (emLookup_mem t s.emap v hl)

omit [Inhabited T] [Inhabited V] in
theorem enc_mark (L : Lawful B wf content) {g : List (Entry T)} {b : β} (hwf : wf b) (he : Enc content g b) (c : Nat) :
    Enc content (g.map (markEntry c)) (B.mark c b) := by
  intro e' he'
  have := ((L.mark c b hwf).2.mem_iff).1 he'
  obtain ⟨e, hein, rfl⟩ := List.mem_map.1 this
  rw [markEntry_count, List.getElem?_map, he e hein]
  rfl

/-- SOURCE TIE: `remove(task)`: KeyError for an absent task (nothing changes); otherwise the shared entry is marked
    through the dict and the model's `mark` describes what the backend now sees -/
theorem src_remove (I : Impl SB B content repr) (g : List (Entry T)) (s : PQ T β) (hG : GInv wf content g s) (t : T) :
    BPQ.remove (concQ (V := V) repr g s) t = match emLookup t s.emap with
      | none => (.error PyExc.KeyError, concQ repr g s)
      | some v => (.ok (), concQ repr (g.map (markEntry v.2)) ⟨B.mark v.2 s.pq, emErase t s.emap, s.counter⟩) := by
  unfold BPQ.remove BPQ.remove.body
  cases hl : emLookup t s.emap with
  | none => simp only [concQ, pop?_concMap, hl]
  | some v =>
    have hc := hG.count_lt hl
    simp only [concQ, pop?_concMap, hl, set?_mark g hG.counts hc, I.mark]

omit [Inhabited T] [Inhabited V] in
theorem GInv.remove (L : Lawful B wf content) (hG : GInv wf content g s) {t : T} {v : Int × Nat}
    (hl : emLookup t s.emap = some v) :
    GInv wf content (g.map (markEntry v.2)) ⟨B.mark v.2 s.pq, emErase t s.emap, s.counter⟩ := by
  refine ⟨by simp [hG.len], ?_, enc_mark L hG.inv.wf hG.enc v.2, (remove_inv L s hG.inv t v.1 v.2 hl).2⟩
  intro i h
  simp only [List.length_map] at h
  simp only [List.getElem_map, markEntry_count]
  exact hG.counts i h

omit [Inhabited T] [Inhabited V] in
theorem enc_append {g : List (Entry T)} {b : β} (he : Enc content g b) (x : Entry T) : Enc content (g ++ [x]) b := by
  intro e hein
  have := he e hein
  rw [List.getElem?_append_left (List.getElem?_eq_some_iff.mp this).1]
  exact this

/-- the ghost list after `remove(t)`, and after the `if task in self._entry_map: self.remove(task)` of `add`: the old
    entry of `t`, if there is one, is marked -/
def gDrop (g : List (Entry T)) (s : PQ T β) (t : T) : List (Entry T) :=
  match emLookup t s.emap with
  | some v => g.map (markEntry v.2)
  | none => g

/-- the second half of `add` on a state where the task is absent -/
theorem src_add_fresh (I : Impl SB B content repr) (g : List (Entry T)) (s : PQ T β)
    (hG : GInv wf content g s) (t : T) (p : Int) (hl : emLookup t s.emap = none) :
    BPQ.add (concQ (V := V) repr g s) t p = (.ok (), concQ repr (g ++ [⟨-p, s.counter, some t⟩]) (s.pushNew B t p)) := by
  have hlen := hG.len
  have henc : Enc content (g ++ [⟨-p, s.counter, some t⟩]) s.pq := enc_append hG.enc _
  have hget : (g ++ [(⟨-p, s.counter, some t⟩ : Entry T)])[(⟨-p, s.counter, some t⟩ : Entry T).count]?
      = some ⟨-p, s.counter, some t⟩ := by
    simp [← hlen]
  have hpush := I.push _ s.pq _ henc hget
  simp only at hpush
  unfold BPQ.add BPQ.add.body
  simp only [concQ, callOpt?, negKey, contains_concMap, hl, Option.isSome_none, Bool.false_eq_true, if_false,
    alloc_heapOf, next_heapOf, hlen, set_concMap _ _ (-p), hpush, PQ.pushNew]
  simp only [Prod.mk.injEq, BPQ.St.mk.injEq, true_and, and_true]
  omega

omit [Inhabited T] [Inhabited V] in
theorem GInv.pushNew (L : Lawful B wf content) (hG : GInv wf content g s) (t : T) (p : Int)
    (hl : emLookup t s.emap = none) :
    GInv wf content (g ++ [⟨-p, s.counter, some t⟩]) (s.pushNew B t p) := by
  have hfresh := (emLookup_none t s.emap).1 hl
  refine ⟨by simp [PQ.pushNew, hG.len], ?_, ?_, (pushNew_inv L s hG.inv t p hfresh).1⟩
  · intro i h
    simp only [List.length_append, List.length_singleton] at h
    by_cases hi : i < g.length
    · rw [List.getElem_append_left hi]; exact hG.counts i hi
    · have : i = g.length := by omega
      subst this
      simp [hG.len]
  · intro e hein
    have hperm := (L.push ⟨-p, s.counter, some t⟩ s.pq hG.inv.wf).2
    have := (hperm.mem_iff).1 hein
    rcases List.mem_cons.1 this with rfl | hmem
    · simp [← hG.len]
    · exact enc_append hG.enc _ e hmem

/-- SOURCE TIE: `add(task, priority)` never raises; an old entry of the task is marked through the dict, ONE new cell
    is allocated (its address is the counter value), stored in `_entry_map` and pushed: the model's `PQ.add` -/
theorem src_add (I : Impl SB B content repr) (L : Lawful B wf content) (g : List (Entry T)) (s : PQ T β)
    (hG : GInv wf content g s) (t : T) (p : Int) :
    BPQ.add (concQ (V := V) repr g s) t p =
      (.ok (), concQ repr (gDrop g s t ++ [⟨-p, s.counter, some t⟩]) (s.add B t p)) ∧
    GInv wf content (gDrop g s t ++ [⟨-p, s.counter, some t⟩]) (s.add B t p) := by
  unfold gDrop PQ.add PQ.dropOld
  cases hl : emLookup t s.emap with
  | none => exact ⟨src_add_fresh I g s hG t p hl, hG.pushNew L t p hl⟩
  | some v =>
    have hG1 := hG.remove L hl
    have hl1 : emLookup t (emErase t s.emap) = none := emLookup_erase_self t s.emap
    have h1 := src_add_fresh (V := V) I _ _ hG1 t p hl1
    have hrm : (s.remove B t).getD s = ⟨B.mark v.2 s.pq, emErase t s.emap, s.counter⟩ := by
      simp [PQ.remove, hl]
    simp only [hrm]
    refine ⟨?_, hG1.pushNew L t p hl1⟩
    rw [← h1]
    have hr := src_remove (V := V) I g s hG t
    rw [hl] at hr
    simp only at hr
    unfold BPQ.add BPQ.add.body
    simp only [hr]
    simp only [concQ, callOpt?, negKey, contains_concMap, hl, hl1, Option.isSome_some, Option.isSome_none,
      Bool.false_eq_true, if_true, if_false]

omit [Inhabited T] [Inhabited V] in
theorem enc_erase {g : List (Entry T)} {b b' : β} {e : Entry T} (he : Enc content g b)
    (hperm : (content b').Perm ((content b).erase e)) : Enc content g b' :=
  fun x hx => he x (List.mem_of_mem_erase (hperm.mem_iff.mp hx))

/-- the `while self._pq:` loop of `_cull` on the generated definitions, with any fuel above the number of entries the
    backend holds, against the model's loop with its own fuel `len(self._pq)` -/
theorem cull_loop (I : Impl SB B content repr) (L : Lawful B wf content) (g : List (Entry T)) (m : EMap T) (n : Nat)
    (k kb : BPQ.cull.St T V σ → Except PyExc Unit × BPQ.St T V σ)
    (kexc : PyExc → BPQ.cull.St T V σ → Except PyExc Unit × BPQ.St T V σ) :
    ∀ (F : Nat) (b : β) (st : BPQ.cull.St T V σ), st.self = concQ repr g ⟨b, m, n⟩ → GInv wf content g ⟨b, m, n⟩ →
      (content b).length < F →
      GInv wf content g ⟨cull B (B.size b) b, m, n⟩ ∧
      ∃ st' : BPQ.cull.St T V σ, st'.self = concQ repr g ⟨cull B (B.size b) b, m, n⟩ ∧ st'.raise_exc = st.raise_exc ∧
        BPQ.cull.loop1 k kb kexc F st =
          if B.size (cull B (B.size b) b) = 0 then k st' else (.ok (), st'.self) := by
  intro F
  induction F with
  | zero => intro b st hst hG hle; omega
  | succ F ih =>
    intro b st hst hG hle
    by_cases h0 : B.size b = 0
    · rw [cull_of_empty h0]
      refine ⟨hG, st, hst, rfl, ?_⟩
      rw [BPQ.cull.loop1]
      simp only [hst, concQ, I.truthy, h0, ne_eq, not_true_eq_false, decide_false,
        Bool.false_eq_true, if_false, if_true]
    · obtain ⟨e, b', hf⟩ := L.front_pop (b := b) hG.inv.wf h0
      have hcell := hG.enc e hf.mem
      have hI_pop := I.pop g b hG.enc
      rw [hf.pop] at hI_pop
      have hI_front := I.front b
      rw [hf.front] at hI_front
      cases htask : e.task with
      | some t =>
        rw [cull_of_live hf.front htask]
        refine ⟨hG, { st with loc1 := .int e.prio, loc2 := .int (e.count : Int), loc3 := .key t }, hst, rfl, ?_⟩
        rw [BPQ.cull.loop1]
        simp only [hst, concQ, I.truthy, h0, hI_front, unpack?_heapOf g hcell, cellOfE, htask, taskVal, nth,
          Val.isSentinel, ne_eq, not_false_eq_true, decide_true, if_true, if_false, Bool.false_eq_true,
          List.getD_cons_zero, List.getD_cons_succ]
      | none =>
        -- the model's fuel is the size, which the pop lowers by one
        have hs : B.size b = B.size b' + 1 := by rw [L.size_eq b hG.inv.wf, L.size_eq b' hf.rest_wf, hf.rest_length]
        rw [hs, cull_of_dead h0 hf.front htask hf.pop]
        have hG' : GInv wf content g ⟨b', m, n⟩ :=
          ⟨hG.len, hG.counts, enc_erase hG.enc hf.rest_perm, erase_dead_inv m n b b' hG.inv e htask hf.rest_wf hf.rest_perm⟩
        obtain ⟨hG2, st2, h1, h2, h3⟩ := ih b'
          { st with self := concQ repr g ⟨b', m, n⟩, loc1 := .int e.prio, loc2 := .int (e.count : Int),
                    loc3 := .sentinel } rfl hG' (by have := hf.rest_length; omega)
        refine ⟨hG2, st2, h1, h2, ?_⟩
        rw [← h3, BPQ.cull.loop1]
        simp only [hst, concQ, I.truthy, h0, hI_front, hI_pop, unpack?_heapOf g hcell, cellOfE, htask, taskVal, nth,
          Val.isSentinel, ne_eq, not_false_eq_true, decide_true, if_true,
          List.getD_cons_zero, List.getD_cons_succ]

/-- SOURCE TIE: `_cull(raise_exc)` with any loop fuel above the number of entries the backend holds: the loop does not
    run out of fuel, removes the entries marked `_REMOVED` from the front — the model's `cull` — and raises IndexError
    iff the backend ends up empty and `raise_exc` is set -/
theorem src_cull (I : Impl SB B content repr) (L : Lawful B wf content) (g : List (Entry T)) (s : PQ T β)
    (hG : GInv wf content g s) (r : Bool) (lfuel : Nat) (hf : B.size s.pq + 1 ≤ lfuel) :
    BPQ.cull lfuel (concQ (V := V) repr g s) r =
      ((if B.size (cull B (B.size s.pq) s.pq) = 0 ∧ r = true then .error PyExc.IndexError else .ok ()),
        concQ repr g ⟨cull B (B.size s.pq) s.pq, s.emap, s.counter⟩) ∧
    GInv wf content g ⟨cull B (B.size s.pq) s.pq, s.emap, s.counter⟩ := by
  have hlen : (content s.pq).length < lfuel := by rw [← L.size_eq s.pq hG.inv.wf]; omega
  unfold BPQ.cull BPQ.cull.body
  obtain ⟨hG2, st', h1, h2, h3⟩ := cull_loop (V := V) I L g s.emap s.counter
    (fun s => if s.raise_exc = true then (.error PyExc.IndexError, s.self) else (.ok (), s.self))
    (fun s => if s.raise_exc = true then (.error PyExc.IndexError, s.self) else (.ok (), s.self))
    (fun e s => (.error e, s.self)) lfuel s.pq
    { self := concQ repr g s, raise_exc := r, loc1 := .none, loc2 := .none, loc3 := .none } rfl hG hlen
  refine ⟨?_, hG2⟩
  rw [h3]
  simp only at h2
  by_cases h0 : B.size (cull B (B.size s.pq) s.pq) = 0
  · cases r <;> simp [h0, h2, h1]
  · simp [h0, h1]

/-! for `peek` / `pop` a default is "object number `i`": the value type `V` is `Nat`, as in `Op` -/

/-- the model's `Out` as what `peek` / `pop` return or raise -/
def outQ : Out T → Except PyExc (Val T Nat)
  | .task t => .ok (.key t)
  | .dflt i => .ok (.val i)
  | .sentinel => .ok .sentinel
  | .indexError => .error PyExc.IndexError
  | .keyError => .error PyExc.KeyError
  | _ => .error PyExc.OutOfFuel

theorem emptyOut_conc (d : Option Nat) (st : BPQ.St T Nat σ) :
    (if d ≠ none then ((.ok (Val.val (PyRt.unwrap d)) : Except PyExc (Val T Nat)), st) else (.error PyExc.IndexError, st))
      = (outQ (emptyOut d), st) := by
  cases d <;> simp [emptyOut, outQ, PyRt.unwrap]

/-- SOURCE TIE: `peek(default)` is `PQ.peek` (`none` = the argument is omitted) -/
theorem src_peek {SB : PyHeap.Backend T Nat σ} (I : Impl SB B content repr) (L : Lawful B wf content) (g : List (Entry T)) (s : PQ T β)
    (hG : GInv wf content g s) (d : Option Nat) (lfuel : Nat) (hf : B.size s.pq + 1 ≤ lfuel) :
    BPQ.peek lfuel (concQ (V := Nat) repr g s) d = (outQ (s.peek B d).2, concQ repr g (s.peek B d).1) ∧
    GInv wf content g (s.peek B d).1 := by
  obtain ⟨hc, hGc⟩ := src_cull (V := Nat) I L g s hG true lfuel hf
  unfold PQ.peek
  unfold BPQ.peek BPQ.peek.body
  by_cases h0 : B.size (cull B (B.size s.pq) s.pq) = 0
  · simp only [h0, and_self, if_true] at hc
    rw [PQ.peekAt_of_empty s h0]
    refine ⟨?_, hGc⟩
    simp only [hc, if_true]
    exact emptyOut_conc d _
  · simp only [h0, false_and, if_false] at hc
    obtain ⟨e, t, b', hcf⟩ := culled_front L s hG.inv h0
    rw [hcf.peekAt]
    have hIf := I.front (cull B (B.size s.pq) s.pq)
    rw [hcf.front] at hIf
    refine ⟨?_, hGc⟩
    simp only [hc]
    simp only [concQ, hIf, unpack?_heapOf g (hGc.enc e hcf.mem), cellOfE, nth, List.getD_cons_zero, List.getD_cons_succ,
      hcf.live, taskVal, outQ]

/-- SOURCE TIE: `pop(default)` is `PQ.pop` -/
theorem src_pop {SB : PyHeap.Backend T Nat σ} (I : Impl SB B content repr) (L : Lawful B wf content) (g : List (Entry T)) (s : PQ T β)
    (hG : GInv wf content g s) (d : Option Nat) (lfuel : Nat) (hf : B.size s.pq + 1 ≤ lfuel) :
    BPQ.pop lfuel (concQ (V := Nat) repr g s) d = (outQ (s.pop B d).2, concQ repr g (s.pop B d).1) ∧
    GInv wf content g (s.pop B d).1 := by
  obtain ⟨hc, hGc⟩ := src_cull (V := Nat) I L g s hG true lfuel hf
  unfold PQ.pop
  unfold BPQ.pop BPQ.pop.body
  by_cases h0 : B.size (cull B (B.size s.pq) s.pq) = 0
  · simp only [h0, and_self, if_true] at hc
    rw [PQ.popAt_of_empty s h0]
    refine ⟨?_, hGc⟩
    simp only [hc, if_true]
    exact emptyOut_conc d _
  · simp only [h0, false_and, if_false] at hc
    obtain ⟨e, t, b', hcf⟩ := culled_front L s hG.inv h0
    rw [hcf.popAt]
    have hIp := I.pop g (cull B (B.size s.pq) s.pq) hGc.enc
    rw [hcf.pop] at hIp
    refine ⟨?_, hGc.len, hGc.counts, enc_erase hGc.enc hcf.rest_perm, hcf.inv⟩
    simp only [hc]
    simp [concQ, hIp, unpack?_heapOf g (hGc.enc e hcf.mem), cellOfE, nth, hcf.live, taskVal, Val.asKey?, del?_concMap,
      hcf.lookup, outQ]

/-- SOURCE TIE: `len(queue)` is the number of live tasks -/
theorem src_len (g : List (Entry T)) (s : PQ T β) :
    BPQ.len (concQ (V := V) repr g s) = .ok (s.emap.length : Int) := by
  unfold BPQ.len BPQ.len.body
  simp only [concQ, len_concMap]

def ofUnitQ : Except PyExc Unit → Out T
  | .ok () => .none
  | .error PyExc.KeyError => .keyError
  | .error _ => .indexError

def ofValQ : Except PyExc (Val T Nat) → Out T
  | .ok (.key t) => .task t
  | .ok (.val i) => .dflt i
  | .ok _ => .sentinel
  | .error PyExc.KeyError => .keyError
  | .error _ => .indexError

/-- one public call on the GENERATED definitions; the loop fuel of `_cull` is read off the object's own counter -/
def srcStepQ [PyHeap.Backend T Nat σ] (st : BPQ.St T Nat σ) : Op T → Out T × BPQ.St T Nat σ
  | .add t p => let r := BPQ.add st t p; (ofUnitQ r.1, r.2)
  | .remove t => let r := BPQ.remove st t; (ofUnitQ r.1, r.2)
  | .pop d => let r := BPQ.pop (st.counter.toNat + 1) st d; (ofValQ r.1, r.2)
  | .peek d => let r := BPQ.peek (st.counter.toNat + 1) st d; (ofValQ r.1, r.2)
  | .len => (match BPQ.len st with | .ok n => .len n.toNat | .error _ => .indexError, st)

def srcRunQ [PyHeap.Backend T Nat σ] (st : BPQ.St T Nat σ) : List (Op T) → BPQ.St T Nat σ × List (Out T)
  | [] => (st, [])
  | op :: ops => ((srcRunQ (srcStepQ st op).2 ops).1, (srcStepQ st op).1 :: (srcRunQ (srcStepQ st op).2 ops).2)

/-- the ghost list (all entries ever allocated, with their marks) after one call -/
def gAfter (g : List (Entry T)) (s : PQ T β) : Op T → List (Entry T)
  | .add t p => gDrop g s t ++ [⟨-p, s.counter, some t⟩]
  | .remove t => gDrop g s t
  | _ => g

omit [Inhabited T] in
theorem ofValQ_emptyOut (d : Option Nat) : ofValQ (outQ (emptyOut d : Out T)) = emptyOut d := by
  cases d <;> rfl

/-- SOURCE TIE (one step): same result / exception as the model's `PQ.step`, image of its new state -/
theorem src_step_simulates {SB : PyHeap.Backend T Nat σ} (I : Impl SB B content repr) (L : Lawful B wf content)
    (g : List (Entry T)) (s : PQ T β) (hG : GInv wf content g s) (op : Op T) :
    srcStepQ (concQ (V := Nat) repr g s) op = ((s.step B op).2, concQ repr (gAfter g s op) (s.step B op).1) ∧
    GInv wf content (gAfter g s op) (s.step B op).1 := by
  have hfuel : B.size s.pq + 1 ≤ (concQ (V := Nat) repr g s).counter.toNat + 1 := by
    have := size_le_counter L hG.inv
    simp only [concQ, Int.toNat_natCast]; omega
  cases op with
  | add t p =>
    obtain ⟨h1, h2⟩ := src_add (V := Nat) I L g s hG t p
    exact ⟨by simp only [srcStepQ, h1, gAfter, PQ.step]; rfl, h2⟩
  | remove t =>
    have h1 := src_remove (V := Nat) I g s hG t
    simp only [srcStepQ, gAfter, gDrop, PQ.step, PQ.remove, h1]
    cases hl : emLookup t s.emap with
    | none => exact ⟨rfl, hG⟩
    | some v => exact ⟨rfl, hG.remove L hl⟩
  | pop d =>
    obtain ⟨h1, h2⟩ := src_pop I L g s hG d _ hfuel
    refine ⟨?_, h2⟩
    simp only [srcStepQ, h1, gAfter, PQ.step]
    congr 1
    rcases (pop_peek_out L s hG.inv d).1 with h | ⟨t, h⟩ <;> rw [h]
    · exact ofValQ_emptyOut d
    · rfl
  | peek d =>
    obtain ⟨h1, h2⟩ := src_peek I L g s hG d _ hfuel
    refine ⟨?_, h2⟩
    simp only [srcStepQ, h1, gAfter, PQ.step]
    congr 1
    rcases (pop_peek_out L s hG.inv d).2 with h | ⟨t, h⟩ <;> rw [h]
    · exact ofValQ_emptyOut d
    · rfl
  | len =>
    refine ⟨?_, hG⟩
    simp only [srcStepQ, src_len, gAfter, PQ.step, Int.toNat_natCast]

/-- SOURCE TIE (histories): every history of public calls on the generated definitions returns / raises, call by
    call, what the model queue does, and ends in the image of the model's state (with some ghost list) -/
theorem src_runFrom {SB : PyHeap.Backend T Nat σ} (I : Impl SB B content repr) (L : Lawful B wf content)
    (ops : List (Op T)) : ∀ (g : List (Entry T)) (s : PQ T β), GInv wf content g s →
      ∃ g', (srcRunQ (concQ (V := Nat) repr g s) ops).1 = concQ repr g' (PQ.runFrom B s ops).1 ∧
        (srcRunQ (concQ (V := Nat) repr g s) ops).2 = (PQ.runFrom B s ops).2 ∧
        GInv wf content g' (PQ.runFrom B s ops).1 := by
  induction ops with
  | nil => intro g s hG; exact ⟨g, rfl, rfl, hG⟩
  | cons op ops ih =>
    intro g s hG
    obtain ⟨h1, h2⟩ := src_step_simulates I L g s hG op
    obtain ⟨g', i1, i2, i3⟩ := ih _ _ h2
    refine ⟨g', ?_, ?_, i3⟩
    · simp only [srcRunQ, PQ.runFrom, h1]; exact i1
    · simp only [srcRunQ, PQ.runFrom, h1, i2]

end methods

/-! ### `heapq` on a list of REFERENCES is `heapq` on the entries they point at

`heappush` / `heappop` of `Model.lean` are generic in the item type and the comparison; applied to references compared
through the store they commute with `map (reference-of)`. -/

section mapping
variable {α γ : Type} (f : α → γ) (lt : α → α → Bool) (lt' : γ → γ → Bool) (P : α → Prop)
  (hlt : ∀ a b, P a → P b → lt' (f a) (f b) = lt a b)

theorem all_set {l : List α} (hl : ∀ y ∈ l, P y) {p : α} (hp : P p) (i : Nat) : ∀ y ∈ l.set i p, P y := by
  intro y hy
  rcases List.mem_or_eq_of_mem_set hy with h | h
  · exact hl y h
  · exact h ▸ hp

include hlt in
theorem siftDown_map : ∀ (fuel : Nat) (l : List α) (x : α) (pos : Nat), (∀ y ∈ l, P y) → P x →
    siftDownLoop lt' fuel (l.map f) (f x) pos = (siftDownLoop lt fuel l x pos).map f := by
  intro fuel
  induction fuel with
  | zero => intro l x pos hl hx; simp [siftDownLoop, List.map_set]
  | succ fuel ih =>
    intro l x pos hl hx
    simp only [siftDownLoop]
    by_cases h0 : pos = 0
    · simp [h0, List.map_set]
    · simp only [h0, if_false, List.getElem?_map]
      cases hp : l[(pos - 1) / 2]? with
      | none => simp [List.map_set]
      | some p =>
        have hpP : P p := hl p (List.mem_of_getElem? hp)
        simp only [Option.map_some, hlt x p hx hpP]
        by_cases hc : lt x p = true
        · simp only [hc, if_true]
          have := ih (l.set pos p) x ((pos - 1) / 2) (all_set P hl hpP pos) hx
          rw [List.map_set] at this
          exact this
        · simp [hc, List.map_set]

include hlt in
theorem smallerChild_map (l : List α) (hl : ∀ y ∈ l, P y) (pos : Nat) :
    smallerChild lt' (l.map f) pos = smallerChild lt l pos := by
  simp only [smallerChild, List.getElem?_map]
  cases h1 : l[2 * pos + 1]? with
  | none => rfl
  | some a =>
    cases h2 : l[2 * pos + 2]? with
    | none => rfl
    | some b =>
      simp only [Option.map_some, hlt a b (hl a (List.mem_of_getElem? h1)) (hl b (List.mem_of_getElem? h2))]

include hlt in
theorem siftLeaf_map : ∀ (fuel : Nat) (l : List α) (pos : Nat), (∀ y ∈ l, P y) →
    siftLeafLoop lt' fuel (l.map f) pos = ((siftLeafLoop lt fuel l pos).1.map f, (siftLeafLoop lt fuel l pos).2) ∧
    ∀ y ∈ (siftLeafLoop lt fuel l pos).1, P y := by
  intro fuel
  induction fuel with
  | zero => intro l pos hl; exact ⟨rfl, hl⟩
  | succ fuel ih =>
    intro l pos hl
    simp only [siftLeafLoop, List.length_map, smallerChild_map f lt lt' P hlt l hl, List.getElem?_map]
    by_cases hc : 2 * pos + 1 < l.length
    · simp only [hc, if_true]
      cases hy : l[smallerChild lt l pos]? with
      | none => exact ⟨rfl, hl⟩
      | some y =>
        have hyP : P y := hl y (List.mem_of_getElem? hy)
        simp only [Option.map_some]
        have := ih (l.set pos y) (smallerChild lt l pos) (all_set P hl hyP pos)
        rw [List.map_set] at this
        exact this
    · simp only [hc, if_false]; exact ⟨trivial, hl⟩

include hlt in
theorem heappush_map (l : List α) (x : α) (hl : ∀ y ∈ l, P y) (hx : P x) :
    heappush lt' (f x) (l.map f) = (heappush lt x l).map f := by
  unfold heappush
  have := siftDown_map f lt lt' P hlt (l.length + 1) (l ++ [x]) x l.length (by
    intro y hy; rcases List.mem_append.1 hy with h | h
    · exact hl y h
    · simp at h; exact h ▸ hx) hx
  simpa using this

include hlt in
theorem pySiftUp_map (l : List α) (hl : ∀ y ∈ l, P y) : pySiftUp lt' (l.map f) = (pySiftUp lt l).map f := by
  unfold pySiftUp
  simp only [List.getElem?_map, List.length_map]
  cases h0 : l[0]? with
  | none => rfl
  | some x =>
    have hx : P x := hl x (List.mem_of_getElem? h0)
    obtain ⟨h1, h2⟩ := siftLeaf_map f lt lt' P hlt l.length l 0 hl
    simp only [Option.map_some, h1]
    exact siftDown_map f lt lt' P hlt _ _ x _ h2 hx

include hlt in
theorem heappop_map (l : List α) (hl : ∀ y ∈ l, P y) :
    heappop lt' (l.map f) = (heappop lt l).map fun r => (f r.1, r.2.map f) := by
  unfold heappop
  simp only [List.getLast?_map, ← List.map_dropLast]
  cases hlast : l.getLast? with
  | none => rfl
  | some last =>
    have hlastP : P last := hl last (List.mem_of_getLast? hlast)
    simp only [Option.map_some]
    cases hd : l.dropLast with
    | nil => simp
    | cons first rest =>
      have hrest : ∀ y ∈ last :: rest, P y := by
        intro y hy
        rcases List.mem_cons.1 hy with h | h
        · exact h ▸ hlastP
        · exact hl y ((List.dropLast_sublist l).mem (by rw [hd]; exact List.mem_cons_of_mem _ h))
      have := pySiftUp_map f lt lt' P hlt (last :: rest) hrest
      simp only [List.map_cons] at this
      simp only [List.map_cons, Option.map_some, this]

end mapping

/-- `[priority, count, task]` read through the store: the pair Python's list comparison decides on (the counts of a
    queue's entries differ, so the comparison never reaches the tasks) -/
def refKey (h : Heap T V) : Val T V → Int × Int
  | .ref a => (match h.cell a with | [.int p, .int c, _] => (p, c) | _ => (0, 0))
  | _ => (0, 0)

def refLt (h : Heap T V) (a b : Val T V) : Bool :=
  decide ((refKey h a).1 < (refKey h b).1) ||
    (decide ((refKey h a).1 = (refKey h b).1) && decide ((refKey h a).2 < (refKey h b).2))

/-- the backend of `HeapPriorityQueue` as the generated code sees it: `heapq` on a Python list of references -/
@[reducible] def heapqRefs : PyHeap.Backend T V (List (Val T V)) where
  truthy l := !l.isEmpty
  front l := match l with | x :: _ => .ok x | [] => .error PyExc.IndexError
  push h l v := .ok (heappush (refLt h) v l)
  pop h l := match heappop (refLt h) l with | some (x, l') => .ok (x, l') | none => .error PyExc.IndexError

def refOf (e : Entry T) : Val T V := .ref e.count

omit [DecidableEq T] [Inhabited T] [Inhabited V] in
theorem refLt_eq (g : List (Entry T)) (a b : Entry T) (ha : g[a.count]? = some a) (hb : g[b.count]? = some b) :
    refLt (heapOf g : Heap T V) (refOf a) (refOf b) = a.lt b := by
  simp only [refLt, refKey, refOf, cell_heapOf g ha, cell_heapOf g hb, cellOfE, Entry.lt]
  congr 2
  simp

/-- NON-VACUITY of `Impl`: `heapq` on references implements `binHeap` (= `heapq` on entries, `Model.lean`) -/
theorem heapq_impl : Impl (heapqRefs (T := T) (V := V)) (binHeap (T := T)) id (fun b => b.map refOf) where
  truthy := by intro b; cases b <;> simp [PyHeap.Backend.truthy, binHeap]
  front := by intro b; cases b <;> simp [PyHeap.Backend.front, binHeap, refOf]
  push := by
    intro g b e henc he
    simp only [PyHeap.Backend.push, binHeap]
    have := heappush_map (refOf (V := V)) Entry.lt (refLt (heapOf g)) (fun x => g[x.count]? = some x)
      (fun a b ha hb => refLt_eq g a b ha hb) b e henc he
    rw [show (Val.ref e.count : Val T V) = refOf e from rfl, this]
  pop := by
    intro g b henc
    simp only [PyHeap.Backend.pop, binHeap]
    have := heappop_map (refOf (V := V)) Entry.lt (refLt (heapOf g)) (fun x => g[x.count]? = some x)
      (fun a b ha hb => refLt_eq g a b ha hb) b henc
    rw [this]
    cases heappop Entry.lt b with
    | none => rfl
    | some r => rfl
  mark := by
    intro c b
    simp only [binHeap, List.map_map]
    apply List.map_congr_left
    intro e _
    simp [refOf, markEntry_count]
  empty := by
    intro b hb
    have : b = [] := List.length_eq_zero_iff.mp hb
    subst this
    exact ⟨rfl, rfl⟩

end QTie
end C10
