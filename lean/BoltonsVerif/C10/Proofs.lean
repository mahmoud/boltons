import BoltonsVerif.C10.Defs
/-
C10 — BarrelList operations act on `flatten` like the plain-list operations; `bisect_right` / `insort`.
-/
namespace C10

section Barrel
variable {α : Type}

theorem lenOf_eq (ls : List (List α)) : lenOf ls = ls.flatten.length := by
  induction ls with
  | nil => rfl
  | cons l ls ih => simp [lenOf] at ih ⊢

theorem splitLoop_flatten (h fuel : Nat) (cur : List α) (acc : List (List α)) :
    (splitLoop h fuel cur acc).flatten = cur ++ acc.flatten := by
  induction fuel generalizing cur acc with
  | zero => simp [splitLoop]
  | succ n ih =>
    unfold splitLoop
    split
    · rw [ih]; simp [← List.append_assoc, List.take_append_drop]
    · simp

theorem splitLoop_ne_nil (h fuel : Nat) (cur : List α) (acc : List (List α)) :
    splitLoop h fuel cur acc ≠ [] := by
  induction fuel generalizing cur acc with
  | zero => simp [splitLoop]
  | succ n ih =>
    unfold splitLoop
    split
    · exact ih _ _
    · simp

/-- the fuel `len(cur_list)` given by `balance` suffices: the loop ends because its
    condition is false, i.e. the remaining `cur_list` is no longer than `half` -/
theorem splitLoop_head_le (h fuel : Nat) (cur : List α) (acc : List (List α))
    (hf : cur.length ≤ fuel) :
    ∃ c rest, splitLoop h fuel cur acc = c :: rest ∧ c.length ≤ h := by
  induction fuel generalizing cur acc with
  | zero =>
    refine ⟨cur, acc, by simp [splitLoop], ?_⟩
    omega
  | succ n ih =>
    unfold splitLoop
    split
    · apply ih
      simp only [List.length_take]
      split <;> omega
    · exact ⟨cur, acc, rfl, by omega⟩

theorem balance_flatten (limit : Nat → Nat) (ls : List (List α)) (li : Nat) :
    (balance limit ls li).flatten = ls.flatten := by
  unfold balance
  cases hget : ls[li]? with
  | none => rfl
  | some cur =>
    simp only
    split
    · obtain ⟨hli, hcur⟩ := List.getElem?_eq_some_iff.mp hget
      simp only [List.flatten_append, splitLoop_flatten, List.flatten_nil, List.append_nil]
      conv => rhs; rw [← List.take_append_drop li ls, List.drop_eq_getElem_cons hli, hcur]
      simp
    · rfl

theorem balance_ne_nil (limit : Nat → Nat) (ls : List (List α)) (li : Nat) (h : ls ≠ []) :
    balance limit ls li ≠ [] := by
  unfold balance
  cases hget : ls[li]? with
  | none => exact h
  | some cur =>
    simp only
    split
    · exact List.append_ne_nil_of_left_ne_nil (List.append_ne_nil_of_right_ne_nil _ (splitLoop_ne_nil _ _ _ _)) _
    · exact h

theorem pyInsert_append_left (i : Nat) (x : α) (l r : List α) (h : i < l.length) :
    pyInsert i x (l ++ r) = pyInsert i x l ++ r := by
  simp [pyInsert, List.take_append_of_le_length (Nat.le_of_lt h),
    List.drop_append_of_le_length (Nat.le_of_lt h)]

theorem pyInsert_append_right (i : Nat) (x : α) (l r : List α) (h : l.length ≤ i) :
    pyInsert i x (l ++ r) = l ++ pyInsert (i - l.length) x r := by
  simp [pyInsert, List.take_append, List.drop_append, List.take_of_length_le h,
    List.drop_of_length_le h]

theorem modify_pyInsert_flatten (ls : List (List α)) (i : Nat) (x : α) (h : ls ≠ []) :
    (ls.modify (translate ls i).1 (pyInsert (translate ls i).2 x)).flatten
      = pyInsert i x ls.flatten := by
  fun_induction translate ls i with
  | case1 i => exact absurd rfl h
  | case2 l i => simp
  | case3 l l' ls i hlt =>
    simp [pyInsert_append_left i x l _ hlt]
  | case4 l l' ls i hge ih =>
    have ih := ih (List.cons_ne_nil _ _)
    simp only [List.modify_succ_cons, List.flatten_cons] at ih ⊢
    rw [ih, pyInsert_append_right i x l _ (by omega)]

theorem modify_eraseIdx_flatten (ls : List (List α)) (i : Nat) (h : ls ≠ []) :
    (ls.modify (translate ls i).1 (fun l => l.eraseIdx (translate ls i).2)).flatten
      = ls.flatten.eraseIdx i := by
  fun_induction translate ls i with
  | case1 i => exact absurd rfl h
  | case2 l i => simp
  | case3 l l' ls i hlt =>
    simp [List.eraseIdx_append_of_lt_length hlt]
  | case4 l l' ls i hge ih =>
    have ih := ih (List.cons_ne_nil _ _)
    simp only [List.modify_succ_cons, List.flatten_cons] at ih ⊢
    rw [ih, List.eraseIdx_append_of_length_le (l := l) (by omega)]

theorem BL.empty_ok : (BL.empty : BL α).ok := by simp [BL.ok, BL.empty]
theorem BL.empty_toList : (BL.empty : BL α).toList = [] := by simp [BL.toList, BL.empty]

theorem BL.single_ok (l : List α) : (⟨[l]⟩ : BL α).ok := List.cons_ne_nil _ _
theorem BL.single_toList (l : List α) : (⟨[l]⟩ : BL α).toList = l := List.append_nil l

theorem BL.len_eq (b : BL α) : b.len = b.toList.length := lenOf_eq b.lists

theorem BL.get?_eq (b : BL α) (h : b.ok) (i : Nat) : b.get? i = b.toList[i]? := by
  obtain ⟨ls⟩ := b
  unfold BL.get? BL.toList
  simp only
  fun_induction translate ls i with
  | case1 i => exact absurd rfl h
  | case2 l i => simp
  | case3 l l' ls i hlt =>
    simp [List.getElem?_append_left hlt]
  | case4 l l' ls i hge ih =>
    have ih := ih (List.cons_ne_nil _ _)
    simp only [List.getElem?_cons_succ]
    rw [ih]
    conv => rhs; rw [List.flatten_cons, List.getElem?_append_right (Nat.le_of_not_lt hge)]

theorem BL.insert_ok (limit : Nat → Nat) (b : BL α) (h : b.ok) (i : Nat) (x : α) :
    (b.insert limit i x).ok := by
  unfold BL.insert BL.ok
  split <;> exact balance_ne_nil _ _ _ (mt List.modify_eq_nil_iff.mp h)

theorem BL.insert_toList (limit : Nat → Nat) (b : BL α) (h : b.ok) (i : Nat) (x : α) :
    (b.insert limit i x).toList = pyInsert i x b.toList := by
  unfold BL.insert BL.toList
  split
  · rename_i h1
    simp only [balance_flatten]
    match hb : b.lists, h1 with
    | [l], _ => simp
  · simp only [balance_flatten]
    exact modify_pyInsert_flatten b.lists i x h

theorem BL.pop?_eq_none_iff (limit : Nat → Nat) (b : BL α) (i : Nat) : b.pop? limit i = none ↔ b.get? i = none := by
  unfold BL.pop? BL.get?
  cases b.lists[(translate b.lists i).1]? with
  | none => simp only
  | some l =>
    simp only
    cases l[(translate b.lists i).2]? <;> simp only [reduceCtorEq]

theorem BL.pop?_none (limit : Nat → Nat) (b : BL α) (h : b.ok) (i : Nat) :
    b.pop? limit i = none ↔ b.toList.length ≤ i := by
  rw [BL.pop?_eq_none_iff, BL.get?_eq b h, List.getElem?_eq_none_iff]

theorem BL.pop?_some (limit : Nat → Nat) (b : BL α) (h : b.ok) (i : Nat) (x : α) (b' : BL α)
    (hp : b.pop? limit i = some (x, b')) :
    b.toList[i]? = some x ∧ b'.toList = b.toList.eraseIdx i ∧ b'.ok := by
  have hg := BL.get?_eq b h i
  unfold BL.get? at hg
  unfold BL.pop? at hp
  cases h1 : b.lists[(translate b.lists i).1]? with
  | none => simp [h1] at hp
  | some l =>
    simp only [h1] at hg hp
    cases h2 : l[(translate b.lists i).2]? with
    | none => simp [h2] at hp
    | some y =>
      simp only [h2] at hg hp
      injection hp with hp
      injection hp with hx hb
      subst hx hb
      refine ⟨hg.symm, ?_, ?_⟩
      · simp only [BL.toList, balance_flatten]
        exact modify_eraseIdx_flatten b.lists i h
      · exact balance_ne_nil _ _ _ (mt List.modify_eq_nil_iff.mp h)

/-- `bl.pop(0)`, the only `pop` the queue performs: the head of `list(bl)` comes off -/
theorem BL.pop?_zero (limit : Nat → Nat) (b : BL α) (h : b.ok) :
    (b.pop? limit 0 = none ∧ b.toList = []) ∨
    ∃ x b', b.pop? limit 0 = some (x, b') ∧ b.toList = x :: b'.toList ∧ b'.ok := by
  cases hp : b.pop? limit 0 with
  | none => exact Or.inl ⟨rfl, List.length_eq_zero_iff.mp (Nat.le_zero.mp ((BL.pop?_none limit b h 0).mp hp))⟩
  | some r =>
    obtain ⟨h1, h2, h3⟩ := BL.pop?_some limit b h 0 r.1 r.2 hp
    refine Or.inr ⟨r.1, r.2, rfl, ?_, h3⟩
    cases hl : b.toList with
    | nil => rw [hl] at h1; cases h1
    | cons y tl =>
      rw [hl] at h1 h2
      rw [h2, Option.some.inj h1]
      rfl

theorem modify_last_append (ls : List (List α)) (x : α) (h : ls ≠ []) :
    (ls.modify (ls.length - 1) (fun l => l ++ [x])).flatten = ls.flatten ++ [x] := by
  induction ls with
  | nil => exact absurd rfl h
  | cons l ls ih =>
    cases ls with
    | nil => simp
    | cons l' ls =>
      have := ih (List.cons_ne_nil _ _)
      simp only [List.length_cons, Nat.add_sub_cancel, List.modify_succ_cons, List.flatten_cons] at this ⊢
      rw [this]; simp

theorem BL.append_toList (b : BL α) (h : b.ok) (x : α) : (b.append x).toList = b.toList ++ [x] :=
  modify_last_append b.lists x h

theorem BL.append_ok (b : BL α) (h : b.ok) (x : α) : (b.append x).ok :=
  mt List.modify_eq_nil_iff.mp h

/-- the loop invariant is the specification itself, with `lo` and `hi` for the returned index -/
theorem bisectLoop_spec (lt : α → α → Bool) (ho : BisectOrder lt) (x : α) (b : BL α) (hb : b.ok)
    (hs : Asc lt b.toList) (fuel lo hi : Nat) (hfuel : hi - lo ≤ fuel) (hlohi : lo ≤ hi)
    (hhi : hi ≤ b.toList.length)
    (hlo : ∀ y ∈ b.toList.take lo, lt x y = false) (hup : ∀ y ∈ b.toList.drop hi, lt x y = true) :
    bisectLoop lt x b fuel lo hi ≤ b.toList.length ∧
    (∀ y ∈ b.toList.take (bisectLoop lt x b fuel lo hi), lt x y = false) ∧
    (∀ y ∈ b.toList.drop (bisectLoop lt x b fuel lo hi), lt x y = true) := by
  induction fuel generalizing lo hi with
  | zero =>
    obtain rfl : lo = hi := by omega
    exact ⟨hhi, hlo, hup⟩
  | succ n ih =>
    unfold bisectLoop
    by_cases hlt : lo < hi
    · rw [if_pos hlt]
      have hm : lo ≤ (lo + hi) / 2 ∧ (lo + hi) / 2 < hi := by omega
      generalize (lo + hi) / 2 = mid at hm ⊢
      have hmid : mid < b.toList.length := by omega
      rw [BL.get?_eq b hb, List.getElem?_eq_getElem hmid]
      -- the ascending list cut at `mid`: what stands before is `≤ l[mid]`, what stands after is `≥ l[mid]`
      have hcut := hs
      unfold Asc at hcut
      rw [← List.take_append_drop mid b.toList, List.drop_eq_getElem_cons hmid, List.pairwise_append,
        List.pairwise_cons] at hcut
      simp only
      split
      · rename_i hx
        apply ih lo mid (by omega) (by omega) (by omega) hlo
        intro y hy
        rw [List.drop_eq_getElem_cons hmid] at hy
        rcases List.mem_cons.mp hy with rfl | hy
        · exact hx
        · exact ho.lt_of_lt_of_ge x _ _ hx (hcut.2.1.1 y hy)
      · rename_i hx
        have hx : lt x (b.toList[mid]) = false := by simpa using hx
        apply ih (mid + 1) hi (by omega) (by omega) hhi _ hup
        intro y hy
        rw [List.take_succ_eq_append_getElem hmid] at hy
        rcases List.mem_append.mp hy with hy | hy
        · exact ho.ge_of_ge_of_ge x _ _ hx (hcut.2.2 y hy _ List.mem_cons_self)
        · rw [List.mem_singleton.mp hy]; exact hx
    · rw [if_neg hlt]
      obtain rfl : lo = hi := by omega
      exact ⟨hhi, hlo, hup⟩

/-- in particular the fuel `len + 1` that `bisectRight` gives the loop suffices -/
theorem bisectRight_spec (lt : α → α → Bool) (ho : BisectOrder lt) (x : α) (b : BL α) (hb : b.ok)
    (hs : Asc lt b.toList) :
    bisectRight lt x b ≤ b.toList.length ∧
    (∀ y ∈ b.toList.take (bisectRight lt x b), lt x y = false) ∧
    (∀ y ∈ b.toList.drop (bisectRight lt x b), lt x y = true) :=
  bisectLoop_spec lt ho x b hb hs (b.len + 1) 0 b.len (by omega) (by omega)
    (by rw [BL.len_eq]; exact Nat.le_refl _) (by simp) (by simp [BL.len_eq])

/-- the bisect loop only looks at `len(a)` and `a[mid]` -/
theorem bisectLoop_congr (lt : α → α → Bool) (x : α) (b b' : BL α)
    (hg : ∀ i, b.get? i = b'.get? i) : ∀ (fuel lo hi : Nat),
    bisectLoop lt x b fuel lo hi = bisectLoop lt x b' fuel lo hi := by
  intro fuel
  induction fuel with
  | zero => intro lo hi; rfl
  | succ n ih =>
    intro lo hi
    simp only [bisectLoop]
    rw [hg, ih, ih]

theorem bisectRight_congr (lt : α → α → Bool) (x : α) (b b' : BL α) (hb : b.ok) (hb' : b'.ok)
    (h : b.toList = b'.toList) : bisectRight lt x b = bisectRight lt x b' := by
  unfold bisectRight
  have hl : b.len = b'.len := by rw [BL.len_eq, BL.len_eq, h]
  rw [hl]
  exact bisectLoop_congr lt x b b' (fun i => by rw [BL.get?_eq b hb, BL.get?_eq b' hb', h]) _ _ _

theorem pyInsert_perm (i : Nat) (x : α) (l : List α) : (pyInsert i x l).Perm (x :: l) := by
  unfold pyInsert
  have := @List.perm_middle _ x (l.take i) (l.drop i)
  rwa [List.take_append_drop] at this

theorem mem_pyInsert (i : Nat) (x y : α) (l : List α) : y ∈ pyInsert i x l ↔ y = x ∨ y ∈ l := by
  rw [(pyInsert_perm i x l).mem_iff]; simp

theorem pyInsert_asc (lt : α → α → Bool) (hirr : ∀ a b, lt a b = true → lt b a = false)
    (x : α) (l : List α) (r : Nat) (hs : Asc lt l)
    (h1 : ∀ y ∈ l.take r, lt x y = false) (h2 : ∀ y ∈ l.drop r, lt x y = true) :
    Asc lt (pyInsert r x l) := by
  unfold Asc pyInsert at *
  rw [← List.take_append_drop r l] at hs
  rw [List.pairwise_append] at hs ⊢
  refine ⟨hs.1, ?_, ?_⟩
  · rw [List.pairwise_cons]
    exact ⟨fun y hy => hirr _ _ (h2 y hy), hs.2.1⟩
  · intro a ha c hc
    rcases List.mem_cons.mp hc with rfl | hc
    · exact h1 a ha
    · exact hs.2.2 a ha c hc

/-- `insort`'s step on the plain list: inserting at the position `bisect_right` finds keeps the list ascending -/
theorem pyInsert_bisectRight_asc (lt : α → α → Bool) (ho : BisectOrder lt) (hirr : ∀ a b, lt a b = true → lt b a = false)
    (x : α) (b : BL α) (hb : b.ok) (hs : Asc lt b.toList) : Asc lt (pyInsert (bisectRight lt x b) x b.toList) :=
  have h := bisectRight_spec lt ho x b hb hs
  pyInsert_asc lt hirr x _ _ hs h.2.1 h.2.2

theorem insort_ok (limit : Nat → Nat) (lt : α → α → Bool) (x : α) (b : BL α) (hb : b.ok) :
    (insort limit lt x b).ok := BL.insert_ok limit b hb _ x

theorem insort_toList (limit : Nat → Nat) (lt : α → α → Bool) (x : α) (b : BL α) (hb : b.ok) :
    (insort limit lt x b).toList = pyInsert (bisectRight lt x b) x b.toList :=
  BL.insert_toList limit b hb _ x

end Barrel
end C10
