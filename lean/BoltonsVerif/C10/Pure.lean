import BoltonsVerif.C10.Defs
/-
C10 — `peek` and `len` are pure OBSERVATIONS.  In the code `peek` calls `_cull()`, which pops tombstones
off the backend: a real mutation.  `spec_strip` shows on the specification that deleting every `peek` /
`len` call from a history changes neither the live tasks nor any other call's return value; through the
refinement theorem (`run_sim`) the same holds for the queue over any lawful backend (Props.lean).
-/
namespace C10
variable {T : Type} [DecidableEq T]

theorem spec_query_state (s : Spec T) (op : Op T) (h : isQuery op = true) : (s.step op).1 = s := by
  cases op with
  | add t p => simp [isQuery] at h
  | remove t => simp [isQuery] at h
  | pop d => simp [isQuery] at h
  | peek d =>
    simp only [Spec.step]
    cases best s <;> rfl
  | len => rfl

theorem spec_strip (ops : List (Op T)) : ∀ (s : Spec T),
    (Spec.runFrom s (ops.filter isUpdate)).1 = (Spec.runFrom s ops).1 ∧
    (Spec.runFrom s (ops.filter isUpdate)).2
      = ((ops.zip (Spec.runFrom s ops).2).filter updOut).map Prod.snd := by
  induction ops with
  | nil => intro s; exact ⟨rfl, rfl⟩
  | cons op ops ih =>
    intro s
    by_cases hq : isQuery op = true
    · have hu : isUpdate op = false := by simp [isUpdate, hq]
      have hs := spec_query_state s op hq
      obtain ⟨i1, i2⟩ := ih s
      simp only [List.filter_cons, hu, Bool.false_eq_true, ↓reduceIte, Spec.runFrom, List.zip_cons_cons,
        updOut, hs]
      exact ⟨i1, i2⟩
    · have hu : isUpdate op = true := by simp [isUpdate, hq]
      obtain ⟨i1, i2⟩ := ih (s.step op).1
      simp only [List.filter_cons, hu, ↓reduceIte, Spec.runFrom, List.zip_cons_cons, updOut,
        List.map_cons]
      exact ⟨i1, by rw [i2]⟩

end C10
