/-
C10 — SOURCE TIE.  `Src.listutils.translate_index` is generated by `harness/py2lean.py` from the
current text of `BarrelList._translate_index` (`boltons/listutils.py`) on every run; the theorems
state that it IS the hand model's `C10.translate` (on which `BL.get?` / `BL.insert` / `BL.pop?` and
through them the sorted-queue theorems of `Props.lean` rest) for every non-negative normalised index,
and `(None, None)` for an index that stays negative.  Second half: `BasePriorityQueue` (`SrcTieQueue.lean`).

The proofs do not name the fields of the generated state record (`loc1`, `loc2`, … are numbered in the
order in which the Python locals are first bound, so a refactoring renumbers them): the loop is recognised
as a `ScanShape` / `EnumShape` / `ListShape` (`SrcTieLemmas.lean`) by unification against its generated defining
equations, and the code around the loop (index normalisation, fast paths, the final `rel_idx < 0` test) is
evaluated by `split` / `simp` / `omega`, with several fallbacks.
-/
import BoltonsVerif.Generated.Src_listutils
import BoltonsVerif.C10.SrcTieLemmas
import BoltonsVerif.C10.Proofs
import BoltonsVerif.C10.Heap
import BoltonsVerif.C10.SrcTieQueue

namespace C10

open Src.listutils

variable {α : Type}

/-- the exit test of the loop says `rel < len(sub-list)` -/
macro "exit_test" : tactic =>
  `(tactic| (
    intros
    first
    | exact Iff.rfl
    | (simp only [Int.not_le, Int.not_lt, ge_iff_le, gt_iff_lt, Classical.not_not,
        sub_neg_iff, sub_pos_iff, sub_nonneg_iff, sub_nonpos_iff]; exact Iff.rfl)
    | (simp only []; omega)))

/-- the first four fields of a `ScanShape` / `EnumShape` / `ListShape` -/
macro "shape_fields" : tactic =>
  `(tactic| (
    · intros; exact rfl
    · intros; exact rfl
    · exit_test
    · intros; first | rfl | (simp only []; omega)))

/-- recognise the generated loop: the state projections, the exit test, the exit action and the state
    transformer are metavariables solved by unifying the `cons` field (or its swapped-branches form)
    with the loop's defining equation -/
macro "loop_shape" : tactic =>
  `(tactic| first
    | (apply ScanShape.mk; shape_fields; (intros; first | rfl | simp))
    | (apply ScanShape.of_swapped; shape_fields; (intros; first | rfl | simp))
    | (apply EnumShape.mk; shape_fields)
    | (apply EnumShape.of_swapped; shape_fields)
    | (apply ListShape.mk; shape_fields)
    | (apply ListShape.of_swapped; shape_fields))

/-- the translator's `PyRt.enumerate` is `pyEnumerate` (proved where it is used, so that this file also
    checks against a runtime library that has no `enumerate`) -/
macro "enumerate_eq" : tactic =>
  `(tactic| (
    have e : ∀ (β : Type) (l : List β) (i : Int), PyRt.enumerate l i = pyEnumerate l i := by
      intro β l
      induction l with
      | nil => intro i; rfl
      | cons x xs ih => intro i; simp only [PyRt.enumerate, pyEnumerate, ih]
    simp only [e]))

/-- evaluate the code after the loop: `if`s over linear integer facts, results in `Option Int × Option Int` -/
macro "tie_finish" e1:term "," e2:term : tactic =>
  `(tactic| first
    | (simp [$e1:term, $e2:term]; done)
    | (simp [$e1:term, $e2:term]; omega)
    | (simp [$e1:term, $e2:term] <;> omega)
    | (simp only [$e1:term, $e2:term]
       split <;> (try simp only [Prod.mk.injEq, Option.some.injEq, reduceCtorEq, true_and, and_true, and_self, false_and, and_false]) <;> omega)
    | (simp only [$e1:term, $e2:term]
       (try simp only [Prod.mk.injEq, Option.some.injEq, reduceCtorEq, true_and, and_true, and_self, false_and, and_false]) <;> omega))

/-- which `List (List α)` fields does the loop body leave alone (the parameter `self_lists`, a local alias
    `lists` …)?  Try them all; each one that is invariant still holds the BarrelList's sub-lists afterwards -/
macro "list_invariants" ef:ident : tactic =>
  `(tactic| (
    try (have i0 := $ef (fun s => s.self_lists) (fun _ _ => rfl); simp only [] at i0; try simp only [i0])
    try (have i1 := $ef (fun s => s.loc1) (fun _ _ => rfl); simp only [] at i1; try simp only [i1])
    try (have i2 := $ef (fun s => s.loc2) (fun _ _ => rfl); simp only [] at i2; try simp only [i2])
    try (have i3 := $ef (fun s => s.loc3) (fun _ _ => rfl); simp only [] at i3; try simp only [i3])
    try (have i4 := $ef (fun s => s.loc4) (fun _ _ => rfl); simp only [] at i4; try simp only [i4])
    try (have i5 := $ef (fun s => s.loc5) (fun _ _ => rfl); simp only [] at i5; try simp only [i5])
    try (have i6 := $ef (fun s => s.loc6) (fun _ _ => rfl); simp only [] at i6; try simp only [i6])))

/-- which Int fields of the state are counters (`+= 1` per iteration)?  Try them all: for each one that is,
    record how far it has advanced -/
macro "list_counters" ec:ident : tactic =>
  `(tactic| (
    try (have c1 := $ec (fun s => s.loc1) (fun _ _ => rfl); simp only [] at c1)
    try (have c2 := $ec (fun s => s.loc2) (fun _ _ => rfl); simp only [] at c2)
    try (have c3 := $ec (fun s => s.loc3) (fun _ _ => rfl); simp only [] at c3)
    try (have c4 := $ec (fun s => s.loc4) (fun _ _ => rfl); simp only [] at c4)
    try (have c5 := $ec (fun s => s.loc5) (fun _ _ => rfl); simp only [] at c5)
    try (have c6 := $ec (fun s => s.loc6) (fun _ _ => rfl); simp only [] at c6)
    try (have c7 := $ec (fun s => s.loc7) (fun _ _ => rfl); simp only [] at c7)
    try (have c8 := $ec (fun s => s.loc8) (fun _ _ => rfl); simp only [] at c8)))

/-- the `else:` clause: `lists[-1]` and `len(lists) - 1` are the last sub-list and its number -/
macro "at_last" lists:term "," k:term "," e3:ident : tactic =>
  `(tactic| (
    have e4 : PyRt.len $lists - 1 = ((translate $lists $k).1 : Int) := by omega
    try simp only [e4]
    try rw [index_neg_one_eq _ _ $e3]))

/-- at a loop exit the BarrelList's sub-lists are still in every field the loop body leaves alone -/
macro "exit_state" e1:ident "," e2:ident "," ef:ident : tactic =>
  `(tactic| (
    have $e1 := $ef (fun s => s.self_lists) (fun _ _ => rfl)
    simp only [] at $e1:ident $e2:ident ⊢
    list_invariants $ef))

/-- close a goal `loop1 K KB (range 0 (len lists)) S = (some …, some …)` for a non-negative `rel` -/
macro "scan_loop_close" lists:term "," k:term "," hne:term : tactic =>
  `(tactic| (
    refine scan_loop_eq (by loop_shape) _ _ _ $lists $k _ (by first | rfl | simp) ?h2 $hne ?hb ?hk
    case h2 => first | (simp only []; omega) | (simp; omega) | omega
    case hb =>
      intro s' e2 ef
      exit_state e1, e2, ef
      tie_finish e1, e2
    case hk =>
      intro s' e2 ef e3
      exit_state e1, e2, ef
      at_last $lists, $k, e3
      tie_finish e1, e2))

/-- close a goal `loop1 K KB lists S = (some …, some …)` (loop over the sub-lists) for a non-negative `rel` -/
macro "list_loop_close" lists:term "," k:term "," hne:term : tactic =>
  `(tactic| (
    refine scan_list_eq (by loop_shape) _ _ _ $lists $k _ ?h2 $hne ?hb ?hk
    case h2 => first | (simp only []; omega) | (simp; omega) | omega
    case hb =>
      intro s' e2 ec ef
      list_counters ec
      exit_state e1, e2, ef
      tie_finish e1, e2
    case hk =>
      intro s' e2 ec ef e3
      list_counters ec
      exit_state e1, e2, ef
      at_last $lists, $k, e3
      tie_finish e1, e2))

/-- close a goal `loop1 K KB (enumerate lists 0) S = (some …, some …)` for a non-negative `rel` -/
macro "enum_loop_close" lists:term "," k:term "," hne:term : tactic =>
  `(tactic| (
    enumerate_eq
    refine scan_enum_eq (by loop_shape) _ _ _ $lists $k _ ?h2 $hne ?hb ?hk
    case h2 => first | (simp only []; omega) | (simp; omega) | omega
    case hb =>
      intro s' e2 ef
      have e1 := ef (fun s => s.self_lists) (fun _ _ _ => rfl)
      simp only [] at e1 e2 ⊢
      tie_finish e1, e2
    case hk =>
      intro s' e2 ef e3
      have e1 := ef (fun s => s.self_lists) (fun _ _ _ => rfl)
      simp only [] at e1 e2 ⊢
      try simp only [e1]
      at_last $lists, $k, e3
      tie_finish e1, e2))

/-- a path that does not reach the loop: "head access" fast path, single-sub-list fast path -/
macro "no_loop_close" k:term "," hne:term : tactic =>
  `(tactic| (
    obtain ⟨l, rest, hl⟩ := List.exists_cons_of_ne_nil $hne
    subst hl
    simp only [PyRt.index_zero, PyRt.len, List.length_cons] at *
    first
    | (rw [translate_head l rest $k (by omega)]
       simp only [Prod.mk.injEq, Option.some.injEq, reduceCtorEq, true_and, and_true, and_self, false_and, and_false]
       omega)
    | (have hr : rest = [] := List.eq_nil_of_length_eq_zero (by omega)
       subst hr
       simp only [translate, Prod.mk.injEq, Option.some.injEq, reduceCtorEq, true_and, and_true, and_self, false_and, and_false]
       omega)))

/-- SOURCE TIE: the translated `_translate_index` is the model's `translate` on the normalised index
    `k ≥ 0`.  `lists ≠ []` always holds for a BarrelList (with no sub-list at all Python's `else:`
    clause would read the unbound `len_list`). -/
theorem src_translate_index_eq_model (index len : Int) (lists : List (List α)) (k : Nat)
    (h : translate_index_pre index len lists = true)
    (hk : pyNorm index len = (k : Int)) (hne : lists ≠ []) :
    translate_index index len lists
      = (some ((translate lists k).1 : Int), some ((translate lists k).2 : Int)) := by
  unfold pyNorm at hk
  split at hk
  all_goals
    simp only [translate_index, translate_index.body]
    repeat' split
    -- the shipped source: one goal per branch of `index < 0`, a `range` loop, closed by `scan_loop_close`
    all_goals
      first
      | scan_loop_close lists, k, hne
      | enum_loop_close lists, k, hne
      | list_loop_close lists, k, hne
      | no_loop_close k, hne
      | (exfalso; omega)
      | (exfalso; simp only [PyRt.len] at *; omega)

/-- ... and an index that is still negative after `index += len(self)` gives `(None, None)` -/
theorem src_translate_index_negative (index len : Int) (lists : List (List α))
    (hk : pyNorm index len < 0) (hne : lists ≠ []) :
    translate_index index len lists = (none, none) := by
  unfold pyNorm at hk
  simp only [translate_index, translate_index.body]
  repeat' split
  all_goals
    first
    | rfl
    | (first
       | refine scan_loop_neg (by loop_shape) _ _ _ lists _ (by first | rfl | simp) ?h2 hne ?hb
       | (enumerate_eq; refine scan_enum_neg (by loop_shape) _ _ _ lists _ ?h2 hne ?hb)
       | refine scan_list_neg (by loop_shape) _ _ _ lists _ ?h2 hne ?hb
       case h2 => first | (simp only []; omega) | (simp; omega) | omega
       case hb =>
         first
         | (simp only []; rw [if_pos (by omega)])
         | (simp; omega)
         | (simp <;> omega)
         | (simp only []; split <;> (try simp only [Prod.mk.injEq, Option.some.injEq, reduceCtorEq, true_and, and_true, and_self, false_and, and_false]) <;> omega))
    | (exfalso; omega)
    | (exfalso; simp only [PyRt.len] at *; omega)

/-! ### what the slot computed by the SOURCE means for the list the BarrelList stands for

`lists.flatten` is `list(bl)`.  The three callers of `_translate_index` that the sorted queue uses
(`__getitem__`, `insert`, `pop`) index / `list.insert` / `list.pop` the sub-list `lists[list_idx]` at
`rel_idx`; the theorems say that this IS the plain-list operation at the normalised index `k` on
`list(bl)` - for every Python index (negative ones count from the end: `len` is the real `len(self)`),
any sub-list structure. -/

/-- `bl[index]`: the slot computed by the SOURCE holds item number `k` of `list(bl)`; the lookup fails
    (IndexError) exactly when `k` is out of range -/
theorem src_slot_is_list_index (lists : List (List α)) (hne : lists ≠ []) (index : Int) (k : Nat)
    (h : translate_index_pre index (lenOf lists) lists = true)
    (hk : pyNorm index (lenOf lists) = (k : Int)) :
    ∃ li ri : Nat, translate_index index (lenOf lists) lists = (some (li : Int), some (ri : Int)) ∧
      (match lists[li]? with
       | none => none
       | some l => l[ri]?) = lists.flatten[k]? :=
  ⟨_, _, src_translate_index_eq_model index _ lists k h hk hne, BL.get?_eq ⟨lists⟩ hne k⟩

/-- `bl.insert(index, x)`: `lists[list_idx].insert(rel_idx, x)` at the slot computed by the SOURCE is
    `list(bl).insert(k, x)` - in particular an index at / past the end appends -/
theorem src_slot_insert (lists : List (List α)) (hne : lists ≠ []) (index : Int) (k : Nat) (x : α)
    (h : translate_index_pre index (lenOf lists) lists = true)
    (hk : pyNorm index (lenOf lists) = (k : Int)) :
    ∃ li ri : Nat, translate_index index (lenOf lists) lists = (some (li : Int), some (ri : Int)) ∧
      (lists.modify li (pyInsert ri x)).flatten = pyInsert k x lists.flatten :=
  ⟨_, _, src_translate_index_eq_model index _ lists k h hk hne, modify_pyInsert_flatten lists k x hne⟩

/-- `bl.pop(index)`: `lists[list_idx].pop(rel_idx)` at the slot computed by the SOURCE removes item
    number `k` of `list(bl)` -/
theorem src_slot_pop (lists : List (List α)) (hne : lists ≠ []) (index : Int) (k : Nat)
    (h : translate_index_pre index (lenOf lists) lists = true)
    (hk : pyNorm index (lenOf lists) = (k : Int)) :
    ∃ li ri : Nat, translate_index index (lenOf lists) lists = (some (li : Int), some (ri : Int)) ∧
      (lists.modify li (fun l => l.eraseIdx ri)).flatten = lists.flatten.eraseIdx k :=
  ⟨_, _, src_translate_index_eq_model index _ lists k h hk hne, modify_eraseIdx_flatten lists k hne⟩

/-- non-vacuity of the hypotheses: `bl[-1]` on three sub-lists is the last item of `list(bl)` -/
example : pyNorm (-1) (lenOf [[10, 11, 12], [13, 14], [15, 16]]) = ((6 : Nat) : Int) ∧
    translate_index_pre (-1) (lenOf [[10, 11, 12], [13, 14], [15, 16]]) [[10, 11, 12], [13, 14], [15, 16]] = true ∧
    [[10, 11, 12], [13, 14], [15, 16]].flatten[6]? = some 16 := by decide

/-- non-vacuity: three sub-lists; inside, past the end, negative in range -/
example : translate_index 4 7 [[10, 11, 12], [13, 14], [15, 16]] = (some 1, some 1) ∧
    translate_index 9 7 [[10, 11, 12], [13, 14], [15, 16]] = (some 2, some 4) ∧
    translate_index (-1) 7 [[10, 11, 12], [13, 14], [15, 16]] = (some 2, some 1) ∧
    pyNorm (-1) 7 = ((6 : Nat) : Int) ∧ translate [[10, 11, 12], [13, 14], [15, 16]] 6 = (2, 1) ∧
    translate_index (-8) 7 [[10, 11, 12], [13, 14], [15, 16]] = (none, none) := by decide +kernel

/-! ## the priority queue (heap mode)

The theorems below are the ones the runner scans; each restates one of `C10.QTie` at `V := Nat`.  The head comment of
`SrcTieQueue.lean` says what `SB`, `B`, `Impl`, `GInv`, `concQ` and the ghost list `g` are. -/
section QueueTie
open Src.queueutils PyHeap QTie

variable {T σ β : Type} [DecidableEq T] [Inhabited T]
  {B : Backend T β} {wf : β → Prop} {content : β → List (Entry T)} {repr : β → σ}

/-- SOURCE TIE: `remove(task)` -/
theorem src_remove_eq_model {SB : PyHeap.Backend T Nat σ} (I : Impl SB B content repr) (g : List (Entry T)) (s : PQ T β)
    (hG : GInv wf content g s) (t : T) :
    BPQ.remove (concQ (V := Nat) repr g s) t = match emLookup t s.emap with
      | none => (.error PyExc.KeyError, concQ repr g s)
      | some v => (.ok (), concQ repr (g.map (markEntry v.2)) ⟨B.mark v.2 s.pq, emErase t s.emap, s.counter⟩) :=
  src_remove I g s hG t

/-- SOURCE TIE: `add(task, priority)` -/
theorem src_add_eq_model {SB : PyHeap.Backend T Nat σ} (I : Impl SB B content repr) (L : Lawful B wf content)
    (g : List (Entry T)) (s : PQ T β) (hG : GInv wf content g s) (t : T) (p : Int) :
    BPQ.add (concQ (V := Nat) repr g s) t p =
      (.ok (), concQ repr (gDrop g s t ++ [⟨-p, s.counter, some t⟩]) (s.add B t p)) ∧
    GInv wf content (gDrop g s t ++ [⟨-p, s.counter, some t⟩]) (s.add B t p) :=
  src_add I L g s hG t p

/-- SOURCE TIE: `_cull(raise_exc)`: any loop fuel above the backend's size suffices (termination) -/
theorem src_cull_eq_model {SB : PyHeap.Backend T Nat σ} (I : Impl SB B content repr) (L : Lawful B wf content)
    (g : List (Entry T)) (s : PQ T β) (hG : GInv wf content g s) (r : Bool) (lfuel : Nat)
    (hf : B.size s.pq + 1 ≤ lfuel) :
    BPQ.cull lfuel (concQ (V := Nat) repr g s) r =
      ((if B.size (cull B (B.size s.pq) s.pq) = 0 ∧ r = true then .error PyExc.IndexError else .ok ()),
        concQ repr g ⟨cull B (B.size s.pq) s.pq, s.emap, s.counter⟩) ∧
    GInv wf content g ⟨cull B (B.size s.pq) s.pq, s.emap, s.counter⟩ :=
  src_cull I L g s hG r lfuel hf

/-- SOURCE TIE: `peek(default)` -/
theorem src_peek_eq_model {SB : PyHeap.Backend T Nat σ} (I : Impl SB B content repr) (L : Lawful B wf content)
    (g : List (Entry T)) (s : PQ T β) (hG : GInv wf content g s) (d : Option Nat) (lfuel : Nat)
    (hf : B.size s.pq + 1 ≤ lfuel) :
    BPQ.peek lfuel (concQ (V := Nat) repr g s) d = (outQ (s.peek B d).2, concQ repr g (s.peek B d).1) ∧
    GInv wf content g (s.peek B d).1 :=
  src_peek I L g s hG d lfuel hf

/-- SOURCE TIE: `pop(default)` -/
theorem src_pop_eq_model {SB : PyHeap.Backend T Nat σ} (I : Impl SB B content repr) (L : Lawful B wf content)
    (g : List (Entry T)) (s : PQ T β) (hG : GInv wf content g s) (d : Option Nat) (lfuel : Nat)
    (hf : B.size s.pq + 1 ≤ lfuel) :
    BPQ.pop lfuel (concQ (V := Nat) repr g s) d = (outQ (s.pop B d).2, concQ repr g (s.pop B d).1) ∧
    GInv wf content g (s.pop B d).1 :=
  src_pop I L g s hG d lfuel hf

/-- SOURCE TIE: `len(queue)` -/
theorem src_len_eq_model [PyHeap.Backend T Nat σ] (g : List (Entry T)) (s : PQ T β) :
    BPQ.len (concQ (V := Nat) repr g s) = .ok (s.emap.length : Int) :=
  src_len g s

/-- SOURCE TIE (one step) -/
theorem src_queue_step_simulates {SB : PyHeap.Backend T Nat σ} (I : Impl SB B content repr) (L : Lawful B wf content)
    (g : List (Entry T)) (s : PQ T β) (hG : GInv wf content g s) (op : Op T) :
    srcStepQ (concQ (V := Nat) repr g s) op = ((s.step B op).2, concQ repr (gAfter g s op) (s.step B op).1) ∧
    GInv wf content (gAfter g s op) (s.step B op).1 :=
  src_step_simulates I L g s hG op

omit [Inhabited T] in
theorem ginv_init (L : Lawful B wf content) : GInv wf content [] (PQ.init B) :=
  ⟨rfl, fun i h => absurd h (by simp), by intro e he; simp [PQ.init, L.content_empty] at he, init_inv L⟩

/-- SOURCE TIE (histories) and the PROPERTY on the generated machine: from the state `__init__` leaves (empty store,
    empty backend and dict, counter 0, the default priority key), every history of `add` / `remove` / `pop` / `peek` /
    `len` on the GENERATED definitions returns and raises, call by call, exactly what the SPECIFICATION says (live tasks
    in order of (re-)insertion; `pop` / `peek` = the first task of greatest priority), and ends in the image of the
    model queue's state, which stands for the specification's state. -/
theorem src_queue_history_refines {SB : PyHeap.Backend T Nat σ} (I : Impl SB B content repr) (L : Lawful B wf content)
    (ops : List (Op T)) :
    (srcRunQ (concQ (V := Nat) repr [] (PQ.init B)) ops).2 = (Spec.run ops).2 ∧
    ∃ g', (srcRunQ (concQ (V := Nat) repr [] (PQ.init B)) ops).1 = concQ repr g' (PQ.run B ops).1 ∧
      GInv wf content g' (PQ.run B ops).1 ∧ absSpec (PQ.run B ops).1 = (Spec.run ops).1 := by
  obtain ⟨g', h1, h2, h3⟩ := src_runFrom I L ops [] (PQ.init B) (ginv_init L)
  exact ⟨h2.trans (run_sim L ops).out, g', h1, h3, (run_sim L ops).abs⟩

/-- the same for `HeapPriorityQueue`: the backend of the generated code is `heapq` on a list of references
    (`QTie.heapqRefs`), which implements `binHeap` (`QTie.heapq_impl`: non-vacuity of `Impl`; `binHeap_lawful`) -/
theorem src_heapq_history_eq_spec (ops : List (Op T)) :
    (@srcRunQ T (List (Val T Nat)) _ _ heapqRefs
        (concQ (V := Nat) (fun b : List (Entry T) => b.map refOf) [] (PQ.init binHeap)) ops).2 = (Spec.run ops).2 :=
  (src_queue_history_refines (SB := heapqRefs) heapq_impl binHeap_lawful ops).1

/-- non-vacuity: a history evaluated on the GENERATED definitions over `heapq` on references: task 1 is re-added with
    a higher priority (its old entry is marked through the dict and culled through the heap), task 2 is removed -/
example :
    (@srcRunQ Nat (List (Val Nat Nat)) _ _ heapqRefs
        (concQ (V := Nat) (fun b : List (Entry Nat) => b.map refOf) [] (PQ.init binHeap))
        [.add 1 1, .add 2 5, .add 3 3, .add 1 7, .remove 2, .len, .pop none, .pop none, .peek (some 9), .pop none]).2
      = [.none, .none, .none, .none, .none, .len 2, .task 1, .task 3, .dflt 9, .indexError] := by decide +kernel

end QueueTie

end C10
