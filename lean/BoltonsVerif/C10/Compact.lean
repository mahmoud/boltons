import BoltonsVerif.C10.Queue
/-
C10 — superseded entries (tombstones) are unobservable, and so is a clean-up that drops them.

Re-prioritising a bounded set of tasks over and over leaves the backend full of entries marked
`_REMOVED`; `_cull` only reclaims those that reach the head.  `layout_unobservable`: two queue states -
over possibly DIFFERENT lawful backends - that satisfy the invariant and stand for the same live tasks
return the same values for every continuation, whatever tombstones each of them still carries.
`compact`: the backend rebuilt from the live entries (in any order) THROUGH THE BACKEND'S OWN `push`
(`heappush` / `insort`) satisfies the invariant again, so such a compaction can never be observed.  What a
compaction must not do is install a container that violates the backend's representation invariant `wf`
(a filtered heap array is not a heap): that is exactly what the churn histories of the harness look for.
-/
namespace C10
variable {T : Type} [DecidableEq T]

section Compact
variable {β : Type} {B : Backend T β} {wf : β → Prop} {content : β → List (Entry T)}

theorem layout_unobservable {β' : Type} {B' : Backend T β'} {wf' : β' → Prop} {content' : β' → List (Entry T)}
    (L : Lawful B wf content) (L' : Lawful B' wf' content') (s : PQ T β) (s' : PQ T β')
    (hI : Inv wf content s) (hI' : Inv wf' content' s') (h : absSpec s' = absSpec s) (ops : List (Op T)) :
    (PQ.runFrom B' s' ops).2 = (PQ.runFrom B s ops).2 ∧
    absSpec (PQ.runFrom B' s' ops).1 = absSpec (PQ.runFrom B s ops).1 := by
  rw [(runFrom_sim L ops s hI).out, (runFrom_sim L' ops s' hI').out, (runFrom_sim L ops s hI).abs,
    (runFrom_sim L' ops s' hI').abs, h]
  exact ⟨rfl, rfl⟩

theorem rebuild_spec (L : Lawful B wf content) (es : List (Entry T)) :
    wf (rebuild B es) ∧ (content (rebuild B es)).Perm es := by
  induction es with
  | nil => exact ⟨L.wf_empty, by rw [show rebuild B ([] : List (Entry T)) = B.empty from rfl, L.content_empty]⟩
  | cons e es ih =>
    have h := L.push e (rebuild B es) ih.1
    exact ⟨h.1, h.2.trans (List.Perm.cons e ih.2)⟩

omit [DecidableEq T] in
theorem mem_liveEntries (l : List (Entry T)) (e : Entry T) :
    e ∈ liveEntries l ↔ e ∈ l ∧ e.task.isSome = true := by
  simp [liveEntries, List.mem_filter]

theorem Inv.live_length {s : PQ T β} (hI : Inv wf content s) :
    (liveEntries (content s.pq)).length = s.emap.length := by
  -- `(t, p, c) ↦ ⟨p, c, some t⟩` maps the dict onto the live entries; both are duplicate-free
  let f : T × Int × Nat → Entry T := fun x => ⟨x.2.1, x.2.2, some x.1⟩
  have hfnd : (s.emap.map f).Nodup :=
    List.pairwise_map.mpr ((List.pairwise_map.mp hI.knodup).imp fun h hab => h (by
      simp only [f, Entry.mk.injEq, Option.some.injEq] at hab; exact hab.2.2))
  have hperm : (liveEntries (content s.pq)).Perm (s.emap.map f) := by
    have hlnd : (liveEntries (content s.pq)).Nodup := hI.content_nodup.sublist List.filter_sublist
    rw [List.perm_ext_iff_of_nodup hlnd hfnd]
    intro e
    rw [mem_liveEntries, List.mem_map]
    constructor
    · rintro ⟨he, hsome⟩
      obtain ⟨t, ht⟩ := Option.isSome_iff_exists.mp hsome
      exact ⟨(t, e.prio, e.count), hI.mem_emap he ht, Entry.eta_of_task ht⟩
    · rintro ⟨x, hx, rfl⟩
      exact ⟨(hI.live x.1 x.2.1 x.2.2).mp hx, rfl⟩
  rw [hperm.length_eq, List.length_map]

theorem compact_inv (L : Lawful B wf content) (s : PQ T β) (hI : Inv wf content s) (es : List (Entry T))
    (hes : es.Perm (liveEntries (content s.pq))) :
    Inv wf content (s.compact B es) ∧ absSpec (s.compact B es) = absSpec s := by
  obtain ⟨hw, hc⟩ := rebuild_spec L es
  have hperm : (content (rebuild B es)).Perm (liveEntries (content s.pq)) := hc.trans hes
  have hmem : ∀ e, e ∈ content (rebuild B es) ↔ e ∈ content s.pq ∧ e.task.isSome = true := by
    intro e
    rw [hperm.mem_iff, mem_liveEntries]
  refine ⟨⟨hw, ?_, ?_, hI.knodup, hI.cinc, ?_⟩, rfl⟩
  · have hsub : (liveEntries (content s.pq)).Sublist (content s.pq) := List.filter_sublist
    have hnd : ((liveEntries (content s.pq)).map Entry.count).Nodup := (hsub.map _).nodup hI.cnodup
    exact ((hperm.map Entry.count).nodup_iff).mpr hnd
  · intro e he
    exact hI.clt e ((hmem e).mp he).1
  · intro t p c
    show (t, p, c) ∈ s.emap ↔ (⟨p, c, some t⟩ : Entry T) ∈ content (rebuild B es)
    rw [hI.live t p c, hmem]
    simp

theorem compact_unobservable (L : Lawful B wf content) (s : PQ T β) (hI : Inv wf content s)
    (es : List (Entry T)) (hes : es.Perm (liveEntries (content s.pq))) (ops : List (Op T)) :
    (PQ.runFrom B (s.compact B es) ops).2 = (PQ.runFrom B s ops).2 := by
  obtain ⟨hI', ha⟩ := compact_inv L s hI es hes
  exact (layout_unobservable L L s (s.compact B es) hI hI' ha ops).1

end Compact
end C10
