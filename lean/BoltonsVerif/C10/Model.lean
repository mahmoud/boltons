/-
C10 — model of `boltons.queueutils` (BasePriorityQueue / HeapPriorityQueue /
SortedPriorityQueue) and of the part of `boltons.listutils.BarrelList` the sorted
queue runs on (`__len__`, `__getitem__`, `_translate_index`, `_balance_list`,
`insert`, `pop`, `append`, `__iter__`), after the `fix:` commit that makes
`_translate_index` stay relative to the last sub-list when the index is past the end.

Transliteration rules
  * `BarrelList.lists` is a `List (List α)`; indices are naturals (the queue only
    ever uses `0`, `mid < len` and `0 ≤ lo ≤ len`);
  * `_cur_size_limit` is a parameter `limit : Nat → Nat` of the current length
    (the float formula lives in `curSizeLimit`, used by the driver only);
  * the `while` loops (`_balance_list`, `bisect`, `_cull`) take a fuel argument;
    `Proofs.lean` shows the fuel given by the callers suffices;
  * an entry `[priority, count, task]` is `Entry`; `task = none` is the `_REMOVED`
    tombstone; the in-place mutation `entry[-1] = _REMOVED` of the object shared by
    `_entry_map` and the backend is `mark count` (the counter is the identity of the
    shared object: `itertools.count` never repeats);
  * `_entry_map` (insertion-ordered dict) is an association list with unique keys
    in dict order, value = the shared entry's `(priority, count)`;
  * a backend is a record of operations (`Backend`); the theorems hold for every backend
    satisfying the min-queue laws (`Lawful`).  `binHeap` is `heapq` itself (heappush / heappop
    with their sift loops, on a list), `listHeap` a trivially correct "bag with extract-min";
    the driver runs both.
Core Lean only.
-/
namespace C10

/-! ## BarrelList -/

section Barrel
variable {α : Type}

/-- Python `l.insert(i, x)` for `i ≥ 0` (clamps past the end) -/
def pyInsert (i : Nat) (x : α) (l : List α) : List α := l.take i ++ x :: l.drop i

/-- `sum(len(l) for l in lists)` -/
def lenOf (ls : List (List α)) : Nat := (ls.map List.length).sum

/-- `_translate_index(index)` for `index ≥ 0`: `(list_idx, rel_idx)`.
    For the last sub-list both exits of the `for` give `rel_idx` unchanged
    (`break`: `rel_idx < len_list`; `else`: `rel_idx - len_list + len_list`). -/
def translate : List (List α) → Nat → Nat × Nat
  | [], i => (0, i)
  | [_], i => (0, i)
  | l :: l' :: ls, i =>
    if i < l.length then (0, i)
    else ((translate (l' :: ls) (i - l.length)).1 + 1, (translate (l' :: ls) (i - l.length)).2)

/-- the `while len(cur_list) > half_limit` loop of `_balance_list`: returns the shortened
    `cur_list` followed by the chunks inserted after it, in their final order.
    `cur_list[-half:]` is the whole list when `half = 0`. -/
def splitLoop (half : Nat) : Nat → List α → List (List α) → List (List α)
  | 0, cur, acc => cur :: acc
  | fuel + 1, cur, acc =>
    if cur.length > half then
      splitLoop half fuel (cur.take (if half = 0 then 0 else cur.length - half))
        (cur.drop (if half = 0 then 0 else cur.length - half) :: acc)
    else cur :: acc

/-- `_balance_list(list_idx)` -/
def balance (limit : Nat → Nat) (ls : List (List α)) (li : Nat) : List (List α) :=
  match ls[li]? with
  | none => ls
  | some cur =>
    if cur.length > limit (lenOf ls) then
      ls.take li ++ splitLoop (limit (lenOf ls) / 2) cur.length cur [] ++ ls.drop (li + 1)
    else ls

structure BL (α : Type) where
  lists : List (List α)
deriving Repr

/-- `BarrelList()` -/
def BL.empty : BL α := ⟨[[]]⟩

/-- `len(bl)` -/
def BL.len (b : BL α) : Nat := lenOf b.lists

/-- `list(bl)` -/
def BL.toList (b : BL α) : List α := b.lists.flatten

/-- `bl[i]`, `none` = IndexError -/
def BL.get? (b : BL α) (i : Nat) : Option α :=
  match b.lists[(translate b.lists i).1]? with
  | none => none
  | some l => l[(translate b.lists i).2]?

/-- `bl.insert(i, x)` -/
def BL.insert (limit : Nat → Nat) (b : BL α) (i : Nat) (x : α) : BL α :=
  if b.lists.length = 1 then
    ⟨balance limit (b.lists.modify 0 (pyInsert i x)) 0⟩
  else
    ⟨balance limit (b.lists.modify (translate b.lists i).1 (pyInsert (translate b.lists i).2 x))
      (translate b.lists i).1⟩

/-- `bl.pop(i)`, `none` = IndexError (state unchanged) -/
def BL.pop? (limit : Nat → Nat) (b : BL α) (i : Nat) : Option (α × BL α) :=
  match b.lists[(translate b.lists i).1]? with
  | none => none
  | some l =>
    match l[(translate b.lists i).2]? with
    | none => none
    | some x =>
      some (x, ⟨balance limit (b.lists.modify (translate b.lists i).1
                  (fun l => l.eraseIdx (translate b.lists i).2)) (translate b.lists i).1⟩)

/-- `bl.append(x)`: `self.lists[-1].append(x)` (no balancing) -/
def BL.append (b : BL α) (x : α) : BL α :=
  ⟨b.lists.modify (b.lists.length - 1) (fun l => l ++ [x])⟩

/-- the loop of `bisect.bisect_right(a, x)` over `len(a)` / `a[mid]`; `lt x y` is `x < y` -/
def bisectLoop (lt : α → α → Bool) (x : α) (b : BL α) : Nat → Nat → Nat → Nat
  | 0, lo, _ => lo
  | fuel + 1, lo, hi =>
    if lo < hi then
      match b.get? ((lo + hi) / 2) with
      | none => lo
      | some y =>
        if lt x y then bisectLoop lt x b fuel lo ((lo + hi) / 2)
        else bisectLoop lt x b fuel ((lo + hi) / 2 + 1) hi
    else lo

def bisectRight (lt : α → α → Bool) (x : α) (b : BL α) : Nat :=
  bisectLoop lt x b (b.len + 1) 0 b.len

/-- `bisect.insort(a, x)` -/
def insort (limit : Nat → Nat) (lt : α → α → Bool) (x : α) (b : BL α) : BL α :=
  b.insert limit (bisectRight lt x b) x

end Barrel

/-- Python's `round(x)` on floats: half to even -/
def pyRound (x : Float) : Float :=
  if (x - x.round).abs == 0.5 then 2.0 * (x / 2.0).round else x.round

/-- `_cur_size_limit = int(round(size_factor * math.log(len + 2, 2)))`; `math.log(x, 2)` is `log x / log 2` -/
def curSizeLimit (sf : Nat) (n : Nat) : Nat :=
  (pyRound (sf.toFloat * (Float.log (n + 2).toFloat / Float.log 2.0))).toUInt64.toNat

/-! ## priority queues -/

/-- `[priority, count, task]`; `priority` is the stored (already negated) number -/
structure Entry (T : Type) where
  prio : Int
  count : Nat
  task : Option T
deriving Repr, DecidableEq

variable {T : Type}

/-- Python list comparison `x < y` of two entries; entries of one queue never share
    a `count`, so the comparison never reaches the task -/
def Entry.lt (a b : Entry T) : Bool :=
  decide (a.prio < b.prio) || (decide (a.prio = b.prio) && decide (a.count < b.count))

/-- `entry[-1] = _REMOVED` on the entry object whose counter is `c` -/
def markEntry (c : Nat) (e : Entry T) : Entry T :=
  if e.count = c then { e with task := none } else e

/-- what BasePriorityQueue needs from `self._pq` -/
structure Backend (T : Type) (β : Type) where
  empty : β
  size : β → Nat                          -- `len(self._pq)` (also its truthiness)
  front : β → Option (Entry T)            -- `self._pq[0]`
  push : Entry T → β → β                  -- `_push_entry`
  popFront : β → Option (Entry T × β)     -- `_pop_entry`
  mark : Nat → β → β                      -- effect of `entry[-1] = _REMOVED` on the shared entry

/-- SortedPriorityQueue: `BList` + `insort` + `pop(0)` -/
def sortedBackend (limit : Nat → Nat) : Backend T (BL (Entry T)) where
  empty := BL.empty
  size := BL.len
  front := fun b => b.get? 0
  push := fun e b => insort limit Entry.lt e b
  popFront := fun b => b.pop? limit 0
  mark := fun c b => ⟨b.lists.map (fun l => l.map (markEntry c))⟩

/-- least entry of a list (first one among equals) -/
def minEntry : List (Entry T) → Option (Entry T)
  | [] => none
  | e :: es =>
    match minEntry es with
    | none => some e
    | some m => if m.lt e then some m else some e

/-- executable stand-in for `heapq` on a list: a bag with extract-min -/
def listHeap [DecidableEq T] : Backend T (List (Entry T)) where
  empty := []
  size := List.length
  front := minEntry
  push := fun e h => e :: h
  popFront := fun h => match minEntry h with
    | none => none
    | some m => some (m, h.erase m)
  mark := fun c h => h.map (markEntry c)

/-! ## heapq: the binary heap HeapPriorityQueue runs on

Transliteration of `heapq.heappush` / `heapq.heappop` with `_siftdown` / `_siftup` on a Python list,
as written: the travelling item is kept in a local (`newitem`), parents / children are copied into
the hole and `newitem` is written back once at the end.  `startpos` is always `0` for the two entry
points.  (`Heap.lean` states one invariant for both loops on this list, `Hole`: a heap except for
what is at `pos`; each round of a loop copies one item into the hole and moves the hole.) -/
section Heap
variable {α : Type}

/-- the loop of `_siftdown(heap, 0, pos)` and the final `heap[pos] = newitem`; `x` is `newitem` -/
def siftDownLoop (lt : α → α → Bool) : Nat → List α → α → Nat → List α
  | 0, h, x, pos => h.set pos x
  | fuel + 1, h, x, pos =>
    if pos = 0 then h.set pos x else
    match h[(pos - 1) / 2]? with
    | some p => if lt x p then siftDownLoop lt fuel (h.set pos p) x ((pos - 1) / 2) else h.set pos x
    | none => h.set pos x

/-- the child `_siftup` follows: the right one if it exists and the left one is not smaller -/
def smallerChild (lt : α → α → Bool) (h : List α) (pos : Nat) : Nat :=
  match h[2 * pos + 1]?, h[2 * pos + 2]? with
  | some l, some r => if lt l r then 2 * pos + 1 else 2 * pos + 2
  | _, _ => 2 * pos + 1

/-- the first loop of `_siftup(heap, pos)`: `heap[pos] = heap[childpos]; pos = childpos` down to a
    leaf; returns the list (with a stale item in the hole) and the leaf position -/
def siftLeafLoop (lt : α → α → Bool) : Nat → List α → Nat → List α × Nat
  | 0, h, pos => (h, pos)
  | fuel + 1, h, pos =>
    if 2 * pos + 1 < h.length then
      match h[smallerChild lt h pos]? with
      | some y => siftLeafLoop lt fuel (h.set pos y) (smallerChild lt h pos)
      | none => (h, pos)
    else (h, pos)

/-- `_siftup(heap, 0)`: `newitem = heap[0]`, down to a leaf, `heap[pos] = newitem`, `_siftdown(heap, 0, pos)` -/
def pySiftUp (lt : α → α → Bool) (h : List α) : List α :=
  match h[0]? with
  | none => h
  | some x =>
    siftDownLoop lt ((siftLeafLoop lt h.length h 0).2 + 1) (siftLeafLoop lt h.length h 0).1 x
      (siftLeafLoop lt h.length h 0).2

/-- `heappush(heap, item)`: `heap.append(item); _siftdown(heap, 0, len(heap) - 1)` -/
def heappush (lt : α → α → Bool) (x : α) (h : List α) : List α :=
  siftDownLoop lt (h.length + 1) (h ++ [x]) x h.length

/-- `heappop(heap)`; `none` = IndexError (empty heap) -/
def heappop (lt : α → α → Bool) (h : List α) : Option (α × List α) :=
  match h.getLast? with
  | none => none
  | some last =>
    match h.dropLast with
    | [] => some (last, [])
    | first :: rest => some (first, pySiftUp lt (last :: rest))

end Heap

/-- HeapPriorityQueue: a Python list + `heappush` / `heappop` -/
def binHeap : Backend T (List (Entry T)) where
  empty := []
  size := List.length
  front := fun h => h[0]?
  push := heappush Entry.lt
  popFront := heappop Entry.lt
  mark := fun c h => h.map (markEntry c)

/-- `_entry_map` values: `(priority, count)` of the shared entry -/
abbrev EMap (T : Type) := List (T × Int × Nat)

def keyNe [DecidableEq T] (t : T) (x : T × Int × Nat) : Bool := !decide (x.1 = t)

/-- `dict.get(t)` -/
def emLookup [DecidableEq T] (t : T) : EMap T → Option (Int × Nat)
  | [] => none
  | x :: xs => if x.1 = t then some x.2 else emLookup t xs

/-- `del d[t]` / `d.pop(t)` on a dict (unique keys) -/
def emErase [DecidableEq T] (t : T) (m : EMap T) : EMap T := m.filter (keyNe t)

/-- `d[t] = v`: in place when present, else appended -/
def emSet [DecidableEq T] (t : T) (v : Int × Nat) : EMap T → EMap T
  | [] => [(t, v)]
  | x :: xs => if x.1 = t then (t, v) :: xs else x :: emSet t v xs

structure PQ (T β : Type) where
  pq : β
  emap : EMap T
  counter : Nat

inductive Op (T : Type) where
  | add (t : T) (p : Int)      -- `add(task, priority)`; `p` = the number `float(priority or 0)`
  | remove (t : T)
  | pop (dflt : Option Nat)    -- `pop()` = none / `pop(default)` = some i, i naming WHICH object was given
  | peek (dflt : Option Nat)
  | len
deriving Repr

inductive Out (T : Type) where
  | none                       -- returned None
  | task (t : T)
  | dflt (i : Nat)             -- returned the given default (object #i)
  | len (n : Nat)
  | keyError
  | indexError
  | sentinel                   -- returned `_REMOVED` itself (never happens; keeps the model total)
deriving Repr, DecidableEq

section Queue
variable {β : Type} [DecidableEq T] (B : Backend T β)

def PQ.init : PQ T β := ⟨B.empty, [], 0⟩

/-- `remove(task)`; `none` = KeyError -/
def PQ.remove (s : PQ T β) (t : T) : Option (PQ T β) :=
  match emLookup t s.emap with
  | none => none
  | some v => some ⟨B.mark v.2 s.pq, emErase t s.emap, s.counter⟩

/-- `if task in self._entry_map: self.remove(task)` -/
def PQ.dropOld (s : PQ T β) (t : T) : PQ T β :=
  match emLookup t s.emap with
  | none => s
  | some _ => (s.remove B t).getD s

/-- the rest of `add`: `count = next(counter); entry = [priority, count, task]; …` -/
def PQ.pushNew (s : PQ T β) (t : T) (p : Int) : PQ T β :=
  ⟨B.push ⟨-p, s.counter, some t⟩ s.pq, emSet t (-p, s.counter) s.emap, s.counter + 1⟩

/-- `add(task, priority)` with the default `priority_key` (`-float(p or 0)`) -/
def PQ.add (s : PQ T β) (t : T) (p : Int) : PQ T β := PQ.pushNew B (s.dropOld B t) t p

/-- the `while self._pq:` loop of `_cull` -/
def cull : Nat → β → β
  | 0, b => b
  | fuel + 1, b =>
    if B.size b = 0 then b else
    match B.front b with
    | none => b
    | some e =>
      match e.task with
      | some _ => b
      | none =>
        match B.popFront b with
        | none => b
        | some (_, b') => cull fuel b'

/-- `if default is not _REMOVED: return default` / `raise IndexError`: ANY given object is returned -/
def emptyOut (dflt : Option Nat) : Out T :=
  match dflt with
  | some i => .dflt i
  | none => .indexError

/-- `peek(default)` after `_cull()` left the backend `b` -/
def PQ.peekAt (s : PQ T β) (b : β) (dflt : Option Nat) : PQ T β × Out T :=
  if B.size b = 0 then (⟨b, s.emap, s.counter⟩, emptyOut dflt)
  else match B.front b with
    | none => (⟨b, s.emap, s.counter⟩, emptyOut dflt)
    | some e => (⟨b, s.emap, s.counter⟩, match e.task with | some t => .task t | none => .sentinel)

def PQ.peek (s : PQ T β) (dflt : Option Nat) : PQ T β × Out T :=
  s.peekAt B (cull B (B.size s.pq) s.pq) dflt

/-- `pop(default)` after `_cull()` left the backend `b` -/
def PQ.popAt (s : PQ T β) (b : β) (dflt : Option Nat) : PQ T β × Out T :=
  if B.size b = 0 then (⟨b, s.emap, s.counter⟩, emptyOut dflt)
  else match B.popFront b with
    | none => (⟨b, s.emap, s.counter⟩, emptyOut dflt)
    | some (e, b') =>
      match e.task with
      | none => (⟨b', s.emap, s.counter⟩, .keyError)
      | some t =>
        match emLookup t s.emap with
        | none => (⟨b', s.emap, s.counter⟩, .keyError)
        | some _ => (⟨b', emErase t s.emap, s.counter⟩, .task t)

def PQ.pop (s : PQ T β) (dflt : Option Nat) : PQ T β × Out T :=
  s.popAt B (cull B (B.size s.pq) s.pq) dflt

def PQ.step (s : PQ T β) : Op T → PQ T β × Out T
  | .add t p => (s.add B t p, .none)
  | .remove t => match s.remove B t with
    | none => (s, .keyError)
    | some s' => (s', .none)
  | .pop d => s.pop B d
  | .peek d => s.peek B d
  | .len => (s, .len s.emap.length)

/-- run a history, collecting every return value / exception -/
def PQ.runFrom (s : PQ T β) : List (Op T) → PQ T β × List (Out T)
  | [] => (s, [])
  | op :: ops =>
    ((PQ.runFrom (s.step B op).1 ops).1, (s.step B op).2 :: (PQ.runFrom (s.step B op).1 ops).2)

def PQ.run (ops : List (Op T)) : PQ T β × List (Out T) := PQ.runFrom B (PQ.init B) ops

end Queue

/-! ## priority arguments: the default `priority_key` (`-float(priority or 0)`), evaluated exactly

Every finite double is a dyadic rational `m / 2^e` (`float.as_integer_ratio`), so the key can be
computed without floating point: the harness hands the driver the priority AS PASSED to `add`
(`None`, a bool, an int, or the exact dyadic value of a float) and the model evaluates
`float(priority or 0)` itself.  A history's priorities are then scaled by a common power of two,
which turns them into the integers `Op.add` carries. -/

/-- a priority as `add` receives it -/
inductive PyPrio where
  | none                        -- `None` (also: argument left out)
  | bool (b : Bool)
  | int (n : Int)
  | float (m : Int) (e : Nat)   -- the finite float `m / 2^e`
deriving Repr, DecidableEq

/-- Python truthiness (`priority or 0` keeps a truthy value, replaces a falsy one by `0`) -/
def PyPrio.truthy : PyPrio → Bool
  | .none => false
  | .bool b => b
  | .int n => decide (n ≠ 0)
  | .float m _ => decide (m ≠ 0)

/-- `priority or 0` -/
def PyPrio.or0 (p : PyPrio) : PyPrio := if p.truthy then p else .int 0

/-- CPython's `int → float` for `n < 2^1024`: 53 significant bits, round half to even -/
def roundNat53 (n : Nat) : Nat :=
  if n < 2 ^ 53 then n else
    (if 2 ^ (n.log2 + 1 - 53 - 1) < n % 2 ^ (n.log2 + 1 - 53) ∨
        (n % 2 ^ (n.log2 + 1 - 53) = 2 ^ (n.log2 + 1 - 53 - 1) ∧ (n / 2 ^ (n.log2 + 1 - 53)) % 2 = 1)
      then n / 2 ^ (n.log2 + 1 - 53) + 1 else n / 2 ^ (n.log2 + 1 - 53)) * 2 ^ (n.log2 + 1 - 53)

def roundInt53 (n : Int) : Int :=
  if n < 0 then -((roundNat53 n.natAbs : Nat) : Int) else ((roundNat53 n.natAbs : Nat) : Int)

/-- the dyadic rational `m / 2^e` -/
structure Dy where
  m : Int
  e : Nat
deriving Repr, DecidableEq

/-- `float(x)` for `x` a bool / int / float (`float(None)` is a TypeError; never reached after `or 0`) -/
def PyPrio.toFloat : PyPrio → Dy
  | .none => ⟨0, 0⟩
  | .bool b => ⟨if b then 1 else 0, 0⟩
  | .int n => ⟨roundInt53 n, 0⟩
  | .float m e => ⟨m, e⟩

/-- the effective priority `float(priority or 0)` (the stored key is its negation) -/
def PyPrio.eff (p : PyPrio) : Dy := p.or0.toFloat

def Dy.neg (d : Dy) : Dy := ⟨-d.m, d.e⟩

/-- `d * 2^K` as an integer (exact when `d.e ≤ K`) -/
def Dy.scale (K : Nat) (d : Dy) : Int := d.m * 2 ^ (K - d.e)

/-- exact order of two dyadic rationals: `m₁/2^e₁ < m₂/2^e₂` -/
def Dy.lt (a b : Dy) : Prop := a.m * 2 ^ b.e < b.m * 2 ^ a.e

instance (a b : Dy) : Decidable (Dy.lt a b) := by unfold Dy.lt; exact inferInstance

/-- a history whose `add`s carry priorities of an arbitrary type `P` -/
inductive ROp (T P : Type) where
  | add (t : T) (p : P)
  | remove (t : T)
  | pop (dflt : Option Nat)
  | peek (dflt : Option Nat)
  | len
deriving Repr

/-- interpret the priorities by `f` -/
def ROp.toOp {T P : Type} (f : P → Int) : ROp T P → Op T
  | .add t p => .add t (f p)
  | .remove t => .remove t
  | .pop d => .pop d
  | .peek d => .peek d
  | .len => .len

/-- the priorities occurring in a history -/
def ROp.prios {T P : Type} : List (ROp T P) → List P
  | [] => []
  | .add _ p :: ops => p :: ROp.prios ops
  | _ :: ops => ROp.prios ops

/-- the largest exponent among a history's dyadic priorities -/
def maxExp {T : Type} (ops : List (ROp T Dy)) : Nat := ((ROp.prios ops).map Dy.e).foldr max 0

/-- what the driver runs: the history with every priority scaled by `2^maxExp` -/
def normalize {T : Type} (ops : List (ROp T Dy)) : List (Op T) := ops.map (ROp.toOp (Dy.scale (maxExp ops)))

/-! ## specification: live tasks with their priority, in order of (re-)insertion -/

abbrev Spec (T : Type) := List (T × Int)

section Spec
variable [DecidableEq T]

def taskNe (t : T) (x : T × Int) : Bool := !decide (x.1 = t)

/-- first element with the greatest priority -/
def best : Spec T → Option (T × Int)
  | [] => none
  | x :: xs =>
    match best xs with
    | none => some x
    | some y => if x.2 < y.2 then some y else some x

def Spec.has (s : Spec T) (t : T) : Bool := s.any (fun x => decide (x.1 = t))

def Spec.step (s : Spec T) : Op T → Spec T × Out T
  | .add t p => (s.filter (taskNe t) ++ [(t, p)], .none)
  | .remove t => if s.has t then (s.filter (taskNe t), .none) else (s, .keyError)
  | .pop d => match best s with
    | none => (s, emptyOut d)
    | some x => (s.filter (taskNe x.1), .task x.1)
  | .peek d => match best s with
    | none => (s, emptyOut d)
    | some x => (s, .task x.1)
  | .len => (s, .len s.length)

def Spec.runFrom (s : Spec T) : List (Op T) → Spec T × List (Out T)
  | [] => (s, [])
  | op :: ops =>
    ((Spec.runFrom (s.step op).1 ops).1, (s.step op).2 :: (Spec.runFrom (s.step op).1 ops).2)

def Spec.run (ops : List (Op T)) : Spec T × List (Out T) := Spec.runFrom [] ops

end Spec

end C10
