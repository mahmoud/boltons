import BoltonsVerif.C10.Proofs
import BoltonsVerif.C10.Queue
/-
C10 — two concrete backends satisfy the min-queue laws.
  * `sortedBackend limit` (BarrelList + insort + pop(0)), for EVERY size-limit function: it simulates, operation by
    operation, the sorted plain list `plainBackend` (`BackendSim`, `sorted_sim_plain`), whose laws it inherits
    (`Lawful.pullback`);
  * `listHeap` (a bag with extract-min).
-/
namespace C10
variable {T : Type} [DecidableEq T]

theorem Entry.bisectOrder : BisectOrder (Entry.lt (T := T)) where
  lt_of_lt_of_ge := by
    intro x m j h1 h2
    rw [Entry.lt_eq_true] at h1 ⊢
    rw [Entry.lt_eq_false] at h2
    omega
  ge_of_ge_of_ge := fun x m j h1 h2 => Entry.le_trans j m x h2 h1

/-- `B` and `B'` run in lock step on `R`-related states: same size and front, the same entry popped, related states after
    every operation.  `pop` is a disjunction and not an equation because the two rests have different types. -/
structure BackendSim {β β' : Type} (B : Backend T β) (B' : Backend T β') (R : β → β' → Prop) : Prop where
  empty : R B.empty B'.empty
  size : ∀ b b', R b b' → B.size b = B'.size b'
  front : ∀ b b', R b b' → B.front b = B'.front b'
  push : ∀ e b b', R b b' → R (B.push e b) (B'.push e b')
  pop : ∀ b b', R b b' → (B.popFront b = none ∧ B'.popFront b' = none) ∨
    ∃ e c c', B.popFront b = some (e, c) ∧ B'.popFront b' = some (e, c') ∧ R c c'
  mark : ∀ n b b', R b b' → R (B.mark n b) (B'.mark n b')

/-- the min-queue laws pull back along a lock-step simulation that is a function `φ` on the states satisfying `ok` -/
theorem Lawful.pullback {β β' : Type} {B : Backend T β} {B' : Backend T β'} {ok : β → Prop} {φ : β → β'}
    {wf' : β' → Prop} {content' : β' → List (Entry T)}
    (S : BackendSim B B' (fun b b' => ok b ∧ φ b = b')) (L' : Lawful B' wf' content') :
    Lawful B (fun b => ok b ∧ wf' (φ b)) (fun b => content' (φ b)) where
  wf_empty := ⟨S.empty.1, S.empty.2 ▸ L'.wf_empty⟩
  content_empty := by rw [S.empty.2]; exact L'.content_empty
  size_eq := fun b h => (S.size b _ ⟨h.1, rfl⟩).trans (L'.size_eq _ h.2)
  front_min := fun b h hne => by rw [S.front b _ ⟨h.1, rfl⟩]; exact L'.front_min _ h.2 hne
  pop_front := by
    intro b h hne
    obtain ⟨e, c', hp', hf', hwf', hperm⟩ := L'.pop_front _ h.2 hne
    rcases S.pop b _ ⟨h.1, rfl⟩ with ⟨_, hp''⟩ | ⟨e', c, c'', hp, hp'', hok, hφ⟩
    · rw [hp''] at hp'; cases hp'
    · rw [hp'] at hp''
      cases hp''
      exact ⟨e, c, hp, by rw [S.front b _ ⟨h.1, rfl⟩]; exact hf', ⟨hok, hφ ▸ hwf'⟩, hφ ▸ hperm⟩
  push := by
    intro e b h
    obtain ⟨hok, hφ⟩ := S.push e b _ ⟨h.1, rfl⟩
    rw [hφ]
    exact ⟨⟨hok, (L'.push e _ h.2).1⟩, (L'.push e _ h.2).2⟩
  mark := by
    intro c b h
    obtain ⟨hok, hφ⟩ := S.mark c b _ ⟨h.1, rfl⟩
    rw [hφ]
    exact ⟨⟨hok, (L'.mark c _ h.2).1⟩, (L'.mark c _ h.2).2⟩

/-- the sorted plain list: the head is least, `insort` keeps it ascending -/
theorem plain_lawful : Lawful (plainBackend (T := T)) (Asc Entry.lt) id where
  wf_empty := List.Pairwise.nil
  content_empty := rfl
  size_eq := fun _ _ => rfl
  front_min := by
    intro l hs hne
    cases l with
    | nil => exact absurd rfl hne
    | cons h tl =>
      refine ⟨h, rfl, List.mem_cons_self, fun x hx => ?_⟩
      rcases List.mem_cons.mp hx with rfl | hx
      · exact Entry.lt_irrefl _
      · exact (List.pairwise_cons.mp hs).1 x hx
  pop_front := by
    intro l hs hne
    cases l with
    | nil => exact absurd rfl hne
    | cons h tl =>
      refine ⟨h, tl, rfl, rfl, (List.pairwise_cons.mp hs).2, ?_⟩
      show tl.Perm ((h :: tl).erase h)
      rw [List.erase_cons_head]
  push := by
    intro e l hs
    have h := pyInsert_bisectRight_asc Entry.lt Entry.bisectOrder Entry.lt_asymm e ⟨[l]⟩ (BL.single_ok l)
      (by rw [BL.single_toList]; exact hs)
    rw [BL.single_toList] at h
    exact ⟨h, pyInsert_perm _ _ _⟩
  mark := fun c l hs => ⟨by
    show Asc Entry.lt (l.map (markEntry c))
    unfold Asc
    rw [List.pairwise_map]
    exact hs.imp (fun {a b} h => by rw [markEntry_lt]; exact h), List.Perm.refl _⟩

theorem sortedBackend_mark_toList (limit : Nat → Nat) (c : Nat) (b : BL (Entry T)) :
    ((sortedBackend limit).mark c b).toList = b.toList.map (markEntry c) := by
  simp [sortedBackend, BL.toList, List.map_flatten]

theorem sortedBackend_mark_ok (limit : Nat → Nat) (c : Nat) (b : BL (Entry T)) (h : b.ok) :
    ((sortedBackend limit).mark c b).ok :=
  fun hc => h (List.map_eq_nil_iff.mp hc)

theorem sorted_sim_plain (limit : Nat → Nat) :
    BackendSim (sortedBackend (T := T) limit) plainBackend (fun b l => b.ok ∧ b.toList = l) where
  empty := ⟨BL.empty_ok, BL.empty_toList⟩
  size := by
    intro b l h
    show b.len = l.length
    rw [BL.len_eq, h.2]
  front := by
    intro b l h
    show b.get? 0 = l[0]?
    rw [BL.get?_eq b h.1, h.2]
  push := by
    intro e b l h
    refine ⟨insort_ok limit _ e b h.1, ?_⟩
    show (insort limit Entry.lt e b).toList = pyInsert (bisectList Entry.lt e l) e l
    rw [insort_toList limit _ e b h.1, h.2]
    unfold bisectList
    rw [bisectRight_congr Entry.lt e b ⟨[l]⟩ h.1 (BL.single_ok l) (h.2.trans (BL.single_toList l).symm)]
  pop := by
    intro b l h
    show (b.pop? limit 0 = none ∧ _) ∨ ∃ e c c', b.pop? limit 0 = some (e, c) ∧ _
    rcases BL.pop?_zero limit b h.1 with ⟨hp, hnil⟩ | ⟨e, b', hp, hl, hok⟩
    · exact Or.inl ⟨hp, by rw [← h.2, hnil]; rfl⟩
    · exact Or.inr ⟨e, b', b'.toList, hp, by rw [← h.2, hl]; rfl, hok, rfl⟩
  mark := fun n b l h =>
    ⟨sortedBackend_mark_ok limit n b h.1, by rw [sortedBackend_mark_toList, h.2]; rfl⟩

theorem sorted_lawful (limit : Nat → Nat) : Lawful (sortedBackend (T := T) limit) sortedWf BL.toList :=
  Lawful.pullback (sorted_sim_plain limit) plain_lawful

theorem minEntry_none (l : List (Entry T)) : minEntry l = none ↔ l = [] := by
  cases l with
  | nil => simp [minEntry]
  | cons e es =>
    unfold minEntry
    cases minEntry es with
    | none => simp
    | some m => by_cases h : m.lt e = true <;> simp [h]

theorem minEntry_spec (l : List (Entry T)) (m : Entry T) (h : minEntry l = some m) :
    m ∈ l ∧ ∀ x ∈ l, x.lt m = false := by
  induction l generalizing m with
  | nil => simp [minEntry] at h
  | cons e es ih =>
    unfold minEntry at h
    cases hm : minEntry es with
    | none =>
      simp only [hm, Option.some.injEq] at h
      subst h
      have : es = [] := (minEntry_none es).mp hm
      subst this
      simp [Entry.lt_irrefl]
    | some m' =>
      simp only [hm] at h
      obtain ⟨hin, hmin⟩ := ih m' hm
      by_cases hlt : m'.lt e = true
      · simp only [hlt, ↓reduceIte, Option.some.injEq] at h
        subst h
        refine ⟨List.mem_cons_of_mem _ hin, ?_⟩
        intro x hx
        rcases List.mem_cons.mp hx with rfl | hx
        · exact Entry.lt_asymm _ _ hlt
        · exact hmin x hx
      · simp only [hlt, Bool.false_eq_true, ↓reduceIte, Option.some.injEq] at h
        subst h
        refine ⟨by simp, ?_⟩
        intro x hx
        rcases List.mem_cons.mp hx with rfl | hx
        · exact Entry.lt_irrefl _
        · exact Entry.le_trans _ m' x (by simpa using hlt) (hmin x hx)

theorem listHeap_lawful : Lawful (listHeap (T := T)) (fun _ => True) id where
  wf_empty := trivial
  content_empty := rfl
  size_eq := fun _ _ => rfl
  front_min := by
    intro b _ hne
    show ∃ e, minEntry b = some e ∧ _
    cases hm : minEntry b with
    | none => exact absurd ((minEntry_none b).mp hm) hne
    | some m => exact ⟨m, rfl, minEntry_spec b m hm⟩
  pop_front := by
    intro b _ hne
    show ∃ e b', (match minEntry b with | none => none | some m => some (m, b.erase m)) = some (e, b') ∧
      minEntry b = some e ∧ _
    cases hm : minEntry b with
    | none => exact absurd ((minEntry_none b).mp hm) hne
    | some m => exact ⟨m, b.erase m, rfl, rfl, trivial, List.Perm.refl _⟩
  push := fun e b _ => ⟨trivial, List.Perm.refl _⟩
  mark := fun c b _ => ⟨trivial, List.Perm.refl _⟩

end C10
