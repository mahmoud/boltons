import BoltonsVerif.C10.Backends
/-
C10 — `heapq` (the model's `heappush` / `heappop` with their sift loops) satisfies the min-queue laws
(`binHeap_lawful`).

The model (`Model.lean`) runs the loops as `heapq.py` writes them: the travelling item is kept in a local, parents /
children are copied into the position it came from, and that position holds a stale item until the final
`heap[pos] = newitem`.  `Hole h pos` is the invariant of both loops, stated on that list: a heap except for whatever
is at `pos`.  A round of either loop moves the hole (`Hole.up`, `Hole.down`); `Hole.fill` says which items may be
written into it.
-/
namespace C10

section Heap
variable {α : Type}

/-- A heap with a hole at `pos`: every parent/child pair that does not involve `pos` is in order (`away`), and the parent
    of `pos` is `≤` the children of `pos` (`across`).  Nothing is said about the (stale) item at `pos` itself. -/
structure Hole (lt : α → α → Bool) (h : List α) (pos : Nat) : Prop where
  away : ∀ j, 0 < j → j ≠ pos → (j - 1) / 2 ≠ pos → LeAt lt h ((j - 1) / 2) j
  across : 0 < pos → ∀ c, 0 < c → (c - 1) / 2 = pos → LeAt lt h ((pos - 1) / 2) c

/-- `x ≤` every child of `pos`: with `Hole`, what allows `x` to be written at `pos` from below (`Hole.fill`) -/
def LeKids (lt : α → α → Bool) (h : List α) (pos : Nat) (x : α) : Prop :=
  ∀ c, 0 < c → (c - 1) / 2 = pos → ∀ b, h[c]? = some b → lt b x = false

variable {lt : α → α → Bool}

theorem HeapOrder.irrefl (ho : HeapOrder lt) (a : α) : lt a a = false := by
  cases hh : lt a a with
  | false => rfl
  | true =>
    have := ho.asymm a a hh
    rw [hh] at this
    cases this

theorem LeAt.trans_of (ho : HeapOrder lt) {h : List α} {i j k : Nat} (hj : j < h.length)
    (h1 : LeAt lt h i j) (h2 : LeAt lt h j k) : LeAt lt h i k := by
  intro a c ha hc
  exact ho.trans a h[j] c (h1 a h[j] ha (List.getElem?_eq_getElem hj)) (h2 h[j] c (List.getElem?_eq_getElem hj) hc)

theorem LeAt.of_get {h h' : List α} {i j i' j' : Nat} (hi : h'[i]? = h[i']?) (hj : h'[j]? = h[j']?)
    (hle : LeAt lt h i' j') : LeAt lt h' i j :=
  fun a b ha hb => hle a b (hi ▸ ha) (hj ▸ hb)

theorem parent_lt {j : Nat} (h : 0 < j) : (j - 1) / 2 < j := by omega

/-- one round of either sift loop, read position by position -/
theorem getElem?_set_hole (h : List α) {pos q : Nat} (hpos : pos < h.length) (hq : q < h.length) :
    (h.set pos h[q])[pos]? = h[q]? ∧ ∀ k, k ≠ pos → (h.set pos h[q])[k]? = h[k]? :=
  ⟨by rw [List.getElem?_set_self hpos, List.getElem?_eq_getElem hq], fun _ hk => List.getElem?_set_ne (Ne.symm hk)⟩

/-- the hole filled with an item between the parent and the children of `pos` -/
theorem Hole.fill {h : List α} {pos : Nat} {x : α} (hI : Hole lt h pos) (hk : LeKids lt h pos x)
    (hp : pos = 0 ∨ ∀ a, h[(pos - 1) / 2]? = some a → lt x a = false) : HeapInv lt (h.set pos x) := by
  intro j hj0 a b ha hb
  by_cases hj : j = pos
  · subst hj
    rcases hp with h0 | hp
    · omega
    · have hlt := (List.getElem?_eq_some_iff.mp hb).1
      rw [List.length_set] at hlt
      rw [List.getElem?_set_ne (by omega)] at ha
      rw [List.getElem?_set_self hlt] at hb
      cases hb
      exact hp a ha
  · rw [List.getElem?_set_ne (Ne.symm hj)] at hb
    by_cases hpj : (j - 1) / 2 = pos
    · have hlt := (List.getElem?_eq_some_iff.mp ha).1
      rw [List.length_set] at hlt
      rw [hpj, List.getElem?_set_self (hpj ▸ hlt)] at ha
      cases ha
      exact hk j hj0 hpj b hb
    · rw [List.getElem?_set_ne (Ne.symm hpj)] at ha
      exact hI.away j hj0 hj hpj a b ha hb

/-- `_siftdown`: the parent's item is copied into the hole; the hole is then at the parent -/
theorem Hole.up (ho : HeapOrder lt) {h : List α} {pos : Nat} (hpos : 0 < pos) (hlt : pos < h.length)
    (hq : (pos - 1) / 2 < h.length) (hI : Hole lt h pos) :
    Hole lt (h.set pos h[(pos - 1) / 2]) ((pos - 1) / 2) := by
  have hacross := hI.across hpos
  have hqp := parent_lt hpos
  -- `q` is the parent of `pos`; all that matters from here on is `q < pos`
  generalize hqd : (pos - 1) / 2 = q at hq hacross hqp ⊢
  obtain ⟨at_pos, at_other⟩ := getElem?_set_hole h hlt hq
  constructor
  · intro j hj0 hjq hpjq
    by_cases hpj : (j - 1) / 2 = pos
    · rw [hpj]
      exact LeAt.of_get at_pos (at_other j (Nat.ne_of_gt (hpj ▸ parent_lt hj0))) (hacross j hj0 hpj)
    · have hjpos : j ≠ pos := fun e => hpjq (e ▸ hqd)
      exact LeAt.of_get (at_other _ hpj) (at_other j hjpos) (hI.away j hj0 hjpos hpj)
  · intro hq0 c hc0 hcq
    have hg := parent_lt hq0
    have at_g := at_other ((q - 1) / 2) (Nat.ne_of_lt (Nat.lt_trans hg hqp))
    have hgq : LeAt lt h ((q - 1) / 2) q := hI.away q hq0 (Nat.ne_of_lt hqp) (Nat.ne_of_lt (Nat.lt_trans hg hqp))
    by_cases hcpos : c = pos
    · subst hcpos
      exact LeAt.of_get at_g at_pos hgq
    · exact LeAt.of_get at_g (at_other c hcpos)
        (hgq.trans_of ho hq (by rw [← hcq]; exact hI.away c hc0 hcpos (hcq ▸ Nat.ne_of_lt hqp)))

theorem LeKids.up (ho : HeapOrder lt) {h : List α} {pos : Nat} {x : α} (hpos : 0 < pos) (hlt : pos < h.length)
    (hq : (pos - 1) / 2 < h.length) (hI : Hole lt h pos) (hx : lt x h[(pos - 1) / 2] = true) :
    LeKids lt (h.set pos h[(pos - 1) / 2]) ((pos - 1) / 2) x := by
  intro c hc0 hcq b hb
  by_cases hc : c = pos
  · rw [hc, List.getElem?_set_self hlt] at hb
    cases hb
    exact ho.asymm _ _ hx
  · rw [List.getElem?_set_ne (Ne.symm hc)] at hb
    have hcq' : (c - 1) / 2 ≠ pos := hcq ▸ Nat.ne_of_lt (parent_lt hpos)
    exact ho.trans _ _ _ (ho.asymm _ _ hx)
      (hI.away c hc0 hc hcq' _ b (by rw [hcq]; exact List.getElem?_eq_getElem hq) hb)

/-- exchanging the hole with an item is a permutation once the hole is filled -/
theorem set_hole_perm (h : List α) {pos q : Nat} (x : α) (hpos : pos < h.length) (hq : q < h.length) (hne : q ≠ pos) :
    ((h.set pos h[q]).set q x).Perm (h.set pos x) := by
  have := List.set_set_perm (as := h.set pos x) (i := pos) (j := q) (by simpa using hpos) (by simpa using hq)
  simpa [List.getElem_set_ne (Ne.symm hne), List.set_set] using this

/-- `_siftdown`: the fuel `pos + 1` suffices (`hf`); the result is compared with the list that has `x` in the hole -/
theorem siftDownLoop_spec (ho : HeapOrder lt) (fuel : Nat) (h : List α) (x : α) (pos : Nat) (hpos : pos < h.length)
    (hf : pos < fuel) (hI : Hole lt h pos) (hk : LeKids lt h pos x) :
    HeapInv lt (siftDownLoop lt fuel h x pos) ∧ (siftDownLoop lt fuel h x pos).Perm (h.set pos x) := by
  induction fuel generalizing h pos with
  | zero => omega
  | succ n ih =>
    unfold siftDownLoop
    split
    · exact ⟨hI.fill hk (Or.inl ‹_›), List.Perm.refl _⟩
    · have hq := parent_lt (Nat.pos_of_ne_zero ‹_›)
      have hqlt : (pos - 1) / 2 < h.length := Nat.lt_trans hq hpos
      rw [List.getElem?_eq_getElem hqlt]
      simp only
      split
      · obtain ⟨i1, i2⟩ := ih (h.set pos h[(pos - 1) / 2]) ((pos - 1) / 2) (by rw [List.length_set]; exact hqlt)
          (Nat.lt_of_lt_of_le hq (Nat.le_of_lt_succ hf)) (hI.up ho (Nat.pos_of_ne_zero ‹_›) hpos hqlt)
          (LeKids.up ho (Nat.pos_of_ne_zero ‹_›) hpos hqlt hI ‹_›)
        exact ⟨i1, i2.trans (set_hole_perm h x hpos hqlt (Nat.ne_of_lt hq))⟩
      · refine ⟨hI.fill hk (Or.inr fun a ha => ?_), List.Perm.refl _⟩
        rw [List.getElem?_eq_getElem hqlt] at ha
        cases ha
        simpa using ‹¬ lt x h[(pos - 1) / 2] = true›

theorem smallerChild_set (h : List α) (pos : Nat) (x : α) :
    smallerChild lt (h.set pos x) pos = smallerChild lt h pos := by
  unfold smallerChild
  rw [List.getElem?_set_ne (by omega), List.getElem?_set_ne (by omega)]

theorem smallerChild_range (h : List α) (pos : Nat) (hl : 2 * pos + 1 < h.length) :
    pos < smallerChild lt h pos ∧ (smallerChild lt h pos - 1) / 2 = pos ∧ smallerChild lt h pos < h.length := by
  have h1 : pos < 2 * pos + 1 ∧ (2 * pos + 1 - 1) / 2 = pos :=
    ⟨by omega, by rw [Nat.add_sub_cancel, Nat.mul_div_cancel_left _ (by decide)]⟩
  have h2 : pos < 2 * pos + 2 ∧ (2 * pos + 2 - 1) / 2 = pos :=
    ⟨by omega, by show (2 * pos + 1) / 2 = pos; rw [Nat.mul_add_div (by decide)]; rfl⟩
  unfold smallerChild
  rw [List.getElem?_eq_getElem hl]
  cases hr : h[2 * pos + 2]? with
  | none => exact ⟨h1.1, h1.2, hl⟩
  | some r =>
    simp only
    split
    · exact ⟨h1.1, h1.2, hl⟩
    · exact ⟨h2.1, h2.2, (List.getElem?_eq_some_iff.mp hr).1⟩

theorem smallerChild_min (ho : HeapOrder lt) (h : List α) (pos : Nat) (hl : 2 * pos + 1 < h.length) :
    ∀ c, 0 < c → (c - 1) / 2 = pos → LeAt lt h (smallerChild lt h pos) c := by
  intro c hc hcp a b ha hb
  have hchild : c = 2 * pos + 1 ∨ c = 2 * pos + 2 := by omega
  unfold smallerChild at ha
  rw [List.getElem?_eq_getElem hl] at ha
  cases hr : h[2 * pos + 2]? with
  | none =>
    rw [hr] at ha
    rcases hchild with rfl | rfl
    · rw [ha] at hb; cases hb; exact ho.irrefl a
    · rw [hr] at hb; cases hb
  | some r =>
    rw [hr] at ha
    simp only at ha
    by_cases hlr : lt h[2 * pos + 1] r = true
    · rw [if_pos hlr, List.getElem?_eq_getElem hl] at ha
      cases ha
      rcases hchild with rfl | rfl
      · rw [List.getElem?_eq_getElem hl] at hb; cases hb; exact ho.irrefl _
      · rw [hr] at hb; cases hb; exact ho.asymm _ _ hlr
    · rw [if_neg hlr, hr] at ha
      cases ha
      rcases hchild with rfl | rfl
      · rw [List.getElem?_eq_getElem hl] at hb; cases hb; simpa using hlr
      · rw [hr] at hb; cases hb; exact ho.irrefl _

/-- `_siftup`'s first loop: the item of the child `c` that is `≤` its siblings is copied into the hole; the hole is
    then at `c` -/
theorem Hole.down {h : List α} {pos c : Nat} (hposlt : pos < h.length) (hclt : c < h.length)
    (hc0 : 0 < c) (hcp : (c - 1) / 2 = pos)
    (hmin : ∀ d, 0 < d → (d - 1) / 2 = pos → LeAt lt h c d)
    (hI : Hole lt h pos) : Hole lt (h.set pos h[c]) c := by
  obtain ⟨at_pos, at_other⟩ := getElem?_set_hole h hposlt hclt
  have hpc : pos < c := hcp ▸ parent_lt hc0
  constructor
  · intro j hj0 hjc hpjc
    by_cases hjpos : j = pos
    · -- pos now holds h[c], which is above the parent of pos
      subst hjpos
      exact LeAt.of_get (at_other _ (Nat.ne_of_lt (parent_lt hj0))) at_pos (hI.across hj0 c hc0 hcp)
    · by_cases hpj : (j - 1) / 2 = pos
      · -- the other child of pos
        rw [hpj]
        exact LeAt.of_get at_pos (at_other j hjpos) (hmin j hj0 hpj)
      · exact LeAt.of_get (at_other _ hpj) (at_other j hjpos) (hI.away j hj0 hjpos hpj)
  · intro _ d hd0 hdc
    have hd : c < d := hdc ▸ parent_lt hd0
    rw [hcp]
    exact LeAt.of_get at_pos (at_other d (Nat.ne_of_gt (Nat.lt_trans hpc hd)))
      (by rw [← hdc]; exact hI.away d hd0 (Nat.ne_of_gt (Nat.lt_trans hpc hd)) (hdc ▸ Nat.ne_of_gt hpc))

/-- what the first loop of `_siftup`, started with the hole at `pos` of `h`, returns as `r`: the hole is at a leaf; the length
    and, whatever is put in the hole, the contents are those of `h` -/
structure SiftedToLeaf (lt : α → α → Bool) (h : List α) (pos : Nat) (r : List α × Nat) : Prop where
  hole : Hole lt r.1 r.2
  leaf : h.length ≤ 2 * r.2 + 1
  perm : ∀ x, (r.1.set r.2 x).Perm (h.set pos x)
  pos_lt : r.2 < h.length
  length : r.1.length = h.length

/-- the fuel `len(heap)` suffices -/
theorem siftLeafLoop_spec (ho : HeapOrder lt) (fuel : Nat) (h : List α) (pos : Nat) (hposlt : pos < h.length)
    (hf : h.length - pos ≤ fuel) (hI : Hole lt h pos) : SiftedToLeaf lt h pos (siftLeafLoop lt fuel h pos) := by
  induction fuel generalizing h pos with
  | zero => omega
  | succ n ih =>
    unfold siftLeafLoop
    by_cases hl : 2 * pos + 1 < h.length
    · obtain ⟨hpc, hcp, hclt⟩ := smallerChild_range (lt := lt) h pos hl
      have hmin := smallerChild_min ho h pos hl
      simp only [hl, ↓reduceIte]
      generalize smallerChild lt h pos = c at hpc hcp hclt hmin
      rw [List.getElem?_eq_getElem hclt]
      simp only
      have hlen : (h.set pos h[c]).length = h.length := List.length_set
      have i := ih (h.set pos h[c]) c (by rw [hlen]; exact hclt) (by rw [hlen]; omega)
        (hI.down hposlt hclt (Nat.zero_lt_of_lt hpc) hcp hmin)
      exact ⟨i.hole, hlen ▸ i.leaf, fun x => (i.perm x).trans (set_hole_perm h x hposlt hclt (Nat.ne_of_gt hpc)),
        hlen ▸ i.pos_lt, i.length.trans hlen⟩
    · simp only [hl, ↓reduceIte]
      exact ⟨hI, Nat.le_of_not_lt hl, fun _ => List.Perm.refl _, hposlt, rfl⟩

theorem HeapInv.hole_root {a b : α} {l : List α} (hI : HeapInv lt (a :: l)) : Hole lt (b :: l) 0 := by
  constructor
  · intro j hj0 _ hpj
    have hp0 : (j - 1) / 2 ≠ 0 := hpj
    exact LeAt.of_get (h := a :: l) (by cases hp : (j - 1) / 2 with | zero => exact absurd hp hp0 | succ k => rfl)
      (by cases j with | zero => omega | succ k => rfl) (hI j hj0)
  · intro h0; omega

theorem pySiftUp_spec (ho : HeapOrder lt) (h : List α) (hne : h ≠ []) (hI : Hole lt h 0) :
    HeapInv lt (pySiftUp lt h) ∧ (pySiftUp lt h).Perm h := by
  have hpos : 0 < h.length := List.length_pos_iff.mpr hne
  unfold pySiftUp
  rw [List.getElem?_eq_getElem hpos]
  simp only
  have hs := siftLeafLoop_spec ho h.length h 0 hpos (by omega) hI
  obtain ⟨i1, i2⟩ := siftDownLoop_spec ho ((siftLeafLoop lt h.length h 0).2 + 1) _ h[0] _ (by rw [hs.length]; exact hs.pos_lt)
    (Nat.lt_succ_self _) hs.hole (fun c _ hcp b hb => by
      -- the hole is at a leaf: it has no children
      have := (List.getElem?_eq_some_iff.mp hb).1
      have := hs.leaf
      have := hs.length
      omega)
  exact ⟨i1, i2.trans ((hs.perm h[0]).trans (by rw [List.set_getElem_self hpos]))⟩

theorem heappush_spec (ho : HeapOrder lt) (x : α) (h : List α) (hI : HeapInv lt h) :
    HeapInv lt (heappush lt x h) ∧ (heappush lt x h).Perm (x :: h) := by
  unfold heappush
  have hset : (h ++ [x]).set h.length x = h ++ [x] := by simp
  have out : ∀ c, 0 < c → (c - 1) / 2 = h.length → (h ++ [x])[c]? = none := fun c hc0 hcp =>
    List.getElem?_eq_none (by rw [List.length_append]; exact hcp ▸ parent_lt hc0)
  obtain ⟨i1, i2⟩ := siftDownLoop_spec ho (h.length + 1) (h ++ [x]) x h.length (by simp) (by omega)
    ⟨fun j hj0 hjn hpj a b ha hb => by
        have hjlt : j < h.length := by
          have := (List.getElem?_eq_some_iff.mp hb).1
          rw [List.length_append, List.length_singleton] at this
          omega
        rw [List.getElem?_append_left (Nat.lt_trans (parent_lt hj0) hjlt)] at ha
        rw [List.getElem?_append_left hjlt] at hb
        exact hI j hj0 a b ha hb,
      fun _ c hc0 hcp a b _ hb => by rw [out c hc0 hcp] at hb; cases hb⟩
    (fun c hc0 hcp b hb => by rw [out c hc0 hcp] at hb; cases hb)
  rw [hset] at i2
  exact ⟨i1, i2.trans (List.perm_append_singleton x h)⟩

theorem heapInv_nil : HeapInv lt ([] : List α) := by
  intro j _ a b ha _
  simp at ha

theorem heap_root_min (ho : HeapOrder lt) (h : List α) (hI : HeapInv lt h) (r : α) (hr : h[0]? = some r) :
    ∀ x ∈ h, lt x r = false := by
  have key : ∀ (j : Nat) (x : α), h[j]? = some x → lt x r = false := by
    intro j
    induction j using Nat.strongRecOn with
    | _ j ih =>
      intro x hx
      by_cases hj0 : j = 0
      · subst hj0; rw [hr] at hx; cases hx; exact ho.irrefl r
      · have hj0 := Nat.pos_of_ne_zero hj0
        have hp := List.getElem?_eq_getElem (Nat.lt_trans (parent_lt hj0) (List.getElem?_eq_some_iff.mp hx).1)
        exact ho.trans r _ x (ih _ (parent_lt hj0) _ hp) (hI j hj0 _ x hp hx)
  intro x hx
  obtain ⟨j, hjlt, hjx⟩ := List.getElem_of_mem hx
  exact key j x (by rw [List.getElem?_eq_getElem hjlt, hjx])

theorem heapInv_prefix (h t : List α) (hI : HeapInv lt (h ++ t)) : HeapInv lt h := by
  intro j hj0 a b ha hb
  have hjlt := (List.getElem?_eq_some_iff.mp hb).1
  have hplt := (List.getElem?_eq_some_iff.mp ha).1
  exact hI j hj0 a b (by rw [List.getElem?_append_left hplt]; exact ha)
    (by rw [List.getElem?_append_left hjlt]; exact hb)

theorem heappop_spec [DecidableEq α] (ho : HeapOrder lt) (h : List α) (hI : HeapInv lt h) (hne : h ≠ []) :
    ∃ e h', heappop lt h = some (e, h') ∧ h[0]? = some e ∧ HeapInv lt h' ∧ h'.Perm (h.erase e) := by
  unfold heappop
  obtain ⟨init, last, rfl⟩ : ∃ init last, h = init ++ [last] :=
    ⟨h.dropLast, h.getLast hne, (List.dropLast_concat_getLast hne).symm⟩
  simp only [List.getLast?_append, List.getLast?_singleton, Option.some_or, List.dropLast_concat]
  cases init with
  | nil =>
    refine ⟨last, [], rfl, by simp, heapInv_nil, ?_⟩
    simp
  | cons first rest =>
    obtain ⟨s1, s2⟩ := pySiftUp_spec ho (last :: rest) (List.cons_ne_nil _ _) (heapInv_prefix _ _ hI).hole_root
    refine ⟨first, pySiftUp lt (last :: rest), rfl, by simp, s1, s2.trans ?_⟩
    simp only [List.cons_append, List.erase_cons_head]
    exact (List.perm_append_singleton last rest).symm

end Heap

section Backend
variable {T : Type} [DecidableEq T]

theorem Entry.heapOrder : HeapOrder (Entry.lt (T := T)) where
  asymm := Entry.lt_asymm
  trans := Entry.le_trans

theorem heapInv_map_mark (c : Nat) (h : List (Entry T)) (hI : HeapInv Entry.lt h) :
    HeapInv Entry.lt (h.map (markEntry c)) := by
  intro j hj0 a b ha hb
  rw [List.getElem?_map] at ha hb
  cases h1 : h[(j - 1) / 2]? with
  | none => rw [h1] at ha; cases ha
  | some a' =>
    cases h2 : h[j]? with
    | none => rw [h2] at hb; cases hb
    | some b' =>
      rw [h1] at ha; rw [h2] at hb
      cases ha; cases hb
      rw [markEntry_lt]
      exact hI j hj0 a' b' h1 h2

theorem binHeap_lawful : Lawful (binHeap (T := T)) (HeapInv Entry.lt) id where
  wf_empty := heapInv_nil
  content_empty := rfl
  size_eq := fun _ _ => rfl
  front_min := by
    intro b hwf hne
    show ∃ e, b[0]? = some e ∧ _
    cases b with
    | nil => exact absurd rfl hne
    | cons r rest =>
      exact ⟨r, rfl, by simp, heap_root_min Entry.heapOrder _ hwf r rfl⟩
  pop_front := fun b hwf hne => heappop_spec Entry.heapOrder b hwf hne
  push := fun e b hwf => heappush_spec Entry.heapOrder e b hwf
  mark := fun c b hwf => ⟨heapInv_map_mark c b hwf, List.Perm.refl _⟩

end Backend

end C10
