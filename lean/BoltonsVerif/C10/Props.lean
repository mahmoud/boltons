import BoltonsVerif.C10.Backends
import BoltonsVerif.C10.Prio
import BoltonsVerif.C10.Heap
import BoltonsVerif.C10.DriverCorrect
import BoltonsVerif.C10.Rel
import BoltonsVerif.C10.Round
import BoltonsVerif.C10.Pure
import BoltonsVerif.C10.Inf
import BoltonsVerif.C10.Compact
/-
C10 — property theorems (statements + short derivations from the lemma files of the directory)
and non-vacuity examples.

Reading guide.  `Spec T = List (T × Int)` is the list of LIVE tasks with their priority in
order of (re-)insertion; `Spec.step` is the property statement read literally:
  add t p   : drop t if present, append (t, p)          ("replaces priority and arrival position")
  remove t  : KeyError if absent, else drop t
  pop/peek  : `best` = the FIRST task among those of GREATEST priority; empty -> IndexError/default
  len       : number of live tasks
-/
namespace C10

section A
variable {α : Type}

/-- `list(bl.insert(i, x)) == list(bl)[:i] + [x] + list(bl)[i:]` for EVERY `i ≥ 0`, any number of
    sub-lists, any size-limit function — in particular `i = len(bl)` (broken before the fix) -/
theorem barrel_flatten_insert (limit : Nat → Nat) (b : BL α) (h : b.ok) (i : Nat) (x : α) :
    (b.insert limit i x).toList = b.toList.take i ++ x :: b.toList.drop i :=
  BL.insert_toList limit b h i x

/-- the same with core's `insertIdx`, for `0 ≤ i ≤ len` -/
theorem barrel_flatten_insertIdx (limit : Nat → Nat) (b : BL α) (h : b.ok) (i : Nat) (x : α)
    (hi : i ≤ b.len) : (b.insert limit i x).toList = b.toList.insertIdx i x := by
  rw [barrel_flatten_insert limit b h i x]
  rw [BL.len_eq] at hi
  generalize b.toList = l at hi
  induction l generalizing i with
  | nil => simp at hi; subst hi; simp
  | cons a as ih =>
    cases i with
    | zero => simp
    | succ k => simp [List.insertIdx_succ_cons, ih k (by simpa using hi)]

/-- the end-of-list case: `bl.insert(len(bl), x)` appends -/
theorem barrel_insert_at_end (limit : Nat → Nat) (b : BL α) (h : b.ok) (x : α) :
    (b.insert limit b.len x).toList = b.toList ++ [x] := by
  rw [barrel_flatten_insert limit b h, BL.len_eq]
  simp

theorem barrel_insert_ok (limit : Nat → Nat) (b : BL α) (h : b.ok) (i : Nat) (x : α) :
    (b.insert limit i x).ok := BL.insert_ok limit b h i x

/-- `len(bl) == len(list(bl))` -/
theorem barrel_len (b : BL α) : b.len = b.toList.length := BL.len_eq b

/-- `bl[i] == list(bl)[i]`, IndexError exactly when `i ≥ len` -/
theorem barrel_getitem (b : BL α) (h : b.ok) (i : Nat) : b.get? i = b.toList[i]? := BL.get?_eq b h i

/-- `bl.pop(i)` raises IndexError exactly when `i ≥ len` … -/
theorem barrel_pop_error (limit : Nat → Nat) (b : BL α) (h : b.ok) (i : Nat) :
    b.pop? limit i = none ↔ b.len ≤ i := by
  rw [BL.len_eq]; exact BL.pop?_none limit b h i

/-- … and otherwise returns `list(bl)[i]` and leaves `list(bl)` without that position -/
theorem barrel_pop (limit : Nat → Nat) (b : BL α) (h : b.ok) (i : Nat) (x : α) (b' : BL α)
    (hp : b.pop? limit i = some (x, b')) :
    b.toList[i]? = some x ∧ b'.toList = b.toList.eraseIdx i ∧ b'.ok :=
  BL.pop?_some limit b h i x b' hp

/-- `_balance_list` never changes the contents, whatever the limit -/
theorem barrel_balance_contents (limit : Nat → Nat) (ls : List (List α)) (li : Nat) :
    (balance limit ls li).flatten = ls.flatten := balance_flatten limit ls li

/-- the `while` loop of `_balance_list` terminates within `len(cur_list)` rounds with the
    remaining `cur_list` no longer than `half_limit` (the model's fuel suffices) -/
theorem barrel_split_terminates (half : Nat) (cur : List α) :
    ∃ c rest, splitLoop half cur.length cur [] = c :: rest ∧ c.length ≤ half :=
  splitLoop_head_le half cur.length cur [] (Nat.le_refl _)

/-- `bisect_right` over `len`/`__getitem__` of an ascending BarrelList returns the position after
    the last element `≤ x` (and the model's fuel suffices) -/
theorem barrel_bisect_right (lt : α → α → Bool) (ho : BisectOrder lt) (x : α) (b : BL α) (hb : b.ok)
    (hs : Asc lt b.toList) :
    bisectRight lt x b ≤ b.toList.length ∧
    (∀ y ∈ b.toList.take (bisectRight lt x b), lt x y = false) ∧
    (∀ y ∈ b.toList.drop (bisectRight lt x b), lt x y = true) :=
  bisectRight_spec lt ho x b hb hs

/-- `insort` keeps an ascending BarrelList ascending (and only adds `x`) -/
theorem sorted_preserved (limit : Nat → Nat) (lt : α → α → Bool) (ho : BisectOrder lt)
    (hirr : ∀ a b, lt a b = true → lt b a = false) (x : α) (b : BL α) (hb : b.ok)
    (hs : Asc lt b.toList) :
    Asc lt (insort limit lt x b).toList ∧ (insort limit lt x b).toList.Perm (x :: b.toList) := by
  rw [insort_toList limit lt x b hb]
  exact ⟨pyInsert_bisectRight_asc lt ho hirr x b hb hs, pyInsert_perm _ _ _⟩

/-- record of the repaired defect: with the unfixed index translation, inserting at the very end of
    a BarrelList with two sub-lists put the item at the FRONT of the last sub-list -/
theorem unfixed_insert_at_end_misplaces :
    (insertUnfixed [[1, 2], [3, 4]] 4 5).flatten = [1, 2, 5, 3, 4] ∧
    (BL.insert (fun _ => 100) ⟨[[1, 2], [3, 4]]⟩ 4 5).toList = [1, 2, 3, 4, 5] := by decide

end A

section Aheap
variable {α : Type}

/-- `heappush` keeps the heap invariant and adds exactly the pushed item, for any comparison that is
    a total preorder (Python's `<` on entries is one: `comparisons_never_reach_task`) -/
theorem heapq_heappush (lt : α → α → Bool) (ho : HeapOrder lt) (x : α) (h : List α)
    (hI : HeapInv lt h) :
    HeapInv lt (heappush lt x h) ∧ (heappush lt x h).Perm (x :: h) := heappush_spec ho x h hI

/-- `heappop` raises IndexError exactly on the empty list; otherwise it returns the root, which is a
    least item, removes exactly that item and keeps the heap invariant (the fuel given to the two
    sift loops suffices) -/
theorem heapq_heappop [DecidableEq α] (lt : α → α → Bool) (ho : HeapOrder lt) (h : List α)
    (hI : HeapInv lt h) :
    (h = [] → heappop lt h = none) ∧
    (h ≠ [] → ∃ e h', heappop lt h = some (e, h') ∧ h[0]? = some e ∧ (∀ x ∈ h, lt x e = false) ∧
      HeapInv lt h' ∧ h'.Perm (h.erase e)) := by
  constructor
  · intro hnil; subst hnil; rfl
  · intro hne
    obtain ⟨e, h', h1, h2, h3, h4⟩ := heappop_spec ho h hI hne
    exact ⟨e, h', h1, h2, heap_root_min ho h hI e h2, h3, h4⟩

end Aheap

section B
variable {T : Type} [DecidableEq T]

/-- the BarrelList/insort/pop(0) backend satisfies the min-queue laws for every size-limit function -/
theorem sorted_backend_lawful (limit : Nat → Nat) :
    Lawful (sortedBackend (T := T) limit) sortedWf BL.toList := sorted_lawful limit

/-- so does the bag `listHeap` -/
theorem heap_standin_lawful : Lawful (listHeap (T := T)) (fun _ => True) id := listHeap_lawful

/-- MAIN: over any lawful backend, every history of add / re-add / remove / pop / peek / len
    yields exactly the specification's return values and exceptions, and the reached state
    stands for the specification's state -/
theorem lawful_backend_refines_spec {β : Type} (B : Backend T β) (wf : β → Prop)
    (content : β → List (Entry T)) (L : Lawful B wf content) (ops : List (Op T)) :
    (PQ.run B ops).2 = (Spec.run ops).2 ∧ absSpec (PQ.run B ops).1 = (Spec.run ops).1 :=
  ⟨(run_sim L ops).out, (run_sim L ops).abs⟩

/-- SortedPriorityQueue (any number of sub-lists, any size limits) -/
theorem sorted_refines_spec (limit : Nat → Nat) (ops : List (Op T)) :
    (PQ.run (sortedBackend limit) ops).2 = (Spec.run ops).2 :=
  (lawful_backend_refines_spec _ _ _ (sorted_lawful limit) ops).1

/-- `listHeap`, a bag with extract-min -/
theorem heap_refines_spec (ops : List (Op T)) :
    (PQ.run listHeap ops).2 = (Spec.run ops).2 :=
  (lawful_backend_refines_spec _ _ _ listHeap_lawful ops).1

/-- `heapq` itself - `heappush` / `heappop` with their `_siftdown` / `_siftup` loops on a Python
    list - satisfies the min-queue laws -/
theorem heapq_lawful : Lawful (binHeap (T := T)) (HeapInv Entry.lt) id := binHeap_lawful

/-- HeapPriorityQueue over the modelled `heapq`: every history returns what the specification returns -/
theorem heapq_refines_spec (ops : List (Op T)) :
    (PQ.run binHeap ops).2 = (Spec.run ops).2 :=
  (lawful_backend_refines_spec _ _ _ binHeap_lawful ops).1

/-- SortedPriorityQueue (BarrelList + insort) and HeapPriorityQueue (list + heapq) are observationally
    identical, at any queue size, for any size-limit function - no trusted stand-in involved -/
theorem heapq_sorted_observationally_equal (limit : Nat → Nat) (ops : List (Op T)) :
    (PQ.run (sortedBackend limit) ops).2 = (PQ.run binHeap ops).2 := by
  rw [sorted_refines_spec, heapq_refines_spec]

/-- the heap backend of every reachable state satisfies the heap invariant -/
theorem heapq_backend_always_heap (ops : List (Op T)) :
    HeapInv Entry.lt (PQ.run binHeap ops).1.pq :=
  (run_sim binHeap_lawful ops).inv.wf

/-- the sorted queue and the queue over the bag `listHeap` are observationally identical, at any queue size -/
theorem heap_sorted_observationally_equal (limit : Nat → Nat) (ops : List (Op T)) :
    (PQ.run (sortedBackend limit) ops).2 = (PQ.run listHeap ops).2 := by
  rw [sorted_refines_spec, heap_refines_spec]

/-- … and so are any two lawful backends -/
theorem lawful_backends_observationally_equal {β β' : Type} (B : Backend T β) (B' : Backend T β')
    (wf : β → Prop) (content : β → List (Entry T)) (wf' : β' → Prop) (content' : β' → List (Entry T))
    (L : Lawful B wf content) (L' : Lawful B' wf' content') (ops : List (Op T)) :
    (PQ.run B ops).2 = (PQ.run B' ops).2 := by
  rw [(run_sim L ops).out, (run_sim L' ops).out]

/-- the sorted backend of every reachable state is ascending by `(priority, count)` -/
theorem sorted_backend_always_sorted (limit : Nat → Nat) (ops : List (Op T)) :
    Asc Entry.lt (PQ.run (sortedBackend limit) ops).1.pq.toList :=
  (run_sim (sorted_lawful limit) ops).inv.wf.2

/-- `SortedPriorityQueue` over the BarrelList IS `SortedPriorityQueue` over a plain Python list (what
    `queueutils` uses when `BList` cannot be imported): for every history and EVERY size-limit function
    the return values are the same, and after the history the items of the BarrelList - tombstones
    included, in order - are exactly the plain list; `_entry_map` and the counter agree too -/
theorem barrel_queue_is_plain_list_queue (limit : Nat → Nat) (ops : List (Op T)) :
    (PQ.run (sortedBackend limit) ops).2 = (PQ.run plainBackend ops).2 ∧
    (PQ.run (sortedBackend limit) ops).1.pq.toList = (PQ.run plainBackend ops).1.pq ∧
    (PQ.run (sortedBackend limit) ops).1.emap = (PQ.run plainBackend ops).1.emap ∧
    (PQ.run (sortedBackend limit) ops).1.counter = (PQ.run plainBackend ops).1.counter :=
  have h := run_rel (sorted_sim_plain limit) ops
  ⟨h.2, h.1.pq.2, h.1.emap, h.1.counter⟩

/-- the queue does not depend on `BarrelList._size_factor` / `_cur_size_limit`: any two size-limit
    functions give the same return values for every history AND the same backend content (as a flat
    list, tombstones included) - only the cut into sub-lists differs -/
theorem sorted_queue_independent_of_size_limit (limit limit' : Nat → Nat) (ops : List (Op T)) :
    (PQ.run (sortedBackend limit) ops).2 = (PQ.run (sortedBackend limit') ops).2 ∧
    (PQ.run (sortedBackend limit) ops).1.pq.toList = (PQ.run (sortedBackend limit') ops).1.pq.toList ∧
    (PQ.run (sortedBackend limit) ops).1.emap = (PQ.run (sortedBackend limit') ops).1.emap := by
  have h := barrel_queue_is_plain_list_queue limit ops
  have h' := barrel_queue_is_plain_list_queue limit' ops
  exact ⟨h.1.trans h'.1.symm, h.2.1.trans h'.2.1.symm, h.2.2.1.trans h'.2.2.1.symm⟩

/-- the sub-list structure never matters to `insort`: `bisect_right` finds the same insertion point in
    any two BarrelLists holding the same items -/
theorem barrel_bisect_independent_of_structure {α : Type} (lt : α → α → Bool) (x : α) (b b' : BL α)
    (hb : b.ok) (hb' : b'.ok) (h : b.toList = b'.toList) :
    bisectRight lt x b = bisectRight lt x b' :=
  bisectRight_congr lt x b b' hb hb' h

/-- the compiled driver used by the correspondence check evaluates exactly `PQ.run` (the function
    all theorems here are about), and therefore prints the specification's outputs -/
theorem driver_runs_the_model (sf : Nat) (ops : List (Op Nat)) :
    Driver.runOuts (sortedBackend (curSizeLimit sf)) ops = (Spec.run ops).2 ∧
    Driver.runOuts listHeap ops = (Spec.run ops).2 ∧
    Driver.runOuts binHeap ops = (Spec.run ops).2 := by
  rw [runOuts_eq, runOuts_eq, runOuts_eq]
  exact ⟨sorted_refines_spec _ ops, heap_refines_spec ops, heapq_refines_spec ops⟩

end B

section C
variable {T : Type} [DecidableEq T]

/-- a task is live at most once (so `len` counts tasks) -/
theorem live_tasks_nodup (ops : List (Op T)) : ((live ops).map Prod.fst).Nodup := by
  -- `Inv.knodup` of the queue's dict; any lawful backend serves
  have h := run_sim (listHeap_lawful (T := T)) ops
  unfold live
  rw [← h.abs, absSpec_tasks]
  exact h.inv.knodup

/-- pop/peek return exactly the task of HIGHEST priority, the EARLIEST (re-)inserted among equals:
    every live task inserted before it has strictly lower priority, none inserted after it has higher -/
theorem pop_returns_max_priority_fifo {β : Type} {B : Backend T β} {wf : β → Prop}
    {content : β → List (Entry T)} (L : Lawful B wf content) (ops : List (Op T)) (d : Option Nat) (t : T)
    (h : nextOut B ops (.pop d) = .task t ∨ nextOut B ops (.peek d) = .task t) :
    ∃ p pre post, live ops = pre ++ (t, p) :: post ∧
      (∀ y ∈ pre, y.2 < p) ∧ (∀ y ∈ post, y.2 ≤ p) := by
  rw [nextOut_eq_spec L, nextOut_eq_spec L] at h
  simp only [Spec.step] at h
  cases hb : best (live ops) with
  | none => cases d <;> simp [hb, emptyOut] at h
  | some x =>
    simp only [hb, Out.task.injEq, or_self] at h
    obtain ⟨pre, post, h1, h2, h3⟩ := best_decomp (live ops) x hb
    refine ⟨x.2, pre, post, ?_, h2, h3⟩
    rw [h1, ← h]

/-- pop/peek on an empty queue raise IndexError when no default was given and return THE GIVEN
    default - whichever object `i` that is - when one was given; on a non-empty queue they return a task -/
theorem empty_pop_default {β : Type} {B : Backend T β} {wf : β → Prop}
    {content : β → List (Entry T)} (L : Lawful B wf content) (ops : List (Op T)) :
    (live ops = [] →
      nextOut B ops (.pop none) = .indexError ∧ nextOut B ops (.peek none) = .indexError ∧
      ∀ i, nextOut B ops (.pop (some i)) = .dflt i ∧ nextOut B ops (.peek (some i)) = .dflt i) ∧
    (live ops ≠ [] → ∀ d,
      (∃ t, nextOut B ops (.pop d) = .task t) ∧ (∃ t, nextOut B ops (.peek d) = .task t)) := by
  constructor
  · intro h
    refine ⟨?_, ?_, fun i => ⟨?_, ?_⟩⟩ <;>
      (rw [nextOut_eq_spec L]; simp [Spec.step, h, best, emptyOut])
  · intro h d
    rw [nextOut_eq_spec L, nextOut_eq_spec L]
    simp only [Spec.step]
    cases hb : best (live ops) with
    | none => exact absurd ((best_eq_none _).mp hb) h
    | some x => exact ⟨⟨x.1, rfl⟩, ⟨x.1, rfl⟩⟩

/-- `peek` announces exactly what the next `pop` returns (task, default or IndexError) -/
theorem peek_agrees_with_pop {β : Type} {B : Backend T β} {wf : β → Prop}
    {content : β → List (Entry T)} (L : Lawful B wf content) (ops : List (Op T)) (d : Option Nat) :
    nextOut B ops (.peek d) = nextOut B ops (.pop d) := by
  rw [nextOut_eq_spec L, nextOut_eq_spec L]
  simp only [Spec.step]
  cases best (live ops) <;> rfl

/-- the `default` argument plays no role unless the queue is empty - whichever object it is, in particular
    when it IS (or equals) the head task itself (`pop(None)` on a queue holding the task `None`): `pop(d)`
    returns what `pop()` returns and leaves exactly the live tasks `pop()` leaves, so the head task is
    gone afterwards; on an empty queue both leave it empty -/
theorem pop_removes_head_whatever_the_default {β : Type} {B : Backend T β} {wf : β → Prop}
    {content : β → List (Entry T)} (L : Lawful B wf content) (ops : List (Op T)) (d : Option Nat) :
    live (ops ++ [.pop d]) = live (ops ++ [.pop none]) ∧
    (live ops ≠ [] → nextOut B ops (.pop d) = nextOut B ops (.pop none) ∧
      (live (ops ++ [.pop d])).length + 1 = (live ops).length ∧
      ∀ t, nextOut B ops (.pop d) = .task t → t ∉ (live (ops ++ [.pop d])).map Prod.fst) := by
  refine ⟨?_, fun hne => ?_⟩
  · rw [live_snoc, live_snoc]
    simp only [Spec.step]
    cases best (live ops) <;> rfl
  · rw [nextOut_eq_spec L, nextOut_eq_spec L, live_snoc]
    simp only [Spec.step]
    cases hb : best (live ops) with
    | none => exact absurd ((best_eq_none _).mp hb) hne
    | some x =>
      refine ⟨rfl, length_filter_taskNe _ (live_tasks_nodup ops) x (best_mem _ x hb), ?_⟩
      intro t ht hin
      simp only [Out.task.injEq] at ht
      exact ((mem_filter_taskNe _ t x.1).mp hin).2 ht.symm

/-- superseded entries (tombstones) are unobservable: two queue states - even over two DIFFERENT lawful
    backends - that satisfy the invariant and stand for the same live tasks return the same values for
    every continuation, however many entries marked `_REMOVED` each of them still carries -/
theorem backend_layout_is_unobservable {β β' : Type} {B : Backend T β} {wf : β → Prop}
    {content : β → List (Entry T)} {B' : Backend T β'} {wf' : β' → Prop} {content' : β' → List (Entry T)}
    (L : Lawful B wf content) (L' : Lawful B' wf' content') (s : PQ T β) (s' : PQ T β')
    (hI : Inv wf content s) (hI' : Inv wf' content' s') (h : absSpec s' = absSpec s) (ops : List (Op T)) :
    (PQ.runFrom B' s' ops).2 = (PQ.runFrom B s ops).2 :=
  (layout_unobservable L L' s s' hI hI' h ops).1

/-- after ANY history `ops1` (e.g. thousands of re-prioritisations of a bounded task set), replacing the
    backend by one rebuilt from its live entries - taken in any order `es` - through the backend's own
    `push` (`heappush` / `insort`) changes no return value of any continuation `ops2`, and the rebuilt
    backend holds exactly the live entries -/
theorem compaction_is_unobservable {β : Type} {B : Backend T β} {wf : β → Prop}
    {content : β → List (Entry T)} (L : Lawful B wf content) (ops1 ops2 : List (Op T)) (es : List (Entry T))
    (hes : es.Perm (liveEntries (content (PQ.run B ops1).1.pq))) :
    (PQ.runFrom B ((PQ.run B ops1).1.compact B es) ops2).2 = (PQ.runFrom B (PQ.run B ops1).1 ops2).2 ∧
    (content ((PQ.run B ops1).1.compact B es).pq).Perm (liveEntries (content (PQ.run B ops1).1.pq)) ∧
    (content ((PQ.run B ops1).1.compact B es).pq).length = (live ops1).length := by
  have h := run_sim L ops1
  have hperm := (rebuild_spec L es).2.trans hes
  refine ⟨compact_unobservable L _ h.inv es hes ops2, hperm, ?_⟩
  rw [show live ops1 = absSpec (PQ.run B ops1).1 from h.abs.symm, absSpec_length, ← h.inv.live_length]
  exact hperm.length_eq

/-- ... whereas installing the heap array with the tombstones merely FILTERED OUT (no re-heapify; the
    seeded change C10-15) can be observed: kernel-checked record of a history after which the queue pops
    task 3 (priority -5) although task 5 (priority -4) is live.  The heap `[1, 2†, 5, 10, 4, 20]`
    (priorities negated, † = removed) becomes `[1, 5, 10, 4, 20]`, where 4 sits below 5 -/
theorem unheapified_compaction_is_observable :
    ∃ ops1 ops2 : List (Op Nat),
      (PQ.runFrom binHeap (⟨liveEntries (PQ.run binHeap ops1).1.pq, (PQ.run binHeap ops1).1.emap,
          (PQ.run binHeap ops1).1.counter⟩ : PQ Nat (List (Entry Nat))) ops2).2 = [.task 1, .task 3] ∧
      (PQ.runFrom binHeap (PQ.run binHeap ops1).1 ops2).2 = [.task 1, .task 5] ∧
      (PQ.runFrom binHeap ((PQ.run binHeap ops1).1.compact binHeap
          (liveEntries (PQ.run binHeap ops1).1.pq)) ops2).2 = [.task 1, .task 5] :=
  ⟨[.add 1 (-1), .add 2 (-2), .add 3 (-5), .add 4 (-10), .add 5 (-4), .add 6 (-20), .remove 2],
   [.pop none, .pop none], by decide +kernel⟩

/-- `peek` and `len` are pure observations although `peek` culls tombstones from the backend: deleting
    every `peek` / `len` call from a history changes neither the live tasks nor the return value of any
    remaining call (`add`, `remove`, `pop`) -/
theorem peek_and_len_are_unobservable {β : Type} {B : Backend T β} {wf : β → Prop}
    {content : β → List (Entry T)} (L : Lawful B wf content) (ops : List (Op T)) :
    (PQ.run B (ops.filter isUpdate)).2 = ((ops.zip (PQ.run B ops).2).filter updOut).map Prod.snd ∧
    live (ops.filter isUpdate) = live ops := by
  rw [(run_sim L _).out, (run_sim L _).out]
  exact ⟨(spec_strip ops []).2, (spec_strip ops []).1⟩

/-- `len` is the number of live tasks -/
theorem len_eq_live {β : Type} {B : Backend T β} {wf : β → Prop}
    {content : β → List (Entry T)} (L : Lawful B wf content) (ops : List (Op T)) :
    nextOut B ops .len = .len (live ops).length := by
  rw [nextOut_eq_spec L]; rfl

/-- `sortDesc` (used below) really is "by descending priority, earlier (re-)insertion first among
    equals": a permutation, descending, and stable -/
theorem sortDesc_is_stable_descending_sort (s : Spec T) :
    (sortDesc s).Perm s ∧ (sortDesc s).Pairwise (fun a b => b.2 ≤ a.2) ∧
    ∀ p, (sortDesc s).filter (hasPrio p) = s.filter (hasPrio p) := by
  refine ⟨sortDesc_perm s, sortDesc_sorted s, ?_⟩
  intro p
  rw [← sortDesc_filter]
  apply sortDesc_of_same_prio p
  intro x hx
  simpa [hasPrio] using (List.mem_filter.mp hx).2

/-- draining: after ANY history, popping `len` times returns all live tasks ordered by descending
    priority, earliest (re-)insertion first among equals, and leaves the queue empty -/
theorem drain_returns_sorted {β : Type} {B : Backend T β} {wf : β → Prop}
    {content : β → List (Entry T)} (L : Lawful B wf content) (ops : List (Op T)) (d : Option Nat) :
    ((PQ.run B (ops ++ List.replicate (live ops).length (.pop d))).2).drop ops.length
      = (sortDesc (live ops)).map (fun x => Out.task x.1) ∧
    live (ops ++ List.replicate (live ops).length (.pop d)) = [] := by
  rw [(run_sim L _).out, outs_drop, live_append]
  exact spec_drain d _ (live ops) (live_tasks_nodup ops) rfl

theorem returned_task_is_live {β : Type} {B : Backend T β} {wf : β → Prop}
    {content : β → List (Entry T)} (L : Lawful B wf content) (ops : List (Op T)) (d : Option Nat) (t : T)
    (h : nextOut B ops (.pop d) = .task t ∨ nextOut B ops (.peek d) = .task t) :
    t ∈ (live ops).map Prod.fst := by
  obtain ⟨p, pre, post, hs, _, _⟩ := pop_returns_max_priority_fifo L ops d t h
  rw [hs]; simp

/-- `add` returns None; `remove` raises KeyError exactly when the task is not live -/
theorem add_remove_results {β : Type} {B : Backend T β} {wf : β → Prop}
    {content : β → List (Entry T)} (L : Lawful B wf content) (ops : List (Op T)) (t : T) (p : Int) :
    nextOut B ops (.add t p) = .none ∧
    (t ∈ (live ops).map Prod.fst → nextOut B ops (.remove t) = .none) ∧
    (t ∉ (live ops).map Prod.fst → nextOut B ops (.remove t) = .keyError) := by
  rw [nextOut_eq_spec L, nextOut_eq_spec L]
  refine ⟨rfl, ?_, ?_⟩
  · intro h
    simp [Spec.step, (Spec.has_iff _ t).mpr h]
  · intro h
    have : (live ops).has t = false := Bool.eq_false_iff.mpr fun hh => h ((Spec.has_iff _ t).mp hh)
    simp [Spec.step, this]

/-- re-adding a task replaces its priority and moves it to the back of the arrival order;
    adding a new task appends it -/
theorem readd_moves_to_back (ops : List (Op T)) (t : T) (p : Int) :
    live (ops ++ [.add t p]) = (live ops).filter (taskNe t) ++ [(t, p)] :=
  live_snoc ops (.add t p)

/-- a removed task is never returned again (until it is re-added): after `remove t`, no later
    pop/peek of a history without `add t` returns `t` -/
theorem removed_never_returned {β : Type} {B : Backend T β} {wf : β → Prop}
    {content : β → List (Entry T)} (L : Lawful B wf content) (ops1 ops2 : List (Op T)) (t : T)
    (hops : ∀ op ∈ ops2, isAddOf t op = false) :
    Out.task t ∉ ((PQ.run B (ops1 ++ .remove t :: ops2)).2).drop (ops1.length + 1) := by
  rw [(run_sim L _).out, outs_after]
  apply (not_live_stays _ t _ ops2 hops).1
  simp only [Spec.step]
  split
  · exact fun hin => ((mem_filter_taskNe _ t t).mp hin).2 rfl
  · rename_i hnot
    exact fun hin => hnot ((Spec.has_iff _ t).mpr hin)

/-- an already popped task is never returned again (until it is re-added) -/
theorem popped_never_returned {β : Type} {B : Backend T β} {wf : β → Prop}
    {content : β → List (Entry T)} (L : Lawful B wf content) (ops1 ops2 : List (Op T)) (d : Option Nat) (t : T)
    (hpop : nextOut B ops1 (.pop d) = .task t)
    (hops : ∀ op ∈ ops2, isAddOf t op = false) :
    Out.task t ∉ ((PQ.run B (ops1 ++ .pop d :: ops2)).2).drop (ops1.length + 1) := by
  rw [nextOut_eq_spec L] at hpop
  rw [(run_sim L _).out, outs_after]
  apply (not_live_stays _ t _ ops2 hops).1
  simp only [Spec.step] at hpop ⊢
  cases hb : best (live ops1) with
  | none => rw [hb] at hpop; cases d <;> simp [emptyOut] at hpop
  | some x =>
    rw [hb] at hpop
    simp only [Out.task.injEq] at hpop
    exact fun hin => ((mem_filter_taskNe _ t x.1).mp hin).2 hpop.symm

end C

section D
variable {T : Type} [DecidableEq T]

/-- the return values of a history depend on its priorities only through their ORDER: two
    interpretations `f g` of the priorities that order the history's priorities alike give the same
    outputs, over any lawful backend.  (Sound basis of scaling, of ranks, and of any custom
    `priority_key` that orders the priorities the same way.) -/
theorem priorities_matter_only_by_order {P β : Type} {B : Backend T β} {wf : β → Prop}
    {content : β → List (Entry T)} (L : Lawful B wf content) (f g : P → Int) (ops : List (ROp T P))
    (h : ∀ a ∈ ROp.prios ops, ∀ b ∈ ROp.prios ops, (f a < f b ↔ g a < g b)) :
    (PQ.run B (ops.map (ROp.toOp f))).2 = (PQ.run B (ops.map (ROp.toOp g))).2 := by
  rw [(run_sim L _).out, (run_sim L _).out]
  exact run_order_invariant f g ops h

/-- scaling by a common power of two compares dyadic rationals (finite floats) EXACTLY -/
theorem scale_exact (K : Nat) (a b : Dy) (ha : a.e ≤ K) (hb : b.e ≤ K) :
    a.scale K < b.scale K ↔ Dy.lt a b := scale_lt_iff K a b ha hb

/-- what the driver runs (`normalize`: every priority scaled by `2^maxExp`) orders the history's
    priorities exactly as their real values do … -/
theorem normalize_orders_exactly (ops : List (ROp T Dy)) :
    ∀ a ∈ ROp.prios ops, ∀ b ∈ ROp.prios ops,
      (a.scale (maxExp ops) < b.scale (maxExp ops) ↔ Dy.lt a b) :=
  fun a ha b hb => scale_lt_iff _ a b (exp_le_maxExp ops a ha) (exp_le_maxExp ops b hb)

/-- … hence ANY interpretation `g` that respects the real order (ranks, another scaling, a custom
    key) yields the same return values as the driver's normalised history, on the sorted backend and on `listHeap` -/
theorem normalize_sound (limit : Nat → Nat) (g : Dy → Int) (ops : List (ROp T Dy))
    (hg : ∀ a ∈ ROp.prios ops, ∀ b ∈ ROp.prios ops, (g a < g b ↔ Dy.lt a b)) :
    (PQ.run (sortedBackend limit) (normalize ops)).2 = (Spec.run (ops.map (ROp.toOp g))).2 ∧
    (PQ.run listHeap (normalize ops)).2 = (Spec.run (ops.map (ROp.toOp g))).2 := by
  have key : (Spec.run (normalize ops)).2 = (Spec.run (ops.map (ROp.toOp g))).2 := by
    unfold normalize
    apply run_order_invariant
    intro a ha b hb
    rw [normalize_orders_exactly ops a ha b hb, hg a ha b hb]
  exact ⟨by rw [(run_sim (sorted_lawful limit) _).out, key], by rw [(run_sim listHeap_lawful _).out, key]⟩

/-- the default key never inverts the order of two int priorities of ANY size: beyond 2^53 distinct ints may
    collapse into one float (then first-in first-out decides among them), but a larger int never becomes a smaller float -/
theorem default_key_monotone_on_ints (a b : Int) (h : a ≤ b) :
    ¬ Dy.lt (PyPrio.int b).eff (PyPrio.int a).eff := by
  rw [PyPrio.eff_int a, PyPrio.eff_int b]
  have := roundInt53_mono a b h
  simp only [Dy.lt]
  omega

/-- the harness sends `float('inf')` / `float('-inf')` priorities to the driver as `+-2^1100`.  That value
    lies strictly beyond the effective priority of EVERY other legal argument - `None`, bools, ints that
    `float()` accepts (`|n| < 2^1024`), finite doubles (`|m / 2^e| < 2^1024`) - so it orders a history's
    priorities exactly as the infinities do, and by `priorities_matter_only_by_order` the return values are
    those of the real infinities -/
theorem inf_standin_dominates :
    (∀ n : Int, n.natAbs < 2 ^ 1024 →
      Dy.lt (PyPrio.int n).eff ⟨2 ^ 1100, 0⟩ ∧ Dy.lt ⟨-(2 ^ 1100), 0⟩ (PyPrio.int n).eff) ∧
    (∀ (m : Int) (e : Nat), m.natAbs < 2 ^ 1024 * 2 ^ e →
      Dy.lt (PyPrio.float m e).eff ⟨2 ^ 1100, 0⟩ ∧ Dy.lt ⟨-(2 ^ 1100), 0⟩ (PyPrio.float m e).eff) ∧
    (∀ p : PyPrio, p = .none ∨ (∃ b, p = .bool b) →
      Dy.lt p.eff ⟨2 ^ 1100, 0⟩ ∧ Dy.lt ⟨-(2 ^ 1100), 0⟩ p.eff) := by
  refine ⟨?_, ?_, ?_⟩
  · intro n hn
    obtain ⟨h1, h2⟩ := roundInt53_abs_le n hn
    rw [PyPrio.eff_int]
    simp only [Dy.lt]
    constructor <;> omega
  · intro m e hm
    have hpos : (0 : Int) < 2 ^ e := two_pow_pos e
    have hlt : (2 : Int) ^ 1024 * 2 ^ e < 2 ^ 1100 * 2 ^ e :=
      Int.mul_lt_mul_of_pos_right (by decide +kernel) hpos
    have hm' : ((m.natAbs : Nat) : Int) < 2 ^ 1024 * 2 ^ e := by exact_mod_cast hm
    rw [PyPrio.eff_float]
    split
    · decide +kernel
    · simp only [Dy.lt]
      constructor <;> omega
  · intro p hp
    rcases hp with rfl | ⟨b, rfl⟩
    · decide +kernel
    · cases b <;> decide +kernel

/-- histories with INFINITE priorities: running the queue on the stand-ins (`+-2^1100`, scaled by any
    common power of two `2^K` that clears the denominators - the driver uses `2^maxExp`) returns exactly what
    it returns under ANY interpretation `h` that orders the priorities like the extended reals do
    (`EPrio.lt`: `-inf` below, `+inf` above every finite value, equal infinities tie) -/
theorem infinite_priorities_sound {β : Type} {B : Backend T β} {wf : β → Prop}
    {content : β → List (Entry T)} (L : Lawful B wf content) (ops : List (ROp T EPrio)) (K : Nat)
    (hl : ∀ a ∈ ROp.prios ops, a.legal) (hK : ∀ a ∈ ROp.prios ops, a.standin.e ≤ K)
    (h : EPrio → Int)
    (hh : ∀ a ∈ ROp.prios ops, ∀ b ∈ ROp.prios ops, (h a < h b ↔ EPrio.lt a b)) :
    (PQ.run B (ops.map (ROp.toOp (fun a => a.standin.scale K)))).2
      = (PQ.run B (ops.map (ROp.toOp h))).2 := by
  apply priorities_matter_only_by_order L
  intro a ha b hb
  rw [scale_exact K _ _ (hK a ha) (hK b hb), standin_lt_iff a b (hl a ha) (hl b hb), hh a ha b hb]

theorem int_to_float_rounding_monotone :
    (∀ n m : Nat, n ≤ m → roundNat53 n ≤ roundNat53 m) ∧
    (∀ a b : Int, a ≤ b → roundInt53 a ≤ roundInt53 b) :=
  ⟨roundNat53_mono, roundInt53_mono⟩

/-- the default key `float(priority or 0)`: `None`, `False`, `0`, `0.0`/`-0.0` are one priority, and
    `True`, `1`, `1.0` are one priority; ints up to 2^53 convert exactly -/
theorem default_key_aliases :
    PyPrio.none.eff = (PyPrio.int 0).eff ∧ (PyPrio.bool false).eff = (PyPrio.int 0).eff ∧
    (∀ e, (PyPrio.float 0 e).eff = (PyPrio.int 0).eff) ∧
    (PyPrio.bool true).eff = (PyPrio.int 1).eff ∧ (PyPrio.float 1 0).eff = (PyPrio.int 1).eff ∧
    (∀ n : Nat, n < 2 ^ 53 → (PyPrio.int n).eff = ⟨n, 0⟩ ∧ (PyPrio.int (-(n : Int))).eff = ⟨-(n : Int), 0⟩) := by
  refine ⟨by decide, by decide, fun e => PyPrio.eff_float 0 e, by decide, by decide, ?_⟩
  intro n hn
  have h0 : roundNat53 n = n := roundNat53_small n hn
  rw [PyPrio.eff_int, PyPrio.eff_int]
  have hpos : ¬ (n : Int) < 0 := by omega
  constructor
  · simp [roundInt53, hpos, h0]
  · by_cases hz : n = 0
    · subst hz; decide
    · simp [roundInt53, h0, hz]

/-- entries of a reachable queue state have pairwise distinct counters, all below the next counter
    value, whatever the backend … -/
theorem entry_counts_unique {β : Type} {B : Backend T β} {wf : β → Prop}
    {content : β → List (Entry T)} (L : Lawful B wf content) (ops : List (Op T)) :
    ((content (PQ.run B ops).1.pq).map Entry.count).Nodup ∧
    ∀ e ∈ content (PQ.run B ops).1.pq, e.count < (PQ.run B ops).1.counter :=
  ⟨(run_sim L ops).inv.cnodup, (run_sim L ops).inv.clt⟩

/-- … so Python's comparison of `[priority, count, task]` lists is always decided by priority or
    count and never reaches the task (no TypeError for unorderable tasks or the `_REMOVED` sentinel):
    between two stored entries, and between the entry the next `add` creates and a stored one.
    `Entry.lt`, which the model uses, is therefore exactly Python's `<` on reachable states. -/
theorem comparisons_never_reach_task {β : Type} {B : Backend T β} {wf : β → Prop}
    {content : β → List (Entry T)} (L : Lawful B wf content) (ops : List (Op T)) :
    (∀ a ∈ content (PQ.run B ops).1.pq, ∀ b ∈ content (PQ.run B ops).1.pq, a ≠ b →
      a.pyLt b = some (a.lt b)) ∧
    (∀ (t : T) (p : Int), ∀ b ∈ content (PQ.run B ops).1.pq,
      (⟨p, (PQ.run B ops).1.counter, some t⟩ : Entry T).pyLt b
        = some ((⟨p, (PQ.run B ops).1.counter, some t⟩ : Entry T).lt b) ∧
      b.pyLt ⟨p, (PQ.run B ops).1.counter, some t⟩ = some (b.lt ⟨p, (PQ.run B ops).1.counter, some t⟩)) := by
  obtain ⟨hn, hlt⟩ := entry_counts_unique L ops
  refine ⟨fun a ha b hb hab => pyLt_of_count_ne a b fun hc => hab (eq_of_map_eq Entry.count hn ha hb hc), ?_⟩
  intro t p b hb
  have := hlt b hb
  exact ⟨pyLt_of_count_ne _ _ (by simp only; omega), pyLt_of_count_ne _ _ (by simp only; omega)⟩

end D

/-! non-vacuity: concrete histories (the size limit 2 forces several sub-lists at once) -/
section Examples

/-- the content function of the heap backend (`heapq_lawful` is stated with `id`) -/
abbrev content_id (l : List (Entry Nat)) : List (Entry Nat) := l

def exOps : List (Op Nat) :=
  [.add 1 5, .add 2 5, .add 3 7, .add 4 1, .add 5 5, .add 1 5, .remove 4, .len,
   .peek none, .pop none, .pop none, .pop none, .pop none, .pop none, .pop (some 7), .remove 9]

/-- ties by earliest (re-)insertion: 1 was re-added after 2 and 5, so it comes last among the 5s -/
example : (PQ.run (sortedBackend (fun _ => 2)) exOps).2 =
    [.none, .none, .none, .none, .none, .none, .none, .len 4,
     .task 3, .task 3, .task 2, .task 5, .task 1, .indexError, .dflt 7, .keyError] := by decide +kernel

example : (PQ.run listHeap exOps).2 = (PQ.run (sortedBackend (fun _ => 2)) exOps).2 :=
  (heap_sorted_observationally_equal _ exOps).symm

/-- two size limits: different sub-list structure, same items, same answers (and the plain list) -/
example : (PQ.run (sortedBackend (fun _ => 2)) (exOps.take 6)).1.pq.lists
      ≠ (PQ.run (sortedBackend (fun _ => 100)) (exOps.take 6)).1.pq.lists ∧
    (PQ.run (sortedBackend (fun _ => 2)) (exOps.take 6)).1.pq.toList
      = (PQ.run plainBackend (exOps.take 6)).1.pq ∧
    (PQ.run plainBackend exOps).2 = (PQ.run (sortedBackend (fun _ => 2)) exOps).2 :=
  ⟨by decide +kernel, (barrel_queue_is_plain_list_queue _ _).2.1, (barrel_queue_is_plain_list_queue _ _).1.symm⟩

/-- the history without its `len` / `peek` calls: same answers from the other calls -/
example : exOps.length = 16 ∧ (exOps.filter isUpdate).length = 14 ∧
    (PQ.run (sortedBackend (fun _ => 2)) (exOps.filter isUpdate)).2 =
      [.none, .none, .none, .none, .none, .none, .none,
       .task 3, .task 2, .task 5, .task 1, .indexError, .dflt 7, .keyError] := by decide +kernel

/-- the backend really is split into several sub-lists in that history -/
example : (PQ.run (sortedBackend (fun _ => 2)) (exOps.take 6)).1.pq.lists.length = 5 := by decide +kernel

/-- a BarrelList with three sub-lists satisfying the hypotheses of section A; inserting at the very end -/
example : (BL.insert (fun _ => 2) ⟨[[1, 2], [3], [4, 5]]⟩ 5 6).toList = [1, 2, 3, 4, 5, 6] := by decide
example : (⟨[[1, 2], [3], [4, 5]]⟩ : BL Nat).ok := by simp [BL.ok]
example : Asc (fun a b : Nat => decide (a < b)) (⟨[[1, 2], [3], [4, 5]]⟩ : BL Nat).toList := by
  unfold Asc; decide
example : bisectRight (fun a b : Nat => decide (a < b)) 3 ⟨[[1, 2], [3], [4, 5]]⟩ = 3 := by decide

example : sortDesc [(1, 5), (2, 5), (3, 7), (4, 1), (5, 5)] = [((3 : Nat), (7 : Int)), (1, 5), (2, 5), (5, 5), (4, 1)] := by decide

/-- hypotheses of `removed_never_returned` / `popped_never_returned` are satisfiable -/
example : ∀ op ∈ ([.pop none, .add 7 1, .peek (some 1)] : List (Op Nat)), isAddOf 3 op = false := by decide
example : nextOut (sortedBackend (fun _ => 2)) (exOps.take 8) (.pop none) = .task 3 := by decide +kernel

/-- raw priorities: `add(1, None)`, `add(2, 0.5)`, `add(3, True)`, `add(4, 1)`, `add(5, 2**53 + 1)`,
    `add(6, 2**53)`: the driver's normalised history (exponent 1) pops 5 before 6 (both are 2^53 as
    floats, FIFO), then 3 before 4 (True = 1), then 2, then 1 -/
def exRaw : List (ROp Nat Dy) :=
  [.add 1 PyPrio.none.eff, .add 2 (PyPrio.float 1 1).eff, .add 3 (PyPrio.bool true).eff,
   .add 4 (PyPrio.int 1).eff, .add 5 (PyPrio.int (2 ^ 53 + 1)).eff, .add 6 (PyPrio.int (2 ^ 53)).eff,
   .pop none, .pop none, .pop none, .pop none, .pop none, .pop none]

example : maxExp exRaw = 1 := by decide
example : (PQ.run (sortedBackend (fun _ => 2)) (normalize exRaw)).2.drop 6 =
    [.task 5, .task 6, .task 3, .task 4, .task 2, .task 1] := by decide +kernel
/-- a history with both infinities, the largest double and `None`: hypotheses of `infinite_priorities_sound`
    (with `K = 0`, `h` = ranks `0 < 1 < 2 < 3`) and its conclusion evaluated -/
def exInf : List (ROp Nat EPrio) :=
  [.add 1 (.fin ⟨(2 ^ 53 - 1) * 2 ^ 971, 0⟩), .add 2 .posInf, .add 3 .negInf, .add 4 (.fin ⟨0, 0⟩), .add 5 .posInf,
   .pop none, .pop none, .pop none, .pop none, .pop none]

example : (∀ a ∈ ROp.prios exInf, a.legal) ∧ (∀ a ∈ ROp.prios exInf, a.standin.e ≤ 0) := by
  simp only [exInf, ROp.prios, List.mem_cons, List.not_mem_nil, or_false, forall_eq_or_imp, forall_eq]
  decide +kernel

/-- ranks `-inf -> 0`, `0 -> 1`, the largest double `-> 2`, `+inf -> 3` order `exInf`'s priorities like `EPrio.lt` -/
def exRank : EPrio → Int
  | .negInf => 0
  | .fin d => if d.m = 0 then 1 else 2
  | .posInf => 3

example : ∀ a ∈ ROp.prios exInf, ∀ b ∈ ROp.prios exInf, (exRank a < exRank b ↔ EPrio.lt a b) := by
  simp only [exInf, ROp.prios, List.mem_cons, List.not_mem_nil, or_false, forall_eq_or_imp, forall_eq]
  decide +kernel

example : (PQ.run (sortedBackend (fun _ => 2)) (exInf.map (ROp.toOp (fun a => a.standin.scale 0)))).2.drop 5
    = [.task 2, .task 5, .task 1, .task 4, .task 3] := by decide +kernel

/-- the largest finite double (2^53 - 1) * 2^971 meets the hypothesis of `inf_standin_dominates` -/
example : (((2 ^ 53 - 1) * 2 ^ 971 : Int)).natAbs < 2 ^ 1024 * 2 ^ 0 ∧
    Dy.lt (PyPrio.float ((2 ^ 53 - 1) * 2 ^ 971) 0).eff ⟨2 ^ 1100, 0⟩ := by decide +kernel

/-- three consecutive ints beyond 2^53: the first two collapse, the order is kept -/
example : (PyPrio.int (2 ^ 53 + 1)).eff = (PyPrio.int (2 ^ 53)).eff ∧
    Dy.lt (PyPrio.int (2 ^ 53 + 1)).eff (PyPrio.int (2 ^ 53 + 2)).eff := by decide +kernel

/-- int → float rounds half to even at 53 bits -/
example : roundInt53 (2 ^ 53 + 1) = 2 ^ 53 ∧ roundInt53 (2 ^ 53 + 3) = 2 ^ 53 + 4 ∧
    roundInt53 (-(2 ^ 54 + 2)) = -(2 ^ 54) ∧ roundInt53 (2 ^ 54 + 6) = 2 ^ 54 + 8 ∧
    roundInt53 (2 ^ 53 + 2) = 2 ^ 53 + 2 := by decide +kernel
/-- hypotheses of `scale_exact` / `normalize_sound`: 1e-9-like small dyadics against an integer -/
example : Dy.lt ⟨0, 0⟩ ⟨1, 30⟩ ∧ (⟨0, 0⟩ : Dy).scale 30 < (⟨1, 30⟩ : Dy).scale 30 := by decide
/-- two distinct stored entries and the next entry, compared as Python does -/
example : (⟨-5, 0, some 1⟩ : Entry Nat).pyLt ⟨-5, 1, some 2⟩ = some true ∧
    (⟨-5, 0, some 1⟩ : Entry Nat).pyLt ⟨-5, 0, none⟩ = none := by decide

/-- heapq: pushing 5 3 8 1 9 2 and popping twice; the hypotheses of `heapq_heappush` / `heapq_heappop` -/
example : heappush (fun a b : Nat => decide (a < b)) 1 [3, 5, 8] = [1, 3, 8, 5] := by decide
example : heappop (fun a b : Nat => decide (a < b)) [1, 3, 2, 5, 9, 8] = some (1, [2, 3, 8, 5, 9]) := by decide
example : heappop (fun a b : Nat => decide (a < b)) ([] : List Nat) = none := by decide
example : HeapOrder (fun a b : Nat => decide (a < b)) :=
  ⟨fun a b h => by simp at h ⊢; omega, fun a b c h1 h2 => by simp at h1 h2 ⊢; omega⟩
example : (PQ.run binHeap exOps).2 = (PQ.run (sortedBackend (fun _ => 2)) exOps).2 :=
  (heapq_sorted_observationally_equal _ exOps).symm
example : (PQ.run binHeap (exOps.take 6)).1.pq.length = 6 := by decide

/-- `pop_removes_head_whatever_the_default`: task 7 heads the queue and default #1000007 (the driver's name
    for "the task object 7 itself") is given: 7 is returned and gone, the next pop reaches task 8; on the
    emptied queue that default comes back and is shown as the task object it is -/
example : nextOut binHeap [.add 7 1, .add 8 0] (.pop (some (Driver.taskDefaultBase + 7))) = .task 7 ∧
    live ([.add 7 1, .add 8 0] ++ [.pop (some (Driver.taskDefaultBase + 7))]) = [((8 : Nat), (0 : Int))] ∧
    (PQ.run binHeap [.add 7 1, .add 8 0, .pop (some 1000007), .pop (some 1000007), .pop (some 1000007)]).2.map
      Driver.showOut = ["-", "-", "t7", "t8", "t7"] := by decide +kernel

/-- `compaction_is_unobservable`: after the first 7 calls of `exOps` (two superseded entries inside the heap:
    the old entry of task 1 and the removed task 4) the heap holds 6 entries, 4 of them live; rebuilt from
    the live ones in reverse order it holds 4, and the rest of the history returns the same values -/
example : (content_id (PQ.run binHeap (exOps.take 7)).1.pq).length = 6 ∧
    (liveEntries (content_id (PQ.run binHeap (exOps.take 7)).1.pq)).length = 4 ∧
    (((PQ.run binHeap (exOps.take 7)).1.compact binHeap
        (liveEntries (content_id (PQ.run binHeap (exOps.take 7)).1.pq)).reverse).pq).length = 4 ∧
    (PQ.runFrom binHeap ((PQ.run binHeap (exOps.take 7)).1.compact binHeap
        (liveEntries (content_id (PQ.run binHeap (exOps.take 7)).1.pq)).reverse) (exOps.drop 7)).2 =
      (PQ.runFrom binHeap (PQ.run binHeap (exOps.take 7)).1 (exOps.drop 7)).2 ∧
    (PQ.runFrom binHeap (PQ.run binHeap (exOps.take 7)).1 (exOps.drop 7)).2.take 4 =
      [.len 4, .task 3, .task 3, .task 2] := by decide +kernel

end Examples

end C10
