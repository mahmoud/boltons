import BoltonsVerif.C10.Prio
/-
C10 — infinite priorities.  `float('inf')` / `float('-inf')` are legal priorities (they compare with every
number).  The exact-dyadic model has no infinities; the harness sends `+-2^1100` instead.  `EPrio` is the
extended priority (a finite dyadic value or an infinity) with its TRUE order; `standin_lt_iff` shows that
the stand-in orders legal priorities exactly like the true order, which is all a queue can see
(`priorities_matter_only_by_order`, used in `Props.lean`: `infinite_priorities_sound`).
-/
namespace C10

theorem standin_lt_iff (a b : EPrio) (ha : a.legal) (hb : b.legal) :
    Dy.lt a.standin b.standin ↔ EPrio.lt a b := by
  cases a with
  | fin x =>
    cases b with
    | fin y => exact Iff.rfl
    | posInf =>
      simp only [EPrio.standin, EPrio.lt, Dy.lt, iff_true]
      have := ha.2
      omega
    | negInf =>
      simp only [EPrio.standin, EPrio.lt, Dy.lt, iff_false]
      have := ha.1
      omega
  | posInf =>
    cases b with
    | fin y =>
      simp only [EPrio.standin, EPrio.lt, Dy.lt, iff_false]
      have := hb.2
      omega
    | posInf => simp [EPrio.standin, EPrio.lt, Dy.lt]
    | negInf => simp only [EPrio.standin, EPrio.lt, iff_false]; decide +kernel
  | negInf =>
    cases b with
    | fin y =>
      simp only [EPrio.standin, EPrio.lt, Dy.lt, iff_true]
      have := hb.1
      omega
    | posInf => simp only [EPrio.standin, EPrio.lt, iff_true]; decide +kernel
    | negInf => simp [EPrio.standin, EPrio.lt, Dy.lt]

end C10
