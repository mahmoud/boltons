import BoltonsVerif.C10.Backends
/-
C10 — a lock-step simulation between two backends (`BackendSim`, `Backends.lean`) carries over to the queues built on
them (`run_rel`): same return values, related backends, identical `_entry_map` and counter.

Used with `sorted_sim_plain`: the sorted queue over a BarrelList IS the sorted queue over a plain Python list (what
`queueutils` falls back to when `listutils` cannot be imported), so neither its return values nor its backend content
(tombstones included) depend on how the BarrelList is cut into sub-lists (`_size_factor`, `_cur_size_limit`; Props.lean).
-/
namespace C10
variable {T : Type} [DecidableEq T]

structure PQRel {β β' : Type} (R : β → β' → Prop) (s : PQ T β) (s' : PQ T β') : Prop where
  pq : R s.pq s'.pq
  emap : s.emap = s'.emap
  counter : s.counter = s'.counter

section Sim
variable {β β' : Type} {B : Backend T β} {B' : Backend T β'} {R : β → β' → Prop}

theorem cull_rel (S : BackendSim B B' R) : ∀ (fuel : Nat) (b : β) (b' : β'), R b b' →
    R (cull B fuel b) (cull B' fuel b') := by
  intro fuel
  induction fuel with
  | zero => intro b b' h; exact h
  | succ n ih =>
    intro b b' h
    simp only [cull]
    rw [S.size b b' h, S.front b b' h]
    split
    · exact h
    · split
      · exact h
      · split
        · exact h
        · rcases S.pop b b' h with ⟨hp, hp'⟩ | ⟨e, c, c', hp, hp', hc⟩ <;> rw [hp, hp']
          · exact h
          · exact ih _ _ hc

theorem remove_rel (S : BackendSim B B' R) (s : PQ T β) (s' : PQ T β') (h : PQRel R s s') (t : T) :
    (s.remove B t = none ∧ s'.remove B' t = none) ∨
    ∃ r r', s.remove B t = some r ∧ s'.remove B' t = some r' ∧ PQRel R r r' := by
  unfold PQ.remove
  rw [← h.emap]
  cases emLookup t s.emap with
  | none => exact Or.inl ⟨rfl, rfl⟩
  | some v => exact Or.inr ⟨_, _, rfl, rfl, S.mark v.2 _ _ h.pq, by rw [h.emap], h.counter⟩

theorem dropOld_rel (S : BackendSim B B' R) (s : PQ T β) (s' : PQ T β') (h : PQRel R s s') (t : T) :
    PQRel R (s.dropOld B t) (s'.dropOld B' t) := by
  have hr := remove_rel S s s' h t
  unfold PQ.dropOld
  rw [← h.emap]
  cases emLookup t s.emap with
  | none => exact h
  | some v =>
    simp only []
    rcases hr with ⟨e1, e2⟩ | ⟨r, r', e1, e2, hrr⟩
    · rw [e1, e2]; exact h
    · rw [e1, e2]; exact hrr

theorem add_rel (S : BackendSim B B' R) (s : PQ T β) (s' : PQ T β') (h : PQRel R s s') (t : T) (p : Int) :
    PQRel R (s.add B t p) (s'.add B' t p) := by
  have hd := dropOld_rel S s s' h t
  unfold PQ.add PQ.pushNew
  refine ⟨?_, ?_, ?_⟩
  · show R (B.push _ _) (B'.push _ _)
    rw [hd.counter]; exact S.push _ _ _ hd.pq
  · show emSet _ _ _ = emSet _ _ _
    rw [hd.emap, hd.counter]
  · show _ + 1 = _ + 1
    rw [hd.counter]

theorem peek_rel (S : BackendSim B B' R) (s : PQ T β) (s' : PQ T β') (h : PQRel R s s') (d : Option Nat) :
    PQRel R (s.peek B d).1 (s'.peek B' d).1 ∧ (s.peek B d).2 = (s'.peek B' d).2 := by
  have hc := cull_rel S (B.size s.pq) s.pq s'.pq h.pq
  unfold PQ.peek PQ.peekAt
  rw [← S.size s.pq s'.pq h.pq, ← S.size _ _ hc, ← S.front _ _ hc]
  split
  · exact ⟨⟨hc, h.emap, h.counter⟩, rfl⟩
  · split <;> exact ⟨⟨hc, h.emap, h.counter⟩, rfl⟩

theorem pop_rel (S : BackendSim B B' R) (s : PQ T β) (s' : PQ T β') (h : PQRel R s s') (d : Option Nat) :
    PQRel R (s.pop B d).1 (s'.pop B' d).1 ∧ (s.pop B d).2 = (s'.pop B' d).2 := by
  have hc := cull_rel S (B.size s.pq) s.pq s'.pq h.pq
  unfold PQ.pop PQ.popAt
  rw [← S.size s.pq s'.pq h.pq, ← S.size _ _ hc, ← h.emap]
  split
  · exact ⟨⟨hc, rfl, h.counter⟩, rfl⟩
  · rcases S.pop _ _ hc with ⟨hp, hp'⟩ | ⟨e, c, c', hp, hp', hcc⟩ <;> rw [hp, hp']
    · exact ⟨⟨hc, rfl, h.counter⟩, rfl⟩
    · simp only []
      split
      · exact ⟨⟨hcc, rfl, h.counter⟩, rfl⟩
      · split <;> exact ⟨⟨hcc, rfl, h.counter⟩, rfl⟩

theorem step_rel (S : BackendSim B B' R) (s : PQ T β) (s' : PQ T β') (h : PQRel R s s') (op : Op T) :
    PQRel R (s.step B op).1 (s'.step B' op).1 ∧ (s.step B op).2 = (s'.step B' op).2 := by
  cases op with
  | add t p => exact ⟨add_rel S s s' h t p, rfl⟩
  | remove t =>
    simp only [PQ.step]
    rcases remove_rel S s s' h t with ⟨e1, e2⟩ | ⟨r, r', e1, e2, hrr⟩
    · rw [e1, e2]; exact ⟨h, rfl⟩
    · rw [e1, e2]; exact ⟨hrr, rfl⟩
  | pop d => exact pop_rel S s s' h d
  | peek d => exact peek_rel S s s' h d
  | len => exact ⟨h, by simp only [PQ.step]; rw [h.emap]⟩

theorem runFrom_rel (S : BackendSim B B' R) : ∀ (ops : List (Op T)) (s : PQ T β) (s' : PQ T β'),
    PQRel R s s' →
    PQRel R (PQ.runFrom B s ops).1 (PQ.runFrom B' s' ops).1 ∧
      (PQ.runFrom B s ops).2 = (PQ.runFrom B' s' ops).2 := by
  intro ops
  induction ops with
  | nil => intro s s' h; exact ⟨h, rfl⟩
  | cons op ops ih =>
    intro s s' h
    obtain ⟨hs, ho⟩ := step_rel S s s' h op
    obtain ⟨hs', ho'⟩ := ih _ _ hs
    simp only [PQ.runFrom]
    exact ⟨hs', by rw [ho, ho']⟩

theorem run_rel (S : BackendSim B B' R) (ops : List (Op T)) :
    PQRel R (PQ.run B ops).1 (PQ.run B' ops).1 ∧ (PQ.run B ops).2 = (PQ.run B' ops).2 :=
  runFrom_rel S ops _ _ ⟨S.empty, rfl, rfl⟩

end Sim

end C10
