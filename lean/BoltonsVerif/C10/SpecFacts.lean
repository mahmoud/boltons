import BoltonsVerif.C10.Defs
/-
C10 — the specification `Spec` by itself: what `best` chooses, histories (`live`, the outputs of a continuation), a task
that is not live is not returned until it is added again, and the order in which popping drains the live tasks.
-/
namespace C10
variable {T : Type} [DecidableEq T]

theorem best_eq_none (s : Spec T) : best s = none ↔ s = [] := by
  cases s with
  | nil => simp [best]
  | cons x xs =>
    unfold best
    cases best xs with
    | none => simp
    | some y => by_cases h : x.2 < y.2 <;> simp [h]

/-- `best` is the FIRST task among those of GREATEST priority -/
theorem best_decomp (s : Spec T) (x : T × Int) (h : best s = some x) :
    ∃ pre post, s = pre ++ x :: post ∧ (∀ y ∈ pre, y.2 < x.2) ∧ (∀ y ∈ post, y.2 ≤ x.2) := by
  induction s generalizing x with
  | nil => simp [best] at h
  | cons a as ih =>
    unfold best at h
    cases hb : best as with
    | none =>
      simp only [hb, Option.some.injEq] at h
      subst h
      have : as = [] := (best_eq_none as).mp hb
      subst this
      exact ⟨[], [], rfl, by simp, by simp⟩
    | some y =>
      simp only [hb] at h
      obtain ⟨pre, post, hs, hpre, hpost⟩ := ih y hb
      by_cases hlt : a.2 < y.2
      · simp only [hlt, ↓reduceIte, Option.some.injEq] at h
        subst h
        refine ⟨a :: pre, post, by simp [hs], ?_, hpost⟩
        intro z hz
        rcases List.mem_cons.mp hz with rfl | hz
        · exact hlt
        · exact hpre z hz
      · simp only [hlt, ↓reduceIte, Option.some.injEq] at h
        subst h
        refine ⟨[], as, rfl, by simp, ?_⟩
        intro z hz
        rw [hs] at hz
        rcases List.mem_append.mp hz with hz | hz
        · have := hpre z hz; omega
        · rcases List.mem_cons.mp hz with rfl | hz
          · omega
          · have := hpost z hz; omega

theorem best_mem (s : Spec T) (x : T × Int) (h : best s = some x) : x ∈ s := by
  obtain ⟨pre, post, hs, _, _⟩ := best_decomp s x h
  rw [hs]
  simp

theorem best_of_decomp (pre post : Spec T) (x : T × Int)
    (hpre : ∀ y ∈ pre, y.2 < x.2) (hpost : ∀ y ∈ post, y.2 ≤ x.2) :
    best (pre ++ x :: post) = some x := by
  have hx : best (x :: post) = some x := by
    unfold best
    cases hb : best post with
    | none => rfl
    | some y =>
      have := hpost y (best_mem post y hb)
      have hn : ¬ x.2 < y.2 := by omega
      simp [hn]
  induction pre with
  | nil => simpa using hx
  | cons a as ih =>
    have ih := ih (fun y hy => hpre y (List.mem_cons_of_mem _ hy))
    have ha := hpre a List.mem_cons_self
    simp only [List.cons_append]
    unfold best
    rw [ih]
    simp [ha]

theorem Spec.has_iff (s : Spec T) (t : T) : s.has t = true ↔ t ∈ s.map Prod.fst := by
  simp [Spec.has]

theorem mem_filter_taskNe (s : Spec T) (t u : T) :
    t ∈ (s.filter (taskNe u)).map Prod.fst ↔ t ∈ s.map Prod.fst ∧ t ≠ u := by
  simp only [List.mem_map, List.mem_filter, taskNe, Bool.not_eq_eq_eq_not, Bool.not_true, decide_eq_false_iff_not]
  constructor
  · rintro ⟨x, ⟨hx, hne⟩, rfl⟩; exact ⟨⟨x, hx, rfl⟩, hne⟩
  · rintro ⟨⟨x, hx, rfl⟩, hne⟩; exact ⟨x, ⟨hx, hne⟩, rfl⟩

theorem Spec.runFrom_append (s : Spec T) (ops1 ops2 : List (Op T)) :
    Spec.runFrom s (ops1 ++ ops2) =
      ((Spec.runFrom (Spec.runFrom s ops1).1 ops2).1,
       (Spec.runFrom s ops1).2 ++ (Spec.runFrom (Spec.runFrom s ops1).1 ops2).2) := by
  induction ops1 generalizing s with
  | nil => simp [Spec.runFrom]
  | cons op ops ih => simp [Spec.runFrom, ih]

theorem Spec.runFrom_length (s : Spec T) (ops : List (Op T)) : (Spec.runFrom s ops).2.length = ops.length := by
  induction ops generalizing s with
  | nil => rfl
  | cons o os ih => simp [Spec.runFrom, ih]

theorem live_append (ops1 ops2 : List (Op T)) : live (ops1 ++ ops2) = (Spec.runFrom (live ops1) ops2).1 := by
  unfold live Spec.run
  rw [Spec.runFrom_append]

theorem live_snoc (ops : List (Op T)) (op : Op T) : live (ops ++ [op]) = ((live ops).step op).1 :=
  live_append ops [op]

theorem outs_drop (ops1 ops2 : List (Op T)) :
    (Spec.run (ops1 ++ ops2)).2.drop ops1.length = (Spec.runFrom (live ops1) ops2).2 := by
  unfold live Spec.run
  rw [Spec.runFrom_append, ← Spec.runFrom_length ([] : Spec T) ops1]
  exact List.drop_left

theorem outs_after (ops1 : List (Op T)) (op : Op T) (ops2 : List (Op T)) :
    (Spec.run (ops1 ++ op :: ops2)).2.drop (ops1.length + 1) = (Spec.runFrom ((live ops1).step op).1 ops2).2 := by
  have h := outs_drop (ops1 ++ [op]) ops2
  rwa [List.append_assoc, List.length_append, live_snoc] at h

theorem filter_taskNe_fresh (s : Spec T) (t : T) (h : t ∉ s.map Prod.fst) : s.filter (taskNe t) = s :=
  List.filter_eq_self.mpr fun y hy => by
    simpa [taskNe] using fun e : y.1 = t => h (e ▸ List.mem_map_of_mem hy)

theorem length_filter_taskNe (s : Spec T) (hn : (s.map Prod.fst).Nodup) (x : T × Int) (hx : x ∈ s) :
    (s.filter (taskNe x.1)).length + 1 = s.length := by
  induction s with
  | nil => cases hx
  | cons a as ih =>
    rw [List.map_cons, List.nodup_cons] at hn
    by_cases ha : a.1 = x.1
    · simp [taskNe, ha, filter_taskNe_fresh as x.1 (ha ▸ hn.1)]
    · have hxs : x ∈ as := (List.mem_cons.mp hx).resolve_left fun h => ha (h ▸ rfl)
      simp [taskNe, ha, ← ih hn.2 hxs]

theorem not_live_stays (s : Spec T) (t : T) (hs : t ∉ s.map Prod.fst) (ops : List (Op T))
    (hops : ∀ op ∈ ops, isAddOf t op = false) :
    Out.task t ∉ (Spec.runFrom s ops).2 ∧ t ∉ (Spec.runFrom s ops).1.map Prod.fst := by
  induction ops generalizing s with
  | nil => simp [Spec.runFrom, hs]
  | cons op ops ih =>
    have hop := hops op List.mem_cons_self
    have hrest : ∀ o ∈ ops, isAddOf t o = false := fun o ho => hops o (List.mem_cons_of_mem _ ho)
    have hfilter : ∀ u, t ∉ (s.filter (taskNe u)).map Prod.fst :=
      fun u hin => hs ((mem_filter_taskNe s t u).mp hin).1
    have hbest : ∀ x, best s = some x → x.1 ≠ t :=
      fun x hb hxt => hs (hxt ▸ List.mem_map_of_mem (best_mem s x hb))
    have key : t ∉ (s.step op).1.map Prod.fst ∧ (s.step op).2 ≠ .task t := by
      cases op with
      | add u p =>
        simp only [isAddOf, decide_eq_false_iff_not] at hop
        simp only [Spec.step]
        refine ⟨?_, by simp⟩
        rw [List.map_append, List.mem_append]
        rintro (h | h)
        · exact hfilter u h
        · simp at h; exact hop h.symm
      | remove u =>
        simp only [Spec.step]
        split
        · exact ⟨hfilter u, by simp⟩
        · exact ⟨hs, by simp⟩
      | pop d =>
        simp only [Spec.step]
        cases hb : best s with
        | none => exact ⟨hs, by cases d <;> simp [emptyOut]⟩
        | some x =>
          refine ⟨hfilter x.1, ?_⟩
          intro h
          injection h with h
          exact hbest x hb h
      | peek d =>
        simp only [Spec.step]
        cases hb : best s with
        | none => exact ⟨hs, by cases d <;> simp [emptyOut]⟩
        | some x =>
          refine ⟨hs, ?_⟩
          intro h
          injection h with h
          exact hbest x hb h
      | len => exact ⟨hs, by simp [Spec.step]⟩
    obtain ⟨i1, i2⟩ := ih (s.step op).1 key.1 hrest
    simp only [Spec.runFrom, List.mem_cons, not_or]
    exact ⟨⟨fun h => key.2 h.symm, i1⟩, i2⟩

theorem insDesc_perm (x : T × Int) (l : Spec T) : (insDesc x l).Perm (x :: l) := by
  induction l with
  | nil => exact List.Perm.refl _
  | cons y ys ih =>
    unfold insDesc
    split
    · exact List.Perm.refl _
    · exact (List.Perm.cons y ih).trans (List.Perm.swap x y ys)

theorem sortDesc_perm (s : Spec T) : (sortDesc s).Perm s := by
  induction s with
  | nil => exact List.Perm.refl _
  | cons a as ih => exact (insDesc_perm a _).trans (List.Perm.cons a ih)

theorem insDesc_sorted (x : T × Int) (l : Spec T) (h : SortedDesc l) : SortedDesc (insDesc x l) := by
  induction l with
  | nil => simp [insDesc, SortedDesc]
  | cons y ys ih =>
    unfold insDesc
    unfold SortedDesc at h ih ⊢
    rw [List.pairwise_cons] at h
    split
    · rename_i hle
      rw [List.pairwise_cons]
      refine ⟨?_, List.pairwise_cons.mpr h⟩
      intro z hz
      rcases List.mem_cons.mp hz with rfl | hz
      · exact hle
      · have := h.1 z hz; omega
    · rename_i hnle
      rw [List.pairwise_cons]
      refine ⟨?_, ih h.2⟩
      intro z hz
      rw [(insDesc_perm x ys).mem_iff] at hz
      rcases List.mem_cons.mp hz with rfl | hz
      · omega
      · exact h.1 z hz

theorem sortDesc_sorted (s : Spec T) : SortedDesc (sortDesc s) := by
  induction s with
  | nil => exact List.Pairwise.nil
  | cons a as ih => exact insDesc_sorted a _ ih

theorem best_sortDesc (s : Spec T) : best s = (sortDesc s).head? := by
  induction s with
  | nil => rfl
  | cons a as ih =>
    unfold best
    show _ = (insDesc a (sortDesc as)).head?
    rw [ih]
    cases hsd : sortDesc as with
    | nil => rfl
    | cons y ys =>
      simp only [List.head?_cons, insDesc]
      by_cases h : a.2 < y.2
      · have : ¬ y.2 ≤ a.2 := by omega
        simp [h, this]
      · have : y.2 ≤ a.2 := by omega
        simp [h, this]

theorem insDesc_of_all_le (a : T × Int) (m : Spec T) (h : ∀ z ∈ m, z.2 ≤ a.2) : insDesc a m = a :: m := by
  cases m with
  | nil => rfl
  | cons z zs => simp [insDesc, h z List.mem_cons_self]

theorem insDesc_filter (p : T × Int → Bool) (a : T × Int) (l : Spec T) (hs : SortedDesc l) :
    (insDesc a l).filter p = if p a then insDesc a (l.filter p) else l.filter p := by
  induction l with
  | nil => simp [insDesc]; split <;> simp_all
  | cons y ys ih =>
    unfold SortedDesc at hs ih
    rw [List.pairwise_cons] at hs
    have ih := ih hs.2
    by_cases hle : y.2 ≤ a.2
    · have h1 : insDesc a (y :: ys) = a :: y :: ys := by simp [insDesc, hle]
      rw [h1]
      have hall : ∀ z ∈ (y :: ys).filter p, z.2 ≤ a.2 := by
        intro z hz
        have hz := (List.mem_filter.mp hz).1
        rcases List.mem_cons.mp hz with rfl | hz
        · exact hle
        · have := hs.1 z hz; omega
      rw [insDesc_of_all_le a _ hall]
      by_cases hpa : p a = true <;> simp [List.filter_cons, hpa]
    · have h1 : insDesc a (y :: ys) = y :: insDesc a ys := by simp [insDesc, hle]
      rw [h1]
      by_cases hpy : p y = true
      · simp only [List.filter_cons, hpy, ↓reduceIte, ih]
        by_cases hpa : p a = true
        · simp [hpa, insDesc, hle]
        · simp [hpa]
      · simp only [List.filter_cons, hpy, ih]
        simp

theorem sortDesc_filter (p : T × Int → Bool) (s : Spec T) :
    sortDesc (s.filter p) = (sortDesc s).filter p := by
  induction s with
  | nil => rfl
  | cons a as ih =>
    show _ = (insDesc a (sortDesc as)).filter p
    rw [insDesc_filter p a _ (sortDesc_sorted as)]
    by_cases hpa : p a = true
    · simp only [List.filter_cons, hpa, ↓reduceIte]
      show insDesc a (sortDesc (as.filter p)) = _
      rw [ih]
    · simp only [List.filter_cons, hpa]
      exact ih

theorem spec_drain (d : Option Nat) (n : Nat) (s : Spec T) (hn : (s.map Prod.fst).Nodup) (hlen : s.length = n) :
    (Spec.runFrom s (List.replicate n (.pop d))).2 = (sortDesc s).map (fun x => Out.task x.1) ∧
    (Spec.runFrom s (List.replicate n (.pop d))).1 = [] := by
  induction n generalizing s with
  | zero =>
    have : s = [] := List.length_eq_zero_iff.mp hlen
    subst this
    exact ⟨rfl, rfl⟩
  | succ k ih =>
    have hperm := sortDesc_perm s
    cases hsd : sortDesc s with
    | nil =>
      have := hperm.length_eq
      rw [hsd] at this
      simp at this
      omega
    | cons x tl =>
      have hb : best s = some x := by rw [best_sortDesc, hsd]; rfl
      have hnd : ((x :: tl).map Prod.fst).Nodup := by
        rw [← hsd]; exact ((hperm.map Prod.fst).nodup_iff).mpr hn
      have hfil : (x :: tl).filter (taskNe x.1) = tl := by
        rw [List.map_cons, List.nodup_cons] at hnd
        simp [taskNe, filter_taskNe_fresh tl x.1 hnd.1]
      have hsd' : sortDesc (s.filter (taskNe x.1)) = tl := by
        rw [sortDesc_filter, hsd, hfil]
      have hlen' : (s.filter (taskNe x.1)).length = k := by
        have := length_filter_taskNe s hn x (best_mem s x hb)
        omega
      have hn' : ((s.filter (taskNe x.1)).map Prod.fst).Nodup :=
        List.Nodup.sublist (List.Sublist.map _ List.filter_sublist) hn
      obtain ⟨i1, i2⟩ := ih (s.filter (taskNe x.1)) hn' hlen'
      simp only [List.replicate_succ, Spec.runFrom, Spec.step, hb]
      rw [i1, i2, hsd']
      simp

theorem sortDesc_of_same_prio (p : Int) (l : Spec T) (h : ∀ x ∈ l, x.2 = p) : sortDesc l = l := by
  induction l with
  | nil => rfl
  | cons a as ih =>
    show insDesc a (sortDesc as) = _
    rw [ih (fun x hx => h x (List.mem_cons_of_mem _ hx))]
    apply insDesc_of_all_le
    intro z hz
    have h1 := h z (List.mem_cons_of_mem _ hz)
    have h2 := h a List.mem_cons_self
    omega

end C10
