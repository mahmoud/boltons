import BoltonsVerif.C10.Model
/-
C10 — CPython's `int -> float` conversion (`roundNat53`: 53 significant bits, round half to even) is
MONOTONE.  Hence the default key `float(priority or 0)` never inverts the order of two int priorities,
however large: beyond 2**53 distinct ints may become EQUAL floats (then first-in first-out decides), but a
larger int is never turned into a smaller float.
-/
namespace C10

/-- the shift `roundNat53` uses for `n ≥ 2^53` -/
def rshift (n : Nat) : Nat := n.log2 + 1 - 53

theorem roundNat53_small (n : Nat) (h : n < 2 ^ 53) : roundNat53 n = n := by
  unfold roundNat53; rw [if_pos h]

theorem roundNat53_big (n : Nat) (h : 2 ^ 53 ≤ n) :
    ∃ c, roundNat53 n = c * 2 ^ rshift n ∧ n / 2 ^ rshift n ≤ c ∧ c ≤ n / 2 ^ rshift n + 1 ∧
      (c = n / 2 ^ rshift n + 1 ↔
        (2 ^ (rshift n - 1) < n % 2 ^ rshift n ∨
          (n % 2 ^ rshift n = 2 ^ (rshift n - 1) ∧ (n / 2 ^ rshift n) % 2 = 1))) := by
  unfold roundNat53 rshift
  rw [if_neg (by omega)]
  by_cases hc : 2 ^ (n.log2 + 1 - 53 - 1) < n % 2 ^ (n.log2 + 1 - 53) ∨
        (n % 2 ^ (n.log2 + 1 - 53) = 2 ^ (n.log2 + 1 - 53 - 1) ∧ (n / 2 ^ (n.log2 + 1 - 53)) % 2 = 1)
  · rw [if_pos hc]
    exact ⟨_, rfl, by omega, by omega, ⟨fun _ => hc, fun _ => rfl⟩⟩
  · rw [if_neg hc]
    exact ⟨_, rfl, by omega, by omega, ⟨fun h => absurd h (by omega), fun h => absurd h hc⟩⟩

theorem log2_ge_53 (n : Nat) (h : 2 ^ 53 ≤ n) : 53 ≤ n.log2 :=
  (Nat.le_log2 (by omega)).mpr h

theorem pow_log2_split (n : Nat) (h : 2 ^ 53 ≤ n) : 2 ^ n.log2 = 2 ^ 52 * 2 ^ rshift n := by
  have hL := log2_ge_53 n h
  rw [← Nat.pow_add]
  congr 1
  unfold rshift; omega

/-- the quotient by `2^rshift n` has exactly 53 bits -/
theorem mantissa_bounds (n : Nat) (h : 2 ^ 53 ≤ n) :
    2 ^ 52 ≤ n / 2 ^ rshift n ∧ n / 2 ^ rshift n < 2 ^ 53 := by
  have hP : 0 < 2 ^ rshift n := Nat.pow_pos (by omega)
  have h1 : 2 ^ n.log2 ≤ n := Nat.log2_self_le (by omega)
  have h2 : n < 2 ^ (n.log2 + 1) := Nat.lt_log2_self
  rw [pow_log2_split n h] at h1
  rw [Nat.pow_succ, pow_log2_split n h] at h2
  constructor
  · exact (Nat.le_div_iff_mul_le hP).mpr h1
  · rw [Nat.div_lt_iff_lt_mul hP]
    calc n < 2 ^ 52 * 2 ^ rshift n * 2 := h2
      _ = 2 ^ 53 * 2 ^ rshift n := by
        rw [Nat.mul_right_comm]

theorem roundNat53_binade (n : Nat) (h : 2 ^ 53 ≤ n) :
    2 ^ n.log2 ≤ roundNat53 n ∧ roundNat53 n ≤ 2 ^ (n.log2 + 1) := by
  obtain ⟨c, hc, hlo, hhi, _⟩ := roundNat53_big n h
  obtain ⟨q1, q2⟩ := mantissa_bounds n h
  rw [hc, Nat.pow_succ, pow_log2_split n h]
  constructor
  · exact Nat.mul_le_mul_right _ (by omega)
  · calc c * 2 ^ rshift n ≤ 2 ^ 53 * 2 ^ rshift n := Nat.mul_le_mul_right _ (by omega)
      _ = 2 ^ 52 * 2 ^ rshift n * 2 := by
        rw [Nat.mul_right_comm]

theorem log2_mono (n m : Nat) (hn : n ≠ 0) (h : n ≤ m) : n.log2 ≤ m.log2 := by
  have : 2 ^ n.log2 ≤ m := Nat.le_trans (Nat.log2_self_le hn) h
  exact (Nat.le_log2 (by omega)).mpr this

/-- round half to even is monotone in the remainder: two numbers with the same quotient `q` and remainders `r ≤ r'` round to
    quotients `c ≤ d`.  `H` is half the divisor; `hup`, `hup'` are the rule: up iff above the half, or at the half with `q` odd. -/
theorem halfEven_mono {q H r r' c d : Nat} (hr : r ≤ r') (hc : c ≤ q + 1) (hd : q ≤ d)
    (hup : c = q + 1 ↔ (H < r ∨ (r = H ∧ q % 2 = 1)))
    (hup' : d = q + 1 ↔ (H < r' ∨ (r' = H ∧ q % 2 = 1))) : c ≤ d := by
  by_cases hcu : c = q + 1
  · have hd' : d = q + 1 := by
      apply hup'.mpr
      rcases hup.mp hcu with h1 | ⟨h1, h2⟩
      · exact Or.inl (by omega)
      · by_cases h3 : r' = H
        · exact Or.inr ⟨h3, h2⟩
        · exact Or.inl (by omega)
    omega
  · omega

theorem roundNat53_mono (n m : Nat) (h : n ≤ m) : roundNat53 n ≤ roundNat53 m := by
  -- different binades: the binade bounds decide; same binade: the quotients, then the remainders (`halfEven_mono`)
  by_cases hn : n < 2 ^ 53
  · rw [roundNat53_small n hn]
    by_cases hm : m < 2 ^ 53
    · rw [roundNat53_small m hm]; exact h
    · have hm' : 2 ^ 53 ≤ m := Nat.le_of_not_lt hm
      exact Nat.le_trans (Nat.le_of_lt hn) (Nat.le_trans
        (Nat.pow_le_pow_right (by decide) (log2_ge_53 m hm')) (roundNat53_binade m hm').1)
  · have hn' : 2 ^ 53 ≤ n := Nat.le_of_not_lt hn
    have hm' : 2 ^ 53 ≤ m := Nat.le_trans hn' h
    have hL := log2_mono n m (Nat.ne_of_gt (Nat.lt_of_lt_of_le (Nat.two_pow_pos 53) hn')) h
    by_cases hlt : n.log2 < m.log2
    · exact Nat.le_trans (roundNat53_binade n hn').2 (Nat.le_trans
        (Nat.pow_le_pow_right (by decide) hlt) (roundNat53_binade m hm').1)
    · have heq : n.log2 = m.log2 := Nat.le_antisymm hL (Nat.le_of_not_lt hlt)
      have hsh : rshift n = rshift m := by unfold rshift; rw [heq]
      obtain ⟨c, hc, hlo, hhi, hup⟩ := roundNat53_big n hn'
      obtain ⟨d, hd, hlo', hhi', hup'⟩ := roundNat53_big m hm'
      rw [hc, hd, hsh]
      apply Nat.mul_le_mul_right
      rw [hsh] at hlo hhi hup
      have hq : n / 2 ^ rshift m ≤ m / 2 ^ rshift m := Nat.div_le_div_right h
      by_cases hqlt : n / 2 ^ rshift m < m / 2 ^ rshift m
      · exact Nat.le_trans hhi (Nat.le_trans hqlt hlo')
      · have hqe : n / 2 ^ rshift m = m / 2 ^ rshift m := Nat.le_antisymm hq (Nat.le_of_not_lt hqlt)
        have hr : n % 2 ^ rshift m ≤ m % 2 ^ rshift m := by
          have e1 := Nat.div_add_mod n (2 ^ rshift m)
          have e2 := Nat.div_add_mod m (2 ^ rshift m)
          rw [hqe] at e1
          exact Nat.le_of_add_le_add_left (by rw [e1, e2]; exact h)
        rw [hqe] at hup hhi
        exact halfEven_mono hr hhi hlo' hup hup'

theorem roundInt53_mono (a b : Int) (h : a ≤ b) : roundInt53 a ≤ roundInt53 b := by
  unfold roundInt53
  by_cases ha : a < 0
  · rw [if_pos ha]
    by_cases hb : b < 0
    · rw [if_pos hb]
      have := roundNat53_mono b.natAbs a.natAbs (by omega)
      omega
    · rw [if_neg hb]
      omega
  · rw [if_neg ha, if_neg (by omega)]
    have := roundNat53_mono a.natAbs b.natAbs (by omega)
    omega

/-- the ints `float()` accepts (no OverflowError) lie below `2^1024` -/
theorem roundNat53_le_pow1024 (n : Nat) (h : n < 2 ^ 1024) : roundNat53 n ≤ 2 ^ 1024 := by
  by_cases hn : n < 2 ^ 53
  · rw [roundNat53_small n hn]; exact Nat.le_of_lt h
  · have hn' : 2 ^ 53 ≤ n := Nat.le_of_not_lt hn
    have hl : n.log2 < 1024 := (Nat.log2_lt (Nat.ne_of_gt (Nat.lt_of_lt_of_le (Nat.two_pow_pos 53) hn'))).mpr h
    exact Nat.le_trans (roundNat53_binade n hn').2 (Nat.pow_le_pow_right (by decide) hl)

theorem roundInt53_abs_le (n : Int) (h : n.natAbs < 2 ^ 1024) :
    -(2 ^ 1024 : Int) ≤ roundInt53 n ∧ roundInt53 n ≤ 2 ^ 1024 := by
  have hb := roundNat53_le_pow1024 n.natAbs h
  have hc : ((roundNat53 n.natAbs : Nat) : Int) ≤ 2 ^ 1024 := by exact_mod_cast hb
  unfold roundInt53
  by_cases hn : n < 0
  · rw [if_pos hn]; omega
  · rw [if_neg hn]; omega

theorem PyPrio.eff_int (z : Int) : (PyPrio.int z).eff = ⟨roundInt53 z, 0⟩ := by
  by_cases hz : z = 0
  · subst hz; decide
  · simp [PyPrio.eff, PyPrio.or0, PyPrio.truthy, PyPrio.toFloat, hz]

/-- `float(m / 2^e or 0)`: both zeros become the int `0` -/
theorem PyPrio.eff_float (m : Int) (e : Nat) : (PyPrio.float m e).eff = if m = 0 then ⟨0, 0⟩ else ⟨m, e⟩ := by
  by_cases hz : m = 0
  · subst hz; rfl
  · simp [PyPrio.eff, PyPrio.or0, PyPrio.truthy, PyPrio.toFloat, hz]

end C10
