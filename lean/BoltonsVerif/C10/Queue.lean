import BoltonsVerif.C10.SpecFacts
/-
C10 — the queue model over ANY backend satisfying the min-queue laws
(`Lawful`) refines the specification `Spec` (live tasks in order of (re-)insertion; pop = first
task of greatest priority).
-/
namespace C10
variable {T : Type} [DecidableEq T]

theorem emLookup_none (t : T) (m : EMap T) : emLookup t m = none ↔ ∀ x ∈ m, x.1 ≠ t := by
  induction m with
  | nil => simp [emLookup]
  | cons x xs ih =>
    rw [emLookup, List.forall_mem_cons]
    split
    · rename_i h; simp [h]
    · rename_i h; rw [ih]; exact ⟨fun hh => ⟨h, hh⟩, fun hh => hh.2⟩

theorem emLookup_mem (t : T) (m : EMap T) (v : Int × Nat) (h : emLookup t m = some v) : (t, v) ∈ m := by
  induction m with
  | nil => simp [emLookup] at h
  | cons x xs ih =>
    unfold emLookup at h
    by_cases hx : x.1 = t
    · simp only [hx, ↓reduceIte, Option.some.injEq] at h
      have : x = (t, v) := by rw [← hx, ← h]
      simp [this]
    · simp only [hx, ↓reduceIte] at h
      exact List.mem_cons_of_mem _ (ih h)

theorem eq_of_map_eq {α γ : Type} (f : α → γ) {l : List α} (hn : (l.map f).Nodup) {a b : α}
    (ha : a ∈ l) (hb : b ∈ l) (h : f a = f b) : a = b := by
  induction l with
  | nil => cases ha
  | cons x xs ih =>
    rw [List.map_cons, List.nodup_cons] at hn
    rcases List.mem_cons.mp ha with rfl | ha' <;> rcases List.mem_cons.mp hb with rfl | hb'
    · rfl
    · exact absurd (List.mem_map.mpr ⟨b, hb', h.symm⟩) hn.1
    · exact absurd (List.mem_map.mpr ⟨a, ha', h⟩) hn.1
    · exact ih hn.2 ha' hb'

theorem emSet_fresh (t : T) (v : Int × Nat) (m : EMap T) (h : ∀ x ∈ m, x.1 ≠ t) :
    emSet t v m = m ++ [(t, v)] := by
  induction m with
  | nil => rfl
  | cons x xs ih =>
    unfold emSet
    have hx : x.1 ≠ t := h x List.mem_cons_self
    simp only [hx, ↓reduceIte, List.cons_append]
    rw [ih (fun y hy => h y (List.mem_cons_of_mem _ hy))]

theorem mem_emErase (t : T) (m : EMap T) (x : T × Int × Nat) : x ∈ emErase t m ↔ x ∈ m ∧ x.1 ≠ t := by
  simp [emErase, List.mem_filter, keyNe]

theorem emErase_fresh (t : T) (m : EMap T) (h : ∀ x ∈ m, x.1 ≠ t) : emErase t m = m := by
  unfold emErase
  rw [List.filter_eq_self]
  intro a ha
  simp [keyNe, h a ha]

theorem emLookup_erase_self (t : T) (m : EMap T) : emLookup t (emErase t m) = none :=
  (emLookup_none t _).2 fun x hx => ((mem_emErase t m x).1 hx).2

theorem Entry.lt_eq_true (a b : Entry T) :
    a.lt b = true ↔ a.prio < b.prio ∨ (a.prio = b.prio ∧ a.count < b.count) := by
  simp [Entry.lt]

theorem Entry.lt_eq_false (a b : Entry T) :
    a.lt b = false ↔ b.prio ≤ a.prio ∧ (a.prio = b.prio → b.count ≤ a.count) := by
  rw [← Bool.not_eq_true, Entry.lt_eq_true]
  omega

theorem Entry.lt_irrefl (a : Entry T) : a.lt a = false := by
  simp [Entry.lt]

theorem Entry.lt_asymm (a b : Entry T) (h : a.lt b = true) : b.lt a = false := by
  rw [Entry.lt_eq_true] at h
  rw [Entry.lt_eq_false]
  omega

/-- `¬ (b < a)`, read `a ≤ b`, is transitive -/
theorem Entry.le_trans (a b c : Entry T) (h1 : b.lt a = false) (h2 : c.lt b = false) : c.lt a = false := by
  rw [Entry.lt_eq_false] at h1 h2 ⊢
  omega

theorem Entry.eta_of_task {e : Entry T} {t : T} (h : e.task = some t) : (⟨e.prio, e.count, some t⟩ : Entry T) = e := by
  cases e
  simp_all

theorem markEntry_count (c : Nat) (e : Entry T) : (markEntry c e).count = e.count := by
  unfold markEntry; split <;> rfl

theorem map_count_markEntry (c : Nat) (l : List (Entry T)) :
    (l.map (markEntry c)).map Entry.count = l.map Entry.count := by
  rw [List.map_map]
  exact List.map_congr_left fun e _ => markEntry_count c e

theorem markEntry_lt (c : Nat) (a b : Entry T) : (markEntry c a).lt (markEntry c b) = a.lt b := by
  unfold markEntry Entry.lt
  split <;> split <;> rfl

theorem mem_map_markEntry (c : Nat) (l : List (Entry T)) (p : Int) (c' : Nat) (t : T) :
    (⟨p, c', some t⟩ : Entry T) ∈ l.map (markEntry c) ↔ (⟨p, c', some t⟩ : Entry T) ∈ l ∧ c' ≠ c := by
  rw [List.mem_map]
  constructor
  · rintro ⟨e, he, hmk⟩
    unfold markEntry at hmk
    split at hmk
    · cases hmk
    · subst hmk; exact ⟨he, ‹_›⟩
  · rintro ⟨he, hne⟩
    exact ⟨_, he, by simp [markEntry, hne]⟩

section Sim
variable {β : Type} {B : Backend T β} {wf : β → Prop} {content : β → List (Entry T)}

theorem absSpec_mk (s : PQ T β) (b : β) (n : Nat) : absSpec ⟨b, s.emap, n⟩ = absSpec s := rfl

theorem absSpec_of_nil {s : PQ T β} (h : s.emap = []) : absSpec s = [] := by
  rw [absSpec, h]
  rfl

theorem absSpec_tasks (s : PQ T β) : (absSpec s).map Prod.fst = s.emap.map Prod.fst := by
  rw [absSpec, List.map_map]
  rfl

theorem absSpec_length (s : PQ T β) : (absSpec s).length = s.emap.length :=
  List.length_map _

theorem absSpec_erase (s : PQ T β) (t : T) (b : β) (n : Nat) :
    absSpec ⟨b, emErase t s.emap, n⟩ = (absSpec s).filter (taskNe t) := by
  unfold absSpec emErase
  rw [List.filter_map]
  rfl

theorem absSpec_append {s s' : PQ T β} {t : T} {p : Int} {c : Nat} (h : s'.emap = s.emap ++ [(t, p, c)]) :
    absSpec s' = absSpec s ++ [(t, -p)] := by
  rw [absSpec, h, List.map_append]
  rfl

theorem Inv.content_nodup {s : PQ T β} (hI : Inv wf content s) : (content s.pq).Nodup :=
  (List.pairwise_map.mp hI.cnodup).imp (fun {a b} h hab => h (by rw [hab]))

/-- the dict is a bijection between the live tasks and their counters: two items with the same task are one item … -/
theorem Inv.task_eq_iff {s : PQ T β} (hI : Inv wf content s) {x y : T × Int × Nat} (hx : x ∈ s.emap) (hy : y ∈ s.emap) :
    x.1 = y.1 ↔ x = y :=
  ⟨eq_of_map_eq Prod.fst hI.knodup hx hy, fun h => h ▸ rfl⟩

/-- … and so are two items with the same counter (`cinc` orders the counters strictly, so they are distinct) -/
theorem Inv.count_eq_iff {s : PQ T β} (hI : Inv wf content s) {x y : T × Int × Nat} (hx : x ∈ s.emap) (hy : y ∈ s.emap) :
    x.2.2 = y.2.2 ↔ x = y :=
  ⟨eq_of_map_eq (fun x => x.2.2) (List.pairwise_map.mpr (hI.cinc.imp Nat.ne_of_lt)) hx hy, fun h => h ▸ rfl⟩

/-- the queue's result `r` (the new state with the value or values returned) against the specification's result `r'` -/
structure Refines (wf : β → Prop) (content : β → List (Entry T)) {γ : Type} (r : PQ T β × γ) (r' : Spec T × γ) :
    Prop where
  inv : Inv wf content r.1
  abs : absSpec r.1 = r'.1
  out : r.2 = r'.2

theorem init_inv (L : Lawful B wf content) : Inv wf content (PQ.init B) := by
  refine ⟨L.wf_empty, ?_, ?_, ?_, ?_, ?_⟩ <;> simp [PQ.init, L.content_empty]

theorem remove_inv (L : Lawful B wf content) (s : PQ T β) (hI : Inv wf content s) (t : T) (p : Int) (c : Nat)
    (hl : emLookup t s.emap = some (p, c)) :
    s.remove B t = some ⟨B.mark c s.pq, emErase t s.emap, s.counter⟩ ∧
    Inv wf content ⟨B.mark c s.pq, emErase t s.emap, s.counter⟩ := by
  refine ⟨by simp [PQ.remove, hl], ?_⟩
  have hmem : (t, p, c) ∈ s.emap := emLookup_mem t s.emap (p, c) hl
  obtain ⟨hwf, hperm⟩ := L.mark c s.pq hI.wf
  have hcounts : ((content (B.mark c s.pq)).map Entry.count).Perm ((content s.pq).map Entry.count) := by
    have := hperm.map Entry.count
    rwa [map_count_markEntry] at this
  refine ⟨hwf, hcounts.nodup_iff.mpr hI.cnodup, ?_, ?_, ?_, ?_⟩
  · intro e he
    have : e.count ∈ (content (B.mark c s.pq)).map Entry.count := List.mem_map_of_mem he
    rw [hcounts.mem_iff] at this
    obtain ⟨e', he', hc⟩ := List.mem_map.mp this
    have := hI.clt e' he'
    show e.count < s.counter
    omega
  · exact List.Nodup.sublist (List.Sublist.map _ List.filter_sublist) hI.knodup
  · exact List.Pairwise.filter _ hI.cinc
  · intro t' p' c'
    show (t', p', c') ∈ emErase t s.emap ↔ _ ∈ content (B.mark c s.pq)
    rw [mem_emErase, hperm.mem_iff, mem_map_markEntry, ← hI.live]
    exact and_congr_right fun hm => not_congr
      ((hI.task_eq_iff hm hmem).trans (hI.count_eq_iff hm hmem).symm)

theorem dropOld_inv (L : Lawful B wf content) (s : PQ T β) (hI : Inv wf content s) (t : T) :
    Inv wf content (s.dropOld B t) ∧ (s.dropOld B t).emap = emErase t s.emap ∧
    (s.dropOld B t).counter = s.counter := by
  unfold PQ.dropOld
  cases hl : emLookup t s.emap with
  | none =>
    exact ⟨hI, (emErase_fresh t s.emap ((emLookup_none t s.emap).mp hl)).symm, rfl⟩
  | some v =>
    obtain ⟨hr, hI'⟩ := remove_inv L s hI t v.1 v.2 hl
    rw [hr]
    exact ⟨hI', rfl, rfl⟩

theorem Inv.count_lt {s : PQ T β} (hI : Inv wf content s) {x : T × Int × Nat} (hx : x ∈ s.emap) :
    x.2.2 < s.counter := by
  obtain ⟨t, p, c⟩ := x
  exact hI.clt _ ((hI.live t p c).mp hx)

/-- the backend never holds more entries than `next(self._counter)` has been called (so `counter + 1` is enough fuel for
    `_cull`): their counters are distinct and lie below `counter` -/
theorem size_le_counter (L : Lawful B wf content) {s : PQ T β} (hI : Inv wf content s) : B.size s.pq ≤ s.counter := by
  rw [L.size_eq s.pq hI.wf]
  have := hI.cnodup.length_le_of_subset (l₂ := List.range s.counter) fun x hx => by
    obtain ⟨e, he, rfl⟩ := List.mem_map.1 hx
    exact List.mem_range.mpr (hI.clt e he)
  simpa using this

theorem pushNew_inv (L : Lawful B wf content) (s : PQ T β) (hI : Inv wf content s) (t : T) (p : Int)
    (hfresh : ∀ x ∈ s.emap, x.1 ≠ t) :
    Inv wf content (s.pushNew B t p) ∧ (s.pushNew B t p).emap = s.emap ++ [(t, -p, s.counter)] := by
  obtain ⟨hwf, hperm⟩ := L.push ⟨-p, s.counter, some t⟩ s.pq hI.wf
  have hem : (s.pushNew B t p).emap = s.emap ++ [(t, -p, s.counter)] := emSet_fresh t _ s.emap hfresh
  refine ⟨⟨hwf, ?_, ?_, ?_, ?_, ?_⟩, hem⟩
  · show ((content (B.push _ s.pq)).map Entry.count).Nodup
    rw [(hperm.map Entry.count).nodup_iff, List.map_cons, List.nodup_cons]
    refine ⟨?_, hI.cnodup⟩
    intro hin
    obtain ⟨e, he, hc⟩ := List.mem_map.mp hin
    have := hI.clt e he
    simp at hc
    omega
  · intro e he
    show e.count < s.counter + 1
    have he : e ∈ content (B.push ⟨-p, s.counter, some t⟩ s.pq) := he
    rw [hperm.mem_iff] at he
    rcases List.mem_cons.mp he with rfl | he
    · simp
    · have := hI.clt e he; omega
  · rw [hem, List.map_append, List.nodup_append]
    refine ⟨hI.knodup, by simp, ?_⟩
    intro a ha b hb
    obtain ⟨x, hx, rfl⟩ := List.mem_map.mp ha
    simp at hb
    subst hb
    exact hfresh x hx
  · rw [hem, List.pairwise_append]
    refine ⟨hI.cinc, by simp, ?_⟩
    intro a ha b hb
    simp at hb
    subst hb
    exact hI.count_lt ha
  · intro t' p' c'
    show (t', p', c') ∈ (s.pushNew B t p).emap ↔ _ ∈ content (B.push ⟨-p, s.counter, some t⟩ s.pq)
    rw [hem, hperm.mem_iff, List.mem_append, List.mem_singleton, List.mem_cons, ← hI.live, or_comm]
    -- the new item of the dict and the new entry have the same three components
    exact or_congr_left (by simp [and_comm, and_assoc])

theorem add_sim (L : Lawful B wf content) (s : PQ T β) (hI : Inv wf content s) (t : T) (p : Int) :
    Refines wf content (s.add B t p, Out.none) ((absSpec s).step (.add t p)) := by
  obtain ⟨hI1, hem1, hc1⟩ := dropOld_inv L s hI t
  have hfresh : ∀ x ∈ (s.dropOld B t).emap, x.1 ≠ t :=
    (emLookup_none t _).mp (by rw [hem1]; exact emLookup_erase_self t s.emap)
  obtain ⟨hI2, hem2⟩ := pushNew_inv L (s.dropOld B t) hI1 t p hfresh
  refine ⟨hI2, ?_, rfl⟩
  show absSpec ((s.dropOld B t).pushNew B t p) = (absSpec s).filter (taskNe t) ++ [(t, p)]
  rw [absSpec_append hem2, Int.neg_neg, ← absSpec_erase s t (s.dropOld B t).pq (s.dropOld B t).counter, ← hem1]

theorem Inv.mem_emap {s : PQ T β} (hI : Inv wf content s) {e : Entry T} {t : T} (he : e ∈ content s.pq)
    (hlive : e.task = some t) : (t, e.prio, e.count) ∈ s.emap := by
  apply (hI.live t e.prio e.count).mpr
  rw [Entry.eta_of_task hlive]
  exact he

/-- `e` is in front of `b` and least in it; `popFront` takes exactly `e` off and leaves `b'` -/
structure FrontPop (B : Backend T β) (wf : β → Prop) (content : β → List (Entry T)) (b : β) (e : Entry T) (b' : β) :
    Prop where
  front : B.front b = some e
  pop : B.popFront b = some (e, b')
  mem : e ∈ content b
  least : ∀ x ∈ content b, x.lt e = false
  rest_wf : wf b'
  rest_perm : (content b').Perm ((content b).erase e)
  rest_length : (content b').length + 1 = (content b).length

theorem Lawful.front_pop (L : Lawful B wf content) {b : β} (hwf : wf b) (h0 : B.size b ≠ 0) :
    ∃ e b', FrontPop B wf content b e b' := by
  have hne : content b ≠ [] := by
    intro h
    rw [L.size_eq b hwf, h] at h0
    exact h0 rfl
  obtain ⟨e, hfront, hein, hmin⟩ := L.front_min b hwf hne
  obtain ⟨e', b', hpop, hfront', hwf', hperm⟩ := L.pop_front b hwf hne
  obtain rfl : e = e' := Option.some.inj (hfront.symm.trans hfront')
  refine ⟨e, b', hfront, hpop, hein, hmin, hwf', hperm, ?_⟩
  rw [hperm.length_eq, List.length_erase_of_mem hein]
  have := List.length_pos_iff.mpr hne
  omega

/-- the two fields of `Inv` that speak of the counters (`cnodup`, `clt`) survive taking an entry off the backend -/
theorem counts_of_erase {l l' : List (Entry T)} {e : Entry T} {n : Nat} (hperm : l'.Perm (l.erase e))
    (hnd : (l.map Entry.count).Nodup) (hlt : ∀ x ∈ l, x.count < n) :
    (l'.map Entry.count).Nodup ∧ ∀ x ∈ l', x.count < n :=
  ⟨((hperm.map Entry.count).nodup_iff).mpr (hnd.sublist (List.Sublist.map _ List.erase_sublist)),
    fun x hx => hlt x (List.mem_of_mem_erase (hperm.mem_iff.mp hx))⟩

theorem erase_dead_inv (m : EMap T) (n : Nat) (b b' : β) (hI : Inv wf content ⟨b, m, n⟩) (e : Entry T)
    (hdead : e.task = none) (hwf : wf b') (hperm : (content b').Perm ((content b).erase e)) :
    Inv wf content ⟨b', m, n⟩ := by
  obtain ⟨h1, h2⟩ := counts_of_erase hperm hI.cnodup hI.clt
  refine ⟨hwf, h1, h2, hI.knodup, hI.cinc, ?_⟩
  intro t p c
  show (t, p, c) ∈ m ↔ _ ∈ content b'
  rw [hperm.mem_iff, List.mem_erase_of_ne (by intro h; rw [← h] at hdead; cases hdead)]
  exact hI.live t p c

theorem erase_live_inv (m : EMap T) (n : Nat) (b b' : β) (hI : Inv wf content ⟨b, m, n⟩) (e : Entry T)
    (t : T) (hlive : e.task = some t) (he : e ∈ content b) (hwf : wf b')
    (hperm : (content b').Perm ((content b).erase e)) :
    Inv wf content ⟨b', emErase t m, n⟩ := by
  have hnd : (content b).Nodup := hI.content_nodup
  have hem : (t, e.prio, e.count) ∈ m := hI.mem_emap he hlive
  obtain ⟨h1, h2⟩ := counts_of_erase hperm hI.cnodup hI.clt
  refine ⟨hwf, h1, h2, hI.knodup.sublist (List.Sublist.map _ List.filter_sublist), hI.cinc.filter _, ?_⟩
  intro t' p' c'
  show (t', p', c') ∈ emErase t m ↔ _ ∈ content b'
  rw [mem_emErase, hperm.mem_iff, hnd.mem_erase_iff, ← hI.live t' p' c', and_comm, ← Entry.eta_of_task hlive]
  refine and_congr_left fun hm => not_congr ((hI.task_eq_iff hm hem).trans ?_)
  -- the item of `t` in the dict and the entry `e` have the same three components
  simp [eq_comm, and_comm, and_left_comm]

theorem cull_of_empty {b : β} (h0 : B.size b = 0) (fuel : Nat) : cull B fuel b = b := by
  cases fuel <;> simp [cull, h0]

theorem cull_of_live {b : β} {e : Entry T} {t : T} (hfront : B.front b = some e) (hlive : e.task = some t)
    (fuel : Nat) : cull B fuel b = b := by
  cases fuel <;> simp [cull, hfront, hlive]

theorem cull_of_dead {b b' : β} {e e' : Entry T} (h0 : B.size b ≠ 0) (hfront : B.front b = some e)
    (hdead : e.task = none) (hpop : B.popFront b = some (e', b')) (fuel : Nat) :
    cull B (fuel + 1) b = cull B fuel b' := by
  simp [cull, h0, hfront, hdead, hpop]

/-- `_cull` keeps the invariant; the second part says that the fuel `len(self._pq)` suffices: the loop ends on an empty
    backend or with a live entry in front -/
theorem cull_spec (L : Lawful B wf content) (m : EMap T) (n : Nat) (fuel : Nat) (b : β)
    (hI : Inv wf content ⟨b, m, n⟩) :
    Inv wf content ⟨cull B fuel b, m, n⟩ ∧
    ((content b).length ≤ fuel → B.size (cull B fuel b) ≠ 0 →
      ∃ e t, B.front (cull B fuel b) = some e ∧ e.task = some t) := by
  induction fuel generalizing b with
  | zero =>
    refine ⟨hI, fun h h0 => absurd ?_ h0⟩
    rw [cull, L.size_eq b hI.wf]
    omega
  | succ k ih =>
    by_cases h0 : B.size b = 0
    · rw [cull_of_empty h0]
      exact ⟨hI, fun _ h => absurd h0 h⟩
    · obtain ⟨e, b', hf⟩ := L.front_pop (b := b) hI.wf h0
      cases htask : e.task with
      | some t =>
        rw [cull_of_live hf.front htask]
        exact ⟨hI, fun _ _ => ⟨e, t, hf.front, htask⟩⟩
      | none =>
        rw [cull_of_dead h0 hf.front htask hf.pop]
        obtain ⟨h1, h2⟩ := ih b' (erase_dead_inv m n b b' hI e htask hf.rest_wf hf.rest_perm)
        exact ⟨h1, fun hle => h2 (by have := hf.rest_length; omega)⟩

/-- any fuel that covers the entries gives what the model's own fuel `len(self._pq)` gives -/
theorem cull_stable (L : Lawful B wf content) (m : EMap T) (n : Nat) (F : Nat) (b : β)
    (hI : Inv wf content ⟨b, m, n⟩) (hle : (content b).length ≤ F) : cull B F b = cull B (B.size b) b := by
  induction F generalizing b with
  | zero => rw [L.size_eq b hI.wf, Nat.le_zero.mp hle]
  | succ F ih =>
    by_cases h0 : B.size b = 0
    · rw [cull_of_empty h0, cull_of_empty h0]
    · obtain ⟨e, b', hf⟩ := L.front_pop (b := b) hI.wf h0
      cases htask : e.task with
      | some t => rw [cull_of_live hf.front htask, cull_of_live hf.front htask]
      | none =>
        have hs : B.size b = B.size b' + 1 := by rw [L.size_eq b hI.wf, L.size_eq b' hf.rest_wf, hf.rest_length]
        rw [hs, cull_of_dead h0 hf.front htask hf.pop, cull_of_dead h0 hf.front htask hf.pop]
        exact ih b' (erase_dead_inv m n b b' hI e htask hf.rest_wf hf.rest_perm) (by have := hf.rest_length; omega)

theorem best_of_min (s : PQ T β) (hI : Inv wf content s) (e : Entry T) (t : T)
    (he : e ∈ content s.pq) (hlive : e.task = some t) (hmin : ∀ x ∈ content s.pq, x.lt e = false) :
    best (absSpec s) = some (t, -e.prio) := by
  -- split the dict at the entry's item: the counters before it are smaller, so least means strictly greater priority
  obtain ⟨l1, l2, hsplit⟩ := List.append_of_mem (hI.mem_emap he hlive)
  have hpw := hI.cinc
  have hall : ∀ x ∈ s.emap, e.prio ≤ x.2.1 ∧ (x.2.1 = e.prio → e.count ≤ x.2.2) := by
    intro x hx
    obtain ⟨t', p', c'⟩ := x
    exact (Entry.lt_eq_false _ e).mp (hmin _ ((hI.live t' p' c').mp hx))
  unfold absSpec
  rw [hsplit] at hpw hall ⊢
  rw [List.pairwise_append, List.pairwise_cons] at hpw
  rw [List.map_append, List.map_cons]
  apply best_of_decomp
  · intro y hy
    obtain ⟨x, hx, rfl⟩ := List.mem_map.mp hy
    have h1 := hpw.2.2 x hx (t, e.prio, e.count) (by simp)
    have h2 := hall x (by simp [hx])
    simp only at h1 h2 ⊢
    omega
  · intro y hy
    obtain ⟨x, hx, rfl⟩ := List.mem_map.mp hy
    have h2 := hall x (by simp [hx])
    simp only at h2 ⊢
    omega

theorem emap_nil_of_size_zero (L : Lawful B wf content) (s : PQ T β) (hI : Inv wf content s)
    (h0 : B.size s.pq = 0) : s.emap = [] := by
  have hnil : content s.pq = [] := List.length_eq_zero_iff.mp (by rw [← L.size_eq _ hI.wf]; exact h0)
  cases hm : s.emap with
  | nil => rfl
  | cons x xs =>
    obtain ⟨t, p, c⟩ := x
    have := (hI.live t p c).mp (by rw [hm]; simp)
    rw [hnil] at this
    simp at this

theorem culled_inv (L : Lawful B wf content) (s : PQ T β) (hI : Inv wf content s) :
    Inv wf content ⟨cull B (B.size s.pq) s.pq, s.emap, s.counter⟩ :=
  (cull_spec L s.emap s.counter (B.size s.pq) s.pq hI).1

theorem culled_empty_best (L : Lawful B wf content) (s : PQ T β) (hI : Inv wf content s)
    (h0 : B.size (cull B (B.size s.pq) s.pq) = 0) : best (absSpec s) = none := by
  have hnil : s.emap = [] :=
    emap_nil_of_size_zero L ⟨cull B (B.size s.pq) s.pq, s.emap, s.counter⟩ (culled_inv L s hI) h0
  rw [absSpec_of_nil hnil]
  rfl

/-- what `peek` / `pop` find in state `s` when `_cull()` has left a non-empty backend `b`: the front entry `e` is live, its
    task `t` is the specification's `best`, and taking it off keeps the invariant -/
structure CulledFront (B : Backend T β) (wf : β → Prop) (content : β → List (Entry T)) (s : PQ T β) (b : β)
    (e : Entry T) (t : T) (b' : β) : Prop extends FrontPop B wf content b e b' where
  nonempty : B.size b ≠ 0
  live : e.task = some t
  best_eq : best (absSpec s) = some (t, -e.prio)
  lookup : emLookup t s.emap = some (e.prio, e.count)
  inv : Inv wf content ⟨b', emErase t s.emap, s.counter⟩

theorem culled_front (L : Lawful B wf content) (s : PQ T β) (hI : Inv wf content s)
    (h0 : B.size (cull B (B.size s.pq) s.pq) ≠ 0) :
    ∃ e t b', CulledFront B wf content s (cull B (B.size s.pq) s.pq) e t b' := by
  have hIc := culled_inv L s hI
  obtain ⟨e, t, hfront, hlive⟩ :=
    (cull_spec L s.emap s.counter (B.size s.pq) s.pq hI).2 (by rw [L.size_eq s.pq hI.wf]; exact Nat.le_refl _) h0
  obtain ⟨e', b', hf⟩ := L.front_pop hIc.wf h0
  obtain rfl : e = e' := Option.some.inj (hfront.symm.trans hf.front)
  have hem : (t, e.prio, e.count) ∈ s.emap := hIc.mem_emap hf.mem hlive
  refine ⟨e, t, b', hf, h0, hlive, best_of_min ⟨_, s.emap, s.counter⟩ hIc e t hf.mem hlive hf.least, ?_,
    erase_live_inv s.emap s.counter _ b' hIc e t hlive hf.mem hf.rest_wf hf.rest_perm⟩
  cases hl : emLookup t s.emap with
  | none => exact absurd rfl ((emLookup_none t s.emap).mp hl _ hem)
  | some v => exact congrArg (fun x => some x.2) ((hI.task_eq_iff (emLookup_mem t s.emap v hl) hem).mp rfl)

theorem PQ.peekAt_of_empty (s : PQ T β) {b : β} (h0 : B.size b = 0) (d : Option Nat) :
    s.peekAt B b d = (⟨b, s.emap, s.counter⟩, emptyOut d) := by
  rw [PQ.peekAt, if_pos h0]

theorem PQ.popAt_of_empty (s : PQ T β) {b : β} (h0 : B.size b = 0) (d : Option Nat) :
    s.popAt B b d = (⟨b, s.emap, s.counter⟩, emptyOut d) := by
  rw [PQ.popAt, if_pos h0]

theorem CulledFront.peekAt {s : PQ T β} {b b' : β} {e : Entry T} {t : T} (h : CulledFront B wf content s b e t b')
    (d : Option Nat) : s.peekAt B b d = (⟨b, s.emap, s.counter⟩, .task t) := by
  simp only [PQ.peekAt, if_neg h.nonempty, h.front, h.live]

theorem CulledFront.popAt {s : PQ T β} {b b' : β} {e : Entry T} {t : T} (h : CulledFront B wf content s b e t b')
    (d : Option Nat) : s.popAt B b d = (⟨b', emErase t s.emap, s.counter⟩, .task t) := by
  simp only [PQ.popAt, if_neg h.nonempty, h.pop, h.live, h.lookup]

theorem peek_sim (L : Lawful B wf content) (s : PQ T β) (hI : Inv wf content s) (d : Option Nat) :
    Refines wf content (s.peek B d) ((absSpec s).step (.peek d)) := by
  unfold PQ.peek
  by_cases h0 : B.size (cull B (B.size s.pq) s.pq) = 0
  · rw [PQ.peekAt_of_empty s h0]
    simp only [Spec.step, culled_empty_best L s hI h0]
    exact ⟨culled_inv L s hI, absSpec_mk s _ _, rfl⟩
  · obtain ⟨e, t, b', hc⟩ := culled_front L s hI h0
    rw [hc.peekAt]
    simp only [Spec.step, hc.best_eq]
    exact ⟨culled_inv L s hI, absSpec_mk s _ _, rfl⟩

theorem pop_sim (L : Lawful B wf content) (s : PQ T β) (hI : Inv wf content s) (d : Option Nat) :
    Refines wf content (s.pop B d) ((absSpec s).step (.pop d)) := by
  unfold PQ.pop
  by_cases h0 : B.size (cull B (B.size s.pq) s.pq) = 0
  · rw [PQ.popAt_of_empty s h0]
    simp only [Spec.step, culled_empty_best L s hI h0]
    exact ⟨culled_inv L s hI, absSpec_mk s _ _, rfl⟩
  · obtain ⟨e, t, b', hc⟩ := culled_front L s hI h0
    rw [hc.popAt]
    simp only [Spec.step, hc.best_eq]
    exact ⟨hc.inv, absSpec_erase s t b' s.counter, rfl⟩

/-- `pop` / `peek` return a task or the answer of the empty queue, never the `_REMOVED` sentinel or a KeyError -/
theorem pop_peek_out (L : Lawful B wf content) (s : PQ T β) (hI : Inv wf content s) (d : Option Nat) :
    ((s.pop B d).2 = emptyOut d ∨ ∃ t, (s.pop B d).2 = .task t) ∧
    ((s.peek B d).2 = emptyOut d ∨ ∃ t, (s.peek B d).2 = .task t) := by
  rw [(pop_sim L s hI d).out, (peek_sim L s hI d).out]
  simp only [Spec.step]
  cases best (absSpec s) with
  | none => exact ⟨Or.inl rfl, Or.inl rfl⟩
  | some x => exact ⟨Or.inr ⟨x.1, rfl⟩, Or.inr ⟨x.1, rfl⟩⟩

theorem has_iff_lookup (s : PQ T β) (t : T) :
    (absSpec s).has t = true ↔ emLookup t s.emap ≠ none := by
  rw [Spec.has_iff, absSpec_tasks, Ne, emLookup_none, List.mem_map]
  exact ⟨fun ⟨x, hx, hxt⟩ hall => hall x hx hxt, fun h => Classical.byContradiction fun hc => h fun x hx hxt => hc ⟨x, hx, hxt⟩⟩

theorem step_sim (L : Lawful B wf content) (s : PQ T β) (hI : Inv wf content s) (op : Op T) :
    Refines wf content (s.step B op) ((absSpec s).step op) := by
  cases op with
  | add t p => exact add_sim L s hI t p
  | remove t =>
    simp only [PQ.step, Spec.step]
    cases hl : emLookup t s.emap with
    | none =>
      have hr : s.remove B t = none := by simp [PQ.remove, hl]
      have hh : (absSpec s).has t = false := Bool.eq_false_iff.mpr fun hb => (has_iff_lookup s t).mp hb hl
      simp only [hr, hh]
      exact ⟨hI, rfl, rfl⟩
    | some v =>
      obtain ⟨hr, hI'⟩ := remove_inv L s hI t v.1 v.2 hl
      have hh : (absSpec s).has t = true := (has_iff_lookup s t).mpr (by rw [hl]; simp)
      simp only [hr, hh, ↓reduceIte]
      exact ⟨hI', absSpec_erase s t _ _, rfl⟩
  | pop d => exact pop_sim L s hI d
  | peek d => exact peek_sim L s hI d
  | len => exact ⟨hI, rfl, by simp [PQ.step, Spec.step, absSpec_length]⟩

theorem runFrom_sim (L : Lawful B wf content) (ops : List (Op T)) (s : PQ T β) (hI : Inv wf content s) :
    Refines wf content (PQ.runFrom B s ops) (Spec.runFrom (absSpec s) ops) := by
  induction ops generalizing s with
  | nil => exact ⟨hI, rfl, rfl⟩
  | cons op ops ih =>
    have h := step_sim L s hI op
    have i := ih (s.step B op).1 h.inv
    simp only [PQ.runFrom, Spec.runFrom]
    rw [← h.abs, ← h.out]
    exact ⟨i.inv, i.abs, by rw [i.out]⟩

theorem run_sim (L : Lawful B wf content) (ops : List (Op T)) : Refines wf content (PQ.run B ops) (Spec.run ops) :=
  runFrom_sim L ops (PQ.init B) (init_inv L)

end Sim

theorem nextOut_eq_spec {β : Type} {B : Backend T β} {wf : β → Prop} {content : β → List (Entry T)}
    (L : Lawful B wf content) (ops : List (Op T)) (op : Op T) :
    nextOut B ops op = ((live ops).step op).2 := by
  rw [nextOut, (step_sim L _ (run_sim L ops).inv op).out, (run_sim L ops).abs]

end C10
