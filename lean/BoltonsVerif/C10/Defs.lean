import BoltonsVerif.C10.Model
/-
C10 — the notions, beyond the model, that the property theorems (`Props.lean`) are stated with: representation
invariants, what is asked of a comparison and of a backend, the abstraction to the specification, histories of the
specification, and the comparison records (`plainBackend`, `translateUnfixed`, `Entry.pyLt`, `EPrio`).
-/
namespace C10

section Barrel
variable {α : Type}

/-- representation invariant: `lists` is never empty (`BarrelList()` starts from `[[]]`) -/
def BL.ok (b : BL α) : Prop := b.lists ≠ []

def Asc (lt : α → α → Bool) (l : List α) : Prop := l.Pairwise (fun a b => lt b a = false)

/-- the two order facts `bisect` needs from `<` (they hold for every strict weak order) -/
structure BisectOrder (lt : α → α → Bool) : Prop where
  lt_of_lt_of_ge : ∀ x m j, lt x m = true → lt j m = false → lt x j = true
  ge_of_ge_of_ge : ∀ x m j, lt x m = false → lt m j = false → lt x j = false

/-- `bisect.bisect_right(l, x)` on a plain list (the same loop, `l[mid]` a plain lookup) -/
def bisectList {α : Type} (lt : α → α → Bool) (x : α) (l : List α) : Nat := bisectRight lt x ⟨[l]⟩

/-! the defect the `fix:` commit repaired (not part of the model; `unfixed_insert_at_end_misplaces` evaluates it) -/

/-- `_translate_index` BEFORE the fix: without the `for … else` branch an index past the end came
    back as offset `index - len(self)` of the last sub-list -/
def translateUnfixed : List (List α) → Nat → Nat × Nat
  | [], i => (0, i)
  | [l], i => (0, if i < l.length then i else i - l.length)
  | l :: l' :: ls, i =>
    if i < l.length then (0, i)
    else ((translateUnfixed (l' :: ls) (i - l.length)).1 + 1, (translateUnfixed (l' :: ls) (i - l.length)).2)

/-- `insert` (several sub-lists) on top of the unfixed translation -/
def insertUnfixed (ls : List (List α)) (i : Nat) (x : α) : List (List α) :=
  ls.modify (translateUnfixed ls i).1 (pyInsert (translateUnfixed ls i).2 x)

end Barrel

section Heap
variable {α : Type}

/-- `h[i] ≤ h[j]` (vacuous when a position is out of range) -/
def LeAt (lt : α → α → Bool) (h : List α) (i j : Nat) : Prop :=
  ∀ a b, h[i]? = some a → h[j]? = some b → lt b a = false

/-- every item is not smaller than its parent -/
def HeapInv (lt : α → α → Bool) (h : List α) : Prop := ∀ j, 0 < j → LeAt lt h ((j - 1) / 2) j

/-- what the proofs need from the comparison: `¬ (b < a)` is a total preorder `a ≤ b` -/
structure HeapOrder (lt : α → α → Bool) : Prop where
  asymm : ∀ a b, lt a b = true → lt b a = false
  trans : ∀ a b c, lt b a = false → lt c b = false → lt c a = false

end Heap

section Queue
variable {T : Type} [DecidableEq T]

/-- `content b` is the bag of entries stored in `b` (as a list up to permutation), `wf` the
    backend's own representation invariant (for `heapq`: `binHeap_lawful`).
    `pop_front` repeats `B.front b = some e`: the popped entry is the least one of `front_min`. -/
structure Lawful {β : Type} (B : Backend T β) (wf : β → Prop) (content : β → List (Entry T)) : Prop where
  wf_empty : wf B.empty
  content_empty : content B.empty = []
  size_eq : ∀ b, wf b → B.size b = (content b).length
  front_min : ∀ b, wf b → content b ≠ [] →
    ∃ e, B.front b = some e ∧ e ∈ content b ∧ ∀ x ∈ content b, x.lt e = false
  pop_front : ∀ b, wf b → content b ≠ [] →
    ∃ e b', B.popFront b = some (e, b') ∧ B.front b = some e ∧ wf b' ∧
      (content b').Perm ((content b).erase e)
  push : ∀ e b, wf b → wf (B.push e b) ∧ (content (B.push e b)).Perm (e :: content b)
  mark : ∀ c b, wf b → wf (B.mark c b) ∧ (content (B.mark c b)).Perm ((content b).map (markEntry c))

def sortedWf (b : BL (Entry T)) : Prop := b.ok ∧ Asc Entry.lt b.toList

/-- `SortedPriorityQueue` with `BList = list`: `insort` = bisect + `list.insert`, `pop(0)` -/
def plainBackend : Backend T (List (Entry T)) where
  empty := []
  size := List.length
  front := fun l => l[0]?
  push := fun e l => pyInsert (bisectList Entry.lt e l) e l
  popFront := fun l => match l with
    | [] => none
    | e :: r => some (e, r)
  mark := fun c l => l.map (markEntry c)

section State
variable {β : Type}

structure Inv (wf : β → Prop) (content : β → List (Entry T)) (s : PQ T β) : Prop where
  wf : wf s.pq
  cnodup : ((content s.pq).map Entry.count).Nodup
  clt : ∀ e ∈ content s.pq, e.count < s.counter
  knodup : (s.emap.map Prod.fst).Nodup
  -- counters ascend along the dict order: what makes `best` first-in first-out among equals
  cinc : s.emap.Pairwise (fun a b => a.2.2 < b.2.2)
  live : ∀ t p c, (t, p, c) ∈ s.emap ↔ (⟨p, c, some t⟩ : Entry T) ∈ content s.pq

/-- the specification state a queue state stands for: the dict's tasks in dict order, the stored keys negated back -/
def absSpec (s : PQ T β) : Spec T := s.emap.map (fun x => (x.1, -x.2.1))

/-- the live tasks after the history `ops`, as the specification has them -/
abbrev live (ops : List (Op T)) : Spec T := (Spec.run ops).1

/-- what the call `op` returns (or raises) after the history `ops` -/
abbrev nextOut {β : Type} (B : Backend T β) (ops : List (Op T)) (op : Op T) : Out T :=
  ((PQ.run B ops).1.step B op).2

def isAddOf (t : T) : Op T → Bool
  | .add t' _ => decide (t' = t)
  | _ => false

/-- stable insertion into a list sorted by descending priority: `x` (earlier than everything in
    the list) goes before the first element whose priority is not greater -/
def insDesc (x : T × Int) : Spec T → Spec T
  | [] => [x]
  | y :: ys => if y.2 ≤ x.2 then x :: y :: ys else y :: insDesc x ys

/-- the live tasks ordered by descending priority, earlier (re-)insertion first among equals
    (stable insertion sort) -/
def sortDesc (s : Spec T) : Spec T := s.foldr insDesc []

def SortedDesc (l : Spec T) : Prop := l.Pairwise (fun a b => b.2 ≤ a.2)

def hasPrio (p : Int) (x : T × Int) : Bool := decide (x.2 = p)

def isQuery : Op T → Bool
  | .peek _ => true
  | .len => true
  | _ => false

def isUpdate (op : Op T) : Bool := !isQuery op

def updOut (x : Op T × Out T) : Bool := isUpdate x.1

def liveEntries (l : List (Entry T)) : List (Entry T) := l.filter (fun e => e.task.isSome)

def rebuild (B : Backend T β) (es : List (Entry T)) : β := es.foldr (fun e b => B.push e b) B.empty

/-- a clean-up that `queueutils` does not have (`Compact.lean`): the backend replaced by one rebuilt from the entries `es`
    through its own `push` -/
def PQ.compact (B : Backend T β) (s : PQ T β) (es : List (Entry T)) : PQ T β :=
  ⟨rebuild B es, s.emap, s.counter⟩

end State

/-- Python's `<` on two `[priority, count, task]` lists, decided at the first position where they
    differ; `none` = the comparison reaches the tasks (a TypeError for unorderable tasks or for the
    `_REMOVED` sentinel, an arbitrary task order otherwise).  Used only to state
    `comparisons_never_reach_task`: the model compares with `Entry.lt`. -/
def Entry.pyLt (a b : Entry T) : Option Bool :=
  if a.prio ≠ b.prio then some (decide (a.prio < b.prio))
  else if a.count ≠ b.count then some (decide (a.count < b.count))
  else none

end Queue

inductive EPrio where
  | fin (d : Dy)
  | posInf
  | negInf
deriving Repr, DecidableEq

/-- what the harness tells the driver -/
def EPrio.standin : EPrio → Dy
  | .fin d => d
  | .posInf => ⟨2 ^ 1100, 0⟩
  | .negInf => ⟨-(2 ^ 1100), 0⟩

/-- the order of the extended reals (`inf < inf` and `-inf < -inf` are false, like `float`'s `<`) -/
def EPrio.lt : EPrio → EPrio → Prop
  | .fin a, .fin b => Dy.lt a b
  | .fin _, .posInf => True
  | .negInf, .fin _ => True
  | .negInf, .posInf => True
  | _, _ => False

/-- finite priorities that can occur: `|m / 2^e| < 2^1100` (doubles and the ints `float()` accepts stay below
    `2^1024`, see `inf_standin_dominates`) -/
def EPrio.legal : EPrio → Prop
  | .fin d => -(2 ^ 1100) * 2 ^ d.e < d.m ∧ d.m < 2 ^ 1100 * 2 ^ d.e
  | _ => True

instance (a : EPrio) : Decidable a.legal := by
  cases a <;> (unfold EPrio.legal; exact inferInstance)

instance (a b : EPrio) : Decidable (EPrio.lt a b) := by
  cases a <;> cases b <;> (unfold EPrio.lt; exact inferInstance)

end C10
