import BoltonsVerif.C04.Proofs
/-
C04 — a destination path that is a SYMBOLIC LINK.

The directory gets a third name `tgt` that the save never touches, and the destination's entry is
either a file or a symbolic link to `tgt` (which may be absent: a link to nothing).  Readers of the
destination PATH follow the link.  `rename part dest` replaces the entry itself (the link goes, the
target stays); `link part dest` refuses whenever the NAME exists, also for a link to nothing.

`SFS.abs` forgets the link: the destination's entry becomes the inode a reader of the path reaches.
Every step of the link-aware file system is a step of the plain one on the abstraction
(`sstep_sim`), so everything proved for `C04.FS` holds for what readers of a symlinked destination see.
In-place events (`truncDest`, `writeDest`, `unlinkDest`, `unknown`), which `SafeTrace` rejects anyway,
are not given a link-aware semantics (they fail here).
-/
namespace C04

inductive DEntry where
  | file (ino : Nat)
  | link
deriving DecidableEq, Repr

structure SDir where
  dest : Option DEntry
  part : Option Nat
  tgt : Option Nat
deriving DecidableEq, Repr

/-- the inode a reader of the destination path reaches -/
def SDir.resolve (d : SDir) : Option Nat :=
  match d.dest with
  | none => none
  | some (.file i) => some i
  | some .link => d.tgt

def SDir.abs (d : SDir) : Dir := ⟨d.resolve, d.part⟩

structure SFS where
  inodes : List Inode
  dir : SDir
  hist : List SDir
  openf : Option OpenFile
  umask : Nat
deriving DecidableEq, Repr

def SFS.abs (s : SFS) : FS := ⟨s.inodes, s.dir.abs, s.hist.map SDir.abs, s.openf, s.umask⟩

/-- what a reader of the destination PATH finds (the link is followed) -/
def SFS.readDest (s : SFS) : Option Bytes := s.abs.readDest

def SFS.setDir (s : SFS) (d : SDir) : SFS := { s with dir := d, hist := s.dir :: s.hist }

/-- events that do not change the directory act on the inode table / the open file exactly as in `FS` -/
def SFS.viaAbs (s : SFS) (e : Ev) : Except Errno SFS :=
  match s.abs.step e with
  | .ok fs' => .ok { s with inodes := fs'.inodes, openf := fs'.openf }
  | .error err => .error err

def SFS.step (s : SFS) : Ev → Except Errno SFS
  | .openPart excl sd mode =>
    match s.dir.part with
    | some i => if excl then .error EEXIST else .ok { s with openf := some ⟨i, []⟩ }
    | none =>
      .ok { (s.setDir { s.dir with part := some s.inodes.length }) with
            inodes := s.inodes ++ [⟨[], [], mode &&& (0o7777 ^^^ (s.umask &&& 0o7777))⟩],
            openf := some ⟨s.inodes.length, []⟩ }
  | .renamePartDest =>
    match s.dir.part with
    | none => .error ENOENT
    | some i => .ok (s.setDir ⟨some (.file i), none, s.dir.tgt⟩)
  | .linkPartDest =>
    match s.dir.part with
    | none => .error ENOENT
    | some i =>
      match s.dir.dest with
      | some _ => .error EEXIST          -- the NAME exists (a file, a link, a link to nothing)
      | none => .ok (s.setDir ⟨some (.file i), some i, s.dir.tgt⟩)
  | .unlinkPart =>
    match s.dir.part with
    | none => .error ENOENT
    | some _ => .ok (s.setDir { s.dir with part := none })
  | .truncDest => .error EBADF
  | .writeDest _ => .error EBADF
  | .unlinkDest => .error EBADF
  | .unknown => .error EBADF
  | e => s.viaAbs e

def SFS.exec (s : SFS) : List Ev → Option SFS
  | [] => some s
  | e :: t => match s.step e with
    | .ok s' => SFS.exec s' t
    | .error _ => none

theorem viaAbs_sim (s s' : SFS) (e : Ev) (he : e.keepsDir = true) (h : s.viaAbs e = .ok s') :
    s.abs.step e = .ok s'.abs := by
  unfold SFS.viaAbs at h
  split at h <;> cases h
  rename_i fs' hs
  obtain ⟨h1, h2, h3⟩ := step_keeps_dir _ _ e he hs
  rw [hs]
  cases fs'
  simp only [SFS.abs] at h1 h2 h3 ⊢
  subst h1 h2 h3; rfl

theorem viaAbs_dir (s s' : SFS) (e : Ev) (h : s.viaAbs e = .ok s') : s'.dir = s.dir := by
  unfold SFS.viaAbs at h
  split at h <;> cases h
  rfl

theorem sstep_spec (s s' : SFS) (e : Ev) (h : s.step e = .ok s') :
    s.abs.step e = .ok s'.abs ∧
    ((publishes [e] = false ∧ ∃ p, s'.dir = { s.dir with part := p }) ∨
     (publishes [e] = true ∧ ∃ i p, s'.dir = ⟨some (.file i), p, s.dir.tgt⟩)) := by
  cases e with
  | openPart excl _ mode =>
    simp only [SFS.step] at h
    split at h
    · rename_i i hp
      split at h <;> cases h
      rename_i hx
      exact ⟨by simp [FS.step, FS.openPart, SFS.abs, SDir.abs, hp, hx], Or.inl ⟨rfl, _, rfl⟩⟩
    · rename_i hp
      cases h
      exact ⟨by simp [FS.step, FS.openPart, SFS.abs, SDir.abs, hp, SFS.setDir, FS.setDir, SDir.resolve],
        Or.inl ⟨rfl, _, rfl⟩⟩
  | renamePartDest =>
    simp only [SFS.step] at h
    split at h <;> cases h
    rename_i i hp
    exact ⟨by simp [FS.step, FS.renamePartDest, SFS.abs, SDir.abs, hp, SFS.setDir, FS.setDir, SDir.resolve],
      Or.inr ⟨rfl, _, _, rfl⟩⟩
  | linkPartDest =>
    simp only [SFS.step] at h
    split at h
    · cases h
    · rename_i i hp
      split at h <;> cases h
      rename_i hd
      exact ⟨by simp [FS.step, FS.linkPartDest, SFS.abs, SDir.abs, hp, hd, SFS.setDir, FS.setDir, SDir.resolve],
        Or.inr ⟨rfl, _, _, rfl⟩⟩
  | unlinkPart =>
    simp only [SFS.step] at h
    split at h <;> cases h
    rename_i i hp
    exact ⟨by simp [FS.step, FS.unlinkPart, SFS.abs, SDir.abs, hp, SFS.setDir, FS.setDir, SDir.resolve],
      Or.inl ⟨rfl, _, rfl⟩⟩
  | truncDest | writeDest _ | unlinkDest | unknown => cases h
  | noop | chmodPart _ | write _ _ | flush | fsync | close | closeFd =>
    simp only [SFS.step] at h
    exact ⟨viaAbs_sim s s' _ rfl h, Or.inl ⟨rfl, _, viaAbs_dir s s' _ h⟩⟩

/-- **Simulation**: a step of the link-aware file system is the same step of the plain file system on
    what readers of the paths see -/
theorem sstep_sim (s s' : SFS) (e : Ev) (h : s.step e = .ok s') : s.abs.step e = .ok s'.abs :=
  (sstep_spec s s' e h).1

theorem SFS.exec_cons_some {s s' : SFS} {e : Ev} {t : List Ev} :
    SFS.exec s (e :: t) = some s' ↔ ∃ s1, s.step e = .ok s1 ∧ SFS.exec s1 t = some s' := by
  simp only [SFS.exec]
  cases s.step e <;> simp

theorem sexec_sim : ∀ (t : List Ev) (s s' : SFS), SFS.exec s t = some s' → exec s.abs t = some s'.abs
  | [], s, s', h => by cases h; rfl
  | e :: t, s, s', h => by
    obtain ⟨s1, hs, h⟩ := SFS.exec_cons_some.1 h
    exact exec_cons_some.2 ⟨_, sstep_sim s s1 e hs, sexec_sim t s1 s' h⟩

theorem sexec_dir : ∀ (t : List Ev) (s s' : SFS), SFS.exec s t = some s' →
    (publishes t = false ∧ ∃ p, s'.dir = { s.dir with part := p }) ∨
    (publishes t = true ∧ ∃ i p, s'.dir = ⟨some (.file i), p, s.dir.tgt⟩)
  | [], s, s', h => by cases h; exact Or.inl ⟨rfl, _, rfl⟩
  | e :: t, s, s', h => by
    obtain ⟨s1, hs, h⟩ := SFS.exec_cons_some.1 h
    rw [publishes_cons]
    -- the step and the rest each either change `part` only or make the destination a file, which it then stays
    rcases (sstep_spec s s1 e hs).2 with ⟨ha, p, hd⟩ | ⟨ha, i, p, hd⟩ <;>
      rcases sexec_dir t s1 s' h with ⟨hb, p', hd'⟩ | ⟨hb, i', p', hd'⟩ <;> rw [ha, hb, hd', hd]
    · exact Or.inl ⟨rfl, _, rfl⟩
    · exact Or.inr ⟨rfl, _, _, rfl⟩
    · exact Or.inr ⟨rfl, _, _, rfl⟩
    · exact Or.inr ⟨rfl, _, _, rfl⟩

theorem sexec_tgt : ∀ (t : List Ev) (s s' : SFS), SFS.exec s t = some s' → s'.dir.tgt = s.dir.tgt := by
  intro t s s' h
  rcases sexec_dir t s s' h with ⟨_, p, hd⟩ | ⟨_, i, p, hd⟩ <;> rw [hd]

theorem sexec_dest : ∀ (t : List Ev) (s s' : SFS), SFS.exec s t = some s' →
    (publishes t = false → s'.dir.dest = s.dir.dest) ∧
    (publishes t = true → ∃ i, s'.dir.dest = some (.file i)) := by
  intro t s s' h
  rcases sexec_dir t s s' h with ⟨hp, p, hd⟩ | ⟨hp, i, p, hd⟩ <;> rw [hd, hp]
  · exact ⟨fun _ => rfl, fun h => Bool.noConfusion h⟩
  · exact ⟨fun h => Bool.noConfusion h, fun _ => ⟨i, rfl⟩⟩

end C04
