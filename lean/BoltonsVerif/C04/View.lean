import BoltonsVerif.C04.Proofs
/-
C04 — the directory as observers see it (`hasDest`, `hasPart`, `sameInode`, `reboot`), traces that publish by
`rename` (`usesRename`), and what the invariant says about the part file's name and about the window between
`link part dest` and `unlink part`.
-/
namespace C04

/-- what `os.listdir` shows of the two names -/
def FS.hasDest (fs : FS) : Bool := fs.dir.dest.isSome
def FS.hasPart (fs : FS) : Bool := fs.dir.part.isSome

def FS.sameInode (fs : FS) : Bool := fs.dir.dest.isSome && fs.dir.dest == fs.dir.part

/-- the process is gone and the directory has reached the disk -/
def FS.reboot (fs : FS) : FS := { fs.procCrash with hist := [] }

/-- phase `init` is excluded: there the part file's name is whatever lay there at the start, minus a removed
    stale file -/
theorem inv_hasPart (fs0 : FS) (s : St) (fs : FS) (W : Bytes) (hi : Inv fs0 s fs W) (h0 : s.phase ≠ .init) :
    fs.hasPart = (s.phase == .part || s.phase == .linked) := by
  cases hph : s.phase
  case init => exact absurd hph h0
  case part | linked => simp [FS.hasPart, GInv.part_some hi (by simp [hph])]
  case aborted | done => simp [FS.hasPart, GInv.part_none hi (by simp [hph])]

/-- in the window between `link` and `unlink`; nothing is claimed about the mode (the third component repeats it) -/
theorem inv_linked (fs0 : FS) (s : St) (fs : FS) (W : Bytes) (hi : Inv fs0 s fs W) (hl : s.phase = .linked) :
    fs.dir.dest = some fs0.inodes.length ∧ fs.dir.part = some fs0.inodes.length ∧
    fs.inodes[fs0.inodes.length]? = some ⟨W, [], (fs.inodes[fs0.inodes.length]?.map (·.mode)).getD 0⟩ := by
  obtain ⟨h1, _, x, h4, h5, h6⟩ := ginv_published hi (by simp [St.published, hl])
  refine ⟨h1, GInv.part_some hi (Or.inr hl), ?_⟩
  cases x
  simp_all

theorem inv_linked_view (fs0 : FS) (s : St) (fs : FS) (W : Bytes) (hi : Inv fs0 s fs W) (hl : s.phase = .linked) :
    fs.sameInode = true ∧ fs.hasPart = true ∧ fs.destAfterProcCrash = some W ∧ fs.procCrash.readPart = some W ∧
    (∀ i, fs.inode? fs.dir.dest = some i → i.tail = []) ∧
    ∃ fs', fs.procCrash.step .unlinkPart = .ok fs' ∧ fs'.readDest = some W ∧ fs'.hasPart = false := by
  have hp : s.published = true := by simp [St.published, hl]
  obtain ⟨hread, htail⟩ := ginv_published_read hi hp
  have h1 := (ginv_published hi hp).1
  have h2 := GInv.part_some hi (Or.inr hl)
  -- both names lead to the new inode, so the part file reads what the destination reads
  have hpd : fs.dir.part = fs.dir.dest := h2.trans h1.symm
  refine ⟨by simp [FS.sameInode, h1, h2], by simp [FS.hasPart, h2], hread, ?_, htail,
    fs.procCrash.setDir { fs.dir with part := none }, by simp [FS.step, FS.unlinkPart, FS.procCrash, h2], hread, rfl⟩
  show (fs.inode? fs.dir.part).map Inode.cache = some W
  rw [hpd]; exact hread

def usesRename : List Ev → Bool
  | [] => false
  | .renamePartDest :: _ => true
  | _ :: t => usesRename t

theorem usesRename_append (p q : List Ev) : usesRename (p ++ q) = (usesRename p || usesRename q) := by
  induction p with
  | nil => simp [usesRename]
  | cons e p ih => cases e <;> simp [usesRename, ih]

end C04
