import BoltonsVerif.C04.Model
/-
C04 — helper lemmas: the invariant tying the acceptance automaton (`St`) to the concrete file
system, preserved by every accepted event (`inv_step`), and what it implies for both crash semantics.

Preservation and progress are case analyses over the accepted transitions (`St.Step`).

In this order: the definitions that statements outside this file mention; traces (`allWrites`, `St.run`, `exec`,
`publishes` under `::` and `++`); the automaton alone (`St.Step`); the file system alone; what `GInv` says phase by
phase; its preservation; progress; what readers of the destination find; the saver's traces.
-/
namespace C04

def evWrites : Ev → Bytes
  | .write d _ => d
  | _ => []

/-- the invariant tying the abstract automaton state to the concrete file system; `P` is what is known
    about the destination's directory entry before publication, `ino0` the inode table at the start.
    The save only ever appends ONE inode `x` to `ino0` (the part file's, number `ino0.length`) and writes to no other:
    the new bytes `W` live in `x` and the descriptor's buffer, and publication makes `x` the destination's. -/
def GInv (P : Option Nat → Prop) (ino0 : List Inode) (s : St) (fs : FS) (W : Bytes) : Prop :=
  match s.phase with
  | .init =>
    fs.inodes = ino0 ∧ P fs.dir.dest ∧ (∀ d ∈ fs.hist, P d.dest) ∧
    W = [] ∧ s.isOpen = false
  | .part =>
    P fs.dir.dest ∧ (∀ d ∈ fs.hist, P d.dest) ∧
    fs.dir.part = some ino0.length ∧
    ∃ x, fs.inodes = ino0 ++ [x] ∧ (s.unsynced = false → x.tail = []) ∧
      (if s.isOpen then ∃ buf, fs.openf = some ⟨ino0.length, buf⟩ ∧ x.durable ++ (x.tail ++ buf) = W ∧
          (s.dirtyBuf = false → buf = [])
       else x.durable ++ x.tail = W ∧ s.dirtyBuf = false)
  | .aborted =>
    P fs.dir.dest ∧ (∀ d ∈ fs.hist, P d.dest) ∧ fs.dir.part = none ∧
    ∃ x, fs.inodes = ino0 ++ [x] ∧
      (s.isOpen = true → ∃ buf, fs.openf = some ⟨ino0.length, buf⟩)
  | .linked =>
    fs.dir.dest = some ino0.length ∧ fs.dir.part = some ino0.length ∧
    (∀ d ∈ fs.hist, P d.dest ∨ d.dest = some ino0.length) ∧
    ∃ x, fs.inodes = ino0 ++ [x] ∧ x.durable = W ∧ x.tail = [] ∧
      (s.isOpen = true → fs.openf = some ⟨ino0.length, []⟩) ∧ s.dirtyBuf = false ∧ s.unsynced = false
  | .done =>
    fs.dir.dest = some ino0.length ∧ fs.dir.part = none ∧
    (∀ d ∈ fs.hist, P d.dest ∨ d.dest = some ino0.length) ∧
    ∃ x, fs.inodes = ino0 ++ [x] ∧ x.durable = W ∧ x.tail = [] ∧
      (s.isOpen = true → fs.openf = some ⟨ino0.length, []⟩) ∧ s.dirtyBuf = false ∧ s.unsynced = false

/-- C04's instance: before publication the destination's entry is the one from the start -/
abbrev Inv (fs0 : FS) (s : St) (fs : FS) (W : Bytes) : Prop :=
  GInv (fun d => d = fs0.dir.dest) fs0.inodes s fs W

def St.published (s : St) : Bool := s.phase == .linked || s.phase == .done

/-- the destination's inode is fully synced (nothing of it can be lost by a power failure) -/
def DestSynced (fs : FS) : Prop :=
  ∀ i x, fs.dir.dest = some i → fs.inodes[i]? = some x → x.tail = []

/-- events whose success is guaranteed by the invariant alone (`dest0`: the destination's entry at the start).
    `openPart` is not: it is accepted in phase `init` only, where the invariant does not say whether the part file's name is free. -/
def Ev.auto (dest0 : Option Nat) : Ev → Bool
  | .openPart _ _ _ => false
  | .linkPartDest => dest0.isNone
  | _ => true

theorem allWrites_cons (e : Ev) (t : List Ev) : allWrites (e :: t) = evWrites e ++ allWrites t := by
  cases e <;> simp [allWrites, evWrites]

theorem allWrites_append (p q : List Ev) : allWrites (p ++ q) = allWrites p ++ allWrites q := by
  induction p with
  | nil => simp [allWrites]
  | cons e p ih => simp [allWrites_cons, ih]

theorem St.run_cons_some {s s' : St} {e : Ev} {t : List Ev} :
    s.run (e :: t) = some s' ↔ ∃ s1, s.step e = some s1 ∧ s1.run t = some s' := by
  simp only [St.run]
  cases s.step e <;> simp

theorem exec_cons_some {fs fs' : FS} {e : Ev} {t : List Ev} :
    exec fs (e :: t) = some fs' ↔ ∃ fs1, fs.step e = .ok fs1 ∧ exec fs1 t = some fs' := by
  simp only [exec]
  cases fs.step e <;> simp

theorem run_append (s : St) (p q : List Ev) :
    s.run (p ++ q) = (s.run p).bind (fun s' => s'.run q) := by
  induction p generalizing s with
  | nil => simp [St.run]
  | cons e p ih =>
    simp only [List.cons_append, St.run]
    cases s.step e with
    | none => simp
    | some s1 => simpa using ih s1

theorem exec_append (fs : FS) (p q : List Ev) :
    exec fs (p ++ q) = (exec fs p).bind (fun fs' => exec fs' q) := by
  induction p generalizing fs with
  | nil => simp [exec]
  | cons e p ih =>
    simp only [List.cons_append, exec]
    cases fs.step e with
    | error _ => simp
    | ok fs1 => simpa using ih fs1

theorem exec_prefix_some (fs : FS) (p q : List Ev) (fs' : FS) (h : exec fs (p ++ q) = some fs') :
    ∃ fs1, exec fs p = some fs1 ∧ exec fs1 q = some fs' := by
  rw [exec_append] at h
  exact Option.bind_eq_some_iff.1 h

theorem run_prefix_some (s : St) (p q : List Ev) (s' : St) (h : s.run (p ++ q) = some s') :
    ∃ s1, s.run p = some s1 ∧ s1.run q = some s' := by
  rw [run_append] at h
  exact Option.bind_eq_some_iff.1 h

theorem publishes_cons (e : Ev) (t : List Ev) : publishes (e :: t) = (publishes [e] || publishes t) := by
  cases e <;> simp [publishes]

theorem publishes_append (p q : List Ev) : publishes (p ++ q) = (publishes p || publishes q) := by
  induction p with
  | nil => simp [publishes]
  | cons e p ih => rw [List.cons_append, publishes_cons, publishes_cons e p, ih, Bool.or_assoc]

theorem publishes_one (e : Ev) : publishes [e] = true ↔ e = .renamePartDest ∨ e = .linkPartDest := by
  cases e <;> simp [publishes]

theorem publishes_split : ∀ (p : List Ev), publishes p = true →
    ∃ p1 e p2, p = p1 ++ e :: p2 ∧ publishes p1 = false ∧ (e = .renamePartDest ∨ e = .linkPartDest)
  | [], h => by simp [publishes] at h
  | e :: t, h => by
    rw [publishes_cons] at h
    cases he : publishes [e] with
    | true => exact ⟨[], e, t, rfl, rfl, (publishes_one e).1 he⟩
    | false =>
      rw [he, Bool.false_or] at h
      obtain ⟨p1, e', p2, rfl, h1, h2⟩ := publishes_split t h
      exact ⟨e :: p1, e', p2, rfl, by rw [publishes_cons, he, h1]; rfl, h2⟩

/-- the graph of `St.step` (`St.step_spec`), one constructor per accepted transition with its side conditions
    as hypotheses: proofs about an accepted step split on this instead of unfolding `St.step` against every
    event and phase -/
inductive St.Step : St → Ev → St → Prop
  | noop (s : St) : Step s .noop s
  | openPart (s : St) (m : Nat) : s.phase = .init → Step s (.openPart true true m) ⟨.part, true, false, false⟩
  | chmodPart (s : St) (m : Nat) : s.phase = .part → Step s (.chmodPart m) s
  | write (s : St) (d : Bytes) (k : Nat) : s.isOpen = true → (s.phase = .part ∨ s.phase = .aborted) →
      Step s (.write d k) { s with dirtyBuf := true, unsynced := true }
  | flush (s : St) : s.isOpen = true →
      Step s .flush { s with dirtyBuf := false, unsynced := s.unsynced || s.dirtyBuf }
  | fsync (s : St) : s.isOpen = true → Step s .fsync { s with unsynced := false }
  | close (s : St) : s.isOpen = true →
      Step s .close { s with isOpen := false, dirtyBuf := false, unsynced := s.unsynced || s.dirtyBuf }
  | closeFd (s : St) : s.isOpen = true → (s.dirtyBuf = false ∨ s.phase = .aborted) →
      Step s .closeFd { s with isOpen := false, dirtyBuf := false }
  | rename (s : St) : s.phase = .part → s.dirtyBuf = false → s.unsynced = false →
      Step s .renamePartDest { s with phase := .done }
  | link (s : St) : s.phase = .part → s.dirtyBuf = false → s.unsynced = false →
      Step s .linkPartDest { s with phase := .linked }
  | unlinkStale (s : St) : s.phase = .init → Step s .unlinkPart s
  | abort (s : St) : s.phase = .part → Step s .unlinkPart { s with phase := .aborted }
  | unlinkLinked (s : St) : s.phase = .linked → Step s .unlinkPart { s with phase := .done }

theorem St.step_spec {s s' : St} {e : Ev} (h : s.step e = some s') : St.Step s e s' := by
  cases e <;> simp only [St.step, Option.ite_none_right_eq_some, Option.some.injEq, reduceCtorEq] at h
  case noop => subst h; exact .noop s
  case openPart excl sd m => obtain ⟨⟨h1, rfl, rfl⟩, rfl⟩ := h; exact .openPart s m h1
  case chmodPart m => obtain ⟨h1, rfl⟩ := h; exact .chmodPart s m h1
  case write d k => obtain ⟨⟨h1, h2⟩, rfl⟩ := h; exact .write s d k h1 h2
  case flush => obtain ⟨h1, rfl⟩ := h; exact .flush s h1
  case fsync => obtain ⟨h1, rfl⟩ := h; exact .fsync s h1
  case close => obtain ⟨h1, rfl⟩ := h; exact .close s h1
  case closeFd => obtain ⟨⟨h1, h2⟩, rfl⟩ := h; exact .closeFd s h1 h2
  case renamePartDest => obtain ⟨⟨h1, h2, h3⟩, rfl⟩ := h; exact .rename s h1 h2 h3
  case linkPartDest => obtain ⟨⟨h1, h2, h3⟩, rfl⟩ := h; exact .link s h1 h2 h3
  case unlinkPart =>
    split at h <;> cases h
    · exact .unlinkStale s ‹_›
    · exact .abort s ‹_›
    · exact .unlinkLinked s ‹_›

def Ev.onFile : Ev → Bool
  | .write _ _ | .flush | .fsync | .close | .closeFd => true
  | _ => false

def Ev.keepsDir : Ev → Bool
  | .noop | .chmodPart _ => true
  | e => e.onFile

theorem Ev.keepsDir_of_onFile {e : Ev} (h : e.onFile = true) : e.keepsDir = true := by
  cases e <;> first | rfl | exact h

theorem St.Step.onFile_open {s s' : St} {e : Ev} (h : St.Step s e s') (he : e.onFile = true) :
    s.isOpen = true ∧ s'.phase = s.phase := by
  cases h with
  | write _ _ hop | flush hop | fsync hop | close hop | closeFd hop => exact ⟨hop, rfl⟩
  | _ => exact absurd he (by simp [Ev.onFile])

/-- a write is accepted only before the publication: afterwards clean flags stay clean -/
theorem St.Step.published_clean {s s' : St} {e : Ev} (h : St.Step s e s') (hp : s.published = true)
    (hd : s.dirtyBuf = false) (hu : s.unsynced = false) : s'.dirtyBuf = false ∧ s'.unsynced = false := by
  cases h with
  | write _ _ _ hph => rcases hph with h | h <;> simp [St.published, h] at hp
  | openPart _ hph | chmodPart _ hph | rename hph | link hph | unlinkStale hph | abort hph =>
    simp [St.published, hph] at hp
  | noop | unlinkLinked => exact ⟨hd, hu⟩
  | flush | fsync | close | closeFd => simp [hd, hu]

theorem step_not_init (s s' : St) (e : Ev) (hs : s.step e = some s') (h : s.phase ≠ .init) : s'.phase ≠ .init := by
  cases St.step_spec hs <;> simp_all

theorem published_step (s s' : St) (e : Ev) (h : s.step e = some s') :
    s'.published = (s.published || publishes [e]) ∧ (s.published = true → evWrites e = []) := by
  cases St.step_spec h with
  | write d k _ hph =>
    -- bytes are written only before the publication
    rcases hph with hph | hph <;> simp [St.published, publishes, hph]
  | openPart m hph | rename hph | link hph | abort hph | unlinkLinked hph =>
    simp +decide [St.published, publishes, evWrites, hph]
  | _ =>
    exact ⟨(Bool.or_false _).symm, fun _ => rfl⟩

theorem published_run : ∀ (t : List Ev) (s s' : St), s.run t = some s' →
    s'.published = (s.published || publishes t) ∧ (s.published = true → allWrites t = [])
  | [], s, s', h => by cases h; simp [publishes, allWrites]
  | e :: t, s, s', h => by
    obtain ⟨s1, h1, h⟩ := St.run_cons_some.1 h
    obtain ⟨a1, a2⟩ := published_step s s1 e h1
    obtain ⟨b1, b2⟩ := published_run t s1 s' h
    rw [publishes_cons, allWrites_cons]
    constructor
    · rw [b1, a1, Bool.or_assoc]
    · intro hp
      rw [a2 hp, b2 (by rw [a1, hp]; rfl)]; rfl

theorem step_keeps_dir (fs fs' : FS) (e : Ev) (he : e.keepsDir = true) (h : fs.step e = .ok fs') :
    fs'.dir = fs.dir ∧ fs'.hist = fs.hist ∧ fs'.umask = fs.umask := by
  cases e <;> simp only [Ev.keepsDir, Ev.onFile, reduceCtorEq] at he
  case noop => cases h; exact ⟨rfl, rfl, rfl⟩
  all_goals
    simp only [FS.step, FS.chmodPart, FS.write, FS.flush, FS.fsync, FS.close, FS.closeFd] at h
    split at h <;> cases h
    exact ⟨rfl, rfl, rfl⟩

theorem onFile_ok {fs : FS} {f : OpenFile} (e : Ev) (he : e.onFile = true) (ho : fs.openf = some f) :
    ∃ fs', fs.step e = .ok fs' := by
  cases e <;> simp only [Ev.onFile, reduceCtorEq] at he <;>
    simp [FS.step, FS.write, FS.flush, FS.fsync, FS.close, FS.closeFd, ho]

theorem modInode_length (l : List Inode) (i : Nat) (f : Inode → Inode) : (modInode l i f).length = l.length := by
  unfold modInode; split <;> simp

theorem modInode_get_eq (l : List Inode) (i : Nat) (f : Inode → Inode) : (modInode l i f)[i]? = l[i]?.map f := by
  unfold modInode; split <;> rename_i h
  · simp [h]
  · obtain ⟨hlt, rfl⟩ := List.getElem?_eq_some_iff.1 h
    simp [hlt]

theorem modInode_get_ne (l : List Inode) (i j : Nat) (f : Inode → Inode) (h : i ≠ j) : (modInode l i f)[j]? = l[j]? := by
  unfold modInode; split
  · rfl
  · simp [h]

theorem modInode_modes (l : List Inode) (i : Nat) (f : Inode → Inode) (hf : ∀ x, (f x).mode = x.mode) :
    (modInode l i f).map (·.mode) = l.map (·.mode) := by
  apply List.ext_getElem?
  intro j
  rw [List.getElem?_map, List.getElem?_map]
  by_cases hj : i = j
  · subst hj; rw [modInode_get_eq]; cases l[i]? <;> simp [hf]
  · rw [modInode_get_ne _ _ _ _ hj]

theorem modInode_append_last (l : List Inode) (x : Inode) (f : Inode → Inode) :
    modInode (l ++ [x]) l.length f = l ++ [f x] := by
  simp [modInode]

/-- what `GInv` says in phase `part` (`GInv.part_iff`) about the part file's inode `x`, its descriptor `o` and the
    bytes `W` written so far -/
def FileInv (n : Nat) (s : St) (o : Option OpenFile) (x : Inode) (W : Bytes) : Prop :=
  (s.unsynced = false → x.tail = []) ∧
  (if s.isOpen then ∃ buf, o = some ⟨n, buf⟩ ∧ x.durable ++ (x.tail ++ buf) = W ∧ (s.dirtyBuf = false → buf = [])
   else x.durable ++ x.tail = W ∧ s.dirtyBuf = false)

theorem GInv.part_iff {P : Option Nat → Prop} {ino0 : List Inode} {s : St} {fs : FS} {W : Bytes} (h : s.phase = .part) :
    GInv P ino0 s fs W ↔ P fs.dir.dest ∧ (∀ d ∈ fs.hist, P d.dest) ∧ fs.dir.part = some ino0.length ∧
      ∃ x, fs.inodes = ino0 ++ [x] ∧ FileInv ino0.length s fs.openf x W := by
  simp only [GInv, h]; rfl

theorem fileInv_open {n : Nat} {s : St} {buf : Bytes} {x : Inode} {W : Bytes} (h : s.isOpen = true) :
    FileInv n s (some ⟨n, buf⟩) x W ↔
      (s.unsynced = false → x.tail = []) ∧ x.durable ++ (x.tail ++ buf) = W ∧ (s.dirtyBuf = false → buf = []) := by
  simp [FileInv, h]

theorem fileInv_closed {n : Nat} {s : St} {o : Option OpenFile} {x : Inode} {W : Bytes} (h : s.isOpen = false) :
    FileInv n s o x W ↔ (s.unsynced = false → x.tail = []) ∧ x.durable ++ x.tail = W ∧ s.dirtyBuf = false := by
  simp [FileInv, h]

/-- with clean flags `FileInv` is what `GInv` says of the inode and the descriptor in the phases `linked` and `done` -/
theorem fileInv_clean (n : Nat) (s : St) (o : Option OpenFile) (x : Inode) (W : Bytes)
    (hd : s.dirtyBuf = false) (hu : s.unsynced = false) :
    FileInv n s o x W ↔ x.durable = W ∧ x.tail = [] ∧ (s.isOpen = true → o = some ⟨n, []⟩) := by
  cases hop : s.isOpen <;> simp only [FileInv, hd, hu, hop, forall_const, if_true, if_false, Bool.false_eq_true, false_implies]
  · constructor <;> rintro ⟨h1, h2⟩ <;> simp_all
  · constructor
    · rintro ⟨h1, buf, h2, h3, rfl⟩; simp_all
    · rintro ⟨h1, h2, h3⟩; simp_all

/-- the two published phases differ in the part file's name only; the inode and the descriptor still satisfy `FileInv`,
    now with clean flags (`fileInv_clean` spells that out) -/
theorem GInv.published_iff {P : Option Nat → Prop} {ino0 : List Inode} {s : St} {fs : FS} {W : Bytes}
    (h : s.published = true) :
    GInv P ino0 s fs W ↔ fs.dir.dest = some ino0.length ∧
      fs.dir.part = (if s.phase = .linked then some ino0.length else none) ∧
      (∀ d ∈ fs.hist, P d.dest ∨ d.dest = some ino0.length) ∧
      ∃ x, fs.inodes = ino0 ++ [x] ∧ FileInv ino0.length s fs.openf x W ∧ s.dirtyBuf = false ∧ s.unsynced = false := by
  cases hph : s.phase <;> simp [St.published, hph] at h <;> simp only [GInv, hph]
  all_goals
    constructor
    · rintro ⟨h1, h2, h3, x, hx, h5, h6, h7, hd, hu⟩
      exact ⟨h1, by simpa using h2, h3, x, hx, (fileInv_clean _ s _ x W hd hu).2 ⟨h5, h6, h7⟩, hd, hu⟩
    · rintro ⟨h1, h2, h3, x, hx, hfi, hd, hu⟩
      obtain ⟨h5, h6, h7⟩ := (fileInv_clean _ s _ x W hd hu).1 hfi
      exact ⟨h1, by simpa using h2, h3, x, hx, h5, h6, h7, hd, hu⟩

theorem GInv.init_closed {P : Option Nat → Prop} {ino0 : List Inode} {s : St} {fs : FS} {W : Bytes}
    (hi : GInv P ino0 s fs W) (h : s.phase = .init) : s.isOpen = false := by
  simp only [GInv, h] at hi; exact hi.2.2.2.2

theorem GInv.open_not_init {P : Option Nat → Prop} {ino0 : List Inode} {s : St} {fs : FS} {W : Bytes}
    (hi : GInv P ino0 s fs W) (ho : s.isOpen = true) : s.phase ≠ .init :=
  fun h => by simp [hi.init_closed h] at ho

theorem GInv.part_some {P : Option Nat → Prop} {ino0 : List Inode} {s : St} {fs : FS} {W : Bytes}
    (hi : GInv P ino0 s fs W) (h : s.phase = .part ∨ s.phase = .linked) : fs.dir.part = some ino0.length := by
  rcases h with h | h <;> simp only [GInv, h] at hi
  · exact hi.2.2.1
  · exact hi.2.1

theorem GInv.part_none {P : Option Nat → Prop} {ino0 : List Inode} {s : St} {fs : FS} {W : Bytes}
    (hi : GInv P ino0 s fs W) (h : s.phase = .aborted ∨ s.phase = .done) : fs.dir.part = none := by
  rcases h with h | h <;> simp only [GInv, h] at hi
  · exact hi.2.2.1
  · exact hi.2.1

theorem ginv_openf {P : Option Nat → Prop} {ino0 : List Inode} {s : St} {fs : FS} {W : Bytes}
    (hi : GInv P ino0 s fs W) (ho : s.isOpen = true) : ∃ buf, fs.openf = some ⟨ino0.length, buf⟩ := by
  cases hph : s.phase
  case init => exact absurd hph (hi.open_not_init ho)
  case part =>
    obtain ⟨_, _, _, x, _, hfi⟩ := (GInv.part_iff hph).1 hi
    simp only [FileInv, ho, if_true] at hfi
    exact ⟨_, hfi.2.choose_spec.1⟩
  case linked | done =>
    obtain ⟨_, _, _, x, _, hfi, _⟩ := (GInv.published_iff (by simp [St.published, hph])).1 hi
    simp only [FileInv, ho, if_true] at hfi
    exact ⟨_, hfi.2.choose_spec.1⟩
  case aborted =>
    simp only [GInv, hph] at hi
    obtain ⟨_, _, _, x, _, h⟩ := hi
    exact h ho

theorem ginv_inodes {P : Option Nat → Prop} {ino0 : List Inode} {s : St} {fs : FS} {W : Bytes}
    (hi : GInv P ino0 s fs W) :
    (s.phase = .init → fs.inodes = ino0) ∧ (s.phase ≠ .init → ∃ x, fs.inodes = ino0 ++ [x]) := by
  cases hph : s.phase <;> simp only [GInv, hph] at hi
  · exact ⟨fun _ => hi.1, fun h => absurd rfl h⟩
  all_goals
    obtain ⟨_, _, _, x, hx, _⟩ := hi
    exact ⟨fun h => Phase.noConfusion h, fun _ => ⟨x, hx⟩⟩

theorem ginv_old_inodes {P : Option Nat → Prop} {ino0 : List Inode} {s : St} {fs : FS} {W : Bytes}
    (hi : GInv P ino0 s fs W) : ∀ i, i < ino0.length → fs.inodes[i]? = ino0[i]? := by
  intro i hlt
  by_cases h : s.phase = .init
  · rw [(ginv_inodes hi).1 h]
  · obtain ⟨x, hx⟩ := (ginv_inodes hi).2 h
    rw [hx, List.getElem?_append_left hlt]

theorem ginv_unpublished {P : Option Nat → Prop} {ino0 : List Inode} {s : St} {fs : FS} {W : Bytes}
    (hi : GInv P ino0 s fs W) (hp : s.published = false) : P fs.dir.dest ∧ ∀ d ∈ fs.hist, P d.dest := by
  cases hph : s.phase <;> simp [St.published, hph] at hp <;> simp only [GInv, hph] at hi
  · exact ⟨hi.2.1, hi.2.2.1⟩
  · exact ⟨hi.1, hi.2.1⟩
  · exact ⟨hi.1, hi.2.1⟩

theorem ginv_published {P : Option Nat → Prop} {ino0 : List Inode} {s : St} {fs : FS} {W : Bytes}
    (hi : GInv P ino0 s fs W) (hp : s.published = true) :
    fs.dir.dest = some ino0.length ∧ (∀ d ∈ fs.hist, P d.dest ∨ d.dest = some ino0.length) ∧
    ∃ x, fs.inodes = ino0 ++ [x] ∧ x.durable = W ∧ x.tail = [] := by
  obtain ⟨h1, _, h3, x, h4, hfi, hd, hu⟩ := (GInv.published_iff hp).1 hi
  obtain ⟨h5, h6, _⟩ := (fileInv_clean _ s _ x W hd hu).1 hfi
  exact ⟨h1, h3, x, h4, h5, h6⟩

theorem ginv_published_read {P : Option Nat → Prop} {ino0 : List Inode} {s : St} {fs : FS} {W : Bytes}
    (hi : GInv P ino0 s fs W) (hp : s.published = true) :
    fs.readDest = some W ∧ ∀ i, fs.inode? fs.dir.dest = some i → i.tail = [] := by
  obtain ⟨h1, _, x, h4, h5, h6⟩ := ginv_published hi hp
  have hx : fs.inode? fs.dir.dest = some x := by simp [FS.inode?, h1, h4]
  refine ⟨by simp [FS.readDest, hx, Inode.cache, h5, h6], fun i hi' => ?_⟩
  rw [hx] at hi'
  cases hi'; exact h6

/-- the five events on the open part file.  `FileInv` is carried over outside phase `aborted`: only there is a
    `closeFd` accepted that drops a non-empty buffer (and `GInv` holds no `FileInv` there) -/
theorem onFile_step (ino0 : List Inode) (s s' : St) (fs fs' : FS) (x : Inode) (W : Bytes) (e : Ev)
    (he : e.onFile = true) (hs : St.Step s e s') (hf : fs.step e = .ok fs')
    (hx : fs.inodes = ino0 ++ [x]) (ho : ∃ buf, fs.openf = some ⟨ino0.length, buf⟩) :
    ∃ x', fs'.inodes = ino0 ++ [x'] ∧
      (s'.isOpen = true → ∃ buf, fs'.openf = some ⟨ino0.length, buf⟩) ∧
      (s.phase ≠ .aborted → FileInv ino0.length s fs.openf x W →
        FileInv ino0.length s' fs'.openf x' (W ++ evWrites e)) := by
  obtain ⟨buf, ho⟩ := ho
  rw [ho]
  cases hs <;> simp only [Ev.onFile, reduceCtorEq] at he
  case write d k hop _ =>
    simp only [FS.step, FS.write, ho, hx, modInode_append_last] at hf
    cases hf
    -- `by exact hop`: `fileInv_open` is to take its state from the goal (`s'`, whose `isOpen` reduces to `s.isOpen`),
    -- not from the type of `hop`
    refine ⟨_, rfl, fun _ => ⟨_, rfl⟩, fun _ hi => (fileInv_open (by exact hop)).2 ?_⟩
    obtain ⟨_, h2, _⟩ := (fileInv_open hop).1 hi
    -- `take k ++ drop k` of the buffer with the new data
    simp [← h2, evWrites]
  case flush hop =>
    simp only [FS.step, FS.flush, ho, hx, modInode_append_last] at hf
    cases hf
    refine ⟨_, rfl, fun _ => ⟨_, rfl⟩, fun _ hi => (fileInv_open (by exact hop)).2 ?_⟩
    obtain ⟨h1, h2, h3⟩ := (fileInv_open hop).1 hi
    -- the buffer moves to the tail, the sum stays; clean flags say both were empty
    simp +contextual [evWrites, h2]
    intro hu hd; simp [h1 hu, h3 hd]
  case fsync hop =>
    simp only [FS.step, FS.fsync, ho, hx, modInode_append_last] at hf
    cases hf
    refine ⟨_, rfl, fun _ => ⟨buf, rfl⟩, fun _ hi => (fileInv_open (by exact hop)).2 ?_⟩
    simpa [evWrites] using ((fileInv_open hop).1 hi).2
  case close hop =>
    simp only [FS.step, FS.close, ho, hx, modInode_append_last] at hf
    cases hf
    refine ⟨_, rfl, fun h => Bool.noConfusion h, fun _ hi => (fileInv_closed rfl).2 ?_⟩
    obtain ⟨h1, h2, h3⟩ := (fileInv_open hop).1 hi
    simp +contextual [evWrites, h2]
    intro hu hd; simp [h1 hu, h3 hd]
  case closeFd hop hcl =>
    simp only [FS.step, FS.closeFd, ho] at hf
    cases hf
    refine ⟨x, hx, fun h => Bool.noConfusion h, fun hna hi => (fileInv_closed rfl).2 ?_⟩
    obtain ⟨h1, h2, h3⟩ := (fileInv_open hop).1 hi
    -- outside `aborted` the buffer that `closeFd` drops is empty
    simpa [evWrites, ← h2, h3 (hcl.resolve_right hna)] using h1

/-- both publishing events: the part file's inode, complete and durable, becomes the destination's; the states
    differ in what is left of the part file's name -/
theorem ginv_publish {P : Option Nat → Prop} {ino0 : List Inode} {s : St} {fs : FS} {W : Bytes}
    (hi : GInv P ino0 s fs W) (hph : s.phase = .part) (hdb : s.dirtyBuf = false) (hus : s.unsynced = false) :
    GInv P ino0 { s with phase := .done } (fs.setDir ⟨some ino0.length, none⟩) W ∧
    GInv P ino0 { s with phase := .linked } (fs.setDir ⟨some ino0.length, some ino0.length⟩) W := by
  obtain ⟨h1, h2, _, x, h4, hfi⟩ := (GInv.part_iff hph).1 hi
  have hh : ∀ d ∈ fs.dir :: fs.hist, P d.dest ∨ d.dest = some ino0.length :=
    List.forall_mem_cons.2 ⟨Or.inl h1, fun d hd => Or.inl (h2 d hd)⟩
  -- `FileInv` does not look at the phase: `hfi` serves as it is
  exact ⟨(GInv.published_iff rfl).2 ⟨rfl, rfl, hh, x, h4, hfi, hdb, hus⟩,
    (GInv.published_iff rfl).2 ⟨rfl, rfl, hh, x, h4, hfi, hdb, hus⟩⟩

theorem ginv_step (P : Option Nat → Prop) (ino0 : List Inode) (s s' : St) (fs fs' : FS) (W : Bytes) (e : Ev)
    (hi : GInv P ino0 s fs W) (hs : s.step e = some s') (hf : fs.step e = .ok fs') :
    GInv P ino0 s' fs' (W ++ evWrites e) := by
  have hst := St.step_spec hs
  by_cases he : e.onFile = true
  · -- the directory is untouched (`step_keeps_dir`), the rest is `onFile_step`
    obtain ⟨hop, hph'⟩ := hst.onFile_open he
    obtain ⟨hd, hh, _⟩ := step_keeps_dir fs fs' e (Ev.keepsDir_of_onFile he) hf
    have key := fun x hx => onFile_step ino0 s s' fs fs' x W e he hst hf hx (ginv_openf hi hop)
    cases hph : s.phase <;> rw [hph] at hph'
    case init => exact absurd hph (hi.open_not_init hop)
    case part =>
      obtain ⟨h1, h2, h3, x, hx, hfi⟩ := (GInv.part_iff hph).1 hi
      obtain ⟨x', hx', _, hfi'⟩ := key x hx
      rw [GInv.part_iff hph', hd, hh]
      exact ⟨h1, h2, h3, x', hx', hfi' (by simp [hph]) hfi⟩
    case linked | done =>
      have hp : s.published = true := by simp [St.published, hph]
      obtain ⟨h1, h2, h3, x, hx, hfi, hdb, hus⟩ := (GInv.published_iff hp).1 hi
      obtain ⟨x', hx', _, hfi'⟩ := key x hx
      obtain ⟨hdb', hus'⟩ := hst.published_clean hp hdb hus
      rw [hph] at h2
      rw [GInv.published_iff (by simp [St.published, hph']), hd, hh, hph']
      exact ⟨h1, h2, h3, x', hx', hfi' (by simp [hph]) hfi, hdb', hus'⟩
    case aborted =>
      simp only [GInv, hph, hph'] at hi ⊢
      obtain ⟨h1, h2, h3, x, hx, _⟩ := hi
      obtain ⟨x', hx', hsh, _⟩ := key x hx
      rw [hd, hh]
      exact ⟨h1, h2, h3, x', hx', hsh⟩
  · cases hst <;> simp only [Ev.onFile, not_true_eq_false] at he
    case noop => cases hf; simpa [evWrites] using hi
    case openPart m hph =>
      simp only [GInv, hph] at hi
      obtain ⟨rfl, h2, h3, rfl, _⟩ := hi
      simp only [FS.step, FS.openPart] at hf
      split at hf
      · cases hf
      · cases hf
        refine (GInv.part_iff rfl).2 ⟨h2, List.forall_mem_cons.2 ⟨h2, h3⟩, rfl, _, rfl, ?_⟩
        exact (fileInv_open rfl).2 ⟨fun _ => rfl, rfl, fun _ => rfl⟩
    case chmodPart m hph =>
      obtain ⟨h1, h2, h3, x, h4, h5⟩ := (GInv.part_iff hph).1 hi
      simp only [FS.step, FS.chmodPart, h3, h4, modInode_append_last] at hf
      cases hf
      exact (GInv.part_iff hph).2 ⟨h1, h2, h3, _, rfl, by simpa [evWrites, FileInv] using h5⟩
    case rename hph hdb hus =>
      simp only [FS.step, FS.renamePartDest, hi.part_some (Or.inl hph)] at hf
      cases hf
      simpa [evWrites] using (ginv_publish hi hph hdb hus).1
    case link hph hdb hus =>
      simp only [FS.step, FS.linkPartDest, hi.part_some (Or.inl hph)] at hf
      split at hf <;> cases hf
      simpa [evWrites] using (ginv_publish hi hph hdb hus).2
    case unlinkStale hph =>
      simp only [GInv, hph] at hi ⊢
      obtain ⟨h1, h2, h3, rfl, h5⟩ := hi
      simp only [FS.step, FS.unlinkPart] at hf
      split at hf
      · cases hf
      · cases hf
        exact ⟨h1, h2, List.forall_mem_cons.2 ⟨h2, h3⟩, rfl, h5⟩
    case abort hph =>
      obtain ⟨h1, h2, h3, x, h4, _⟩ := (GInv.part_iff hph).1 hi
      simp only [FS.step, FS.unlinkPart, h3] at hf
      cases hf
      simp only [GInv]
      -- the descriptor is not touched
      exact ⟨h1, List.forall_mem_cons.2 ⟨h1, h2⟩, rfl, x, h4, (ginv_openf hi :)⟩
    case unlinkLinked hph =>
      obtain ⟨h1, _, h3, x, h4, h5⟩ := (GInv.published_iff (by simp [St.published, hph])).1 hi
      simp only [FS.step, FS.unlinkPart, hi.part_some (Or.inr hph)] at hf
      cases hf
      simp only [evWrites, List.append_nil]
      exact (GInv.published_iff rfl).2 ⟨h1, rfl, List.forall_mem_cons.2 ⟨Or.inr h1, h3⟩, x, h4, h5⟩

theorem inv_step (fs0 : FS) (s s' : St) (fs fs' : FS) (W : Bytes) (e : Ev)
    (hi : Inv fs0 s fs W) (hs : s.step e = some s') (hf : fs.step e = .ok fs') :
    Inv fs0 s' fs' (W ++ evWrites e) := ginv_step _ _ s s' fs fs' W e hi hs hf

theorem ginv_run (P : Option Nat → Prop) (ino0 : List Inode) : ∀ (t : List Ev) (s s' : St) (fs fs' : FS) (W : Bytes),
    GInv P ino0 s fs W → s.run t = some s' → exec fs t = some fs' → GInv P ino0 s' fs' (W ++ allWrites t)
  | [], s, s', fs, fs', W, hi, hs, hf => by
    cases hs; cases hf; simpa [allWrites] using hi
  | e :: t, s, s', fs, fs', W, hi, hs, hf => by
    obtain ⟨s1, h1, hs⟩ := St.run_cons_some.1 hs
    obtain ⟨fs1, h2, hf⟩ := exec_cons_some.1 hf
    simpa [allWrites_cons] using ginv_run P ino0 t s1 s' fs1 fs' _ (ginv_step P ino0 s s1 fs fs1 W e hi h1 h2) hs hf

theorem inv_init (fs0 : FS) (hh : fs0.hist = []) : Inv fs0 St.init fs0 [] := by
  simp [GInv, St.init, hh]

/-- outside `init` the invariant alone makes an event the automaton accepts go through, except a `link` onto a
    destination that exists.  (In `init` it cannot: whether a stale part file exists is not in the invariant.) -/
theorem GInv.progress {P : Option Nat → Prop} {ino0 : List Inode} {s s' : St} {fs : FS} {W : Bytes} {e : Ev}
    (hi : GInv P ino0 s fs W) (hs : s.step e = some s') (hph : s.phase ≠ .init)
    (hl : e = .linkPartDest → fs.dir.dest = none) : ∃ fs', fs.step e = .ok fs' := by
  cases St.step_spec hs with
  | noop => exact ⟨fs, rfl⟩
  | openPart _ h | unlinkStale h => exact absurd h hph
  | chmodPart m h => simp [FS.step, FS.chmodPart, hi.part_some (Or.inl h)]
  | write _ _ hop | flush hop | fsync hop | close hop | closeFd hop =>
    obtain ⟨buf, ho⟩ := ginv_openf hi hop
    exact onFile_ok _ rfl ho
  | rename h => simp [FS.step, FS.renamePartDest, hi.part_some (Or.inl h)]
  | link h => simp [FS.step, FS.linkPartDest, hi.part_some (Or.inl h), hl rfl]
  | abort h => simp [FS.step, FS.unlinkPart, hi.part_some (Or.inl h)]
  | unlinkLinked h => simp [FS.step, FS.unlinkPart, hi.part_some (Or.inr h)]

theorem progress (fs0 : FS) (s s' : St) (fs : FS) (W : Bytes) (e : Ev)
    (hi : Inv fs0 s fs W) (hs : s.step e = some s') (hph : s.phase ≠ .init) (he : e.auto fs0.dir.dest = true) :
    ∃ fs', fs.step e = .ok fs' := by
  refine hi.progress hs hph fun hl => ?_
  subst hl
  -- `link` is accepted before the publication only: the destination is still as at the start, absent by `Ev.auto`
  cases St.step_spec hs with
  | link h =>
    rw [(ginv_unpublished hi (by simp [St.published, h])).1]
    simpa [Ev.auto] using he

theorem progress_run (fs0 : FS) : ∀ (t : List Ev) (s s' : St) (fs : FS) (W : Bytes),
    Inv fs0 s fs W → s.run t = some s' → s.phase ≠ .init → (∀ e ∈ t, e.auto fs0.dir.dest = true) →
    ∃ fs', exec fs t = some fs' ∧ Inv fs0 s' fs' (W ++ allWrites t)
  | [], s, s', fs, W, hi, hs, _, _ => by
    cases hs; exact ⟨fs, rfl, by simpa [allWrites] using hi⟩
  | e :: t, s, s', fs, W, hi, hs, hph, hall => by
    obtain ⟨s1, h1, hs⟩ := St.run_cons_some.1 hs
    obtain ⟨fs1, h2⟩ := progress fs0 s s1 fs W e hi h1 hph (hall e (by simp))
    obtain ⟨fs', h3, h4⟩ := progress_run fs0 t s1 s' fs1 _ (inv_step fs0 s s1 fs fs1 W e hi h1 h2) hs
      (step_not_init s s1 e h1 hph) (fun e' he' => hall e' (by simp [he']))
    exact ⟨fs', exec_cons_some.2 ⟨fs1, h2, h3⟩, by simpa [allWrites_cons] using h4⟩

theorem inode?_old (fs0 fs : FS) (hwf : fs0.WF)
    (hold : ∀ i, i < fs0.inodes.length → fs.inodes[i]? = fs0.inodes[i]?) :
    fs.inode? fs0.dir.dest = fs0.inode? fs0.dir.dest := by
  unfold FS.inode?
  cases hd : fs0.dir.dest with
  | none => rfl
  | some i => exact hold i (hwf.1 i hd)

/-- `DestSynced` in the spelling in which `ginv_published_read` (and `normal_exit`) deliver it for the state after a save -/
theorem destSynced_iff (fs : FS) : DestSynced fs ↔ ∀ x, fs.inode? fs.dir.dest = some x → x.tail = [] := by
  unfold DestSynced FS.inode?
  cases fs.dir.dest with
  | none => simp
  | some i => exact ⟨fun h x => h i x rfl, fun h j x hj => Option.some.inj hj ▸ h x⟩

theorem power_synced (fs0 : FS) (hsy : DestSynced fs0) (k : Nat) :
    (fs0.inode? fs0.dir.dest).map (·.afterPower k) = fs0.readDest := by
  unfold FS.readDest
  cases hx : fs0.inode? fs0.dir.dest with
  | none => rfl
  | some x => simp [Inode.afterPower, Inode.cache, (destSynced_iff fs0).1 hsy x hx]

/-- a process death loses the user-space buffer only, which a reader of the destination never sees -/
theorem destAfterProcCrash_eq_readDest (fs : FS) : fs.destAfterProcCrash = fs.readDest := rfl

theorem inv_unpublished_read (fs0 fs : FS) (s : St) (W : Bytes) (hwf : fs0.WF) (hi : Inv fs0 s fs W)
    (hp : s.published = false) : fs.readDest = fs0.readDest := by
  unfold FS.readDest
  rw [(ginv_unpublished hi hp).1, inode?_old fs0 fs hwf (ginv_old_inodes hi)]

/-- **Power loss.**  Every directory it can bring back (`dir :: hist`) has the destination's old entry or,
    once published, the new inode; the old inodes are unchanged and were synced at the start, the new one
    is durable in full, so no prefix of a tail matters. -/
theorem inv_power (fs0 fs : FS) (s : St) (W : Bytes) (hwf : fs0.WF) (hsy : DestSynced fs0) (hi : Inv fs0 s fs W) :
    ∀ r, fs.PowerDest r → r = fs0.readDest ∨ (s.published = true ∧ r = some W) := by
  rintro r ⟨d, hdm, k, rfl⟩
  have hold : d.dest = fs0.dir.dest → (fs.inode? d.dest).map (·.afterPower k) = fs0.readDest := fun h => by
    rw [h, inode?_old fs0 fs hwf (ginv_old_inodes hi), power_synced fs0 hsy]
  cases hp : s.published with
  | false =>
    obtain ⟨hd, hh⟩ := ginv_unpublished hi hp
    exact Or.inl (hold ((List.mem_cons.1 hdm).elim (· ▸ hd) (hh d)))
  | true =>
    obtain ⟨h1, h3, x, h4, h5, h6⟩ := ginv_published hi hp
    rcases (List.mem_cons.1 hdm).elim (fun h => Or.inr (h ▸ h1)) (h3 d) with hdd | hdd
    · exact Or.inl (hold hdd)
    · exact Or.inr ⟨rfl, by simp [hdd, FS.inode?, h4, Inode.afterPower, h5, h6]⟩

/-- what the theorems about every executed prefix `p` of an accepted trace (`safeTrace_crash_safe`,
    `safeTrace_live_view`, `link_window`) start from: the automaton's state after `p`, the invariant there, whether
    the publication has happened, and that it ends the writes -/
theorem inv_at_prefix (fs0 : FS) (p q : List Ev) (fs : FS) (hh : fs0.hist = []) (hsafe : SafeTrace (p ++ q) = true)
    (hx : exec fs0 p = some fs) :
    ∃ s, St.init.run p = some s ∧ Inv fs0 s fs (allWrites p) ∧ s.published = publishes p ∧
      (publishes p = true → allWrites (p ++ q) = allWrites p) := by
  obtain ⟨s2, h2⟩ := Option.isSome_iff_exists.1 hsafe
  obtain ⟨s, hp, hq⟩ := run_prefix_some _ p q s2 h2
  have hi := ginv_run _ _ p St.init s fs0 fs [] (inv_init fs0 hh) hp hx
  have hpub : s.published = publishes p := by
    rw [(published_run p St.init s hp).1]; rfl
  refine ⟨s, hp, by simpa using hi, hpub, fun hb => ?_⟩
  -- once published, nothing more is written (`published_run`)
  rw [allWrites_append, (published_run q s s2 hq).2 (hpub.trans hb), List.append_nil]

/-! ### the transliterated saver: every variant of its trace is `saverPre ++ ([openPart] ++ (opened ++ ending))`

`run_X`: the automaton over the piece `X` followed by any `t`, as a run over `t` from the state after `X`;
`X_run`: the state in which the complete piece `X` ends. -/

def saverPre (cfg : Cfg) (fs : FS) : List Ev :=
  if cfg.overwritePart && fs.dir.part.isSome then [Ev.unlinkPart] else []

/-- `fdopen` (no effect), the `chmod` if any, the body's writes -/
def opened (cfg : Cfg) (fs : FS) (writes : List (Bytes × Nat)) : List Ev :=
  Ev.noop :: ((if (choosePerms cfg fs).2 then [Ev.chmodPart (choosePerms cfg fs).1] else []) ++
    writes.map (fun w => Ev.write w.1 w.2))

/-- `opened`, what `__exit__` always does (`flush`, `fsync`, `close`), then `tail`: the POSIX or the Windows ending -/
def syncedThen (cfg : Cfg) (fs : FS) (writes : List (Bytes × Nat)) (tail : List Ev) : List Ev :=
  opened cfg fs writes ++ ([Ev.flush, Ev.fsync, Ev.close] ++ tail)

theorem run_created (cfg : Cfg) (fs : FS) (m : Nat) (t : List Ev) :
    St.init.run (saverPre cfg fs ++ ([Ev.openPart true true m] ++ t)) = (St.mk .part true false false).run t := by
  unfold saverPre; split <;> simp [St.run, St.step, St.init]

theorem run_writes (ws : List (Bytes × Nat)) (db us : Bool) (t : List Ev) :
    (St.mk .part true db us).run (ws.map (fun w => Ev.write w.1 w.2) ++ t) =
      (St.mk .part true (db || !ws.isEmpty) (us || !ws.isEmpty)).run t := by
  induction ws generalizing db us with
  | nil => simp
  | cons w ws ih => simpa [St.run, St.step] using ih true true

theorem run_opened (cfg : Cfg) (fs : FS) (ws : List (Bytes × Nat)) (t : List Ev) :
    (St.mk .part true false false).run (opened cfg fs ws ++ t) =
      (St.mk .part true (!ws.isEmpty) (!ws.isEmpty)).run t := by
  unfold opened
  split <;> simpa [St.run, St.step] using run_writes ws false false t

theorem run_syncedThen (cfg : Cfg) (fs : FS) (ws : List (Bytes × Nat)) (tail : List Ev) :
    (St.mk .part true false false).run (syncedThen cfg fs ws tail) = (St.mk .part false false false).run tail := by
  rw [syncedThen, run_opened]; simp [St.run, St.step]

theorem allWrites_writes (ws : List (Bytes × Nat)) :
    allWrites (ws.map fun w => Ev.write w.1 w.2) = (ws.map (·.1)).flatten := by
  induction ws with
  | nil => rfl
  | cons w ws ih => simp [allWrites, ih]

theorem publishes_writes (ws : List (Bytes × Nat)) : publishes (ws.map fun w => Ev.write w.1 w.2) = false := by
  induction ws with
  | nil => rfl
  | cons w ws ih => simpa [publishes] using ih

theorem allWrites_opened (cfg : Cfg) (fs : FS) (ws : List (Bytes × Nat)) :
    allWrites (opened cfg fs ws) = (ws.map (·.1)).flatten := by
  unfold opened
  split <;> simp [allWrites, allWrites_writes]

theorem allWrites_syncedThen (cfg : Cfg) (fs : FS) (ws : List (Bytes × Nat)) (tail : List Ev)
    (h : allWrites tail = []) : allWrites (syncedThen cfg fs ws tail) = (ws.map (·.1)).flatten := by
  simp [syncedThen, allWrites_append, allWrites_opened, allWrites, h]

theorem allWrites_created (cfg : Cfg) (fs : FS) (m : Nat) (t : List Ev) :
    allWrites (saverPre cfg fs ++ ([Ev.openPart true true m] ++ t)) = allWrites t := by
  have : allWrites (saverPre cfg fs) = [] := by unfold saverPre; split <;> rfl
  simp [allWrites_append, allWrites, this]

theorem opened_auto (cfg : Cfg) (fs : FS) (ws : List (Bytes × Nat)) (d : Option Nat) :
    ∀ e ∈ opened cfg fs ws, e.auto d = true := by
  refine List.forall_mem_cons.2 ⟨rfl, List.forall_mem_append.2 ⟨?_, ?_⟩⟩
  · split <;> exact List.all_eq_true.1 rfl
  · intro e he
    obtain ⟨w, _, rfl⟩ := List.mem_map.1 he
    rfl

theorem syncedThen_auto (cfg : Cfg) (fs : FS) (ws : List (Bytes × Nat)) (tail : List Ev) (d : Option Nat)
    (h : ∀ e ∈ tail, e.auto d = true) : ∀ e ∈ syncedThen cfg fs ws tail, e.auto d = true :=
  List.forall_mem_append.2 ⟨opened_auto cfg fs ws d, List.forall_mem_append.2 ⟨List.all_eq_true.1 rfl, h⟩⟩

theorem open_then_exec (cfg : Cfg) (fs : FS) (m : Nat) (rest : List Ev) (sfin : St) (hh : fs.hist = [])
    (hp : fs.dir.part = none ∨ cfg.overwritePart = true)
    (hrun : (St.mk .part true false false).run rest = some sfin)
    (hauto : ∀ e ∈ rest, e.auto fs.dir.dest = true) :
    ∃ fs', exec fs (saverPre cfg fs ++ ([Ev.openPart true true m] ++ rest)) = some fs' ∧
      Inv fs sfin fs' (allWrites rest) := by
  obtain ⟨fs1, hx1, hi1, hp1⟩ : ∃ fs1, exec fs (saverPre cfg fs) = some fs1 ∧ Inv fs St.init fs1 [] ∧ fs1.dir.part = none := by
    unfold saverPre
    cases hpp : fs.dir.part with
    | none => exact ⟨fs, by simp [exec], inv_init fs hh, hpp⟩
    | some i =>
      have ho : cfg.overwritePart = true := by
        rcases hp with h | h
        · simp [hpp] at h
        · exact h
      have hs : fs.step .unlinkPart = .ok (fs.setDir { fs.dir with part := none }) := by
        simp [FS.step, FS.unlinkPart, hpp]
      refine ⟨fs.setDir { fs.dir with part := none }, by simp [ho, exec, hs], ?_, by simp [FS.setDir]⟩
      have := inv_step fs St.init St.init fs _ [] .unlinkPart (inv_init fs hh) (by simp [St.step, St.init]) hs
      simpa [evWrites] using this
  have hs2 : ∃ fs2, fs1.step (.openPart true true m) = .ok fs2 := by
    simp [FS.step, FS.openPart, hp1]
  obtain ⟨fs2, hs2⟩ := hs2
  have hi2 := inv_step fs St.init ⟨.part, true, false, false⟩ fs1 fs2 [] _ hi1 (by simp [St.step, St.init]) hs2
  simp only [evWrites, List.append_nil] at hi2
  obtain ⟨fs', hx3, hi3⟩ := progress_run fs rest _ _ fs2 [] hi2 hrun (by simp) hauto
  refine ⟨fs', ?_, by simpa using hi3⟩
  rw [exec_append, hx1]
  simp [exec, hs2, hx3]

theorem syncedThen_exec (cfg : Cfg) (fs : FS) (m : Nat) (ws : List (Bytes × Nat)) (tail : List Ev) (sfin : St) (hh : fs.hist = [])
    (hp : fs.dir.part = none ∨ cfg.overwritePart = true)
    (hrun : (St.mk .part false false false).run tail = some sfin)
    (hauto : ∀ e ∈ tail, e.auto fs.dir.dest = true) (hw : allWrites tail = []) :
    ∃ fs', exec fs (saverPre cfg fs ++ ([Ev.openPart true true m] ++ syncedThen cfg fs ws tail)) =
        some fs' ∧ Inv fs sfin fs' (ws.map (·.1)).flatten := by
  rw [← allWrites_syncedThen cfg fs ws tail hw]
  exact open_then_exec cfg fs m _ _ hh hp ((run_syncedThen cfg fs ws tail).trans hrun) (syncedThen_auto cfg fs ws tail _ hauto)

def exitEvents (cfg : Cfg) (body : Body) : List Ev :=
  if body.raises then (if cfg.rmPartOnExc then [Ev.unlinkPart] else [])
  else if cfg.overwrite then [Ev.renamePartDest] else [Ev.linkPartDest, Ev.unlinkPart]

def saverFinal (cfg : Cfg) (body : Body) : St :=
  ⟨if body.raises then (if cfg.rmPartOnExc then .aborted else .part) else .done, false, false, false⟩

theorem saverTrace_split (cfg : Cfg) (fs : FS) (body : Body) :
    saverTrace cfg fs body = saverPre cfg fs ++ ([Ev.openPart true true (choosePerms cfg fs).1] ++
      syncedThen cfg fs body.writes (exitEvents cfg body)) := by
  simp [saverTrace, saverPre, syncedThen, opened, exitEvents, List.append_assoc]

theorem exitEvents_run (cfg : Cfg) (body : Body) :
    (St.mk .part false false false).run (exitEvents cfg body) = some (saverFinal cfg body) := by
  cases hr : body.raises <;> cases hm : cfg.rmPartOnExc <;> cases ho : cfg.overwrite <;>
    simp [exitEvents, St.run, St.step, saverFinal, hr, hm, ho]

theorem allWrites_exitEvents (cfg : Cfg) (body : Body) : allWrites (exitEvents cfg body) = [] := by
  simp [exitEvents, apply_ite allWrites, allWrites]

/-- `link` needs the destination to be absent -/
theorem exitEvents_auto (cfg : Cfg) (body : Body) (d : Option Nat)
    (hd : cfg.overwrite = true ∨ d = none ∨ body.raises = true) : ∀ e ∈ exitEvents cfg body, e.auto d = true := by
  unfold exitEvents
  split
  · split <;> exact List.all_eq_true.1 rfl
  · split
    · exact List.all_eq_true.1 rfl
    · obtain rfl : d = none := (hd.resolve_left ‹_›).resolve_right ‹_›
      exact List.all_eq_true.1 rfl

theorem saver_run (cfg : Cfg) (fs : FS) (body : Body) :
    St.init.run (saverTrace cfg fs body) = some (saverFinal cfg body) := by
  rw [saverTrace_split, run_created, run_syncedThen, exitEvents_run]

theorem allWrites_saverTrace (cfg : Cfg) (fs : FS) (body : Body) :
    allWrites (saverTrace cfg fs body) = (body.writes.map (·.1)).flatten := by
  rw [saverTrace_split, allWrites_created, allWrites_syncedThen _ _ _ _ (allWrites_exitEvents cfg body)]

theorem saver_exec (cfg : Cfg) (fs : FS) (body : Body) (hh : fs.hist = [])
    (hp : fs.dir.part = none ∨ cfg.overwritePart = true)
    (hd : cfg.overwrite = true ∨ fs.dir.dest = none ∨ body.raises = true) :
    ∃ fs', exec fs (saverTrace cfg fs body) = some fs' ∧
      Inv fs (saverFinal cfg body) fs' (body.writes.map (·.1)).flatten := by
  rw [saverTrace_split]
  exact syncedThen_exec cfg fs _ _ _ _ hh hp (exitEvents_run cfg body) (exitEvents_auto cfg body _ hd)
    (allWrites_exitEvents cfg body)

end C04
