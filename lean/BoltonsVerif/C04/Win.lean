import BoltonsVerif.C04.Proofs
import BoltonsVerif.C04.View
/-
C04 — the WINDOWS branch of `replace()` / `atomic_rename()` (`if os.name == 'nt':`).

    def replace(src, dst):
        try:
            os.rename(src, dst); return           # Windows: refuses to replace an existing dst (EEXIST)
        except OSError as we:
            if we.errno == errno.EEXIST: pass     # continue with ReplaceFile
            else: raise
        res = _ReplaceFile(dst, src, None, 0, None, None)     # needs an existing dst
        if not res: raise OSError(...)

    def atomic_rename(src, dst, overwrite=False):
        if overwrite: replace(src, dst)
        else: os.rename(src, dst)

Kernel model: Windows `os.rename` = `rename part dest` that fails with `EEXIST` when the destination
exists; `ReplaceFile` = the same directory step, failing when the destination does NOT exist
(assumption: each is one atomic directory operation, as for POSIX `rename`).  The decision logic is
transliterated with the list of events it performs (a failed call has no effect: `noop`).
-/
namespace C04

def FS.winRename (fs : FS) : Except Errno FS :=
  match fs.dir.dest with
  | some _ => .error EEXIST
  | none => fs.renamePartDest

def FS.replaceFile (fs : FS) : Except Errno FS :=
  match fs.dir.dest with
  | none => .error ENOENT
  | some _ => fs.renamePartDest

/-- nt `replace(part, dest)`: the outcome (new state, or the errno raised) and the events performed -/
def ntReplace (fs : FS) : Except Errno FS × List Ev :=
  match fs.winRename with
  | .ok fs' => (.ok fs', [.renamePartDest])
  | .error e =>
    if e = EEXIST then
      match fs.replaceFile with
      | .ok fs' => (.ok fs', [.noop, .renamePartDest])
      | .error e' => (.error e', [.noop, .noop])
    else (.error e, [.noop])

/-- nt `atomic_rename(part, dest, overwrite)` -/
def ntAtomicRename (overwrite : Bool) (fs : FS) : Except Errno FS × List Ev :=
  if overwrite then ntReplace fs
  else match fs.winRename with
    | .ok fs' => (.ok fs', [.renamePartDest])
    | .error _ => (fs.winRename, [.noop])

/-- the events of the publication step of a save on Windows, as a function of what is known when it
    starts: `overwrite`, and whether a destination exists -/
def ntPublish (overwrite destPresent : Bool) : List Ev :=
  if destPresent then (if overwrite then [.noop, .renamePartDest] else [.noop])
  else [.renamePartDest]

theorem ntAtomicRename_events (ow : Bool) (fs : FS) (hp : fs.hasPart = true) :
    (ntAtomicRename ow fs).2 = ntPublish ow fs.hasDest := by
  obtain ⟨i, hpp⟩ := Option.isSome_iff_exists.1 hp
  cases hd : fs.dir.dest <;> cases ow <;>
    simp [ntAtomicRename, ntReplace, FS.winRename, FS.replaceFile, FS.renamePartDest, ntPublish, FS.hasDest, hd, hpp, EEXIST]

/-- the events of a whole save on Windows (no call fails except the first `os.rename` of `replace()`
    over an existing destination, which is how that function works); with `overwrite=False` and a
    destination present (`fs.hasDest`: at the start, and nothing before the publication touches the entry)
    the rename fails, the part file is cleaned up -/
def saverTraceNt (cfg : Cfg) (fs : FS) (body : Body) : List Ev :=
  saverPre cfg fs ++ ([Ev.openPart true true (choosePerms cfg fs).1] ++ (Ev.noop ::
  ((if (choosePerms cfg fs).2 then [Ev.chmodPart (choosePerms cfg fs).1] else []) ++
  (body.writes.map (fun w => Ev.write w.1 w.2) ++
  ([Ev.flush, Ev.fsync, Ev.close] ++
  (if body.raises then (if cfg.rmPartOnExc then [Ev.unlinkPart] else [])
   else ntPublish cfg.overwrite fs.hasDest ++
     (if fs.hasDest && !cfg.overwrite && cfg.rmPartOnExc then [Ev.unlinkPart] else [])))))))

def ntExitEvents (cfg : Cfg) (fs : FS) (body : Body) : List Ev :=
  if body.raises then (if cfg.rmPartOnExc then [Ev.unlinkPart] else [])
  else ntPublish cfg.overwrite fs.hasDest ++
    (if fs.hasDest && !cfg.overwrite && cfg.rmPartOnExc then [Ev.unlinkPart] else [])

theorem saverTraceNt_split (cfg : Cfg) (fs : FS) (body : Body) :
    saverTraceNt cfg fs body = saverPre cfg fs ++ ([Ev.openPart true true (choosePerms cfg fs).1] ++
      syncedThen cfg fs body.writes (ntExitEvents cfg fs body)) := by
  simp [saverTraceNt, syncedThen, opened, ntExitEvents, List.append_assoc]

theorem allWrites_saverTraceNt (cfg : Cfg) (fs : FS) (body : Body) :
    allWrites (saverTraceNt cfg fs body) = (body.writes.map (·.1)).flatten := by
  rw [saverTraceNt_split, allWrites_created, allWrites_syncedThen]
  simp [ntExitEvents, ntPublish, apply_ite allWrites, allWrites_append, allWrites]

theorem saverNt_exec (cfg : Cfg) (fs : FS) (body : Body) (hh : fs.hist = [])
    (hp : fs.dir.part = none ∨ cfg.overwritePart = true)
    (hd : cfg.overwrite = true ∨ fs.dir.dest = none) (hr : body.raises = false) :
    ∃ fs', exec fs (saverTraceNt cfg fs body) = some fs' ∧
      Inv fs ⟨.done, false, false, false⟩ fs' (body.writes.map (·.1)).flatten := by
  have hexit : ntExitEvents cfg fs body = ntPublish cfg.overwrite fs.hasDest := by
    rcases hd with h | h <;> simp [ntExitEvents, hr, FS.hasDest, h]
  have hrun : (St.mk .part false false false).run (ntPublish cfg.overwrite fs.hasDest) =
      some ⟨.done, false, false, false⟩ := by
    rcases hd with h | h
    · cases fs.hasDest <;> simp [ntPublish, h, St.run, St.step]
    · simp [ntPublish, FS.hasDest, h, St.run, St.step]
  have hauto : ∀ e ∈ ntPublish cfg.overwrite fs.hasDest, e.auto fs.dir.dest = true := by
    cases cfg.overwrite <;> cases fs.hasDest <;> exact List.all_eq_true.1 rfl
  have hw : allWrites (ntPublish cfg.overwrite fs.hasDest) = [] := by
    cases cfg.overwrite <;> cases fs.hasDest <;> rfl
  rw [saverTraceNt_split, hexit]
  exact syncedThen_exec cfg fs _ _ _ _ hh hp hrun hauto hw

end C04
