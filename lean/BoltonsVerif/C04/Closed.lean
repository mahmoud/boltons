import BoltonsVerif.C04.Proofs
/-
C04 — a with-body that closes the part file itself (`fo.close()`, `with fo:`, a wrapper such as
`io.TextIOWrapper(fo)` that closes the underlying stream) before the block ends.

`AtomicSaver.__exit__` then calls `flush()` on the closed file object, which raises `ValueError`
(no effect on the file system: `noop`); `fsync` is not reached; the `close()` in the `finally`
finds the file closed (`noop`); the `except Exception` branch removes the part file (when
`rm_part_on_exc`) and the `ValueError` is raised (or, when the block itself raised, the block's
exception propagates).  Nothing is published: what the body wrote was never synced by the saver.
-/
namespace C04

def closedRest (cfg : Cfg) (fs : FS) (writes : List (Bytes × Nat)) : List Ev :=
  Ev.noop ::
  ((if (choosePerms cfg fs).2 then [Ev.chmodPart (choosePerms cfg fs).1] else []) ++
  (writes.map (fun w => Ev.write w.1 w.2) ++
  ([Ev.close, Ev.noop, Ev.noop] ++ (if cfg.rmPartOnExc then [Ev.unlinkPart] else []))))

/-- the events of a save whose body closes the part file after its writes (raising or not) -/
def saverTraceClosed (cfg : Cfg) (fs : FS) (writes : List (Bytes × Nat)) : List Ev :=
  saverPre cfg fs ++ ([Ev.openPart true true (choosePerms cfg fs).1] ++ closedRest cfg fs writes)

def closedPhase (cfg : Cfg) : Phase := if cfg.rmPartOnExc then .aborted else .part

theorem closedRest_split (cfg : Cfg) (fs : FS) (writes : List (Bytes × Nat)) :
    closedRest cfg fs writes =
      opened cfg fs writes ++ ([Ev.close, Ev.noop, Ev.noop] ++ (if cfg.rmPartOnExc then [Ev.unlinkPart] else [])) := by
  simp [closedRest, opened, List.append_assoc]

/-- nothing syncs what the body's `close` flushed: `unsynced` stays set -/
theorem closedRest_run (cfg : Cfg) (fs : FS) (writes : List (Bytes × Nat)) :
    (St.mk .part true false false).run (closedRest cfg fs writes) =
      some ⟨closedPhase cfg, false, false, !writes.isEmpty⟩ := by
  rw [closedRest_split, run_opened]
  cases hm : cfg.rmPartOnExc <;> simp [St.run, St.step, closedPhase, hm]

theorem closed_safe (cfg : Cfg) (fs : FS) (writes : List (Bytes × Nat)) :
    SafeTrace (saverTraceClosed cfg fs writes) = true := by
  rw [SafeTrace, saverTraceClosed, run_created, closedRest_run]; rfl

theorem closedRest_auto (cfg : Cfg) (fs : FS) (writes : List (Bytes × Nat)) :
    ∀ e ∈ closedRest cfg fs writes, e.auto fs.dir.dest = true := by
  rw [closedRest_split]
  refine List.forall_mem_append.2 ⟨opened_auto cfg fs writes _, ?_⟩
  cases cfg.rmPartOnExc <;> exact List.all_eq_true.1 rfl

theorem closed_never_publishes (cfg : Cfg) (fs : FS) (writes : List (Bytes × Nat)) :
    publishes (saverTraceClosed cfg fs writes) = false := by
  simp [saverTraceClosed, closedRest, saverPre, publishes_append, apply_ite publishes, publishes, publishes_writes]

end C04
