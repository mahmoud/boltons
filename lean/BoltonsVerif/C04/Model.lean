/-
C04 / C05 — abstract file system shared by both properties, the crash semantics,
the decidable acceptance predicate `SafeTrace`, and the straight-line event
trace of the transliterated `AtomicSaver` (`saverTrace`).

Only two names of the destination's directory matter: `dest` and `part`.
A directory maps each of them to an inode number; inodes carry what is on
stable storage (`durable`), what the kernel holds but has not synced (`tail`;
readers see `durable ++ tail`), and the permission bits.  The process has at
most one open file (the part file) with a user-space buffer.
-/
namespace C04

abbrev Bytes := List Nat
abbrev Errno := Nat
def ENOENT : Errno := 2
def EEXIST : Errno := 17
def EBADF : Errno := 9

structure Inode where
  durable : Bytes
  tail : Bytes
  mode : Nat
deriving DecidableEq, Repr

/-- what a reader of the inode sees (page cache) -/
def Inode.cache (i : Inode) : Bytes := i.durable ++ i.tail

structure Dir where
  dest : Option Nat
  part : Option Nat
deriving DecidableEq, Repr

structure OpenFile where
  ino : Nat
  buf : Bytes
deriving DecidableEq, Repr

structure FS where
  inodes : List Inode
  dir : Dir
  /-- every earlier state of the directory (newest first): after a power loss the directory is
      the result of some prefix of the directory operations performed so far -/
  hist : List Dir
  openf : Option OpenFile
  umask : Nat
deriving DecidableEq, Repr

def FS.WF (fs : FS) : Prop :=
  (∀ i, fs.dir.dest = some i → i < fs.inodes.length) ∧
  (∀ i, fs.dir.part = some i → i < fs.inodes.length)

def FS.wfb (fs : FS) : Bool :=
  fs.dir.dest.all (fun i => decide (i < fs.inodes.length)) && fs.dir.part.all (fun i => decide (i < fs.inodes.length))

theorem FS.wfb_iff (fs : FS) : fs.wfb = true ↔ fs.WF := by
  unfold FS.wfb FS.WF
  cases fs.dir.dest <;> cases fs.dir.part <;> simp

instance (fs : FS) : Decidable fs.WF := decidable_of_iff _ fs.wfb_iff

def FS.setDir (fs : FS) (d : Dir) : FS := { fs with dir := d, hist := fs.dir :: fs.hist }

def FS.inode? (fs : FS) (o : Option Nat) : Option Inode :=
  match o with
  | none => none
  | some i => fs.inodes[i]?

def FS.readDest (fs : FS) : Option Bytes := (fs.inode? fs.dir.dest).map Inode.cache
def FS.destMode (fs : FS) : Option Nat := (fs.inode? fs.dir.dest).map (·.mode)
def FS.readPart (fs : FS) : Option Bytes := (fs.inode? fs.dir.part).map Inode.cache
def FS.partMode (fs : FS) : Option Nat := (fs.inode? fs.dir.part).map (·.mode)

def modInode (l : List Inode) (i : Nat) (f : Inode → Inode) : List Inode :=
  match l[i]? with
  | none => l
  | some x => l.set i (f x)

/-! ### primitive operations (`Except Errno FS`: the errno the kernel itself reports) -/

/-- `os.open(part, O_RDWR|O_CREAT|O_EXCL, mode)`.  `excl = false` (without `O_EXCL`) re-opens an
    existing part file, which keeps its content; later writes are modelled as appended to it (the
    real overwrite-in-place from offset 0 likewise yields a mixture whenever the stale content is
    longer).  `SafeTrace` rejects every non-exclusive open, so this branch only serves the necessity
    witness `no_excl_breaks`. -/
def FS.openPart (fs : FS) (excl : Bool) (mode : Nat) : Except Errno FS :=
  match fs.dir.part with
  | some i => if excl then .error EEXIST else .ok { fs with openf := some ⟨i, []⟩ }
  | none =>
    .ok { (fs.setDir { fs.dir with part := some fs.inodes.length }) with
          inodes := fs.inodes ++ [⟨[], [], mode &&& (0o7777 ^^^ (fs.umask &&& 0o7777))⟩],
          openf := some ⟨fs.inodes.length, []⟩ }

def FS.chmodPart (fs : FS) (mode : Nat) : Except Errno FS :=
  match fs.dir.part with
  | none => .error ENOENT
  | some i => .ok { fs with inodes := modInode fs.inodes i (fun x => { x with mode := mode }) }

/-- `file.write(data)`: into the user-space buffer; the runtime may push the first `spill` bytes of
    the buffer through to the kernel (a `BufferedWriter` does so when its buffer is full) -/
def FS.write (fs : FS) (data : Bytes) (spill : Nat) : Except Errno FS :=
  match fs.openf with
  | none => .error EBADF
  | some f =>
    .ok { fs with inodes := modInode fs.inodes f.ino (fun x => { x with tail := x.tail ++ (f.buf ++ data).take spill }),
                  openf := some ⟨f.ino, (f.buf ++ data).drop spill⟩ }

def FS.flush (fs : FS) : Except Errno FS :=
  match fs.openf with
  | none => .error EBADF
  | some f =>
    .ok { fs with inodes := modInode fs.inodes f.ino (fun x => { x with tail := x.tail ++ f.buf }),
                  openf := some ⟨f.ino, []⟩ }

/-- `os.fsync(fd)`: everything the kernel holds for the inode becomes durable (not the user buffer) -/
def FS.fsync (fs : FS) : Except Errno FS :=
  match fs.openf with
  | none => .error EBADF
  | some f =>
    .ok { fs with inodes := modInode fs.inodes f.ino (fun x => { x with durable := x.durable ++ x.tail, tail := [] }) }

/-- `file.close()`: flushes the user buffer, then closes the descriptor -/
def FS.close (fs : FS) : Except Errno FS :=
  match fs.openf with
  | none => .error EBADF
  | some f =>
    .ok { fs with inodes := modInode fs.inodes f.ino (fun x => { x with tail := x.tail ++ f.buf }),
                  openf := none }

/-- `os.close(fd)`: closes the descriptor (no user-space buffer is involved) -/
def FS.closeFd (fs : FS) : Except Errno FS :=
  match fs.openf with
  | none => .error EBADF
  | some _ => .ok { fs with openf := none }

def FS.renamePartDest (fs : FS) : Except Errno FS :=
  match fs.dir.part with
  | none => .error ENOENT
  | some i => .ok (fs.setDir ⟨some i, none⟩)

def FS.linkPartDest (fs : FS) : Except Errno FS :=
  match fs.dir.part with
  | none => .error ENOENT
  | some i =>
    match fs.dir.dest with
    | some _ => .error EEXIST
    | none => .ok (fs.setDir ⟨some i, some i⟩)

def FS.unlinkPart (fs : FS) : Except Errno FS :=
  match fs.dir.part with
  | none => .error ENOENT
  | some _ => .ok (fs.setDir { fs.dir with part := none })

/-- operations that change the destination in place (never performed by a safe saver; they give the
    necessity witnesses something to execute) -/
def FS.truncDest (fs : FS) : Except Errno FS :=
  match fs.dir.dest with
  | none => .ok { (fs.setDir { fs.dir with dest := some fs.inodes.length }) with inodes := fs.inodes ++ [⟨[], [], 0o644⟩] }
  | some i => .ok { fs with inodes := modInode fs.inodes i (fun x => { x with durable := [], tail := [] }) }

def FS.writeDest (fs : FS) (data : Bytes) : Except Errno FS :=
  match fs.dir.dest with
  | none => .error ENOENT
  | some i => .ok { fs with inodes := modInode fs.inodes i (fun x => { x with tail := x.tail ++ data }) }

def FS.unlinkDest (fs : FS) : Except Errno FS :=
  match fs.dir.dest with
  | none => .error ENOENT
  | some _ => .ok (fs.setDir { fs.dir with dest := none })

inductive Ev where
  /-- a read-only call, a call on an unrelated path, or a call that failed (no effect) -/
  | noop
  | openPart (excl sameDir : Bool) (mode : Nat)
  | chmodPart (mode : Nat)
  | write (data : Bytes) (spill : Nat)
  | flush
  | fsync
  | close
  | closeFd
  | renamePartDest
  | linkPartDest
  | unlinkPart
  | truncDest
  | writeDest (data : Bytes)
  | unlinkDest
  /-- a mutating call the recorder could not classify -/
  | unknown
deriving DecidableEq, Repr

def FS.step (fs : FS) : Ev → Except Errno FS
  | .noop => .ok fs
  | .openPart excl _ mode => fs.openPart excl mode
  | .chmodPart m => fs.chmodPart m
  | .write d k => fs.write d k
  | .flush => fs.flush
  | .fsync => fs.fsync
  | .close => fs.close
  | .closeFd => fs.closeFd
  | .renamePartDest => fs.renamePartDest
  | .linkPartDest => fs.linkPartDest
  | .unlinkPart => fs.unlinkPart
  | .truncDest => fs.truncDest
  | .writeDest d => fs.writeDest d
  | .unlinkDest => fs.unlinkDest
  | .unknown => .ok fs

/-- execute a trace of *successful* events; `none` when some event could not have succeeded -/
def exec (fs : FS) : List Ev → Option FS
  | [] => some fs
  | e :: t => match fs.step e with
    | .ok fs' => exec fs' t
    | .error _ => none

/-- process death: the user-space buffer is lost, the kernel's state is kept -/
def FS.procCrash (fs : FS) : FS := { fs with openf := none }

def FS.destAfterProcCrash (fs : FS) : Option Bytes := fs.procCrash.readDest

/-- a possible content of inode `i` after power loss: durable part plus any prefix of the unsynced tail -/
def Inode.afterPower (i : Inode) (k : Nat) : Bytes := i.durable ++ i.tail.take k

/-- `r` is a possible result of reading `dest` after a power loss in state `fs`: the directory is
    the current one or any earlier one; the inode keeps its durable bytes and a prefix of the rest -/
def FS.PowerDest (fs : FS) (r : Option Bytes) : Prop :=
  ∃ d ∈ fs.dir :: fs.hist, ∃ k : Nat, r = (fs.inode? d.dest).map (·.afterPower k)

/-- executable enumeration of `PowerDest`, for the `decide` witnesses (`Driver.acceptStates` has a bounded check
    of its own) -/
def FS.powerDests (fs : FS) : List (Option Bytes) :=
  (fs.dir :: fs.hist).flatMap fun d =>
    match fs.inode? d.dest with
    | none => [none]
    | some i => (List.range (i.tail.length + 1)).map fun k => some (i.afterPower k)

inductive Phase where
  | init      -- no part file created yet
  | part      -- part file created exclusively; not yet published
  | linked    -- `link part dest` done, `unlink part` pending
  | done      -- published
  | aborted   -- part file removed without publication
deriving DecidableEq, Repr

/-- abstract state of the acceptance automaton: phase, "the part file object is open",
    "its user buffer may be non-empty", "the kernel may hold unsynced bytes of the part file" -/
structure St where
  phase : Phase
  isOpen : Bool
  dirtyBuf : Bool
  unsynced : Bool
deriving DecidableEq, Repr

def St.init : St := ⟨.init, false, false, false⟩

def St.step (s : St) : Ev → Option St
  | .noop => some s
  | .openPart excl sameDir _ =>
    if s.phase = .init ∧ excl = true ∧ sameDir = true then some ⟨.part, true, false, false⟩ else none
  | .chmodPart _ => if s.phase = .part then some s else none
  | .write _ _ =>
    if s.isOpen = true ∧ (s.phase = .part ∨ s.phase = .aborted) then some { s with dirtyBuf := true, unsynced := true } else none
  | .flush => if s.isOpen = true then some { s with dirtyBuf := false, unsynced := s.unsynced || s.dirtyBuf } else none
  | .fsync => if s.isOpen = true then some { s with unsynced := false } else none
  | .close => if s.isOpen = true then some { s with isOpen := false, dirtyBuf := false, unsynced := s.unsynced || s.dirtyBuf } else none
  | .closeFd =>
    if s.isOpen = true ∧ (s.dirtyBuf = false ∨ s.phase = .aborted) then some { s with isOpen := false, dirtyBuf := false } else none
  | .renamePartDest =>
    if s.phase = .part ∧ s.dirtyBuf = false ∧ s.unsynced = false then some { s with phase := .done } else none
  | .linkPartDest =>
    if s.phase = .part ∧ s.dirtyBuf = false ∧ s.unsynced = false then some { s with phase := .linked } else none
  | .unlinkPart =>
    match s.phase with
    | .init => some s                       -- removal of a stale part file (overwrite_part)
    | .part => some { s with phase := .aborted }
    | .linked => some { s with phase := .done }
    | _ => none
  | .truncDest => none
  | .writeDest _ => none
  | .unlinkDest => none
  | .unknown => none

def St.run (s : St) : List Ev → Option St
  | [] => some s
  | e :: t => match s.step e with
    | some s' => s'.run t
    | none => none

/-- every write goes to a part file created with `O_CREAT|O_EXCL` in the destination's directory;
    the destination is touched by at most one publishing event (`rename part dest`, or
    `link part dest` followed by `unlink part`), which is preceded, in order, by all writes, a flush
    (or close) of everything written and an fsync of everything flushed; nothing is written after it.
    (Publication with the file object still open is accepted when its buffer is empty and synced.) -/
def SafeTrace (t : List Ev) : Bool := (St.init.run t).isSome

def allWrites : List Ev → Bytes
  | [] => []
  | .write d _ :: t => d ++ allWrites t
  | _ :: t => allWrites t

def publishes : List Ev → Bool
  | [] => false
  | .renamePartDest :: _ => true
  | .linkPartDest :: _ => true
  | _ :: t => publishes t

structure Cfg where
  overwrite : Bool := true
  overwritePart : Bool := false
  rmPartOnExc : Bool := true
  textMode : Bool := false
  perms : Option Nat := none
deriving DecidableEq, Repr

/-- the body of the `with` block: the data of each `write` call (with the amount the runtime pushes
    through on its own), and whether the block ends by raising -/
structure Body where
  writes : List (Bytes × Nat)
  raises : Bool
deriving DecidableEq, Repr

def RW_PERMS : Nat := 0o666

/-- the permission bits passed to `os.open`, and whether `os.chmod` follows
    (`_open_part_file`: explicit, else the replaced file's, else `RW_PERMS` subject to the umask) -/
def choosePerms (cfg : Cfg) (fs : FS) : Nat × Bool :=
  match cfg.perms with
  | some p => (p, true)
  | none => match fs.destMode with
    | some m => (m, true)
    | none => (RW_PERMS, false)

/-- the events of a save in which no call fails:
    `setup` (`unlink` of a stale part file when `overwrite_part`, exclusive creation, `fdopen`
    - no effect on the file system: `noop` -, `chmod`),
    the body's writes, `__exit__` (`flush`, `fsync`, `close`, then either the cleanup `unlink`
    when the body raised, or the publication by `rename` / `link`+`unlink`). -/
def saverTrace (cfg : Cfg) (fs : FS) (body : Body) : List Ev :=
  (if cfg.overwritePart && fs.dir.part.isSome then [Ev.unlinkPart] else []) ++
  [Ev.openPart true true (choosePerms cfg fs).1, Ev.noop] ++
  (if (choosePerms cfg fs).2 then [Ev.chmodPart (choosePerms cfg fs).1] else []) ++
  body.writes.map (fun w => Ev.write w.1 w.2) ++
  [Ev.flush, Ev.fsync, Ev.close] ++
  (if body.raises then (if cfg.rmPartOnExc then [Ev.unlinkPart] else [])
   else if cfg.overwrite then [Ev.renamePartDest] else [Ev.linkPartDest, Ev.unlinkPart])

end C04
