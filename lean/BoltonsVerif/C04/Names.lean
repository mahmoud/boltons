/-
C04 — the NAME of the part file (`AtomicSaver.__init__`).

The file-system model (`C04.Dir`) has two distinct names in one directory, `dest` and `part`.
This file models how the saver chooses the second name, so that "distinct" and "same directory"
are proved instead of assumed:

    if not self.part_filename:  part_path = dest_path + '.part'
    else:                       part_path = os.path.join(dest_dir, part_filename)
                                if os.path.abspath(part_path) == dest_path: raise ValueError

For a PLAIN file name (non-empty, no `/`, not `.` / `..`) `os.path.join(dest_dir, name)` is the entry
`name` of the destination's directory and `abspath` changes nothing, so the choice is a function of
the destination's base name and the `part_file` argument.  The suffix is a parameter (regenerated from
the current source: `C04.Gen.partSuffix`).
-/
namespace C04

abbrev Name := List Char

/-- a plain file name: one directory entry, not a path -/
def Name.plain (n : Name) : Bool :=
  !n.isEmpty && !n.contains '/' && n != ['.'] && n != ['.', '.']

/-- the name the part file gets in the destination's directory; `none` = the constructor refuses
    (`part_file` names the destination itself) -/
def partName (suffix destName : Name) (pf : Option Name) : Option Name :=
  match pf with
  | none => some (destName ++ suffix)
  | some n =>
    if n.isEmpty then some (destName ++ suffix)      -- `if not self.part_filename`
    else if n = destName then none
    else some n

theorem partName_cases (suffix d : Name) (pf : Option Name) (n : Name) (h : partName suffix d pf = some n) :
    n = d ++ suffix ∨ (pf = some n ∧ n ≠ [] ∧ n ≠ d) := by
  unfold partName at h
  cases pf with
  | none => exact Or.inl (Option.some.inj h).symm
  | some m =>
    simp only at h
    split at h
    · exact Or.inl (Option.some.inj h).symm
    · split at h
      · cases h
      · rename_i hne hnd
        cases h; exact Or.inr ⟨rfl, by simpa using hne, hnd⟩

theorem partName_ne_dest (suffix d : Name) (pf : Option Name) (n : Name) (hs : suffix ≠ [])
    (h : partName suffix d pf = some n) : n ≠ d := by
  rcases partName_cases suffix d pf n h with rfl | ⟨_, _, hne⟩
  · exact fun h => hs (List.append_right_eq_self.1 h)
  · exact hne

theorem Name.plain_iff (n : Name) : n.plain = true ↔ n ≠ [] ∧ '/' ∉ n ∧ n ≠ ['.'] ∧ n ≠ ['.', '.'] := by
  simp [Name.plain, and_assoc]

theorem Name.plain_append (d s : Name) (hd : d.plain = true) (hs : s ≠ []) (hsl : s.contains '/' = false) :
    (d ++ s).plain = true := by
  obtain ⟨hne, hdsl, hdot, _⟩ := (Name.plain_iff d).1 hd
  refine (Name.plain_iff _).2 ⟨by simp [hne], by simpa [hdsl] using hsl, ?_⟩
  -- `d ++ s` has two characters at least, and exactly two only when `d` has one, which is not `.`
  match d, hne, hdot with
  | [c], _, hdot => exact ⟨by simp [hs], fun h => hdot ((List.cons.inj h).1 ▸ rfl)⟩
  | c :: c' :: d'', _, _ => simp [hs]

theorem partName_plain (suffix d : Name) (pf : Option Name) (n : Name) (hs : suffix ≠ [])
    (hsl : suffix.contains '/' = false) (hd : d.plain = true)
    (hpf : ∀ m, pf = some m → m = [] ∨ m.plain = true) (h : partName suffix d pf = some n) :
    n.plain = true := by
  rcases partName_cases suffix d pf n h with rfl | ⟨hn, hne, _⟩
  · exact Name.plain_append d suffix hd hs hsl
  · exact (hpf n hn).resolve_left hne

end C04
