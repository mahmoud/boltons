import BoltonsVerif.C04.Proofs
import BoltonsVerif.C04.Closed
import BoltonsVerif.C04.View
import BoltonsVerif.C04.Names
import BoltonsVerif.C04.Win
import BoltonsVerif.C04.Sym
import BoltonsVerif.Generated.C04_Consts
/-
`fs0` is the file system at the start: well formed, its directory durable (`hist = []`) and the
destination's inode synced (otherwise a power loss could damage the OLD content by itself).
-/
namespace C04

/-- **Crash safety.**  Let `t` be accepted by `SafeTrace` and `p` any prefix of it that the file
    system could execute.  After a process death at that point a reader of the destination finds
    exactly the old state (old content / still absent) or exactly the complete new content
    `allWrites t`; the same holds for every outcome of a power loss.  As long as `p` contains no
    publishing event it is the old state in both cases; once it does, a process death leaves the
    complete new content. -/
theorem safeTrace_crash_safe (fs0 : FS) (t : List Ev) (hwf : fs0.WF) (hh : fs0.hist = [])
    (hsy : DestSynced fs0) (hsafe : SafeTrace t = true) :
    ∀ p q fs, t = p ++ q → exec fs0 p = some fs →
      (fs.destAfterProcCrash = fs0.readDest ∨ fs.destAfterProcCrash = some (allWrites t)) ∧
      (∀ r, fs.PowerDest r → r = fs0.readDest ∨ r = some (allWrites t)) ∧
      (publishes p = false → fs.destAfterProcCrash = fs0.readDest ∧ ∀ r, fs.PowerDest r → r = fs0.readDest) ∧
      (publishes p = true → fs.destAfterProcCrash = some (allWrites t)) := by
  intro p q fs ht hx
  subst ht
  obtain ⟨s, _, hi, hpub, hw⟩ := inv_at_prefix fs0 p q fs hh hsafe hx
  have hpow := inv_power fs0 fs s _ hwf hsy hi
  cases hb : publishes p with
  | false =>
    have h1 := (destAfterProcCrash_eq_readDest fs).trans (inv_unpublished_read fs0 fs s _ hwf hi (hpub.trans hb))
    have h2 : ∀ r, fs.PowerDest r → r = fs0.readDest := fun r hr =>
      (hpow r hr).resolve_right (by simp [hpub.trans hb])
    exact ⟨Or.inl h1, fun r hr => Or.inl (h2 r hr), fun _ => ⟨h1, h2⟩, fun h => Bool.noConfusion h⟩
  | true =>
    have h1 := (destAfterProcCrash_eq_readDest fs).trans (ginv_published_read hi (hpub.trans hb)).1
    rw [hw hb]
    exact ⟨Or.inr h1, fun r hr => (hpow r hr).imp_right And.right, fun h => Bool.noConfusion h, fun _ => h1⟩

/-- non-vacuity: a destination with synced content `[7]`, a two-write save that executes in full -/
example : let fs0 : FS := ⟨[⟨[7], [], 0o644⟩], ⟨some 0, none⟩, [], none, 0o022⟩
    fs0.WF ∧ fs0.hist = [] ∧ SafeTrace (saverTrace {} fs0 ⟨[([1, 2], 0), ([3], 1)], false⟩) = true ∧
    (exec fs0 (saverTrace {} fs0 ⟨[([1, 2], 0), ([3], 1)], false⟩)).isSome = true := by decide

/-- **The saver is accepted.**  For every configuration, initial state and body (any list of writes
    with any amount pushed through by the runtime, raising or not) the trace emitted by the
    transliterated `AtomicSaver` satisfies `SafeTrace`. -/
theorem saver_emits_safeTrace (cfg : Cfg) (fs : FS) (body : Body) :
    SafeTrace (saverTrace cfg fs body) = true := by
  simp [SafeTrace, saver_run]

/-- hence the saver itself is crash safe at every point of every save (both crash semantics) -/
theorem saver_crash_safe (cfg : Cfg) (fs0 : FS) (body : Body) (hwf : fs0.WF) (hh : fs0.hist = [])
    (hsy : DestSynced fs0) :
    ∀ p q fs, saverTrace cfg fs0 body = p ++ q → exec fs0 p = some fs →
      (fs.destAfterProcCrash = fs0.readDest ∨ fs.destAfterProcCrash = some (body.writes.map (·.1)).flatten) ∧
      (∀ r, fs.PowerDest r → r = fs0.readDest ∨ r = some (body.writes.map (·.1)).flatten) ∧
      (publishes p = false → fs.destAfterProcCrash = fs0.readDest ∧ ∀ r, fs.PowerDest r → r = fs0.readDest) := by
  intro p q fs ht hx
  have := safeTrace_crash_safe fs0 _ hwf hh hsy (saver_emits_safeTrace cfg fs0 body) p q fs ht hx
  rw [allWrites_saverTrace] at this
  exact ⟨this.1, this.2.1, this.2.2.1⟩

/-- **Normal exit.**  When nothing is in the way (the part name is free or `overwrite_part` is set;
    the destination may be replaced or is absent) and the block does not raise, the whole trace
    executes and leaves exactly the concatenation of the writes at the destination, fully durable,
    and no part file. -/
theorem normal_exit (cfg : Cfg) (fs : FS) (body : Body) (hh : fs.hist = [])
    (hp : fs.dir.part = none ∨ cfg.overwritePart = true)
    (hd : cfg.overwrite = true ∨ fs.dir.dest = none) (hr : body.raises = false) :
    ∃ fs', exec fs (saverTrace cfg fs body) = some fs' ∧
      fs'.readDest = some (body.writes.map (·.1)).flatten ∧ fs'.dir.part = none ∧
      (∀ i, fs'.inode? fs'.dir.dest = some i → i.tail = []) := by
  obtain ⟨fs', hx, hi⟩ := saver_exec cfg fs body hh hp (hd.imp_right Or.inl)
  obtain ⟨h1, h2⟩ := ginv_published_read hi (by simp [St.published, saverFinal, hr])
  exact ⟨fs', hx, h1, GInv.part_none hi (Or.inr (by simp [saverFinal, hr])), h2⟩

/-- a block that raises leaves the destination exactly as it was -/
theorem raising_exit (cfg : Cfg) (fs : FS) (body : Body) (hwf : fs.WF) (hh : fs.hist = [])
    (hp : fs.dir.part = none ∨ cfg.overwritePart = true) (hr : body.raises = true) :
    ∃ fs', exec fs (saverTrace cfg fs body) = some fs' ∧ fs'.readDest = fs.readDest := by
  obtain ⟨fs', hx, hi⟩ := saver_exec cfg fs body hh hp (Or.inr (Or.inr hr))
  refine ⟨fs', hx, inv_unpublished_read fs fs' _ _ hwf hi ?_⟩
  cases hm : cfg.rmPartOnExc <;> simp [St.published, saverFinal, hr, hm]

/-- **A body that closes the part file itself** (Closed.lean), after any writes, raising afterwards or not:
    the transliterated `__exit__` emits an accepted trace without a publishing event; it can be executed,
    leaves the destination exactly as it was, and (with `rm_part_on_exc`) no part file.  The save is refused -
    what the body wrote was never synced by the saver, so it must not be published. -/
theorem closed_body_refused (cfg : Cfg) (fs : FS) (writes : List (Bytes × Nat)) (hwf : fs.WF) (hh : fs.hist = [])
    (hp : fs.dir.part = none ∨ cfg.overwritePart = true) :
    SafeTrace (saverTraceClosed cfg fs writes) = true ∧ publishes (saverTraceClosed cfg fs writes) = false ∧
    ∃ fs', exec fs (saverTraceClosed cfg fs writes) = some fs' ∧ fs'.readDest = fs.readDest ∧
      (cfg.rmPartOnExc = true → fs'.dir.part = none) := by
  refine ⟨closed_safe cfg fs writes, closed_never_publishes cfg fs writes, ?_⟩
  obtain ⟨fs', hx, hi⟩ := open_then_exec cfg fs _ _ _ hh hp (closedRest_run cfg fs writes) (closedRest_auto cfg fs writes)
  refine ⟨fs', hx, inv_unpublished_read fs fs' _ _ hwf hi ?_, fun hm => ?_⟩
  · cases hm : cfg.rmPartOnExc <;> simp [St.published, closedPhase, hm]
  · exact GInv.part_none hi (Or.inl (by simp [closedPhase, hm]))

/-- non-vacuity: a present destination, a stale part file with `overwrite_part`, two writes, then the body closes -/
example : let fs0 : FS := ⟨[⟨[7], [], 0o644⟩, ⟨[9, 9], [], 0o640⟩], ⟨some 0, some 1⟩, [], none, 0o022⟩
    let cfg : Cfg := { overwritePart := true }
    fs0.WF ∧ fs0.hist = [] ∧ (exec fs0 (saverTraceClosed cfg fs0 [([1, 2], 0), ([3], 1)])).map FS.readDest = some (some [7]) := by decide

/-- at every point of such a save a process death or a power loss leaves the old destination -/
theorem closed_body_crash_safe (cfg : Cfg) (fs0 : FS) (writes : List (Bytes × Nat)) (hwf : fs0.WF) (hh : fs0.hist = [])
    (hsy : DestSynced fs0) :
    ∀ p q fs, saverTraceClosed cfg fs0 writes = p ++ q → exec fs0 p = some fs →
      fs.destAfterProcCrash = fs0.readDest ∧ ∀ r, fs.PowerDest r → r = fs0.readDest := by
  intro p q fs ht hx
  have hpub : publishes p = false :=
    (Bool.or_eq_false_iff.1 ((publishes_append p q).symm.trans (ht ▸ closed_never_publishes cfg fs0 writes))).1
  exact (safeTrace_crash_safe fs0 _ hwf hh hsy (closed_safe cfg fs0 writes) p q fs ht hx).2.2.1 hpub

/-- `SafeTrace` is prefix closed -/
theorem safeTrace_prefix (p q : List Ev) (h : SafeTrace (p ++ q) = true) : SafeTrace p = true := by
  obtain ⟨s2, h2⟩ := Option.isSome_iff_exists.1 h
  obtain ⟨s, hp, _⟩ := run_prefix_some _ p q s2 h2
  simp [SafeTrace, hp]

/-- translator obligation (regenerated from the current source on every run): the flags with which
    the part file is opened contain `O_CREAT` and `O_EXCL` and not `O_TRUNC`, in text and binary mode -
    what the model's `openPart true _ _` in `saverTrace` stands for -/
theorem source_open_flags_exclusive :
    Gen.textFlagsExcl = true ∧ Gen.textFlagsCreat = true ∧ Gen.textFlagsTrunc = false ∧
    Gen.binFlagsExcl = true ∧ Gen.binFlagsCreat = true ∧ Gen.binFlagsTrunc = false := by decide

/-! ### necessity: dropping an ingredient of `SafeTrace` allows a bad crash outcome -/

def fsOld : FS := ⟨[⟨[7], [], 0o644⟩], ⟨some 0, none⟩, [], none, 0o022⟩

/-- without `fsync`: after the rename a power loss can leave an EMPTY destination -/
theorem no_fsync_breaks :
    let t := [Ev.openPart true true 0o644, .write [1, 2] 0, .flush, .close, .renamePartDest]
    SafeTrace t = false ∧ ((exec fsOld t).map fun fs => fs.powerDests.contains (some [])) = some true := by decide

/-- renaming before the buffer is flushed: a process death right after the rename leaves an EMPTY destination -/
theorem rename_before_flush_breaks :
    let t := [Ev.openPart true true 0o644, .write [1, 2] 0, .renamePartDest]
    SafeTrace t = false ∧ (exec fsOld t).map FS.destAfterProcCrash = some (some []) := by decide

/-- writing to the destination directly: a process death between truncation and write leaves it EMPTY,
    one between two writes leaves it TRUNCATED -/
theorem direct_write_breaks :
    let t := [Ev.truncDest, .writeDest [1], .writeDest [2]]
    SafeTrace t = false ∧ (exec fsOld (t.take 1)).map FS.destAfterProcCrash = some (some []) ∧
      (exec fsOld (t.take 2)).map FS.destAfterProcCrash = some (some [1]) := by decide

/-- without `O_EXCL` a stale part file is re-used and the published content is a MIXTURE -/
theorem no_excl_breaks :
    let fs0 : FS := ⟨[⟨[7], [], 0o644⟩, ⟨[9, 9], [], 0o640⟩], ⟨some 0, some 1⟩, [], none, 0o022⟩
    let t := [Ev.openPart false true 0o644, .write [1, 2] 0, .flush, .fsync, .close, .renamePartDest]
    SafeTrace t = false ∧ (exec fs0 t).map FS.readDest = some (some [9, 9, 1, 2]) := by decide

/-- a write after the publication is visible at the destination before it is complete -/
theorem write_after_publish_breaks :
    let t := [Ev.openPart true true 0o644, .write [1] 0, .flush, .fsync, .renamePartDest, .write [2] 1]
    SafeTrace t = false ∧ allWrites t = [1, 2] ∧ (exec fsOld (t.take 5)).map FS.destAfterProcCrash = some (some [1]) := by decide

/-- publishing what a body wrote and CLOSED itself (no fsync of it is possible any more): after the
    rename a power loss can leave an EMPTY destination -/
theorem publish_after_body_close_breaks :
    let t := [Ev.openPart true true 0o644, .noop, .write [1, 2] 0, .close, .renamePartDest]
    SafeTrace t = false ∧ ((exec fsOld t).map fun fs => fs.powerDests.contains (some [])) = some true := by decide

/-- a fallback for a failed `link` (the `noop`) that claims the destination name by an exclusive create
    and then renames the part file over the claim: a process death between the two leaves an EMPTY
    destination where there was none -/
theorem claim_then_rename_breaks :
    let fs0 : FS := ⟨[], ⟨none, none⟩, [], none, 0o022⟩
    let t := [Ev.openPart true true 0o644, .write [1, 2] 0, .flush, .fsync, .close, .noop, .truncDest, .renamePartDest]
    SafeTrace t = false ∧ fs0.readDest = none ∧
      (exec fs0 (t.take 7)).map FS.destAfterProcCrash = some (some []) := by decide

/-- **What observers see while the save runs (no crash).**  After every event of an accepted trace:
    a reader of the destination path finds exactly the old state or exactly the complete new content;
    every inode that existed at the start is unchanged (a reader that OPENED the destination before the
    save keeps reading exactly the old content through its descriptor, also after the publication);
    the destination's name never disappears from the directory; before the publishing event the
    directory entry of the destination is the one from the start. -/
theorem safeTrace_live_view (fs0 : FS) (t : List Ev) (hwf : fs0.WF) (hh : fs0.hist = [])
    (hsafe : SafeTrace t = true) :
    ∀ p q fs, t = p ++ q → exec fs0 p = some fs →
      (fs.readDest = fs0.readDest ∨ fs.readDest = some (allWrites t)) ∧
      (∀ i, i < fs0.inodes.length → fs.inodes[i]? = fs0.inodes[i]?) ∧
      (fs0.hasDest = true → fs.hasDest = true) ∧
      (publishes p = false → fs.dir.dest = fs0.dir.dest) := by
  intro p q fs ht hx
  subst ht
  obtain ⟨s, _, hi, hpub, hw⟩ := inv_at_prefix fs0 p q fs hh hsafe hx
  have hold := ginv_old_inodes hi
  cases hb : publishes p with
  | false =>
    have hd : fs.dir.dest = fs0.dir.dest := (ginv_unpublished hi (hpub.trans hb)).1
    exact ⟨Or.inl (inv_unpublished_read fs0 fs s _ hwf hi (hpub.trans hb)), hold, fun h0 => by simpa [FS.hasDest, hd] using h0, fun _ => hd⟩
  | true =>
    have h1 := (ginv_published hi (hpub.trans hb)).1
    exact ⟨Or.inr (by rw [hw hb]; exact (ginv_published_read hi (hpub.trans hb)).1), hold,
      fun _ => by simp [FS.hasDest, h1], fun h => Bool.noConfusion h⟩

/-- **The window between `link part dest` and `unlink part`** (`overwrite=False`): both names are hard
    links to ONE inode that holds the complete new content, all of it durable; a process death there
    leaves the complete destination PLUS the part file's name; removing that name afterwards (what the
    interrupted `atomic_rename` had left to do, or a later `overwrite_part` save does) leaves the
    complete destination and no part file. -/
theorem link_window (fs0 : FS) (t : List Ev) (hh : fs0.hist = []) (hsafe : SafeTrace t = true) :
    ∀ p q fs s, t = p ++ q → exec fs0 p = some fs → St.init.run p = some s → s.phase = .linked →
      fs.sameInode = true ∧ fs.hasPart = true ∧
      fs.destAfterProcCrash = some (allWrites t) ∧ fs.procCrash.readPart = some (allWrites t) ∧
      (∀ i, fs.inode? fs.dir.dest = some i → i.tail = []) ∧
      ∃ fs', fs.procCrash.step .unlinkPart = .ok fs' ∧ fs'.readDest = some (allWrites t) ∧
        fs'.hasPart = false := by
  intro p q fs s ht hx hp hl
  subst ht
  obtain ⟨s', hp', hi, hpub, hw⟩ := inv_at_prefix fs0 p q fs hh hsafe hx
  obtain rfl : s' = s := Option.some.inj (hp'.symm.trans hp)
  rw [hw (by rw [← hpub]; simp [St.published, hl])]
  exact inv_linked_view fs0 s' fs _ hi hl

/-- the window is entered by the `link` event -/
theorem linked_after_link (p : List Ev) (s : St) (h : St.init.run (p ++ [.linkPartDest]) = some s) :
    s.phase = .linked := by
  obtain ⟨s1, _, h2⟩ := run_prefix_some _ _ _ _ h
  obtain ⟨s2, h3, h4⟩ := St.run_cons_some.1 h2
  cases h4
  cases St.step_spec h3
  rfl

/-- **Publication by `link` never replaces a destination.**  If a destination exists at the start, no
    accepted trace that publishes by `link` (contains no `rename part dest`) can get past its publishing
    event (`link` fails with `EEXIST`): at every point the destination's entry and content are the
    original ones. -/
theorem link_never_replaces (fs0 : FS) (t : List Ev) (hwf : fs0.WF) (hh : fs0.hist = [])
    (hsafe : SafeTrace t = true) (hnr : usesRename t = false) (hd : fs0.hasDest = true) :
    ∀ p q fs, t = p ++ q → exec fs0 p = some fs →
      publishes p = false ∧ fs.dir.dest = fs0.dir.dest ∧ fs.readDest = fs0.readDest := by
  intro p q fs ht hx
  have hpub : publishes p = false := by
    cases hb : publishes p with
    | false => rfl
    | true =>
      exfalso
      obtain ⟨p1, e, p2, rfl, hp1, he⟩ := publishes_split p hb
      subst ht
      have he' : e = .linkPartDest := by
        rcases he with rfl | rfl
        · simp [usesRename_append, usesRename] at hnr
        · rfl
      subst he'
      obtain ⟨fs1, hx1, hx2⟩ := exec_prefix_some fs0 p1 _ fs hx
      have hsafe1 : SafeTrace (p1 ++ ((.linkPartDest :: p2) ++ q)) = true := by simpa using hsafe
      have hv := safeTrace_live_view fs0 _ hwf hh hsafe1 p1 _ fs1 rfl hx1
      have hd1 : fs1.dir.dest = fs0.dir.dest := hv.2.2.2 hp1
      -- the destination's entry is still the one from the start, so `link` fails with `EEXIST`
      obtain ⟨i, hdd⟩ := Option.isSome_iff_exists.1 hd
      simp only [exec, FS.step, FS.linkPartDest, hd1, hdd] at hx2
      cases hpp : fs1.dir.part <;> simp [hpp] at hx2
  have hv := safeTrace_live_view fs0 t hwf hh hsafe p q fs ht hx
  have hd1 := hv.2.2.2 hpub
  refine ⟨hpub, hd1, ?_⟩
  unfold FS.readDest
  rw [hd1, inode?_old fs0 fs hwf hv.2.1]

example : let fs0 : FS := ⟨[⟨[7], [], 0o644⟩], ⟨some 0, none⟩, [], none, 0o022⟩
    fs0.WF ∧ fs0.hist = [] ∧ fs0.hasDest = true ∧
    SafeTrace [Ev.openPart true true 0o644, .write [1] 0, .flush, .fsync, .close, .linkPartDest, .unlinkPart] = true ∧
    usesRename [Ev.openPart true true 0o644, .write [1] 0, .flush, .fsync, .close, .linkPartDest, .unlinkPart] = false ∧
    exec fs0 [Ev.openPart true true 0o644, .write [1] 0, .flush, .fsync, .close, .linkPartDest] = none ∧
    (exec fs0 [Ev.openPart true true 0o644, .write [1] 0, .flush, .fsync, .close]).isSome = true := by decide

/-- **One writer per part file**: with a part file in the way and `overwrite_part=False` the exclusive
    creation fails with `EEXIST` and nothing of the save is executed. -/
theorem stale_part_blocks (cfg : Cfg) (fs : FS) (body : Body) (hp : fs.hasPart = true)
    (ho : cfg.overwritePart = false) :
    exec fs (saverTrace cfg fs body) = none ∧
    fs.step (.openPart true true (choosePerms cfg fs).1) = .error EEXIST := by
  obtain ⟨i, hpp⟩ := Option.isSome_iff_exists.1 hp
  have h2 : fs.step (.openPart true true (choosePerms cfg fs).1) = .error EEXIST := by
    simp [FS.step, FS.openPart, hpp]
  exact ⟨by simp [saverTrace, ho, exec, h2], h2⟩

example : let fs0 : FS := ⟨[⟨[7], [], 0o644⟩, ⟨[9, 9], [], 0o640⟩], ⟨some 0, some 1⟩, [], none, 0o022⟩
    fs0.hasPart = true ∧ exec fs0 (saverTrace {} fs0 ⟨[([1], 0)], false⟩) = none := by decide

/-- the transliterated saver with `overwrite=False`: its trace is `p ++ [unlink part]`, and after `p`
    (a crash between `link` and `unlink`) the destination holds the complete new content and the part
    file's name is a second hard link to the same inode -/
theorem saver_link_window (cfg : Cfg) (fs0 : FS) (body : Body) (hh : fs0.hist = [])
    (hp : fs0.dir.part = none ∨ cfg.overwritePart = true) (ho : cfg.overwrite = false)
    (hd : fs0.dir.dest = none) (hr : body.raises = false) :
    ∃ p fs, saverTrace cfg fs0 body = p ++ [.unlinkPart] ∧ exec fs0 p = some fs ∧
      fs.sameInode = true ∧ fs.hasPart = true ∧
      fs.destAfterProcCrash = some (body.writes.map (·.1)).flatten ∧
      fs.procCrash.readPart = some (body.writes.map (·.1)).flatten := by
  -- the trace up to and including the `link` can be executed and ends in phase `linked`
  obtain ⟨fs, hx, hi⟩ := syncedThen_exec cfg fs0 (choosePerms cfg fs0).1 body.writes [.linkPartDest]
    ⟨.linked, false, false, false⟩ hh hp rfl (by rw [hd]; exact List.all_eq_true.1 rfl) rfl
  obtain ⟨h1, h2, h3, h4, _⟩ := inv_linked_view fs0 _ fs _ hi rfl
  refine ⟨_, fs, ?_, hx, h1, h2, h3, h4⟩
  simp [saverTrace_split, syncedThen, exitEvents, ho, hr, List.append_assoc]

example : let fs0 : FS := ⟨[], ⟨none, none⟩, [], none, 0o022⟩
    let t := saverTrace { overwrite := false } fs0 ⟨[([1, 2], 0), ([3], 1)], false⟩
    (exec fs0 t.dropLast).map (fun fs => (fs.sameInode, fs.hasPart, fs.destAfterProcCrash)) = some (true, true, some [1, 2, 3]) ∧
    (St.init.run t.dropLast).map (·.phase) = some .linked := by decide

/-- **Nothing a died save leaves behind blocks a later `overwrite_part` save**: from ANY state `fs`
    (in particular every crash state of an earlier save, incl. the link window), once the process is gone
    and the directory has reached the disk (`FS.reboot`), a save with `overwrite=True, overwrite_part=True`
    whose block exits normally completes with exactly its own content and no part file. -/
theorem save_after_crash (fs : FS) (cfg2 : Cfg) (body2 : Body) (ho : cfg2.overwrite = true)
    (hop : cfg2.overwritePart = true) (hr : body2.raises = false) :
    ∃ fs', exec fs.reboot (saverTrace cfg2 fs.reboot body2) = some fs' ∧
      fs'.readDest = some (body2.writes.map (·.1)).flatten ∧ fs'.dir.part = none := by
  obtain ⟨fs', h1, h2, h3, _⟩ := normal_exit cfg2 fs.reboot body2 rfl (Or.inr hop) (Or.inl ho) hr
  exact ⟨fs', h1, h2, h3⟩

/-- translator obligation (regenerated from the current source on every run): the default part file
    name is the destination path plus a NON-EMPTY suffix without a path separator -/
theorem source_part_suffix : Gen.partSuffix ≠ [] ∧ Gen.partSuffix.contains '/' = false := by decide

/-- **The part file is a different entry of the destination's own directory.**  For a destination
    with a plain base name `d` and a `part_file` argument that is absent, empty or a plain file name,
    whenever the constructor accepts (`partName … = some n`) the part file's name `n` is a plain name
    (one entry of the destination's directory, so publication never crosses a file system) and differs
    from `d` (the two names of the file-system model `C04.Dir` really are two names).  A `part_file` that
    names the destination itself is refused. -/
theorem part_name_distinct_same_dir (d : Name) (pf : Option Name) (hd : d.plain = true)
    (hpf : ∀ m, pf = some m → m = [] ∨ m.plain = true) :
    (∀ n, partName Gen.partSuffix d pf = some n → n ≠ d ∧ n.plain = true) ∧
    (pf = some d → partName Gen.partSuffix d pf = none) ∧
    (pf ≠ some d → ∃ n, partName Gen.partSuffix d pf = some n) := by
  refine ⟨fun n h => ⟨partName_ne_dest _ d pf n source_part_suffix.1 h,
    partName_plain _ d pf n source_part_suffix.1 source_part_suffix.2 hd hpf h⟩, ?_, ?_⟩
  · intro h; subst h
    have : d.isEmpty = false := by
      cases d with
      | nil => simp [Name.plain] at hd
      | cons _ _ => rfl
    simp [partName, this]
  · intro h
    cases pf with
    | none => exact ⟨_, rfl⟩
    | some m =>
      by_cases h1 : m.isEmpty = true
      · exact ⟨d ++ Gen.partSuffix, by simp [partName, h1]⟩
      · by_cases h2 : m = d
        · exact absurd (by rw [h2]) h
        · exact ⟨m, by simp [partName, h1, h2]⟩

/-- non-vacuity: the default name, an explicit name, the empty name, the refused name -/
example : partName ".part".toList "dest.txt".toList none = some "dest.txt.part".toList ∧
    partName ".part".toList "dest.txt".toList (some "x.tmp".toList) = some "x.tmp".toList ∧
    partName ".part".toList "dest.txt".toList (some []) = some "dest.txt.part".toList ∧
    partName ".part".toList "dest.txt".toList (some "dest.txt".toList) = none ∧
    Name.plain "dest.txt".toList = true := by simp [partName, Name.plain]

/-- why the refusal is needed: were the part file the destination itself, the "exclusive creation of the
    part file" is the creation of an EMPTY destination in place and every write goes to the destination
    directly - a process death after the creation leaves an empty destination where there was none, one
    after the first write a truncated one (the events are those of `direct_write_breaks`) -/
theorem part_named_as_dest_breaks :
    let fs0 : FS := ⟨[], ⟨none, none⟩, [], none, 0o022⟩
    let t := [Ev.truncDest, .writeDest [1, 2], .writeDest [3]]
    SafeTrace t = false ∧ fs0.readDest = none ∧
      (exec fs0 (t.take 1)).map FS.destAfterProcCrash = some (some []) ∧
      (exec fs0 (t.take 2)).map FS.destAfterProcCrash = some (some [1, 2]) := by decide

/-- **Windows `replace()` is one atomic `rename part dest`** whenever the part file is there, whether or not a
    destination exists: `os.rename`, and `ReplaceFile` when that refuses with `EEXIST`, have the outcome of ONE
    `rename part dest`; the calls performed, read as events (the refused rename has no effect), contain one
    publishing event and execute to the same state: the destination reads what the part file held, the part
    file's name is gone. -/
theorem nt_replace_is_one_rename (fs : FS) (hp : fs.hasPart = true) :
    (ntReplace fs).1 = fs.renamePartDest ∧
    ∃ fs', fs.renamePartDest = .ok fs' ∧ exec fs (ntReplace fs).2 = some fs' ∧
      publishes (ntReplace fs).2 = true ∧ fs'.readDest = fs.readPart ∧ fs'.hasPart = false := by
  obtain ⟨i, hpp⟩ := Option.isSome_iff_exists.1 hp
  cases hd : fs.dir.dest <;>
    simp [ntReplace, FS.winRename, FS.replaceFile, FS.renamePartDest, hd, hpp, EEXIST, exec, FS.step,
      publishes, FS.setDir, FS.readDest, FS.readPart, FS.hasPart, FS.inode?]

/-- Windows `atomic_rename(overwrite=False)` over an existing destination: `os.rename` refuses, the
    error is raised, nothing has changed -/
theorem nt_no_overwrite_never_replaces (fs : FS) (hd : fs.hasDest = true) :
    ntAtomicRename false fs = (.error EEXIST, [.noop]) ∧ exec fs (ntAtomicRename false fs).2 = some fs := by
  obtain ⟨i, hdd⟩ := Option.isSome_iff_exists.1 hd
  simp [ntAtomicRename, FS.winRename, hdd, exec, FS.step]

/-- the transliterated saver with the Windows publication step emits accepted traces, for every
    configuration, initial state and body -/
theorem saver_nt_emits_safeTrace (cfg : Cfg) (fs : FS) (body : Body) :
    SafeTrace (saverTraceNt cfg fs body) = true := by
  rw [SafeTrace, saverTraceNt_split, run_created, run_syncedThen, ntExitEvents]
  cases body.raises <;> cases cfg.rmPartOnExc <;> cases cfg.overwrite <;> cases fs.hasDest <;>
    simp [St.run, St.step, ntPublish]

/-- the Windows save is crash safe at every point (both crash semantics), under the assumption that
    `ReplaceFile` / Windows `rename` are atomic directory operations -/
theorem saver_nt_crash_safe (cfg : Cfg) (fs0 : FS) (body : Body) (hwf : fs0.WF) (hh : fs0.hist = [])
    (hsy : DestSynced fs0) :
    ∀ p q fs, saverTraceNt cfg fs0 body = p ++ q → exec fs0 p = some fs →
      (fs.destAfterProcCrash = fs0.readDest ∨ fs.destAfterProcCrash = some (body.writes.map (·.1)).flatten) ∧
      (∀ r, fs.PowerDest r → r = fs0.readDest ∨ r = some (body.writes.map (·.1)).flatten) ∧
      (publishes p = false → fs.destAfterProcCrash = fs0.readDest ∧ ∀ r, fs.PowerDest r → r = fs0.readDest) := by
  intro p q fs ht hx
  have := safeTrace_crash_safe fs0 _ hwf hh hsy (saver_nt_emits_safeTrace cfg fs0 body) p q fs ht hx
  rw [allWrites_saverTraceNt] at this
  exact ⟨this.1, this.2.1, this.2.2.1⟩

/-- normal exit on Windows: the complete new content at the destination and no part file -/
theorem nt_normal_exit (cfg : Cfg) (fs : FS) (body : Body) (hh : fs.hist = [])
    (hp : fs.dir.part = none ∨ cfg.overwritePart = true)
    (hd : cfg.overwrite = true ∨ fs.dir.dest = none) (hr : body.raises = false) :
    ∃ fs', exec fs (saverTraceNt cfg fs body) = some fs' ∧
      fs'.readDest = some (body.writes.map (·.1)).flatten ∧ fs'.dir.part = none := by
  obtain ⟨fs', hx, hi⟩ := saverNt_exec cfg fs body hh hp hd hr
  exact ⟨fs', hx, (ginv_published_read hi rfl).1, GInv.part_none hi (Or.inr rfl)⟩

/-- non-vacuity: over an existing destination the Windows save performs a refused rename, then the replacing step -/
example : let fs0 : FS := ⟨[⟨[7], [], 0o644⟩], ⟨some 0, none⟩, [], none, 0o022⟩
    saverTraceNt {} fs0 ⟨[([1, 2], 0)], false⟩ =
      [.openPart true true 0o644, .noop, .chmodPart 0o644, .write [1, 2] 0, .flush, .fsync, .close, .noop, .renamePartDest] ∧
    (exec fs0 (saverTraceNt {} fs0 ⟨[([1, 2], 0)], false⟩)).map FS.readDest = some (some [1, 2]) := by decide

/-- **A destination path that is a symbolic link** (to a file, or to nothing; `C04.SFS`).  Every accepted
    trace is crash safe at every prefix for what a reader of the PATH finds: after a
    process death exactly the old state (the target's content / no file) or exactly the complete new
    content, the same for every power-loss outcome; until the publishing event the entry is untouched
    (a link stays a link), afterwards the path holds the complete new content and the entry is a file;
    the target's name is never touched and every inode that existed at the start - the target's among
    them - is unchanged. -/
theorem symlinked_dest_crash_safe (s0 : SFS) (t : List Ev) (hwf : s0.abs.WF) (hh : s0.hist = [])
    (hsy : DestSynced s0.abs) (hsafe : SafeTrace t = true) :
    ∀ p q s, t = p ++ q → SFS.exec s0 p = some s →
      (s.abs.destAfterProcCrash = s0.readDest ∨ s.abs.destAfterProcCrash = some (allWrites t)) ∧
      (∀ r, s.abs.PowerDest r → r = s0.readDest ∨ r = some (allWrites t)) ∧
      (publishes p = false → s.abs.destAfterProcCrash = s0.readDest ∧ s.dir.dest = s0.dir.dest) ∧
      (publishes p = true → s.abs.destAfterProcCrash = some (allWrites t) ∧ s.dir.dest ≠ some .link) ∧
      s.dir.tgt = s0.dir.tgt ∧
      (∀ i, i < s0.inodes.length → s.inodes[i]? = s0.inodes[i]?) := by
  intro p q s ht hx
  have hxa := sexec_sim p s0 s hx
  have hh' : s0.abs.hist = [] := by simp [SFS.abs, hh]
  have h1 := safeTrace_crash_safe s0.abs t hwf hh' hsy hsafe p q s.abs ht hxa
  have h2 := safeTrace_live_view s0.abs t hwf hh' hsafe p q s.abs ht hxa
  refine ⟨h1.1, h1.2.1, ?_, ?_, sexec_tgt p s0 s hx, h2.2.1⟩
  · intro hp
    exact ⟨(h1.2.2.1 hp).1, (sexec_dest p s0 s hx).1 hp⟩
  · intro hp
    obtain ⟨i, hi⟩ := (sexec_dest p s0 s hx).2 hp
    exact ⟨h1.2.2.2 hp, by rw [hi]; simp⟩

/-- non-vacuity: the destination is a link to a file with synced content `[7]`; a full save through
    `rename`; afterwards the path reads the new content, the entry is a file, the target still holds `[7]` -/
example : let s0 : SFS := ⟨[⟨[7], [], 0o644⟩], ⟨some .link, none, some 0⟩, [], none, 0o022⟩
    let t := [Ev.openPart true true 0o644, .noop, .chmodPart 0o644, .write [1, 2] 0, .flush, .fsync, .close, .renamePartDest]
    s0.abs.WF ∧ s0.hist = [] ∧ s0.readDest = some [7] ∧ SafeTrace t = true ∧
    (SFS.exec s0 t).map (fun s => (s.readDest, s.dir.dest, s.inodes[0]?.map Inode.cache)) =
      some (some [1, 2], some (.file 1), some [7]) := by decide

/-- a link to nothing: `link part dest` (overwrite=False) refuses, since the NAME exists -/
example : let s0 : SFS := ⟨[], ⟨some .link, none, none⟩, [], none, 0o022⟩
    s0.readDest = none ∧
    SFS.exec s0 [Ev.openPart true true 0o644, .write [1] 0, .flush, .fsync, .close, .linkPartDest] = none ∧
    (SFS.exec s0 [Ev.openPart true true 0o644, .write [1] 0, .flush, .fsync, .close, .renamePartDest]).map SFS.readDest = some (some [1]) := by decide

end C04
