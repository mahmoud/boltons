/-
C09 — SOURCE TIE.  `Generated/Src_iterutils.lean` (`chunk_ranges`, by `harness/py2lean.py`) and
`Generated/Src_iterutils_c09.lean` (the list helpers, by `harness/py2lean_c09.py`, run-time support `PyRtC09.lean`)
are regenerated from the current text of `boltons/iterutils.py` on every run; the theorems below state that each
generated definition IS the hand model (about which `Props.lean` proves the laws), for all arguments.  A semantic
edit of a Python function changes its generated definition and one of these proofs stops checking.

The proofs about `chunk_ranges` do not depend on the SHAPE of the generated definitions (statement order, names and
number of the locals `loc1, loc2, …`, how the loop body spells `min`, `return` vs `break`, whether the overlap is
validated in the function head):
  * the loop of the source is first shown equal to a state-free description `specLoop` by induction
    over the item list; the induction unfolds the regenerated `chunk_ranges.loop1` once and lets
    `simp` / `omega` do the rest (`loop_spec`).  The invariant is "the state agrees with the state at
    loop entry on every variable the loop does not assign" (`Agree W`); the set `W` of assigned
    variables is found by trying the small subsets of positions (`close_loop`), so no field name of the
    state record appears in any statement or script below;
  * `specLoop` over `range(i, stop, step)` is the model's `crLoop` (`specLoop_range_eq_crLoop`,
    source-independent);
  * the function body: the model side goes by the three equations of `chunkRangesNat` (no `align`; `align` and an
    input inside the first chunk; `align` and a longer input), every `if` of the source side is split and each leaf
    is closed by `rfl`, a contradiction between the branch conditions (`omega`), pair equalities (`omega`), or the loop.
The source variants these scripts were run on are listed in `notes/selftest/C09.md`.
-/
import BoltonsVerif.Generated.Src_iterutils
import BoltonsVerif.Generated.Src_iterutils_c09
import BoltonsVerif.PyRtLemmas
import BoltonsVerif.C09.Props

namespace C09

open Src.iterutils

def castPair (p : Nat × Nat) : Int × Int := ((p.1 : Int), (p.2 : Int))

/-- `for i in <items>: yield (i, min(i + cs, stop)); if i + cs >= stop: return` over an arbitrary item list -/
def specLoop (stop cs : Int) : List Int → List (Int × Int)
  | [] => []
  | x :: xs => (x, min (x + cs) stop) :: (if x + cs ≥ stop then [] else specLoop stop cs xs)

/-- non-vacuity of the loop description: three items, the third ends the loop -/
example : specLoop 10 4 [0, 3, 6, 9] = [(0, 4), (3, 7), (6, 10)] := by decide

theorem specLoop_range_eq_crLoop (stop cs step : Nat) (hstep : 0 < step) :
    ∀ (fuel i : Nat), stop - i ≤ fuel →
      specLoop (stop : Int) (cs : Int) (PyRt.range (i : Int) (stop : Int) (step : Int))
        = (crLoop stop cs step fuel i).map castPair := by
  intro fuel
  induction fuel with
  | zero =>
    intro i hf
    rw [PyRt.range_step_pos _ _ _ (by omega), if_neg (by omega)]
    simp [specLoop, crLoop]
  | succ fuel ih =>
    intro i hf
    rw [PyRt.range_step_pos _ _ _ (by omega)]
    by_cases hi : i < stop
    · rw [if_pos (by omega)]
      simp only [specLoop, crLoop, if_pos hi, List.map_cons]
      have hnext := ih (i + step) (by omega)
      rw [Int.natCast_add] at hnext
      congr 1
      · simp only [castPair]; congr 1; omega
      · by_cases hc : stop ≤ i + cs
        · rw [if_pos (by omega), if_pos hc]; rfl
        · rw [if_neg (by omega), if_neg hc]; exact hnext
    · rw [if_neg (by omega)]
      simp [specLoop, crLoop, hi]

/-- the Int-valued variables that may change during a call: `input_offset` and the locals (the alternative with as
    many `loc` fields as the regenerated state record has is the one that elaborates) -/
def stVec : chunk_ranges.St → List Int := by
  first
  | exact fun s => [s.input_offset, s.loc1, s.loc2, s.loc3, s.loc4, s.loc5, s.loc6, s.loc7, s.loc8, s.loc9, s.loc10]
  | exact fun s => [s.input_offset, s.loc1, s.loc2, s.loc3, s.loc4, s.loc5, s.loc6, s.loc7, s.loc8, s.loc9]
  | exact fun s => [s.input_offset, s.loc1, s.loc2, s.loc3, s.loc4, s.loc5, s.loc6, s.loc7, s.loc8]
  | exact fun s => [s.input_offset, s.loc1, s.loc2, s.loc3, s.loc4, s.loc5, s.loc6, s.loc7]
  | exact fun s => [s.input_offset, s.loc1, s.loc2, s.loc3, s.loc4, s.loc5, s.loc6]
  | exact fun s => [s.input_offset, s.loc1, s.loc2, s.loc3, s.loc4, s.loc5]
  | exact fun s => [s.input_offset, s.loc1, s.loc2, s.loc3, s.loc4]
  | exact fun s => [s.input_offset, s.loc1, s.loc2, s.loc3]
  | exact fun s => [s.input_offset, s.loc1, s.loc2]
  | exact fun s => [s.input_offset, s.loc1]
  | exact fun s => [s.input_offset]

def maskFrom (W : List Nat) : Nat → List Int → List Int
  | _, [] => []
  | i, a :: l => (if i ∈ W then 0 else a) :: maskFrom W (i + 1) l

/-- `s` agrees with `s0` on the parameters that never change and on every variable except those at the
    positions `W` (the variables the loop itself assigns) -/
def Agree (W : List Nat) (s0 s : chunk_ranges.St) : Prop :=
  s.input_size = s0.input_size ∧ s.chunk_size = s0.chunk_size ∧ s.overlap_size = s0.overlap_size ∧
  s.align = s0.align ∧ maskFrom W 0 (stVec s) = maskFrom W 0 (stVec s0)

theorem Agree.refl (W : List Nat) (s : chunk_ranges.St) : Agree W s s := ⟨rfl, rfl, rfl, rfl, rfl⟩

/-- the `range` arguments are given up to equality (`ha`, `hb`, `hst`: linear arithmetic at the call), so that the main
    proof does not depend on how the source spells its sums -/
theorem src_loop_tie (W : List Nat) (k kb : chunk_ranges.St → List (Int × Int)) (s0 : chunk_ranges.St)
    (stop cs step fuel i : Nat) (a b st : Int)
    (hspec : ∀ xs s, Agree W s0 s → chunk_ranges.loop1 k kb xs s = specLoop (stop : Int) (cs : Int) xs)
    (hstep : 0 < step) (ha : a = (i : Int)) (hb : b = (stop : Int)) (hst : st = (step : Int))
    (hf : stop - i ≤ fuel) :
    chunk_ranges.loop1 k kb (PyRt.range a b st) s0 = (crLoop stop cs step fuel i).map castPair := by
  subst ha hb hst
  rw [hspec _ _ (Agree.refl W s0)]
  exact specLoop_range_eq_crLoop stop cs step hstep fuel i hf

/-- proves `hspec` of `src_loop_tie` by induction over the items (the step unfolds the regenerated `loop1` once);
    fails at once when `W` misses a variable the loop assigns -/
local macro "loop_spec" : tactic => `(tactic|
  (intro xs
   induction xs with
   | nil => intro s _; simp [chunk_ranges.loop1, specLoop]
   | cons x xs ih =>
     intro s hs
     simp only [chunk_ranges.loop1, specLoop]
     -- the new state still agrees with `s0` outside `W`: both masked vectors compute to the same list, so `hs` itself
     -- proves it up to unfolding (trap: without `apply id` the discharger does not close it and `simp` makes no progress)
     simp (disch := with_unfolding_all (apply id; exact hs)) only [ih]
     simp [Agree, stVec, maskFrom] at hs
     simp only [hs, Int.natCast_add]
     all_goals ((repeat' split) <;> simp_all <;> omega)))

/-- side conditions: linear arithmetic over `Int`/`Nat` casts, possibly behind a record projection -/
local macro "arith" : tactic => `(tactic| first | omega | rfl | (dsimp only <;> omega) | (simp <;> omega))

local macro "close_loop_with " w:term : tactic => `(tactic|
  (refine src_loop_tie $w _ _ _ _ _ _ _ _ _ _ _ ?hspec ?_ ?_ ?_ ?_ ?_
   case hspec => loop_spec
   all_goals arith))

/-- try the sets of loop-assigned variables (positions in `stVec`): none, one, two adjacent or one apart, three
    adjacent - the loop variable and the locals of the loop body are numbered one after the other -/
local macro "close_loop" : tactic => `(tactic| first
  | close_loop_with [] | close_loop_with [1] | close_loop_with [2] | close_loop_with [3] | close_loop_with [4]
  | close_loop_with [5] | close_loop_with [6] | close_loop_with [7] | close_loop_with [8]
  | close_loop_with [1, 2] | close_loop_with [2, 3] | close_loop_with [3, 4] | close_loop_with [4, 5]
  | close_loop_with [5, 6] | close_loop_with [6, 7] | close_loop_with [7, 8] | close_loop_with [8, 9]
  | close_loop_with [1, 3] | close_loop_with [2, 4] | close_loop_with [3, 5] | close_loop_with [4, 6]
  | close_loop_with [5, 7] | close_loop_with [6, 8] | close_loop_with [7, 9]
  | close_loop_with [2, 3, 4] | close_loop_with [3, 4, 5] | close_loop_with [4, 5, 6] | close_loop_with [5, 6, 7]
  | close_loop_with [6, 7, 8] | close_loop_with [7, 8, 9])

/-- a leaf of the case analysis: equal lists of pairs, a contradiction between the branch conditions, or the loop -/
local macro "tie_leaf" : tactic => `(tactic|
  repeat' (first
    | rfl
    | (exfalso; omega)
    | (refine List.cons_eq_cons.2 ⟨?_, ?_⟩)
    | (simp only [castPair]; (congr 1 <;> omega))
    | close_loop))

/-- the generated precondition is exactly "no ValueError" of the model, on the domain the statement covers
    (`overlap_size < chunk_size`; a source that also rejects larger overlaps is as good; the three scripts are for
    the ways the regenerated guard may be spelled) -/
theorem src_chunk_ranges_pre_iff (size cs off ov : Int) (align : Bool) (hov : ov < cs) :
    chunk_ranges_pre size cs off ov align = true ↔ (0 ≤ size ∧ 0 < cs ∧ 0 ≤ off ∧ 0 ≤ ov) := by
  first
  | (simp [chunk_ranges_pre]; omega)
  | (simp [chunk_ranges_pre] <;> omega)
  | (unfold chunk_ranges_pre; grind)

theorem src_chunk_ranges_pre_nat {size cs off ov : Int} {align : Bool}
    (h : chunk_ranges_pre size cs off ov align = true) (hov : ov < cs) :
    ∃ n c o v : Nat, size = n ∧ cs = c ∧ off = o ∧ ov = v ∧ v < c := by
  obtain ⟨h1, h2, h3, h4⟩ := (src_chunk_ranges_pre_iff _ _ _ _ _ hov).1 h
  obtain ⟨n, rfl⟩ := Int.eq_ofNat_of_zero_le h1
  obtain ⟨c, rfl⟩ := Int.eq_ofNat_of_zero_le (Int.le_of_lt h2)
  obtain ⟨o, rfl⟩ := Int.eq_ofNat_of_zero_le h3
  obtain ⟨v, rfl⟩ := Int.eq_ofNat_of_zero_le h4
  exact ⟨n, c, o, v, rfl, rfl, rfl, rfl, Int.ofNat_lt.1 hov⟩

/-- on every validated argument tuple with a positive step (`overlap_size < chunk_size`; otherwise Python raises
    ZeroDivisionError / ValueError or the model is `outside`) -/
theorem src_chunk_ranges_eq_model (size cs off ov : Int) (align : Bool)
    (h : chunk_ranges_pre size cs off ov align = true) (hov : ov < cs) :
    chunk_ranges size cs off ov align
      = (chunkRangesNat size.toNat cs.toNat off.toNat ov.toNat align).map castPair := by
  obtain ⟨n, c, o, v, rfl, rfl, rfl, rfl, hvc⟩ := src_chunk_ranges_pre_nat h hov
  simp only [Int.toNat_natCast]
  -- Python's `%` (`PyRt.mod`, the floor-mod) of non-negative operands is the `%` of `Nat`
  have hmod : PyRt.mod (o : Int) ((c : Int) - (v : Int)) = ((o % (c - v) : Nat) : Int) := by
    unfold PyRt.mod
    rw [← Int.natCast_sub (by omega)]
    rw [Int.fmod_eq_emod_of_nonneg _ (by omega), Int.natCast_emod]
  have hlt : o % (c - v) < c - v := Nat.mod_lt _ (by omega)
  unfold chunk_ranges chunk_ranges.body
  -- the model side by its three equations; every `if` of the source side is split
  cases align with
  | false =>
    rw [chunkRangesNat_false]
    simp only [Bool.false_eq_true, if_false]
    (repeat' split) <;> tie_leaf
  | true =>
    by_cases hshort : n ≤ c - o % (c - v)
    · rw [chunkRangesNat_true_short hvc hshort]
      simp only [if_true, hmod, ne_eq, List.map_cons, List.map_nil]
      generalize o % (c - v) = m at hlt hshort ⊢
      (repeat' split) <;> tie_leaf
    · rw [chunkRangesNat_true_long hvc (Nat.not_le.1 hshort)]
      simp only [if_true, hmod, ne_eq, List.map_cons]
      generalize o % (c - v) = m at hlt hshort ⊢
      (repeat' split) <;> tie_leaf

/-- the `for` loop of the source is the model's `crLoop`: without `align` the function is its loop -/
theorem src_loop_eq_crLoop (n c o v : Nat) (hv : v < c) :
    chunk_ranges (n : Int) (c : Int) (o : Int) (v : Int) false
      = (crLoop (o + n) c (c - v) n o).map castPair := by
  have hpre : chunk_ranges_pre (n : Int) (c : Int) (o : Int) (v : Int) false = true :=
    (src_chunk_ranges_pre_iff _ _ _ _ _ (by omega)).2 (by omega)
  have h := src_chunk_ranges_eq_model (n : Int) (c : Int) (o : Int) (v : Int) false hpre (by omega)
  simpa only [Int.toNat_natCast, chunkRangesNat_false] using h

theorem src_chunk_ranges_eq_chunkRanges (size cs off ov : Int) (align : Bool) (hov : ov < cs) :
    (chunkRanges size cs off ov align).map (fun l => l.map castPair)
      = if chunk_ranges_pre size cs off ov align = true
        then .ok (chunk_ranges size cs off ov align) else .error .valueError := by
  by_cases h : chunk_ranges_pre size cs off ov align = true
  · rw [if_pos h, src_chunk_ranges_eq_model size cs off ov align h hov]
    rw [src_chunk_ranges_pre_iff _ _ _ _ _ hov] at h
    unfold chunkRanges
    rw [if_neg (by omega), if_neg (by omega)]
    rfl
  · rw [if_neg h]
    rw [src_chunk_ranges_pre_iff _ _ _ _ _ hov] at h
    unfold chunkRanges
    rw [if_pos (by omega)]
    rfl

/-- non-vacuity: a validated, aligned, overlapping call (the docstring example) -/
example : chunk_ranges_pre 15 5 3 1 true = true ∧ (1 : Int) < 5 ∧
    chunk_ranges 15 5 3 1 true = [(3, 5), (4, 9), (8, 13), (12, 17), (16, 18)] := by decide

/-- the range laws of the property about the source itself (validated arguments, `overlap_size < chunk_size`, a
    non-empty input): the model laws `chunkRangesNat_ok` carried over the tie `src_chunk_ranges_eq_model` -/
theorem src_chunk_ranges_laws (size cs off ov : Int) (align : Bool)
    (hpre : chunk_ranges_pre size cs off ov align = true) (hov : ov < cs) (hsz : 0 < size) :
    (∀ r ∈ chunk_ranges size cs off ov align, r.1 < r.2 ∧ r.2 - r.1 ≤ cs ∧ off ≤ r.1 ∧ r.2 ≤ off + size) ∧
    (chunk_ranges size cs off ov align).head?.map (·.1) = some off ∧
    (chunk_ranges size cs off ov align).getLast?.map (·.2) = some (off + size) ∧
    (∀ ab ∈ (chunk_ranges size cs off ov align).zip (chunk_ranges size cs off ov align).tail,
        ab.2.1 + ov = ab.1.2) ∧
    (∀ j, off ≤ j → j < off + size → ∃ r ∈ chunk_ranges size cs off ov align, r.1 ≤ j ∧ j < r.2) ∧
    (align = true → ∀ r ∈ (chunk_ranges size cs off ov align).tail, r.1 % (cs - ov) = 0) := by
  rw [src_chunk_ranges_eq_model size cs off ov align hpre hov]
  obtain ⟨n, c, o, v, rfl, rfl, rfl, rfl, hv⟩ := src_chunk_ranges_pre_nat hpre hov
  simp only [Int.toNat_natCast]
  have hn : 0 < n := by omega
  have ok := chunkRangesNat_ok n c o v align hn hv
  generalize chunkRangesNat n c o v align = L at ok ⊢
  refine ⟨?_, ?_, ?_, ?_, ?_, ?_⟩
  · intro r hr
    obtain ⟨p, hp, rfl⟩ := List.mem_map.1 hr
    have := ok.each p hp
    simp only [castPair]; omega
  · have hhead := ok.head
    cases L with
    | nil => simp at hhead
    | cons p t => simp at hhead ⊢; simp [castPair, hhead]
  · have hlast := ok.last
    rw [List.getLast?_map]
    cases hl : L.getLast? with
    | none => simp [hl] at hlast
    | some p => simp [hl] at hlast ⊢; simp [castPair, hlast]
  · intro ab hab
    rw [← List.map_tail, List.zip_map] at hab
    obtain ⟨pq, hpq, rfl⟩ := List.mem_map.1 hab
    have := ok.chain pq hpq
    simp only [Prod.map, castPair]; omega
  · intro j hj1 hj2
    obtain ⟨r, hr, h5, h6⟩ := ok.cover j.toNat (by omega) (by omega)
    exact ⟨castPair r, List.mem_map.2 ⟨r, hr, rfl⟩, by simp only [castPair]; omega, by simp only [castPair]; omega⟩
  · intro hal r hr
    have hal := ok.aligned hal
    rw [← List.map_tail] at hr
    obtain ⟨p, hp, rfl⟩ := List.mem_map.1 hr
    have := hal p hp
    simp only [castPair]
    rw [← Int.natCast_sub (by omega), ← Int.natCast_emod, this]; rfl

example : chunk_ranges_pre 15 5 3 1 true = true ∧ (1 : Int) < 5 ∧ (0 : Int) < 15 := by decide

/-- both outcomes satisfy the property: there is no index to cover -/
theorem src_chunk_ranges_empty_input (cs off ov : Int) (align : Bool)
    (hpre : chunk_ranges_pre 0 cs off ov align = true) (hov : ov < cs) :
    chunk_ranges 0 cs off ov align = if align then [(off, off)] else [] := by
  rw [src_chunk_ranges_eq_model 0 cs off ov align hpre hov]
  obtain ⟨_, c, o, v, _, rfl, rfl, rfl, hv⟩ := src_chunk_ranges_pre_nat hpre hov
  simp only [Int.toNat_natCast, Int.toNat_zero]
  rw [chunk_ranges_empty_input c o v align hv]
  cases align <;> simp [castPair]

example : chunk_ranges_pre 0 5 3 1 true = true ∧ chunk_ranges 0 5 3 1 true = [(3, 3)] := by decide

/-! # the list helpers (`harness/py2lean_c09.py`, `Generated/Src_iterutils_c09.lean`)

The generated definitions return `Except PyRtC09.Err …` (what `list(<generator>)` observes).  `liftErr` carries the
model's results over: same value, `ValueError` / `TypeError` as such (the model's `outside` never occurs on the
domain of the theorems). -/

def liftErr {β : Type} : Except Err β → Except PyRtC09.Err β
  | .ok v => .ok v
  | .error .typeError => .error .typeError
  | .error _ => .error .valueError

theorem src_validate_positive_int_eq_model (v : Int) (strict : Bool) :
    validate_positive_int v strict = liftErr (validatePositiveInt (.int v) strict) := by
  unfold validate_positive_int validatePositiveInt
  simp only [Param.toInt]
  by_cases h1 : v < 0 <;> by_cases h2 : v = 0 <;> cases strict <;> simp [h1, h2, liftErr] <;> omega

example : validate_positive_int 0 true = .error .valueError ∧ validate_positive_int 0 false = .ok 0 ∧
    validate_positive_int 3 true = .ok 3 := by refine ⟨?_, ?_, ?_⟩ <;> rfl

section Chunked
variable {α : Type} [PyRtC09.PyNone α]

/-- one round of the generated loop against one round of `chunkLoop`: `islice` takes / leaves `take n` / `drop n`; the
    source pads, by slice assignment, only a chunk shorter than `size`, where `padTo` appends `size - length` copies to
    every chunk (none to a full one).  `kw` is carried along by the generated loop, never read. -/
theorem src_chunked_loop_eq (n : Nat) (hn : 0 < n) (fill : Option α) (src : List α) (kw : Option α) :
    ∀ (fuel : Nat) (it : List α), it.length + 1 ≤ fuel →
      chunked_iter.loop1 fuel src (n : Int) kw fill.isSome (fill.getD PyRtC09.PyNone.none) (fun c => c) it
        = .ok (chunkLoop n fill fuel it) := by
  intro fuel
  induction fuel with
  | zero => intro it h; omega
  | succ fuel ih =>
    intro it h
    simp only [chunked_iter.loop1, chunkLoop, PyRtC09.isliceTake, PyRtC09.isliceRest, Int.toNat_natCast]
    by_cases he : (it.take n).isEmpty = true
    · have he2 : it.take n = [] := by simpa using he
      simp [he2]
    · have hpos : 0 < it.length := List.length_pos_iff.2 (fun h => he (by simp [h]))
      have hih := ih (it.drop n) (by simp; omega)
      have hn0 : ¬ ((n : Int) < 0) := by omega
      have hlen : (it.take n).length ≤ n := by simp; omega
      cases fill with
      | none =>
        simp only [Option.isSome_none, Option.getD_none] at hih
        simp [he, padTo, hn0, hih, PyRtC09.len]
      | some f =>
        simp only [Option.isSome_some, Option.getD_some] at hih
        simp [he, hih, hn0, padTo, PyRtC09.setSliceFrom, PyRtC09.repeatItem, PyRtC09.len]
        split
        · rw [if_neg (by omega), List.take_of_length_le (by simp)]
        · have h0 : n - min n it.length = 0 := by omega
          simp [h0]

/-- `list(chunked_iter(src, size[, fill=v]))`, run with enough fuel for its `while True:` loop; a non-positive size
    is the model's ValueError -/
theorem src_chunked_iter_eq_model (src : List α) (size : Int) (kw : Option α) (fuel : Nat)
    (hf : src.length + 1 ≤ fuel) :
    chunked_iter src size kw fuel = liftErr (chunkedIter size kw src) := by
  unfold chunked_iter chunkedIter
  rw [src_validate_positive_int_eq_model]
  by_cases hs : size ≤ 0
  · have : size < 0 ∨ size = 0 := by omega
    simp [validatePositiveInt, Param.toInt, hs, liftErr, this]
  · obtain ⟨n, rfl⟩ := Int.eq_ofNat_of_zero_le (show 0 ≤ size by omega)
    have hn : 0 < n := by omega
    have hv1 : ¬ ((n : Int) < 0) := by omega
    have hv2 : n ≠ 0 := by omega
    have hfi := chunkLoop_fuel_indep hn kw (Nat.le_of_succ_le hf) (Nat.le_refl src.length)
    simp only [validatePositiveInt, Param.toInt, hs, liftErr, if_false, Int.toNat_natCast]
    cases kw with
    | none =>
      have hl := src_chunked_loop_eq n hn (none : Option α) src none fuel src hf
      simp only [Option.isSome_none, Option.getD_none] at hl
      cases src with
      | nil => simp [hv1, hv2, chunkLoop]
      | cons x xs => simp [hv1, hv2, hl, hfi]
    | some v =>
      have hl := src_chunked_loop_eq n hn (some v) src none fuel src hf
      simp only [Option.isSome_some, Option.getD_some] at hl
      cases src with
      | nil => simp [hv1, hv2, chunkLoop]
      | cons x xs => simp [hv1, hv2, hl, hfi]

/-- the chunking law about the source itself: `chunked_concat` carried over the tie -/
theorem src_chunked_iter_concat (src : List α) (size : Int) (hs : 0 < size) (fuel : Nat)
    (hf : src.length + 1 ≤ fuel) :
    ∃ chunks, chunked_iter src size none fuel = .ok chunks ∧ chunks.flatten = src := by
  rw [src_chunked_iter_eq_model src size none fuel hf]
  have h := chunked_concat hs src
  unfold chunked at h
  simp only at h
  cases hc : chunkedIter size (none : Option α) src with
  | error e => simp [hc] at h
  | ok l => exact ⟨l, rfl, by simpa [hc] using h⟩

end Chunked

/-- non-vacuity: the docstring examples, `fill` absent / given, and a rejected size -/
example : (letI : PyRtC09.PyNone Int := ⟨-1⟩
    chunked_iter ([0, 1, 2, 3, 4, 5, 6, 7] : List Int) 3 none 9 = .ok [[0, 1, 2], [3, 4, 5], [6, 7]] ∧
    chunked_iter ([0, 1, 2, 3, 4, 5, 6, 7] : List Int) 3 (some 9) 9 = .ok [[0, 1, 2], [3, 4, 5], [6, 7, 9]] ∧
    chunked_iter ([0, 1] : List Int) 0 none 3 = .error .valueError) := by
  refine ⟨?_, ?_, ?_⟩ <;> rfl


section Keyed
variable {α κ β : Type} [DecidableEq κ]

theorem src_unique_loop_eq (f key : α → κ) (src0 : List α) : ∀ (xs : List α) (seen : List κ),
    unique_iter.loop1 xs src0 key f seen = .ok (uniqueLoop f xs seen) := by
  intro xs
  induction xs with
  | nil => intro seen; simp [unique_iter.loop1, uniqueLoop]
  | cons x xs ih =>
    intro seen
    simp only [unique_iter.loop1, uniqueLoop]
    by_cases h : f x ∈ seen <;> simp [h, ih]

/-- `keyFunc self (.func key)` is the model's dispatch of a callable `key` argument; `self` plays no role in it -/
theorem src_unique_iter_eq_model (self : α → κ) (src : List α) (key : α → κ) :
    unique_iter src key = .ok (unique (keyFunc self (.func key)) src) := by
  simp [unique_iter, unique, keyFunc, src_unique_loop_eq]

/-- the `unique` law about the source itself: `unique_first_occurrences` carried over the tie -/
theorem src_unique_iter_first_occurrences (src : List α) (key : α → κ) :
    ∃ out, unique_iter src key = .ok out ∧ out.Sublist src ∧ (out.map key).Nodup ∧
      (∀ x ∈ src, key x ∈ out.map key) ∧
      (∀ y ∈ out, src.find? (fun x => decide (key x = key y)) = some y) := by
  refine ⟨unique key src, ?_, unique_first_occurrences key src⟩
  simpa [keyFunc] using src_unique_iter_eq_model key src key

example : unique_iter [4, 1, 5, 7, 2, 3] (fun x => x % 3) = .ok [4, 5, 3] := by rfl

end Keyed

section NoKey
variable {α : Type} [DecidableEq α]

theorem src_unique_nokey_loop_eq (f : α → α) (src0 : List α) : ∀ (xs : List α) (seen : List α),
    unique_iter_nokey.loop1 xs src0 f seen = .ok (uniqueLoop f xs seen) := by
  intro xs
  induction xs with
  | nil => intro seen; simp [unique_iter_nokey.loop1, uniqueLoop]
  | cons x xs ih =>
    intro seen
    simp only [unique_iter_nokey.loop1, uniqueLoop]
    by_cases h : f x ∈ seen <;> simp [h, ih]

theorem src_unique_iter_nokey_eq_model (src : List α) :
    unique_iter_nokey src = .ok (unique (keyFunc (fun x => x) (.none : KeyArg α α)) src) := by
  simp [unique_iter_nokey, unique, keyFunc, src_unique_nokey_loop_eq]

example : unique_iter_nokey [1, 2, 1, 3, 2] = .ok [1, 2, 3] := by rfl

end NoKey

section Bucket
variable {α κ β : Type} [DecidableEq κ]

theorem rt_setdefaultAppend_eq (k : κ) (v : β) : ∀ l : List (κ × List β),
    PyRtC09.setdefaultAppend k v l = setdefaultAppend k v l := by
  intro l
  induction l with
  | nil => rfl
  | cons e l ih => obtain ⟨k1, vs⟩ := e; simp only [PyRtC09.setdefaultAppend, setdefaultAppend, ih]

theorem rt_dictGet_eq (k : κ) : ∀ l : List (κ × β), PyRtC09.dictGet? k l = lookup k l := by
  intro l
  induction l with
  | nil => rfl
  | cons e l ih => obtain ⟨k1, v⟩ := e; simp only [PyRtC09.dictGet?, lookup, ih]

theorem src_bucketize_loop_eq (f key : α → κ) (g : α → β) (kf : κ → Bool) (src0 : List α) :
    ∀ (xs : List α) (ret : List (κ × List β)),
      bucketize.loop1 xs src0 key g kf f ret = .ok (bucketLoop f g kf xs ret) := by
  intro xs
  induction xs with
  | nil => intro ret; simp [bucketize.loop1, bucketLoop]
  | cons x xs ih =>
    intro ret
    simp only [bucketize.loop1, bucketLoop, rt_setdefaultAppend_eq]
    by_cases h : kf (f x) = true <;> simp [h, ih]

theorem src_bucketize_eq_model (src : List α) (key : α → κ) (g : α → β) (kf : κ → Bool) :
    Src.iterutils.bucketize src key g kf = .ok (C09.bucketize key g kf src) := by
  simp [Src.iterutils.bucketize, C09.bucketize, src_bucketize_loop_eq]

theorem src_bucketize_plain_loop_eq (f key : α → κ) (g : α → α) (src0 : List α) :
    ∀ (xs : List α) (ret : List (κ × List α)),
      bucketize_plain.loop1 xs src0 key f g ret = .ok (bucketLoop f g (fun _ => true) xs ret) := by
  intro xs
  induction xs with
  | nil => intro ret; simp [bucketize_plain.loop1, bucketLoop]
  | cons x xs ih =>
    intro ret
    simp [bucketize_plain.loop1, bucketLoop, rt_setdefaultAppend_eq, ih]

/-- `bucketize(src, key)`: no transform, no filter -/
theorem src_bucketize_plain_eq_model (src : List α) (key : α → κ) :
    bucketize_plain src key = .ok (C09.bucketize key id (fun _ => true) src) := by
  simp only [bucketize_plain, C09.bucketize, src_bucketize_plain_loop_eq]
  rfl

/-- `t` / `fl` are the keys equal to `True` / `False` -/
theorem src_partition_eq_model (t fl : κ) (src : List α) (key : α → κ) :
    Src.iterutils.partition t fl src key = .ok (C09.partition key t fl src) := by
  simp [Src.iterutils.partition, C09.partition, src_bucketize_plain_eq_model, rt_dictGet_eq]

/-- the bucket law about the source itself: `bucketize_partition_of_input` carried over the tie -/
theorem src_bucketize_partition_of_input (src : List α) (key : α → κ) (g : α → β) (kf : κ → Bool) :
    ∃ d, Src.iterutils.bucketize src key g kf = .ok d ∧ (keysOf d).Nodup ∧
      (∀ e ∈ d, e.2 = (src.filter (fun x => decide (key x = e.1))).map g ∧ e.2 ≠ [] ∧ kf e.1 = true) ∧
      (∀ x ∈ src, kf (key x) = true → ∃ e ∈ d, e.1 = key x) ∧
      sumLens d = (src.filter (fun x => kf (key x))).length :=
  ⟨_, src_bucketize_eq_model src key g kf, bucketize_partition_of_input key g kf src⟩

example : Src.iterutils.bucketize [0, 1, 2, 3, 4] (fun x => x % 2) (fun x => x + 10) (fun _ => true)
    = .ok [(0, [10, 12, 14]), (1, [11, 13])] := by rfl
example : Src.iterutils.partition 1 0 [0, 1, 2, 3, 4] (fun x => x % 2) = .ok ([1, 3], [0, 2, 4]) := by rfl

end Bucket

/-! ## `split_iter` (sep a callable / an item value / `None`; `maxsplit` an int or `None`)

The source re-binds `sep_func` to the constant-False function once the limit is reached; the model keeps the
test `p` and a flag `frozen`.  Invariant of the loop: `sep_func = if frozen then (fun _ => false) else p`, and
`split_count` is the model's counter. -/

section Split
variable {α : Type}

/-- the separator test the loop of the source holds when the model's flag is `frozen` -/
def sepFn (p : α → Bool) (frozen : Bool) : α → Bool := if frozen then (fun _ => false) else p

theorem sepFn_apply (p : α → Bool) (frozen : Bool) (x : α) : sepFn p frozen x = (!frozen && p x) := by
  cases frozen <;> rfl

/-- what the source does to `sep_func` at the head of each round: `if maxsplit is not None and split_count >= maxsplit
    and (cur_group or sep is not None): def sep_func(x): return False` -/
def rebind (grouping : Bool) (ms : Option Int) (cur : List α) (cnt : Int) (sf : α → Bool) : α → Bool :=
  if (match ms with | none => false | some m => decide (cnt ≥ m)) && (!cur.isEmpty || !grouping) then fun _ => false
  else sf

theorem rebind_sepFn (p : α → Bool) (grouping : Bool) (ms : Option Int) (cur : List α) (cnt : Nat) (frozen : Bool) :
    rebind grouping ms cur (cnt : Int) (sepFn p frozen) = sepFn p (freeze grouping (ms.map Int.toNat) cur cnt frozen) := by
  have hlim : (match ms with | none => false | some m => decide ((cnt : Int) ≥ m)) =
      limitReached (ms.map Int.toNat) cnt := by
    cases ms with
    | none => rfl
    | some m => simp only [limitReached, Option.map_some]; rw [Bool.eq_iff_iff]; simp
  unfold rebind freeze
  rw [hlim]
  cases frozen <;> cases (limitReached (ms.map Int.toNat) cnt && (!cur.isEmpty || !grouping)) <;> rfl

/-- one theorem for the three generated loops (one source loop, specialised by the kind of `sep`): `L` is a generated
    `loop1` with the arguments it only carries along fixed; `hnil` / `hcons` say what it does at the end of the input
    and on one item -/
theorem src_split_loop_tie (p : α → Bool) (grouping : Bool) (ms : Option Int)
    (L : List α → (α → Bool) → List α → Int → Except PyRtC09.Err (List (List α)))
    (hnil : ∀ sf cur cnt, L [] sf cur cnt = .ok (if !cur.isEmpty || !grouping then [cur] else []))
    (hcons : ∀ s rest sf cur cnt, L (s :: rest) sf cur cnt =
      if rebind grouping ms cur cnt sf s then
        if grouping && cur.isEmpty then L rest (rebind grouping ms cur cnt sf) cur cnt
        else PyRtC09.yieldThen cur (L rest (rebind grouping ms cur cnt sf) [] (cnt + 1))
      else L rest (rebind grouping ms cur cnt sf) (cur ++ [s]) cnt) :
    ∀ (xs cur : List α) (cnt : Nat) (frozen : Bool),
      L xs (sepFn p frozen) cur (cnt : Int) = .ok (splitLoop p grouping (ms.map Int.toNat) xs cur cnt frozen) := by
  intro xs
  induction xs with
  | nil => intro cur cnt frozen; rw [hnil, splitLoop]
  | cons x xs ih =>
    intro cur cnt frozen
    have ih1 := ih [] (cnt + 1)
    rw [Int.natCast_add, Int.natCast_one] at ih1
    rw [hcons, rebind_sepFn, splitLoop, sepFn_apply]
    split
    · split
      · exact ih _ _ _
      · rw [ih1]; rfl
    · exact ih _ _ _

/-! the three instances: each script only brings the regenerated text of its `loop1` into the form of `hnil` / `hcons` -/

theorem src_split_func_loop_eq (p sep : α → Bool) (src0 : List α) (ms : Option Int) :
    ∀ (xs cur : List α) (cnt : Nat) (frozen : Bool),
      split_iter_func.loop1 xs src0 sep ms (sepFn p frozen) cur (cnt : Int)
        = .ok (splitLoop p false (ms.map Int.toNat) xs cur cnt frozen) :=
  src_split_loop_tie p false ms (fun xs sf cur cnt => split_iter_func.loop1 xs src0 sep ms sf cur cnt)
    (by intro sf cur cnt; simp [split_iter_func.loop1])
    (by
      intro s rest sf cur cnt
      simp only [split_iter_func.loop1, rebind]
      cases ms with
      | none => simp
      | some m => by_cases h : cnt ≥ m <;> simp [h])

theorem src_split_value_loop_eq (p : α → Bool) (eqv : α → α → Bool) (sep : α) (src0 : List α) (ms : Option Int) :
    ∀ (xs cur : List α) (cnt : Nat) (frozen : Bool),
      split_iter_value.loop1 xs eqv src0 sep ms (sepFn p frozen) cur (cnt : Int)
        = .ok (splitLoop p false (ms.map Int.toNat) xs cur cnt frozen) :=
  src_split_loop_tie p false ms (fun xs sf cur cnt => split_iter_value.loop1 xs eqv src0 sep ms sf cur cnt)
    (by intro sf cur cnt; simp [split_iter_value.loop1])
    (by
      intro s rest sf cur cnt
      simp only [split_iter_value.loop1, rebind]
      cases ms with
      | none => simp
      | some m => by_cases h : cnt ≥ m <;> simp [h])

theorem src_split_none_loop_eq (p : α → Bool) (isNone : α → Bool) (src0 : List α) (ms : Option Int) :
    ∀ (xs cur : List α) (cnt : Nat) (frozen : Bool),
      split_iter_none.loop1 xs isNone src0 ms (sepFn p frozen) cur (cnt : Int)
        = .ok (splitLoop p true (ms.map Int.toNat) xs cur cnt frozen) :=
  src_split_loop_tie p true ms (fun xs sf cur cnt => split_iter_none.loop1 xs isNone src0 ms sf cur cnt)
    (by intro sf cur cnt; cases hc : cur.isEmpty <;> simp [split_iter_none.loop1, hc])
    (by
      intro s rest sf cur cnt
      simp only [split_iter_none.loop1, rebind]
      cases ms with
      | none => simp
      | some m =>
        by_cases h : cnt ≥ m <;> rcases Bool.eq_false_or_eq_true cur.isEmpty with hc | hc <;> simp [h, hc])

theorem src_split_iter_func_eq_model (eqv : α → α → Bool) (isNone : α → Bool) (src : List α) (sep : α → Bool)
    (ms : Option Int) :
    split_iter_func src sep ms = .ok (splitS eqv isNone (.func sep) (ms.map Param.int) src) := by
  have h := src_split_func_loop_eq sep sep src ms src [] 0 false
  simp only [sepFn, Bool.false_eq_true, if_false] at h
  simp only [split_iter_func, splitS, split, sepFunc, Sep.isNone, map_toInt_map_int]
  exact h

/-- `sep` an item value (a non-iterable, non-callable object); `eqv` is Python's `==` on items -/
theorem src_split_iter_value_eq_model (eqv : α → α → Bool) (isNone : α → Bool) (src : List α) (sep : α)
    (ms : Option Int) :
    split_iter_value eqv src sep ms = .ok (splitS eqv isNone (.value sep) (ms.map Param.int) src) := by
  have h := src_split_value_loop_eq (fun x => eqv x sep) eqv sep src ms src [] 0 false
  simp only [sepFn, Bool.false_eq_true, if_false] at h
  simp only [split_iter_value, splitS, split, sepFunc, Sep.isNone, map_toInt_map_int]
  exact h

/-- `sep=None` (grouping mode); `isNone x` is `x == None` -/
theorem src_split_iter_none_eq_model (eqv : α → α → Bool) (isNone : α → Bool) (src : List α) (ms : Option Int) :
    split_iter_none isNone src ms = .ok (splitS eqv isNone .none (ms.map Param.int) src) := by
  have h := src_split_none_loop_eq (fun x => isNone x) isNone src ms src [] 0 false
  simp only [sepFn, Bool.false_eq_true, if_false] at h
  simp only [split_iter_none, splitS, split, sepFunc, Sep.isNone, map_toInt_map_int]
  exact h

/-- the split law about the source itself: `splitS_eq_pySplit` carried over the tie, here for an item value (the
    other two kinds of separator go the same way) -/
theorem src_split_iter_value_eq_pySplit (eqv : α → α → Bool) (isNone : α → Bool) (src : List α) (sep : α)
    (ms : Option Int) :
    split_iter_value eqv src sep ms
      = .ok (pySplit (fun x => eqv x sep) false (ms.map Int.toNat) src) := by
  rw [src_split_iter_value_eq_model eqv isNone, splitS_eq_pySplit, map_toInt_map_int]
  rfl

example : split_iter_value (fun a b => decide (a = b)) [1, 0, 2, 0, 0, 3] 0 none = .ok [[1], [2], [], [3]] := by rfl
example : split_iter_value (fun a b => decide (a = b)) [1, 0, 2, 0, 0, 3] 0 (some 1) = .ok [[1], [2, 0, 0, 3]] := by rfl
example : split_iter_none (fun a => decide (a = 0)) [0, 1, 0, 0, 2, 0] none = .ok [[1], [2]] := by rfl
example : split_iter_func [1, 5, 2, 7, 3] (fun x => decide (x > 4)) (some 1) = .ok [[1], [2, 7, 3]] := by rfl

end Split

/-! ## the list-returning forms (`return list(<generator form>(…))`): same model, and the two forms of the
source agree (the last sentence of the property, about the generated definitions) -/

section ListForms
variable {α κ : Type}

theorem src_chunked_nocount_eq_model [PyRtC09.PyNone α] (src : List α) (size : Int) (kw : Option α) (fuel : Nat)
    (hf : src.length + 1 ≤ fuel) :
    chunked_nocount src size kw fuel = liftErr (chunked size none kw src) := by
  simp only [chunked_nocount, chunked]
  exact src_chunked_iter_eq_model src size kw fuel hf

theorem src_unique_list_eq_model [DecidableEq κ] (self : α → κ) (src : List α) (key : α → κ) :
    unique_list src key = .ok (C09.unique (keyFunc self (.func key)) src) := by
  simp only [unique_list]
  exact src_unique_iter_eq_model self src key

theorem src_unique_list_nokey_eq_model [DecidableEq α] (src : List α) :
    unique_list_nokey src = .ok (C09.unique (keyFunc (fun x => x) (.none : KeyArg α α)) src) := by
  simp only [unique_list_nokey]
  exact src_unique_iter_nokey_eq_model src

theorem src_split_func_eq_model (eqv : α → α → Bool) (isNone : α → Bool) (src : List α) (sep : α → Bool)
    (ms : Option Int) :
    split_func src sep ms = .ok (splitS eqv isNone (.func sep) (ms.map Param.int) src) := by
  simp only [split_func]
  exact src_split_iter_func_eq_model eqv isNone src sep ms

theorem src_split_value_eq_model (eqv : α → α → Bool) (isNone : α → Bool) (src : List α) (sep : α)
    (ms : Option Int) :
    split_value eqv src sep ms = .ok (splitS eqv isNone (.value sep) (ms.map Param.int) src) := by
  simp only [split_value]
  exact src_split_iter_value_eq_model eqv isNone src sep ms

theorem src_split_none_eq_model (eqv : α → α → Bool) (isNone : α → Bool) (src : List α) (ms : Option Int) :
    split_none isNone src ms = .ok (splitS eqv isNone .none (ms.map Param.int) src) := by
  simp only [split_none]
  exact src_split_iter_none_eq_model eqv isNone src ms

/-- the `*_iter` forms of the source yield what the list forms return (whenever both are inside the translated
    subset, i.e. whenever this file checks): stated through the models, so it does not depend on how the list
    forms are written -/
theorem src_iter_forms_eq_list_forms [PyRtC09.PyNone α] [DecidableEq κ] [DecidableEq α]
    (eqv : α → α → Bool) (isNone : α → Bool) (src : List α) (size : Int) (kw : Option α) (fuel : Nat)
    (hf : src.length + 1 ≤ fuel) (key : α → κ) (sepf : α → Bool) (sepv : α) (ms : Option Int) :
    chunked_nocount src size kw fuel = chunked_iter src size kw fuel ∧
    unique_list src key = unique_iter src key ∧
    unique_list_nokey src = unique_iter_nokey src ∧
    split_func src sepf ms = split_iter_func src sepf ms ∧
    split_value eqv src sepv ms = split_iter_value eqv src sepv ms ∧
    split_none isNone src ms = split_iter_none isNone src ms := by
  refine ⟨?_, ?_, ?_, ?_, ?_, ?_⟩
  · rw [src_chunked_nocount_eq_model src size kw fuel hf, src_chunked_iter_eq_model src size kw fuel hf]; rfl
  · rw [src_unique_list_eq_model key, src_unique_iter_eq_model key]
  · rw [src_unique_list_nokey_eq_model, src_unique_iter_nokey_eq_model]
  · rw [src_split_func_eq_model eqv isNone, src_split_iter_func_eq_model eqv isNone]
  · rw [src_split_value_eq_model eqv isNone, src_split_iter_value_eq_model eqv isNone]
  · rw [src_split_none_eq_model eqv isNone, src_split_iter_none_eq_model eqv isNone]

example : split_value (fun a b => decide (a = b)) [1, 0, 2] 0 none = .ok [[1], [2]] := by rfl
example : unique_list_nokey [3, 3, 1] = .ok [3, 1] := by rfl

end ListForms

/-! ## `lstrip_iter` / `lstrip` (two `for` loops over one iterator; `eqv` is Python's `==` on items, `!=` its negation) -/

section Strip
variable {α : Type}

theorem src_lstrip_loop2_eq (eqv : α → α → Bool) (it0 : List α) (v : α) : ∀ (xs it : List α),
    lstrip_iter.loop2 xs eqv it0 v it = .ok xs := by
  intro xs
  induction xs with
  | nil => intro it; simp [lstrip_iter.loop2]
  | cons x xs ih => intro it; simp [lstrip_iter.loop2, ih]

theorem src_lstrip_loop1_eq (eqv : α → α → Bool) (it0 : List α) (v : α) : ∀ (xs it : List α),
    lstrip_iter.loop1 xs eqv it0 v it = .ok (lstrip (fun x => eqv x v) xs) := by
  intro xs
  induction xs with
  | nil => intro it; simp [lstrip_iter.loop1, lstrip_iter.loop2, lstrip]
  | cons x xs ih =>
    intro it
    simp only [lstrip_iter.loop1, lstrip]
    by_cases h : eqv x v = true <;> simp [h, ih, src_lstrip_loop2_eq]

theorem src_lstrip_iter_eq_model (eqv : α → α → Bool) (src : List α) (v : α) :
    lstrip_iter eqv src v = .ok (lstrip (fun x => eqv x v) src) := by
  simp only [lstrip_iter]
  exact src_lstrip_loop1_eq eqv src v src src

theorem src_lstrip_list_eq_model (eqv : α → α → Bool) (src : List α) (v : α) :
    lstrip_list eqv src v = .ok (lstrip (fun x => eqv x v) src) := by
  simp only [lstrip_list]
  exact src_lstrip_iter_eq_model eqv src v

/-- the strip law about the source itself: `lstrip_eq_pyLstrip` carried over the tie -/
theorem src_lstrip_iter_eq_dropWhile (eqv : α → α → Bool) (src : List α) (v : α) :
    lstrip_iter eqv src v = .ok (src.dropWhile (fun x => eqv x v)) := by
  rw [src_lstrip_iter_eq_model, lstrip_eq_pyLstrip]; rfl

example : lstrip_iter (fun a b => decide (a = b)) [0, 0, 1, 0, 2, 0] 0 = .ok [1, 0, 2, 0] := by rfl

end Strip

end C09
