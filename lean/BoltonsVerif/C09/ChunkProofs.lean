import BoltonsVerif.C09.Model
/-
chunked / chunked_iter: `chunkLoop_blocks` says where the loop cuts; every chunk law is read off it.
-/
namespace C09
variable {α : Type}

theorem chunkLoop_nil (size : Nat) (fill : Option α) (fuel : Nat) :
    chunkLoop size fill fuel ([] : List α) = [] := by
  cases fuel <;> simp [chunkLoop]

/-- where `chunkLoop` cuts `src`: blocks of exactly `size` items, then a last block of at most `size` items (empty when
    nothing is left), the only one that is padded.  Neither the fill value nor the fuel (once it suffices) has a say in
    where the cuts are. -/
structure ChunkCut (size : Nat) (src : List α) (blocks : List (List α)) (last : List α) : Prop where
  input : src = blocks.flatten ++ last
  full : ∀ b ∈ blocks, b.length = size
  short : last.length ≤ size
  output : ∀ (fill : Option α) (fuel : Nat), src.length ≤ fuel →
    chunkLoop size fill fuel src = blocks ++ (if last = [] then [] else [padTo size fill last])

theorem chunkLoop_blocks {size : Nat} (hs : 0 < size) (src : List α) :
    ∃ blocks last, ChunkCut size src blocks last := by
  induction hn : src.length using Nat.strongRecOn generalizing src with
  | ind n ih =>
    subst hn
    by_cases hlen : src.length ≤ size
    · refine ⟨[], src, by simp, by simp, hlen, fun fill fuel hf => ?_⟩
      by_cases hne : src = []
      · simp [hne, chunkLoop_nil]
      · obtain ⟨m, rfl⟩ : ∃ m, fuel = m + 1 := ⟨fuel - 1, by have := List.length_pos_iff.2 hne; omega⟩
        simp [chunkLoop, List.take_of_length_le hlen, List.drop_of_length_le hlen, chunkLoop_nil, hne]
    · obtain ⟨blocks, last, cut⟩ := ih _ (by simp; omega) (src.drop size) rfl
      refine ⟨src.take size :: blocks, last, ?_, ?_, cut.short, fun fill fuel hf => ?_⟩
      · rw [List.flatten_cons, List.append_assoc, ← cut.input, List.take_append_drop]
      · intro b hb
        rcases List.mem_cons.1 hb with rfl | hb
        · simp; omega
        · exact cut.full b hb
      · obtain ⟨m, rfl⟩ : ∃ m, fuel = m + 1 := ⟨fuel - 1, by omega⟩
        have he : (src.take size).isEmpty = false := by
          rw [List.isEmpty_eq_false_iff, ← List.length_pos_iff, List.length_take]; omega
        have hp : padTo size fill (src.take size) = src.take size := by
          cases fill with
          | none => rfl
          | some f => simp [padTo]; omega
        rw [chunkLoop, he, hp, cut.output fill m (by simp; omega)]
        rfl

theorem flatten_take_prefix (l : List (List α)) (c : Nat) : (l.take c).flatten <+: l.flatten := by
  refine ⟨(l.drop c).flatten, ?_⟩
  rw [← List.flatten_append, List.take_append_drop]

theorem chunked_none_ok {size : Int} (hs : 0 < size) (fill : Option α) (src : List α) :
    chunked size none fill src = .ok (chunkLoop size.toNat fill src.length src) := by
  have h : ¬ size ≤ 0 := by omega
  simp only [chunked, chunkedIter, h, ↓reduceIte]

theorem chunkLoop_fuel_indep {size : Nat} (hs : 0 < size) (fill : Option α) {f1 f2 : Nat} {src : List α}
    (h1 : src.length ≤ f1) (h2 : src.length ≤ f2) : chunkLoop size fill f1 src = chunkLoop size fill f2 src := by
  obtain ⟨_, _, cut⟩ := chunkLoop_blocks hs src
  rw [cut.output fill f1 h1, cut.output fill f2 h2]

end C09
