import BoltonsVerif.C09.SplitProofs
/-
The item-wise `str.split` on its own.  `pySplitSep` is reasoned about by the first separator of its input
(`sep_induction` and the three equations before it), `pySplitWs` word by word (`ws_induction`, in `SplitProofs.lean`).
With a `maxsplit` the output is still determined: in separator mode by piece count, separator-free pieces and `join`
(`eq_pySplitSep_of_join`), in whitespace mode as the first `m` words and the verbatim remainder (`pySplitWs_maxsplit`).
-/
namespace C09
variable {α : Type}

theorem pySplitSep_free (p : α → Bool) (ms : Option Nat) (src : List α) (h : ∀ x ∈ src, p x = false) :
    pySplitSep p ms src = [src] := by
  induction src with
  | nil => simp [pySplitSep]
  | cons x xs ih =>
    rw [pySplitSep_cons, ih (fun y hy => h y (List.mem_cons_of_mem _ hy))]
    have hx : p x = false := h x (by simp)
    simp [hx, consHead]

theorem pySplitSep_zero (p : α → Bool) (src : List α) : pySplitSep p (some 0) src = [src] := by
  induction src with
  | nil => simp [pySplitSep]
  | cons x xs ih => rw [pySplitSep_cons, ih]; simp [consHead]

theorem pySplitSep_append_free (p : α → Bool) (ms : Option Nat) (g : List α) (s : α) (tl : List α)
    (hg : ∀ x ∈ g, p x = false) (hs : p s = true) (hms : ms ≠ some 0) :
    pySplitSep p ms (g ++ s :: tl) = g :: pySplitSep p (ms.map Nat.pred) tl := by
  induction g with
  | nil =>
    rw [List.nil_append, pySplitSep_cons]
    have : (ms != some 0) = true := by simpa using hms
    simp [hs, this]
  | cons y ys ih =>
    rw [List.cons_append, pySplitSep_cons, ih (fun x hx => hg x (List.mem_cons_of_mem _ hx))]
    have hy : p y = false := hg y (by simp)
    simp [hy, consHead]

/-- induction over a list by its first separator: it has none, or it is `g ++ s :: tl` with no separator in `g`; the
    three equations above say what `pySplitSep` does in each case -/
theorem sep_induction (p : α → Bool) {motive : List α → Prop}
    (free : ∀ l, (∀ x ∈ l, p x = false) → motive l)
    (cut : ∀ g s tl, (∀ x ∈ g, p x = false) → p s = true → motive tl → motive (g ++ s :: tl)) :
    ∀ l, motive l := by
  intro l
  induction hn : l.length using Nat.strongRecOn generalizing l with
  | ind n ih =>
    subst hn
    have hg : ∀ x ∈ l.takeWhile (notp p), p x = false := fun x hx => by
      simpa [notp] using List.all_eq_true.1 List.all_takeWhile x hx
    have hlen : (l.dropWhile (notp p)).length ≤ l.length := (List.dropWhile_sublist _).length_le
    rw [← List.takeWhile_append_dropWhile (p := notp p) (l := l)]
    cases hd : l.dropWhile (notp p) with
    | nil => rw [List.append_nil]; exact free _ hg
    | cons s tl =>
      have hs : notp p s = false := by
        have := List.head_dropWhile_not (notp p) (l := l) (by simp [hd])
        simpa [hd] using this
      rw [hd, List.length_cons] at hlen
      exact cut _ s tl hg (by simpa [notp] using hs) (ih _ hlen tl rfl)

/-- how many of `c` separators a `maxsplit` of `ms` lets `str.split` cut at -/
def cuts (ms : Option Nat) (c : Nat) : Nat :=
  match ms with
  | none => c
  | some m => min c m

theorem cuts_some (m c : Nat) : cuts (some m) c = min c m := rfl

theorem cuts_zero (ms : Option Nat) : cuts ms 0 = 0 := by cases ms <;> simp [cuts]

theorem cuts_succ {ms : Option Nat} (h : ms ≠ some 0) (c : Nat) : cuts ms (c + 1) = cuts (ms.map Nat.pred) c + 1 := by
  cases ms with
  | none => rfl
  | some m => have : m ≠ 0 := fun e => h (by rw [e]); simp only [cuts, Option.map_some, Nat.pred_eq_sub_one]; omega

theorem pySplitSep_length (p : α → Bool) (ms : Option Nat) (src : List α) :
    (pySplitSep p ms src).length = cuts ms (src.countP p) + 1 := by
  induction src using sep_induction p generalizing ms with
  | free l hl => rw [pySplitSep_free p ms l hl, List.countP_eq_zero.2 (by simpa using hl), cuts_zero]; rfl
  | cut g s tl hg hs ih =>
    by_cases h0 : ms = some 0
    · subst h0; rw [pySplitSep_zero, cuts_some, Nat.min_zero]; rfl
    · have hc : (g ++ s :: tl).countP p = tl.countP p + 1 := by
        rw [List.countP_append, List.countP_cons_of_pos hs, List.countP_eq_zero.2 (by simpa using hg), Nat.zero_add]
      rw [pySplitSep_append_free p ms g s tl hg hs h0, List.length_cons, ih, hc, cuts_succ h0]

theorem pySplitSep_dropLast_free (p : α → Bool) (ms : Option Nat) (src : List α) :
    ∀ g ∈ (pySplitSep p ms src).dropLast, ∀ x ∈ g, p x = false := by
  induction src using sep_induction p generalizing ms with
  | free l hl => rw [pySplitSep_free p ms l hl]; simp
  | cut g s tl hg hs ih =>
    by_cases h0 : ms = some 0
    · subst h0; rw [pySplitSep_zero]; simp
    · rw [pySplitSep_append_free p ms g s tl hg hs h0, List.dropLast_cons_of_ne_nil (pySplitSep_ne_nil _ _ _)]
      intro g' hg'
      rcases List.mem_cons.1 hg' with rfl | hg'
      · exact hg
      · exact ih _ g' hg'

/-- without a `maxsplit` the last piece is separator-free too -/
theorem pySplitSep_none_free (p : α → Bool) (src : List α) :
    ∀ g ∈ pySplitSep p none src, ∀ x ∈ g, p x = false := by
  induction src using sep_induction p with
  | free l hl => rw [pySplitSep_free p none l hl]; simpa using hl
  | cut g s tl hg hs ih =>
    rw [pySplitSep_append_free p none g s tl hg hs (by simp)]
    intro g' hg'
    rcases List.mem_cons.1 hg' with rfl | hg'
    · exact hg
    · exact ih g' hg'

theorem pySplitSep_join [DecidableEq α] (s : α) (ms : Option Nat) (src : List α) :
    [s].intercalate (pySplitSep (fun x => decide (x = s)) ms src) = src := by
  induction src using sep_induction (fun x => decide (x = s)) generalizing ms with
  | free l hl => rw [pySplitSep_free _ ms l hl]; simp [List.intercalate]
  | cut g s' tl hg hs ih =>
    obtain rfl : s' = s := by simpa using hs
    by_cases h0 : ms = some 0
    · rw [h0, pySplitSep_zero]; simp [List.intercalate]
    · rw [pySplitSep_append_free _ ms g s' tl hg hs h0]
      obtain ⟨b, l, hr⟩ := List.exists_cons_of_ne_nil (pySplitSep_ne_nil (fun x => decide (x = s')) (ms.map Nat.pred) tl)
      rw [hr, List.intercalate_cons_cons, ← hr, ih]
      simp

theorem pySplitSep_of_countP_le (p : α → Bool) (m : Nat) (src : List α) (h : src.countP p ≤ m) :
    pySplitSep p (some m) src = pySplitSep p none src := by
  induction src using sep_induction p generalizing m with
  | free l hl => rw [pySplitSep_free p _ l hl, pySplitSep_free p _ l hl]
  | cut g s tl hg hs ih =>
    rw [List.countP_append, List.countP_cons_of_pos hs] at h
    rw [pySplitSep_append_free p (some m) g s tl hg hs (by simp; omega),
      pySplitSep_append_free p none g s tl hg hs (by simp)]
    exact congrArg _ (ih (m - 1) (by omega))

/-- peel the first piece with `pySplitSep_append_free`; `out.length - 1` splits in all -/
theorem eq_pySplitSep_of_join [DecidableEq α] (s : α) : ∀ (out : List (List α)) (src : List α), out ≠ [] →
    [s].intercalate out = src → (∀ g ∈ out.dropLast, ∀ x ∈ g, x ≠ s) →
    out = pySplitSep (fun x => decide (x = s)) (some (out.length - 1)) src := by
  intro out
  induction out with
  | nil => intro src h; exact absurd rfl h
  | cons g rest ih =>
    intro src _ hj hfree
    cases rest with
    | nil =>
      have : src = g := by simpa [List.intercalate] using hj.symm
      subst this
      simp [pySplitSep_zero]
    | cons g2 rest' =>
      rw [List.intercalate_cons_cons] at hj
      rw [List.dropLast_cons_of_ne_nil (by simp)] at hfree
      have hg : ∀ x ∈ g, (fun x => decide (x = s)) x = false := by
        intro x hx
        simpa using hfree g (by simp) x hx
      have hI := ih ([s].intercalate (g2 :: rest')) (by simp) rfl
        (fun g' hg' => hfree g' (List.mem_cons_of_mem _ hg'))
      subst hj
      have hlen : (g :: g2 :: rest').length - 1 = rest'.length + 1 := by simp
      rw [hlen]
      have := pySplitSep_append_free (fun x => decide (x = s)) (some (rest'.length + 1)) g s
        ([s].intercalate (g2 :: rest')) hg (by simp) (by simp)
      have hI' : g2 :: rest' =
          pySplitSep (fun x => decide (x = s)) (some rest'.length) ([s].intercalate (g2 :: rest')) := by
        simpa using hI
      simp only [List.append_assoc, List.cons_append, List.nil_append]
      rw [this]
      simp only [Option.map_some, Nat.pred_eq_sub_one, Nat.add_sub_cancel]
      rw [← hI']

theorem pySplitWs_length_le (p : α → Bool) (m : Nat) (xs : List α) : (pySplitWs p (some m) xs).length ≤ m + 1 := by
  induction xs using ws_induction p generalizing m with
  | done xs he => rw [pySplitWs_done p _ xs he]; simp
  | word xs he ih =>
    cases m with
    | zero => rw [pySplitWs_eq]; simp [he]
    | succ k =>
      rw [pySplitWs_cut p _ xs he (by simp)]
      exact Nat.succ_le_succ (ih k)

theorem filter_notp_dropWhile (p : α → Bool) (xs : List α) :
    (xs.dropWhile p).filter (notp p) = xs.filter (notp p) := by
  induction xs with
  | nil => rfl
  | cons x xs ih =>
    by_cases hp : p x = true
    · rw [List.dropWhile_cons_of_pos hp, ih]; simp [notp, hp]
    · rw [List.dropWhile_cons_of_neg hp]

theorem pySplitWs_none_pieces (p : α → Bool) (src : List α) :
    (∀ g ∈ pySplitWs p none src, g ≠ [] ∧ ∀ x ∈ g, p x = false) ∧
    (pySplitWs p none src).flatten = src.filter (notp p) := by
  induction src using ws_induction p with
  | done xs he =>
    rw [pySplitWs_done p none xs he, ← filter_notp_dropWhile, List.isEmpty_iff.1 he]
    simp
  | word xs he ih =>
    obtain ⟨ih1, ih2⟩ := ih
    rw [pySplitWs_cut p none xs he (by simp)]
    refine ⟨?_, ?_⟩
    · intro g hg
      rcases List.mem_cons.1 hg with rfl | hg
      · refine ⟨?_, fun x hx => ?_⟩
        · obtain ⟨y, ys, hd, hy⟩ := dropWhile_eq_cons he
          simp [hd, notp, hy]
        · simpa [notp] using List.all_eq_true.1 List.all_takeWhile x hx
      · exact ih1 g hg
    · rw [List.flatten_cons, Option.map_none, ih2, ← filter_notp_dropWhile p xs]
      conv => rhs; rw [← List.takeWhile_append_dropWhile (p := notp p) (l := xs.dropWhile p)]
      rw [List.filter_append, List.filter_eq_self.2 (fun a ha => List.all_eq_true.1 List.all_takeWhile a ha)]

theorem pySplitWs_word_append (p : α → Bool) (b : Option Nat) (g : List α) (rest : List α) (hne : g ≠ [])
    (hg : ∀ x ∈ g, p x = false) (hr : ∀ y, rest.head? = some y → p y = true) (hb : b ≠ some 0) :
    pySplitWs p b (g ++ rest) = g :: pySplitWs p (b.map Nat.pred) rest := by
  obtain ⟨y, ys, rfl⟩ := List.exists_cons_of_ne_nil hne
  have hy : p y = false := hg y (by simp)
  have hg' : ∀ x ∈ y :: ys, notp p x = true := fun x hx => by simp [notp, hg x hx]
  have hd : (y :: ys ++ rest).dropWhile p = y :: ys ++ rest := by simp [hy]
  have hrest : rest.takeWhile (notp p) = [] ∧ rest.dropWhile (notp p) = rest := by
    cases rest with
    | nil => simp
    | cons z zs => have := hr z rfl; simp [notp, this]
  rw [pySplitWs_cut p b _ (by rw [hd]; rfl) hb, hd, List.takeWhile_append_of_pos hg', List.dropWhile_append_of_pos hg',
    hrest.1, hrest.2, List.append_nil]

theorem pySplitWs_eq_filter_pySplitSep (p : α → Bool) (xs : List α) :
    pySplitWs p none xs = (pySplitSep p none xs).filter (fun g => !g.isEmpty) := by
  induction xs using sep_induction p with
  | free l hl =>
    rw [pySplitSep_free p none l hl]
    cases l with
    | nil => simp [pySplitWs_nil]
    | cons y ys =>
      have := pySplitWs_word_append p none (y :: ys) [] (by simp) hl (by simp) (by simp)
      simpa [pySplitWs_nil] using this
  | cut g s tl hg hs ih =>
    rw [pySplitSep_append_free p none g s tl hg hs (by simp), List.filter_cons, Option.map_none, ← ih]
    cases g with
    | nil => simp [pySplitWs_skip p none s tl hs]
    | cons y ys =>
      rw [pySplitWs_word_append p none (y :: ys) (s :: tl) (by simp) hg (by simpa using hs) (by simp),
        Option.map_none, pySplitWs_skip p none s tl hs]
      simp

theorem pySplitWs_maxsplit (p : α → Bool) (xs : List α) (m : Nat) :
    ((pySplitWs p none xs).length ≤ m → pySplitWs p (some m) xs = pySplitWs p none xs) ∧
    (m < (pySplitWs p none xs).length → ∃ rest,
        pySplitWs p (some m) xs = (pySplitWs p none xs).take m ++ [rest] ∧
        rest <:+ xs ∧ (∃ y ys, rest = y :: ys ∧ p y = false) ∧
        rest.filter (notp p) = ((pySplitWs p none xs).drop m).flatten) := by
  induction xs using ws_induction p generalizing m with
  | done xs he => simp [pySplitWs_done p _ xs he]
  | word xs he ih =>
    have hW : pySplitWs p none xs = (xs.dropWhile p).takeWhile (notp p) ::
        pySplitWs p none ((xs.dropWhile p).dropWhile (notp p)) := pySplitWs_cut p none xs he (by simp)
    cases m with
    | zero =>
      have hR : pySplitWs p (some 0) xs = [xs.dropWhile p] := by
        rw [pySplitWs_eq]; simp [he]
      refine ⟨fun h => by rw [hW] at h; simp at h, fun _ => ⟨xs.dropWhile p, ?_, ?_, dropWhile_eq_cons he, ?_⟩⟩
      · simp [hR]
      · exact List.dropWhile_suffix p
      · rw [List.drop_zero, (pySplitWs_none_pieces p xs).2, filter_notp_dropWhile]
    | succ k =>
      have hR : pySplitWs p (some (k + 1)) xs = (xs.dropWhile p).takeWhile (notp p) ::
          pySplitWs p (some k) ((xs.dropWhile p).dropWhile (notp p)) := pySplitWs_cut p _ xs he (by simp)
      obtain ⟨ih1, ih2⟩ := ih k
      rw [hW, hR]
      refine ⟨fun h => ?_, fun h => ?_⟩
      · rw [ih1 (by simpa using h)]
      · obtain ⟨rest, h1, h2, h3, h4⟩ := ih2 (by simpa using h)
        refine ⟨rest, ?_, ?_, h3, ?_⟩
        · rw [h1]; simp
        · exact List.IsSuffix.trans h2
            (List.IsSuffix.trans (List.dropWhile_suffix (notp p)) (List.dropWhile_suffix p))
        · simpa using h4

theorem pySplit_length_le (p : α → Bool) (grouping : Bool) (m : Nat) (src : List α) :
    (pySplit p grouping (some m) src).length ≤ m + 1 := by
  cases grouping with
  | false =>
    rw [pySplit, if_neg (by simp), pySplitSep_length, cuts_some]
    exact Nat.succ_le_succ (Nat.min_le_right _ _)
  | true => exact pySplitWs_length_le p m src

end C09
