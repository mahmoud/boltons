import BoltonsVerif.C09.Proofs
import BoltonsVerif.C09.KeyModel
import BoltonsVerif.Generated.C09_SepKinds
/-
C09 — property theorems for the chunking / windowing / splitting / stripping / grouping helpers of
`boltons.iterutils`, with non-vacuity examples.

All theorems hold for every input list and every valid parameter value (no size bound).
The `*_iter` generators and the list-returning forms are the same function in the model
(`list(x_iter(...))`), so "the *_iter forms yield the same items" is a statement about the real code: the harness
checks it there, and `SrcTie.lean` proves it of the translated source (`src_iter_forms_eq_list_forms`).
-/
namespace C09
variable {α : Type} {β : Type} {κ : Type}

theorem chunked_concat {size : Int} (hs : 0 < size) (src : List α) :
    ∃ out, chunked size none none src = .ok out ∧ out.flatten = src := by
  refine ⟨_, chunked_none_ok hs none src, ?_⟩
  obtain ⟨blocks, last, cut⟩ := chunkLoop_blocks (size := size.toNat) (by omega) src
  rw [cut.output none _ (Nat.le_refl _)]
  by_cases hl : last = [] <;> simp [cut.input, hl, padTo]

theorem chunked_sizes {size : Int} (hs : 0 < size) (src : List α) :
    ∃ out, chunked size none none src = .ok out ∧
      (∀ c ∈ out.dropLast, c.length = size.toNat) ∧
      (∀ c ∈ out, 1 ≤ c.length ∧ c.length ≤ size.toNat) := by
  refine ⟨_, chunked_none_ok hs none src, ?_⟩
  obtain ⟨blocks, last, cut⟩ := chunkLoop_blocks (size := size.toNat) (by omega) src
  rw [cut.output none _ (Nat.le_refl _)]
  have hb : ∀ c ∈ blocks, 1 ≤ c.length ∧ c.length ≤ size.toNat := fun c hc => by rw [cut.full c hc]; omega
  by_cases hl : last = []
  · simp only [hl, ↓reduceIte, List.append_nil]
    exact ⟨fun c hc => cut.full c (List.dropLast_subset _ hc), hb⟩
  · rw [if_neg hl, List.dropLast_concat]
    refine ⟨cut.full, fun c hc => ?_⟩
    rcases List.mem_append.1 hc with hc | hc
    · exact hb c hc
    · rw [List.mem_singleton.1 hc]; exact ⟨List.length_pos_iff.2 hl, cut.short⟩

theorem chunked_fill {size : Int} (hs : 0 < size) (f : α) (src : List α) :
    ∃ out, chunked size none (some f) src = .ok out ∧
      (∀ c ∈ out, c.length = size.toNat) ∧
      ∃ k, k < size.toNat ∧ out.flatten = src ++ List.replicate k f := by
  refine ⟨_, chunked_none_ok hs (some f) src, ?_⟩
  obtain ⟨blocks, last, cut⟩ := chunkLoop_blocks (size := size.toNat) (by omega) src
  rw [cut.output (some f) _ (Nat.le_refl _)]
  by_cases hl : last = []
  · exact ⟨by simpa [hl] using cut.full, 0, by omega, by simp [cut.input, hl]⟩
  · have hpos := List.length_pos_iff.2 hl
    have hshort := cut.short
    rw [if_neg hl]
    -- the padding of the last block is what follows the input
    refine ⟨fun c hc => ?_, size.toNat - last.length, by omega, by rw [cut.input]; simp [padTo]⟩
    rcases List.mem_append.1 hc with hc | hc
    · exact cut.full c hc
    · rw [List.mem_singleton.1 hc]; simp [padTo]; omega

theorem chunked_count {size : Int} (hs : 0 < size) (c : Int) (hc : 0 ≤ c) (fill : Option α) (src : List α) :
    ∃ full, chunked size none fill src = .ok full ∧
      chunked size (some c) fill src = .ok (full.take c.toNat) := by
  have h : ¬ size ≤ 0 := by omega
  have h' : ¬ c < 0 := by omega
  refine ⟨_, chunked_none_ok hs fill src, ?_⟩
  by_cases h0 : c = 0
  · subst h0; simp [chunked]
  · simp only [chunked, h', ↓reduceIte, h0, chunkedIter, h]; rfl

theorem chunked_count_prefix {size : Int} (hs : 0 < size) (c : Int) (hc : 0 ≤ c) (src : List α) :
    ∃ out, chunked size (some c) none src = .ok out ∧ out.flatten <+: src := by
  obtain ⟨full, h1, h2⟩ := chunked_count hs c hc none src
  obtain ⟨out, h3, h4⟩ := chunked_concat hs src
  rw [h1] at h3
  cases h3
  exact ⟨_, h2, by have := flatten_take_prefix full c.toNat; rwa [h4] at this⟩

/-- `chunked_iter` and `chunked` without a count are one function in the model; the harness compares the two
    forms on the real code -/
theorem chunked_iter_eq_list (size : Int) (fill : Option α) (src : List α) :
    chunkedIter size fill src = chunked size none fill src := rfl

theorem chunked_invalid (size : Int) (fill : Option α) (src : List α) :
    (size ≤ 0 → chunked size none fill src = .error .valueError) ∧
    (∀ c : Int, c < 0 → chunked size (some c) fill src = .error .valueError) ∧
    chunked size (some 0) fill src = .ok [] := by
  refine ⟨fun h => by simp [chunked, chunkedIter, h], fun c hc => by simp [chunked, hc], by simp [chunked]⟩

example : chunked 3 none none [0, 1, 2, 3, 4, 5, 6] = .ok [[0, 1, 2], [3, 4, 5], [6]] := by rfl
example : chunked 3 none (some 9) [0, 1, 2, 3] = .ok [[0, 1, 2], [3, 9, 9]] := by rfl
example : chunked 3 (some 1) none [0, 1, 2, 3] = .ok [[0, 1, 2]] := by rfl

/-- SOURCE FACTS, re-established on every run (the table records, per kind of input the harness knows, the type of
    the chunks the current `chunked_iter` yields, or "raises"): str gives str chunks and bytes gives bytes chunks, as
    `chunkKind` says; every other kind is chunked without raising (today into lists; the statement does not fix
    that type and the check does not compare it) -/
theorem chunk_kind_table_agrees :
    Generated.chunkTypeTable.all (fun r =>
      if r.1 == "str" || r.1 == "bytes" then r.2 == (chunkKind (SrcKind.ofName r.1)).name
      else r.2 != "raises") = true ∧
    Generated.chunkTypeTable.any (fun r => r.1 == "str") = true ∧
    Generated.chunkTypeTable.any (fun r => r.1 == "bytes") = true ∧
    Generated.chunkTypeTable.any (fun r => r.1 == "bytearray") = true := by decide +kernel

/-- the chunk type depends on the input kind only, and the chunks themselves do not depend on it: `chunked` on
    a str / bytes is `chunked` on its item list, re-joined chunk by chunk -/
theorem chunkedK_eq (k : SrcKind) (size : Param) (count : Option Param) (fill : Option α) (src : List α) :
    chunkedK k size count fill src = (chunkedP size count fill src).map (fun l => (chunkKind k, l)) ∧
    (chunkKind k = .list ↔ k = .other) := by
  refine ⟨rfl, ?_⟩
  cases k <;> simp [chunkKind]

example : chunkedK (α := Nat) .str (.int 2) none none [1, 2, 3] = .ok (.str, [[1, 2], [3]]) := by rfl

theorem windowed_eq_slices {size : Int} (hs : 0 < size) (src : List α) :
    windowed size none src = .ok (slices size.toNat src) := by
  have h : ¬ size < 0 := by omega
  simp only [windowed, h, ↓reduceIte]
  by_cases hl : src.length + 1 < size.toNat
  · have : src.length + 1 - size.toNat = 0 := by omega
    simp [hl, slices, this]
  · simp only [hl, ↓reduceIte]
    have hne : (tees size.toNat src).isEmpty = false := by
      obtain ⟨m, hm⟩ : ∃ m, size.toNat = m + 1 := ⟨size.toNat - 1, by omega⟩
      rw [hm, tees_succ]; rfl
    rw [zipStar, hne, zipLoop_tees size.toNat (by omega) _ _ (Nat.le_refl _)]
    rfl

theorem windowed_fill_one_per_elem {size : Int} (hs : 0 < size) (f : α) (src : List α) :
    windowed size (some f) src = .ok (paddedSlices size.toNat f src) ∧
    (paddedSlices size.toNat f src).length = src.length ∧
    ∀ w ∈ paddedSlices size.toNat f src, w.length = size.toNat := by
  have h : ¬ size < 0 := by omega
  refine ⟨?_, by simp [paddedSlices], ?_⟩
  · simp only [windowed, h, ↓reduceIte]
    rw [zipLongestLoop_tees f size.toNat (by omega) _ _ (Nat.le_refl _)]
  · intro w hw
    simp only [paddedSlices, List.mem_map, List.mem_range] at hw
    obtain ⟨i, hi, rfl⟩ := hw
    simp; omega

theorem slices_spec (size : Nat) (src : List α) :
    (slices size src).length = src.length + 1 - size ∧
    ∀ i (h : i < (slices size src).length), (slices size src)[i] = (src.drop i).take size := by
  simp [slices]

theorem pairwise_eq (src : List α) (e : α) :
    pairwise none src = .ok (slices 2 src) ∧ pairwise (some e) src = .ok (paddedSlices 2 e src) := by
  exact ⟨windowed_eq_slices (size := 2) (by omega) src,
         (windowed_fill_one_per_elem (size := 2) (by omega) e src).1⟩

theorem windowed_invalid {size : Int} (hs : size < 0) (fill : Option α) (src : List α) :
    windowed size fill src = .error .valueError := by
  simp [windowed, hs]

theorem windowed_zero (fill : Option α) (src : List α) : windowed 0 fill src = .ok [] := by
  cases fill with
  | none => simp [windowed, zipStar, tees]
  | some f => cases src <;> simp [windowed, zipLongestLoop, tees]

example : windowed 3 none [0, 1, 2, 3, 4] = .ok [[0, 1, 2], [1, 2, 3], [2, 3, 4]] := by rfl
example : windowed 3 (some 9) [0, 1, 2] = .ok [[0, 1, 2], [1, 2, 9], [2, 9, 9]] := by rfl
example : windowed 5 none [0, 1, 2] = .ok [] := by rfl
example : pairwise (some 9) [0, 1, 2] = .ok [[0, 1], [1, 2], [2, 9]] := by rfl

/-- `split` agrees with `str.split` item-wise (`pySplit`, itself compared with CPython's `str.split`
    on every run): `p` = "is a separator", `grouping` = `sep is None`, for every `maxsplit`
    (a negative one acts as 0) -/
theorem split_eq_pySplit (p : α → Bool) (grouping : Bool) (maxsplit : Option Int) (src : List α) :
    split p grouping maxsplit src = pySplit p grouping (maxsplit.map Int.toNat) src := by
  cases grouping with
  | false => exact split_sep_eq_pySplitSep p maxsplit src
  | true => exact split_grouping_eq_pySplitWs p maxsplit src

theorem split_sep_pieces (p : α → Bool) (src : List α) :
    (∀ g ∈ split p false none src, ∀ x ∈ g, p x = false) ∧
    (split p false none src).length = src.countP p + 1 := by
  rw [split_sep_eq_pySplitSep]
  exact ⟨pySplitSep_none_free p src, pySplitSep_length p none src⟩

/-- `sep.join(x.split(sep, m)) == x` -/
theorem split_join [DecidableEq α] (s : α) (maxsplit : Option Int) (src : List α) :
    [s].intercalate (split (fun x => decide (x = s)) false maxsplit src) = src := by
  rw [split_sep_eq_pySplitSep]
  exact pySplitSep_join s _ src

theorem split_maxsplit_le (p : α → Bool) (grouping : Bool) (m : Nat) (src : List α) :
    (split p grouping (some (m : Int)) src).length ≤ m + 1 := by
  rw [split_eq_pySplit]
  exact pySplit_length_le p grouping m src

theorem split_grouping_pieces (p : α → Bool) (src : List α) :
    (∀ g ∈ split p true none src, g ≠ [] ∧ ∀ x ∈ g, p x = false) ∧
    (split p true none src).flatten = src.filter (fun x => !p x) := by
  rw [split_grouping_eq_pySplitWs]
  exact pySplitWs_none_pieces p src

example : split (fun x => x == 0) true none [1, 2, 0, 0, 3, 0] = [[1, 2], [3]] := by decide
example : split (fun x => x == 0) true (some 1) [0, 1, 0, 0, 2, 0, 3] = [[1], [2, 0, 3]] := by decide
example : split (fun x => x == 0) true (some 1) [1, 0, 0] = [[1]] := by decide
example : split (fun x => x == 0) false (some 0) [1, 0, 2] = [[1, 0, 2]] := by decide
example : split (fun x => x == 0) false none [0, 1, 0, 0, 2] = [[], [1], [], [2]] := by decide

theorem split_sep_maxsplit_pieces (p : α → Bool) (m : Nat) (src : List α) :
    (split p false (some (m : Int)) src).length = min (src.countP p) m + 1 ∧
    ∀ g ∈ (split p false (some (m : Int)) src).dropLast, ∀ x ∈ g, p x = false := by
  rw [split_sep_eq_pySplitSep, Option.map_some, Int.toNat_natCast, ← cuts_some]
  exact ⟨pySplitSep_length p (some m) src, pySplitSep_dropLast_free p (some m) src⟩

/-- the facts of `split_sep_maxsplit_pieces` and `split_join` pin the result down: `split` is the unique inverse of
    `sep.join` with at most `m` cuts, like `str.split` -/
theorem split_sep_unique [DecidableEq α] (s : α) (m : Nat) (src : List α) (out : List (List α))
    (hjoin : [s].intercalate out = src)
    (hfree : ∀ g ∈ out.dropLast, ∀ x ∈ g, x ≠ s)
    (hlen : out.length = min (src.countP (fun x => decide (x = s))) m + 1) :
    out = split (fun x => decide (x = s)) false (some (m : Int)) src := by
  rw [split_sep_eq_pySplitSep, Option.map_some, Int.toNat_natCast]
  have hne : out ≠ [] := by intro h; simp [h] at hlen
  have hcore := eq_pySplitSep_of_join s out src hne hjoin hfree
  rw [hcore, hlen, Nat.add_sub_cancel]
  by_cases hm : m ≤ src.countP (fun x => decide (x = s))
  · rw [Nat.min_eq_right hm]
  · have hm' : src.countP (fun x => decide (x = s)) ≤ m := by omega
    rw [Nat.min_eq_left hm', pySplitSep_of_countP_le _ _ _ (Nat.le_refl _), pySplitSep_of_countP_le _ _ _ hm']

/-- `sep=None` with `maxsplit = m`: the first `m` words of the unlimited split, then (if there are more words) ONE
    more piece: the input verbatim from the start of word `m+1` on -/
theorem split_grouping_maxsplit (p : α → Bool) (m : Nat) (src : List α) :
    ((split p true none src).length ≤ m → split p true (some (m : Int)) src = split p true none src) ∧
    (m < (split p true none src).length → ∃ rest,
        split p true (some (m : Int)) src = (split p true none src).take m ++ [rest] ∧
        rest <:+ src ∧ (∃ y ys, rest = y :: ys ∧ p y = false) ∧
        rest.filter (fun x => !p x) = ((split p true none src).drop m).flatten) := by
  simp only [split_grouping_eq_pySplitWs, Option.map_some, Option.map_none, Int.toNat_natCast]
  exact pySplitWs_maxsplit p src m

example : split (fun x => decide (x = 0)) false (some 2) [1, 0, 2, 0, 0, 3] = [[1], [2], [0, 3]] := by decide
/-- `hjoin` and the count in `hlen` of `split_sep_unique` at the example above (`m = 2`) -/
example : [0].intercalate [[1], [2], [0, 3]] = [1, 0, 2, 0, 0, 3] ∧
    ([1, 0, 2, 0, 0, 3].countP (fun x => decide (x = 0))) = 3 := by decide
example : split (fun x => x == 0) true none [0, 1, 0, 0, 2, 0, 3, 0] = [[1], [2], [3]] ∧
    split (fun x => x == 0) true (some 1) [0, 1, 0, 0, 2, 0, 3, 0] = [[1], [2, 0, 3, 0]] := by decide

/-- `s.split() == [w for w in s.split(sep) if w]`; with `split_sep_unique` this pins the grouping mode down as
    completely as the separator mode -/
theorem split_grouping_eq_filter (p : α → Bool) (src : List α) :
    split p true none src = (split p false none src).filter (fun g => !g.isEmpty) := by
  rw [split_grouping_eq_pySplitWs, split_sep_eq_pySplitSep]
  exact pySplitWs_eq_filter_pySplitSep p src

example : (split (fun x => x == 0) false none [0, 1, 0, 0, 2]).filter (fun g => !g.isEmpty) = [[1], [2]] := by decide

theorem splitS_eq_pySplit (eqv : α → α → Bool) (isNone : α → Bool) (sep : Sep α) (maxsplit : Option Param)
    (src : List α) :
    splitS eqv isNone sep maxsplit src =
      pySplit (sepFunc eqv isNone sep) sep.isNone ((maxsplit.map Param.toInt).map Int.toNat) src :=
  split_eq_pySplit _ _ _ _

theorem split_sep_dispatch (eqv : α → α → Bool) (isNone : α → Bool) (x v c : α) (vs : List α) (f : α → Bool) :
    sepFunc eqv isNone .none x = isNone x ∧
    sepFunc eqv isNone (.value v) x = eqv x v ∧
    sepFunc eqv isNone (.text [c]) x = eqv x c ∧
    (sepFunc eqv isNone (.coll vs) x = true ↔ ∃ w ∈ vs, eqv x w = true) ∧
    sepFunc eqv isNone (.func f) x = f x ∧
    (∀ s : Sep α, s.isNone = true ↔ s = .none) := by
  refine ⟨rfl, rfl, rfl, by simp [sepFunc], rfl, ?_⟩
  intro s; cases s <;> simp [Sep.isNone]

/-- a str separator is a scalar (`is_scalar`), NOT a collection of characters: unless it is a single character it
    equals no item, so nothing is split -/
theorem split_text_sep (eqv : α → α → Bool) (isNone : α → Bool) (cs : List α) (h : cs.length ≠ 1)
    (maxsplit : Option Param) (src : List α) :
    splitS eqv isNone (.text cs) maxsplit src = [src] := by
  have hf : sepFunc eqv isNone (.text cs) = fun _ => false := by
    match cs, h with
    | [], _ => rfl
    | [_], h => exact absurd rfl h
    | _ :: _ :: _, _ => rfl
  rw [splitS, hf]
  exact (split_sep_eq_pySplitSep _ _ src).trans (pySplitSep_free _ _ _ (fun _ _ => rfl))

def sepRowOk (r : String × Bool × Bool × Bool × Bool) : Bool :=
  match SepKind.ofName? r.1 with
  | some k => r.2.1 == k.facts.callable && r.2.2.1 == k.facts.iterable && r.2.2.2.1 == isScalar k.facts
      && r.2.2.2.2 == isCollection k.facts
  | none => false

/-- SOURCE FACTS, re-established from the current `boltons/iterutils.py` on every run (the table is
    regenerated by evaluating `is_iterable` / `is_scalar` / `is_collection` of the source under test on a
    sample object of every kind): the source answers exactly what the model's dispatch assumes, for every kind
    of the model; and `None` and plain item values are scalars that are not iterable. -/
theorem sep_kind_table_agrees :
    Generated.sepKindTable.all sepRowOk = true ∧
    SepKind.all.all (fun k => Generated.sepKindTable.any (fun r => SepKind.ofName? r.1 == some k)) = true ∧
    Generated.plainTable.all (fun r => r.2 == (false, false, true, false)) = true := by decide +kernel

theorem sepKind_all_complete (k : SepKind) : k ∈ SepKind.all := by cases k <;> decide

theorem isCollection_eq_not_isScalar (f : ObjFacts) : isCollection f = !isScalar f := by
  cases f with | mk c i s => cases i <;> cases s <;> rfl

/-- every iterable that is not a `str` / `bytes` is a collection of separators (`frozenset(sep)`) -/
theorem sep_object_dispatch (k : SepKind) (vs : List α) (hk : k ≠ .str ∧ k ≠ .bytes) :
    (SepObj.holding k vs).dispatch = .coll vs := by
  cases k <;> first | rfl | exact absurd rfl hk.1 | exact absurd rfl hk.2

theorem sep_object_dispatch_scalars (v : α) (cs : List α) (f : α → Bool) :
    (SepObj.none : SepObj α).dispatch = .none ∧ (SepObj.item v).dispatch = .value v ∧
    (SepObj.func f).dispatch = .func f ∧ (SepObj.holding .str cs).dispatch = .text cs ∧
    (SepObj.holding .bytes cs).dispatch = .opaque :=
  ⟨rfl, rfl, rfl, rfl, rfl⟩

theorem splitO_collection (eqv : α → α → Bool) (isNone : α → Bool) (k : SepKind) (vs : List α)
    (hk : k ≠ .str ∧ k ≠ .bytes) (maxsplit : Option Param) (src : List α) :
    splitO eqv isNone (.holding k vs) maxsplit src =
      pySplitSep (fun x => vs.any (fun v => eqv x v)) ((maxsplit.map Param.toInt).map Int.toNat) src := by
  unfold splitO
  rw [sep_object_dispatch k vs hk, splitS_eq_pySplit]
  rfl

theorem splitO_bytes (eqv : α → α → Bool) (isNone : α → Bool) (bs : List α) (maxsplit : Option Param)
    (src : List α) : splitO eqv isNone (.holding .bytes bs) maxsplit src = [src] := by
  unfold splitO
  rw [splitS_eq_pySplit]
  exact pySplitSep_free _ _ _ (fun _ _ => rfl)

example : (SepKind.bytearray ≠ .str ∧ SepKind.bytearray ≠ .bytes) ∧
    splitO (fun x y => x == y) (fun x => x == 0) (.holding .bytearray [61, 59]) none [1, 61, 2, 59, 3] =
      [[1], [2], [3]] := by decide
example : splitO (fun x y => x == y) (fun x => x == 0) (.holding .bytes [61]) none [1, 61, 2] = [[1, 61, 2]] := by
  decide

example : splitS (fun x y => x == y) (fun x => x == 0) (.text [1, 2]) none [1, 2, 1, 2] = [[1, 2, 1, 2]] := by decide
example : splitS (fun x y => x == y) (fun x => x == 0) (.coll [1, 2]) (some (.halves 3)) [1, 3, 2, 4, 1] =
    [[], [3, 2, 4, 1]] := by decide

theorem lstrip_eq_pyLstrip (p : α → Bool) (src : List α) : lstrip p src = pyLstrip p src := by
  unfold pyLstrip
  induction src with
  | nil => simp [lstrip]
  | cons x src ih =>
    rw [lstrip, List.dropWhile_cons]
    split <;> simp_all

theorem rstrip_eq_pyRstrip (p : α → Bool) (src : List α) : rstrip p src = pyRstrip p src := by
  unfold rstrip
  rw [rstripLoop_eq p src [] (by simp)]
  simp

theorem strip_eq_pyStrip (p : α → Bool) (src : List α) : strip p src = pyStrip p src := by
  unfold strip pyStrip
  rw [rstrip_eq_pyRstrip, lstrip_eq_pyLstrip]

/-- the stripped list is the input minus a maximal all-`p` prefix and suffix -/
theorem strip_decomp (p : α → Bool) (src : List α) :
    ∃ pre suf, src = pre ++ strip p src ++ suf ∧ (∀ x ∈ pre, p x = true) ∧ (∀ x ∈ suf, p x = true) ∧
      (∀ x, (strip p src).head? = some x → p x = false) ∧
      (∀ x, (strip p src).getLast? = some x → p x = false) := by
  rw [strip_eq_pyStrip]
  exact pyStrip_decomp p src

example : strip (fun x => x == 0) [0, 0, 1, 0, 2, 0] = [1, 0, 2] := by decide
example : rstrip (fun x => x == 0) [0, 1, 0, 0] = [0, 1] := by decide
example : lstrip (fun x => x == 0) [0, 0] = [] := by decide

section
variable [DecidableEq κ]

/-- together: `unique` keeps exactly the first occurrence of each key, in input order -/
theorem unique_first_occurrences (f : α → κ) (src : List α) :
    (unique f src).Sublist src ∧
    ((unique f src).map f).Nodup ∧
    (∀ x ∈ src, f x ∈ (unique f src).map f) ∧
    (∀ y ∈ unique f src, src.find? (fun x => decide (f x = f y)) = some y) := by
  refine ⟨uniqueLoop_sublist f src [], uniqueLoop_nodup f src [], ?_, uniqueLoop_first f src []⟩
  intro x hx
  rcases uniqueLoop_covers f src [] x hx with h | h
  · simp at h
  · exact h

example : unique (fun x => x % 3) [4, 1, 5, 7, 2, 3] = [4, 5, 3] := by decide

theorem key_dispatch (self : α → κ) (f : α → κ) (g : α → Option κ) (x : α) :
    keyFunc self .none x = self x ∧
    keyFunc self (.func f) x = f x ∧
    (∀ k, g x = some k → keyFunc self (.attr g) x = k) ∧
    (g x = none → keyFunc self (.attr g) x = self x) := by
  refine ⟨rfl, rfl, fun k h => by simp [keyFunc, h], fun h => by simp [keyFunc, h]⟩

theorem unique_attr_missing (self : α → κ) (g : α → Option κ) (src : List α) (h : ∀ x ∈ src, g x = none) :
    unique (keyFunc self (.attr g)) src = unique self src :=
  uniqueLoop_congr _ _ src [] (fun x hx => by simp [keyFunc, h x hx])

example : unique (keyFunc (fun x => x) (.attr fun x => if x < 3 then some 0 else none)) [1, 2, 5, 5, 6] = [1, 5, 6] := by
  decide
/-- the hypothesis of `unique_attr_missing` can be met -/
example : ∀ x ∈ [5, 6, 5], (fun x : Nat => if x < 3 then some 0 else none) x = none := by decide

/-- where the model says TypeError the key object is not a valid `key` for that function: the property quantifies
    over valid parameters, so the source may do anything there (reject it as today, or accept it in a later version -
    `bucketize(src, key=None)` as the identity key, say) and the row is not constrained -/
def keyRowOk (r : String × String × String) : Bool :=
  match keyBranchOf r.1, KeyKind.ofName? r.2.1 with
  | some br, some k => decide (br k.facts = .typeError) || r.2.2 == (br k.facts).name
  | _, _ => false

/-- SOURCE FACTS, re-established from the current `boltons/iterutils.py` on every run (the table is regenerated
    by calling the live `unique_iter` / `redundant` / `bucketize` with a sample key object of every kind on the
    items 1, 2, 3 and reading off which keys were used): every function takes, for every kind of key object that is
    a valid key of that function, the branch the model's dispatch computes.  The second conjunct: every
    (function, kind) pair is in the table; the statement leaves the pair (redundant, falsy callable) free
    (finding C09-redundant-falsy-key). -/
theorem key_kind_table_agrees :
    Generated.keyKindTable.all keyRowOk = true ∧
    (["unique", "redundant", "bucketize"].all fun fn => KeyKind.all.all fun k =>
      (fn == "redundant" && decide (k = .falsyCallable)) ||
        Generated.keyKindTable.any (fun r => r.1 == fn && KeyKind.ofName? r.2.1 == some k)) = true := by decide +kernel

theorem keyKind_all_complete (k : KeyKind) : k ∈ KeyKind.all := by cases k <;> decide

theorem key_callable_kinds_call (k : KeyKind) (hk : k.facts.callable = true) :
    uniqueKeyBranch k.facts = .call ∧ redundantKeyBranch k.facts = .call ∧ bucketizeKeyBranch k.facts = .call := by
  cases k <;> first | exact ⟨rfl, rfl, rfl⟩ | exact absurd hk (by decide)

/-- no branch depends on the truth value of the key object (`redundant` asks `key is not None`) -/
theorem key_branch_ignores_truthiness (f : KeyFacts) (b : Bool) :
    uniqueKeyBranch { f with truthy := b } = uniqueKeyBranch f ∧
    redundantKeyBranch { f with truthy := b } = redundantKeyBranch f ∧
    bucketizeKeyBranch { f with truthy := b } = bucketizeKeyBranch f := ⟨rfl, rfl, rfl⟩

theorem key_other_kinds :
    uniqueKeyBranch KeyKind.none.facts = .identity ∧ redundantKeyBranch KeyKind.none.facts = .identity ∧
    bucketizeKeyBranch KeyKind.none.facts = .typeError ∧
    uniqueKeyBranch KeyKind.attrName.facts = .attr ∧ redundantKeyBranch KeyKind.attrName.facts = .attr ∧
    bucketizeKeyBranch KeyKind.attrName.facts = .attr ∧
    uniqueKeyBranch KeyKind.keyList.facts = .typeError ∧ redundantKeyBranch KeyKind.keyList.facts = .typeError ∧
    bucketizeKeyBranch KeyKind.keyList.facts = .perItem ∧
    uniqueKeyBranch KeyKind.number.facts = .typeError ∧ redundantKeyBranch KeyKind.number.facts = .typeError ∧
    bucketizeKeyBranch KeyKind.number.facts = .typeError := by decide

/-- a callable key object of ANY kind is applied: in particular a falsy callable is not mistaken for "no key"
    (finding C09-redundant-falsy-key) -/
theorem redundant_callable_key (k : KeyKind) (hk : k.facts.callable = true) (self f : α → κ) (g : α → Option κ)
    (src : List α) :
    (keyArgOf (redundantKeyBranch k.facts) f g).map (fun ka => redundant (keyFunc self ka) src)
      = some (redundant f src) ∧
    (keyArgOf (uniqueKeyBranch k.facts) f g).map (fun ka => unique (keyFunc self ka) src)
      = some (unique f src) := by
  obtain ⟨h1, h2, _⟩ := key_callable_kinds_call k hk
  rw [h1, h2]
  exact ⟨rfl, rfl⟩

example : KeyKind.falsyCallable.facts.callable = true ∧ KeyKind.falsyCallable.facts.truthy = false := by decide
example : (keyArgOf (redundantKeyBranch KeyKind.falsyCallable.facts) (fun x : Nat => x % 2) (fun _ => none)).map
    (fun ka => redundant (keyFunc (fun x => x) ka) [1, 3, 2]) = some [3] := by decide

theorem redundant_iff_seen_twice (f : α → κ) (src : List α) (k : κ) :
    k ∈ (redundant f src).map f ↔ 2 ≤ src.countP (fun x => decide (f x = k)) := by
  rw [redundant_map_keys]
  exact redLoop_keys_iff f false src k

theorem redundant_keys_nodup (f : α → κ) (src : List α) : ((redundant f src).map f).Nodup := by
  rw [redundant_map_keys]
  exact redLoop_keys_nodup f false src

theorem redundant_reports_second (f : α → κ) (src : List α) :
    ∀ y ∈ redundant f src, (src.filter (fun x => decide (f x = f y)))[1]? = some y := by
  intro y hy
  unfold redundant at hy
  rw [List.mem_filterMap] at hy
  obtain ⟨e, he, hy⟩ := hy
  obtain ⟨y', h1, h2, h3⟩ := redundant_entry_second f src e he
  rw [h1] at hy
  cases hy
  rw [h2]
  exact h3

theorem redundant_groups_eq (f : α → κ) (src : List α) :
    (∀ g ∈ redundantGroups f src, ∃ k, g = src.filter (fun x => decide (f x = k)) ∧ 2 ≤ g.length) ∧
    (∀ k, 2 ≤ src.countP (fun x => decide (f x = k)) →
      src.filter (fun x => decide (f x = k)) ∈ redundantGroups f src) := by
  refine ⟨?_, ?_⟩
  · intro g hg
    unfold redundantGroups at hg
    rw [List.mem_map] at hg
    obtain ⟨e, he, rfl⟩ := hg
    obtain ⟨h1, h2⟩ := redLoop_entry f true src e he
    refine ⟨e.1, ?_, ?_⟩
    · rw [h1, reported_true]; rfl
    · rw [h1, reported_true]; exact h2
  · intro k hk
    have hl := redLoop_lookup f true src k
    rw [occ_length_eq_countP] at hl
    rw [if_pos hk, reported_true] at hl
    have := lookup_some_mem hl
    unfold redundantGroups
    rw [List.mem_map]
    exact ⟨_, this, rfl⟩

/-- order of the report: by the position of each key's second occurrence (`laterKeys` = keys of the non-first
    items in input order); with `groups=True` the output is completely determined -/
theorem redundant_order (f : α → κ) (src : List α) :
    (redundant f src).map f = unique id (laterKeys f [] src) ∧
    redundantGroups f src =
      (unique id (laterKeys f [] src)).map (fun k => src.filter (fun x => decide (f x = k))) := by
  refine ⟨by rw [redundant_map_keys, redLoop_keys_order], ?_⟩
  unfold redundantGroups
  rw [redLoop_eq_map, List.map_map]
  rfl

example : redundant (fun x => x % 3) [1, 2, 3, 4, 5, 7] = [4, 5] := by decide
example : laterKeys (fun x => x % 3) [] [1, 2, 3, 4, 5, 7] = [1, 2, 1] := by decide
example : redundantGroups (fun x => x % 3) [1, 2, 3, 4, 5, 7] = [[1, 4, 7], [2, 5]] := by decide

/-- together: every item whose key passes the filter lands in exactly one bucket, in input order -/
theorem bucketize_partition_of_input (f : α → κ) (g : α → β) (kf : κ → Bool) (src : List α) :
    (keysOf (bucketize f g kf src)).Nodup ∧
    (∀ e ∈ bucketize f g kf src,
        e.2 = (src.filter (fun x => decide (f x = e.1))).map g ∧ e.2 ≠ [] ∧ kf e.1 = true) ∧
    (∀ x ∈ src, kf (f x) = true → ∃ e ∈ bucketize f g kf src, e.1 = f x) ∧
    sumLens (bucketize f g kf src) = (src.filter (fun x => kf (f x))).length := by
  refine ⟨bucketize_nodup f g kf src, bucketize_entry f g kf src, ?_, ?_⟩
  · intro x hx hkf
    have hb : bucketOf f g kf (f x) src ≠ [] := by
      rw [bucketOf_of_kf f g kf _ src hkf]
      intro h
      have hm : x ∈ src.filter (fun y => decide (f y = f x)) := by simp [hx]
      rw [List.map_eq_nil_iff] at h
      rw [h] at hm
      simp at hm
    have hl := bucketize_lookup f g kf (f x) src
    simp only [hb, ↓reduceIte] at hl
    exact ⟨_, lookup_some_mem hl, rfl⟩
  · unfold bucketize
    rw [bucketLoop_sumLens]
    simp [sumLens]

/-- the buckets appear (dict order) in the order in which their keys first occur -/
theorem bucketize_keys_order (f : α → κ) (g : α → β) (kf : κ → Bool) (src : List α) :
    keysOf (bucketize f g kf src) = unique id ((src.map f).filter kf) := by
  unfold bucketize unique
  rw [bucketLoop_keys]
  simp [keysOf]

theorem bucketize_eq_spec (f : α → κ) (g : α → β) (kf : κ → Bool) (src : List α) :
    bucketize f g kf src =
      (unique id ((src.map f).filter kf)).map
        (fun k => (k, (src.filter (fun x => decide (f x = k))).map g)) := by
  rw [← bucketize_keys_order f g kf src]
  exact eq_map_keysOf _ _ (fun e he => (bucketize_entry f g kf src e he).1)

theorem bucketize_key_list (keys : List κ) (g : α → β) (kf : κ → Bool) (src : List α) :
    (keys.length = src.length →
      bucketizeKeyList keys g kf src =
        .ok (bucketize (fun (p : κ × α) => p.1) (fun p => g p.2) kf (keys.zip src))) ∧
    (keys.length ≠ src.length → bucketizeKeyList keys g kf src = .error .valueError) := by
  refine ⟨fun h => by simp [bucketizeKeyList, h], fun h => by simp [bucketizeKeyList, h]⟩

theorem partition_eq_filters (f : α → κ) (t fl : κ) (src : List α) :
    partition f t fl src =
      (src.filter (fun x => decide (f x = t)), src.filter (fun x => decide (f x = fl))) := by
  have h : ∀ k, (lookup k (bucketize f id (fun _ => true) src)).getD [] =
      src.filter (fun x => decide (f x = k)) := by
    intro k
    rw [bucketize_lookup, bucketOf_of_kf f id (fun _ => true) k src rfl]
    simp only [List.map_id_fun, id_eq]
    split
    · rename_i h; simp [h]
    · simp
  simp only [partition, h]

theorem partition_boolean (f : α → κ) (t fl : κ) (hne : t ≠ fl) (src : List α)
    (hb : ∀ x ∈ src, f x = t ∨ f x = fl) :
    ((partition f t fl src).1 ++ (partition f t fl src).2).Perm src ∧
    (partition f t fl src).1.Sublist src ∧ (partition f t fl src).2.Sublist src := by
  rw [partition_eq_filters]
  refine ⟨?_, List.filter_sublist, List.filter_sublist⟩
  have : src.filter (fun x => decide (f x = fl)) = src.filter (fun x => !decide (f x = t)) := by
    apply List.filter_congr
    intro x hx
    rcases hb x hx with h | h
    · have : ¬ t = fl := hne
      simp [h, this]
    · have : ¬ fl = t := fun e => hne e.symm
      simp [h, this]
  simp only [this]
  exact List.filter_append_perm _ src

example : bucketize (fun x => x % 3) (fun x => x * x) (fun k => k != 1) [1, 2, 3, 4, 5, 6] =
    [(2, [4, 25]), (0, [9, 36])] := by decide
example : partition (fun x => x % 2) 1 0 [1, 2, 3, 4, 5] = ([1, 3, 5], [2, 4]) := by decide
/-- `hb` of `partition_boolean` at the example above -/
example : ∀ x ∈ [1, 2, 3, 4, 5], x % 2 = 1 ∨ x % 2 = 0 := by decide

end

/-! ## chunk_ranges
Valid parameters: `0 < chunk_size`, `overlap_size < chunk_size`, everything non-negative
(`chunkRanges_valid` ties the validated integer interface to `chunkRangesNat`). -/

theorem chunkRanges_valid (size cs off ov : Nat) (align : Bool) (hcs : 0 < cs) (hov : ov < cs) :
    chunkRanges size cs off ov align = .ok (chunkRangesNat size cs off ov align) := by
  have h1 : ¬ ((size : Int) < 0 ∨ (cs : Int) ≤ 0 ∨ (off : Int) < 0 ∨ (ov : Int) < 0) := by omega
  have h2 : ¬ ((cs : Int) ≤ ov) := by omega
  simp only [chunkRanges, h1, h2, ↓reduceIte, Int.toNat_natCast]

theorem chunkRanges_invalid (size cs off ov : Int) (align : Bool)
    (h : size < 0 ∨ cs ≤ 0 ∨ off < 0 ∨ ov < 0) :
    chunkRanges size cs off ov align = .error .valueError := by
  simp [chunkRanges, h]

theorem chunk_ranges_len_le (size cs off ov : Nat) (align : Bool) (hsz : 0 < size) (hov : ov < cs) :
    ∀ r ∈ chunkRangesNat size cs off ov align,
      r.1 < r.2 ∧ r.2 - r.1 ≤ cs ∧ off ≤ r.1 ∧ r.2 ≤ off + size := by
  intro r hr
  have := (chunkRangesNat_ok size cs off ov align hsz hov).each r hr
  omega

theorem chunk_ranges_first_start (size cs off ov : Nat) (align : Bool) (hsz : 0 < size) (hov : ov < cs) :
    (chunkRangesNat size cs off ov align).head?.map (·.1) = some off :=
  (chunkRangesNat_ok size cs off ov align hsz hov).head

theorem chunk_ranges_last_end (size cs off ov : Nat) (align : Bool) (hsz : 0 < size) (hov : ov < cs) :
    (chunkRangesNat size cs off ov align).getLast?.map (·.2) = some (off + size) :=
  (chunkRangesNat_ok size cs off ov align hsz hov).last

theorem chunk_ranges_overlap (size cs off ov : Nat) (align : Bool) (hsz : 0 < size) (hov : ov < cs) :
    ∀ ab ∈ (chunkRangesNat size cs off ov align).zip (chunkRangesNat size cs off ov align).tail,
      ab.2.1 + ov = ab.1.2 :=
  (chunkRangesNat_ok size cs off ov align hsz hov).chain

theorem chunk_ranges_aligned (size cs off ov : Nat) (hsz : 0 < size) (hov : ov < cs) :
    ∀ r ∈ (chunkRangesNat size cs off ov true).tail, r.1 % (cs - ov) = 0 :=
  (chunkRangesNat_ok size cs off ov true hsz hov).aligned rfl

theorem chunk_ranges_cover (size cs off ov : Nat) (align : Bool) (hsz : 0 < size) (hov : ov < cs) :
    ∀ j, off ≤ j → j < off + size → ∃ r ∈ chunkRangesNat size cs off ov align, r.1 ≤ j ∧ j < r.2 :=
  (chunkRangesNat_ok size cs off ov align hsz hov).cover

theorem chunk_ranges_empty_input (cs off ov : Nat) (align : Bool) (hov : ov < cs) :
    chunkRangesNat 0 cs off ov align = if align then [(off, off)] else [] := by
  cases align with
  | false => simp [chunkRangesNat_false, crLoop]
  | true => simpa using chunkRangesNat_true_short (size := 0) hov (Nat.zero_le _)

/-- every range except the last (with `align=True`: and except the first, which is `chunk_size - offset % step`
    long) is exactly `chunk_size` long and ends before the stop: no range is redundant -/
theorem chunk_ranges_full_except_last (size cs off ov : Nat) (align : Bool) (hsz : 0 < size) (hov : ov < cs) :
    (∀ r ∈ (chunkRangesNat size cs off ov align).dropLast, r.2 < off + size) ∧
    (∀ r ∈ (if align then (chunkRangesNat size cs off ov align).tail
            else chunkRangesNat size cs off ov align).dropLast, r.2 = r.1 + cs) ∧
    (align = true → (chunkRangesNat size cs off ov align).head? =
        some (off, min (off + (cs - off % (cs - ov))) (off + size))) := by
  have sh := chunkRangesNat_shape size cs off ov align hsz hov
  generalize chunkRangesNat size cs off ov align = out at sh ⊢
  cases sh with
  | plain c => exact ⟨fun r hr => (c.full r hr).2, fun r hr => (c.full r hr).1, by simp⟩
  | short hend => simp [Nat.min_eq_right (Nat.add_le_add_left hend off)]
  | long hend c =>
    have hm := Nat.min_eq_left (Nat.le_of_lt (Nat.add_lt_add_left hend off))
    refine ⟨?_, fun r hr => (c.full r hr).1, fun _ => by simp [hm]⟩
    rw [List.dropLast_cons_of_ne_nil c.ne_nil]
    intro r hr
    rcases List.mem_cons.1 hr with rfl | hr
    · exact Nat.add_lt_add_left hend off
    · exact (c.full r hr).2

/-- without `align` the laws determine the output -/
theorem chunk_ranges_unique (size cs off ov : Nat) (hov : ov < cs) (out : List (Nat × Nat))
    (hne : out ≠ [])
    (hhead : out.head?.map (·.1) = some off)
    (hchain : ∀ ab ∈ out.zip out.tail, ab.2.1 + ov = ab.1.2)
    (hfull : ∀ r ∈ out.dropLast, r.2 = r.1 + cs ∧ r.2 < off + size)
    (hlast : out.getLast?.map (·.2) = some (off + size))
    (hlastlen : ∀ r, out.getLast? = some r → r.1 < r.2 ∧ r.2 ≤ r.1 + cs) :
    out = chunkRangesNat size cs off ov false := by
  rw [chunkRangesNat_false]
  exact crLoop_unique (off + size) cs ov hov out off size
    { ne := hne, head := hhead, chain := hchain, full := hfull, last := hlast, lastlen := hlastlen }
    (by omega)

/-- with `align=True` too the laws determine the output, once "on aligned boundaries" is spelled out: the first
    range is cut at the first boundary (`hfirst`), every later range starts on a multiple of the step (`haligned`),
    the second one on the FIRST multiple after the offset (`hsecond`) -/
theorem chunk_ranges_unique_aligned (size cs off ov : Nat) (hov : ov < cs) (out : List (Nat × Nat))
    (hne : out ≠ [])
    (hhead : out.head?.map (·.1) = some off)
    (hchain : ∀ ab ∈ out.zip out.tail, ab.2.1 + ov = ab.1.2)
    (haligned : ∀ r ∈ out.tail, r.1 % (cs - ov) = 0)
    (hsecond : ∀ r, out.tail.head? = some r → off < r.1 ∧ r.1 ≤ off + (cs - ov))
    (hfirst : ∀ r, out.head? = some r → r.2 ≤ off + (cs - off % (cs - ov)) ∧ (out.tail ≠ [] → r.2 < off + size))
    (hfull : ∀ r ∈ out.tail.dropLast, r.2 = r.1 + cs ∧ r.2 < off + size)
    (hlast : out.getLast?.map (·.2) = some (off + size))
    (hlastlen : ∀ r, out.getLast? = some r → r.1 < r.2 ∧ r.2 ≤ r.1 + cs) :
    out = chunkRangesNat size cs off ov true := by
  have hmodlt : off % (cs - ov) < cs - ov := Nat.mod_lt _ (by omega)
  cases out with
  | nil => exact absurd rfl hne
  | cons r rest =>
    have hr1 : r.1 = off := by simpa using hhead
    have hf := hfirst r rfl
    cases rest with
    | nil =>
      have hr2 : r.2 = off + size := by simpa using hlast
      rw [chunkRangesNat_true_short hov (Nat.le_of_add_le_add_left (hr2 ▸ hf.1)), ← Prod.eta r, hr1, hr2]
    | cons r2 rest' =>
      have hch : r2.1 + ov = r.2 := hchain (r, r2) (by simp)
      have hsec := hsecond r2 rfl
      have hs2 := next_multiple_unique (cs - ov) off r2.1 (by omega) (haligned r2 (by simp)) hsec.1 hsec.2
      have hlt := hf.2 (by simp)
      -- so the first range ends exactly at the first boundary
      have hr2 : r.2 = off + (cs - off % (cs - ov)) := by omega
      have hlaws := ChainSpec.of_cons hchain hfull hlast hlastlen
      rw [hr2] at hlaws
      have hb := (aligned_first_len cs off ov hov).1
      rw [chunkRangesNat_true_long hov (Nat.lt_of_add_lt_add_left (hr2 ▸ hlt)),
        ← crLoop_unique (off + size) cs ov hov (r2 :: rest') _ size hlaws (by omega), ← Prod.eta r, hr1, hr2]

/-- non-vacuity: the docstring example meets every hypothesis -/
example : [(3, 5), (4, 9), (8, 13), (12, 17), (16, 18)] = chunkRangesNat 15 5 3 1 true :=
  chunk_ranges_unique_aligned 15 5 3 1 (hov := by decide) _ (hne := by decide) (hhead := by decide)
    (hchain := by decide) (haligned := by decide) (hsecond := by simp) (hfirst := by simp) (hfull := by decide)
    (hlast := by decide) (hlastlen := by simp)

example : [(10, 15), (13, 18), (16, 20)] = chunkRangesNat 10 5 10 2 false := by decide

example : chunkRangesNat 15 5 3 1 true = [(3, 5), (4, 9), (8, 13), (12, 17), (16, 18)] := by decide
example : chunkRangesNat 10 5 10 2 false = [(10, 15), (13, 18), (16, 20)] := by decide
/-- `hsz`, `hov` of the range laws at the docstring example -/
example : (0 : Nat) < 15 ∧ 1 < 5 := by decide

/-- SOURCE FACTS, re-established on every run from the live signatures: every default value the model assumes
    for an argument left out is the default of the current source (more optional parameters may exist) -/
theorem defaults_table_agrees :
    modelDefaults.all (fun d => Generated.defaultsTable.contains d) = true := by decide +kernel

/-! ## numeric arguments as passed
The laws above take the size, count and range arguments as integers.  A caller may pass `3`, `3.0`, `3.5` or `True`
(`Param`); the `…P` entry points go through `int(value)` / `_validate_positive_int` / what `islice` and `tee` accept, and
the theorems below say which call of the integer functions above results (lemmas: `ParamProofs.lean`). -/

theorem pyInt_trunc (h : Int) :
    (0 ≤ h → 2 * (Param.halves h).toInt ≤ h ∧ h < 2 * (Param.halves h).toInt + 2) ∧
    (h ≤ 0 → h ≤ 2 * (Param.halves h).toInt ∧ 2 * (Param.halves h).toInt - 2 < h) := by
  rw [toInt_halves]
  split <;> constructor <;> intro _ <;> omega

theorem validatePositiveInt_spec (p : Param) (strict : Bool) :
    (validatePositiveInt p strict = .ok p.toInt ↔ (if strict then 0 < p.toInt else 0 ≤ p.toInt)) ∧
    (validatePositiveInt p strict = .error .valueError ↔ ¬ (if strict then 0 < p.toInt else 0 ≤ p.toInt)) := by
  unfold validatePositiveInt
  cases strict <;> by_cases h : p.toInt < 0 <;> by_cases h0 : p.toInt = 0 <;> simp [h, h0] <;> omega

theorem chunkedP_eq (size : Param) (fill : Option α) (src : List α) :
    chunkedIterP size fill src = chunkedIter size.toInt fill src ∧
    chunkedP size none fill src = chunked size.toInt none fill src ∧
    (∀ cp c, cp.index? = some c → chunkedP size (some cp) fill src = chunked size.toInt (some c) fill src) ∧
    (∀ cp, cp.index? = none → chunkedP size (some cp) fill src = .error .valueError) := by
  refine ⟨chunkedIterP_eq size fill src, chunkedP_none size fill src,
    fun cp c hc => by simp [chunkedP, chunked, chunkedIterP_eq, hc], fun cp hc => by simp [chunkedP, hc]⟩

/-- hence the chunk laws hold for every accepted size argument (`3`, `3.0`, `3.5`, `True`, ...) -/
theorem chunked_param_concat (size : Param) (hs : 0 < size.toInt) (src : List α) :
    ∃ out, chunkedP size none none src = .ok out ∧ out.flatten = src ∧
      (∀ c ∈ out.dropLast, c.length = size.toInt.toNat) ∧
      (∀ c ∈ out, 1 ≤ c.length ∧ c.length ≤ size.toInt.toNat) := by
  obtain ⟨out, h1, h2⟩ := chunked_concat hs src
  obtain ⟨out', h1', h3, h4⟩ := chunked_sizes hs src
  rw [h1] at h1'
  cases h1'
  exact ⟨out, by rw [chunkedP_none]; exact h1, h2, h3, h4⟩

theorem windowedP_eq (size : Param) (fill : Option α) (src : List α) :
    (∀ n, size.index? = some n → windowedP size fill src = windowed n fill src) ∧
    (size.index? = none → windowedP size fill src = .error .typeError) := by
  refine ⟨fun n h => by simp [windowedP, h], fun h => by simp [windowedP, h]⟩

theorem chunkRangesP_eq (size cs off ov : Param) (align : Bool) :
    chunkRangesP size cs off ov align = chunkRanges size.toInt cs.toInt off.toInt ov.toInt align := by
  unfold chunkRangesP chunkRanges
  simp only [validatePositiveInt_nonstrict, validatePositiveInt_strict]
  by_cases hbad : size.toInt < 0 ∨ cs.toInt ≤ 0 ∨ off.toInt < 0 ∨ ov.toInt < 0
  · rw [if_pos hbad]
    -- the first offending argument decides
    by_cases h1 : size.toInt < 0
    · rw [if_pos h1]
    · rw [if_neg h1]
      by_cases h2 : cs.toInt ≤ 0
      · rw [if_pos h2]
      · rw [if_neg h2]
        by_cases h3 : off.toInt < 0
        · rw [if_pos h3]
        · rw [if_neg h3, if_pos (show ov.toInt < 0 by omega)]
  · rw [if_neg hbad, if_neg (by omega), if_neg (by omega), if_neg (by omega), if_neg (by omega)]

example : (Param.halves 5).toInt = 2 ∧ (Param.halves (-1)).toInt = 0 ∧ (Param.halves (-5)).toInt = -2 ∧
    (Param.bool true).toInt = 1 := by decide
example : chunkedP (.halves 5) none none [0, 1, 2, 3, 4] = .ok [[0, 1], [2, 3], [4]] := by rfl
example : chunkedP (.int 2) (some (.halves 2)) none [0, 1, 2] = .error .valueError := by rfl
example : chunkedP (.halves 1) none none [0, 1, 2] = .error .valueError := by rfl
example : windowedP (.bool true) none [5, 6] = .ok [[5], [6]] ∧
    windowedP (.halves 4) none [5, 6] = .error .typeError := ⟨by rfl, by rfl⟩
example : chunkRangesP (.halves 21) (.int 4) (.bool true) (.halves (-1)) false = .ok [(1, 5), (5, 9), (9, 11)] := by
  rfl
end C09
