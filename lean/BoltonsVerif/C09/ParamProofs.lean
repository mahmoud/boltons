import BoltonsVerif.C09.Model
/-
numeric arguments as passed (`int(value)`, `_validate_positive_int`, what `islice` / `tee` accept)
and the "as called" entry points of `chunked`.
-/
namespace C09
variable {α : Type}

/-- `int()` of a float given in halves, without `tdiv` -/
theorem toInt_halves (h : Int) :
    (Param.halves h).toInt = if 0 ≤ h then h / 2 else -((-h) / 2) := by
  show Int.tdiv h 2 = _
  by_cases hh : 0 ≤ h
  · rw [if_pos hh]
    exact Int.tdiv_eq_ediv_of_nonneg hh
  · rw [if_neg hh]
    have h1 : 0 ≤ -h := by omega
    have h2 : h.tdiv 2 = -((-h).tdiv 2) := by rw [Int.neg_tdiv]; omega
    rw [h2, Int.tdiv_eq_ediv_of_nonneg h1]

theorem map_toInt_map_int (ms : Option Int) : (ms.map Param.int).map Param.toInt = ms := by
  cases ms <;> rfl

theorem validatePositiveInt_eq (p : Param) (strict : Bool) :
    validatePositiveInt p strict =
      if p.toInt < 0 ∨ (strict = true ∧ p.toInt = 0) then .error .valueError else .ok p.toInt := rfl

theorem validatePositiveInt_nonstrict (p : Param) :
    validatePositiveInt p false = if p.toInt < 0 then .error .valueError else .ok p.toInt := by
  simp [validatePositiveInt]

theorem validatePositiveInt_strict (p : Param) :
    validatePositiveInt p true = if p.toInt ≤ 0 then .error .valueError else .ok p.toInt := by
  have h : (p.toInt < 0 ∨ p.toInt = 0) ↔ p.toInt ≤ 0 := by omega
  simp [validatePositiveInt, h]

theorem chunkedIterP_eq (size : Param) (fill : Option α) (src : List α) :
    chunkedIterP size fill src = chunkedIter size.toInt fill src := by
  unfold chunkedIterP chunkedIter
  rw [validatePositiveInt_strict]
  by_cases h : size.toInt ≤ 0
  · rw [if_pos h, if_pos h]
  · rw [if_neg h, if_neg h]

theorem chunkedP_none (size : Param) (fill : Option α) (src : List α) :
    chunkedP size none fill src = chunked size.toInt none fill src := by
  simp [chunkedP, chunked, chunkedIterP_eq]

theorem index_eq_toInt (p : Param) (c : Int) (h : p.index? = some c) : p.toInt = c := by
  cases p <;> simp_all [Param.index?, Param.toInt]

end C09
