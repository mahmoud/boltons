import BoltonsVerif.C09.Model
/-
windowed / pairwise: tee `i` after the staggered advance is `src.drop i`; zipping the tees gives the slices
(`zipLoop_tees`), `zip_longest` the padded slices (`zipLongestLoop_tees`).
-/
namespace C09
variable {α : Type}

theorem tees_succ (n : Nat) (src : List α) : tees (n + 1) src = src :: tees n src.tail := by
  unfold tees
  rw [List.range_succ_eq_map]
  simp [List.map_map, Function.comp_def]

theorem heads_tees : ∀ (n : Nat) (src : List α),
    heads? (tees n src) = if n ≤ src.length then some (src.take n) else none := by
  intro n
  induction n with
  | zero => intro src; simp [tees, heads?]
  | succ n ih =>
    intro src
    rw [tees_succ]
    cases src with
    | nil => simp [heads?]
    | cons x xs =>
      simp only [heads?, List.tail_cons, ih, List.length_cons, Nat.add_le_add_iff_right]
      split <;> simp

theorem tails_tees (n : Nat) (src : List α) : tails (tees n src) = tees n src.tail := by
  unfold tails tees
  simp [List.map_map, Function.comp_def]

theorem slices_nil (n : Nat) (hn : 0 < n) : slices n ([] : List α) = [] := by
  have : 0 + 1 - n = 0 := by omega
  simp [slices, this]

theorem slices_cons (n : Nat) (x : α) (xs : List α) :
    slices n (x :: xs) = if n ≤ xs.length + 1 then (x :: xs).take n :: slices n xs else [] := by
  unfold slices
  by_cases h : n ≤ xs.length + 1
  · have : (x :: xs).length + 1 - n = (xs.length + 1 - n) + 1 := by simp only [List.length_cons]; omega
    rw [if_pos h, this, List.range_succ_eq_map]
    simp [List.map_map, Function.comp_def]
  · have : (x :: xs).length + 1 - n = 0 := by simp only [List.length_cons]; omega
    rw [if_neg h, this]; rfl

theorem paddedSlices_cons (n : Nat) (f x : α) (xs : List α) :
    paddedSlices n f (x :: xs) =
      ((x :: xs).take n ++ List.replicate (n - (xs.length + 1)) f) :: paddedSlices n f xs := by
  unfold paddedSlices
  rw [List.length_cons, List.range_succ_eq_map]
  simp [List.map_map, Function.comp_def]

theorem zipLoop_tees (n : Nat) (hn : 0 < n) :
    ∀ (fuel : Nat) (src : List α), src.length ≤ fuel → zipLoop fuel (tees n src) = slices n src := by
  intro fuel
  induction fuel with
  | zero =>
    intro src h
    rw [List.length_eq_zero_iff.mp (Nat.le_zero.mp h), slices_nil n hn]; rfl
  | succ m ih =>
    intro src h
    rw [zipLoop, heads_tees]
    cases src with
    | nil => rw [if_neg (by simp; omega), slices_nil n hn]
    | cons x xs =>
      rw [slices_cons]
      by_cases hle : n ≤ xs.length + 1
      · simp only [List.length_cons, hle, ↓reduceIte, tails_tees, List.tail_cons]
        rw [ih xs (by simpa using h)]
      · simp only [List.length_cons, hle, ↓reduceIte]

theorem map_headD_tees (f : α) : ∀ (n : Nat) (src : List α),
    (tees n src).map (fun t => t.headD f) = src.take n ++ List.replicate (n - src.length) f := by
  intro n
  induction n with
  | zero => intro src; simp [tees]
  | succ n ih =>
    intro src
    rw [tees_succ]
    cases src with
    | nil =>
      have h := ih []
      simp at h
      simp [h, List.replicate_succ]
    | cons x xs =>
      have h := ih xs
      simp at h
      simp [h]

theorem tees_all_isEmpty (n : Nat) (hn : 0 < n) (src : List α) :
    (tees n src).all List.isEmpty = src.isEmpty := by
  obtain ⟨m, rfl⟩ : ∃ m, n = m + 1 := ⟨n - 1, by omega⟩
  rw [tees_succ]
  cases src with
  | nil => simp [tees]
  | cons x xs => simp

theorem zipLongestLoop_tees (f : α) (n : Nat) (hn : 0 < n) :
    ∀ (fuel : Nat) (src : List α), src.length ≤ fuel →
      zipLongestLoop f fuel (tees n src) = paddedSlices n f src := by
  intro fuel
  induction fuel with
  | zero =>
    intro src h
    rw [List.length_eq_zero_iff.mp (Nat.le_zero.mp h)]; rfl
  | succ m ih =>
    intro src h
    rw [zipLongestLoop, tees_all_isEmpty n hn, map_headD_tees, tails_tees]
    cases src with
    | nil => rfl
    | cons x xs =>
      rw [paddedSlices_cons, ← ih xs (by simpa using h)]
      rfl

end C09
