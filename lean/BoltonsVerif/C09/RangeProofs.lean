import BoltonsVerif.C09.Model
/-
chunk_ranges.  `stop = offset + size`; the step is `cs - ov` with `ov < cs` throughout (`chunk_size`, `overlap_size`).
What the loop yields is a `CrChain`, and `chunkRangesNat` a chain or a shorter first chunk and a chain
(`chunkRangesNat_shape`); every law of the property is read off that, and a list of ranges obeying the laws is a chain,
hence the loop's output.
-/
namespace C09

theorem crLoop_last (step : Nat) {stop cs fuel i : Nat} (hi : i < stop) (hend : stop ≤ i + cs) :
    crLoop stop cs step (fuel + 1) i = [(i, stop)] := by
  simp [crLoop, hi, hend, Nat.min_eq_right hend]

theorem crLoop_cons (step : Nat) {stop cs fuel i : Nat} (hlt : i + cs < stop) :
    crLoop stop cs step (fuel + 1) i = (i, i + cs) :: crLoop stop cs step fuel (i + step) := by
  have hi : i < stop := Nat.lt_of_le_of_lt (Nat.le_add_right _ _) hlt
  simp [crLoop, hi, Nat.not_le.2 hlt, Nat.min_eq_left (Nat.le_of_lt hlt)]

/-- what the loop yields from `i`: full chunks `(i, i + cs)` every `step` as long as they end before `stop`,
    then the chunk `(i, stop)` -/
inductive CrChain (stop cs step : Nat) : Nat → List (Nat × Nat) → Prop
  | last {i : Nat} : i < stop → stop ≤ i + cs → CrChain stop cs step i [(i, stop)]
  | cons {i : Nat} {out : List (Nat × Nat)} : i + cs < stop → CrChain stop cs step (i + step) out →
      CrChain stop cs step i ((i, i + cs) :: out)

theorem crLoop_chain (stop : Nat) {cs ov : Nat} (hov : ov < cs) :
    ∀ (fuel i : Nat), i < stop → stop - i ≤ fuel →
      CrChain stop cs (cs - ov) i (crLoop stop cs (cs - ov) fuel i) := by
  intro fuel
  induction fuel with
  | zero => intro i hi hf; exact absurd hf (Nat.not_le.2 (Nat.sub_pos_of_lt hi))
  | succ n ih =>
    intro i hi hf
    by_cases hend : stop ≤ i + cs
    · rw [crLoop_last _ hi hend]
      exact .last hi hend
    · rw [crLoop_cons _ (Nat.not_le.1 hend)]
      exact .cons (Nat.not_le.1 hend) (ih (i + (cs - ov)) (by omega) (by omega))

theorem CrChain.eq_crLoop {stop cs ov i : Nat} {out : List (Nat × Nat)} (hov : ov < cs)
    (h : CrChain stop cs (cs - ov) i out) : ∀ fuel, stop - i ≤ fuel → out = crLoop stop cs (cs - ov) fuel i := by
  induction h with
  | last hi hend =>
    intro fuel hf
    cases fuel with
    | zero => exact absurd hf (Nat.not_le.2 (Nat.sub_pos_of_lt hi))
    | succ f => rw [crLoop_last _ hi hend]
  | cons hlt _ ih =>
    intro fuel hf
    cases fuel with
    | zero => exact absurd hf (Nat.not_le.2 (Nat.sub_pos_of_lt (Nat.lt_of_le_of_lt (Nat.le_add_right _ _) hlt)))
    | succ f => rw [crLoop_cons _ hlt, ← ih f (by omega)]

theorem CrChain.ne_nil {stop cs step i : Nat} {out : List (Nat × Nat)} (h : CrChain stop cs step i out) :
    out ≠ [] := by
  cases h <;> simp

/-- what holds OF a chain; `RangesOK` below is this with `stop = off + size`, plus alignment -/
structure ChainLaws (stop cs ov i : Nat) (out : List (Nat × Nat)) : Prop where
  head : out.head?.map (·.1) = some i
  last : out.getLast?.map (·.2) = some stop
  each : ∀ r ∈ out, r.1 < r.2 ∧ r.2 ≤ r.1 + cs ∧ i ≤ r.1 ∧ r.2 ≤ stop
  chain : ∀ ab ∈ out.zip out.tail, ab.2.1 + ov = ab.1.2
  cover : ∀ j, i ≤ j → j < stop → ∃ r ∈ out, r.1 ≤ j ∧ j < r.2

theorem ChainLaws.single {stop cs i : Nat} (ov : Nat) (hi : i < stop) (hend : stop ≤ i + cs) :
    ChainLaws stop cs ov i [(i, stop)] where
  head := rfl
  last := rfl
  each := by
    intro r hr
    obtain rfl := List.mem_singleton.1 hr
    exact ⟨hi, hend, Nat.le_refl _, Nat.le_refl _⟩
  chain := by simp
  cover := fun j h1 h2 => ⟨(i, stop), by simp, h1, h2⟩

theorem ChainLaws.cons {stop cs ov i e j : Nat} {out : List (Nat × Nat)} (inv : ChainLaws stop cs ov j out)
    (hie : i < e) (hlen : e ≤ i + cs) (hj : j + ov = e) (hij : i ≤ j) (hes : e ≤ stop) :
    ChainLaws stop cs ov i ((i, e) :: out) := by
  cases out with
  | nil => have := inv.head; simp at this
  | cons r1 rest =>
    have hr1 : r1.1 = j := by simpa using inv.head
    exact {
      head := rfl
      last := by rw [List.getLast?_cons_cons]; exact inv.last
      each := by
        intro r hr
        rcases List.mem_cons.1 hr with rfl | hr
        · exact ⟨hie, hlen, Nat.le_refl _, hes⟩
        · obtain ⟨hpos, hlen', hstart, hstop⟩ := inv.each r hr
          exact ⟨hpos, hlen', Nat.le_trans hij hstart, hstop⟩
      chain := by
        intro ab hab
        simp only [List.tail_cons, List.zip_cons_cons, List.mem_cons] at hab
        rcases hab with rfl | hab
        · simp only [hr1, hj]
        · exact inv.chain ab (by simpa using hab)
      cover := by
        intro k hk1 hk2
        by_cases hk : k < e
        · exact ⟨(i, e), by simp, hk1, hk⟩
        · obtain ⟨r, hr, h⟩ := inv.cover k (by omega) hk2
          exact ⟨r, List.mem_cons_of_mem _ hr, h⟩ }

theorem CrChain.lawful {stop cs ov i : Nat} {out : List (Nat × Nat)} (hov : ov < cs)
    (h : CrChain stop cs (cs - ov) i out) : ChainLaws stop cs ov i out := by
  induction h with
  | last hi hend => exact .single _ hi hend
  | cons hlt _ ih =>
    exact ih.cons (Nat.lt_add_of_pos_right (Nat.lt_of_le_of_lt (Nat.zero_le _) hov)) (Nat.le_refl _)
      (by rw [Nat.add_assoc, Nat.sub_add_cancel (Nat.le_of_lt hov)]) (Nat.le_add_right _ _) (Nat.le_of_lt hlt)

theorem CrChain.start_mod {stop cs step i : Nat} {out : List (Nat × Nat)} (h : CrChain stop cs step i out) :
    ∀ r ∈ out, r.1 % step = i % step := by
  induction h with
  | last => intro r hr; rw [List.mem_singleton.1 hr]
  | cons _ _ ih =>
    intro r hr
    rcases List.mem_cons.1 hr with rfl | hr
    · rfl
    · rw [ih r hr, Nat.add_mod_right]

theorem CrChain.full {stop cs step i : Nat} {out : List (Nat × Nat)} (h : CrChain stop cs step i out) :
    ∀ r ∈ out.dropLast, r.2 = r.1 + cs ∧ r.2 < stop := by
  induction h with
  | last => simp
  | cons hlt h' ih =>
    rw [List.dropLast_cons_of_ne_nil h'.ne_nil]
    intro r hr
    rcases List.mem_cons.1 hr with rfl | hr
    · exact ⟨rfl, hlt⟩
    · exact ih r hr

theorem chunkRangesNat_false (size cs off ov : Nat) :
    chunkRangesNat size cs off ov false = crLoop (off + size) cs (cs - ov) size off := by
  simp [chunkRangesNat]

/-- longer than the overlap: the first chunk of the aligned form is never skipped -/
theorem aligned_first_len (cs off ov : Nat) (h : ov < cs) :
    ov < cs - off % (cs - ov) ∧ cs - off % (cs - ov) ≤ cs := by
  have : off % (cs - ov) < cs - ov := Nat.mod_lt _ (by omega)
  omega

theorem chunkRangesNat_true_short {size cs off ov : Nat} (hov : ov < cs) (h : size ≤ cs - off % (cs - ov)) :
    chunkRangesNat size cs off ov true = [(off, off + size)] := by
  have hend : off + size ≤ off + (cs - off % (cs - ov)) := Nat.add_le_add_left h off
  simp [chunkRangesNat, Nat.ne_of_gt (aligned_first_len cs off ov hov).1, hend, Nat.min_eq_right hend]

theorem chunkRangesNat_true_long {size cs off ov : Nat} (hov : ov < cs) (h : cs - off % (cs - ov) < size) :
    chunkRangesNat size cs off ov true =
      (off, off + (cs - off % (cs - ov))) ::
        crLoop (off + size) cs (cs - ov) size (off + (cs - off % (cs - ov)) - ov) := by
  have hend : ¬ off + size ≤ off + (cs - off % (cs - ov)) := Nat.not_le.2 (Nat.add_lt_add_left h off)
  simp [chunkRangesNat, Nat.ne_of_gt (aligned_first_len cs off ov hov).1, hend,
    Nat.min_eq_left (Nat.le_of_lt (Nat.not_le.1 hend))]

theorem aligned_second_start_mod (cs off ov : Nat) (hov : ov < cs) :
    (off + (cs - off % (cs - ov)) - ov) % (cs - ov) = 0 := by
  have hlt : off % (cs - ov) < cs - ov := Nat.mod_lt _ (by omega)
  have hle := Nat.mod_le off (cs - ov)
  have h1 := Nat.div_add_mod off (cs - ov)
  have h2 : off + (cs - off % (cs - ov)) - ov = (cs - ov) * (off / (cs - ov)) + (cs - ov) := by omega
  rw [h2, Nat.add_mod_right, Nat.mul_mod_right]

/-- the three forms of the output for a non-empty input.  Without `align`: a chain from the offset.  With it: one range
    when the input ends within the first chunk (`cs - off % (cs - ov)` long: up to the next boundary plus the overlap),
    else that chunk and a chain from `ov` before its end -/
inductive RangesShape (size cs off ov : Nat) : Bool → List (Nat × Nat) → Prop
  | plain {out : List (Nat × Nat)} : CrChain (off + size) cs (cs - ov) off out → RangesShape size cs off ov false out
  | short : size ≤ cs - off % (cs - ov) → RangesShape size cs off ov true [(off, off + size)]
  | long {tl : List (Nat × Nat)} : cs - off % (cs - ov) < size →
      CrChain (off + size) cs (cs - ov) (off + (cs - off % (cs - ov)) - ov) tl →
      RangesShape size cs off ov true ((off, off + (cs - off % (cs - ov))) :: tl)

theorem chunkRangesNat_shape (size cs off ov : Nat) (align : Bool) (hsz : 0 < size) (hov : ov < cs) :
    RangesShape size cs off ov align (chunkRangesNat size cs off ov align) := by
  cases align with
  | false =>
    rw [chunkRangesNat_false]
    exact .plain (crLoop_chain _ hov _ _ (Nat.lt_add_of_pos_right hsz) (Nat.le_of_eq (Nat.add_sub_cancel_left ..)))
  | true =>
    by_cases hend : size ≤ cs - off % (cs - ov)
    · rw [chunkRangesNat_true_short hov hend]
      exact .short hend
    · have hend := Nat.not_le.1 hend
      have hb := (aligned_first_len cs off ov hov).1
      rw [chunkRangesNat_true_long hov hend]
      exact .long hend (crLoop_chain _ hov _ _ (by omega) (by omega))

/-- all chunk_ranges laws for valid parameters and a non-empty input -/
structure RangesOK (size cs off ov : Nat) (align : Bool) (out : List (Nat × Nat)) : Prop where
  head : out.head?.map (·.1) = some off
  last : out.getLast?.map (·.2) = some (off + size)
  each : ∀ r ∈ out, r.1 < r.2 ∧ r.2 ≤ r.1 + cs ∧ off ≤ r.1 ∧ r.2 ≤ off + size
  chain : ∀ ab ∈ out.zip out.tail, ab.2.1 + ov = ab.1.2
  aligned : align = true → ∀ r ∈ out.tail, r.1 % (cs - ov) = 0
  cover : ∀ j, off ≤ j → j < off + size → ∃ r ∈ out, r.1 ≤ j ∧ j < r.2

theorem ChainLaws.rangesOK {size cs off ov : Nat} {align : Bool} {out : List (Nat × Nat)}
    (l : ChainLaws (off + size) cs ov off out) (hal : align = true → ∀ r ∈ out.tail, r.1 % (cs - ov) = 0) :
    RangesOK size cs off ov align out :=
  ⟨l.head, l.last, l.each, l.chain, hal, l.cover⟩

theorem chunkRangesNat_ok (size cs off ov : Nat) (align : Bool) (hsz : 0 < size) (hov : ov < cs) :
    RangesOK size cs off ov align (chunkRangesNat size cs off ov align) := by
  have sh := chunkRangesNat_shape size cs off ov align hsz hov
  generalize chunkRangesNat size cs off ov align = out at sh ⊢
  have hb := aligned_first_len cs off ov hov
  cases sh with
  | plain c => exact (c.lawful hov).rangesOK (by simp)
  | short hend =>
    exact (ChainLaws.single ov (Nat.lt_add_of_pos_right hsz)
      (Nat.add_le_add_left (Nat.le_trans hend hb.2) off)).rangesOK (by simp)
  | long hend c =>
    have hal := aligned_second_start_mod cs off ov hov
    -- of the first chunk's length only its bounds `hb`, `hend` matter from here on
    generalize cs - off % (cs - ov) = icl at hb hend c hal ⊢
    have hpos : 0 < icl := Nat.lt_of_le_of_lt (Nat.zero_le _) hb.1
    refine ((c.lawful hov).cons (Nat.lt_add_of_pos_right hpos) (Nat.add_le_add_left hb.2 off)
      (Nat.sub_add_cancel (Nat.le_trans (Nat.le_of_lt hb.1) (Nat.le_add_left _ _))) (by omega)
      (Nat.le_of_lt (Nat.add_lt_add_left hend off))).rangesOK ?_
    intro _ r hr
    rw [c.start_mod r hr, hal]

/-- what FORCES a chain: the laws of the property statement plus "every range but the last is full" -/
structure ChainSpec (stop cs ov off : Nat) (out : List (Nat × Nat)) : Prop where
  ne : out ≠ []
  head : out.head?.map (·.1) = some off
  chain : ∀ ab ∈ out.zip out.tail, ab.2.1 + ov = ab.1.2
  full : ∀ r ∈ out.dropLast, r.2 = r.1 + cs ∧ r.2 < stop
  last : out.getLast?.map (·.2) = some stop
  lastlen : ∀ r, out.getLast? = some r → r.1 < r.2 ∧ r.2 ≤ r.1 + cs

/-- of `r` only its place in the overlap chain is used: it may be the shorter first chunk of the aligned form -/
theorem ChainSpec.of_cons {stop cs ov : Nat} {r r2 : Nat × Nat} {rest : List (Nat × Nat)}
    (hchain : ∀ ab ∈ (r :: r2 :: rest).zip (r2 :: rest), ab.2.1 + ov = ab.1.2)
    (hfull : ∀ x ∈ (r2 :: rest).dropLast, x.2 = x.1 + cs ∧ x.2 < stop)
    (hlast : (r :: r2 :: rest).getLast?.map (·.2) = some stop)
    (hlastlen : ∀ x, (r :: r2 :: rest).getLast? = some x → x.1 < x.2 ∧ x.2 ≤ x.1 + cs) :
    ChainSpec stop cs ov (r.2 - ov) (r2 :: rest) where
  ne := by simp
  head := congrArg some (Nat.eq_sub_of_add_eq (hchain (r, r2) (by simp)))
  chain := fun ab hab => hchain ab (by
    simp only [List.tail_cons, List.zip_cons_cons, List.mem_cons] at hab ⊢
    exact Or.inr hab)
  full := hfull
  last := by rwa [List.getLast?_cons_cons] at hlast
  lastlen := fun x hx => hlastlen x (by rw [List.getLast?_cons_cons]; exact hx)

theorem ChainSpec.tail {stop cs ov off : Nat} {r r2 : Nat × Nat} {rest : List (Nat × Nat)}
    (h : ChainSpec stop cs ov off (r :: r2 :: rest)) : ChainSpec stop cs ov (r.2 - ov) (r2 :: rest) :=
  .of_cons h.chain (fun x hx => h.full x (by rw [List.dropLast_cons_cons]; exact List.mem_cons_of_mem _ hx))
    h.last h.lastlen

theorem ChainSpec.crChain {stop cs ov : Nat} (hov : ov < cs) :
    ∀ {out : List (Nat × Nat)} {off : Nat}, ChainSpec stop cs ov off out → CrChain stop cs (cs - ov) off out := by
  intro out
  induction out with
  | nil => intro off h; exact absurd rfl h.ne
  | cons r rest ih =>
    intro off h
    have hr1 : r.1 = off := by simpa using h.head
    cases rest with
    | nil =>
      have hr2 : r.2 = stop := by simpa using h.last
      have hl := h.lastlen r rfl
      rw [← Prod.eta r, hr1, hr2]
      exact .last (by omega) (by omega)
    | cons r2 rest' =>
      have hfull := h.full r (by simp)
      have ht := ih h.tail
      have hs : r.2 - ov = off + (cs - ov) := by omega
      rw [hs] at ht
      rw [← Prod.eta r, hfull.1, hr1]
      exact .cons (by omega) ht

theorem crLoop_unique (stop cs ov : Nat) (hov : ov < cs) (out : List (Nat × Nat)) (off fuel : Nat)
    (h : ChainSpec stop cs ov off out) (hf : stop - off ≤ fuel) : out = crLoop stop cs (cs - ov) fuel off :=
  (h.crChain hov).eq_crLoop hov fuel hf

theorem next_multiple_unique (step off s2 : Nat) (hstep : 0 < step) (hmod : s2 % step = 0)
    (h1 : off < s2) (h2 : s2 ≤ off + step) : s2 = off + step - off % step := by
  -- `s2 = step * k` and `off = step * q + m` with `m < step`: `off < s2 ≤ off + step` leaves `k = q + 1` only
  obtain ⟨k, hk⟩ := Nat.dvd_of_mod_eq_zero hmod
  have hq := Nat.div_add_mod off step
  have hm : off % step < step := Nat.mod_lt _ hstep
  generalize off / step = q at hq
  generalize off % step = m at hq hm ⊢
  have hk1 : q < k := by
    apply Classical.byContradiction
    intro hn
    have : step * k ≤ step * q := Nat.mul_le_mul_left _ (by omega)
    omega
  have hk2 : k < q + 2 := by
    apply Classical.byContradiction
    intro hn
    have : step * (q + 2) ≤ step * k := Nat.mul_le_mul_left _ (by omega)
    rw [Nat.mul_add] at this
    omega
  have : k = q + 1 := by omega
  subst this
  rw [Nat.mul_add] at hk
  omega

end C09
