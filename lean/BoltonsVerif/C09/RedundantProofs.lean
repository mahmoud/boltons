import BoltonsVerif.C09.BucketProofs
/-
the loop of `redundant`, like that of `bucketize`, by two laws that hold from any state: the order of
the keys (`redLoop_keys`) and what happens to one key (`redLoop_lookup_from`); then the call from empty dicts.
-/
namespace C09
variable {α : Type} {κ : Type} [DecidableEq κ]

/-- the items of `l` with key `k`, in input order (the `filter` the property statements spell out) -/
def occ (f : α → κ) (k : κ) (l : List α) : List α := l.filter (fun x => decide (f x = k))

/-- what `redundant_groups[k]` holds for a key whose items are `l`: all of them when `groups`, else the first two -/
def reported (groups : Bool) (l : List α) : List α := if groups then l else l.take 2

theorem reported_true (l : List α) : reported true l = l := rfl

theorem reported_false (l : List α) : reported false l = l.take 2 := rfl

theorem occ_cons (f : α → κ) (k : κ) (i : α) (l : List α) :
    occ f k (i :: l) = if f i = k then i :: occ f k l else occ f k l := by
  unfold occ
  rw [List.filter_cons]
  by_cases h : f i = k <;> simp [h]

theorem occ_length_eq_countP (f : α → κ) (k : κ) (l : List α) :
    (occ f k l).length = l.countP (fun x => decide (f x = k)) := by
  simp [occ, List.countP_eq_length_filter]

theorem occ_mem_key (f : α → κ) (k : κ) (l : List α) : ∀ y ∈ occ f k l, f y = k := by
  intro y hy
  simp only [occ, List.mem_filter, decide_eq_true_eq] at hy
  exact hy.2

theorem laterKeys_seen_congr (f : α → κ) : ∀ (xs : List α) (s1 s2 : List κ),
    (∀ k, k ∈ s1 ↔ k ∈ s2) → laterKeys f s1 xs = laterKeys f s2 xs := by
  intro xs
  induction xs with
  | nil => intro s1 s2 _; rfl
  | cons x xs ih =>
    intro s1 s2 h
    rw [laterKeys, laterKeys]
    by_cases hx : f x ∈ s1
    · rw [if_pos hx, if_pos ((h _).1 hx), ih s1 s2 h]
    · rw [if_neg hx, if_neg (fun e => hx ((h _).2 e))]
      exact ih _ _ (fun k => by simp [h k])

/-- the order of `redundant_groups` does not depend on what the two dicts hold.  `laterKeys` lists the key of every item
    met while its key is in `seen`; a key enters `rg` when it shows up there for the first time, which is what
    `uniqueLoop id` keeps: the order of second occurrences -/
theorem redLoop_keys (f : α → κ) (groups : Bool) :
    ∀ (src : List α) (seen : List (κ × α)) (rg : List (κ × List α)),
      keysOf (redLoop f groups src seen rg) =
        keysOf rg ++ uniqueLoop id (laterKeys f (keysOf seen) src) (keysOf rg) := by
  intro src
  induction src with
  | nil => intro seen rg; simp [redLoop, laterKeys, uniqueLoop]
  | cons i src ih =>
    intro seen rg
    rw [redLoop, laterKeys]
    cases hl : lookup (f i) seen with
    | none =>
      have hs : f i ∉ keysOf seen := (lookup_eq_none_iff _ _).1 hl
      simp only [hs, ↓reduceIte]
      rw [ih, laterKeys_seen_congr f src (keysOf (seen ++ [(f i, i)])) (f i :: keysOf seen)
        (by simp [keysOf, or_comm])]
    | some first =>
      have hs : f i ∈ keysOf seen := (lookup_isSome_iff _ _).1 (by rw [hl]; rfl)
      simp only [hs, ↓reduceIte]
      rw [← uniqueLoop_id_enter]
      by_cases hr : f i ∈ keysOf rg
      · simp only [(lookup_isSome_iff _ _).2 hr, hr, ↓reduceIte]
        cases groups
        · exact ih _ _
        · simp only [↓reduceIte]; rw [ih, keysOf_appendAt]
      · have : (lookup (f i) rg).isSome = false := by
          rw [(lookup_eq_none_iff _ _).2 hr]; rfl
        simp only [this, hr, ↓reduceIte, Bool.false_eq_true]
        rw [ih, keysOf_append]; rfl

/-- `redundant_groups.get(k)` after the loop, from `seen.get(k)` and `redundant_groups.get(k)` before it and the items
    with key `k` still to come: a key not yet seen needs two of them, a key seen once needs one (its first item is
    `seen[k]`), a key reported already collects them when `groups` -/
def entryAfter (groups : Bool) : Option α → Option (List α) → List α → Option (List α)
  | none, _, o => if 2 ≤ o.length then some (reported groups o) else none
  | some first, none, o => if o = [] then none else some (reported groups (first :: o))
  | some _, some l, o => some (if groups then l ++ o else l)

/-- what happens to the key `k` depends on the items with key `k` only; the hypothesis: a key reported is a key seen -/
theorem redLoop_lookup_from (f : α → κ) (groups : Bool) (k : κ) :
    ∀ (src : List α) (seen : List (κ × α)) (rg : List (κ × List α)),
      (lookup k seen = none → lookup k rg = none) →
      lookup k (redLoop f groups src seen rg) = entryAfter groups (lookup k seen) (lookup k rg) (occ f k src) := by
  intro src
  induction src with
  | nil =>
    intro seen rg h
    cases hs : lookup k seen with
    | none => simp [redLoop, entryAfter, occ, h hs]
    | some first => cases hr : lookup k rg <;> cases groups <;> simp [redLoop, entryAfter, occ, hr]
  | cons i src ih =>
    intro seen rg h
    rw [redLoop, occ_cons]
    by_cases hk : f i = k
    · subst hk
      simp only [↓reduceIte]
      cases hs : lookup (f i) seen with
      | none =>
        -- first item with this key
        simp only
        rw [ih _ _ (by simp [h hs]), lookup_append_single, hs, h hs]
        cases hso : occ f (f i) src <;> simp [entryAfter]
      | some first =>
        cases hr : lookup (f i) rg with
        | none =>
          -- second item with this key: a new entry at the end
          simp only [Option.isSome_none, Bool.false_eq_true, ↓reduceIte]
          rw [ih _ _ (by simp [hs]), lookup_append_single, hs, hr]
          cases groups <;> simp [entryAfter, reported]
        | some l =>
          -- third or later item with this key
          simp only [Option.isSome_some, ↓reduceIte]
          cases groups with
          | false => simp only [Bool.false_eq_true, ↓reduceIte]; rw [ih _ _ (by simp [hs]), hs, hr]; simp [entryAfter]
          | true =>
            simp only [↓reduceIte]
            rw [ih _ _ (by simp [hs]), hs, lookup_appendAt, hr]
            simp [entryAfter]
    · -- an item with another key leaves `seen.get(k)` and `redundant_groups.get(k)` as they are
      have hk' : ¬ k = f i := fun e => hk e.symm
      simp only [hk, ↓reduceIte]
      cases hs : lookup (f i) seen with
      | none =>
        simp only
        rw [ih _ _ (by rw [lookup_append_single]; simpa [hk] using h), lookup_append_single]
        simp [hk]
      | some first =>
        simp only
        split
        · cases groups
          · simp only [Bool.false_eq_true, ↓reduceIte]; exact ih _ _ h
          · simp only [↓reduceIte]
            rw [ih _ _ (by rw [lookup_appendAt]; simpa [hk'] using h), lookup_appendAt]
            simp [hk']
        · rw [ih _ _ (by rw [lookup_append_single]; simpa [hk] using h), lookup_append_single]
          simp [hk]

theorem redLoop_keys_order (f : α → κ) (groups : Bool) (src : List α) :
    keysOf (redLoop f groups src [] []) = unique id (laterKeys f [] src) :=
  redLoop_keys f groups src [] []

theorem redLoop_lookup (f : α → κ) (groups : Bool) (src : List α) (k : κ) :
    lookup k (redLoop f groups src [] []) =
      if 2 ≤ (occ f k src).length then some (reported groups (occ f k src)) else none :=
  redLoop_lookup_from f groups k src [] [] (fun _ => rfl)

theorem redLoop_keys_nodup (f : α → κ) (groups : Bool) (src : List α) :
    (keysOf (redLoop f groups src [] [])).Nodup := by
  rw [redLoop_keys_order]
  simpa [unique] using uniqueLoop_nodup id (laterKeys f [] src) []

theorem redLoop_entry (f : α → κ) (groups : Bool) (src : List α) :
    ∀ e ∈ redLoop f groups src [] [], e.2 = reported groups (occ f e.1 src) ∧ 2 ≤ (occ f e.1 src).length := by
  intro e he
  obtain ⟨k, g⟩ := e
  have hl := lookup_of_mem_nodup (redLoop_keys_nodup f groups src) he
  rw [redLoop_lookup] at hl
  by_cases h : 2 ≤ (occ f k src).length
  · simp only [h, ↓reduceIte, Option.some.injEq] at hl
    exact ⟨hl.symm, h⟩
  · simp [h] at hl

theorem redLoop_eq_map (f : α → κ) (groups : Bool) (src : List α) :
    redLoop f groups src [] [] =
      (unique id (laterKeys f [] src)).map (fun k => (k, reported groups (occ f k src))) := by
  rw [← redLoop_keys_order f groups src]
  exact eq_map_keysOf _ _ (fun e he => (redLoop_entry f groups src e he).1)

theorem redLoop_keys_iff (f : α → κ) (groups : Bool) (src : List α) (k : κ) :
    k ∈ keysOf (redLoop f groups src [] []) ↔ 2 ≤ src.countP (fun x => decide (f x = k)) := by
  rw [← lookup_isSome_iff, redLoop_lookup, occ_length_eq_countP]
  split <;> simp_all

theorem filterMap_map_keys (f : α → κ) (h : κ × List α → Option α) (l : List (κ × List α))
    (hl : ∀ e ∈ l, ∃ y, h e = some y ∧ f y = e.1) : (l.filterMap h).map f = keysOf l := by
  induction l with
  | nil => simp [keysOf]
  | cons e es ih =>
    obtain ⟨y, hy, hfy⟩ := hl e (by simp)
    rw [List.filterMap_cons_some hy]
    simp only [List.map_cons, keysOf, hfy]
    congr 1
    exact ih (fun e' he' => hl e' (by simp [he']))

theorem redundant_entry_second (f : α → κ) (src : List α) :
    ∀ e ∈ redLoop f false src [] [], ∃ y, e.2[1]? = some y ∧ f y = e.1 ∧ (occ f e.1 src)[1]? = some y := by
  intro e he
  obtain ⟨h1, h2⟩ := redLoop_entry f false src e he
  have hlt : 1 < (occ f e.1 src).length := by omega
  refine ⟨(occ f e.1 src)[1], ?_, ?_, ?_⟩
  · rw [h1, reported_false, List.getElem?_take]
    simp [hlt]
  · exact occ_mem_key f e.1 src _ (List.getElem_mem hlt)
  · simp [hlt]

theorem redundant_map_keys (f : α → κ) (src : List α) :
    (redundant f src).map f = keysOf (redLoop f false src [] []) := by
  unfold redundant
  apply filterMap_map_keys
  intro e he
  obtain ⟨y, h1, h2, _⟩ := redundant_entry_second f src e he
  exact ⟨y, h1, h2⟩

end C09
