import BoltonsVerif.C09.Model
/-
unique_iter keeps exactly the first occurrence of each key, in order.
-/
namespace C09
variable {α : Type} {κ : Type} [DecidableEq κ]

theorem uniqueLoop_sublist (f : α → κ) : ∀ (xs : List α) (seen : List κ),
    (uniqueLoop f xs seen).Sublist xs := by
  intro xs
  induction xs with
  | nil => intro seen; simp [uniqueLoop]
  | cons x xs ih =>
    intro seen
    rw [uniqueLoop]
    split
    · exact (ih seen).cons x
    · exact (ih _).cons_cons x

theorem uniqueLoop_not_seen (f : α → κ) : ∀ (xs : List α) (seen : List κ),
    ∀ y ∈ uniqueLoop f xs seen, f y ∉ seen := by
  intro xs
  induction xs with
  | nil => intro seen y hy; simp [uniqueLoop] at hy
  | cons x xs ih =>
    intro seen y hy
    rw [uniqueLoop] at hy
    split at hy
    · exact ih seen y hy
    · rename_i hx
      simp only [List.mem_cons] at hy
      rcases hy with rfl | hy
      · exact hx
      · have := ih _ y hy
        simp only [List.mem_cons, not_or] at this
        exact this.2

theorem uniqueLoop_nodup (f : α → κ) : ∀ (xs : List α) (seen : List κ),
    ((uniqueLoop f xs seen).map f).Nodup := by
  intro xs
  induction xs with
  | nil => intro seen; simp [uniqueLoop]
  | cons x xs ih =>
    intro seen
    rw [uniqueLoop]
    split
    · exact ih seen
    · simp only [List.map_cons, List.nodup_cons]
      refine ⟨?_, ih _⟩
      intro hmem
      obtain ⟨y, hy, hfy⟩ := List.mem_map.mp hmem
      have := uniqueLoop_not_seen f xs (f x :: seen) y hy
      simp [hfy] at this

theorem uniqueLoop_covers (f : α → κ) : ∀ (xs : List α) (seen : List κ),
    ∀ x ∈ xs, f x ∈ seen ∨ f x ∈ (uniqueLoop f xs seen).map f := by
  intro xs
  induction xs with
  | nil => intro seen x hx; simp at hx
  | cons a xs ih =>
    intro seen x hx
    rw [uniqueLoop]
    simp only [List.mem_cons] at hx
    split
    · rename_i ha
      rcases hx with rfl | hx
      · exact Or.inl ha
      · exact ih seen x hx
    · rcases hx with rfl | hx
      · right; simp
      · rcases ih (f a :: seen) x hx with h | h
        · simp only [List.mem_cons] at h
          rcases h with h | h
          · right; simp [h]
          · exact Or.inl h
        · right; simp only [List.map_cons, List.mem_cons]; exact Or.inr h

theorem uniqueLoop_first (f : α → κ) : ∀ (xs : List α) (seen : List κ),
    ∀ y ∈ uniqueLoop f xs seen, xs.find? (fun x => decide (f x = f y)) = some y := by
  intro xs
  induction xs with
  | nil => intro seen y hy; simp [uniqueLoop] at hy
  | cons a xs ih =>
    intro seen y hy
    have hns := uniqueLoop_not_seen f (a :: xs) seen y hy
    rw [uniqueLoop] at hy
    split at hy
    · rename_i ha
      have hne : f a ≠ f y := fun h => hns (h ▸ ha)
      rw [List.find?_cons_of_neg (by simpa using hne)]
      exact ih seen y hy
    · simp only [List.mem_cons] at hy
      rcases hy with rfl | hy
      · simp
      · have := uniqueLoop_not_seen f xs (f a :: seen) y hy
        simp only [List.mem_cons, not_or] at this
        have hne : f a ≠ f y := fun h => this.1 h.symm
        rw [List.find?_cons_of_neg (by simpa using hne)]
        exact ih _ y hy

theorem uniqueLoop_congr (f g : α → κ) :
    ∀ (src : List α) (seen : List κ), (∀ x ∈ src, f x = g x) → uniqueLoop f src seen = uniqueLoop g src seen := by
  intro src
  induction src with
  | nil => intro seen _; rfl
  | cons x xs ih =>
    intro seen h
    have hx : f x = g x := h x (by simp)
    have hxs : ∀ y ∈ xs, f y = g y := fun y hy => h y (List.mem_cons_of_mem _ hy)
    simp only [uniqueLoop, hx]
    split
    · exact ih _ hxs
    · rw [ih _ hxs]

theorem uniqueLoop_seen_congr (f : α → κ) : ∀ (xs : List α) (s1 s2 : List κ),
    (∀ k, k ∈ s1 ↔ k ∈ s2) → uniqueLoop f xs s1 = uniqueLoop f xs s2 := by
  intro xs
  induction xs with
  | nil => intro s1 s2 _; simp [uniqueLoop]
  | cons x xs ih =>
    intro s1 s2 h
    rw [uniqueLoop, uniqueLoop]
    by_cases hx : f x ∈ s1
    · have hx2 : f x ∈ s2 := (h _).mp hx
      simp only [hx, hx2, ↓reduceIte]
      exact ih s1 s2 h
    · have hx2 : f x ∉ s2 := fun e => hx ((h _).mpr e)
      simp only [hx, hx2, ↓reduceIte]
      congr 1
      apply ih
      intro k
      simp [h k]

/-- entering the key `k` into a dict whose keys are `ks` (at the end, unless it is there) and going on with the
    key stream `rest` is going on with `k :: rest` from `ks`: the step behind the key order of every dict a loop fills -/
theorem uniqueLoop_id_enter (ks : List κ) (k : κ) (rest : List κ) :
    (if k ∈ ks then ks else ks ++ [k]) ++ uniqueLoop id rest (if k ∈ ks then ks else ks ++ [k]) =
      ks ++ uniqueLoop id (k :: rest) ks := by
  rw [uniqueLoop]
  by_cases h : k ∈ ks
  · simp [h]
  · simp only [h, ↓reduceIte, id_eq, List.append_assoc, List.cons_append, List.nil_append]
    congr 2
    exact uniqueLoop_seen_congr id rest _ _ (by simp [or_comm])

end C09
