import BoltonsVerif.C09.Model
/-
`split_iter` refines the item-wise `str.split`.
-/
namespace C09
variable {α : Type}

/-- `maxsplit - split_count`: how many splits the limit still allows (`none`: no limit) -/
def splitsLeft (ms : Option Nat) (cnt : Nat) : Option Nat := ms.map (fun m => m - cnt)

/-- the `maxsplit` left for the specification on the rest of the input; `some 0` once `sep_func` is constant False -/
def budget (ms : Option Nat) (cnt : Nat) (frozen : Bool) : Option Nat :=
  if frozen then some 0 else splitsLeft ms cnt

theorem budget_false (ms : Option Nat) (cnt : Nat) : budget ms cnt false = splitsLeft ms cnt := rfl

theorem budget_true (ms : Option Nat) (cnt : Nat) : budget ms cnt true = some 0 := rfl

theorem frozen_of_budget_ne {ms : Option Nat} {cnt : Nat} {frozen : Bool} (h : budget ms cnt frozen ≠ some 0) :
    frozen = false := by
  cases frozen with
  | false => rfl
  | true => exact absurd rfl h

theorem limitReached_eq (ms : Option Nat) (cnt : Nat) :
    limitReached ms cnt = (splitsLeft ms cnt == some 0) := by
  cases ms with
  | none => simp [limitReached, splitsLeft]
  | some m =>
    simp only [limitReached, splitsLeft, Option.map_some]
    rw [Bool.eq_iff_iff]
    simp
    omega

theorem splitsLeft_succ (ms : Option Nat) (cnt : Nat) : (splitsLeft ms cnt).map Nat.pred = splitsLeft ms (cnt + 1) := by
  cases ms with
  | none => simp [splitsLeft]
  | some m => simp [splitsLeft]; omega

theorem splitsLeft_zero (ms : Option Nat) : splitsLeft ms 0 = ms := by
  cases ms <;> simp [splitsLeft]

theorem freeze_eq {grouping : Bool} {cur : List α} (h : (!cur.isEmpty || !grouping) = true) (ms : Option Nat)
    (cnt : Nat) (frozen : Bool) : freeze grouping ms cur cnt frozen = (budget ms cnt frozen == some 0) := by
  unfold freeze budget
  rw [limitReached_eq, h]
  cases frozen <;> simp

/-- `cur` is the part of the first group collected so far -/
def consHead (cur : List α) : List (List α) → List (List α)
  | [] => [cur]
  | g :: gs => (cur ++ g) :: gs

theorem consHead_consHead (cur c : List α) (l : List (List α)) :
    consHead cur (consHead c l) = consHead (cur ++ c) l := by
  cases l <;> simp [consHead]

theorem pySplitSep_cons (p : α → Bool) (ms : Option Nat) (x : α) (xs : List α) :
    pySplitSep p ms (x :: xs) =
      if p x && ms != some 0 then [] :: pySplitSep p (ms.map Nat.pred) xs
      else consHead [x] (pySplitSep p ms xs) := by
  rw [pySplitSep]
  cases pySplitSep p ms xs <;> simp [consHead]

theorem pySplitSep_ne_nil (p : α → Bool) : ∀ (ms : Option Nat) (xs : List α), pySplitSep p ms xs ≠ [] := by
  intro ms xs
  induction xs generalizing ms with
  | nil => simp [pySplitSep]
  | cons x xs ih =>
    rw [pySplitSep_cons]
    split
    · simp
    · cases h : pySplitSep p ms xs <;> simp [consHead]

theorem consHead_nil_of_ne {l : List (List α)} (h : l ≠ []) : consHead [] l = l := by
  cases l with
  | nil => exact absurd rfl h
  | cons g gs => simp [consHead]

/-- invariant: `cur` is glued in front of the first piece the specification yields on the rest of the input -/
theorem splitLoop_sep (p : α → Bool) (ms : Option Nat) :
    ∀ (xs cur : List α) (cnt : Nat) (frozen : Bool),
      splitLoop p false ms xs cur cnt frozen = consHead cur (pySplitSep p (budget ms cnt frozen) xs) := by
  intro xs
  induction xs with
  | nil => intro cur cnt frozen; simp [splitLoop, pySplitSep, consHead]
  | cons s rest ih =>
    intro cur cnt frozen
    unfold splitLoop
    rw [freeze_eq (by simp), pySplitSep_cons]
    by_cases hb : budget ms cnt frozen = some 0
    · -- no split left: everything is appended
      simp only [hb, beq_self_eq_true, Bool.not_true, Bool.false_and, Bool.false_eq_true, ↓reduceIte]
      rw [ih, budget_true]
      simp [consHead_consHead]
    · have hb' : (budget ms cnt frozen == some 0) = false := by simpa using hb
      obtain rfl := frozen_of_budget_ne hb
      rw [budget_false] at hb hb' ⊢
      simp only [hb', Bool.not_false, Bool.true_and]
      have hne : (splitsLeft ms cnt != some 0) = true := by simp [bne, hb']
      by_cases hp : p s = true
      · simp only [hp, ↓reduceIte, Bool.false_and, Bool.false_eq_true, hne, Bool.and_self]
        rw [ih, budget_false, consHead_nil_of_ne (pySplitSep_ne_nil _ _ _), splitsLeft_succ]
        simp [consHead]
      · have hp' : p s = false := by simpa using hp
        simp only [hp', Bool.false_eq_true, ↓reduceIte, Bool.false_and]
        rw [ih, budget_false, consHead_consHead]

theorem dropWhile_eq_cons {p : α → Bool} {xs : List α} (h : (xs.dropWhile p).isEmpty = false) :
    ∃ y ys, xs.dropWhile p = y :: ys ∧ p y = false := by
  cases hd : xs.dropWhile p with
  | nil => simp [hd] at h
  | cons y ys =>
    have := List.head_dropWhile_not p (l := xs) (by simp [hd])
    exact ⟨y, ys, rfl, by simpa [hd] using this⟩

theorem ws_rest_lt (p : α → Bool) (xs : List α) (h : (xs.dropWhile p).isEmpty = false) :
    ((xs.dropWhile p).dropWhile (notp p)).length < xs.length := by
  have h1 := (List.dropWhile_sublist p (l := xs)).length_le
  obtain ⟨y, ys, hd, hy⟩ := dropWhile_eq_cons h
  rw [hd, List.dropWhile_cons]
  have h2 := (List.dropWhile_sublist (notp p) (l := ys)).length_le
  simp only [notp, hy, Bool.not_false, ↓reduceIte]
  rw [hd] at h1
  simp at h1
  omega

/-- induction over a list word by word, as `str.split(None)` reads it: only separators are left, or a word follows
    them and the rest is what follows the word -/
theorem ws_induction (p : α → Bool) {motive : List α → Prop}
    (done : ∀ xs, (xs.dropWhile p).isEmpty = true → motive xs)
    (word : ∀ xs, (xs.dropWhile p).isEmpty = false → motive ((xs.dropWhile p).dropWhile (notp p)) → motive xs) :
    ∀ xs, motive xs := by
  intro xs
  induction hn : xs.length using Nat.strongRecOn generalizing xs with
  | ind n ih =>
    subst hn
    by_cases he : (xs.dropWhile p).isEmpty = true
    · exact done xs he
    · have he' : (xs.dropWhile p).isEmpty = false := by simpa using he
      exact word xs he' (ih _ (ws_rest_lt p xs he') _ rfl)

theorem pySplitWsLoop_succ (p : α → Bool) (fuel : Nat) (b : Option Nat) (xs : List α) :
    pySplitWsLoop p (fuel + 1) b xs =
      if (xs.dropWhile p).isEmpty then []
      else if b == some 0 then [xs.dropWhile p]
      else (xs.dropWhile p).takeWhile (notp p) ::
        pySplitWsLoop p fuel (b.map Nat.pred) ((xs.dropWhile p).dropWhile (notp p)) := by
  rw [pySplitWsLoop]

theorem pySplitWsLoop_fuel_indep (p : α → Bool) (xs : List α) : ∀ (f1 f2 : Nat) (b : Option Nat),
    xs.length ≤ f1 → xs.length ≤ f2 → pySplitWsLoop p f1 b xs = pySplitWsLoop p f2 b xs := by
  induction xs using ws_induction p with
  | done xs he => intro f1 f2 b _ _; cases f1 <;> cases f2 <;> simp [pySplitWsLoop, he]
  | word xs he ih =>
    intro f1 f2 b h1 h2
    have hlt := ws_rest_lt p xs he
    obtain ⟨m1, rfl⟩ : ∃ m, f1 = m + 1 := ⟨f1 - 1, by omega⟩
    obtain ⟨m2, rfl⟩ : ∃ m, f2 = m + 1 := ⟨f2 - 1, by omega⟩
    rw [pySplitWsLoop_succ, pySplitWsLoop_succ, ih m1 m2 _ (by omega) (by omega)]

/-- the defining equation of `str.split(None, maxsplit)` item-wise, without fuel.  Its cases by what follows the leading
    separators are `pySplitWs_done` / `_cut` (the form `ws_induction` needs), by the first item `pySplitWs_nil` / `_skip` /
    `_last` / `_word` (the form the item-wise loop needs) -/
theorem pySplitWs_eq (p : α → Bool) (b : Option Nat) (xs : List α) :
    pySplitWs p b xs =
      if (xs.dropWhile p).isEmpty then []
      else if b == some 0 then [xs.dropWhile p]
      else (xs.dropWhile p).takeWhile (notp p) ::
        pySplitWs p (b.map Nat.pred) ((xs.dropWhile p).dropWhile (notp p)) := by
  cases hx : xs with
  | nil => simp [pySplitWs, pySplitWsLoop]
  | cons y ys =>
    rw [← hx]
    have hl : xs.length = ys.length + 1 := by simp [hx]
    conv => lhs; unfold pySplitWs; rw [hl, pySplitWsLoop_succ]
    by_cases he : (xs.dropWhile p).isEmpty = true
    · simp [he]
    · have he' : (xs.dropWhile p).isEmpty = false := by simpa using he
      have := ws_rest_lt p xs he'
      rw [pySplitWs, pySplitWsLoop_fuel_indep p _ ys.length _ _ (by omega) (Nat.le_refl _)]

theorem pySplitWs_done (p : α → Bool) (b : Option Nat) (xs : List α) (h : (xs.dropWhile p).isEmpty = true) :
    pySplitWs p b xs = [] := by
  rw [pySplitWs_eq, if_pos h]

theorem pySplitWs_cut (p : α → Bool) (b : Option Nat) (xs : List α) (h : (xs.dropWhile p).isEmpty = false)
    (hb : b ≠ some 0) :
    pySplitWs p b xs = (xs.dropWhile p).takeWhile (notp p) ::
      pySplitWs p (b.map Nat.pred) ((xs.dropWhile p).dropWhile (notp p)) := by
  have : (b == some 0) = false := by simpa using hb
  rw [pySplitWs_eq, h, this]
  rfl

theorem pySplitWs_nil (p : α → Bool) (b : Option Nat) : pySplitWs p b ([] : List α) = [] := by
  simp [pySplitWs, pySplitWsLoop]

theorem pySplitWs_skip (p : α → Bool) (b : Option Nat) (s : α) (rest : List α) (hp : p s = true) :
    pySplitWs p b (s :: rest) = pySplitWs p b rest := by
  rw [pySplitWs_eq p b (s :: rest), pySplitWs_eq p b rest]
  simp [hp]

theorem pySplitWs_last (p : α → Bool) (s : α) (rest : List α) (hp : p s = false) :
    pySplitWs p (some 0) (s :: rest) = [s :: rest] := by
  rw [pySplitWs_eq]
  simp [hp]

theorem pySplitWs_word (p : α → Bool) (b : Option Nat) (s : α) (rest : List α) (hp : p s = false)
    (hb : b ≠ some 0) :
    pySplitWs p b (s :: rest) =
      (s :: rest.takeWhile (notp p)) :: pySplitWs p (b.map Nat.pred) (rest.dropWhile (notp p)) := by
  rw [pySplitWs_eq]
  have : (b == some 0) = false := by simpa using hb
  simp [hp, this, notp]

/-- the two states of the grouping loop in one induction: between words (`cur = []`) it is the specification on the
    rest of the input; inside a word (`cur ≠ []`) the word goes on up to the next separator -/
theorem splitLoop_ws_both (p : α → Bool) (ms : Option Nat) :
    ∀ (xs : List α),
      (∀ cnt, splitLoop p true ms xs [] cnt false = pySplitWs p (splitsLeft ms cnt) xs) ∧
      (∀ cur cnt frozen, cur ≠ [] →
        splitLoop p true ms xs cur cnt frozen =
          if budget ms cnt frozen = some 0 then [cur ++ xs]
          else (cur ++ xs.takeWhile (notp p)) ::
            pySplitWs p (splitsLeft ms (cnt + 1)) (xs.dropWhile (notp p))) := by
  intro xs
  induction xs with
  | nil =>
    refine ⟨?_, ?_⟩
    · intro cnt; simp [splitLoop, pySplitWs_nil]
    · intro cur cnt frozen hc
      have : cur.isEmpty = false := List.isEmpty_eq_false_iff.2 hc
      simp [splitLoop, pySplitWs_nil, this]
  | cons s rest ih =>
    obtain ⟨ih1, ih2⟩ := ih
    refine ⟨?_, ?_⟩
    · intro cnt
      have hfz : freeze true ms ([] : List α) cnt false = false := by simp [freeze]
      rw [splitLoop, hfz]
      by_cases hp : p s = true
      · simp only [hp, Bool.not_false, Bool.and_self, ↓reduceIte, List.isEmpty_nil]
        rw [ih1, pySplitWs_skip p _ s rest hp]
      · have hp' : p s = false := by simpa using hp
        simp only [hp', Bool.and_false, Bool.false_eq_true, ↓reduceIte, List.nil_append]
        rw [ih2 [s] cnt false (by simp), budget_false]
        by_cases hb : splitsLeft ms cnt = some 0
        · simp [hb, pySplitWs_last p s rest hp']
        · simp only [hb, ↓reduceIte]
          rw [pySplitWs_word p _ s rest hp' hb, splitsLeft_succ]
          simp
    · intro cur cnt frozen hc
      have hce : cur.isEmpty = false := List.isEmpty_eq_false_iff.2 hc
      rw [splitLoop, freeze_eq (by simp [hce])]
      by_cases hb : budget ms cnt frozen = some 0
      · simp only [hb, beq_self_eq_true, Bool.not_true, Bool.false_and, Bool.false_eq_true, ↓reduceIte]
        rw [ih2 _ _ _ (by simp), budget_true]
        simp
      · have hb' : (budget ms cnt frozen == some 0) = false := by simpa using hb
        obtain rfl := frozen_of_budget_ne hb
        simp only [hb', Bool.not_false, Bool.true_and, hb, ↓reduceIte, hce, Bool.and_false,
          Bool.false_eq_true]
        by_cases hp : p s = true
        · simp only [hp, ↓reduceIte]
          rw [ih1]
          simp [notp, hp, pySplitWs_skip p _ s rest hp]
        · have hp' : p s = false := by simpa using hp
          simp only [hp', Bool.false_eq_true, ↓reduceIte]
          rw [ih2 _ _ _ (by simp)]
          simp [hb, notp, hp']

theorem splitLoop_ws (p : α → Bool) (ms : Option Nat) (xs : List α) (cnt : Nat) :
    splitLoop p true ms xs [] cnt false = pySplitWs p (splitsLeft ms cnt) xs :=
  (splitLoop_ws_both p ms xs).1 cnt

theorem split_sep_eq_pySplitSep (p : α → Bool) (maxsplit : Option Int) (src : List α) :
    split p false maxsplit src = pySplitSep p (maxsplit.map Int.toNat) src := by
  rw [split, splitLoop_sep, budget_false, splitsLeft_zero]
  exact consHead_nil_of_ne (pySplitSep_ne_nil _ _ _)

theorem split_grouping_eq_pySplitWs (p : α → Bool) (maxsplit : Option Int) (src : List α) :
    split p true maxsplit src = pySplitWs p (maxsplit.map Int.toNat) src := by
  rw [split, splitLoop_ws, splitsLeft_zero]

end C09
