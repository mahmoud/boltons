import BoltonsVerif.C09.ChunkProofs
import BoltonsVerif.C09.WindowProofs
import BoltonsVerif.C09.SplitProofs
import BoltonsVerif.C09.StripProofs
import BoltonsVerif.C09.UniqueProofs
import BoltonsVerif.C09.BucketProofs
import BoltonsVerif.C09.RedundantProofs
import BoltonsVerif.C09.RangeProofs
import BoltonsVerif.C09.SplitSpecProofs
import BoltonsVerif.C09.ParamProofs
