import BoltonsVerif.C09.Model
/-
the loop of `rstrip_iter` against the item-wise `str.rstrip`; what `pyStrip` delivers.
-/
namespace C09
variable {α : Type}

theorem dropWhile_eq_nil (p : α → Bool) (l : List α) (h : ∀ c ∈ l, p c = true) : l.dropWhile p = [] := by
  induction l with
  | nil => rfl
  | cons x xs ih =>
    rw [List.dropWhile_cons_of_pos (h x (by simp))]
    exact ih (fun c hc => h c (by simp [hc]))

theorem pyRstrip_all (p : α → Bool) (l : List α) (h : ∀ c ∈ l, p c = true) : pyRstrip p l = [] := by
  unfold pyRstrip
  rw [dropWhile_eq_nil p l.reverse (fun c hc => h c (by simpa using hc))]
  rfl

theorem pyRstrip_append_of_not (p : α → Bool) (l : List α) (x : α) (xs : List α) (hx : p x = false) :
    pyRstrip p (l ++ x :: xs) = l ++ x :: pyRstrip p xs := by
  unfold pyRstrip
  have : (l ++ x :: xs).reverse = xs.reverse ++ (x :: l.reverse) := by simp
  rw [this, List.dropWhile_append]
  split
  · rename_i h
    have h' : List.dropWhile p xs.reverse = [] := by simpa using h
    simp [hx, h']
  · simp

theorem rstripLoop_eq (p : α → Bool) : ∀ (xs cache : List α), (∀ c ∈ cache, p c = true) →
    rstripLoop p xs cache = pyRstrip p (cache ++ xs) := by
  intro xs
  induction xs with
  | nil => intro cache h; simp [rstripLoop, pyRstrip_all p cache h]
  | cons x xs ih =>
    intro cache h
    rw [rstripLoop]
    by_cases hp : p x = true
    · simp only [hp, ↓reduceIte]
      rw [ih]
      · simp
      · intro c hc
        simp at hc
        rcases hc with hc | rfl
        · exact h c hc
        · exact hp
    · have hp' : p x = false := by simpa using hp
      simp only [hp', Bool.false_eq_true, ↓reduceIte]
      rw [ih [] (by simp), pyRstrip_append_of_not p cache x xs hp']
      simp

/-- the last two conjuncts make the stripped prefix and suffix maximal -/
theorem pyStrip_decomp (p : α → Bool) (src : List α) :
    ∃ pre suf, src = pre ++ pyStrip p src ++ suf ∧ (∀ x ∈ pre, p x = true) ∧ (∀ x ∈ suf, p x = true) ∧
      (∀ x, (pyStrip p src).head? = some x → p x = false) ∧
      (∀ x, (pyStrip p src).getLast? = some x → p x = false) := by
  refine ⟨src.takeWhile p, ((src.dropWhile p).reverse.takeWhile p).reverse, ?_, ?_, ?_, ?_, ?_⟩
  · unfold pyStrip pyRstrip pyLstrip
    rw [List.append_assoc, ← List.reverse_append, List.takeWhile_append_dropWhile, List.reverse_reverse,
      List.takeWhile_append_dropWhile]
  · intro x hx
    exact List.all_eq_true.1 List.all_takeWhile x hx
  · intro x hx
    rw [List.mem_reverse] at hx
    exact List.all_eq_true.1 List.all_takeWhile x hx
  · intro x hx
    -- the result is a prefix of `dropWhile p src`, whose head fails `p`
    have hpre : pyStrip p src ++ ((src.dropWhile p).reverse.takeWhile p).reverse = src.dropWhile p := by
      unfold pyStrip pyRstrip pyLstrip
      rw [← List.reverse_append, List.takeWhile_append_dropWhile, List.reverse_reverse]
    cases hr : pyStrip p src with
    | nil => rw [hr] at hx; simp at hx
    | cons y ys =>
      rw [hr] at hx hpre
      simp only [List.head?_cons, Option.some.injEq] at hx
      subst hx
      have := List.head?_dropWhile_not p src
      rw [← hpre] at this
      simpa using this
  · intro x hx
    unfold pyStrip pyRstrip at hx
    rw [List.getLast?_reverse] at hx
    have := List.head?_dropWhile_not p (pyLstrip p src).reverse
    rw [hx] at this
    simpa using this

end C09
