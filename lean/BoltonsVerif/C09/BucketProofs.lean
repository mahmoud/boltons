import BoltonsVerif.C09.UniqueProofs
/-
association lists (insertion-ordered dicts), and the loop of `bucketize` by two laws that hold from
ANY initial dict: what bucket `k` holds afterwards (`bucketLoop_lookup`) and the order of the keys (`bucketLoop_keys`).
-/
namespace C09
variable {α : Type} {β : Type} {κ : Type} [DecidableEq κ]

/-- `list(d)`: the keys of a dict, in insertion order -/
def keysOf (l : List (κ × β)) : List κ := l.map (·.1)

theorem keysOf_cons (k : κ) (v : β) (l : List (κ × β)) : keysOf ((k, v) :: l) = k :: keysOf l := rfl

omit [DecidableEq κ] in
theorem keysOf_append (l1 l2 : List (κ × β)) : keysOf (l1 ++ l2) = keysOf l1 ++ keysOf l2 := List.map_append

omit [DecidableEq κ] in
theorem eq_map_keysOf (d : List (κ × β)) (v : κ → β) (h : ∀ e ∈ d, e.2 = v e.1) :
    d = (keysOf d).map (fun k => (k, v k)) := by
  unfold keysOf
  rw [List.map_map]
  conv => lhs; rw [← List.map_id d]
  exact List.map_congr_left (fun e he => by rw [Function.comp_apply, ← h e he]; rfl)

theorem lookup_cons (k k' : κ) (v : β) (l : List (κ × β)) :
    lookup k ((k', v) :: l) = if k' = k then some v else lookup k l := rfl

theorem lookup_eq_none_iff (k : κ) (l : List (κ × β)) : lookup k l = none ↔ k ∉ keysOf l := by
  induction l with
  | nil => simp [lookup, keysOf]
  | cons e es ih =>
    obtain ⟨k', v⟩ := e
    rw [lookup_cons, keysOf_cons, List.mem_cons, not_or]
    by_cases h : k' = k
    · simp [h]
    · have h' : ¬ k = k' := fun e => h e.symm
      simp [h, h', ih]

theorem lookup_isSome_iff (k : κ) (l : List (κ × β)) : (lookup k l).isSome = true ↔ k ∈ keysOf l := by
  rw [Option.isSome_iff_ne_none, Ne, lookup_eq_none_iff, Classical.not_not]

theorem lookup_some_mem {k : κ} {l : List (κ × β)} {v : β} (h : lookup k l = some v) : (k, v) ∈ l := by
  induction l with
  | nil => simp [lookup] at h
  | cons e es ih =>
    obtain ⟨k', v'⟩ := e
    simp only [lookup] at h
    split at h
    · cases h; simp_all
    · simp [ih h]

theorem lookup_of_mem_nodup {k : κ} {l : List (κ × β)} {v : β} (hn : (keysOf l).Nodup) (h : (k, v) ∈ l) :
    lookup k l = some v := by
  induction l with
  | nil => simp at h
  | cons e es ih =>
    obtain ⟨k', v'⟩ := e
    simp only [keysOf, List.map_cons, List.nodup_cons] at hn
    simp only [List.mem_cons, Prod.mk.injEq] at h
    simp only [lookup]
    rcases h with ⟨rfl, rfl⟩ | h
    · simp
    · have hk : k ∈ keysOf es := List.mem_map.mpr ⟨(k, v), h, rfl⟩
      have : k' ≠ k := fun e => hn.1 (e ▸ hk)
      simp [this, ih hn.2 h]

theorem lookup_setdefaultAppend (k k' : κ) (v : β) (l : List (κ × List β)) :
    lookup k' (setdefaultAppend k v l) =
      if k' = k then some ((lookup k l).getD [] ++ [v]) else lookup k' l := by
  induction l with
  | nil =>
    by_cases h : k = k'
    · simp [setdefaultAppend, lookup, h]
    · have h' : ¬ k' = k := fun e => h e.symm
      simp [setdefaultAppend, lookup, h, h']
  | cons e es ih =>
    obtain ⟨k0, vs⟩ := e
    by_cases h0 : k0 = k
    · subst h0
      simp only [setdefaultAppend, if_pos, lookup_cons]
      by_cases h : k0 = k'
      · simp [h]
      · have h' : ¬ k' = k0 := fun e => h e.symm
        simp [h, h']
    · simp only [setdefaultAppend, if_neg h0, lookup_cons, ih]
      by_cases h : k0 = k'
      · subst h; simp [h0]
      · simp [h]

theorem keysOf_setdefaultAppend (k : κ) (v : β) (l : List (κ × List β)) :
    keysOf (setdefaultAppend k v l) = if k ∈ keysOf l then keysOf l else keysOf l ++ [k] := by
  induction l with
  | nil => simp [setdefaultAppend, keysOf]
  | cons e es ih =>
    obtain ⟨k0, vs⟩ := e
    by_cases h0 : k0 = k
    · subst h0
      simp [setdefaultAppend, keysOf_cons]
    · have h0' : ¬ k = k0 := fun e => h0 e.symm
      simp only [setdefaultAppend, if_neg h0, keysOf_cons, ih, List.mem_cons, h0', false_or]
      by_cases hk : k ∈ keysOf es
      · simp [hk]
      · simp [hk]

theorem lookup_append_single (k k0 : κ) (v : β) (l : List (κ × β)) :
    lookup k (l ++ [(k0, v)]) = (lookup k l).or (if k0 = k then some v else none) := by
  induction l with
  | nil => simp [lookup]
  | cons e es ih =>
    obtain ⟨k', v'⟩ := e
    rw [List.cons_append, lookup_cons, lookup_cons, ih]
    by_cases h : k' = k <;> simp [h]

theorem lookup_appendAt (k k0 : κ) (v : β) (l : List (κ × List β)) :
    lookup k (appendAt k0 v l) = if k = k0 then (lookup k0 l).map (· ++ [v]) else lookup k l := by
  induction l with
  | nil => simp [appendAt, lookup]
  | cons e es ih =>
    obtain ⟨k', vs⟩ := e
    by_cases h0 : k' = k0
    · subst h0
      simp only [appendAt, if_pos, lookup_cons]
      by_cases h : k' = k
      · simp [h]
      · have h' : ¬ k = k' := fun e => h e.symm
        simp [h, h']
    · simp only [appendAt, if_neg h0, lookup_cons, ih]
      by_cases h : k' = k
      · subst h; simp [h0]
      · simp [h]

theorem keysOf_appendAt (k0 : κ) (v : β) (l : List (κ × List β)) :
    keysOf (appendAt k0 v l) = keysOf l := by
  induction l with
  | nil => simp [appendAt]
  | cons e es ih =>
    obtain ⟨k', vs⟩ := e
    simp only [appendAt]
    split
    · simp [keysOf]
    · simp only [keysOf, List.map_cons] at ih ⊢; rw [ih]

/-- `sum(len(v) for v in d.values())` -/
def sumLens (l : List (κ × List β)) : Nat := (l.map (·.2.length)).sum

theorem sumLens_setdefaultAppend (k : κ) (v : β) (l : List (κ × List β)) :
    sumLens (setdefaultAppend k v l) = sumLens l + 1 := by
  induction l with
  | nil => simp [setdefaultAppend, sumLens]
  | cons e es ih =>
    obtain ⟨k0, vs⟩ := e
    simp only [setdefaultAppend]
    split
    · simp [sumLens]; omega
    · simp only [sumLens, List.map_cons, List.sum_cons] at ih ⊢; omega

/-- what bucket `k` receives from `xs`: `g` of the items with key `k`, nothing when `k` fails the key filter -/
def bucketOf (f : α → κ) (g : α → β) (kf : κ → Bool) (k : κ) (xs : List α) : List β :=
  (xs.filter (fun x => decide (f x = k) && kf k)).map g

theorem bucketOf_cons (f : α → κ) (g : α → β) (kf : κ → Bool) (k : κ) (x : α) (xs : List α) :
    bucketOf f g kf k (x :: xs) =
      if f x = k ∧ kf k = true then g x :: bucketOf f g kf k xs else bucketOf f g kf k xs := by
  unfold bucketOf
  rw [List.filter_cons]
  by_cases h : f x = k <;> cases hk : kf k <;> simp [h]

/-- `d.get(k)` after appending the values `vs` to bucket `k`, given `d.get(k)` before -/
def optAppend : Option (List β) → List β → Option (List β)
  | o, [] => o
  | o, v :: vs => some (o.getD [] ++ v :: vs)

theorem bucketLoop_lookup (f : α → κ) (g : α → β) (kf : κ → Bool) (k : κ) :
    ∀ (xs : List α) (ret : List (κ × List β)),
      lookup k (bucketLoop f g kf xs ret) = optAppend (lookup k ret) (bucketOf f g kf k xs) := by
  intro xs
  induction xs with
  | nil => intro ret; rfl
  | cons x xs ih =>
    intro ret
    rw [bucketLoop, bucketOf_cons]
    by_cases hkf : kf (f x) = true
    · rw [if_pos hkf, ih, lookup_setdefaultAppend]
      by_cases hk : f x = k
      · subst hk
        rw [if_pos rfl, if_pos ⟨rfl, hkf⟩]
        cases bucketOf f g kf (f x) xs <;> simp [optAppend]
      · rw [if_neg (fun e => hk e.symm), if_neg (fun ⟨e, _⟩ => hk e)]
    · rw [if_neg hkf, ih, if_neg (fun ⟨hk, hkk⟩ => hkf (hk ▸ hkk))]

theorem bucketLoop_sumLens (f : α → κ) (g : α → β) (kf : κ → Bool) :
    ∀ (xs : List α) (ret : List (κ × List β)),
      sumLens (bucketLoop f g kf xs ret) = sumLens ret + (xs.filter (fun x => kf (f x))).length := by
  intro xs
  induction xs with
  | nil => intro ret; simp [bucketLoop]
  | cons x xs ih =>
    intro ret
    rw [bucketLoop]
    by_cases hkf : kf (f x) = true
    · simp only [hkf, ↓reduceIte, List.filter_cons, List.length_cons]
      rw [ih, sumLens_setdefaultAppend]; omega
    · have hkf' : kf (f x) = false := by simpa using hkf
      simp only [hkf', Bool.false_eq_true, ↓reduceIte, List.filter_cons]
      rw [ih]

theorem bucketize_lookup (f : α → κ) (g : α → β) (kf : κ → Bool) (k : κ) (xs : List α) :
    lookup k (bucketize f g kf xs) =
      if bucketOf f g kf k xs = [] then none else some (bucketOf f g kf k xs) := by
  unfold bucketize
  rw [bucketLoop_lookup]
  cases bucketOf f g kf k xs <;> simp [optAppend, lookup]

theorem kf_of_bucketOf_ne_nil (f : α → κ) (g : α → β) (kf : κ → Bool) (k : κ) (xs : List α)
    (h : bucketOf f g kf k xs ≠ []) : kf k = true := by
  cases hk : kf k with
  | true => rfl
  | false => simp [bucketOf, hk] at h

theorem bucketOf_of_kf (f : α → κ) (g : α → β) (kf : κ → Bool) (k : κ) (xs : List α) (h : kf k = true) :
    bucketOf f g kf k xs = (xs.filter (fun x => decide (f x = k))).map g := by
  simp [bucketOf, h]

theorem bucketLoop_keys (f : α → κ) (g : α → β) (kf : κ → Bool) :
    ∀ (xs : List α) (ret : List (κ × List β)),
      keysOf (bucketLoop f g kf xs ret) =
        keysOf ret ++ uniqueLoop id ((xs.map f).filter kf) (keysOf ret) := by
  intro xs
  induction xs with
  | nil => intro ret; simp [bucketLoop, uniqueLoop]
  | cons x xs ih =>
    intro ret
    rw [bucketLoop, List.map_cons, List.filter_cons]
    split
    · rw [ih, keysOf_setdefaultAppend, uniqueLoop_id_enter]
    · exact ih ret

theorem bucketize_nodup (f : α → κ) (g : α → β) (kf : κ → Bool) (xs : List α) :
    (keysOf (bucketize f g kf xs)).Nodup := by
  unfold bucketize
  rw [bucketLoop_keys]
  simpa [keysOf] using uniqueLoop_nodup id ((xs.map f).filter kf) []

theorem bucketize_entry (f : α → κ) (g : α → β) (kf : κ → Bool) (src : List α) :
    ∀ e ∈ bucketize f g kf src,
      e.2 = (src.filter (fun x => decide (f x = e.1))).map g ∧ e.2 ≠ [] ∧ kf e.1 = true := by
  intro e he
  obtain ⟨k, vs⟩ := e
  have hl := lookup_of_mem_nodup (bucketize_nodup f g kf src) he
  rw [bucketize_lookup] at hl
  by_cases hb : bucketOf f g kf k src = []
  · simp [hb] at hl
  · simp only [hb, ↓reduceIte, Option.some.injEq] at hl
    have hkf := kf_of_bucketOf_ne_nil f g kf k src hb
    subst hl
    exact ⟨bucketOf_of_kf f g kf k src hkf, hb, hkf⟩

end C09
