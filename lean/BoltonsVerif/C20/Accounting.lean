import BoltonsVerif.C20.Proofs
/-
C20 — common / culled counts under `add`; sums of per-key weights (`wsum`) over a duplicate-free key universe.
-/
namespace C20
variable {K : Type} [DecidableEq K]

theorem add_common (s : TC K) (k : K) :
    (s.add k).commonCount + s.culledBy k = s.commonCount + 1 := by
  have hs := sum_upsert k s.bucket s.cm
  unfold TC.add TC.culledBy TC.commonCount
  by_cases hm : (s.total + 1) % s.w = 0
  · simp only [hm, if_true]
    have := sum_filter_split (fun e => decide (e.cnt + e.dlt > s.bucket)) (upsert k s.bucket s.cm)
    omega
  · simp only [hm, if_false]; omega

theorem addAll_common (s : TC K) (ks : List K) :
    (s.addAll ks).commonCount + culled s ks = s.commonCount + ks.length := by
  induction ks generalizing s with
  | nil => simp [TC.addAll, culled]
  | cons a as ih =>
    have h1 := ih (s.add a)
    have h2 := add_common s a
    simp only [TC.addAll, List.foldl_cons, culled, List.length_cons] at h1 ⊢
    omega

theorem sum_map_zero (U : List K) : (U.map (fun _ => 0)).sum = 0 := by
  induction U with
  | nil => rfl
  | cons u us ih => simp only [List.map_cons, List.sum_cons, ih]

theorem sum_map_add (U : List K) (f g : K → Nat) :
    (U.map (fun k => f k + g k)).sum = (U.map f).sum + (U.map g).sum := by
  induction U with
  | nil => simp
  | cons u us ih => simp only [List.map_cons, List.sum_cons, ih]; omega

theorem sum_map_sub (U : List K) (f g : K → Nat) (h : ∀ k, g k ≤ f k) :
    (U.map (fun k => f k - g k)).sum + (U.map g).sum = (U.map f).sum := by
  rw [← sum_map_add]
  exact congrArg List.sum (List.map_congr_left fun k _ => Nat.sub_add_cancel (h k))

theorem sum_indicator (U : List K) (hU : U.Nodup) (a : K) (ha : a ∈ U) (c : Nat) :
    (U.map fun k => if a = k then c else 0).sum = c := by
  induction U with
  | nil => simp at ha
  | cons u us ih =>
    have hnd := List.nodup_cons.mp hU
    simp only [List.map_cons, List.sum_cons]
    by_cases hua : a = u
    · subst hua
      have : us.map (fun k => if a = k then c else 0) = us.map fun _ => 0 :=
        List.map_congr_left fun k hk => if_neg fun (h : a = k) => hnd.1 (h ▸ hk)
      rw [if_pos rfl, this, sum_map_zero]; rfl
    · rw [if_neg hua, ih hnd.2 ((List.mem_cons.mp ha).resolve_left hua)]; omega

theorem sum_map_wsum (U : List K) (hU : U.Nodup) (l : List (K × Nat)) (hl : ∀ p ∈ l, p.1 ∈ U) :
    (U.map fun k => wsum k l).sum = (l.map (·.2)).sum := by
  induction l with
  | nil => simpa [wsum] using sum_map_zero U
  | cons p l ih =>
    simp only [List.forall_mem_cons] at hl
    have : (fun k => wsum k (p :: l)) = fun k => (if p.1 = k then p.2 else 0) + wsum k l := by
      funext k; simp [wsum]
    rw [this, sum_map_add, sum_indicator U hU p.1 hl.1, ih hl.2]; simp

theorem wsum_map_one (k : K) (ks : List K) : wsum k (ks.map fun a => (a, 1)) = ks.count k := by
  induction ks with
  | nil => simp [wsum]
  | cons a as ih =>
    simp only [wsum, List.map_cons, List.sum_cons, List.count_cons] at ih ⊢
    rw [ih]; by_cases h : a = k <;> simp [h] <;> omega

/-- `update(other counter)`: the additions asked for are the other counter's reported counts -/
theorem wsum_items (s : TC K) (hnd : (keysOf s.cm).Nodup) (k : K) : wsum k s.items = s.get k := by
  unfold TC.items TC.get
  generalize s.cm = cm at hnd ⊢
  induction cm with
  | nil => simp [wsum, lookup]
  | cons e es ih =>
    simp only [keysOf, List.map_cons, List.nodup_cons] at hnd
    have ih' := ih hnd.2
    simp only [wsum, List.map_cons, List.sum_cons, lookup] at ih' ⊢
    by_cases h : e.key = k
    · have : lookup k es = none := by rw [lookup_none_iff, ← h]; exact hnd.1
      simp only [h, if_true, ih', this]; omega
    · simp only [h, if_false, ih']; omega

end C20
