import BoltonsVerif.C20.Model
/-
C20 helper lemmas: count-map operations, the Lossy-Counting invariant and its preservation by `add`, bulk additions.
-/
namespace C20
variable {K : Type} [DecidableEq K]

def keysOf (cm : List (Entry K)) : List K := cm.map (·.key)

theorem keys_eq_keysOf (s : TC K) : s.keys = keysOf s.cm := rfl

theorem lookup_none_iff (k : K) (cm : List (Entry K)) :
    lookup k cm = none ↔ k ∉ keysOf cm := by
  induction cm with
  | nil => simp [lookup, keysOf]
  | cons e es ih =>
    simp only [lookup, keysOf, List.map_cons, List.mem_cons, not_or] at ih ⊢
    by_cases h : e.key = k
    · simp [h]
    · rw [if_neg h, ih]
      exact ⟨fun h' => ⟨fun hk => h hk.symm, h'⟩, fun h' => h'.2⟩

theorem lookup_some_key {k : K} {cm : List (Entry K)} {e : Entry K}
    (h : lookup k cm = some e) : e.key = k ∧ e ∈ cm := by
  induction cm with
  | nil => simp [lookup] at h
  | cons a as ih =>
    simp only [lookup] at h
    split at h
    · cases h; simp_all
    · have := ih h; simp_all

theorem lookup_ne_none_of_mem {cm : List (Entry K)} {e : Entry K} (he : e ∈ cm) : lookup e.key cm ≠ none :=
  fun h => (lookup_none_iff _ _).mp h (List.mem_map.mpr ⟨e, he, rfl⟩)

theorem lookup_of_mem_nodup (cm : List (Entry K)) (h : (keysOf cm).Nodup) (e : Entry K) (he : e ∈ cm) :
    lookup e.key cm = some e := by
  induction cm with
  | nil => simp at he
  | cons e' es ih =>
    simp only [keysOf, List.map_cons, List.nodup_cons] at h
    simp only [lookup]
    rcases List.mem_cons.1 he with rfl | hm
    · simp
    · have hne : e'.key ≠ e.key := by
        intro heq
        exact h.1 (heq ▸ List.mem_map.2 ⟨e, hm, rfl⟩)
      rw [if_neg hne]
      exact ih h.2 hm

theorem bump_none_iff (k : K) (cm : List (Entry K)) :
    bump k cm = none ↔ lookup k cm = none := by
  induction cm with
  | nil => simp [bump, lookup]
  | cons e es ih =>
    simp only [bump, lookup]
    split <;> simp_all

@[simp] theorem upsert_nil (k : K) (b : Nat) : upsert k b [] = [⟨k, 1, b - 1⟩] := rfl

theorem upsert_cons (k : K) (b : Nat) (e : Entry K) (es : List (Entry K)) :
    upsert k b (e :: es) =
      if e.key = k then { e with cnt := e.cnt + 1 } :: es else e :: upsert k b es := by
  unfold upsert
  by_cases h : e.key = k
  · simp only [bump, if_pos h]
  · simp only [bump, if_neg h]
    cases bump k es <;> rfl

theorem lookup_upsert (k k' : K) (b : Nat) (cm : List (Entry K)) :
    lookup k' (upsert k b cm) =
      if k' = k then some (match lookup k cm with
                           | some e => { e with cnt := e.cnt + 1 }
                           | none => ⟨k, 1, b - 1⟩)
      else lookup k' cm := by
  have hsymm : k = k' ↔ k' = k := eq_comm
  induction cm with
  | nil => by_cases h : k' = k <;> simp [lookup, h, hsymm]
  | cons e es ih =>
    rw [upsert_cons]
    by_cases he : e.key = k
    · subst he
      by_cases h : k' = e.key <;> simp [lookup, h, hsymm]
    · by_cases h : k' = k
      · subst h; simpa [lookup, he] using ih
      · by_cases he' : e.key = k' <;> simp [lookup, he, he', h, ih]

theorem keysOf_upsert (k : K) (b : Nat) (cm : List (Entry K)) :
    keysOf (upsert k b cm) = if k ∈ keysOf cm then keysOf cm else keysOf cm ++ [k] := by
  induction cm with
  | nil => simp [keysOf]
  | cons e es ih =>
    rw [upsert_cons]
    simp only [keysOf, List.map_cons, List.mem_cons] at ih ⊢
    by_cases he : e.key = k
    · simp [he]
    · have : ¬ k = e.key := fun h => he h.symm
      simp only [if_neg he, List.map_cons, ih, this, false_or]
      by_cases hk : k ∈ es.map (·.key) <;> simp [hk]

theorem nodup_upsert (k : K) (b : Nat) (cm : List (Entry K)) (h : (keysOf cm).Nodup) :
    (keysOf (upsert k b cm)).Nodup := by
  rw [keysOf_upsert]
  split
  · exact h
  · rename_i hk
    exact List.nodup_append.mpr ⟨h, by simp, fun a ha b' hb' => by simp at hb'; subst hb'; exact fun hab => hk (hab ▸ ha)⟩

theorem sum_upsert (k : K) (b : Nat) (cm : List (Entry K)) :
    ((upsert k b cm).map (·.cnt)).sum = (cm.map (·.cnt)).sum + 1 := by
  induction cm with
  | nil => simp
  | cons e es ih =>
    rw [upsert_cons]
    split <;> simp only [List.map_cons, List.sum_cons, ih] <;> omega

theorem length_upsert_le (k : K) (b : Nat) (cm : List (Entry K)) :
    (upsert k b cm).length ≤ cm.length + 1 := by
  induction cm with
  | nil => simp
  | cons e es ih => rw [upsert_cons]; split <;> simp [ih]

theorem lookup_filter (p : Entry K → Bool) (k' : K) (cm : List (Entry K))
    (hu : (keysOf cm).Nodup) :
    lookup k' (cm.filter p) = (lookup k' cm).filter p := by
  induction cm with
  | nil => simp [lookup, Option.filter]
  | cons a as ih =>
    simp only [keysOf, List.map_cons, List.nodup_cons] at hu
    have ih' := ih hu.2
    have hnone : a.key = k' → lookup k' as = none := by
      intro hk; rw [lookup_none_iff, ← hk]; exact hu.1
    by_cases hp : p a = true <;> by_cases hk : a.key = k' <;>
      simp [hp, hk, lookup, Option.filter, ih', hnone]

theorem keysOf_filter_sublist (p : Entry K → Bool) (cm : List (Entry K)) :
    (keysOf (cm.filter p)).Sublist (keysOf cm) := by
  unfold keysOf
  exact (List.filter_sublist).map _

theorem sum_filter_split (p : Entry K → Bool) (cm : List (Entry K)) :
    ((cm.filter p).map (·.cnt)).sum + ((cm.filter (fun e => !(p e))).map (·.cnt)).sum
      = (cm.map (·.cnt)).sum := by
  induction cm with
  | nil => simp
  | cons a as ih =>
    simp only [List.filter_cons]
    cases p a <;> simp <;> omega

/-- `Inv.key` is `Tracks s.bucket tr s.cm`: per key, Manku & Motwani's `f - εN ≤ count ≤ f` -/
def Tracks (b : Nat) (tr : K → Nat) (cm : List (Entry K)) : Prop :=
  ∀ k, match lookup k cm with
    | some e => e.cnt ≤ tr k ∧ tr k ≤ e.cnt + e.dlt ∧ e.dlt + 1 ≤ b ∧ 1 ≤ e.cnt
    | none => tr k + 1 ≤ b

/-- the invariant, relative to the true-count function `tr` of the additions so far -/
structure Inv (s : TC K) (tr : K → Nat) : Prop where
  wpos : 1 ≤ s.w
  bucket : s.bucket = s.total / s.w + 1
  nodup : (keysOf s.cm).Nodup
  sum_le : (s.cm.map (·.cnt)).sum ≤ s.total
  len_le : s.cm.length ≤ s.total
  key : ∀ k, match lookup k s.cm with
    | some e => e.cnt ≤ tr k ∧ tr k ≤ e.cnt + e.dlt ∧ e.dlt + 1 ≤ s.bucket ∧ 1 ≤ e.cnt
    | none => tr k + 1 ≤ s.bucket

theorem Inv.tracks {s : TC K} {tr : K → Nat} (h : Inv s tr) : Tracks s.bucket tr s.cm := h.key

theorem Inv.ofTracks {s : TC K} {tr : K → Nat} (wpos : 1 ≤ s.w) (bucket : s.bucket = s.total / s.w + 1)
    (nodup : (keysOf s.cm).Nodup) (sum_le : (s.cm.map (·.cnt)).sum ≤ s.total) (len_le : s.cm.length ≤ s.total)
    (key : Tracks s.bucket tr s.cm) : Inv s tr :=
  ⟨wpos, bucket, nodup, sum_le, len_le, key⟩

theorem inv_init (w : Nat) (hw : 1 ≤ w) : Inv (TC.init w : TC K) (fun _ => 0) := by
  refine ⟨hw, ?_, ?_, ?_, ?_, ?_⟩ <;> simp [TC.init, keysOf, lookup]

theorem add_cases (s : TC K) (k : K) (hb : s.bucket = s.total / s.w + 1) :
    (s.add k = ⟨s.total + 1, s.w, s.bucket, upsert k s.bucket s.cm⟩
      ∧ s.bucket = (s.total + 1) / s.w + 1) ∨
    (s.add k = ⟨s.total + 1, s.w, s.bucket + 1,
        (upsert k s.bucket s.cm).filter (fun e => e.cnt + e.dlt > s.bucket)⟩
      ∧ s.bucket + 1 = (s.total + 1) / s.w + 1 ∧ s.total + 1 = s.bucket * s.w) := by
  unfold TC.add
  by_cases hm : (s.total + 1) % s.w = 0
  · have hd := Nat.succ_div_of_mod_eq_zero hm
    have hmul := Nat.div_mul_cancel (Nat.dvd_of_mod_eq_zero hm)
    rw [hd, ← hb] at hmul
    exact .inr ⟨if_pos hm, by rw [hd, hb], hmul.symm⟩
  · exact .inl ⟨if_neg hm, by rw [Nat.succ_div_of_mod_ne_zero hm, hb]⟩

/-- an untracked key enters with `dlt = b - 1`, which bounds its true count so far -/
theorem tracks_upsert (k : K) {b : Nat} (hb : 1 ≤ b) {tr : K → Nat} {cm : List (Entry K)}
    (h : Tracks b tr cm) :
    Tracks b (fun k' => if k' = k then tr k' + 1 else tr k') (upsert k b cm) := by
  intro k'
  have := h k'
  rw [lookup_upsert]
  by_cases hkk : k' = k
  · subst hkk
    simp only [if_true]
    cases hlk : lookup k' cm <;> simp only [hlk] at this ⊢ <;> omega
  · simp only [hkk, if_false]; exact this

/-- closing bucket `b`: a dropped entry has `cnt + dlt ≤ b`, so its key's true count is at most `b` -/
theorem tracks_filter {b : Nat} {tr : K → Nat} {cm : List (Entry K)} (hnd : (keysOf cm).Nodup)
    (h : Tracks b tr cm) : Tracks (b + 1) tr (cm.filter fun e => e.cnt + e.dlt > b) := by
  intro k'
  have := h k'
  rw [lookup_filter _ _ _ hnd]
  cases hlk : lookup k' cm with
  | none => simp only [hlk, Option.filter] at this ⊢; omega
  | some e =>
    simp only [hlk] at this
    by_cases hp : e.cnt + e.dlt > b
    · simp only [Option.filter, hp, decide_true, if_true]; omega
    · simp only [Option.filter, hp, decide_false]; simp; omega

theorem inv_add (s : TC K) (tr : K → Nat) (k : K) (h : Inv s tr) :
    Inv (s.add k) (fun k' => if k' = k then tr k' + 1 else tr k') := by
  have hsum := h.sum_le
  have hlen := h.len_le
  have hnd' := nodup_upsert k s.bucket s.cm h.nodup
  have hs := sum_upsert k s.bucket s.cm
  have hl := length_upsert_le k s.bucket s.cm
  have hkey' := tracks_upsert k (by rw [h.bucket]; exact Nat.le_add_left 1 _) h.tracks
  rcases add_cases s k h.bucket with ⟨he, hb'⟩ | ⟨he, hb', -⟩ <;> rw [he]
  · exact .ofTracks h.wpos hb' hnd' (by simp only; omega) (by simp only; omega) hkey'
  · have hf1 := sum_filter_split (fun e => decide (e.cnt + e.dlt > s.bucket)) (upsert k s.bucket s.cm)
    have hf2 := List.length_filter_le (fun e => decide (e.cnt + e.dlt > s.bucket)) (upsert k s.bucket s.cm)
    exact .ofTracks h.wpos hb' ((keysOf_filter_sublist _ _).nodup hnd') (by simp only; omega) (by simp only; omega)
      (tracks_filter hnd' hkey')

/-- what `Inv.key` says of key `k` through the readers `get` / `contains` -/
structure GetBounds (s : TC K) (tr : K → Nat) (k : K) : Prop where
  le_true : s.get k ≤ tr k
  short : tr k - s.get k ≤ s.total / s.w
  pos : s.contains k = true → 1 ≤ s.get k
  heavy : s.total / s.w < tr k → s.contains k = true

theorem Inv.get_bounds {s : TC K} {tr : K → Nat} (h : Inv s tr) (k : K) : GetBounds s tr k := by
  have hk := h.key k
  have hb := h.bucket
  cases hl : lookup k s.cm with
  | none => simp only [hl] at hk; constructor <;> simp [TC.get, TC.contains, hl] <;> omega
  | some e => simp only [hl] at hk; constructor <;> simp [TC.get, TC.contains, hl] <;> omega

theorem add_total (s : TC K) (k : K) : (s.add k).total = s.total + 1 := by
  unfold TC.add; split <;> rfl

theorem add_w (s : TC K) (k : K) : (s.add k).w = s.w := by
  unfold TC.add; split <;> rfl

theorem addAll_total (s : TC K) (ks : List K) : (s.addAll ks).total = s.total + ks.length := by
  induction ks generalizing s with
  | nil => rfl
  | cons a as ih => exact (ih (s.add a)).trans (by rw [add_total, List.length_cons]; omega)

theorem addAll_w (s : TC K) (ks : List K) : (s.addAll ks).w = s.w := by
  induction ks generalizing s with
  | nil => rfl
  | cons a as ih => exact (ih (s.add a)).trans (add_w s a)

theorem addAll_append (s : TC K) (xs ys : List K) :
    s.addAll (xs ++ ys) = (s.addAll xs).addAll ys := by
  simp [TC.addAll, List.foldl_append]

theorem inv_addAll (s : TC K) (tr : K → Nat) (ks : List K) (h : Inv s tr) :
    Inv (s.addAll ks) (fun k => tr k + ks.count k) := by
  induction ks generalizing s tr with
  | nil => simpa [TC.addAll] using h
  | cons a as ih =>
    have h2 := ih (s.add a) _ (inv_add s tr a h)
    have : (fun k => (if k = a then tr k + 1 else tr k) + List.count k as)
         = (fun k => tr k + List.count k (a :: as)) := by
      funext k
      rw [List.count_cons]
      by_cases hk : a = k
      · subst hk; simp; omega
      · simp [hk, Ne.symm hk]
    rw [this] at h2
    exact h2

abbrev reach (w : Nat) (ks : List K) : TC K := (TC.init w : TC K).addAll ks

theorem inv_reach (w : Nat) (hw : 1 ≤ w) (ks : List K) : Inv (reach w ks) (fun k => ks.count k) := by
  have := inv_addAll (TC.init w : TC K) (fun _ => 0) ks (inv_init w hw)
  simpa using this

theorem reach_w (w : Nat) (ks : List K) : (reach w ks).w = w := by
  simp [reach, addAll_w, TC.init]

theorem count_expand (k : K) (kcs : List (K × Nat)) : (expand kcs).count k = wsum k kcs := by
  induction kcs with
  | nil => simp [expand, wsum]
  | cons a as ih =>
    simp only [expand, wsum, List.flatMap_cons, List.count_append, List.map_cons, List.sum_cons] at ih ⊢
    rw [ih, List.count_replicate]
    by_cases h : a.1 = k <;> simp [h]

theorem length_expand (kcs : List (K × Nat)) : (expand kcs).length = (kcs.map (·.2)).sum := by
  induction kcs with
  | nil => simp [expand]
  | cons a as ih =>
    simp only [expand, List.flatMap_cons, List.length_append, List.length_replicate, List.map_cons,
      List.sum_cons] at ih ⊢
    rw [ih]

theorem flatten_count (op : Op K) (k : K) : op.flatten.count k = op.weight k := by
  cases op with
  | add k' => by_cases h : k' = k <;> simp [Op.flatten, Op.weight, h]
  | updateKeys ks => simp [Op.flatten, Op.weight]
  | updateMap kcs => simp [Op.flatten, Op.weight, count_expand]
  | updateKeysKw ks kws => simp [Op.flatten, Op.weight, count_expand, List.count_append]
  | updateMapKw kcs kws => simp [Op.flatten, Op.weight, count_expand, List.count_append]

end C20
