import BoltonsVerif.C20.Proofs
import BoltonsVerif.C20.SizeLog
import BoltonsVerif.C20.Sorting
import BoltonsVerif.C20.Accounting
/-
C20 — property theorems for the ThresholdCounter model, the witness against the `2/threshold` clause,
non-vacuity examples.

`ks` is the stream of additions so far, in order; `ks.count k` is key `k`'s true
count.  What is stated of `reach w ks` holds for an arbitrary stream, hence for every prefix of
every history.  `w = floor(1/threshold) ≥ 1`.
-/
namespace C20
variable {K : Type} [DecidableEq K]

/-- the constructor on an exact threshold `p/q` in (0, 1): the bucket width is `⌊1/threshold⌋`
    (`w·p ≤ q < (w+1)·p`, hence `2·w ≤ 2/threshold`), at least 1 - the hypothesis `1 ≤ w` of every theorem
    below -; thresholds outside (0, 1) are rejected -/
theorem threshold_width (p q : Nat) :
    match (TC.ofThreshold p q : Option (TC K)) with
    | some s => 0 < p ∧ p < q ∧ s = TC.init (q / p) ∧ 1 ≤ s.w ∧ s.w * p ≤ q ∧ q < (s.w + 1) * p
    | none => p = 0 ∨ q ≤ p := by
  unfold TC.ofThreshold
  by_cases h : 0 < p ∧ p < q
  · rw [if_pos h]
    have h1 : 1 ≤ q / p := (Nat.le_div_iff_mul_le h.1).mpr (by omega)
    have h2 : q / p * p ≤ q := Nat.div_mul_le_self q p
    have h3 : q < (q / p + 1) * p := by
      have := Nat.lt_mul_div_succ q h.1
      rw [Nat.mul_comm]; exact this
    exact ⟨h.1, h.2, rfl, h1, h2, h3⟩
  · rw [if_neg h]
    show p = 0 ∨ q ≤ p
    omega

theorem history_is_stream (w : Nat) (ops : List (Op K)) :
    TC.run w ops = reach w (stream ops) := by
  unfold TC.run stream reach
  generalize (TC.init w : TC K) = s
  induction ops generalizing s with
  | nil => simp [TC.addAll]
  | cons o os ih =>
    simp only [List.foldl_cons, List.flatMap_cons]
    rw [ih, addAll_append]; rfl

/-- the true count of `k` in a history is the sum of what each public call asks for: 1 per `add(k)` /
    occurrence in an iterable, the given count per mapping entry and per keyword - a key given both in
    the positional mapping and as a keyword receives BOTH counts (`Op.weight`) -/
theorem true_count_of_history (ops : List (Op K)) (k : K) :
    (stream ops).count k = (ops.map (Op.weight k)).sum := by
  induction ops with
  | nil => simp [stream]
  | cons o os ih =>
    simp only [stream, List.flatMap_cons, List.count_append, List.map_cons, List.sum_cons] at ih ⊢
    rw [ih, flatten_count]

/-- one `update(mapping, **kwargs)` call adds, for every key, the mapping's count plus the keyword's count -/
theorem update_mapping_and_keywords_add (kcs kws : List (K × Nat)) (k : K) :
    (Op.updateMapKw kcs kws).flatten.count k = wsum k kcs + wsum k kws := flatten_count _ k

/-- `update(other_counter)` raises `total` by the sum of the other counter's reported counts
    (also when `other` is the counter itself) -/
theorem absorb_total (s src : TC K) : (s.absorb src).total = s.total + src.commonCount := by
  unfold TC.absorb TC.step
  rw [addAll_total]
  simp only [Op.flatten, length_expand, TC.items, TC.commonCount, List.map_map]
  rfl

/-- `update(other counter)` continues the stream by additions in which every key occurs exactly as often
    as the other counter REPORTS it (so all theorems about `reach` apply to histories with such calls) -/
theorem absorb_is_stream (w : Nat) (hw : 1 ≤ w) (ks js : List K) :
    ∃ extra : List K, (reach w ks).absorb (reach w js) = reach w (ks ++ extra)
      ∧ ∀ k, extra.count k = (reach w js).get k := by
  refine ⟨expand (reach w js).items, ?_, ?_⟩
  · simp [TC.absorb, TC.step, Op.flatten, reach, addAll_append]
  · intro k
    rw [count_expand]
    exact wsum_items _ (inv_reach w hw js).nodup k

theorem total_eq_additions (w : Nat) (ks : List K) : (reach w ks).total = ks.length := by
  simp [reach, addAll_total, TC.init]

/-- no reported count exceeds the key's true count (absent keys report 0) -/
theorem count_le_true (w : Nat) (hw : 1 ≤ w) (ks : List K) (k : K) :
    (reach w ks).get k ≤ ks.count k :=
  ((inv_reach w hw ks).get_bounds k).le_true

/-- a reported count falls short of the true count by at most `floor(total / w)` -/
theorem undercount_le (w : Nat) (hw : 1 ≤ w) (ks : List K) (k : K) :
    ks.count k - (reach w ks).get k ≤ (reach w ks).total / w := by
  have := ((inv_reach w hw ks).get_bounds k).short
  rwa [reach_w] at this

/-- every key whose true count exceeds the slack is present -/
theorem heavy_keys_present (w : Nat) (hw : 1 ≤ w) (ks : List K) (k : K)
    (h : (reach w ks).total / w < ks.count k) : (reach w ks).contains k = true := by
  have := ((inv_reach w hw ks).get_bounds k).heavy
  rw [reach_w] at this
  exact this h

/-- `get_common_count() + get_uncommon_count() == total` -/
theorem common_plus_uncommon (w : Nat) (hw : 1 ≤ w) (ks : List K) :
    (reach w ks).commonCount + (reach w ks).uncommonCount = (reach w ks).total := by
  have h : ((reach w ks).cm.map (·.cnt)).sum ≤ (reach w ks).total := (inv_reach w hw ks).sum_le
  unfold TC.uncommonCount TC.commonCount
  omega

/-- `get_uncommon_count()` is exactly "the sum of counts for keys that were culled" (its docstring):
    the counts thrown away by all compactions so far (`culled`, a ghost the code never computes) -/
theorem uncommon_eq_culled (w : Nat) (ks : List K) :
    (reach w ks).uncommonCount = culled (TC.init w : TC K) ks := by
  have h := addAll_common (TC.init w : TC K) ks
  unfold TC.uncommonCount
  rw [total_eq_additions]
  simp only [reach, TC.commonCount, TC.init, List.map_nil, List.sum_nil, Nat.zero_add] at h ⊢
  omega

/-- key by key, `get_uncommon_count()` is the sum of all under-counts: over any duplicate-free list `U` of keys
    that covers the stream, it is `Σ_{k ∈ U} (true count of k - reported count of k)` -/
theorem uncommon_eq_shortfalls (w : Nat) (hw : 1 ≤ w) (ks : List K) (U : List K) (hU : U.Nodup)
    (hks : ∀ k ∈ ks, k ∈ U) :
    (reach w ks).uncommonCount = (U.map fun k => ks.count k - (reach w ks).get k).sum := by
  -- Σ_U true = N and Σ_U reported = `commonCount`, both sums of per-key weights (`sum_map_wsum`); subtract termwise
  have hi := inv_reach w hw ks
  have hsub : ∀ p ∈ (reach w ks).items, p.1 ∈ U := by
    intro p hp
    obtain ⟨e, he, rfl⟩ := List.mem_map.mp hp
    have hc : (reach w ks).contains e.key = true := Option.isSome_iff_ne_none.mpr (lookup_ne_none_of_mem he)
    have hb := hi.get_bounds e.key
    exact hks _ (List.count_pos_iff.mp (Nat.lt_of_lt_of_le (hb.pos hc) hb.le_true))
  have hg : (U.map fun k => (reach w ks).get k).sum = ((reach w ks).cm.map (·.cnt)).sum := by
    have : (fun k => (reach w ks).get k) = fun k => wsum k (reach w ks).items :=
      funext fun k => (wsum_items _ hi.nodup k).symm
    rw [this, sum_map_wsum U hU _ hsub]
    simp [TC.items, List.map_map, Function.comp_def]
  have hc : (U.map fun k => ks.count k).sum = ks.length := by
    have : (fun k => ks.count k) = fun k => wsum k (ks.map fun a => (a, 1)) :=
      funext fun k => (wsum_map_one k ks).symm
    rw [this, sum_map_wsum U hU _ (by simpa using hks)]
    simp [List.map_map, Function.comp_def, List.map_const', List.sum_replicate_nat]
  have hs := sum_map_sub U (fun k => ks.count k) (fun k => (reach w ks).get k) (count_le_true w hw ks)
  rw [hc, hg] at hs
  unfold TC.uncommonCount TC.commonCount
  rw [total_eq_additions]
  omega

/-- `get_commonality()` is defined exactly when something was added, and then is a ratio in [0, 1]
    whose complement is the uncommon share: `common / total` with `common ≤ total`,
    `total - common = get_uncommon_count()` -/
theorem commonality_spec (w : Nat) (hw : 1 ≤ w) (ks : List K) :
    match (reach w ks).commonality with
    | none => ks = []
    | some (c, t) => 0 < t ∧ c ≤ t ∧ t = ks.length ∧ c = (reach w ks).commonCount
        ∧ t - c = (reach w ks).uncommonCount := by
  have ht := total_eq_additions w ks
  have hc := common_plus_uncommon w hw ks
  unfold TC.commonality
  by_cases h0 : (reach w ks).total = 0
  · simp only [h0, if_true]
    rw [ht] at h0
    exact List.length_eq_zero_iff.mp h0
  · rw [if_neg h0]
    exact ⟨Nat.pos_of_ne_zero h0, Nat.le.intro hc, ht, rfl, rfl⟩

theorem keys_nodup (w : Nat) (hw : 1 ≤ w) (ks : List K) : (reach w ks).keys.Nodup :=
  by
  rw [keys_eq_keysOf]; exact (inv_reach w hw ks).nodup

theorem tracked_positive (w : Nat) (hw : 1 ≤ w) (ks : List K) (k : K)
    (h : (reach w ks).contains k = true) : 1 ≤ (reach w ks).get k :=
  ((inv_reach w hw ks).get_bounds k).pos h

/-! the views agree with the per-key counts (for every state, reachable or not) -/

theorem items_eq_zip (s : TC K) : s.items = s.keys.zip s.values := by
  unfold TC.items TC.keys TC.values
  induction s.cm with
  | nil => rfl
  | cons e es ih => simp [ih]

theorem len_eq_items_length (s : TC K) : s.len = s.items.length := by
  simp [TC.len, TC.items]

theorem get_eq_items_lookup (s : TC K) (k : K) :
    s.get k = ((s.items.find? (fun p => p.1 = k)).map (·.2)).getD 0 := by
  unfold TC.get TC.items
  induction s.cm with
  | nil => simp [lookup]
  | cons e es ih =>
    simp only [lookup, List.map_cons, List.find?_cons]
    by_cases h : e.key = k <;> simp [h, ih]

theorem elements_eq (s : TC K) :
    s.elements = s.items.flatMap (fun p => List.replicate p.2 p.1) := by
  simp [TC.elements, TC.items, List.flatMap_map]

theorem most_common_perm_items (s : TC K) : (s.mostCommon none).Perm s.items :=
  sortDesc_perm s.items

theorem most_common_sorted (s : TC K) (n : Option Int) :
    (s.mostCommon n).Pairwise (fun a b => b.2 ≤ a.2) := by
  unfold TC.mostCommon
  cases n with
  | none => exact sortDesc_sorted s.items
  | some n =>
    simp only
    split
    · exact List.Pairwise.nil
    · exact (sortDesc_sorted s.items).sublist (List.take_sublist _ _)

/-- what the correspondence compares of a `most_common()` result (`canon`: ties put in key order) does not
    depend on the order among equal counts: EVERY list with the pairs of `items()` prints like the model's
    answer - so an implementation is free in exactly what the statement leaves free -/
theorem most_common_canonical (s : TC Nat) (r : List (Nat × Nat)) (h : r.Perm s.items) :
    canon r = canon (s.mostCommon none) :=
  canon_eq_of_perm _ _ (h.trans (most_common_perm_items s).symm)

/-- the canonical form is itself a correct answer: the pairs of `items()` in descending count order -/
theorem canon_is_most_common (s : TC Nat) :
    (canon s.items).Perm s.items ∧ (canon s.items).Pairwise (fun a b => b.2 ≤ a.2) := by
  refine ⟨canon_perm _, (canon_sorted s.items).imp ?_⟩
  intro a b h
  rw [canonLe_iff] at h
  omega

theorem most_common_take (s : TC K) (n : Int) (hn : 0 < n) :
    s.mostCommon (some n) = (s.mostCommon none).take n.toNat := by
  unfold TC.mostCommon
  have : ¬ n ≤ 0 := by omega
  simp [this]

/-! The size bound of the statement is FALSE for the algorithm the code implements
    (Lossy Counting keeps up to about w·log(total/w) keys: `size_bound_log`).  Witness: threshold 1/24.
    Buckets 1-3 are filled with keys reaching `cnt + dlt = 4` (6×4, 8×3, 12×2): all 26 survive three compactions;
    23 fresh keys follow. -/

def sizeWitness : List Nat :=
  (List.range 6).flatMap (fun k => List.replicate 4 k) ++
  (List.range 8).flatMap (fun k => List.replicate 3 (6 + k)) ++
  (List.range 12).flatMap (fun k => List.replicate 2 (14 + k)) ++
  (List.range 23).map (fun k => 26 + k)

theorem sizeWitness_len : (reach 24 sizeWitness).len = 49 := by decide +kernel

/-- tracked keys can exceed `2 / threshold` (here 49 > 2·24) -/
theorem size_bound_false : ∃ (w : Nat) (ks : List Nat), 1 ≤ w ∧ 2 * w < (reach w ks).len :=
  ⟨24, sizeWitness, by decide, by rw [sizeWitness_len]; decide⟩

/-- the same in terms of the threshold `p/q = 1/24`: `len · p > 2 · q`, i.e. `len > 2/threshold` -/
theorem size_bound_false_threshold : ∃ (p q : Nat) (s : TC Nat) (ks : List Nat),
    TC.ofThreshold p q = some s ∧ 2 * q < (s.addAll ks).len * p :=
  ⟨1, 24, TC.init 24, sizeWitness, rfl, by
    -- `sizeWitness_len` in the goal's spelling (`addAll`, not `reach`): to compare two spellings under `_ * p` the kernel
    -- would evaluate the 95 additions again
    have h : (TC.addAll (TC.init 24) sizeWitness).len = 49 := sizeWitness_len
    rw [h]; decide⟩

/-- what does hold: never more tracked keys than additions, and the tracked
    counts never add up to more than the additions -/
theorem size_bound_partial (w : Nat) (hw : 1 ≤ w) (ks : List K) :
    (reach w ks).len ≤ ks.length ∧ (reach w ks).commonCount ≤ ks.length := by
  have hi := inv_reach w hw ks
  have ht := total_eq_additions w ks
  exact ⟨by simpa [TC.len, ht] using hi.len_le, by simpa [TC.commonCount, ht] using hi.sum_le⟩

/-- the space bound that DOES hold (Manku & Motwani's `(1/ε)·log(εN)`, here with `w = ⌊1/ε⌋ ≤ 1/ε` and the
    binary logarithm): after `N` additions at most `w · (⌊log2(⌊N/w⌋ + 1)⌋ + 1)` keys are tracked.
    Full clause of the statement ("never exceeds 2/threshold") is false: `size_bound_false`. -/
theorem size_bound_log (w : Nat) (hw : 1 ≤ w) (ks : List K) :
    (reach w ks).len ≤ w * ((ks.length / w + 1).log2 + 1) := by
  have h := len_le_log_of_inv2 _ (inv2_reach w hw ks)
  rwa [reach_w, total_eq_additions] at h

/-- the `2/threshold` clause does hold during the first three buckets
    (`N < 3·w` additions: `⌊N/w⌋ + 1 < 4`, so `log2 ≤ 1`): it can only fail later -/
theorem size_bound_early (w : Nat) (hw : 1 ≤ w) (ks : List K) (hN : ks.length < 3 * w) :
    (reach w ks).len ≤ 2 * w := by
  have h := size_bound_log w hw ks
  have hq : ks.length / w < 3 := (Nat.div_lt_iff_lt_mul (by omega)).mpr hN
  have hl : (ks.length / w + 1).log2 ≤ 1 := by
    generalize ks.length / w = q at hq ⊢
    have h4 : q + 1 < 2 ^ 2 := by show q + 1 < 4; omega
    have := (Nat.log2_lt (by omega)).mpr h4
    omega
  calc (reach w ks).len ≤ w * ((ks.length / w + 1).log2 + 1) := h
    _ ≤ w * 2 := Nat.mul_le_mul_left _ (by omega)
    _ = 2 * w := Nat.mul_comm ..

/-! ### histories with calls that raise part-way: the additions of such a call are the ones performed before the
exception, and the history is an ordinary history of those - so every theorem above applies to it -/

/-- a call that raises part-way is `update(the keys it got through)`: its additions are the ones performed
    before the exception, it raises iff the argument has an element the counter cannot take, and `total`
    grows by exactly the number of additions performed -/
theorem raising_call_is_prefix_update (s : TC K) (xs : List (Option K)) :
    (s.attempt xs).1 = s.step (.updateKeys (goodPrefix xs))
    ∧ ((s.attempt xs).2 = true ↔ none ∈ xs)
    ∧ (s.attempt xs).1.total = s.total + (goodPrefix xs).length := by
  refine ⟨rfl, ?_, by simp [TC.attempt, addAll_total]⟩
  induction xs with
  | nil => simp [TC.attempt, hasBad]
  | cons x xs ih =>
    cases x with
    | none => simp [TC.attempt, hasBad]
    | some k => simpa [TC.attempt, hasBad] using ih

/-- a rejected key leaves no trace: `add(unhashable)` (and an `update` whose FIRST element is rejected)
    raises with the counter - `total` included - exactly as it was -/
theorem rejected_add_leaves_no_trace (s : TC K) (xs : List (Option K)) :
    s.attempt (none :: xs) = (s, true) := by
  simp [TC.attempt, goodPrefix, hasBad, TC.addAll]

/-- a call without such an element is the ordinary `update(iterable)` and does not raise -/
theorem attempt_all_good (s : TC K) (ks : List K) :
    s.attempt (ks.map some) = (s.step (.updateKeys ks), false) := by
  have h : ∀ l : List K, goodPrefix (l.map some) = l ∧ hasBad (l.map some) = false := by
    intro l
    induction l with
    | nil => exact ⟨rfl, rfl⟩
    | cons k l ih => simp [goodPrefix, hasBad, ih]
  simp [TC.attempt, h, TC.step, Op.flatten]

/-- a history in which some calls raised part-way IS the history of the operations that took effect -/
theorem raising_calls_are_history (w : Nat) (calls : List (Call K)) :
    TC.runCalls w calls = TC.run w (calls.map Call.effective) := by
  unfold TC.runCalls TC.run
  generalize (TC.init w : TC K) = s
  induction calls generalizing s with
  | nil => rfl
  | cons c cs ih =>
    simp only [List.foldl_cons, List.map_cons]
    rw [ih]
    cases c <;> rfl

theorem runCalls_eq_reach (w : Nat) (calls : List (Call K)) :
    TC.runCalls w calls = reach w (stream (calls.map Call.effective)) := by
  rw [raising_calls_are_history, history_is_stream]

/-- after any history with such calls: `total` is the number of additions that took effect, no count exceeds
    the key's true count among THOSE, the shortfall is within `floor(total / w)`, and
    `get_common_count() + get_uncommon_count() == total` - earlier failed calls do not disturb the accounting -/
theorem accounting_after_raising_calls (w : Nat) (hw : 1 ≤ w) (calls : List (Call K)) (k : K) :
    let s := TC.runCalls w calls
    let done := stream (calls.map Call.effective)
    s.total = done.length ∧ s.get k ≤ done.count k ∧ done.count k - s.get k ≤ s.total / w
      ∧ s.commonCount + s.uncommonCount = s.total := by
  intro s done
  rw [show s = reach w done from runCalls_eq_reach w calls]
  exact ⟨total_eq_additions w done, count_le_true w hw done k, undercount_le w hw done k,
         common_plus_uncommon w hw done⟩

/-- why `add` must not count a key before it has stored it (the behaviour before fix `ea1be9b`:
    `total += 1`, then the dict operation raises): with bucket width 2, one rejected key followed by ONE
    addition of key 0 reaches a compaction at `total = 2` that drops key 0 - one addition, true count 1,
    reported 0, slack `floor(1/2) = 0`; and `total` is 2 after 1 addition -/
theorem rejected_key_counted_breaks_statement :
    ∃ (s : TC Nat), s = ((TC.init 2 : TC Nat).bumpOnly).add 0
      ∧ s.total = 2 ∧ s.get 0 = 0 ∧ ¬ ([0].count 0 - s.get 0 ≤ [0].length / 2) :=
  ⟨_, rfl, by decide, by decide, by decide⟩

/-- `update(other.elements())` is `update(other)`: the elements are the mapping's additions in order -/
theorem update_elements_eq_absorb (s src : TC K) :
    s.step (.updateKeys src.elements) = s.absorb src := by
  simp only [TC.absorb, TC.step, Op.flatten, expand, TC.elements, TC.items, List.flatMap_map]

/-! non-vacuity: a concrete stream on which keys are evicted and under-counted -/
example : (reach 3 [0, 1, 1, 0, 2, 2, 0]).items = [(2, 2), (0, 1)] := by decide
example : ((reach 3 [0, 1, 1, 0, 2, 2, 0]).get 0, [0, 1, 1, 0, 2, 2, 0].count 0,
           (reach 3 [0, 1, 1, 0, 2, 2, 0]).total / 3) = (1, 3, 2) := by decide
example : (reach 24 sizeWitness).len = 49 := sizeWitness_len
-- the logarithmic bound on the witness of `size_bound_false`: 49 ≤ 24 · (log2(95/24 + 1) + 1) = 72
example : 24 * ((sizeWitness.length / 24 + 1).log2 + 1) = 72 := by decide +kernel
-- before the first compaction the count is within one of that bound: w = 3, two additions, two tracked keys, bound w·1 = 3
example : (reach 3 [0, 1]).len = 2 ∧ 3 * (([0, 1].length / 3 + 1).log2 + 1) = 3 := by decide
-- culled counts of the stream above: total 7, common 3, uncommon 4 = culled
example : ((reach 3 [0, 1, 1, 0, 2, 2, 0]).uncommonCount, culled (TC.init 3 : TC Nat) [0, 1, 1, 0, 2, 2, 0],
           (reach 3 [0, 1, 1, 0, 2, 2, 0]).commonality) = (4, 4, some (3, 7)) := by decide
example : (reach 3 ([] : List Nat)).commonality = none := by decide
-- thresholds 3/10 and 0.34 = 17/50 have width 3 and 2; 1/1 and 0/5 are rejected
example : ((TC.ofThreshold 3 10 : Option (TC Nat)).map (·.w), (TC.ofThreshold 17 50 : Option (TC Nat)).map (·.w),
           (TC.ofThreshold 1 1 : Option (TC Nat)).map (·.w), (TC.ofThreshold 0 5 : Option (TC Nat)).map (·.w))
    = (some 3, some 2, none, none) := by decide
-- per-key shortfalls of that stream over U = [0, 1, 2, 3]: (3-1) + (2-0) + (2-2) + 0 = 4
example : ([0, 1, 2, 3].map fun k => [0, 1, 1, 0, 2, 2, 0].count k - (reach 3 [0, 1, 1, 0, 2, 2, 0]).get k)
    = [2, 2, 0, 0] := by decide
-- ties print in key order whatever order the answer had; the cut of most_common(2) names only the key above it
example : (canon [(5, 2), (1, 2), (7, 3)], canonTop [(7, 3), (5, 2)]) = ([(7, 3), (1, 2), (5, 2)], [(some 7, 3), (none, 2)]) := by
  decide
-- a key given positionally (3) and as a keyword (2) in ONE update call is counted 5 times
example : ((TC.run 9 [Op.updateMapKw [(0, 3), (1, 1)] [(0, 2)]]).get 0,
           (TC.run 9 [Op.updateMapKw [(0, 3), (1, 1)] [(0, 2)]]).total) = (5, 6) := by decide
-- self-update doubles the reported counts
example : (((TC.run 9 [Op.updateKeys [0, 0, 1]]).absorb (TC.run 9 [Op.updateKeys [0, 0, 1]])).items)
    = [(0, 4), (1, 2)] := by decide

-- update(['0', [], '1']) at width 2 after one addition of 0: the call raises, 0 was added once more, 1 never;
-- add([]) changes nothing; a bad keyword count after a good positional part: the positional part stays
example : ((TC.init 2 : TC Nat).add 0).attempt [some 0, none, some 1] = (reach 2 [0, 0], true) := by decide
example : (reach 2 [0]).attempt [none] = (reach 2 [0], true) := by decide
example : ((reach 9 [0]).attempt ([some 1] ++ expandX [some (0, 2), none, some (1, 5)])).1.items = [(0, 3), (1, 1)] := by decide
example : (TC.runCalls 2 [.ok (.add 0), .partly [none], .ok (.add 0), .partly [some 1, none, some 0]]).total = 3 := by decide
example : (reach 9 [0, 0, 1]).step (.updateKeys (reach 9 [0, 0, 1]).elements) = reach 9 [0, 0, 1, 0, 0, 1] := by decide

end C20
