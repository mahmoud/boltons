/-
C20 — SOURCE TIE.  `Src.cacheutils.ThresholdCounter.*` are generated by `harness/py2lean.py` from the
current text of the methods of `boltons.cacheutils.ThresholdCounter` on every run (raising mode:
exceptions are values, the object state is the record `ThresholdCounter.St`).  The theorems below state
that, on the image `conc s` of every good model state `s`, each generated method does not raise and IS the hand
model's function (`C20/Model.lean`) - for `add` also on every well-formed source state (`src_add_eq_model`) -, and
lift that to histories: the state the SOURCE reaches from a fresh counter by any sequence of public calls is the
model state the property theorems of `Props.lean` speak about.

`conc` embeds a model state into the source's state record (`Nat` counts as `Int`s, an entry
`⟨key, cnt, dlt⟩` as the dict item `key ↦ [cnt, dlt]`); `abs` goes back; `WF` (numbers in range, keys pairwise different:
what every Python `ThresholdCounter` satisfies) makes a source state the image of its `abs` (`conc_abs`).

In `first | A | B …` the alternatives are for different shapes of the generated text; one that names a loop or field the
generated file does not have fails at elaboration, and the next is tried.
-/
import BoltonsVerif.Generated.Src_cacheutils
import BoltonsVerif.PyRtLemmas
import BoltonsVerif.C20.Props

namespace C20

open Src.cacheutils

variable {K : Type} [DecidableEq K] [Inhabited K]

def concE (e : Entry K) : K × (Int × Int) := (e.key, ((e.cnt : Int), (e.dlt : Int)))

def conc (s : TC K) : ThresholdCounter.St K :=
  { total := s.total, count_map := s.cm.map concE, cur_bucket := s.bucket, thresh_count := s.w }

def absE (p : K × (Int × Int)) : Entry K := ⟨p.1, p.2.1.toNat, p.2.2.toNat⟩

def abs (st : ThresholdCounter.St K) : TC K :=
  ⟨st.total.toNat, st.thresh_count.toNat, st.cur_bucket.toNat, st.count_map.map absE⟩

/-- model states the tie speaks about: `w ≥ 1` (`__init__` rejects thresholds outside (0, 1)),
    `bucket ≥ 1`, dict keys pairwise different -/
structure Good (s : TC K) : Prop where
  w : 1 ≤ s.w
  bucket : 1 ≤ s.bucket
  nodup : (keysOf s.cm).Nodup

structure WF (st : ThresholdCounter.St K) : Prop where
  total : 0 ≤ st.total
  w : 1 ≤ st.thresh_count
  bucket : 1 ≤ st.cur_bucket
  vals : ∀ p ∈ st.count_map, 0 ≤ p.2.1 ∧ 0 ≤ p.2.2
  nodup : PyRt.Dict.WF st.count_map

omit [DecidableEq K] [Inhabited K] in
theorem abs_conc (s : TC K) : abs (conc s) = s := by
  cases s with
  | mk t w b cm =>
    simp only [abs, conc, Int.toNat_natCast, List.map_map]
    congr 1
    exact (List.map_congr_left fun e _ => by simp [absE, concE]).trans (List.map_id _)

omit [DecidableEq K] [Inhabited K] in
theorem conc_total (s : TC K) : (conc s).total.toNat = s.total := Int.toNat_natCast _

omit [DecidableEq K] [Inhabited K] in
theorem conc_abs (st : ThresholdCounter.St K) (h : WF st) : conc (abs st) = st := by
  cases st with
  | mk t cm b w =>
    have h1 := h.total; have h2 := h.w; have h3 := h.bucket; have h4 := h.vals
    simp only at h1 h2 h3 h4
    simp only [abs, conc, List.map_map]
    congr 1
    · omega
    · refine (List.map_congr_left fun p hp => ?_).trans (List.map_id _)
      have := h4 p hp
      simp only [Function.comp, concE, absE, Int.toNat_of_nonneg this.1, Int.toNat_of_nonneg this.2, id]
    · omega
    · omega

omit [DecidableEq K] [Inhabited K] in
theorem good_abs (st : ThresholdCounter.St K) (h : WF st) : Good (abs st) where
  w := by have := h.w; simp only [abs]; omega
  bucket := by have := h.bucket; simp only [abs]; omega
  nodup := by
    have := h.nodup
    simp only [abs, keysOf, List.map_map, PyRt.Dict.WF] at this ⊢
    exact this

omit [DecidableEq K] [Inhabited K] in
theorem wf_conc (s : TC K) (h : Good s) : WF (conc s) where
  total := by simp [conc]
  w := by have := h.w; simp only [conc]; omega
  bucket := by have := h.bucket; simp only [conc]; omega
  vals := by
    intro p hp
    simp only [conc, List.mem_map] at hp
    obtain ⟨e, _, rfl⟩ := hp
    simp [concE]
  nodup := by
    have := h.nodup
    simp only [conc, keysOf, PyRt.Dict.WF, List.map_map] at this ⊢
    exact this

omit [Inhabited K] in
theorem find_conc (k : K) (cm : List (Entry K)) :
    PyRt.Dict.find (cm.map concE) k = (lookup k cm).map (fun e => ((e.cnt : Int), (e.dlt : Int))) := by
  induction cm with
  | nil => rfl
  | cons e es ih =>
    simp only [List.map_cons, PyRt.Dict.find_cons, lookup, concE]
    by_cases h : e.key = k
    · simp [h]
    · simp only [if_neg h]; exact ih

omit [Inhabited K] in
theorem set_conc_present (k : K) (b : Nat) (cm : List (Entry K)) (e : Entry K) (h : lookup k cm = some e) :
    PyRt.Dict.set (cm.map concE) k ((e.cnt : Int) + 1, (e.dlt : Int)) = (upsert k b cm).map concE := by
  induction cm with
  | nil => simp [lookup] at h
  | cons e' es ih =>
    simp only [lookup] at h
    rw [upsert_cons]
    by_cases hk : e'.key = k
    · simp only [if_pos hk, Option.some.injEq] at h
      subst h
      simp [hk, PyRt.Dict.set, concE]
    · simp only [if_neg hk] at h ⊢
      simp [PyRt.Dict.set, concE, hk, ← ih h]

omit [Inhabited K] in
theorem set_conc_absent (k : K) (b : Nat) (hb : 1 ≤ b) (cm : List (Entry K)) (h : lookup k cm = none) :
    PyRt.Dict.set (cm.map concE) k ((1 : Int), (b : Int) - 1) = (upsert k b cm).map concE := by
  have hf : PyRt.Dict.find (cm.map concE) k = none := by rw [find_conc, h]; rfl
  rw [PyRt.Dict.set_of_find_none _ _ _ hf]
  have hbn : bump k cm = none := (bump_none_iff k cm).2 h
  simp only [upsert, hbn, List.map_append, List.map_cons, List.map_nil, concE]
  have e : ((b - 1 : Nat) : Int) = (b : Int) - 1 := by omega
  rw [e]
  rfl

omit [Inhabited K] in
theorem get?_conc (k : K) (cm : List (Entry K)) :
    PyRt.Dict.get? (cm.map concE) k = match lookup k cm with
      | some e => .ok ((e.cnt : Int), (e.dlt : Int))
      | none => .error PyExc.KeyError := by
  unfold PyRt.Dict.get?
  rw [find_conc]
  cases lookup k cm <;> rfl

omit [Inhabited K] in
/-- the compaction of `add`: a dict comprehension that keeps the items satisfying `p` -/
theorem compact_conc (p : K × (Int × Int) → Bool) (q : Entry K → Bool) (cm : List (Entry K))
    (h : (keysOf cm).Nodup) (hpq : ∀ e, p (concE e) = q e) :
    PyRt.Dict.ofPairs ((cm.map concE).filter p) = (cm.filter q).map concE := by
  have hf : (cm.map concE).filter p = (cm.filter q).map concE := by
    rw [List.filter_map]
    congr 1
    exact List.filter_congr (fun e _ => hpq e)
  rw [hf]
  apply PyRt.Dict.ofPairs_of_nodup
  rw [List.map_map]
  exact (keysOf_filter_sublist q cm).nodup h

omit [DecidableEq K] [Inhabited K] in
theorem map_fst_snd (l : List (K × (Int × Int))) : l.map (fun x => (x.fst, x.snd)) = l :=
  List.map_id' l

omit [Inhabited K] in
theorem contains_conc (k : K) (cm : List (Entry K)) :
    PyRt.Dict.contains (cm.map concE) k = (lookup k cm).isSome := by
  rw [PyRt.Dict.contains_eq, find_conc]
  cases lookup k cm <;> rfl

/-- the compaction test of the source (`total % width == 0` on Python ints, in either spelling of the sum)
    is the model's test on naturals -/
theorem mod_cast_zero_iff (t w : Nat) : (((t : Int) + 1) % (w : Int) = 0) ↔ ((t + 1) % w = 0) := by
  have h : ((t : Int) + 1) % (w : Int) = (((t + 1) % w : Nat) : Int) := by simp
  rw [h]; omega

theorem mod_cast_zero_iff2 (t w : Nat) : ((1 + (t : Int)) % (w : Int) = 0) ↔ ((t + 1) % w = 0) := by
  rw [Int.add_comm]; exact mod_cast_zero_iff t w

/-- the predicate of the compaction filter, on an item and on the model entry it stands for -/
macro "compact_pred" : tactic => `(tactic|
  (intro e; simp only [concE]; first | (apply decide_eq_decide.2; omega) | rfl | (simp; omega)))

/-- closes one of the four cases of `src_add_conc`: first the economical route (`simp only` with the
    specification lemmas: enough for the shapes the source had so far), then full `simp` (which also unfolds the
    helper methods the translator emitted on demand: they are `@[simp]` definitions whose names the proof cannot
    know), each followed by the same closing steps -/
macro "add_case " hl:ident hset:ident hm:ident hmod:ident hmod1:ident hmod2:ident hcast:ident hcast2:ident hnd:ident : tactic =>
  `(tactic| first
    | (simp only [conc, get?_conc, contains_conc, find_conc, $hl:ident, $hcast:ident, $hcast2:ident, $hmod:ident,
         $hset:ident, $hm:ident, Option.isSome_none, Option.map_none, Option.map_some,
         Option.isSome_some, Bool.false_eq_true, if_true, if_false, PyRt.Dict.items_eq, map_fst_snd,
         Int.natCast_eq_zero, ne_eq, not_true_eq_false, not_false_eq_true, reduceCtorEq] <;>
       first
        | with_reducible rfl
        | (simp only [Prod.mk.injEq, true_and, ThresholdCounter.St.mk.injEq, and_true]
           (repeat' apply And.intro) <;>
             first | omega | with_reducible rfl | exact compact_conc _ _ _ $hnd (by compact_pred) | rfl))
    | (simp [conc, get?_conc, contains_conc, find_conc, $hl:ident, $hmod1:ident, $hmod2:ident, $hmod:ident,
         $hset:ident, mod_cast_zero_iff, mod_cast_zero_iff2, $hm:ident, PyRt.Dict.items_eq, map_fst_snd,
         PyRt.unwrap] <;>
       first
        | done
        | ((repeat' apply And.intro) <;>
             first | omega | with_reducible rfl | exact compact_conc _ _ _ $hnd (by compact_pred) | rfl)))

/-- The proof does not follow the statement order of the source: it splits on the two facts the model
    splits on (is the key tracked? is this addition a compaction point?), rewrites every dict operation of
    the source on `conc` states into the model's list functions (`get?_conc`, `contains_conc`, `find_conc`,
    `set_conc_*`, `compact_conc`) and leaves the rest to `simp`/`omega` (`add_case`). -/
theorem src_add_conc (s : TC K) (hg : Good s) (k : K) :
    ThresholdCounter.add (conc s) k = (.ok (), conc (s.add k)) := by
  have hw := hg.w
  have hb := hg.bucket
  have hnd : (keysOf (upsert k s.bucket s.cm)).Nodup := nodup_upsert k s.bucket s.cm hg.nodup
  have hcast : ((s.total : Int) + 1) = ((s.total + 1 : Nat) : Int) := by omega
  have hcast2 : (1 + (s.total : Int)) = ((s.total + 1 : Nat) : Int) := by omega
  have hmod := PyRt.mod?_natCast (s.total + 1) s.w hw
  have hmod1 : PyRt.mod? ((s.total : Int) + 1) (s.w : Int) = .ok ((((s.total + 1) % s.w : Nat)) : Int) := by
    rw [hcast]; exact hmod
  have hmod2 : PyRt.mod? (1 + (s.total : Int)) (s.w : Int) = .ok ((((s.total + 1) % s.w : Nat)) : Int) := by
    rw [hcast2]; exact hmod
  unfold ThresholdCounter.add ThresholdCounter.add.body TC.add
  cases hl : lookup k s.cm with
  | none =>
    have hset := set_conc_absent k s.bucket hb s.cm hl
    by_cases hm : (s.total + 1) % s.w = 0
    · add_case hl hset hm hmod hmod1 hmod2 hcast hcast2 hnd
    · add_case hl hset hm hmod hmod1 hmod2 hcast hcast2 hnd
  | some e =>
    have hset := set_conc_present k s.bucket s.cm e hl
    by_cases hm : (s.total + 1) % s.w = 0
    · add_case hl hset hm hmod hmod1 hmod2 hcast hcast2 hnd
    · add_case hl hset hm hmod hmod1 hmod2 hcast hcast2 hnd

omit [Inhabited K] in
theorem good_add (s : TC K) (hg : Good s) (k : K) : Good (s.add k) := by
  have hnd := nodup_upsert k s.bucket s.cm hg.nodup
  have hw := hg.w
  have hb := hg.bucket
  unfold TC.add
  split
  · exact { w := hw, bucket := by simp only; omega, nodup := (keysOf_filter_sublist _ _).nodup hnd }
  · exact { w := hw, bucket := hb, nodup := hnd }

omit [Inhabited K] in
theorem good_addAll (s : TC K) (hg : Good s) (ks : List K) : Good (s.addAll ks) := by
  induction ks generalizing s with
  | nil => exact hg
  | cons k ks ih => exact ih (s.add k) (good_add s hg k)

omit [DecidableEq K] [Inhabited K] in
theorem good_init (w : Nat) (hw : 1 ≤ w) : Good (TC.init w : TC K) :=
  ⟨hw, Nat.le_refl 1, List.nodup_nil⟩

theorem src_add_eq_model (st : ThresholdCounter.St K) (h : WF st) (k : K) :
    ∃ st', ThresholdCounter.add st k = (.ok (), st') ∧ abs st' = (abs st).add k ∧ WF st' := by
  refine ⟨conc ((abs st).add k), ?_, abs_conc _, wf_conc _ (good_add _ (good_abs st h) k)⟩
  have := src_add_conc (abs st) (good_abs st h) k
  rw [conc_abs st h] at this
  exact this

theorem src_getitem_conc (s : TC K) (k : K) :
    ThresholdCounter.getitem (conc s) k = match lookup k s.cm with
      | some e => .ok (e.cnt : Int)
      | none => .error PyExc.KeyError := by
  unfold ThresholdCounter.getitem ThresholdCounter.getitem.body
  simp only [conc, get?_conc]
  cases lookup k s.cm <;> rfl

theorem src_getitem_eq_model (s : TC K) (k : K) :
    ThresholdCounter.getitem (conc s) k =
      if s.contains k then .ok (s.get k : Int) else .error PyExc.KeyError := by
  rw [src_getitem_conc]
  unfold TC.contains TC.get
  cases lookup k s.cm <;> rfl

theorem src_contains_eq_model (s : TC K) (k : K) :
    ThresholdCounter.contains (conc s) k = .ok (s.contains k) := by
  unfold ThresholdCounter.contains ThresholdCounter.contains.body
  simp only [conc, PyRt.Dict.contains_eq, find_conc, TC.contains]
  cases lookup k s.cm <;> simp

/-- the model's `TC.get` has the Python default `0` built in (`src_get_default_eq_model`); for another default the
    model side is spelled out -/
theorem src_get_eq_model (s : TC K) (k : K) (d : Int) :
    ThresholdCounter.get (conc s) k d = .ok (if s.contains k then (s.get k : Int) else d) := by
  unfold ThresholdCounter.get ThresholdCounter.get.body
  unfold TC.contains TC.get
  -- whichever way the source finds the entry (`self[key]` + `except KeyError`, `key in ...`, `dict.get`): both
  -- cases of the model's lookup, every dict operation rewritten by its specification lemma
  cases hl : lookup k s.cm <;>
    first
    | (simp only [src_getitem_conc, hl]; simp; done)
    | (simp [src_getitem_conc, conc, get?_conc, contains_conc, find_conc, hl, PyRt.unwrap]; done)
    | (have hget := src_getitem_conc s k
       have hcon := src_contains_eq_model s k
       unfold TC.contains at hcon
       simp only [conc] at hget hcon
       simp [hget, hcon, conc, get?_conc, contains_conc, find_conc, hl, PyRt.unwrap]; done)

theorem src_get_default_eq_model (s : TC K) (k : K) :
    ThresholdCounter.get (conc s) k 0 = .ok (s.get k : Int) := by
  rw [src_get_eq_model]
  unfold TC.contains TC.get
  cases lookup k s.cm <;> simp

theorem src_len_eq_model (s : TC K) : ThresholdCounter.len (conc s) = .ok (s.len : Int) := by
  unfold ThresholdCounter.len ThresholdCounter.len.body
  simp [conc, PyRt.Dict.len, TC.len]

omit [DecidableEq K] [Inhabited K] in
theorem sum_cast (l : List Nat) : PyRt.sum (l.map (fun (n : Nat) => (n : Int))) = ((l.sum : Nat) : Int) := by
  unfold PyRt.sum
  rw [← List.sum_eq_foldl]
  induction l with
  | nil => rfl
  | cons x xs ih => simp only [List.map_cons, List.sum_cons, ih, Int.natCast_add]

theorem src_get_common_count_eq_model (s : TC K) :
    ThresholdCounter.get_common_count (conc s) = .ok (s.commonCount : Int) := by
  unfold ThresholdCounter.get_common_count ThresholdCounter.get_common_count.body
  have hs : PyRt.sum (s.cm.map (fun e => (e.cnt : Int))) = ((s.cm.map (·.cnt)).sum : Nat) := by
    rw [← sum_cast, List.map_map]; rfl
  first
  | (simp only [conc, PyRt.Dict.values, List.map_map, TC.commonCount]
     exact congrArg Except.ok hs)
  | (simp [conc, PyRt.Dict.values, PyRt.Dict.items_eq, List.map_map, TC.commonCount, Function.comp_def, concE] <;>
     first
     | done
     | exact hs
     | (rw [← hs]; rfl)
     | (rw [← hs]; congr 1))

/-- `get_uncommon_count()` (an `Int` subtraction in the source, truncated in the model: equal
    when the tracked counts do not exceed `total`, which `Inv.sum_le` proves for every reachable state) -/
theorem src_get_uncommon_count_eq_model (s : TC K) (h : s.commonCount ≤ s.total) :
    ThresholdCounter.get_uncommon_count (conc s) = .ok (s.uncommonCount : Int) := by
  unfold ThresholdCounter.get_uncommon_count ThresholdCounter.get_uncommon_count.body
  simp only [src_get_common_count_eq_model]
  unfold TC.uncommonCount
  simp only [conc]
  congr 1
  omega

def castP (p : K × Nat) : K × Int := (p.1, (p.2 : Int))

def itemsInt (s : TC K) : List (K × Int) := s.cm.map (fun e => (e.key, (e.cnt : Int)))

omit [DecidableEq K] [Inhabited K] in
/-- `known`: what the step needs of an entry; `P`: what it needs of, and keeps in, the loop state `σ` -/
theorem yield_loop {σ ι : Type} (loop : List ι → σ → Except PyExc (List (K × Int))) (item : Entry K → ι)
    (P : σ → Prop) (known : Entry K → Prop) (hnil : ∀ st, loop [] st = .ok [])
    (hcons : ∀ e xs st, known e → P st →
      ∃ st', P st' ∧ loop (item e :: xs) st = PyRt.yieldCons (e.key, (e.cnt : Int)) (loop xs st'))
    (es : List (Entry K)) (hes : ∀ e ∈ es, known e) (st : σ) (hst : P st) :
    loop (es.map item) st = .ok (es.map fun e => (e.key, (e.cnt : Int))) := by
  induction es generalizing st with
  | nil => exact hnil st
  | cons e es ih =>
    simp only [List.forall_mem_cons] at hes
    obtain ⟨st', hst', hstep⟩ := hcons e (es.map item) st hes.1 hst
    rw [List.map_cons, hstep, ih hes.2 st' hst']
    rfl

/-- `item` of `yield_loop` (keys or items) is found by unification; the invariant with a dict-valued local `loc1` is
    tried first (ill-typed in the other shapes). -/
theorem src_iteritems_eq_model (s : TC K) (hg : Good s) :
    ThresholdCounter.iteritems (conc s) = .ok (itemsInt s) := by
  unfold ThresholdCounter.iteritems ThresholdCounter.iteritems.body itemsInt
  simp only [conc, PyRt.Dict.keys, PyRt.Dict.items_eq, List.map_map]
  first
  | refine yield_loop _ _ (fun st => st.loc1 = s.cm.map concE ∧ st.self.count_map = s.cm.map concE)
      (fun e => lookup e.key s.cm = some e) (fun _ => rfl) ?_ s.cm (lookup_of_mem_nodup s.cm hg.nodup) _ ⟨rfl, rfl⟩
  | refine yield_loop _ _ (fun st => st.self.count_map = s.cm.map concE)
      (fun e => lookup e.key s.cm = some e) (fun _ => rfl) ?_ s.cm (lookup_of_mem_nodup s.cm hg.nodup) _ rfl
  intro e xs st hl hst
  refine ⟨?st', ?inv, ?step⟩
  case step =>
    first
    | (simp only [ThresholdCounter.iteritems.loop1, Function.comp, concE, hst, get?_conc, hl]; with_reducible rfl)
    | (simp [ThresholdCounter.iteritems.loop1, hst, get?_conc, find_conc, hl, concE]; with_reducible rfl)
  case inv => first | exact hst | exact ⟨rfl, hst.2⟩

omit [DecidableEq K] [Inhabited K] in
theorem itemsInt_eq (s : TC K) : itemsInt s = s.items.map castP := by
  simp [itemsInt, TC.items, List.map_map, Function.comp, castP]

omit [DecidableEq K] [Inhabited K] in
theorem insSorted_cast (x : K × Nat) (l : List (K × Nat)) :
    PyRt.insSorted (fun c => c.2) true (castP x) (l.map castP) = (insDesc x l).map castP := by
  induction l with
  | nil => rfl
  | cons y ys ih =>
    simp only [List.map_cons, PyRt.insSorted, insDesc, castP, if_true] at ih ⊢
    by_cases h : y.2 ≤ x.2
    · rw [if_pos (by omega), if_pos h]; rfl
    · rw [if_neg (by omega), if_neg h, List.map_cons, ih]; rfl

omit [DecidableEq K] [Inhabited K] in
/-- Python's stable `sorted(..., key=count, reverse=True)` is the model's `sortDesc` -/
theorem sorted_cast (l : List (K × Nat)) :
    PyRt.sorted (fun c => c.2) true (l.map castP) = (sortDesc l).map castP := by
  induction l with
  | nil => rfl
  | cons x xs ih =>
    simp only [List.map_cons, PyRt.sorted, List.foldr_cons, sortDesc] at ih ⊢
    rw [ih, insSorted_cast]

theorem src_most_common_eq_model (s : TC K) (hg : Good s) (n : Option Int) :
    ThresholdCounter.most_common (conc s) n = .ok ((s.mostCommon n).map castP) := by
  unfold ThresholdCounter.most_common ThresholdCounter.most_common.body
  simp only [src_iteritems_eq_model s hg, itemsInt_eq]
  rw [sorted_cast]
  unfold TC.mostCommon
  cases n with
  | none => simp
  | some n =>
    -- three arithmetic cases, each closed by `simp` with the case facts in every spelling the source
    -- may test them (`n <= 0`, `n >= len(ret)`, `n < len(ret)`, negations), not by following the branches
    have hlen : PyRt.len ((sortDesc s.items).map castP) = ((sortDesc s.items).length : Int) := by
      simp [PyRt.len]
    by_cases h0 : n ≤ 0
    · have h0' : ¬ 0 < n := by omega
      simp [PyRt.unwrap, h0, h0']
    · have h0' : 0 < n := by omega
      by_cases hl : ((sortDesc s.items).length : Int) ≤ n
      · have hl' : ¬ n < ((sortDesc s.items).length : Int) := by omega
        have htake : (sortDesc s.items).take n.toNat = sortDesc s.items :=
          List.take_of_length_le (by omega)
        simp [PyRt.unwrap, h0, h0', hl, hl', hlen, htake]
      · have hl' : n < ((sortDesc s.items).length : Int) := by omega
        have hsl := PyRt.slice_to_nat ((sortDesc s.items).map castP) n.toNat
        rw [Int.toNat_of_nonneg (by omega)] at hsl
        simp [PyRt.unwrap, h0, h0', hl, hl', hlen, hsl, List.map_take]

/-! ### `update` (an iterable of keys / a mapping, plus keyword counts)

The keyword counts are added either by the recursive call `self.update(kwargs)` (one loop pair `update_map.loop1/loop2`,
one loop `update_keys.loop1`, `fuel ≥ 2`), or - SHAPE B - by loops of `update` itself: then the loops over the keyword
dict are numbered first and those over the positional argument after them (`update_map.loop3/loop4`, `update_keys.loop3`). -/

def castD (kcs : List (K × Nat)) : PyRt.Dict K Int := kcs.map castP

/-- the generated loop of `update(iterable_of_keys)` that runs over the KEYS, whichever number the translator gave it
    (it is the one whose items are keys: the loops over a mapping's items / over a `range` have other types) -/
@[reducible] def ukKeysLoop : (k kb : ThresholdCounter.update_keys.St K → Except PyExc Unit × ThresholdCounter.St K) →
    (kexc : PyExc → ThresholdCounter.update_keys.St K → Except PyExc Unit × ThresholdCounter.St K) →
    List K → ThresholdCounter.update_keys.St K → Except PyExc Unit × ThresholdCounter.St K := by
  first
  | exact ThresholdCounter.update_keys.loop1
  | exact ThresholdCounter.update_keys.loop3
  | exact ThresholdCounter.update_keys.loop2

set_option hygiene false in
/-- SHAPE B of `update` (no recursion: the keyword counts are added by a second pair of loops).  `items_loops ST OUTER
    INNER` proves, for the loop pair `for key, count in <mapping>.items(): for _ in range(count): self.add(key)`
    numbered `OUTER` / `INNER` over the variable record `ST`, the "then" lemma `hitems`: whatever continuation follows
    only sees the new object state and the unchanged arguments -/
local macro "items_loops " st:ident outer:ident inner:ident : tactic => `(tactic| (
  have hin : ∀ (k kb : $st K → Except PyExc Unit × ThresholdCounter.St K)
      (kexc : PyExc → $st K → Except PyExc Unit × ThresholdCounter.St K) (xs : List Int) (s : $st K) (m : TC K),
      s.self = conc m → Good m →
      ∃ s', $inner k kb kexc xs s = k s' ∧
        s'.self = conc (m.addAll (List.replicate xs.length s.loc1)) ∧
        s'.iterable = s.iterable ∧ s'.kwargs = s.kwargs ∧ s'.loc1 = s.loc1 := by
    intro k kb kexc xs
    induction xs with
    | nil => intro s m hs _; exact ⟨s, rfl, hs, rfl, rfl, rfl⟩
    | cons x xs ih =>
      intro s m hs hg
      simp only [$inner:ident, hs, src_add_conc m hg s.loc1]
      obtain ⟨s', h1, h2, h3, h4, h5⟩ :=
        ih { s with loc3 := x, self := conc (m.add s.loc1) } (m.add s.loc1) rfl (good_add m hg _)
      exact ⟨s', h1, by simpa [List.replicate_succ, TC.addAll] using h2, h3, h4, h5⟩
  have hout : ∀ (k kb : $st K → Except PyExc Unit × ThresholdCounter.St K)
      (kexc : PyExc → $st K → Except PyExc Unit × ThresholdCounter.St K) (kcs : List (K × Nat)) (s : $st K) (m : TC K),
      s.self = conc m → Good m →
      ∃ s', $outer k kb kexc (castD kcs) s = k s' ∧
        s'.self = conc (m.addAll (expand kcs)) ∧ s'.iterable = s.iterable ∧ s'.kwargs = s.kwargs := by
    intro k kb kexc kcs
    induction kcs with
    | nil => intro s m hs _; exact ⟨s, rfl, hs, rfl, rfl⟩
    | cons p ps ih =>
      intro s m hs hg
      obtain ⟨key, n⟩ := p
      simp only [castD, List.map_cons, castP, $outer:ident]
      obtain ⟨s1, h1, h2, h3, h4, h5⟩ := hin
        (fun s => $outer k kb kexc (List.map castP ps) s)
        (fun s => $outer k kb kexc (List.map castP ps) s) kexc
        (PyRt.range 0 (n : Int) 1) { s with loc1 := key, loc2 := (n : Int) } m hs hg
      rw [h1]
      have hlen : (PyRt.range 0 (n : Int) 1).length = n := by rw [PyRt.length_range_one]; omega
      rw [hlen] at h2
      obtain ⟨s2, g1, g2, g3, g4⟩ := ih s1 _ h2 (good_addAll m hg _)
      refine ⟨s2, g1, ?_, g3.trans h3, g4.trans h4⟩
      rw [g2]
      simp only [expand, List.flatMap_cons, addAll_append]
  have hitems : ∀ (k kb : $st K → Except PyExc Unit × ThresholdCounter.St K)
      (kexc : PyExc → $st K → Except PyExc Unit × ThresholdCounter.St K) (kcs : List (K × Nat)) (s : $st K) (m : TC K)
      (r : Except PyExc Unit × ThresholdCounter.St K), s.self = conc m → Good m →
      (∀ s', s'.self = conc (m.addAll (expand kcs)) → s'.iterable = s.iterable → s'.kwargs = s.kwargs → k s' = r) →
      $outer k kb kexc (castD kcs) s = r := by
    intro k kb kexc kcs s m r hs hg hk
    obtain ⟨s', h1, h2, h3, h4⟩ := hout k kb kexc kcs s m hs hg
    rw [h1]
    exact hk s' h2 h3 h4))

set_option hygiene false in
/-- SHAPE B: the loop `for key in <iterable>: self.add(key)` numbered `LOOP`, in "then" form (`hkeys`) -/
local macro "keys_loop " st:ident loop:ident : tactic => `(tactic| (
  have hkl : ∀ (k kb : $st K → Except PyExc Unit × ThresholdCounter.St K)
      (kexc : PyExc → $st K → Except PyExc Unit × ThresholdCounter.St K) (ks : List K) (s : $st K) (m : TC K),
      s.self = conc m → Good m →
      ∃ s', $loop k kb kexc ks s = k s' ∧ s'.self = conc (m.addAll ks) ∧
        s'.iterable = s.iterable ∧ s'.kwargs = s.kwargs := by
    intro k kb kexc ks
    induction ks with
    | nil => intro s m hs _; exact ⟨s, rfl, hs, rfl, rfl⟩
    | cons x xs ih =>
      intro s m hs hg
      simp only [$loop:ident, hs, src_add_conc m hg x]
      exact ih _ (m.add x) rfl (good_add m hg x)
  have hkeys : ∀ (k kb : $st K → Except PyExc Unit × ThresholdCounter.St K)
      (kexc : PyExc → $st K → Except PyExc Unit × ThresholdCounter.St K) (ks : List K) (s : $st K) (m : TC K)
      (r : Except PyExc Unit × ThresholdCounter.St K), s.self = conc m → Good m →
      (∀ s', s'.self = conc (m.addAll ks) → s'.iterable = s.iterable → s'.kwargs = s.kwargs → k s' = r) →
      $loop k kb kexc ks s = r := by
    intro k kb kexc ks s m r hs hg hk
    obtain ⟨s', h1, h2, h3, h4⟩ := hkl k kb kexc ks s m hs hg
    rw [h1]
    exact hk s' h2 h3 h4))

/-- the loops in "then" form: whatever continuation follows only sees the new object state (and the
    unchanged arguments) -/
theorem src_update_map_loop1_then (k kb : ThresholdCounter.update_map.St K → Except PyExc Unit × ThresholdCounter.St K)
    (kexc : PyExc → ThresholdCounter.update_map.St K → Except PyExc Unit × ThresholdCounter.St K)
    (kcs : List (K × Nat)) (s : ThresholdCounter.update_map.St K) (m : TC K)
    (r : Except PyExc Unit × ThresholdCounter.St K) (hs : s.self = conc m) (hg : Good m)
    (hk : ∀ s', s'.self = conc (m.addAll (expand kcs)) → s'.iterable = s.iterable → s'.kwargs = s.kwargs →
      k s' = r) :
    ThresholdCounter.update_map.loop1 k kb kexc (castD kcs) s = r := by
  items_loops ThresholdCounter.update_map.St ThresholdCounter.update_map.loop1 ThresholdCounter.update_map.loop2
  exact hitems k kb kexc kcs s m r hs hg hk

theorem src_update_keys_loop_then (k kb : ThresholdCounter.update_keys.St K → Except PyExc Unit × ThresholdCounter.St K)
    (kexc : PyExc → ThresholdCounter.update_keys.St K → Except PyExc Unit × ThresholdCounter.St K)
    (ks : List K) (s : ThresholdCounter.update_keys.St K) (m : TC K)
    (r : Except PyExc Unit × ThresholdCounter.St K) (hs : s.self = conc m) (hg : Good m)
    (hk : ∀ s', s'.self = conc (m.addAll ks) → s'.iterable = s.iterable → s'.kwargs = s.kwargs → k s' = r) :
    ukKeysLoop k kb kexc ks s = r := by
  first
  | (keys_loop ThresholdCounter.update_keys.St ThresholdCounter.update_keys.loop1
     exact hkeys k kb kexc ks s m r hs hg hk)
  | (keys_loop ThresholdCounter.update_keys.St ThresholdCounter.update_keys.loop3
     exact hkeys k kb kexc ks s m r hs hg hk)
  | (keys_loop ThresholdCounter.update_keys.St ThresholdCounter.update_keys.loop2
     exact hkeys k kb kexc ks s m r hs hg hk)

/-- the additions a positional mapping / iterable argument asks for (`none`: argument omitted) -/
def optAdds {α : Type} (f : α → List K) (it : Option α) : List K := (it.map f).getD []

theorem src_update_map_loop1_run (s : ThresholdCounter.update_map.St K) (m : TC K) (kw : List (K × Nat))
    (hs : s.self = conc m) (hg : Good m) :
    ThresholdCounter.update_map.loop1 (fun s => (Except.ok (), s.self)) (fun s => (Except.ok (), s.self))
      (fun e s => (Except.error e, s.self)) (castD kw) s = (.ok (), conc (m.addAll (expand kw))) :=
  src_update_map_loop1_then _ _ _ kw s m _ hs hg (fun s' h2 _ _ => by simp [h2])

/-- the tail `if kwargs: self.update(kwargs)`, given what that recursive call does -/
theorem src_update_kwargs_call (fuel : Nat) (m : TC K) (hg : Good m) (kws : List (K × Nat))
    (hrec : kws ≠ [] → ∀ m', Good m' → ThresholdCounter.update_map fuel (conc m') (some (castD kws)) [] =
      (.ok (), conc (m'.addAll (expand kws)))) :
    (if castD kws ≠ [] then
      (match ThresholdCounter.update_map fuel (conc m) (some (castD kws)) [] with
        | (.error e, st1) => (Except.error e, st1)
        | (.ok _, st1) => (Except.ok (), st1))
     else (Except.ok (), conc m)) = (.ok (), conc (m.addAll (expand kws))) := by
  by_cases hnil : kws = []
  · subst hnil; simp [castD, expand, TC.addAll]
  · have hne : castD kws ≠ [] := by simpa [castD] using hnil
    rw [if_pos hne, hrec hnil m hg]

/-- one level of `update(mapping, **kwargs)`, given what the recursive call `self.update(kwargs)` does (nothing is
    asked of it when there are no keyword counts) -/
theorem src_update_map_level (fuel : Nat) (m : TC K) (hg : Good m) (it : Option (List (K × Nat)))
    (kws : List (K × Nat))
    (hrec : kws ≠ [] → ∀ m', Good m' → ThresholdCounter.update_map fuel (conc m') (some (castD kws)) [] =
      (.ok (), conc (m'.addAll (expand kws)))) :
    ThresholdCounter.update_map (fuel + 1) (conc m) (it.map castD) (castD kws) =
      (.ok (), conc (m.addAll (optAdds expand it ++ expand kws))) := by
  rw [ThresholdCounter.update_map]
  cases it with
  | none =>
    simp only [Option.map_none, ne_eq, not_true_eq_false, not_false_eq_true, if_false, if_true, optAdds,
      Option.getD_none, List.nil_append]
    first
    | exact src_update_kwargs_call fuel m hg kws hrec
    | exact src_update_map_loop1_run _ m kws rfl hg
  | some kcs =>
    simp only [Option.map_some, ne_eq, reduceCtorEq, not_false_eq_true, not_true_eq_false, if_true, if_false,
      PyRt.unwrap, Option.getD_some, PyRt.Dict.items_eq, optAdds]
    first
    | (refine src_update_map_loop1_then _ _ _ kcs _ m _ rfl hg ?_
       intro s' h2 _ h4
       simp only at h4
       rw [addAll_append, h2, h4]
       exact src_update_kwargs_call fuel _ (good_addAll m hg _) kws hrec)
    | (items_loops ThresholdCounter.update_map.St ThresholdCounter.update_map.loop3 ThresholdCounter.update_map.loop4
       refine hitems _ _ _ kcs _ m _ rfl hg ?_
       intro s' h2 _ h4
       simp only at h4
       simp only [addAll_append, h4, PyRt.Dict.items_eq]
       exact src_update_map_loop1_run s' _ kws h2 (good_addAll m hg _))

theorem src_update_map_nokw (fuel : Nat) (m : TC K) (hg : Good m) (it : Option (List (K × Nat))) :
    ThresholdCounter.update_map (fuel + 1) (conc m) (it.map castD) [] =
      (.ok (), conc (m.addAll (optAdds expand it))) := by
  simpa [expand, castD] using src_update_map_level fuel m hg it [] (fun h => absurd rfl h)

/-- call depth `fuel ≥ 2` is what the recursion `self.update(kwargs)` needs to end without `RecursionError` -/
theorem src_update_map_eq_model (fuel : Nat) (m : TC K) (hg : Good m) (it : Option (List (K × Nat)))
    (kws : List (K × Nat)) :
    ThresholdCounter.update_map (fuel + 2) (conc m) (it.map castD) (castD kws) =
      (.ok (), conc (m.addAll (optAdds expand it ++ expand kws))) :=
  src_update_map_level (fuel + 1) m hg it kws fun _ m' hg' => src_update_map_nokw fuel m' hg' (some kws)

theorem src_update_keys_eq_model (fuel : Nat) (m : TC K) (hg : Good m) (it : Option (List K))
    (kws : List (K × Nat)) :
    ThresholdCounter.update_keys (fuel + 2) (conc m) it (castD kws) =
      (.ok (), conc (m.addAll (optAdds id it ++ expand kws))) := by
  have hrec := fun (_ : kws ≠ []) (m' : TC K) (hg' : Good m') => src_update_map_nokw fuel m' hg' (some kws)
  rw [ThresholdCounter.update_keys]
  cases it with
  | none =>
    simp only [ne_eq, not_true_eq_false, not_false_eq_true, if_false, if_true, optAdds, Option.map_none,
      Option.getD_none, List.nil_append]
    first
    | exact src_update_kwargs_call (fuel + 1) m hg kws hrec
    | (items_loops ThresholdCounter.update_keys.St ThresholdCounter.update_keys.loop1 ThresholdCounter.update_keys.loop2
       exact hitems _ _ _ kws _ m _ rfl hg (fun s' h2 _ _ => by simp [h2]))
  | some ks =>
    simp only [ne_eq, reduceCtorEq, not_false_eq_true, not_true_eq_false, if_true, if_false, PyRt.unwrap,
      Option.getD_some, optAdds, Option.map_some, id]
    refine src_update_keys_loop_then _ _ _ ks _ m _ rfl hg ?_
    intro s' h2 _ h4
    simp only at h4
    first
    | (rw [addAll_append, h2, h4]
       exact src_update_kwargs_call (fuel + 1) _ (good_addAll m hg _) kws hrec)
    | (items_loops ThresholdCounter.update_keys.St ThresholdCounter.update_keys.loop1 ThresholdCounter.update_keys.loop2
       simp only [addAll_append, h4, PyRt.Dict.items_eq]
       exact hitems _ _ _ kws s' _ _ h2 (good_addAll m hg _) (fun s'' h2' _ _ => by simp [h2']))

/-- one public call of the Python class, as the generated definitions run it (`fuel` = call depth allowed); `TC.absorb` and
    `Call.partly` have no generated counterpart -/
def srcStep (fuel : Nat) (st : ThresholdCounter.St K) : Op K → Except PyExc Unit × ThresholdCounter.St K
  | .add k => ThresholdCounter.add st k
  | .updateKeys ks => ThresholdCounter.update_keys fuel st (some ks) []
  | .updateMap kcs => ThresholdCounter.update_map fuel st (some (castD kcs)) []
  | .updateKeysKw ks kws => ThresholdCounter.update_keys fuel st (some ks) (castD kws)
  | .updateMapKw kcs kws => ThresholdCounter.update_map fuel st (some (castD kcs)) (castD kws)

def srcRun (fuel : Nat) : ThresholdCounter.St K → List (Op K) → Except PyExc Unit × ThresholdCounter.St K
  | st, [] => (.ok (), st)
  | st, op :: ops =>
    match srcStep fuel st op with
    | (.ok _, st') => srcRun fuel st' ops
    | (.error e, st') => (.error e, st')

/-- the state `__init__` leaves (NOT translated: `int(1 / threshold)` is float arithmetic; `w` stands for
    its value, which the constructor's range check makes ≥ 1) -/
def srcInit (w : Nat) : ThresholdCounter.St K := conc (TC.init w)

theorem src_step_eq_model (fuel : Nat) (m : TC K) (hg : Good m) (op : Op K) :
    srcStep (fuel + 2) (conc m) op = (.ok (), conc (m.step op)) := by
  cases op with
  | add k => exact src_add_conc m hg k
  | updateKeys ks =>
    have := src_update_keys_eq_model fuel m hg (some ks) []
    simpa [srcStep, castD, optAdds, expand, TC.step, Op.flatten] using this
  | updateMap kcs =>
    have := src_update_map_eq_model fuel m hg (some kcs) []
    simpa [srcStep, castD, optAdds, expand, TC.step, Op.flatten] using this
  | updateKeysKw ks kws =>
    have := src_update_keys_eq_model fuel m hg (some ks) kws
    simpa [srcStep, optAdds, TC.step, Op.flatten] using this
  | updateMapKw kcs kws =>
    have := src_update_map_eq_model fuel m hg (some kcs) kws
    simpa [srcStep, optAdds, TC.step, Op.flatten] using this

/-- from the image of any good model state, not only from the one `__init__` leaves -/
theorem src_run_eq_model (fuel : Nat) (m : TC K) (hg : Good m) (ops : List (Op K)) :
    srcRun (fuel + 2) (conc m) ops = (.ok (), conc (ops.foldl TC.step m)) := by
  induction ops generalizing m with
  | nil => rfl
  | cons op ops ih =>
    simp only [srcRun, src_step_eq_model fuel m hg op, List.foldl_cons]
    exact ih _ (good_addAll m hg _)

theorem src_history_refines (fuel w : Nat) (hw : 1 ≤ w) (ops : List (Op K)) :
    srcRun (fuel + 2) (srcInit w) ops = (.ok (), conc (TC.run w ops)) :=
  src_run_eq_model fuel _ (good_init w hw) ops

theorem src_run_reach (fuel w : Nat) (hw : 1 ≤ w) (ops : List (Op K)) :
    srcRun (fuel + 2) (srcInit w) ops = (.ok (), conc (reach w (stream ops))) := by
  rw [src_history_refines fuel w hw, history_is_stream]

/-- hence the C20 property theorems hold of what the SOURCE computes: after any history, for any key,
    `tc.get(key)` on the generated machine's state never exceeds the key's true count and falls short of
    it by at most `floor(total / w)`; and a key heavier than that slack is present -/
theorem src_counts_sound (fuel w : Nat) (hw : 1 ≤ w) (ops : List (Op K)) (k : K) :
    ∃ (st : ThresholdCounter.St K) (c : Nat),
      srcRun (fuel + 2) (srcInit w) ops = (.ok (), st) ∧
      ThresholdCounter.get st k 0 = .ok (c : Int) ∧
      c ≤ (stream ops).count k ∧
      (stream ops).count k - c ≤ st.total.toNat / w ∧
      (st.total.toNat / w < (stream ops).count k → ThresholdCounter.contains st k = .ok true) := by
  refine ⟨_, _, src_run_reach fuel w hw ops, src_get_default_eq_model _ k, count_le_true w hw _ k, ?_, fun h => ?_⟩
  · rw [conc_total]; exact undercount_le w hw _ k
  · rw [conc_total] at h
    rw [src_contains_eq_model, heavy_keys_present w hw _ k h]

/-- `get_common_count() + get_uncommon_count() == total` on the generated machine, after any history -/
theorem src_common_plus_uncommon (fuel w : Nat) (hw : 1 ≤ w) (ops : List (Op K)) :
    ∃ (st : ThresholdCounter.St K) (c u : Nat),
      srcRun (fuel + 2) (srcInit w) ops = (.ok (), st) ∧
      ThresholdCounter.get_common_count st = .ok (c : Int) ∧
      ThresholdCounter.get_uncommon_count st = .ok (u : Int) ∧ (c : Int) + u = st.total := by
  have h := common_plus_uncommon w hw (stream ops : List K)
  refine ⟨_, _, _, src_run_reach fuel w hw ops, src_get_common_count_eq_model _,
    src_get_uncommon_count_eq_model _ (Nat.le.intro h), ?_⟩
  simp only [conc]
  omega

/-! ### non-vacuity: the generated definitions evaluated on concrete states and histories -/

/-- the generated machine after `add 0, 1, 1, 0, 2, 2, 0` at `w = 3`: keys were evicted and under-counted -/
example : (srcRun 2 (srcInit 3) ([0, 1, 1, 0, 2, 2, 0].map Op.add)).2.count_map = [(2, (2, 1)), (0, (1, 2))]
    ∧ (srcRun 2 (srcInit 3) ([0, 1, 1, 0, 2, 2, 0].map Op.add)).2.total = 7 := by decide

/-- `update({0: 3, 1: 1}, **{0: 2})` counts key 0 five times -/
example : (srcStep 2 (srcInit 9) (Op.updateMapKw [(0, 3), (1, 1)] [(0, 2)])).2.count_map
    = [(0, (5, 0)), (1, (1, 0))] := by decide

/-- one level of call depth is not enough for keyword counts when the source adds them by the recursive call
    `self.update(kwargs)`: `RecursionError` (so `fuel + 2` is sharp) - or the source adds them by loops of its own
    and the call succeeds at depth 1 -/
example : (srcStep 1 (srcInit 9) (Op.updateMapKw [(0, 3)] [(0, 2)])).1 = .error PyExc.RecursionError
    ∨ (srcStep 1 (srcInit 9) (Op.updateMapKw [(0, 3)] [(0, 2)])).2.count_map = [(0, (5, 0))] := by
  first | exact Or.inl rfl | exact Or.inr (by decide)

/-- the raising cases are really there: an untracked key, and a counter whose `_thresh_count` is 0
    (a state outside `WF`: `add` raises ZeroDivisionError after having counted the key) -/
example : ThresholdCounter.getitem (srcInit 3 : ThresholdCounter.St Nat) 5 = .error PyExc.KeyError := by rfl
example : ThresholdCounter.add ({ total := 0, count_map := [], cur_bucket := 1, thresh_count := 0 } :
    ThresholdCounter.St Nat) 5 =
    (.error PyExc.ZeroDivisionError, { total := 1, count_map := [(5, (1, 0))], cur_bucket := 1, thresh_count := 0 }) := by
  rfl

example : WF (srcInit 3 : ThresholdCounter.St Nat) := wf_conc _ (good_init 3 (by decide))

end C20
