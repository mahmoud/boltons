import BoltonsVerif.C20.Proofs
/-
C20 helper lemmas for the space bound that DOES hold for Lossy Counting:
    tracked keys ≤ w · (log2(total / w + 1) + 1)          (w = floor(1/threshold))

Idea (Manku & Motwani, Thm 4.2, in a dyadic form that stays inside `Nat`):
  * the *age* of an entry is `bucket - dlt` (1 = entered in the current bucket);
  * an entry that survived the compactions since it entered has `cnt ≥ age`            (`Inv2.ent`);
  * the counts of the entries of age < t were all added during the last t-1 buckets
    (the current, partial one included), so they sum to less than (t-1)·w
    (`Inv2.win`, indexed by the number `d = bucket + 1 - t` of buckets completed before they entered);
  * hence, by induction over m with the slack kept in the statement (`dyadic`),
    the number of entries of age < 2^(m+1) is at most (m+1)·w.
-/
namespace C20
variable {K : Type} [DecidableEq K]

/-- sum of the counts of the entries that entered in bucket `d+1` or later -/
def sumFrom (d : Nat) : List (Entry K) → Nat
  | [] => 0
  | e :: es => (if d ≤ e.dlt then e.cnt else 0) + sumFrom d es

/-- number / count-sum of the entries of age `< t` (age = `B - dlt`, written without subtraction) -/
def cntBelow (B t : Nat) : List (Entry K) → Nat
  | [] => 0
  | e :: es => (if B < t + e.dlt then 1 else 0) + cntBelow B t es

def sumBelow (B t : Nat) : List (Entry K) → Nat
  | [] => 0
  | e :: es => (if B < t + e.dlt then e.cnt else 0) + sumBelow B t es

theorem sumBelow_eq_sumFrom (B t : Nat) (cm : List (Entry K)) :
    sumBelow B t cm = sumFrom (B + 1 - t) cm := by
  induction cm with
  | nil => rfl
  | cons e es ih =>
    simp only [sumBelow, sumFrom, ih]
    by_cases h : B < t + e.dlt
    · have : B + 1 - t ≤ e.dlt := by omega
      simp [h, this]
    · have : ¬ (B + 1 - t ≤ e.dlt) := by omega
      simp [h, this]

theorem sumFrom_upsert (d : Nat) (k : K) (b : Nat) (cm : List (Entry K)) :
    sumFrom d (upsert k b cm) ≤ sumFrom d cm + 1 := by
  induction cm with
  | nil => simp only [upsert_nil, sumFrom]; split <;> omega
  | cons e es ih =>
    rw [upsert_cons]
    split
    · simp only [sumFrom]; split <;> omega
    · simp only [sumFrom]; omega

theorem sumFrom_filter_le (d : Nat) (p : Entry K → Bool) (cm : List (Entry K)) :
    sumFrom d (cm.filter p) ≤ sumFrom d cm := by
  induction cm with
  | nil => simp [sumFrom]
  | cons a as ih =>
    simp only [List.filter_cons]
    split <;> simp only [sumFrom] <;> omega

theorem sumFrom_eq_zero (d : Nat) (cm : List (Entry K)) (h : ∀ e ∈ cm, e.dlt < d) :
    sumFrom d cm = 0 := by
  induction cm with
  | nil => rfl
  | cons a as ih =>
    have ha := h a (List.mem_cons_self ..)
    have := ih (fun e he => h e (List.mem_cons_of_mem _ he))
    have hn : ¬ d ≤ a.dlt := by omega
    simp [sumFrom, hn, this]

/-- the second invariant: what the logarithmic space bound rests on -/
structure Inv2 (s : TC K) : Prop where
  wpos : 1 ≤ s.w
  bucket : s.bucket = s.total / s.w + 1
  /-- every entry has survived the compactions since it entered (`cnt ≥ age`) and entered no later
      than the current bucket -/
  ent : ∀ e ∈ s.cm, s.bucket ≤ e.cnt + e.dlt ∧ e.dlt + 1 ≤ s.bucket
  /-- the counts of the entries that entered after `d` completed buckets were added after the first
      `d * w` additions -/
  win : ∀ d, d < s.bucket → sumFrom d s.cm + d * s.w ≤ s.total

theorem inv2_init (w : Nat) (hw : 1 ≤ w) : Inv2 (TC.init w : TC K) where
  wpos := hw
  bucket := by simp [TC.init]
  ent := by simp [TC.init]
  win := by
    intro d hd
    have : d = 0 := by simp [TC.init] at hd; omega
    subst this; simp [TC.init, sumFrom]

theorem ent_upsert (k : K) {b : Nat} (hb : 1 ≤ b) {cm : List (Entry K)}
    (h : ∀ e ∈ cm, b ≤ e.cnt + e.dlt ∧ e.dlt + 1 ≤ b) :
    ∀ e ∈ upsert k b cm, b ≤ e.cnt + e.dlt ∧ e.dlt + 1 ≤ b := by
  induction cm with
  | nil => simp only [upsert_nil, List.forall_mem_cons]; exact ⟨by omega, by simp⟩
  | cons a as ih =>
    rw [upsert_cons]
    simp only [List.forall_mem_cons] at h
    split
    · exact List.forall_mem_cons.mpr ⟨by have := h.1; simp only; omega, h.2⟩
    · exact List.forall_mem_cons.mpr ⟨h.1, ih h.2⟩

/-- the survivors of the compaction have `cnt + dlt > b`: `cnt ≥ age` again in bucket `b + 1` -/
theorem ent_filter {b : Nat} {cm : List (Entry K)} (h : ∀ e ∈ cm, e.dlt + 1 ≤ b) :
    ∀ e ∈ cm.filter (fun e => e.cnt + e.dlt > b), b + 1 ≤ e.cnt + e.dlt ∧ e.dlt + 1 ≤ b + 1 := by
  intro e he
  have hmem := List.mem_filter.mp he
  have h1 := h e hmem.1
  have h2 : e.cnt + e.dlt > b := by simpa using hmem.2
  omega

/-- for `d < b` the counts only shrink; for `d = b` nothing has entered after `b` completed buckets (`t = b · w`) -/
theorem win_filter {b w t : Nat} {cm : List (Entry K)} (p : Entry K → Bool) (hent : ∀ e ∈ cm, e.dlt + 1 ≤ b)
    (hwin : ∀ d, d < b → sumFrom d cm + d * w ≤ t) (ht : t = b * w) :
    ∀ d, d < b + 1 → sumFrom d (cm.filter p) + d * w ≤ t := by
  intro d hd
  have hf := sumFrom_filter_le d p cm
  by_cases hlt : d < b
  · have := hwin d hlt; omega
  · have hde : d = b := Nat.le_antisymm (Nat.le_of_lt_succ hd) (Nat.le_of_not_lt hlt)
    have hz : sumFrom d cm = 0 := sumFrom_eq_zero _ _ fun e he => by have := hent e he; omega
    rw [hde] at hf hz ⊢
    omega

theorem inv2_add (s : TC K) (k : K) (h : Inv2 s) : Inv2 (s.add k) := by
  have hent' := ent_upsert k (by rw [h.bucket]; exact Nat.le_add_left 1 _) h.ent
  have hentered : ∀ e ∈ upsert k s.bucket s.cm, e.dlt + 1 ≤ s.bucket := fun e he => (hent' e he).2
  have hwin' : ∀ d, d < s.bucket → sumFrom d (upsert k s.bucket s.cm) + d * s.w ≤ s.total + 1 := by
    intro d hd
    have h1 := sumFrom_upsert d k s.bucket s.cm
    have h2 := h.win d hd
    omega
  rcases add_cases s k h.bucket with ⟨he, hb'⟩ | ⟨he, hb', hmul⟩ <;> rw [he]
  · exact { wpos := h.wpos, bucket := hb', ent := hent', win := hwin' }
  · exact { wpos := h.wpos, bucket := hb', ent := ent_filter hentered, win := win_filter _ hentered hwin' hmul }

theorem inv2_addAll (s : TC K) (ks : List K) (h : Inv2 s) : Inv2 (s.addAll ks) := by
  induction ks generalizing s with
  | nil => exact h
  | cons a as ih => exact ih (s.add a) (inv2_add s a h)

theorem inv2_reach (w : Nat) (hw : 1 ≤ w) (ks : List K) : Inv2 (reach w ks) :=
  inv2_addAll _ ks (inv2_init w hw)

/-! the counting argument, for an arbitrary entry list with `cnt ≥ age ≥ 1` -/

/-- entries of age in `[t, t')` have `cnt ≥ t` each -/
theorem block_le (B t t' : Nat) (htt : t ≤ t') (cm : List (Entry K))
    (hent : ∀ e ∈ cm, B ≤ e.cnt + e.dlt) :
    t * cntBelow B t' cm + sumBelow B t cm ≤ t * cntBelow B t cm + sumBelow B t' cm := by
  induction cm with
  | nil => simp [cntBelow, sumBelow]
  | cons e es ih =>
    have he := hent e (List.mem_cons_self ..)
    have ih' := ih (fun x hx => hent x (List.mem_cons_of_mem _ hx))
    simp only [cntBelow, sumBelow, Nat.mul_add]
    by_cases h1 : B < t + e.dlt
    · have h2 : B < t' + e.dlt := by omega
      simp only [h1, h2, if_true, Nat.mul_one]; omega
    · by_cases h2 : B < t' + e.dlt
      · simp only [h1, h2, if_true, if_false, Nat.mul_one, Nat.mul_zero]; omega
      · simp only [h1, h2, if_false, Nat.mul_zero]; omega

theorem cntBelow_sumBelow_one (B : Nat) (cm : List (Entry K)) (hent : ∀ e ∈ cm, e.dlt + 1 ≤ B) :
    cntBelow B 1 cm = 0 ∧ sumBelow B 1 cm = 0 := by
  induction cm with
  | nil => simp [cntBelow, sumBelow]
  | cons e es ih =>
    have he := hent e (List.mem_cons_self ..)
    have ih' := ih (fun x hx => hent x (List.mem_cons_of_mem _ hx))
    have : ¬ B < 1 + e.dlt := by omega
    simp [cntBelow, sumBelow, this, ih']

theorem cntBelow_all (B t : Nat) (hB : B < t) (cm : List (Entry K)) : cntBelow B t cm = cm.length := by
  induction cm with
  | nil => rfl
  | cons e es ih =>
    have : B < t + e.dlt := by omega
    simp [cntBelow, this, ih]; omega

/-- the conclusion is `2·ih + hb + hw`, linear in the products `P·N0`, `P·N1`, `w·P`, `w·(m·P)` -/
theorem dyadic_step {P Q N0 N1 T0 T1 w m : Nat} (hQ : Q = 2 * P)
    (ih : P * N0 + w * P ≤ T0 + w * (m * P + 1))
    (hb : Q * N1 + T0 ≤ Q * N0 + T1) (hw : T0 + w ≤ Q * w) :
    Q * N1 + w * Q ≤ T1 + w * ((m + 1) * Q + 1) := by
  subst hQ; grind

/-- the induction over dyadic age classes; `sumBelow` stays on the right so that the step is linear -/
theorem dyadic (B w : Nat) (cm : List (Entry K))
    (hent : ∀ e ∈ cm, B ≤ e.cnt + e.dlt ∧ e.dlt + 1 ≤ B)
    (hwin : ∀ t, 2 ≤ t → sumBelow B t cm + w ≤ t * w) (m : Nat) :
    2 ^ m * cntBelow B (2 ^ (m + 1)) cm + w * 2 ^ m
      ≤ sumBelow B (2 ^ (m + 1)) cm + w * (m * 2 ^ m + 1) := by
  induction m with
  | zero =>
    have h0 := cntBelow_sumBelow_one B cm (fun e he => (hent e he).2)
    have hb := block_le B 1 2 (by omega) cm (fun e he => (hent e he).1)
    simp only [Nat.pow_zero, Nat.zero_add, Nat.pow_one, Nat.one_mul, Nat.mul_one]
    rw [h0.1, h0.2] at hb
    omega
  | succ m ih =>
    exact dyadic_step Nat.pow_succ' ih
      (block_le B (2 ^ (m + 1)) (2 ^ (m + 1 + 1)) (Nat.pow_le_pow_right (by omega) (by omega)) cm
        (fun e he => (hent e he).1))
      (hwin _ (Nat.one_lt_two_pow' m))

/-- `hd + hw` gives `P·L ≤ P·(w·(m+1))`; divide by `P` -/
theorem log_bound_of_dyadic {P Q L T w m : Nat} (hpos : 0 < P) (hQ : Q = 2 * P)
    (hd : P * L + w * P ≤ T + w * (m * P + 1)) (hw : T + w ≤ Q * w) : L ≤ w * (m + 1) := by
  subst hQ
  have : P * L ≤ P * (w * (m + 1)) := by grind
  exact Nat.le_of_mul_le_mul_left this hpos

theorem length_le_log (B w : Nat) (cm : List (Entry K))
    (hent : ∀ e ∈ cm, B ≤ e.cnt + e.dlt ∧ e.dlt + 1 ≤ B)
    (hwin : ∀ t, 2 ≤ t → sumBelow B t cm + w ≤ t * w) :
    cm.length ≤ w * (B.log2 + 1) := by
  have hd := dyadic B w cm hent hwin B.log2
  rw [cntBelow_all B _ Nat.lt_log2_self] at hd
  exact log_bound_of_dyadic (Nat.two_pow_pos _) Nat.pow_succ' hd (hwin _ (Nat.one_lt_two_pow' _))

/-- `Inv2.win` in the age form that `dyadic` takes: age `< t` is "entered after `d = bucket + 1 - t` completed buckets",
    and `total < bucket · w` -/
theorem Inv2.win_below {s : TC K} (h : Inv2 s) (t : Nat) (ht : 2 ≤ t) :
    sumBelow s.bucket t s.cm + s.w ≤ t * s.w := by
  have hw := h.wpos
  have hb := h.bucket
  rw [sumBelow_eq_sumFrom]
  have hb1 : 1 ≤ s.bucket := by rw [hb]; exact Nat.le_add_left 1 _
  have hd : s.bucket + 1 - t < s.bucket := by omega
  have h1 := h.win _ hd
  have h2 : s.total < s.bucket * s.w := by
    have : s.total / s.w < s.bucket := by omega
    exact (Nat.div_lt_iff_lt_mul (by omega)).mp this
  have h3 : s.bucket * s.w + s.w ≤ (s.bucket + 1 - t) * s.w + t * s.w := by
    rw [← Nat.add_mul, ← Nat.succ_mul]
    exact Nat.mul_le_mul_right _ (by omega)
  omega

theorem len_le_log_of_inv2 (s : TC K) (h : Inv2 s) :
    s.cm.length ≤ s.w * ((s.total / s.w + 1).log2 + 1) := by
  rw [← h.bucket]
  exact length_le_log s.bucket s.w s.cm h.ent h.win_below

end C20
