import BoltonsVerif.C20.Model
import BoltonsVerif.InsertionSort
/-
C20 — `sortDesc`, `canon`: instances of one insertion sort by a Boolean order.
-/
namespace C20
open InsSort
variable {K : Type}

theorem insDesc_eq_insBy : (insDesc : K × Nat → _) = insBy (fun a b => decide (b.2 ≤ a.2)) := by
  funext x l
  induction l with
  | nil => rfl
  | cons y ys ih => simp [insDesc, insBy, ih]

theorem sortDesc_perm (l : List (K × Nat)) : (sortDesc l).Perm l := by
  rw [sortDesc, insDesc_eq_insBy]; exact foldr_insBy_perm _ l

theorem sortDesc_sorted (l : List (K × Nat)) : (sortDesc l).Pairwise (fun a b => b.2 ≤ a.2) := by
  rw [sortDesc, insDesc_eq_insBy]
  refine (foldr_insBy_sorted _ (fun a b => ?_) (fun a b c h1 h2 => ?_) l).imp of_decide_eq_true
  · simp only [decide_eq_true_eq]; omega
  · simp only [decide_eq_true_eq] at *; omega

theorem canonLe_iff (a b : Nat × Nat) : canonLe a b = true ↔ b.2 < a.2 ∨ (a.2 = b.2 ∧ a.1 ≤ b.1) := by
  simp only [canonLe, Bool.or_eq_true, Bool.and_eq_true, decide_eq_true_eq, beq_iff_eq]

theorem canonLe_total (a b : Nat × Nat) : canonLe a b = true ∨ canonLe b a = true := by
  simp only [canonLe_iff]; omega

theorem canonLe_trans (a b c : Nat × Nat) (h1 : canonLe a b = true) (h2 : canonLe b c = true) :
    canonLe a c = true := by
  simp only [canonLe_iff] at *; omega

theorem canonLe_antisymm (a b : Nat × Nat) (h1 : canonLe a b = true) (h2 : canonLe b a = true) : a = b := by
  simp only [canonLe_iff] at *
  apply Prod.ext <;> omega

theorem insCanon_eq_insBy : insCanon = insBy canonLe := by
  funext x l
  induction l with
  | nil => rfl
  | cons y ys ih => simp [insCanon, insBy, ih]

theorem canon_perm (l : List (Nat × Nat)) : (canon l).Perm l := by
  rw [canon, insCanon_eq_insBy]; exact foldr_insBy_perm _ l

theorem canon_sorted (l : List (Nat × Nat)) : (canon l).Pairwise (fun a b => canonLe a b = true) := by
  rw [canon, insCanon_eq_insBy]; exact foldr_insBy_sorted _ canonLe_total canonLe_trans l

theorem canon_eq_of_perm (l₁ l₂ : List (Nat × Nat)) (h : l₁.Perm l₂) : canon l₁ = canon l₂ := by
  apply List.Perm.eq_of_pairwise (le := fun a b => canonLe a b = true)
  · intro a b _ _ h1 h2; exact canonLe_antisymm a b h1 h2
  · exact canon_sorted l₁
  · exact canon_sorted l₂
  · exact (canon_perm l₁).trans (h.trans (canon_perm l₂).symm)

end C20
