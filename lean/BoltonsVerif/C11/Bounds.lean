import BoltonsVerif.C11.Moves
/-
C11 — the compaction thresholds bound the garbage: `Bounded` is restored by `_cull` and kept by every operation.
-/
namespace C11
variable {α : Type} [DecidableEq α]

/-- at most `limit` dead intervals, and the tombstones are at most a `1/factor` share of the slots -/
def Bounded (cfg : Cfg) (s : ISet α) : Prop :=
  s.dead.length ≤ cfg.limit ∧ (s.items.length - s.idx.length) * cfg.factor ≤ s.items.length

theorem slots_eq_of_no_dead (s : ISet α) (h : InvC s) (hd : s.dead = []) : s.items.length = s.idx.length := by
  have ht := h.tombs
  rw [hd] at ht
  have h1 := liveBelow_all_live s.items 0 s.items.length (Nat.zero_le _) (Nat.le_refl _) (tombs_nil ht)
  rw [liveBelow_zero, liveBelow_length, Nat.zero_add, Nat.sub_zero] at h1
  exact h1.symm.trans h.len_eq.symm

theorem bounded_no_dead (cfg : Cfg) (s : ISet α) (h : InvC s) (hd : s.dead = []) : Bounded cfg s := by
  have := slots_eq_of_no_dead s h hd
  unfold Bounded
  rw [hd, this]
  simp

theorem compact_dead (s : ISet α) (h : s.dead ≠ []) : (compact s).dead = [] := by
  unfold compact
  rw [if_neg (by simpa using h)]

/-- cutting `t` slots off the end of `L` slots with `I` live ones keeps the tombstones' share within `1/f` -/
theorem cut_share (L I t f : Nat) (h : (L - I) * f ≤ L) : (L - t - I) * f ≤ L - t := by
  rcases Nat.eq_zero_or_pos f with hf | hf
  · rw [hf]; exact Nat.zero_le _
  · rcases Nat.le_total (L - t) I with hle | hle
    · rw [Nat.sub_eq_zero_of_le hle, Nat.zero_mul]; exact Nat.zero_le _
    · have e : L - t - I = (L - I) - t := by omega
      have : t ≤ t * f := Nat.le_mul_of_pos_right t hf
      rw [e, Nat.sub_mul]; omega

theorem cull_bounded (cfg : Cfg) (s : ISet α) (h : InvC s) : Bounded cfg (cull cfg s) := by
  rcases cull_cases cfg s with ⟨hd, he⟩ | ⟨hi, he⟩ | ⟨hne, he⟩ | ⟨h3, h4, ⟨_, he⟩ | ⟨_, he⟩⟩ <;> rw [he]
  · exact bounded_no_dead cfg s h hd
  · rw [hi]; exact bounded_no_dead cfg _ inv_empty.toInvC rfl
  · exact bounded_no_dead cfg _ (compact_spec s h).1.toInvC (compact_dead s hne)
  · exact ⟨h3, h4⟩
  · refine ⟨Nat.le_trans (popDeadFrom_length_le _ _) h3, ?_⟩
    show ((s.items.take _).length - s.idx.length) * cfg.factor ≤ (s.items.take _).length
    rw [List.length_take, Nat.min_eq_left (Nat.sub_le _ _)]
    exact cut_share _ _ _ _ h4

theorem add_bounded (cfg : Cfg) (s : ISet α) (hb : Bounded cfg s) (x : α) :
    Bounded cfg (s.add x) := by
  unfold ISet.add
  by_cases hc : s.contains x = true
  · simp only [hc, if_true]; exact hb
  · simp only [hc, Bool.false_eq_true, if_false]
    have hx : x ∉ IMap.keys s.idx := by
      intro hm
      apply hc
      unfold ISet.contains
      exact (IMap.lookup_isSome_iff s.idx x).2 hm
    have hl : (IMap.set s.idx x s.items.length).length = s.idx.length + 1 := by
      rw [← IMap.length_keys, IMap.keys_set_not_mem _ _ _ hx, List.length_append, IMap.length_keys]; rfl
    unfold Bounded at hb ⊢
    simp only [List.length_append, List.length_singleton, hl]
    refine ⟨hb.1, ?_⟩
    have e : s.items.length + 1 - (s.idx.length + 1) = s.items.length - s.idx.length := by omega
    rw [e]; omega

/-- what every reachable state is: valid, with its garbage within the thresholds -/
structure Good (cfg : Cfg) (s : ISet α) : Prop where
  inv : Inv s
  bounded : Bounded cfg s

theorem Moves.good {cfg : Cfg} {s t : ISet α} (hm : Moves cfg s t) : Good cfg s → Good cfg t :=
  hm.keeps (Good cfg) (fun s x h => ⟨inv_add s h.inv x, add_bounded cfg s h.bounded x⟩)
    (fun t ht => ⟨(cull_spec cfg t ht).1, cull_bounded cfg t ht⟩)
    (fun t ht hd => ⟨ht, bounded_no_dead cfg t ht.toInvC hd⟩)

theorem step_good (cfg : Cfg) (le : α → α → Bool) (s : ISet α) (op : Op α) (h : Good cfg s) :
    Good cfg (step cfg le s op).1 :=
  (step_moves cfg le s h.inv op).good h

theorem resultSet_good (cfg : Cfg) (o : Out α) : Good cfg (resultSet o) :=
  (resultSet_moves cfg o).good ⟨inv_empty, bounded_no_dead cfg _ inv_empty.toInvC rfl⟩

end C11
