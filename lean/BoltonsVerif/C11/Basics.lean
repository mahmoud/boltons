import BoltonsVerif.C11.Model
/-
C11 — the insertion-ordered dict as an association list (`IMap`, `assignIdx`) and the facts about plain lists the
other files share.
-/
namespace C11
variable {α : Type} [DecidableEq α]

namespace IMap

@[simp] theorem keys_nil : keys ([] : IMap α) = [] := rfl
@[simp] theorem keys_cons (k : α) (w : Nat) (m : IMap α) : keys ((k, w) :: m) = k :: keys m := rfl

theorem lookup_set (m : IMap α) (x y : α) (v : Nat) :
    lookup (set m x v) y = if x = y then some v else lookup m y := by
  induction m with
  | nil => simp [set, lookup]
  | cons p m ih => obtain ⟨k, w⟩ := p; grind [set, lookup]

theorem lookup_erase_ne (m : IMap α) (x y : α) (h : x ≠ y) :
    lookup (erase m x) y = lookup m y := by
  induction m with
  | nil => simp [erase]
  | cons p m ih => obtain ⟨k, w⟩ := p; grind [erase, lookup]

theorem lookup_isSome_iff (m : IMap α) (x : α) : (lookup m x).isSome ↔ x ∈ keys m := by
  induction m with
  | nil => simp [lookup]
  | cons p m ih => obtain ⟨k, w⟩ := p; grind [lookup, keys_cons]

theorem lookup_eq_none_iff (m : IMap α) (x : α) : lookup m x = none ↔ x ∉ keys m := by
  rw [← lookup_isSome_iff]; cases lookup m x <;> simp

theorem lookup_erase_self (m : IMap α) (x : α) (h : (keys m).Nodup) : lookup (erase m x) x = none := by
  induction m with
  | nil => simp [erase, lookup]
  | cons p m ih =>
    obtain ⟨k, w⟩ := p
    simp only [keys_cons, List.nodup_cons] at h
    by_cases hk : k = x
    · subst hk; simp only [erase, if_true]
      rw [lookup_eq_none_iff]; exact h.1
    · simp only [erase, hk, if_false, lookup]; exact ih h.2

theorem lookup_erase_some {m : IMap α} {x y : α} {j : Nat} (h : (keys m).Nodup) (hl : lookup (erase m x) y = some j) :
    x ≠ y ∧ lookup m y = some j := by
  have hxy : x ≠ y := by
    intro e; subst e
    rw [lookup_erase_self _ _ h] at hl; cases hl
  exact ⟨hxy, by rwa [lookup_erase_ne _ _ _ hxy] at hl⟩

theorem keys_erase (m : IMap α) (x : α) : keys (erase m x) = (keys m).erase x := by
  induction m with
  | nil => simp [erase]
  | cons p m ih => obtain ⟨k, w⟩ := p; grind [erase, keys_cons]

theorem keys_set_mem (m : IMap α) (x : α) (v : Nat) (h : x ∈ keys m) : keys (set m x v) = keys m := by
  induction m with
  | nil => simp at h
  | cons p m ih => obtain ⟨k, w⟩ := p; grind [set, keys_cons]

theorem keys_set_not_mem (m : IMap α) (x : α) (v : Nat) (h : x ∉ keys m) :
    keys (set m x v) = keys m ++ [x] := by
  induction m with
  | nil => simp [set]
  | cons p m ih => obtain ⟨k, w⟩ := p; grind [set, keys_cons]

theorem length_keys (m : IMap α) : (keys m).length = m.length := by simp [keys]

end IMap

theorem getElem?_lt {β : Type} {l : List β} {i : Nat} {v : β} (h : l[i]? = some v) : i < l.length :=
  (List.getElem?_eq_some_iff.1 h).1

theorem nodup_snoc {β : Type} {l : List β} {x : β} : (l ++ [x]).Nodup ↔ l.Nodup ∧ x ∉ l := by
  rw [List.nodup_append]
  exact ⟨fun h => ⟨h.1, fun hm => h.2.2 x hm x (by simp) rfl⟩,
    fun h => ⟨h.1, by simp, fun a ha b hb e => h.2 (by rw [List.mem_singleton.1 hb] at e; exact e ▸ ha)⟩⟩

theorem not_mem_of_nodup_middle {β : Type} {A B : List β} {x : β} (h : (A ++ x :: B).Nodup) : x ∉ A :=
  fun hm => (List.nodup_append.1 h).2.2 x hm x (by simp) rfl

theorem nil_or_snoc {β : Type} (l : List β) : l = [] ∨ ∃ L b, l = L ++ [b] := by
  simpa only [List.concat_eq_append] using List.eq_nil_or_concat l

theorem takeWhile_split {β : Type} (p : β → Bool) : ∀ (l : List β),
    ∃ P Q, l = P ++ Q ∧ l.takeWhile p = P ∧ (∀ x ∈ P, p x = true) ∧ ∀ q ∈ Q.head?, p q = false
  | [] => ⟨[], [], rfl, rfl, by simp, by simp⟩
  | a :: l => by
    by_cases ha : p a = true
    · obtain ⟨P, Q, h1, h2, h3, h4⟩ := takeWhile_split p l
      refine ⟨a :: P, Q, by simp [h1], by simp [ha, h2], ?_, h4⟩
      intro x hx; rcases List.mem_cons.1 hx with h | h
      · exact h ▸ ha
      · exact h3 x h
    · refine ⟨[], a :: l, rfl, by simp [ha], by simp, ?_⟩
      intro q h; cases h; simpa using ha

theorem takeWhile_pos {β : Type} (p : β → Bool) (R : List β) (k : Nat) (h : k < (R.takeWhile p).length) :
    ∃ x, R[k]? = some x ∧ p x = true := by
  obtain ⟨P, Q, hR, hP, hall, _⟩ := takeWhile_split p R
  rw [hP] at h
  exact ⟨P[k], by rw [hR, List.getElem?_append_left h, List.getElem?_eq_getElem h], hall _ (List.getElem_mem h)⟩

theorem takeWhile_stop {β : Type} (p : β → Bool) (R : List β) (h : (R.takeWhile p).length < R.length) :
    ∃ x, R[(R.takeWhile p).length]? = some x ∧ p x = false := by
  obtain ⟨P, Q, hR, hP, _, hQ⟩ := takeWhile_split p R
  rw [hP] at h ⊢
  cases Q with
  | nil => rw [hR] at h; simp at h
  | cons q Q' => exact ⟨q, by rw [hR]; simp, hQ q rfl⟩

theorem insertIdx_append_length {β : Type} (P Q : List β) (c : β) :
    (P ++ Q).insertIdx P.length c = P ++ c :: Q := by
  induction P with
  | nil => simp
  | cons a P ih => simp [List.insertIdx_succ_cons, ih]

/-- split a list at the end of its longest `p`-suffix -/
theorem rev_split {β : Type} (p : β → Bool) (l : List β) :
    ∃ A T, l = A ++ T ∧ (l.reverse.takeWhile p).length = T.length ∧
      (l.reverse.dropWhile p).reverse = A ∧ (∀ x ∈ T, p x = true) ∧ ∀ a ∈ A.getLast?, p a = false := by
  obtain ⟨P, Q, h1, h2, h3, h4⟩ := takeWhile_split p l.reverse
  have hdw : l.reverse.dropWhile p = Q := by
    have := @List.takeWhile_append_dropWhile _ p l.reverse
    rw [h2] at this
    conv at this => rhs; rw [h1]
    exact List.append_cancel_left this
  refine ⟨Q.reverse, P.reverse, ?_, by simp [h2], by rw [hdw], ?_, ?_⟩
  · have := congrArg List.reverse h1
    simpa using this
  · intro x hx; exact h3 x (by simpa using hx)
  · intro a ha
    exact h4 a (by rwa [List.getLast?_reverse] at ha)

theorem lookup_assignIdx : ∀ (l : List α) (m : IMap α) (k : Nat) (x : α), l.Nodup →
    IMap.lookup (assignIdx m l k) x = if x ∈ l then some (k + l.idxOf x) else IMap.lookup m x
  | [], m, k, x, _ => by simp [assignIdx]
  | y :: ys, m, k, x, hn => by
    rw [List.nodup_cons] at hn
    simp only [assignIdx]
    rw [lookup_assignIdx ys (IMap.set m y k) (k + 1) x hn.2, IMap.lookup_set]
    by_cases hxy : y = x
    · subst hxy; simp [hn.1]
    · have hxy' : ¬ x = y := fun e => hxy e.symm
      by_cases hx : x ∈ ys
      · have hb : (y == x) = false := by simp [hxy]
        simp [hx, List.idxOf_cons, hb]; omega
      · simp [hx, hxy, hxy']

theorem keys_assignIdx : ∀ (l : List α) (m : IMap α) (k : Nat), (∀ x ∈ l, x ∈ IMap.keys m) →
    IMap.keys (assignIdx m l k) = IMap.keys m
  | [], m, k, _ => by simp [assignIdx]
  | y :: ys, m, k, h => by
    simp only [assignIdx]
    have hy := h y (by simp)
    rw [keys_assignIdx ys _ (k + 1) (by
      intro x hx; rw [IMap.keys_set_mem _ _ _ hy]; exact h x (by simp [hx])),
      IMap.keys_set_mem _ _ _ hy]

end C11
