import BoltonsVerif.C11.Ops
/-
C11 — what an operation may do to the three structures.  setutils.py changes them in three ways only: `add` appends,
every removal (`remove`, `discard`, `pop`, the in-place set operations through `discard`) ends in `_cull()`, and `sort`,
`reverse`, `clear` install a list without tombstones.  `Moves` says so once; a property of states kept by these three is
kept by every operation, with any argument (`Moves.keeps` on `step_moves`).
-/
namespace C11
variable {α : Type} [DecidableEq α]

/-- `Moves cfg s t`: `t` is reached by `add`s from `s`, or from the result of some `_cull()`, or from some valid state
    without intervals.  `cull` and `fresh` say neither which state is reached nor anything about `s`: what `Moves.keeps`
    carries over is a property that `_cull` establishes on every `InvC` state and every valid state without intervals has. -/
inductive Moves (cfg : Cfg) : ISet α → ISet α → Prop
  | refl (s : ISet α) : Moves cfg s s
  | add (s : ISet α) (x : α) : Moves cfg s (s.add x)
  | cull (s t : ISet α) : InvC t → Moves cfg s (cull cfg t)
  | fresh (s t : ISet α) : Inv t → t.dead = [] → Moves cfg s t
  | trans {s t u : ISet α} : Moves cfg s t → Moves cfg t u → Moves cfg s u

theorem Moves.keeps {cfg : Cfg} (P : ISet α → Prop) (hadd : ∀ s x, P s → P (s.add x))
    (hcull : ∀ t, InvC t → P (C11.cull cfg t)) (hfresh : ∀ t, Inv t → t.dead = [] → P t) {s t : ISet α}
    (hm : Moves cfg s t) : P s → P t := by
  induction hm with
  | refl s => exact id
  | add s x => exact hadd s x
  | cull s t ht => exact fun _ => hcull t ht
  | fresh s t ht hd => exact fun _ => hfresh t ht hd
  | trans _ _ ih1 ih2 => exact fun h => ih2 (ih1 h)

theorem Moves.inv {cfg : Cfg} {s t : ISet α} (hm : Moves cfg s t) : Inv s → Inv t :=
  hm.keeps Inv (fun s x h => inv_add s h x) (fun t ht => (cull_spec cfg t ht).1) (fun _ h _ => h)

theorem foldl_moves {cfg : Cfg} {β : Type} (f : ISet α → β → ISet α) (hf : ∀ s, Inv s → ∀ x, Moves cfg s (f s x)) :
    ∀ (xs : List β) (s : ISet α), Inv s → Moves cfg s (xs.foldl f s)
  | [], s, _ => .refl s
  | x :: xs, s, h => .trans (hf s h x) (foldl_moves f hf xs _ ((hf s h x).inv h))

theorem remove_moves (cfg : Cfg) (s : ISet α) (h : Inv s) (x : α) (r : ISet α) (hr : s.remove cfg x = .ok r) :
    Moves cfg s r := by
  obtain ⟨i, hl, rfl⟩ := remove_ok hr
  exact .cull _ _ (invC_kill s h.toInvC i x (h.look x i hl))

theorem popLast_moves (cfg : Cfg) (s : ISet α) (h : Inv s) (r : ISet α × α) (hr : s.popLast cfg = .ok r) :
    Moves cfg s r.1 := by
  obtain ⟨hl, he⟩ := popLast_ok hr
  exact he ▸ .cull _ _ (invC_dropLast s h.toInvC _ hl)

theorem popAt_moves (cfg : Cfg) (s : ISet α) (h : Inv s) (i : Int) (r : ISet α × α) (hr : s.popAt cfg i = .ok r) :
    Moves cfg s r.1 := by
  rcases popAt_ok hr with ⟨_, hr⟩ | ⟨_, k, _, hx, he⟩
  · exact popLast_moves cfg s h r hr
  · exact he ▸ .cull _ _ (invC_kill s h.toInvC _ _ hx)

theorem discard_moves (cfg : Cfg) (s : ISet α) (h : Inv s) (x : α) : Moves cfg s (s.discard cfg x) := by
  unfold ISet.discard
  cases hr : s.remove cfg x with
  | error e => exact .refl s
  | ok r => exact remove_moves cfg s h x r hr

theorem toggle_moves (cfg : Cfg) (s : ISet α) (h : Inv s) (x : α) : Moves cfg s (s.toggle cfg x) := by
  unfold ISet.toggle
  split
  · exact discard_moves cfg s h x
  · exact .add s x

theorem sort_moves (cfg : Cfg) (le : α → α → Bool) (rev : Bool) (s : ISet α) (h : Inv s) :
    Moves cfg s (s.sort le rev) := by
  unfold ISet.sort
  simp only
  split
  · exact .refl s
  · exact .fresh _ _ (inv_rebuild s h.toInvC _ (sortedList_perm le rev _)) rfl

theorem step_moves (cfg : Cfg) (le : α → α → Bool) (s : ISet α) (h : Inv s) (op : Op α) :
    Moves cfg s (step cfg le s op).1 := by
  cases op with
  | add x => exact .add s x
  | remove x =>
    simp only [step]
    cases hr : s.remove cfg x with
    | error e => exact .refl s
    | ok r => exact remove_moves cfg s h x r hr
  | discard x => exact discard_moves cfg s h x
  | pop =>
    simp only [step]
    cases hr : s.popLast cfg with
    | error e => exact .refl s
    | ok r => exact popLast_moves cfg s h r hr
  | popAt i =>
    simp only [step]
    cases hr : s.popAt cfg i with
    | error e => exact .refl s
    | ok r => exact popAt_moves cfg s h i r hr
  | clear => exact .fresh _ _ inv_empty rfl
  | sort rev => exact sort_moves cfg le rev s h
  | sortBy lek rev bad =>
    simp only [step, ISet.sortBy]
    by_cases hb : s.sortRaises bad = true
    · rw [if_pos hb]; exact .refl s
    · rw [if_neg hb]; exact sort_moves cfg lek rev s h
  | reverse => exact .fresh _ _ (reverse_spec s h).1 rfl
  | update os =>
    simp only [step, ISet.update]
    split
    · exact .refl s
    · exact foldl_moves _ (fun s _ x => .add s x) _ s h
  | interUpdate os => exact foldl_moves _ (discard_moves cfg) _ s h
  | diffUpdate os =>
    simp only [step, ISet.diffUpdate]
    split
    · exact .trans (.fresh _ _ inv_empty rfl) (foldl_moves _ (discard_moves cfg) _ _ inv_empty)
    · exact foldl_moves _ (discard_moves cfg) _ s h
  | symUpdate o =>
    simp only [step, ISet.symUpdate]
    split
    · exact .fresh _ _ inv_empty rfl
    · exact foldl_moves _ (toggle_moves cfg) _ s h
  | _ => exact .refl s

theorem step_inv (cfg : Cfg) (le : α → α → Bool) (s : ISet α) (h : Inv s) (op : Op α) :
    Inv (step cfg le s op).1 := (step_moves cfg le s h op).inv h

theorem resultSet_moves (cfg : Cfg) (o : Out α) : Moves cfg ISet.empty (resultSet o) := by
  cases o with
  | list l => exact foldl_moves _ (fun s _ x => .add s x) l _ inv_empty
  | _ => exact .refl _

end C11
