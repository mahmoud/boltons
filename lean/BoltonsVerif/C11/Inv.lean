import BoltonsVerif.C11.Slots
/-
C11 — the representation invariant (`InvC` between `_add_dead` and `_cull`, `Inv` for the public states) and the elementary
changes of the three structures that keep it: appending an item, tombstoning a slot, dropping the last slot, re-listing
the live items, `_compact`, `_cull`; index translation read on a state that satisfies it.
-/
namespace C11
variable {α : Type} [DecidableEq α]

/-- what holds between the three structures at every point (also between `_add_dead` and `_cull`) -/
structure InvC (s : ISet α) : Prop where
  nodup : (live s.items).Nodup
  perm : (IMap.keys s.idx).Perm (live s.items)
  /-- dict → slot only; slot → dict (`lookup_of_slot`) follows from `perm` and `nodup` -/
  look : ∀ x i, IMap.lookup s.idx x = some i → s.items[i]? = some (some x)
  chain : Chain 0 s.dead s.items.length
  tombs : Tombs s.items s.dead 0

/-- the invariant of the public states: additionally the last slot is never a tombstone -/
structure Inv (s : ISet α) : Prop extends InvC s where
  lastLive : s.items.getLast? ≠ some none

namespace InvC
variable {s : ISet α}

theorem keys_nodup (h : InvC s) : (IMap.keys s.idx).Nodup := (h.perm.nodup_iff).2 h.nodup

theorem toList_nodup (h : InvC s) : s.toList.Nodup := h.nodup

theorem len_eq (h : InvC s) : s.len = s.toList.length := by
  unfold ISet.len ISet.toList
  rw [← IMap.length_keys, h.perm.length_eq]

theorem contains_iff (h : InvC s) (x : α) : s.contains x = true ↔ x ∈ s.toList := by
  unfold ISet.contains ISet.toList
  rw [IMap.lookup_isSome_iff, h.perm.mem_iff]

theorem contains_eq (h : InvC s) (x : α) : s.contains x = decide (x ∈ s.toList) := by
  rw [Bool.eq_iff_iff, decide_eq_true_iff]; exact h.contains_iff x

theorem lookup_none (h : InvC s) (x : α) (hx : x ∉ s.toList) : IMap.lookup s.idx x = none :=
  (IMap.lookup_eq_none_iff _ _).2 fun hk => hx ((h.perm.mem_iff).1 hk)

theorem lookup_some (h : InvC s) (x : α) (hx : x ∈ s.toList) :
    ∃ i, IMap.lookup s.idx x = some i ∧ s.items[i]? = some (some x) := by
  cases hl : IMap.lookup s.idx x with
  | none => exact absurd ((h.perm.mem_iff).2 hx) ((IMap.lookup_eq_none_iff _ _).1 hl)
  | some i => exact ⟨i, rfl, h.look x i hl⟩

theorem lookup_of_slot (h : InvC s) (x : α) (i : Nat) (hi : s.items[i]? = some (some x)) :
    IMap.lookup s.idx x = some i := by
  have hx : x ∈ live s.items := by
    rw [mem_live]; exact List.mem_of_getElem? hi
  have hk : x ∈ IMap.keys s.idx := (h.perm.mem_iff).2 hx
  rw [← IMap.lookup_isSome_iff] at hk
  cases hl : IMap.lookup s.idx x with
  | none => rw [hl] at hk; cases hk
  | some j =>
    have := h.look x j hl
    rw [live_slot_inj s.items h.nodup i j x hi this]

theorem not_dead_of_slot (h : InvC s) (x : α) (i : Nat) (hi : s.items[i]? = some (some x)) :
    ¬ DeadAt s.dead i := by
  intro hd
  have := (h.tombs i (Nat.zero_le _) (getElem?_lt hi)).2 hd
  rw [hi] at this; cases this

theorem idx_le (h : InvC s) : s.idx.length ≤ s.items.length := by
  rw [show s.idx.length = (live s.items).length from h.len_eq]
  exact List.length_filterMap_le _ _

end InvC

theorem InvC.trailing {s : ISet α} (h : InvC s) (hne : s.idx ≠ []) : trailingDead s.items < s.items.length := by
  cases hi : s.idx with
  | nil => exact absurd hi hne
  | cons p m =>
    have hk : p.1 ∈ IMap.keys s.idx := by rw [hi]; simp [IMap.keys]
    exact trailingDead_lt s.items p.1 (h.perm.mem_iff.1 hk)

theorem inv_empty : Inv (ISet.empty : ISet α) where
  nodup := by simp [ISet.empty]
  perm := by simp [ISet.empty]
  look := by intro x i h; simp [ISet.empty, IMap.lookup] at h
  chain := by simp [ISet.empty, Chain]
  tombs := by intro j _ h; simp [ISet.empty] at h
  lastLive := by simp [ISet.empty]

theorem toList_add (s : ISet α) (h : InvC s) (x : α) :
    (s.add x).toList = if x ∈ s.toList then s.toList else s.toList ++ [x] := by
  unfold ISet.add
  by_cases hc : s.contains x = true
  · simp [hc, (h.contains_iff x).1 hc]
  · have : x ∉ s.toList := fun hm => hc ((h.contains_iff x).2 hm)
    unfold ISet.toList at this ⊢
    simp [hc, this, live_append]

theorem inv_add (s : ISet α) (h : Inv s) (x : α) : Inv (s.add x) := by
  unfold ISet.add
  by_cases hc : s.contains x = true
  · simp [hc]; exact h
  · have hx : x ∉ live s.items := fun hm => hc ((h.toInvC.contains_iff x).2 hm)
    have hk : x ∉ IMap.keys s.idx := fun hm => hx ((h.perm.mem_iff).1 hm)
    simp only [hc, Bool.false_eq_true, if_false]
    refine { nodup := ?_, perm := ?_, look := ?_, chain := ?_, tombs := ?_, lastLive := ?_ }
    · simp only [live_append, live_cons_some, live_nil]
      exact nodup_snoc.2 ⟨h.nodup, hx⟩
    · simp only [live_append, live_cons_some, live_nil]
      rw [IMap.keys_set_not_mem _ _ _ hk]
      exact h.perm.append_right _
    · intro y i hl
      rw [IMap.lookup_set] at hl
      by_cases hxy : x = y
      · subst hxy; simp at hl; subst hl; simp
      · simp [hxy] at hl
        have := h.look y i hl
        rw [List.getElem?_append_left (getElem?_lt this)]; exact this
    · simp only [List.length_append, List.length_singleton]
      exact chain_weaken_hi _ _ _ _ (Nat.le_succ _) h.chain
    · intro j _ hj
      simp only [List.length_append, List.length_singleton] at hj
      by_cases hjl : j < s.items.length
      · rw [List.getElem?_append_left hjl]; exact h.tombs j (Nat.zero_le _) hjl
      · have hje : j = s.items.length := by omega
        subst hje
        simp
        intro hd
        have := chain_deadAt _ _ _ _ h.chain hd
        omega
    · simp [List.getLast?_append]

/-- tombstoning the live slot `r` (the body of `remove`/`pop(i)` up to `_cull`) -/
theorem invC_kill (s : ISet α) (h : InvC s) (r : Nat) (x : α) (hr : s.items[r]? = some (some x)) :
    InvC ⟨s.items.set r none, IMap.erase s.idx x, addDead s.dead r⟩ := by
  have hlive := live_set_none s.items r x hr h.nodup
  have hrl := getElem?_lt hr
  have had := addDead_spec s.dead r s.items.length h.chain hrl (h.not_dead_of_slot x r hr)
  refine { nodup := ?_, perm := ?_, look := ?_, chain := ?_, tombs := ?_ }
  · show (live (s.items.set r none)).Nodup
    rw [hlive]; exact h.nodup.erase x
  · show (IMap.keys (IMap.erase s.idx x)).Perm (live (s.items.set r none))
    rw [hlive, IMap.keys_erase]; exact h.perm.erase x
  · intro y j hl
    show (s.items.set r none)[j]? = some (some y)
    obtain ⟨hyx, hl⟩ := IMap.lookup_erase_some h.keys_nodup hl
    have hj := h.look y j hl
    have hjr : r ≠ j := by
      intro e; subst e; rw [hr] at hj; simp at hj; exact hyx hj
    rw [List.getElem?_set]; simp [hjr]; exact hj
  · show Chain 0 (addDead s.dead r) (s.items.set r none).length
    rw [List.length_set]; exact had.1
  · intro j _ hj
    show (s.items.set r none)[j]? = some none ↔ DeadAt (addDead s.dead r) j
    rw [List.length_set] at hj
    rw [had.2 j, List.getElem?_set]
    by_cases hjr : r = j
    · subst hjr; simp [hrl]
    · simp only [hjr, if_false]
      rw [h.tombs j (Nat.zero_le _) hj]
      constructor
      · exact Or.inl
      · rintro (h' | h')
        · exact h'
        · exact absurd h'.symm hjr

theorem inv_rebuild (s : ISet α) (h : InvC s) (l : List α) (hp : l.Perm (live s.items)) :
    Inv ⟨l.map some, assignIdx s.idx l 0, []⟩ := by
  have hln : l.Nodup := (hp.nodup_iff).2 h.nodup
  have hkeys : IMap.keys (assignIdx s.idx l 0) = IMap.keys s.idx :=
    keys_assignIdx l s.idx 0 (fun x hx => (h.perm.mem_iff).2 ((hp.mem_iff).1 hx))
  refine { nodup := ?_, perm := ?_, look := ?_, chain := ?_, tombs := ?_, lastLive := ?_ }
  · show (live (l.map some)).Nodup
    rw [live_map_some]; exact hln
  · show (IMap.keys (assignIdx s.idx l 0)).Perm (live (l.map some))
    rw [live_map_some, hkeys]; exact h.perm.trans hp.symm
  · intro x i hl
    show (l.map some)[i]? = some (some x)
    rw [lookup_assignIdx l s.idx 0 x hln] at hl
    by_cases hx : x ∈ l
    · simp [hx] at hl
      subst hl
      have hlt := List.idxOf_lt_length_of_mem hx
      rw [List.getElem?_map, List.getElem?_eq_getElem hlt, List.getElem_idxOf hlt]; rfl
    · simp [hx] at hl
      have : x ∈ IMap.keys s.idx := by
        rw [← IMap.lookup_isSome_iff, hl]; rfl
      exact absurd ((hp.mem_iff).2 ((h.perm.mem_iff).1 this)) hx
  · show Chain 0 [] _
    simp [Chain]
  · intro j _ hj
    show (l.map some)[j]? = some none ↔ DeadAt [] j
    simp [List.getElem?_map]
  · show (l.map some).getLast? ≠ some none
    rw [List.getLast?_map]; cases l.getLast? <;> simp

theorem inv_of_no_dead (s : ISet α) (h : InvC s) (hd : s.dead = []) : Inv s := by
  refine ⟨h, fun hl => ?_⟩
  rw [List.getLast?_eq_getElem?] at hl
  have ht := h.tombs
  rw [hd] at ht
  exact tombs_nil ht _ (Nat.zero_le _) (getElem?_lt hl) hl

theorem compact_spec (s : ISet α) (h : InvC s) : Inv (compact s) ∧ (compact s).toList = s.toList := by
  unfold compact
  cases hd : s.dead with
  | nil =>
    simp only [List.isEmpty_nil, if_true]
    exact ⟨inv_of_no_dead s h hd, trivial⟩
  | cons p ds =>
    obtain ⟨a, b⟩ := p
    simp only [List.isEmpty_cons, Bool.false_eq_true, if_false]
    -- the table is not empty, so there is a tombstone: `dc ≠ 0`, and `del items[-dc:]` cuts exactly the stale tail
    have hc := h.chain
    rw [hd] at hc
    have hb := chain_le ds b _ hc.tail
    have hdead : s.items[a]? = some none :=
      (h.tombs a (Nat.zero_le _) (by have := hc.start_lt_stop; omega)).2
        (by rw [hd, deadAt_cons]; left; exact ⟨Nat.le_refl _, hc.start_lt_stop⟩)
    have hlt := live_length_lt s.items a hdead
    have hlen : s.idx.length = (live s.items).length := h.len_eq
    have hdc : s.items.length - s.idx.length ≠ 0 := by omega
    have hitems : (List.map some (live s.items) ++ List.drop (live s.items).length s.items).take
        ((List.map some (live s.items) ++ List.drop (live s.items).length s.items).length -
          (s.items.length - s.idx.length)) = List.map some (live s.items) := by
      apply List.take_left'
      simp; omega
    simp only [hdc, if_false, hitems]
    have := inv_rebuild s h (live s.items) (List.Perm.refl _)
    exact ⟨this, by simp [ISet.toList, live_map_some]⟩

/-- cutting slots off the end: the dict entries that stay point into the part kept, the intervals kept lie inside it and
    those dropped behind it -/
theorem invC_prefix (s : ISet α) (h : InvC s) (A T : List (Option α)) (hAT : s.items = A ++ T) (idx' : IMap α)
    (D R : List (Nat × Nat)) (hd : s.dead = D ++ R) (hperm : (IMap.keys idx').Perm (live A))
    (hlook : ∀ x i, IMap.lookup idx' x = some i → s.items[i]? = some (some x) ∧ i < A.length)
    (hD : ∀ p ∈ D, p.2 ≤ A.length) (hR : ∀ p ∈ R, A.length ≤ p.1) : InvC ⟨A, idx', D⟩ := by
  have hget : ∀ j, j < A.length → A[j]? = s.items[j]? := fun j hj => by
    rw [hAT, List.getElem?_append_left hj]
  have hc := h.chain
  rw [hd, chain_append] at hc
  obtain ⟨m, hcD, _⟩ := hc
  refine { nodup := ?_, perm := hperm, look := fun x i hl => ?_, chain := ?_, tombs := fun j _ hj => ?_ }
  · have := h.nodup
    rw [hAT, live_append] at this
    exact (List.nodup_append.1 this).1
  · obtain ⟨h1, h2⟩ := hlook x i hl
    exact (hget i h2).trans h1
  · exact chain_tighten_hi D 0 m A.length hcD (Nat.zero_le _) hD
  · have hj : j < A.length := hj
    have hlen : A.length ≤ s.items.length := by rw [hAT, List.length_append]; omega
    show A[j]? = some none ↔ DeadAt D j
    rw [hget j hj, h.tombs j (Nat.zero_le _) (by omega), hd, deadAt_append]
    exact ⟨fun h' => h'.resolve_right fun ⟨p, hp, hp1, _⟩ => by have := hR p hp; omega, Or.inl⟩

theorem inv_cutTail (s : ISet α) (h : InvC s) :
    Inv ⟨s.items.take (s.items.length - trailingDead s.items), s.idx,
      popDeadFrom s.dead (s.items.take (s.items.length - trailingDead s.items)).length⟩ ∧
    live (s.items.take (s.items.length - trailingDead s.items)) = live s.items := by
  obtain ⟨A, T, hAT, hTlen, _, hT, hA⟩ := rev_split isTomb s.items
  have hTnone : ∀ o ∈ T, o = none := by
    intro o ho; have := hT o ho; cases o <;> simp [isTomb] at this ⊢
  have hlen : s.items.length = A.length + T.length := by rw [hAT, List.length_append]
  have htake : s.items.take (s.items.length - trailingDead s.items) = A := by
    rw [trailingDead, hTlen, hlen, Nat.add_sub_cancel, hAT]
    exact List.take_left
  rw [htake]
  have hliveT : live T = [] := List.filterMap_eq_nil_iff.2 fun o ho => by rw [hTnone o ho]; rfl
  have hliveA : live A = live s.items := by rw [hAT, live_append, hliveT, List.append_nil]
  obtain ⟨D, R, hDR, _, hpop, hR, hD⟩ := rev_split (startsAtOrAfter A.length) s.dead
  rw [show popDeadFrom s.dead A.length = D from hpop]
  have hTget : ∀ j, A.length ≤ j → j < s.items.length → s.items[j]? = some none := by
    intro j h1 h2
    have hlt : j - A.length < T.length := by omega
    rw [hAT, List.getElem?_append_right h1, List.getElem?_eq_getElem hlt, hTnone _ (List.getElem_mem hlt)]
  have hlastA : A.getLast? ≠ some none := fun hl => by simpa [isTomb] using hA none hl
  refine ⟨⟨invC_prefix s h A T hAT s.idx D R hDR (hliveA ▸ h.perm) (fun x i hl => ⟨h.look x i hl, ?_⟩)
    (fun p hp => ?_) (fun p hp => by simpa [startsAtOrAfter] using hR p hp), hlastA⟩, hliveA⟩
  · have hi := h.look x i hl
    rcases Nat.lt_or_ge i A.length with h' | h'
    · exact h'
    · have := hTget i h' (getElem?_lt hi)
      rw [hi] at this; simp at this
  · have hpm : p ∈ s.dead := by rw [hDR]; exact List.mem_append_left _ hp
    have hcp := chain_mem s.dead 0 s.items.length p h.chain hpm
    -- `D` ends with an interval that starts inside `A`, and the starts increase
    have hstart : p.1 < A.length := by
      rcases nil_or_snoc D with hn | ⟨D', z, hc⟩
      · subst hn; simp at hp
      · have hz : z.1 < A.length := by simpa [startsAtOrAfter] using hD z (by rw [hc]; simp)
        subst hc
        rcases List.mem_append.1 hp with hp' | hp'
        · have hch := h.chain
          rw [hDR, List.append_assoc] at hch
          have := (chain_around D' R z 0 _ hch).1 p hp'
          omega
        · rw [List.mem_singleton.1 hp']; exact hz
    -- reaching beyond `A` it would cover `A`'s last slot, which is live
    refine Nat.le_of_not_lt fun hgt => hlastA ?_
    have hdead := (h.tombs (A.length - 1) (Nat.zero_le _) (by omega)).2 ⟨p, hpm, by omega, by omega⟩
    rwa [hAT, List.getElem?_append_left (by omega), ← List.getLast?_eq_getElem?] at hdead

/-- the ways out of `_cull`, in the order of its tests: no interval; no item; a threshold exceeded (`_compact`); within both
    thresholds (the last alternative keeps the two failed tests) the last slot is live, or the trailing tombstones are cut -/
theorem cull_cases (cfg : Cfg) (s : ISet α) :
    (s.dead = [] ∧ cull cfg s = s) ∨ (s.idx = [] ∧ cull cfg s = ⟨[], s.idx, []⟩) ∨ (s.dead ≠ [] ∧ cull cfg s = compact s) ∨
    (s.dead.length ≤ cfg.limit ∧ (s.items.length - s.idx.length) * cfg.factor ≤ s.items.length ∧
      ((s.items.getLast? ≠ some none ∧ cull cfg s = s) ∨
       (s.items.getLast? = some none ∧ cull cfg s = ⟨s.items.take (s.items.length - trailingDead s.items), s.idx,
          popDeadFrom s.dead (s.items.take (s.items.length - trailingDead s.items)).length⟩))) := by
  unfold cull
  by_cases h1 : s.dead.isEmpty = true
  · rw [if_pos h1]; exact Or.inl ⟨by simpa using h1, rfl⟩
  have hne : s.dead ≠ [] := by simpa using h1
  rw [if_neg h1]
  by_cases h2 : s.idx.isEmpty = true
  · rw [if_pos h2]; exact Or.inr (Or.inl ⟨by simpa using h2, rfl⟩)
  rw [if_neg h2]
  by_cases h3 : s.dead.length > cfg.limit
  · rw [if_pos h3]; exact Or.inr (Or.inr (Or.inl ⟨hne, rfl⟩))
  rw [if_neg h3]
  by_cases h4 : (s.items.length - s.idx.length) * cfg.factor > s.items.length
  · rw [if_pos h4]; exact Or.inr (Or.inr (Or.inl ⟨hne, rfl⟩))
  rw [if_neg h4]
  refine Or.inr (Or.inr (Or.inr ⟨Nat.le_of_not_lt h3, Nat.le_of_not_lt h4, ?_⟩))
  by_cases h5 : s.items.getLast? = some none
  · rw [if_pos h5]; exact Or.inr ⟨h5, rfl⟩
  · rw [if_neg h5]; exact Or.inl ⟨h5, rfl⟩

theorem cull_spec (cfg : Cfg) (s : ISet α) (h : InvC s) :
    Inv (cull cfg s) ∧ (cull cfg s).toList = s.toList := by
  rcases cull_cases cfg s with ⟨hd, he⟩ | ⟨hi, he⟩ | ⟨_, he⟩ | ⟨_, _, ⟨hl, he⟩ | ⟨_, he⟩⟩ <;> rw [he]
  · exact ⟨inv_of_no_dead s h hd, rfl⟩
  · -- an empty dict: no live slot, everything goes
    have hlive : live s.items = [] := by
      have := h.perm
      rw [hi] at this
      simpa using this.symm.eq_nil
    rw [hi]; exact ⟨inv_empty, hlive.symm⟩
  · exact compact_spec s h
  · exact ⟨⟨h, hl⟩, rfl⟩
  · exact inv_cutTail s h

/-- the state of `pop()` between `item_list.pop()` / `del item_index_map[ret]` and `_cull()` -/
theorem invC_dropLast (s : ISet α) (h : InvC s) (x : α) (hl : s.items.getLast? = some (some x)) :
    InvC (⟨s.items.dropLast, IMap.erase s.idx x, s.dead⟩ : ISet α) := by
  rcases nil_or_snoc s.items with hn | ⟨A, a, hA⟩
  · rw [hn] at hl; simp at hl
  have ha : a = some x := by rw [hA] at hl; simpa using hl
  subst ha
  have hdl : s.items.dropLast = A := by rw [hA]; simp
  have hlive : live s.items = live A ++ [x] := by rw [hA, live_append]; rfl
  have hxnot : x ∉ live A := (nodup_snoc.1 (hlive ▸ h.nodup)).2
  have hslot : s.items[A.length]? = some (some x) := by rw [hA]; simp
  have hlen : s.items.length = A.length + 1 := by rw [hA]; simp
  rw [hdl]
  refine invC_prefix s h A _ hA _ s.dead [] (List.append_nil _).symm ?_ (fun y j hly => ?_) (fun p hp => ?_)
    (fun p hp => by simp at hp)
  · rw [IMap.keys_erase]
    have := h.perm.erase x
    rw [hlive, List.erase_append_right _ hxnot] at this
    simpa using this
  · obtain ⟨hyx, hly⟩ := IMap.lookup_erase_some h.keys_nodup hly
    have hj := h.look y j hly
    refine ⟨hj, ?_⟩
    have hjl := getElem?_lt hj
    rcases Nat.lt_or_ge j A.length with h' | h'
    · exact h'
    · have : j = A.length := by omega
      rw [this, hslot] at hj; simp at hj; exact absurd hj hyx
  · -- an interval reaching further would cover the live last slot
    rcases Nat.lt_or_ge A.length p.2 with hgt | hle
    · have hcp := chain_mem s.dead 0 _ p h.chain hp
      exact absurd ⟨p, hp, by omega, hgt⟩ (h.not_dead_of_slot x _ hslot)
    · exact hle

theorem slot_of_index (s : ISet α) (h : InvC s) (k : Nat) (hk : k < s.toList.length) :
    s.items[realLoop k s.dead]? = some (some s.toList[k]) := by
  obtain ⟨hr, hlive, hlc⟩ := (realLoop_live s.items s.dead k h.chain h.tombs).1 hk
  rw [List.getElem?_eq_getElem hr] at hlive ⊢
  cases ho : s.items[realLoop k s.dead] with
  | none => rw [ho] at hlive; exact absurd rfl hlive
  | some x =>
    have h2 : s.toList[k]? = some x := by
      rw [← hlc]; exact live_getElem?_liveBelow s.items _ x (by rw [List.getElem?_eq_getElem hr, ho])
    rw [List.getElem?_eq_getElem hk, Option.some.injEq] at h2
    rw [h2]

theorem index_of_slot (s : ISet α) (h : InvC s) (r : Nat) (x : α) (hr : s.items[r]? = some (some x)) :
    appLoop r r s.dead = s.toList.idxOf x := by
  have hlive : s.items[r]? ≠ some none := by rw [hr]; simp
  rw [appLoop_spec s.items s.dead 0 r r h.chain h.tombs (Nat.zero_le _) (getElem?_lt hr) hlive
    (by rw [liveBelow_zero]; omega)]
  have hget := live_getElem?_liveBelow s.items r x hr
  have hlt := getElem?_lt hget
  rw [List.getElem?_eq_getElem hlt, Option.some.injEq] at hget
  rw [← hget]; exact (h.nodup.idxOf_getElem _ hlt).symm

end C11
