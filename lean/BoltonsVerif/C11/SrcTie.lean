/-
C11 — SOURCE TIE.  (1) `Src.setutils.get_real_index` / `get_apparent_index` are generated by `harness/py2lean.py` from the
current text of `IndexedSet._get_real_index` / `_get_apparent_index` (`boltons/setutils.py`) on every run; the theorems state
that they ARE the hand model's `realLoop` / `appLoop` (after the model's index normalisation `ISet.normIndex`), so that
`real_index_is_list_index` / `apparent_index_is_list_position` of `Props.lean` speak about what the source says now.
(2) Heap mode (`harness/py2lean_c11.py`, the larger part): thirteen methods on an object state whose intervals are cells of a
store, one theorem per method (`Rep`, `SrcTieHeap.lean`); these speak of `cull ⟨8, 384⟩`, the literals of the source
(`Generated/C11_Consts.lean`), not of an arbitrary `Cfg`.
The base ties are meant to survive refactorings of the two functions (statement order, names and number of the locals, which
variable carries the running value, a shift added at the end, a reversed comparison, `if … else: break`, early `return`s,
guards in front of the loop): `src_real_loop` / `src_app_loop` speak about ANY function `loop` on interval lists and ANY
"result so far" observable `K` of its state that satisfy the one-step equations (`hnil`, `hcons`) of the model loops; the
equations of the CURRENT generated loop are discharged by `tie_step` / `tie_step_app`, with `K` read off the generated body
by unification (`?K`).  Hence the wide simp sets and the lists of alternatives under `first`: for the present source the loop
leaf is closed by the second alternative in each base tie.  The hypotheses `get_*_index_pre … = true` (the translator's "no
guard call raises" flag) are not used by any proof.  Shapes tested: notes/selftest/C11.md.
-/
import BoltonsVerif.Generated.Src_setutils
import BoltonsVerif.PyRtLemmas
import BoltonsVerif.C11.Ops
import BoltonsVerif.C11.SrcTieHeap

namespace C11

open Src.setutils

-- the simp sets below are deliberately wider than any one source shape needs
set_option linter.unusedSimpArgs false

/-- a dead interval `[start, stop]` of the Python list as a pair of ints -/
def castIv (p : Nat × Nat) : Int × Int := ((p.1 : Int), (p.2 : Int))

/-- `index += len(self)` for a negative index, as the source does it -/
def pyNorm (index len : Int) : Int := if index < 0 then index + len else index

theorem chain_ordered (d : List (Nat × Nat)) (lo hi : Nat) (h : Chain lo d hi) : ∀ p ∈ d, p.1 ≤ p.2 :=
  fun p hp => Nat.le_of_lt (chain_mem d lo hi p h hp).2.1

theorem src_real_loop {St : Type} (loop : List (Int × Int) → St → Int) (K : St → Int)
    (hnil : ∀ s, loop [] s = K s)
    (hcons : ∀ (a b : Int) (xs : List (Int × Int)) (s : St), a ≤ b → 0 ≤ K s →
      (K s < a → loop ((a, b) :: xs) s = K s) ∧
      (¬ K s < a → ∃ s', K s' = K s + (b - a) ∧ loop ((a, b) :: xs) s = loop xs s')) :
    ∀ (d : List (Nat × Nat)) (r : Nat) (s : St), K s = (r : Int) → (∀ p ∈ d, p.1 ≤ p.2) →
      loop (d.map castIv) s = (realLoop r d : Int) := by
  intro d
  induction d with
  | nil => intro r s h _; simp [hnil, realLoop, h]
  | cons p ds ih =>
    intro r s h hd
    obtain ⟨a, b⟩ := p
    have hab : a ≤ b := hd (a, b) (by simp)
    have hc := hcons (a : Int) (b : Int) (ds.map castIv) s (by omega) (by omega)
    simp only [List.map_cons, castIv, realLoop]
    by_cases hlt : r < a
    · rw [if_pos hlt, hc.1 (by omega), h]
    · rw [if_neg hlt]
      obtain ⟨s', hk, he⟩ := hc.2 (by omega)
      rw [he]
      exact ih (r + (b - a)) s' (by omega) (fun p hp => hd p (List.mem_cons_of_mem _ hp))

theorem src_app_loop {St : Type} (loop : List (Int × Int) → St → Int) (K I : St → Int) (r : Nat)
    (hnil : ∀ s, loop [] s = K s)
    (hcons : ∀ (a b : Int) (xs : List (Int × Int)) (s : St), a ≤ b ∧ ¬ (a ≤ (r : Int) ∧ (r : Int) < b) →
      I s = (r : Int) →
      ((r : Int) < a → loop ((a, b) :: xs) s = K s) ∧
      (¬ (r : Int) < a → ∃ s', I s' = (r : Int) ∧ K s' = K s - (b - a) ∧
          loop ((a, b) :: xs) s = loop xs s')) :
    ∀ (d : List (Nat × Nat)) (lo hi app : Nat) (s : St), I s = (r : Int) → K s = (app : Int) →
      Chain lo d hi → (∀ p ∈ d, ¬ (p.1 ≤ r ∧ r < p.2)) → r ≤ app + lo → app ≤ r →
      loop (d.map castIv) s = (appLoop r app d : Int) := by
  intro d
  induction d with
  | nil => intro lo hi app s _ h2 _ _ _ _; simp [hnil, appLoop, h2]
  | cons p ds ih =>
    intro lo hi app s h1 h2 hc hl hlo hle
    obtain ⟨a, b⟩ := p
    obtain ⟨hloa, hab, hc'⟩ := hc
    have hnot : ¬ (a ≤ r ∧ r < b) := hl (a, b) (by simp)
    have hs := hcons (a : Int) (b : Int) (ds.map castIv) s
      ⟨Int.ofNat_le.2 (Nat.le_of_lt hab), fun h => hnot ⟨Int.ofNat_le.1 h.1, Int.ofNat_lt.1 h.2⟩⟩ h1
    simp only [List.map_cons, castIv, appLoop]
    by_cases hlt : r < a
    · rw [if_pos hlt, hs.1 (Int.ofNat_lt.2 hlt), h2]
    · rw [if_neg hlt]
      obtain ⟨hlo', hle', hcast⟩ := appLoop_round hloa hab hnot hlt hlo hle
      obtain ⟨s', hi', hk, he⟩ := hs.2 (fun h => hlt (Int.ofNat_lt.1 h))
      rw [he]
      exact ih b hi (app - (b - a)) s' hi' (by rw [hk, h2, hcast]) hc'
        (fun p hp => hl p (List.mem_cons_of_mem _ hp)) hlo' hle'

theorem src_pyindex_cons_zero {β : Type} [Inhabited β] (x : β) (l : List β) : PyRt.index (x :: l) 0 = x :=
  PyRt.index_zero x l

/-- linear arithmetic after reducing projections of structure literals -/
macro "tie_arith" : tactic => `(tactic| first
  | rfl
  | omega
  | (simp only [gt_iff_lt, ge_iff_le, not_lt, not_le] at *; first | done | omega)
  | (simp at *; first | done | omega))

/-- one unfolding of a generated loop, whatever its statement order: `hcons` of the generic lemmas -/
macro "tie_step" loop:ident : tactic => `(tactic| (
  intro a b xs s hab h0
  simp only [$loop:ident] at *
  refine ⟨fun hlt => ?_, fun hge => ?_⟩
  · first
      | tie_arith
      | (split <;> first | tie_arith | (exfalso; tie_arith))
  · first
      | (refine ⟨_, ?_, rfl⟩; tie_arith)
      | (split <;> first | (exfalso; tie_arith) | (refine ⟨_, ?_, rfl⟩; tie_arith))))

theorem src_get_real_index_eq_model (index len : Int) (dead : List (Nat × Nat)) (k : Nat)
    (h : get_real_index_pre index len (dead.map castIv) = true)
    (hk : pyNorm index len = (k : Int)) (hd : ∀ p ∈ dead, p.1 ≤ p.2) :
    get_real_index index len (dead.map castIv) = (realLoop k dead : Int) := by
  unfold pyNorm at hk
  unfold get_real_index get_real_index.body
  cases dead with
  | nil =>
    simp only [List.map_nil, get_real_index.loop1, realLoop, ne_eq, not_true_eq_false,
      not_false_eq_true, if_true, if_false, true_or, or_true, false_or, or_false, true_and, and_true]
    first | omega | (split at hk <;> (repeat' split) <;> omega)
  | cons p ds =>
    obtain ⟨a, b⟩ := p
    simp only [List.map_cons, castIv, ne_eq, reduceCtorEq, not_false_eq_true, not_true_eq_false,
      if_true, if_false, src_pyindex_cons_zero, true_or, or_true, false_or, or_false, true_and, and_true]
    split at hk <;> (repeat' split) <;> first
      | (exfalso; omega)
      | (refine src_real_loop (get_real_index.loop1 ?K ?Kb) ?K ?_ ?_ _ _ _ ?_ hd
         · intro s; simp only [get_real_index.loop1]
         · tie_step get_real_index.loop1
         · tie_arith)
      | (exfalso; simp_all; done)
      | omega
      | (simp only [realLoop]; split <;> omega)
      | (simp_all [realLoop]; done)

/-- `hcons` of `src_app_loop` (the extra conjunct: the observed index is kept) -/
macro "tie_step_app" loop:ident : tactic => `(tactic| (
  intro a b xs s hab h0
  simp only [$loop:ident] at *
  refine ⟨fun hlt => ?_, fun hge => ?_⟩
  · first
      | tie_arith
      | (split <;> first | tie_arith | (exfalso; tie_arith))
  · first
      | (refine ⟨_, ?_, ?_, rfl⟩ <;> tie_arith)
      | (split <;> first | (exfalso; tie_arith) | (refine ⟨_, ?_, ?_, rfl⟩ <;> tie_arith))))

/-- `src_app_loop` for the generated loop.  The running value `K` is read off the generated continuation by unification;
    the observable `I` that holds the slot `r` being translated (the variable the loop compares with each `d_start`)
    occurs in `src_app_loop` only under hypotheses, so nothing determines it and the caller names it: today it is the
    parameter `index`; a source that copies it into a local first makes it `loc1` or `loc2`. -/
macro "tie_app_loop" I:term "," r:term "," hc:term "," hl:term : tactic => `(tactic|
  (refine src_app_loop (get_apparent_index.loop1 ?K ?Kb) ?K $I $r ?_ ?_ _ 0 _ $r _ ?_ ?_ $hc $hl
      (by omega) (Nat.le_refl _)
   · intro s; simp only [get_apparent_index.loop1]
   · tie_step_app get_apparent_index.loop1
   · tie_arith
   · tie_arith))

theorem src_get_apparent_index_eq_model (index len : Int) (dead : List (Nat × Nat)) (r hi : Nat)
    (h : get_apparent_index_pre index len (dead.map castIv) = true)
    (hk : pyNorm index len = (r : Int)) (hc : Chain 0 dead hi)
    (hl : ∀ p ∈ dead, ¬ (p.1 ≤ r ∧ r < p.2)) :
    get_apparent_index index len (dead.map castIv) = (appLoop r r dead : Int) := by
  unfold pyNorm at hk
  unfold get_apparent_index get_apparent_index.body
  cases dead with
  | nil =>
    simp only [List.map_nil, get_apparent_index.loop1, appLoop, ne_eq, not_true_eq_false,
      not_false_eq_true, if_true, if_false, true_or, or_true, false_or, or_false, true_and, and_true]
    first | omega | (split at hk <;> (repeat' split) <;> omega)
  | cons p ds =>
    obtain ⟨a, b⟩ := p
    simp only [List.map_cons, castIv, ne_eq, reduceCtorEq, not_false_eq_true, not_true_eq_false,
      if_true, if_false, src_pyindex_cons_zero, true_or, or_true, false_or, or_false, true_and, and_true]
    split at hk <;> (repeat' split) <;> first
      | (exfalso; omega)
      | tie_app_loop (fun s => s.index), r, hc, hl
      | tie_app_loop (fun s => s.loc1), r, hc, hl
      | tie_app_loop (fun s => s.loc2), r, hc, hl
      | (exfalso; simp_all; done)
      | omega
      | (simp only [appLoop]; split <;> omega)
      | (simp_all [appLoop]; done)

/-! ### down to the property: what the SOURCE computes is list indexing -/

variable {α : Type}

/-- the model's `normIndex` is the source's `index += len(self)` -/
theorem normIndex_pyNorm (s : ISet α) (i : Int) (k : Nat) (h : s.normIndex i = some k) :
    pyNorm i (s.len : Int) = (k : Int) := by
  unfold ISet.normIndex at h
  unfold pyNorm
  by_cases hi : i < 0
  · rw [if_pos hi] at h ⊢
    by_cases h2 : i + (s.len : Int) < 0
    · rw [if_pos h2] at h; cases h
    · rw [if_neg h2] at h; cases h; omega
  · rw [if_neg hi] at h ⊢; cases h; omega

/-- in every state satisfying the invariant, the slot computed by the SOURCE of `_get_real_index`
    for (possibly negative) index `i` holds the `k`-th item of the list view -/
theorem src_real_index_is_list_index [DecidableEq α] (s : ISet α) (hinv : Inv s) (i : Int) (k : Nat)
    (hn : s.normIndex i = some k) (hk : k < s.toList.length) :
    s.items[(get_real_index i (s.len : Int) (s.dead.map castIv)).toNat]? = some (some s.toList[k]) := by
  rw [src_get_real_index_eq_model i s.len s.dead k rfl (normIndex_pyNorm s i k hn)
    (chain_ordered _ _ _ hinv.chain)]
  rw [Int.toNat_natCast]
  exact slot_of_index s hinv.toInvC k hk

/-- ... and the position computed by the SOURCE of `_get_apparent_index` for the slot of a live item
    `x` is `x`'s position in the list view -/
theorem src_apparent_index_is_list_position [DecidableEq α] (s : ISet α) (hinv : Inv s) (r : Nat) (x : α)
    (hr : s.items[r]? = some (some x)) :
    get_apparent_index (r : Int) (s.len : Int) (s.dead.map castIv) = (s.toList.idxOf x : Int) := by
  rw [src_get_apparent_index_eq_model (r : Int) s.len s.dead r s.items.length rfl
    (by unfold pyNorm; rw [if_neg (by omega)]) hinv.chain
    (fun p hp hin => hinv.toInvC.not_dead_of_slot x r hr ⟨p, hp, hin⟩)]
  rw [index_of_slot s hinv.toInvC r x hr]

/-- non-vacuity: two dead runs, a positive and a negative index -/
example : get_real_index 3 7 ([(1, 2), (4, 6)].map castIv) = 6 ∧
    get_real_index (-4) 7 ([(1, 2), (4, 6)].map castIv) = 6 ∧
    pyNorm (-4) 7 = ((3 : Nat) : Int) ∧ (∀ p ∈ [(1, 2), (4, 6)], p.1 ≤ p.2) ∧
    realLoop 3 [(1, 2), (4, 6)] = 6 := by decide

example : get_apparent_index 6 7 ([(1, 2), (4, 6)].map castIv) = 3 ∧
    Chain 0 [(1, 2), (4, 6)] 7 ∧ (∀ p ∈ [(1, 2), (4, 6)], ¬ (p.1 ≤ 6 ∧ 6 < p.2)) ∧
    appLoop 6 6 [(1, 2), (4, 6)] = 3 := by
  refine ⟨by decide, by simp [Chain], by decide, by decide⟩

/-! ## heap mode: `IndexedSet._add_dead` (translated by harness/py2lean_c11.py)

The `[start, stop]` intervals are cells of the object store; machinery in `C11/SrcTieHeap.lean`. -/

section HeapTie
open PyHeap PyRtC11
-- the statement combinators of the runtime: every evaluation of a generated body unfolds them
attribute [local simp] seq assign PyRtC11.cond ret PyRtC11.raise brk PyRtC11.skip call tryExcept finish
variable {κ : Type} [DecidableEq κ] [Inhabited κ]

@[simp] theorem boxOpt_some (i : Int) : (boxOpt (some i) : Val κ Unit) = .int i := rfl
@[simp] theorem asInt?_int (i : Int) : asInt? (.int i : Val κ Unit) = .ok i := rfl
@[simp] theorem optInt?_some (i : Int) : optInt? (some i) = .ok i := rfl
/-- reading a slot of a two-slot cell by a constant index (`dint[0]`, `dint[1]`, `dint[-1]` …) -/
theorem index?_pair0 {β : Type} (x y : β) : PyRt.index? [x, y] 0 = .ok x := rfl
theorem index?_pair1 {β : Type} (x y : β) : PyRt.index? [x, y] 1 = .ok y := rfl
theorem index?_pairm1 {β : Type} (x y : β) : PyRt.index? [x, y] (-1) = .ok y := rfl
theorem index?_pairm2 {β : Type} (x y : β) : PyRt.index? [x, y] (-2) = .ok x := rfl

/-- **`IndexedSet._add_dead(start)`** (generated from the current source, heap mode): on every object whose `dead_indices`
    stands for the model's table `dead` (`RepDead`), the call returns normally and leaves references standing for
    `addDeadPy dead start` — the model's `_add_dead` with `bisect_left` as the real binary search; the candidate
    `[start, start + 1]` is a new cell, widening an interval is ONE write through the alias `dint` that no other entry sees;
    nothing else changes.  The only case analysis is on MODEL data (the four comparisons of `start` with the neighbouring
    interval), not on the statements of the source. -/
theorem src_add_dead_eq_model (st : IndexedSet.St κ) (dead : List (Nat × Nat)) (start : Nat)
    (hrep : RepDead st.heap st.dead_indices dead) :
    (IndexedSet.add_dead st (start : Int) none).1 = .ok () ∧
    RepDead (IndexedSet.add_dead st (start : Int) none).2.heap (IndexedSet.add_dead st (start : Int) none).2.dead_indices
      (addDeadPy dead start) ∧
    (IndexedSet.add_dead st (start : Int) none).2.item_index_map = st.item_index_map ∧
    (IndexedSet.add_dead st (start : Int) none).2.item_list = st.item_list ∧
    (IndexedSet.add_dead st (start : Int) none).2.compactions = st.compactions ∧
    (IndexedSet.add_dead st (start : Int) none).2.c_max_size = st.c_max_size := by
  obtain ⟨heap, iim, il, di, cp, cm⟩ := st
  obtain ⟨addrs, hrefs, hnd, hcells⟩ := hrep
  simp only at hrefs hcells
  subst hrefs
  have hlen : addrs.length = dead.length := by simpa using congrArg List.length hcells
  cases hd : dead with
  | nil =>
    subst hd
    have : addrs = [] := by cases addrs with | nil => rfl | cons a l => simp at hlen
    subst this
    have hrun : IndexedSet.add_dead (⟨heap, iim, il, List.map Val.ref [], cp, cm⟩ : IndexedSet.St κ) (start : Int) none =
        (.ok (), ⟨heap.alloc [Val.int (start : Int), Val.int ((start : Int) + 1)], iim, il, [.ref heap.cells.length],
          cp, cm⟩) := by
      simp [IndexedSet.add_dead, IndexedSet.add_dead.body, Heap.next]
    have hnew : RepDead (heap.alloc [Val.int (start : Int), Val.int ((start : Int) + 1)]) [.ref heap.cells.length]
        [(start, start + 1)] := ⟨[heap.cells.length], rfl, by simp, by simp [cell_alloc_next, ivCell]⟩
    rw [hrun]
    exact ⟨rfl, hnew, rfl, rfl, rfl, rfl⟩
  | cons p ps =>
    rw [← hd]
    have hne : dead ≠ [] := by rw [hd]; simp
    have hpos : 0 < dead.length := by rw [hd]; simp
    -- the store after `cand_int = [start, stop]`
    have hnn : ∀ a ∈ addrs, heap.cell a ≠ [] := by
      intro a ha
      obtain ⟨i, hi, hia⟩ := List.getElem_of_mem ha
      rw [← hia, rep_cell heap addrs dead hcells i hi (by omega)]; simp [ivCell]
    have hold : ∀ a ∈ addrs, (heap.alloc [Val.int (start : Int), Val.int ((start : Int) + 1)]).cell a = heap.cell a :=
      fun a ha => cell_alloc_of_ne_nil _ _ _ (hnn a ha)
    have hfresh : heap.cells.length ∉ addrs := fun hm => Nat.lt_irrefl _ (lt_of_cell_ne_nil _ _ (hnn _ hm))
    have hcells1 : addrs.map (heap.alloc [Val.int (start : Int), Val.int ((start : Int) + 1)]).cell = dead.map ivCell := by
      rw [← hcells]; exact List.map_congr_left hold
    have hb := bisectLeft?_rep (heap.alloc [Val.int (start : Int), Val.int ((start : Int) + 1)]) addrs dead
      heap.cells.length (start, start + 1) hcells1 (by rw [cell_alloc_next]; simp [ivCell])
    have hile := bisectLeftPy_le dead (start, start + 1)
    generalize hi : bisectLeftPy dead (start, start + 1) = i at hb hile
    -- `dint = dints[int_idx - 1]`
    have hjlt : (if i = 0 then dead.length - 1 else i - 1) < dead.length := by split <;> omega
    generalize hj : (if i = 0 then dead.length - 1 else i - 1) = j at hjlt
    have hjl2 : j < addrs.length := by omega
    have hidx : PyRt.index? (addrs.map (Val.ref (κ := κ) (ν := Unit))) ((i : Int) - 1) = .ok (.ref addrs[j]) := by
      apply index?_refs addrs j _ _ (List.getElem?_eq_getElem hjl2)
      unfold PyRt.normIdx
      simp only [List.length_map]
      split at hj <;> split <;> omega
    have hcj := rep_cell _ addrs dead hcells1 j hjl2 hjlt
    rcases hdj : dead[j] with ⟨ds, de⟩
    rw [hdj] at hcj
    have hemp : addrs.isEmpty = false := by cases addrs with | nil => simp at hjl2 | cons _ _ => rfl
    have hne2 : addrs ≠ [] := by intro h0; rw [h0] at hemp; cases hemp
    have hajlt : addrs[j] < (heap.alloc [Val.int (start : Int), Val.int ((start : Int) + 1)]).cells.length :=
      lt_of_cell_ne_nil _ _ (by rw [hcj]; simp [ivCell])
    have hmodel : addDeadPy dead start =
        if start ≤ ds ∧ ds ≤ start + 1 then dead.set j (start, de)
        else if start ≤ de ∧ de ≤ start + 1 then dead.set j (ds, start + 1)
        else dead.insertIdx i (start, start + 1) := by
      unfold addDeadPy
      simp only [hi, hj]
      rw [List.getElem?_eq_getElem hjlt, hdj]
      simp [hne]
    rw [hmodel]
    have hcast : (((start + 1 : Nat) : Int)) = (start : Int) + 1 := by omega
    have hsetA := RepDead.set_cell _ addrs dead j (start, de) hnd hcells1 hjl2 hajlt
    have hsetB := RepDead.set_cell _ addrs dead j (ds, start + 1) hnd hcells1 hjl2 hajlt
    have hins := RepDead.insert_new _ addrs dead i heap.cells.length (start, start + 1) hnd hcells1 (by omega) hfresh
      (by rw [cell_alloc_next]; simp [ivCell])
    -- the comparisons of the source are on Python ints, those of the model on naturals
    have e1 : ((start : Int) ≤ (ds : Int)) ↔ start ≤ ds := by omega
    have e2 : ((ds : Int) ≤ (start : Int) + 1) ↔ ds ≤ start + 1 := by omega
    have e3 : ((start : Int) ≤ (de : Int)) ↔ start ≤ de := by omega
    have e4 : ((de : Int) ≤ (start : Int) + 1) ↔ de ≤ start + 1 := by omega
    have e5 : ((ds : Int) < (start : Int)) ↔ ds < start := by omega
    have e6 : ((start : Int) + 1 < (ds : Int)) ↔ start + 1 < ds := by omega
    have e7 : ((de : Int) < (start : Int)) ↔ de < start := by omega
    have e8 : ((start : Int) + 1 < (de : Int)) ↔ start + 1 < de := by omega
    -- the call evaluated, once
    have hrun : IndexedSet.add_dead (⟨heap, iim, il, addrs.map Val.ref, cp, cm⟩ : IndexedSet.St κ) (start : Int) none =
        (.ok (),
          if start ≤ ds ∧ ds ≤ start + 1 then
            ⟨⟨(heap.alloc [Val.int (start : Int), Val.int ((start : Int) + 1)]).cells.set addrs[j] (ivCell (start, de))⟩,
              iim, il, addrs.map Val.ref, cp, cm⟩
          else if start ≤ de ∧ de ≤ start + 1 then
            ⟨⟨(heap.alloc [Val.int (start : Int), Val.int ((start : Int) + 1)]).cells.set addrs[j] (ivCell (ds, start + 1))⟩,
              iim, il, addrs.map Val.ref, cp, cm⟩
          else
            ⟨heap.alloc [Val.int (start : Int), Val.int ((start : Int) + 1)], iim, il,
              PyRtC11.insert (addrs.map Val.ref) (i : Int) (.ref heap.cells.length), cp, cm⟩) := by
      simp [IndexedSet.add_dead, IndexedSet.add_dead.body, andE, orE, hb, hidx, hemp, hne2, Heap.next, Heap.unpack?, Heap.get?,
        index?_pair0, index?_pair1, index?_pairm1, index?_pairm2, hcj, ivCell, nth, Heap.set?, PyRt.normIdx, hajlt, e1, e2, e3,
        e4, e5, e6, e7, e8]
      by_cases a1 : start ≤ ds <;> by_cases a2 : ds ≤ start + 1 <;> by_cases a3 : start ≤ de <;>
        by_cases a4 : de ≤ start + 1 <;> simp [a1, a2, a3, a4, hcast]
    rw [hrun]
    by_cases cA : start ≤ ds ∧ ds ≤ start + 1
    · rw [if_pos cA, if_pos cA]; exact ⟨rfl, hsetA, rfl, rfl, rfl, rfl⟩
    · rw [if_neg cA, if_neg cA]
      by_cases cB : start ≤ de ∧ de ≤ start + 1
      · rw [if_pos cB, if_pos cB]; exact ⟨rfl, hsetB, rfl, rfl, rfl, rfl⟩
      · rw [if_neg cB, if_neg cB]; exact ⟨rfl, hins, rfl, rfl, rfl, rfl⟩

/-- ... and under the class invariant's `Chain` the binary search is the model's abstract `bisectLeft`, so the source's
    `_add_dead` is the model's `addDead` -/
theorem src_add_dead_eq_addDead (st : IndexedSet.St κ) (dead : List (Nat × Nat)) (start lo hi : Nat)
    (hrep : RepDead st.heap st.dead_indices dead) (hc : Chain lo dead hi) :
    (IndexedSet.add_dead st (start : Int) none).1 = .ok () ∧
    RepDead (IndexedSet.add_dead st (start : Int) none).2.heap (IndexedSet.add_dead st (start : Int) none).2.dead_indices
      (addDead dead start) := by
  rw [← addDeadPy_eq dead lo hi hc start]
  exact ⟨(src_add_dead_eq_model st dead start hrep).1, (src_add_dead_eq_model st dead start hrep).2.1⟩

/-- the intervals a list of references stands for, read back out of the store (for the examples) -/
def readDead (st : IndexedSet.St Nat) : List (List Int) :=
  st.dead_indices.map fun v => match v with
    | .ref a => (st.heap.cell a).map fun x => match x with | .int i => i | _ => -1
    | _ => []

def isOkUnit (r : Except PyExc Unit) : Bool := match r with | .ok _ => true | .error _ => false

/-- non-vacuity: widening to the right through the alias (`dint[1] = stop`: cell 0 becomes `[1, 3]`, the new cell 2 is
    garbage), an insertion of the new cell in the middle / at the end, and widening to the left (`dint[0] = start`, reached
    through `dints[-1]` when the candidate sorts first) -/
example :
    let st : IndexedSet.St Nat := ⟨⟨[[.int 1, .int 2], [.int 4, .int 6]]⟩, [], [], [.ref 0, .ref 1], 0, 0⟩
    let st1 : IndexedSet.St Nat := ⟨⟨[[.int 4, .int 6]]⟩, [], [], [.ref 0], 0, 0⟩
    isOkUnit (IndexedSet.add_dead st 2 none).1 = true ∧
    readDead (IndexedSet.add_dead st 2 none).2 = [[1, 3], [4, 6]] ∧ addDeadPy [(1, 2), (4, 6)] 2 = [(1, 3), (4, 6)] ∧
    readDead (IndexedSet.add_dead st 3 none).2 = [[1, 2], [3, 4], [4, 6]] ∧
    addDeadPy [(1, 2), (4, 6)] 3 = [(1, 2), (3, 4), (4, 6)] ∧
    readDead (IndexedSet.add_dead st 8 none).2 = [[1, 2], [4, 6], [8, 9]] ∧
    (IndexedSet.add_dead st 8 none).2.heap.cells.length = 3 ∧
    readDead (IndexedSet.add_dead st1 3 none).2 = [[3, 6]] ∧ addDeadPy [(4, 6)] 3 = [(3, 6)] ∧
    RepDead st.heap st.dead_indices [(1, 2), (4, 6)] := by
  refine ⟨by decide, by decide, by decide, by decide, by decide, by decide, by decide, by decide, by decide, ?_⟩
  exact ⟨[0, 1], rfl, by decide, rfl⟩

end HeapTie

/-! ## the whole object: `Rep st s` (`SrcTieHeap.lean`) relates the generated state to the model's
`ISet`; one theorem per translated method: same result / exception, and the new state stands for the model's. -/

section IsetTie
open PyHeap PyRtC11
attribute [local simp] seq assign PyRtC11.cond ret PyRtC11.raise brk PyRtC11.skip call tryExcept finish
variable {α : Type} [DecidableEq α] [Inhabited α]

theorem src_dead_index_count_eq_model (st : IndexedSet.St α) (s : ISet α) (h : Rep st s) :
    IndexedSet.dead_index_count st = .ok ((s.items.length : Int) - (s.idx.length : Int)) := by
  simp [IndexedSet.dead_index_count, IndexedSet.dead_index_count.body, h.items, h.idx, length_castIdx]

theorem src_len_eq_model (st : IndexedSet.St α) (s : ISet α) (h : Rep st s) :
    IndexedSet.len st = .ok (s.len : Int) := by
  simp [IndexedSet.len, IndexedSet.len.body, h.idx, length_castIdx, ISet.len]

theorem src_add_eq_model (st : IndexedSet.St α) (s : ISet α) (x : α) (h : Rep st s) :
    (IndexedSet.add st x).1 = .ok () ∧ Rep (IndexedSet.add st x).2 (s.add x) := by
  obtain ⟨heap, di, cp, cm, rfl, hr⟩ := h.cases
  unfold ISet.add ISet.contains
  cases hl : IMap.lookup s.idx x <;>
    simp [IndexedSet.add, IndexedSet.add.body, contains_castIdx, hl]
  · exact ⟨by simp [ofItem], by first | (rw [← set_castIdx]; done) | (rw [← set_castIdx]; simp), hr⟩
  · exact ⟨rfl, rfl, hr⟩

theorem src_compact_eq_model (st : IndexedSet.St α) (s : ISet α) (fuel : Nat) (h : Rep st s)
    (hf : s.items.length < fuel) (hle : s.idx.length ≤ s.items.length) :
    (IndexedSet.compact fuel st).1 = .ok () ∧ Rep (IndexedSet.compact fuel st).2 (compact s) := by
  obtain ⟨heap, di, cp, cm, rfl, hr⟩ := h.cases
  have hemp := hr.isEmpty_eq
  unfold compact
  cases hde : s.dead.isEmpty
  · rw [hde] at hemp
    simp [IndexedSet.compact, IndexedSet.compact.body, hemp, IndexedSet.dead_index_count, IndexedSet.dead_index_count.body,
      length_castIdx]
    generalize hloop : forLazy _ _ _ _ _ _ _ _ = r
    have hx : ∃ t', r = (.next, t') ∧ t'.self.heap = heap ∧
        t'.self.item_index_map = castIdx (assignIdx s.idx (live s.items) 0) ∧
        t'.self.item_list = (live s.items).map Val.key ++ (s.items.map ofItem).drop (live s.items).length ∧
        t'.self.dead_indices = di ∧ t'.loc1 = (s.items.length : Int) - (s.idx.length : Int) := by
      rw [← hloop]
      refine (compact_loop_start (ρ := Unit) (fun (t : IndexedSet.compact.L α) => t.self) (fun t => t.loc1) ?bind ?body ?keep
        ?hk1 ?hk2 ?hbody s.items s.idx fuel ?t hf ?hl ?hi).imp ?himp
      case himp =>
        intro t' hh
        refine ⟨?a, ?b, ?c, ?d, ?e, ?f⟩
        case a => exact hh.1
        case b => exact congrArg (·.heap) hh.2.1
        case c => exact congrArg (·.item_index_map) hh.2.1
        case d => exact congrArg (·.item_list) hh.2.1
        case e => exact congrArg (·.dead_indices) hh.2.1
        case f => exact hh.2.2
      all_goals try rfl
      all_goals try (intro x; rfl)
      all_goals (
        intro t i x h0 h1
        have h2 : i.toNat < t.self.item_list.length := by omega
        simp [setIdx?, asKeyStore?, PyRt.normIdx, h0, h1, h2, Int.not_lt.2 h0])
    obtain ⟨t', h1, h2a, h2b, h2c, h2d, h3⟩ := hx
    obtain ⟨⟨heap', iim', il', di', cp', cm'⟩, l1, l2, l3⟩ := t'
    simp only at h2a h2b h2c h2d h3
    subst h2a h2b h2c h2d h3
    rw [h1]
    have hcast : (s.items.length : Int) - (s.idx.length : Int) = ((s.items.length - s.idx.length : Nat) : Int) := by
      omega
    simp only [hcast]
    have hlv : (live s.items).length ≤ s.items.length := by
      unfold live; exact List.length_filterMap_le _ _
    rw [delSlice_neg_tail _ _ (by simp; omega)]
    simp only [delSlice_all]
    refine ⟨trivial, ?_, rfl, RepDead.nil _⟩
    simp only
    split
    · rfl
    · have hco : (ofItem ∘ some : α → Val α Unit) = Val.key := rfl
      simp [List.map_take, List.map_drop, hco]
  · rw [hde] at hemp
    simp [IndexedSet.compact, IndexedSet.compact.body, hemp]
    exact ⟨rfl, rfl, hr⟩

/-- **`IndexedSet._cull()`** (generated from the current source): on every state standing for a model state `s` with
    `len(idx) ≤ len(items)` and, when the set is not empty, some live slot (both follow from `InvC`), with fuel above both
    lengths, the call returns normally (no `IndexError` from `items[-(num_dead + 1)]`, no `OutOfFuel`) and the new state stands
    for the model's `cull ⟨8, 384⟩ s`; the float test `dead > len / 8` is the model's exact integer test.  The two `while`
    loops go through `tail_loop` / `dead_loop` (`SrcTieHeap.lean`), the second one reading `ded[-1][0]` THROUGH THE STORE. -/
theorem src_cull_eq_model (st : IndexedSet.St α) (s : ISet α) (fuel : Nat) (h : Rep st s)
    (hf : s.items.length < fuel) (hfd : s.dead.length < fuel) (hle : s.idx.length ≤ s.items.length)
    (htd : s.idx ≠ [] → trailingDead s.items < s.items.length) :
    (IndexedSet.cull fuel st).1 = .ok () ∧ Rep (IndexedSet.cull fuel st).2 (cull ⟨8, 384⟩ s) := by
  have hcomp := src_compact_eq_model st s fuel h hf hle
  obtain ⟨heap, di, cp, cm, rfl, hr⟩ := h.cases
  have hemp := hr.isEmpty_eq
  have hdl : di.length = s.dead.length := by
    obtain ⟨addrs, rfl, _, hc⟩ := hr
    simpa using congrArg List.length hc
  unfold cull
  cases hde : s.dead.isEmpty
  case true =>
    rw [hde] at hemp
    simp [IndexedSet.cull, IndexedSet.cull.body, hemp]
    exact ⟨rfl, rfl, hr⟩
  case false =>
  rw [hde] at hemp
  cases hie : s.idx.isEmpty
  case true =>
    have : s.idx = [] := by simpa using hie
    simp [IndexedSet.cull, IndexedSet.cull.body, hemp, this, castIdx, delSlice_all]
    exact ⟨rfl, by simp [castIdx, this], RepDead.nil _⟩
  case false =>
  have hine : s.idx ≠ [] := by intro h0; rw [h0] at hie; cases hie
  have hcie : (castIdx s.idx).isEmpty = false := by cases hh : s.idx with | nil => exact absurd hh hine | cons _ _ => rfl
  obtain ⟨cst, hcr, hc2⟩ := Rep.run hcomp
  have e1 : ((di.length : Int) > 384) ↔ s.dead.length > 384 := by omega
  have e2 : ((s.items.length : Int) < ((s.items.length : Int) - (s.idx.length : Int)) * 8) ↔
      (s.items.length - s.idx.length) * 8 > s.items.length := by omega
  by_cases c1 : s.dead.length > 384
  · simp [IndexedSet.cull, IndexedSet.cull.body, hemp, hcie, hcr, e1, c1, hie]
    exact hc2
  by_cases c2 : (s.items.length - s.idx.length) * 8 > s.items.length
  · simp [IndexedSet.cull, IndexedSet.cull.body, hemp, hcie, hcr, e1, c1, hie, IndexedSet.dead_index_count,
      IndexedSet.dead_index_count.body, length_castIdx, gtTrueDiv, e2, c2]
    exact hc2
  have hpos : 0 < s.items.length := by
    cases hh : s.idx with
    | nil => exact absurd hh hine
    | cons _ _ => rw [hh] at hle; simp at hle; omega
  have hlast := index?_from_end s.items 0 hpos
  have hrev : s.items.reverse[0]? = s.items.getLast? := by
    rw [List.getElem?_reverse hpos, List.getLast?_eq_getElem?]; simp
  rw [hrev] at hlast
  have hlast1 : PyRt.index? (s.items.map ofItem) (-1) = .ok (ofItem (s.items.getLast?.getD none)) := by
    simpa using hlast
  have htd1 := htd hine
  rcases hgl : s.items.getLast? with _ | _ | x
  · rw [List.getLast?_eq_none_iff] at hgl; rw [hgl] at hpos; simp at hpos
  · -- the last slot is a tombstone: the two loops
    rw [hgl] at hlast1
    simp [IndexedSet.cull, IndexedSet.cull.body, hemp, hcie, hcr, e1, c1, hie, IndexedSet.dead_index_count,
      IndexedSet.dead_index_count.body, length_castIdx, gtTrueDiv, e2, c2, hlast1, Val.isSentinel]
    have htd0 : 1 ≤ trailingDead s.items := by
      unfold trailingDead
      have : s.items.reverse[0]? = some none := by rw [hrev, hgl]
      cases hR : s.items.reverse with
      | nil => rw [hR] at this; simp at this
      | cons y R => rw [hR] at this; simp at this; subst this; simp [List.takeWhile_cons, isTomb]
    -- the loop lemmas are equations: condition and body are read off the goal, the laws of the variable written are `rfl`
    rw [tail_loop (ρ := Unit) (fun (t : IndexedSet.cull.L α) => t.self.item_list) (fun t => t.loc1)
      (fun t v => { t with loc1 := v }) _ _ ?hc ?hb (fun _ _ => rfl) (fun _ _ => rfl) (fun _ _ _ => rfl)
      (fun _ => rfl) s.items htd1 fuel 1 _ ?hL ?hn htd0 (by omega)]
    case hc => intro t; rfl
    case hb => intro t; rfl
    case hL => rfl
    case hn => rfl
    simp only
    obtain ⟨addrs, hrefs, hnd, hcells⟩ := hr
    subst hrefs
    have htdle : trailingDead s.items ≤ s.items.length := by omega
    have hdel : delSlice (List.map ofItem s.items) (some (-(trailingDead s.items : Int))) none =
        (s.items.take (s.items.length - trailingDead s.items)).map ofItem := by
      rw [delSlice_neg_tail _ _ (by simpa using htdle), if_neg (by omega)]
      simp [List.map_take]
    simp only [hdel]
    rw [dead_loop (ρ := Unit) (fun (t : IndexedSet.cull.L α) => t.self.heap) (fun t => t.self.dead_indices)
      (fun t => (t.self.item_list.length : Int)) (fun t l => { t with self := { t.self with dead_indices := l } }) _ _ ?hc2 ?hb2
      (fun _ _ => rfl) (fun _ _ => rfl) (fun _ _ => rfl) (fun _ _ _ => rfl) (fun _ => rfl)
      (s.items.length - trailingDead s.items) fuel addrs s.dead _ ?hD hcells ?hN hfd]
    case hc2 => intro t; rfl
    case hb2 =>
      intro t L x hD
      simp [assign, show t.self.dead_indices = L ++ [x] from hD, delIdx?_last]
    case hD => rfl
    case hN => simp
    exact ⟨rfl, rfl, rfl, RepDead.popDeadFrom hnd hcells _⟩
  · rw [hgl] at hlast1
    simp [IndexedSet.cull, IndexedSet.cull.body, hemp, hcie, hcr, e1, c1, hie, IndexedSet.dead_index_count,
      IndexedSet.dead_index_count.body, length_castIdx, gtTrueDiv, e2, c2, hlast1, Val.isSentinel]
    exact ⟨rfl, rfl, hr⟩

/-- non-vacuity: 16 live slots and two trailing tombstones (below the 1/8 threshold): the slots are cut off and the interval
    `[16, 18]` is dropped -/
example :
    let its : List (Option Nat) := (List.range 16).map some ++ [none, none]
    let ix : IMap Nat := (List.range 16).map (fun i => (i, i))
    let st : IndexedSet.St Nat := ⟨⟨[[.int 16, .int 18]]⟩, castIdx ix, its.map ofItem, [.ref 0], 0, 0⟩
    isOkUnit (IndexedSet.cull 20 st).1 = true ∧ (IndexedSet.cull 20 st).2.item_list.length = 16 ∧
    readDead (IndexedSet.cull 20 st).2 = [] ∧
    (cull ⟨8, 384⟩ (⟨its, ix, [(16, 18)]⟩ : ISet Nat)).items.length = 16 ∧
    (cull ⟨8, 384⟩ (⟨its, ix, [(16, 18)]⟩ : ISet Nat)).dead = [] ∧
    trailingDead its = 2 := by
  refine ⟨by decide, by decide, by decide, by decide, by decide, by decide⟩

theorem src_cull_eq_model_inv (st : IndexedSet.St α) (s : ISet α) (fuel : Nat) (h : Rep st s) (hinv : InvC s)
    (hf : s.items.length < fuel) (hfd : s.dead.length < fuel) :
    (IndexedSet.cull fuel st).1 = .ok () ∧ Rep (IndexedSet.cull fuel st).2 (cull ⟨8, 384⟩ s) :=
  src_cull_eq_model st s fuel h hf hfd hinv.idx_le hinv.trailing

/-- `_add_dead(r); _cull()` after the slot `r` was tombstoned and its item deleted from the dict (the common tail of
    `remove` and `pop(i)`) -/
theorem src_kill_tail (heap : Heap α Unit) (di : List (Val α Unit)) (cp cm : Int) (s : ISet α) (x : α) (i fuel : Nat)
    (hr : RepDead heap di s.dead) (hinv : InvC s) (hslot : s.items[i]? = some (some x))
    (hf : s.items.length < fuel) (hfd : s.dead.length + 1 < fuel) :
    ∃ ast cst, IndexedSet.add_dead (⟨heap, castIdx (IMap.erase s.idx x), (s.items.map ofItem).set i Val.sentinel, di, cp, cm⟩ :
        IndexedSet.St α) (i : Int) none = (.ok (), ast) ∧ IndexedSet.cull fuel ast = (.ok (), cst) ∧
      Rep cst (cull ⟨8, 384⟩ ⟨s.items.set i none, IMap.erase s.idx x, addDead s.dead i⟩) := by
  have hk := invC_kill s hinv i x hslot
  have hadd := src_add_dead_eq_model (⟨heap, castIdx (IMap.erase s.idx x), (s.items.map ofItem).set i Val.sentinel, di, cp, cm⟩ :
    IndexedSet.St α) s.dead i hr
  rw [addDeadPy_eq s.dead 0 _ hinv.chain i] at hadd
  generalize har : IndexedSet.add_dead (⟨heap, castIdx (IMap.erase s.idx x), (s.items.map ofItem).set i Val.sentinel, di, cp, cm⟩ :
    IndexedSet.St α) (i : Int) none = ar at hadd
  obtain ⟨ares, ast⟩ := ar
  obtain ⟨ha1, ha2, ha3, ha4, _, _⟩ := hadd
  simp only at ha1 ha2 ha3 ha4
  subst ha1
  have hrep1 : Rep ast ⟨s.items.set i none, IMap.erase s.idx x, addDead s.dead i⟩ :=
    ⟨ha4.trans (List.map_set (a := none)).symm, ha3, ha2⟩
  have hcull := src_cull_eq_model_inv ast _ fuel hrep1 hk (by simpa using hf)
    (Nat.lt_of_le_of_lt (addDead_length_le _ _) hfd)
  obtain ⟨cst, hcr, hc2⟩ := Rep.run hcull
  exact ⟨ast, cst, rfl, hcr, hc2⟩

/-- **`IndexedSet.remove(item)`** (generated from the current source): on every state standing for a model state with the
    class invariant, `remove` raises `KeyError` and leaves the object alone exactly when the model's `remove` fails, and
    otherwise returns normally in a state standing for the model's result (`item_index_map.pop(item)` is `IMap.lookup` /
    `IMap.erase`; the rest is `src_kill_tail`). -/
theorem src_remove_eq_model (st : IndexedSet.St α) (s : ISet α) (x : α) (fuel : Nat) (h : Rep st s) (hinv : InvC s)
    (hf : s.items.length < fuel) (hfd : s.dead.length + 1 < fuel) :
    (∀ s', s.remove ⟨8, 384⟩ x = .ok s' →
      (IndexedSet.remove fuel st x).1 = .ok () ∧ Rep (IndexedSet.remove fuel st x).2 s') ∧
    (∀ e, s.remove ⟨8, 384⟩ x = .error e →
      (IndexedSet.remove fuel st x).1 = .error PyExc.KeyError ∧ Rep (IndexedSet.remove fuel st x).2 s) := by
  obtain ⟨heap, di, cp, cm, rfl, hr⟩ := h.cases
  have hpop := pop?_castIdx s.idx x hinv.keys_nodup
  unfold ISet.remove
  cases hl : IMap.lookup s.idx x with
  | none =>
    rw [hl] at hpop
    refine ⟨fun s' h' => (by cases h'), fun e _ => ?_⟩
    simp [IndexedSet.remove, IndexedSet.remove.body, hpop]
    exact ⟨rfl, rfl, hr⟩
  | some i =>
    rw [hl] at hpop
    refine ⟨fun s' h' => ?_, fun e h' => by cases h'⟩
    simp only [Except.ok.injEq] at h'
    subst h'
    have hslot := hinv.look x i hl
    have hil := getElem?_lt hslot
    have hset := setIdx?_tomb s.items i hil
    obtain ⟨ast, cst, har, hcr, hc2⟩ := src_kill_tail heap di cp cm s x i fuel hr hinv hslot hf hfd
    simp [IndexedSet.remove, IndexedSet.remove.body, hpop, hset, har, hcr]
    exact hc2

/-- **`IndexedSet.discard(item)`**: never raises; the new state stands for the model's `discard` -/
theorem src_discard_eq_model (st : IndexedSet.St α) (s : ISet α) (x : α) (fuel : Nat) (h : Rep st s) (hinv : InvC s)
    (hf : s.items.length < fuel) (hfd : s.dead.length + 1 < fuel) :
    (IndexedSet.discard fuel st x).1 = .ok () ∧ Rep (IndexedSet.discard fuel st x).2 (s.discard ⟨8, 384⟩ x) := by
  have hrem := src_remove_eq_model st s x fuel h hinv hf hfd
  unfold ISet.discard
  cases hm : s.remove ⟨8, 384⟩ x with
  | ok s' =>
    obtain ⟨rst, hrr, h2⟩ := Rep.run (hrem.1 s' hm)
    simp [IndexedSet.discard, IndexedSet.discard.body, hrr]
    exact h2
  | error e =>
    obtain ⟨rst, hrr, h2⟩ := Rep.run (hrem.2 e hm)
    simp [IndexedSet.discard, IndexedSet.discard.body, hrr]
    exact h2

/-- non-vacuity: removing the middle item of nine (one tombstone is below the 1/8 threshold) leaves a tombstone and the
    interval `[4, 5]` in a new cell; removing an absent item raises `KeyError`; `discard` of it does not -/
example :
    let ix : IMap Nat := (List.range 9).map (fun i => (i, i))
    let st : IndexedSet.St Nat := ⟨⟨[]⟩, castIdx ix, (List.range 9).map Val.key, [], 0, 0⟩
    let s : ISet Nat := ⟨(List.range 9).map some, ix, []⟩
    isOkUnit (IndexedSet.remove 12 st 4).1 = true ∧ readDead (IndexedSet.remove 12 st 4).2 = [[4, 5]] ∧
    (IndexedSet.remove 12 st 4).2.item_index_map.length = 8 ∧
    (s.remove ⟨8, 384⟩ 4).toOption.map (fun s1 => (s1.dead, s1.items.length)) = some ([(4, 5)], 9) ∧
    isOkUnit (IndexedSet.remove 12 st 11).1 = false ∧ isOkUnit (IndexedSet.discard 12 st 11).1 = true ∧
    (s.remove ⟨8, 384⟩ 11 matches .error .keyError) := by
  refine ⟨by decide +kernel, by decide +kernel, by decide +kernel, by decide +kernel, by decide +kernel,
    by decide +kernel, by decide +kernel⟩

/-- **`IndexedSet._get_real_index(index)` in heap mode** (the class translator; `src_get_real_index_eq_model` speaks about the
    same method over abstract pairs): for every index the model normalises to `k`, the loop
    `for d_start, d_stop in self.dead_indices` — CPython's list iterator, each element UNPACKED OUT OF THE STORE — returns the
    model's `realLoop k dead` without an exception (no `OutOfFuel`, no `TypeError` / `ValueError` from a cell); loop lemma
    `cells_real_loop` (`SrcTieHeap.lean`), its body found by unification. -/
theorem src_iset_get_real_index_eq_model (st : IndexedSet.St α) (s : ISet α) (fuel : Nat) (h : Rep st s) (i : Int) (k : Nat)
    (hn : s.normIndex i = some k) (hord : ∀ p ∈ s.dead, p.1 ≤ p.2) (hf : s.dead.length < fuel) :
    IndexedSet.get_real_index fuel st i = .ok (realLoop k s.dead : Int) := by
  have hpn := normIndex_pyNorm s i k hn
  unfold pyNorm at hpn
  obtain ⟨heap, di, cp, cm, rfl, hr⟩ := h.cases
  have hemp := hr.isEmpty_eq
  obtain ⟨addrs, hrefs, hnd, hcells⟩ := hr
  subst hrefs
  cases hde : s.dead.isEmpty
  case true =>
    have : s.dead = [] := by simpa using hde
    rw [hde] at hemp
    by_cases hneg : i < 0 <;>
    simp [IndexedSet.get_real_index, IndexedSet.get_real_index.body, hemp, this, realLoop, IndexedSet.len, IndexedSet.len.body,
      length_castIdx, hneg] <;>
    simp [hneg, ISet.len] at hpn <;> omega
  case false =>
    rw [hde] at hemp
    -- the loop, for the normalised index
    have hk : IndexedSet.get_real_index fuel (⟨heap, castIdx s.idx, s.items.map ofItem, addrs.map Val.ref, cp, cm⟩ :
        IndexedSet.St α) (k : Int) = .ok (realLoop k s.dead : Int) := by
      have hnn : ¬ ((k : Int) < 0) := by omega
      simp [IndexedSet.get_real_index, IndexedSet.get_real_index.body, hemp, IndexedSet.len, IndexedSet.len.body,
        length_castIdx, hnn]
      generalize hloop : forLazy _ _ _ _ _ _ _ _ = r
      have hx : ∃ t', r = (.next, t') ∧ t'.loc1 = (realLoop k s.dead : Int) := by
        rw [← hloop]
        refine cells_real_loop (ρ := Int) (fun (t : IndexedSet.get_real_index.L α) => t.self.heap)
          (fun t => t.self.dead_indices) (fun t => t.loc1) ?keep ?bind ?body ?hkeep ?hbody s.dead addrs [] fuel 0 ?t k
          ?hD ?hc ?hK hord hf
        case hkeep => intro v; rfl
        case hD => simp
        case hc => exact hcells
        case hK => rfl
        case hbody =>
          intro t a p iv hcell hle h0
          try simp only at hcell h0
          refine ⟨fun hx => ?_, fun hx => ?_⟩ <;>
          simp [Heap.unpack?, hcell, ivCell, nth, asInt?, hx]
      obtain ⟨t', h1, h2⟩ := hx
      rw [h1]; simp [h2]
    by_cases hneg : i < 0
    · -- a negative index: after `index += len(self)` the call goes on exactly as the call with `k`
      rw [if_pos hneg] at hpn
      rw [← hk]
      simp [IndexedSet.get_real_index, IndexedSet.get_real_index.body, hemp, IndexedSet.len, IndexedSet.len.body,
        length_castIdx, hneg, show i + (s.idx.length : Int) = (k : Int) from hpn, show ¬ ((k : Int) < 0) by omega]
    · rw [if_neg hneg] at hpn
      rw [hpn]; exact hk

/-- non-vacuity: two dead runs read through the store, a positive and a negative index (cf. the example of the base tie) -/
example :
    let st : IndexedSet.St Nat := ⟨⟨[[.int 1, .int 2], [.int 4, .int 6]]⟩, [(0, 0), (1, 2), (2, 3), (3, 6)],
      [.key 0, .sentinel, .key 1, .key 2, .sentinel, .sentinel, .key 3], [.ref 0, .ref 1], 0, 0⟩
    (IndexedSet.get_real_index 5 st 3).toOption = some 6 ∧ (IndexedSet.get_real_index 5 st (-4)).toOption = some 0 ∧
    (IndexedSet.get_real_index 5 st (-1)).toOption = some 6 ∧ realLoop 3 [(1, 2), (4, 6)] = 6 := by
  refine ⟨by decide +kernel, by decide +kernel, by decide +kernel, by decide⟩

/-- **`IndexedSet.pop(index=None)`** (generated from the current source): whenever the model's `popAt` succeeds on a state with
    the class invariant (`index=None` is the model's `-1`), the source returns the same item and leaves a state standing
    for the model's.  The last slot goes through `item_list.pop()` / `del item_index_map[ret]` (`invC_dropLast` for the state
    before `_cull`); any other index through `_get_real_index` READ THROUGH THE STORE and `src_kill_tail`. -/
theorem src_pop_eq_model (st : IndexedSet.St α) (s : ISet α) (index : Option Int) (fuel : Nat) (h : Rep st s) (hinv : InvC s)
    (hf : s.items.length < fuel) (hfd : s.dead.length + 1 < fuel) (s1 : ISet α) (x : α)
    (hm : s.popAt ⟨8, 384⟩ (index.getD (-1)) = .ok (s1, x)) :
    (IndexedSet.pop fuel st index).1 = .ok (Val.key x) ∧ Rep (IndexedSet.pop fuel st index).2 s1 := by
  obtain ⟨heap, di, cp, cm, rfl, hr⟩ := h.cases
  rcases popAt_ok hm with ⟨hc, hm⟩ | ⟨hc, k, hn, hsl, rfl⟩
  · -- the last slot
    obtain ⟨hl, rfl⟩ := popLast_ok hm
    have hcond : (index.isNone || decide (index = some (-1)) || decide (index = some ((s.idx.length : Int) - 1))) = true := by
      cases index with
      | none => rfl
      | some j => simp [ISet.len] at hc ⊢; exact hc
    have hpl := popLast?_items s.items _ hl
    have hlen : 0 < s.items.length := by cases hi : s.items with | nil => rw [hi] at hl; simp at hl | cons a b => simp
    have hslot : s.items[s.items.length - 1]? = some (some x) := by
      rw [← List.getLast?_eq_getElem?]; exact hl
    have hlook := hinv.lookup_of_slot x _ hslot
    have hdel := del?_castIdx s.idx x hinv.keys_nodup (by rw [hlook]; rfl)
    have hpre := invC_dropLast s hinv x hl
    have hrep1 : Rep (⟨heap, castIdx (IMap.erase s.idx x), (s.items.map ofItem).dropLast, di, cp, cm⟩ : IndexedSet.St α)
        ⟨s.items.dropLast, IMap.erase s.idx x, s.dead⟩ := ⟨by simp, rfl, hr⟩
    have hcull := src_cull_eq_model_inv _ _ fuel hrep1 hpre (by simp; omega) (by simp only; omega)
    obtain ⟨cst, hcr, hc2⟩ := Rep.run hcull
    simp [IndexedSet.pop, IndexedSet.pop.body, length_castIdx, hcond, hpl, Val.asKey?, hdel, hcr]
    exact hc2
  · -- any other index: through `_get_real_index`
    cases index with
    | none => exact absurd (Or.inl rfl) hc
    | some j =>
      simp only [Option.getD_some] at hn hc
      have hcond : (decide (j = -1) || decide (j = (s.idx.length : Int) - 1)) = false := by
        simp [ISet.len] at hc ⊢; exact hc
      have hgri := src_iset_get_real_index_eq_model (⟨heap, castIdx s.idx, s.items.map ofItem, di, cp, cm⟩ :
        IndexedSet.St α) s fuel ⟨rfl, rfl, hr⟩ j k hn (chain_ordered _ _ _ hinv.chain) (by omega)
      have hidx := index?_items s.items _ _ hsl
      have hset := setIdx?_tomb s.items _ (getElem?_lt hsl)
      have hlook := hinv.lookup_of_slot x _ hsl
      have hdel := del?_castIdx s.idx x hinv.keys_nodup (by rw [hlook]; rfl)
      obtain ⟨ast, cst, har, hcr, hrep⟩ := src_kill_tail heap di cp cm s x _ fuel hr hinv hsl hf hfd
      simp [IndexedSet.pop, IndexedSet.pop.body, length_castIdx, hcond, optIntArg?, hgri, hidx, hset, Val.asKey?, hdel, har,
        hcr]
      exact hrep

def okKey (r : Except PyExc (Val Nat Unit)) : Option Nat := match r with | .ok (.key k) => some k | _ => none

/-- non-vacuity: `pop()` and `pop(4)` on nine items; `pop(4)` leaves the interval `[4, 5]` in a new cell -/
example :
    let ix : IMap Nat := (List.range 9).map (fun i => (i, i))
    let st : IndexedSet.St Nat := ⟨⟨[]⟩, castIdx ix, (List.range 9).map Val.key, [], 0, 0⟩
    let s : ISet Nat := ⟨(List.range 9).map some, ix, []⟩
    okKey (IndexedSet.pop 12 st none).1 = some 8 ∧ (IndexedSet.pop 12 st none).2.item_list.length = 8 ∧
    okKey (IndexedSet.pop 12 st (some 4)).1 = some 4 ∧ readDead (IndexedSet.pop 12 st (some 4)).2 = [[4, 5]] ∧
    okKey (IndexedSet.pop 12 st (some (-9))).1 = some 0 ∧
    (s.popAt ⟨8, 384⟩ 4).toOption.map (fun r => (r.1.dead, r.2)) = some ([(4, 5)], 4) ∧
    (s.popAt ⟨8, 384⟩ (-1)).toOption.map (fun r => (r.1.items.length, r.2)) = some (8, 8) := by
  refine ⟨by decide +kernel, by decide +kernel, by decide +kernel, by decide +kernel, by decide +kernel,
    by decide +kernel, by decide +kernel⟩

/-- **`IndexedSet._get_apparent_index(index)` in heap mode** (class translator; cf. the base tie
    `src_get_apparent_index_eq_model`): for a slot that is not inside a dead interval the loop over the interval cells of
    the store returns the model's `appLoop r r dead`; loop lemma `cells_app_loop` (`SrcTieHeap.lean`), body by unification. -/
theorem src_iset_get_apparent_index_eq_model (st : IndexedSet.St α) (s : ISet α) (fuel : Nat) (h : Rep st s) (i : Int) (r hi : Nat)
    (hn : s.normIndex i = some r) (hc : Chain 0 s.dead hi) (hl : ∀ p ∈ s.dead, ¬ (p.1 ≤ r ∧ r < p.2))
    (hf : s.dead.length < fuel) :
    IndexedSet.get_apparent_index fuel st i = .ok (appLoop r r s.dead : Int) := by
  have hpn := normIndex_pyNorm s i r hn
  unfold pyNorm at hpn
  obtain ⟨heap, di, cp, cm, rfl, hr⟩ := h.cases
  have hemp := hr.isEmpty_eq
  obtain ⟨addrs, hrefs, hnd, hcells⟩ := hr
  subst hrefs
  cases hde : s.dead.isEmpty
  case true =>
    have : s.dead = [] := by simpa using hde
    rw [hde] at hemp
    by_cases hneg : i < 0 <;>
    simp [IndexedSet.get_apparent_index, IndexedSet.get_apparent_index.body, hemp, this, appLoop, IndexedSet.len,
      IndexedSet.len.body, length_castIdx, hneg] <;>
    simp [hneg, ISet.len] at hpn <;> omega
  case false =>
    rw [hde] at hemp
    -- the loop, for the normalised index
    have hk : IndexedSet.get_apparent_index fuel (⟨heap, castIdx s.idx, s.items.map ofItem, addrs.map Val.ref, cp, cm⟩ :
        IndexedSet.St α) (r : Int) = .ok (appLoop r r s.dead : Int) := by
      have hnn : ¬ ((r : Int) < 0) := by omega
      simp [IndexedSet.get_apparent_index, IndexedSet.get_apparent_index.body, hemp, IndexedSet.len, IndexedSet.len.body,
        length_castIdx, hnn]
      generalize hloop : forLazy _ _ _ _ _ _ _ _ = q
      have hx : ∃ t', q = (.next, t') ∧ t'.loc1 = (appLoop r r s.dead : Int) := by
        rw [← hloop]
        refine cells_app_loop (ρ := Int) (fun (t : IndexedSet.get_apparent_index.L α) => t.self.heap)
          (fun t => t.self.dead_indices) (fun t => t.loc1) (fun t => t.index) ?keep ?bind ?body ?hkeep r ?hbody
          s.dead addrs [] fuel 0 ?t 0 hi r ?hD ?hc ?hK ?hI hc hl (by omega) (Nat.le_refl _) hf
        case hkeep => intro v; rfl
        case hD => simp
        case hc => exact hcells
        case hK => rfl
        case hI => rfl
        case hbody =>
          intro t a p iv hcell hle h0
          try simp only at hcell h0
          refine ⟨fun hx => ?_, fun hx => ?_⟩ <;>
          simp [Heap.unpack?, hcell, ivCell, nth, asInt?, hx, h0]
      obtain ⟨t', h1, h2⟩ := hx
      rw [h1]; simp [h2]
    by_cases hneg : i < 0
    · -- a negative index: after `index += len(self)` the call goes on exactly as the call with `r`
      rw [if_pos hneg] at hpn
      rw [← hk]
      simp [IndexedSet.get_apparent_index, IndexedSet.get_apparent_index.body, hemp, IndexedSet.len, IndexedSet.len.body,
        length_castIdx, hneg, show i + (s.idx.length : Int) = (r : Int) from hpn, show ¬ ((r : Int) < 0) by omega]
    · rw [if_neg hneg] at hpn
      rw [hpn]; exact hk

/-- **`IndexedSet.index(val)`** (generated from the current source): `ValueError` exactly when the model's `index` fails (the
    `KeyError` of `item_index_map[val]` is caught and replaced; the message is not modelled: rule M1 of notes/SRCTIE.md), otherwise the
    model's position, computed by `_get_apparent_index` through the store. -/
theorem src_index_eq_model (st : IndexedSet.St α) (s : ISet α) (x : α) (fuel : Nat) (h : Rep st s) (hinv : InvC s)
    (hf : s.dead.length < fuel) :
    IndexedSet.index fuel st x = match s.index x with
      | .ok n => .ok (n : Int)
      | .error _ => .error PyExc.ValueError := by
  have hget := get?_castIdx s.idx x
  unfold ISet.index
  cases hl : IMap.lookup s.idx x with
  | none =>
    rw [hl] at hget
    obtain ⟨heap, di, cp, cm, rfl, hr⟩ := h.cases
    simp [IndexedSet.index, IndexedSet.index.body, hget]
  | some r =>
    rw [hl] at hget
    have hslot := hinv.look x r hl
    have hnd := hinv.not_dead_of_slot x r hslot
    have happ := src_iset_get_apparent_index_eq_model st s fuel h (r : Int) r s.items.length (normIndex_nonneg s r)
      hinv.chain (fun p hp hin => hnd ⟨p, hp, hin⟩) hf
    obtain ⟨heap, di, cp, cm, rfl, hr⟩ := h.cases
    simp [IndexedSet.index, IndexedSet.index.body, hget, happ]

/-- ... down to the property: for an item of the set the SOURCE of `index` returns its position in the list view -/
theorem src_index_is_list_position (st : IndexedSet.St α) (s : ISet α) (x : α) (fuel : Nat) (h : Rep st s) (hinv : Inv s)
    (hf : s.dead.length < fuel) (hx : x ∈ s.toList) :
    IndexedSet.index fuel st x = .ok (s.toList.idxOf x : Int) := by
  rw [src_index_eq_model st s x fuel h hinv.toInvC hf, ((index_spec s hinv x).1 hx)]

/-- non-vacuity: positions behind two dead runs, read through the store; an absent item raises `ValueError` -/
example :
    let st : IndexedSet.St Nat := ⟨⟨[[.int 1, .int 2], [.int 4, .int 6]]⟩, [(10, 0), (11, 2), (12, 3), (13, 6)],
      [.key 10, .sentinel, .key 11, .key 12, .sentinel, .sentinel, .key 13], [.ref 0, .ref 1], 0, 0⟩
    let s : ISet Nat := ⟨[some 10, none, some 11, some 12, none, none, some 13], [(10, 0), (11, 2), (12, 3), (13, 6)],
      [(1, 2), (4, 6)]⟩
    (IndexedSet.index 5 st 13).toOption = some 3 ∧ (IndexedSet.index 5 st 11).toOption = some 1 ∧
    (IndexedSet.index 5 st 99).toOption = none ∧ (IndexedSet.get_apparent_index 5 st 6).toOption = some 3 ∧
    (s.index 13).toOption = some 3 ∧ s.toList.idxOf 13 = 3 := by
  refine ⟨by decide +kernel, by decide +kernel, by decide +kernel, by decide +kernel, by decide +kernel, by decide⟩

/-- **`IndexedSet.__getitem__(index)`, `index` an int** (generated from the current source; rule K1 of notes/SRCTIE.md: the `index.start`
    kind dispatch is decided by the declared parameter type, the slice kind is outside the tie): for every index the model
    normalises, the source returns the item the model's `getItem` returns and raises `IndexError` exactly when the model
    does; the slot is computed by `_get_real_index` through the store (`src_iset_get_real_index_eq_model`; the second
    `index += len(self)` inside it is a no-op on the normalised index). -/
theorem src_getitem_eq_model (st : IndexedSet.St α) (s : ISet α) (fuel : Nat) (h : Rep st s) (i : Int) (k : Nat)
    (hn : s.normIndex i = some k) (hord : ∀ p ∈ s.dead, p.1 ≤ p.2) (hf : s.dead.length < fuel) :
    (∀ x, s.getItem i = .ok x → IndexedSet.getitem fuel st i = .ok (Val.key x)) ∧
    (s.getItem i = .error .indexError → IndexedSet.getitem fuel st i = .error PyExc.IndexError) := by
  have hpn := normIndex_pyNorm s i k hn
  unfold pyNorm at hpn
  have hgri := src_iset_get_real_index_eq_model st s fuel h (k : Int) k (normIndex_nonneg s k) hord hf
  obtain ⟨heap, di, cp, cm, rfl, hr⟩ := h.cases
  unfold ISet.getItem
  rw [hn]
  simp only
  have hbody : ∀ (o : Option (Option α)), s.items[realLoop k s.dead]? = o →
      IndexedSet.getitem fuel (⟨heap, castIdx s.idx, s.items.map ofItem, di, cp, cm⟩ : IndexedSet.St α) i =
        match o with
        | some v => .ok (ofItem v)
        | none => .error PyExc.IndexError := by
    intro o ho
    have hidx := index?_items s.items _ _ ho
    by_cases hneg : i < 0
    · simp only [hneg, if_true, ISet.len] at hpn
      cases o <;>
        simp [IndexedSet.getitem, IndexedSet.getitem.body, IndexedSet.len, IndexedSet.len.body, length_castIdx, hneg, hpn, hgri,
          hidx]
    · simp only [hneg, if_false] at hpn
      subst hpn
      cases o <;>
        simp [IndexedSet.getitem, IndexedSet.getitem.body, IndexedSet.len, IndexedSet.len.body, length_castIdx, hneg, hgri,
          hidx]
  rcases ho : s.items[realLoop k s.dead]? with _ | _ | y
  · exact ⟨fun x hx => (by cases hx), fun _ => hbody _ ho⟩
  · exact ⟨fun x hx => (by cases hx), fun hx => (by cases hx)⟩
  · refine ⟨fun x hx => ?_, fun hx => (by cases hx)⟩
    simp only [Except.ok.injEq] at hx
    subst hx
    exact hbody _ ho

/-- non-vacuity: items behind two dead runs, a positive and a negative index, and an index past the end -/
example :
    let st : IndexedSet.St Nat := ⟨⟨[[.int 1, .int 2], [.int 4, .int 6]]⟩, [(10, 0), (11, 2), (12, 3), (13, 6)],
      [.key 10, .sentinel, .key 11, .key 12, .sentinel, .sentinel, .key 13], [.ref 0, .ref 1], 0, 0⟩
    let s : ISet Nat := ⟨[some 10, none, some 11, some 12, none, none, some 13], [(10, 0), (11, 2), (12, 3), (13, 6)],
      [(1, 2), (4, 6)]⟩
    okKey (IndexedSet.getitem 5 st 3) = some 13 ∧ okKey (IndexedSet.getitem 5 st (-3)) = some 11 ∧
    okKey (IndexedSet.getitem 5 st 4) = none ∧ (s.getItem 3).toOption = some 13 ∧ (s.getItem (-3)).toOption = some 11 ∧
    s.normIndex (-3) = some 1 := by
  refine ⟨by decide +kernel, by decide +kernel, by decide +kernel, by decide +kernel, by decide +kernel, by decide +kernel⟩

end IsetTie

end C11
