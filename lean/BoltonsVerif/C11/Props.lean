import BoltonsVerif.C11.Refine
import BoltonsVerif.C11.Bounds
/-
C11 — property theorems for the IndexedSet model: statements and their short derivations from the lemma files, the start
states `start` / `mstart` / `mstartSpec`, and non-vacuity examples (with `natLe`, `cfgReal`).

Reading guide.  `ISet` is the model of the anchored state (item_list with tombstones,
item_index_map, dead_indices); `step cfg le` executes one public operation on it and returns the
public result; `Spec.step le` does the same on a plain `List α` of distinct items (`Spec.lean`:
append-if-new, `List.erase`, `List.eraseIdx`, `l[k]`, `List.idxOf`, filters for the set algebra).
`cfg` carries the two compaction thresholds: every theorem holds for ALL threshold values, so no
proof depends on `_COMPACTION_FACTOR` or on the literal 384.  `le` is the order used by `sort`.
Histories are arbitrary lists of operations; `Spec.ValidRun` restricts arguments exactly as the
property statement does (indexes valid for a list of the current length, slice step positive or
omitted, symmetric_difference with one operand).
-/
namespace C11
open Spec
variable {α : Type} [DecidableEq α]

/-- the receiver `IndexedSet(init)` -/
abbrev start (init : List α) : ISet α := ISet.ofList init

/-- `IndexedSet(init)` holds the distinct items of `init` in first-appearance order -/
theorem start_refines (init : List α) : Inv (start init) ∧ (start init).toList = dedup init :=
  ofList_spec init

/-- **representation invariant**: after ANY history (any operations, any arguments, valid or not)
    the three structures agree: live items are distinct, the dict maps exactly each live item to its
    slot, the dead intervals form a sorted disjoint chain inside the item list covering exactly the
    tombstones, and the last slot is live. -/
theorem inv_reachable (cfg : Cfg) (le : α → α → Bool) (init : List α) (ops : List (Op α)) :
    Inv (runState cfg le (start init) ops) :=
  runState_keeps cfg le Inv (fun s op h => step_inv cfg le s h op) ops _ (start_refines init).1

/-- **refinement**: every observation of every valid history (iteration, len, membership, s[i],
    slices, index, count, reversed, pop results, raised KeyError/IndexError/ValueError, results of
    union/intersection/difference/symmetric_difference/`other - s`, issubset/issuperset/isdisjoint) and
    the final contents equal those of the plain list / set specification. -/
theorem refines_list (cfg : Cfg) (le : α → α → Bool) (init : List α) (ops : List (Op α))
    (hv : ValidRun le (dedup init) ops) :
    runOuts cfg le (start init) ops = Spec.runOuts le (dedup init) ops ∧
      (runState cfg le (start init) ops).toList = Spec.runState le (dedup init) ops := by
  have h := start_refines init
  rw [← h.2] at hv ⊢
  exact run_refines cfg le ops _ h.1 hv

/-- one step, from any state satisfying the invariant (the inductive core of `refines_list`) -/
theorem step_refines_list (cfg : Cfg) (le : α → α → Bool) (s : ISet α) (h : Inv s) (op : Op α)
    (hv : ValidOp s.toList op) :
    Inv (step cfg le s op).1 ∧ (step cfg le s op).1.toList = (Spec.step le s.toList op).1 ∧
      (step cfg le s op).2 = (Spec.step le s.toList op).2 :=
  ⟨step_inv cfg le s h op, step_refines cfg le s h op hv⟩

/-! ### the list view, clause by clause, for any state satisfying `Inv` (reachable or not) -/

/-- index translation is list indexing: `_get_real_index(k)` is the slot of the `k`-th item -/
theorem real_index_is_list_index (s : ISet α) (h : Inv s) (k : Nat) (hk : k < s.toList.length) :
    s.items[realLoop k s.dead]? = some (some s.toList[k]) :=
  slot_of_index s h.toInvC k hk

/-- ... and `_get_apparent_index` is its inverse: the slot of item `x` maps back to `x`'s position -/
theorem apparent_index_is_list_position (s : ISet α) (h : Inv s) (r : Nat) (x : α)
    (hr : s.items[r]? = some (some x)) : appLoop r r s.dead = s.toList.idxOf x :=
  index_of_slot s h.toInvC r x hr

theorem len_and_membership (s : ISet α) (h : Inv s) :
    s.len = s.toList.length ∧ ∀ x, (s.contains x = true ↔ x ∈ s.toList) :=
  ⟨h.toInvC.len_eq, h.toInvC.contains_iff⟩

/-- iteration yields distinct items; `reversed()` is the reverse iteration; `count` is 0 or 1 -/
theorem iteration_views (s : ISet α) (h : Inv s) :
    s.toList.Nodup ∧ s.reversed = s.toList.reverse ∧ ∀ x, s.count x = s.toList.count x := by
  refine ⟨h.toInvC.toList_nodup, reversed_eq s, count_eq s h.toInvC⟩

/-- `s[i]` for every valid index, negative included -/
theorem getitem_valid (s : ISet α) (h : Inv s) (k : Nat) (hk : k < s.toList.length) :
    s.getItem (k : Int) = .ok s.toList[k] ∧
      s.getItem ((k : Int) - (s.toList.length : Int)) = .ok s.toList[k] :=
  ⟨getItem_spec s h k hk _ (Or.inl rfl), getItem_spec s h k hk _ (Or.inr rfl)⟩

/-- `s[a:b:c]` with a positive step is Python list slicing of the iteration -/
theorem slice_positive_step (s : ISet α) (h : Inv s) (a b : Option Int) (c : Nat) (hc : 0 < c) :
    ∃ t, s.getSlice a b (some (c : Int)) = .ok t ∧ Inv t ∧ t.toList = pySlice s.toList a b c :=
  getSlice_spec s h a b c hc

theorem slice_no_step (s : ISet α) (h : Inv s) (a b : Option Int) :
    ∃ t, s.getSlice a b none = .ok t ∧ Inv t ∧ t.toList = pySlice s.toList a b 1 :=
  getSlice_none s a b ▸ getSlice_spec s h a b 1 (by omega)

/-- `s[a:b:-c]` (outside the statement, which speaks of positive steps): NOT list slicing with a negative
    step but `IndexedSet(list(reversed(s))[a:b:c])` - bounds and step applied to the reversed iteration
    from its front; this is what the test-suite pins (`x[2:4:-1] == IndexedSet([8, 7])`). -/
theorem slice_negative_step (s : ISet α) (h : Inv s) (a b : Option Int) (c : Nat) (hc : 0 < c) :
    ∃ t, s.getSlice a b (some (-(c : Int))) = .ok t ∧ Inv t ∧ t.toList = pySlice s.toList.reverse a b c :=
  getSlice_neg_spec s h a b c hc

/-- `index(x)` is the list position, ValueError when absent -/
theorem index_is_list_index (s : ISet α) (h : Inv s) (x : α) :
    (x ∈ s.toList → s.index x = .ok (s.toList.idxOf x)) ∧
    (x ∉ s.toList → s.index x = .error .valueError) :=
  index_spec s h x

/-- `pop(i)` for every valid index returns `l[i]` and leaves `l` without position `i` -/
theorem pop_index_valid (cfg : Cfg) (s : ISet α) (h : Inv s) (k : Nat) (hk : k < s.toList.length) (i : Int)
    (hi : i = (k : Int) ∨ i = (k : Int) - (s.toList.length : Int)) :
    ∃ s', s.popAt cfg i = .ok (s', s.toList[k]) ∧ Inv s' ∧ s'.toList = s.toList.eraseIdx k :=
  popAt_spec cfg s h k hk i hi

/-- `s[k]` and `s.pop(k)` for `k ≥ len(s)` raise IndexError as a list does, whatever the tombstones
    (outside the statement, which speaks of valid indexes) -/
theorem index_beyond_len_raises (cfg : Cfg) (s : ISet α) (h : Inv s) (k : Nat) (hk : s.toList.length ≤ k) :
    s.getItem (k : Int) = .error .indexError ∧ s.popAt cfg (k : Int) = .error .indexError := by
  have hb := (realLoop_live s.items s.dead k h.chain h.tombs).2 hk
  have hlen := h.toInvC.len_eq
  have h1 : ¬ ((k : Int) = -1 ∨ (k : Int) = (s.len : Int) - 1) := by omega
  unfold ISet.getItem ISet.popAt
  rw [if_neg h1, normIndex_nonneg]
  simp only [List.getElem?_eq_none hb, and_self]

/-- `remove(x)`: the item disappears from its position, everything else keeps its order; KeyError when absent -/
theorem remove_is_list_remove (cfg : Cfg) (s : ISet α) (h : Inv s) (x : α) :
    (x ∈ s.toList → ∃ s', s.remove cfg x = .ok s' ∧ Inv s' ∧ s'.toList = s.toList.erase x) ∧
    (x ∉ s.toList → s.remove cfg x = .error .keyError) :=
  remove_spec cfg s h x

/-- `add(x)` appends when `x` is new and changes nothing otherwise; `discard(x)` never raises -/
theorem add_discard (cfg : Cfg) (s : ISet α) (h : Inv s) (x : α) :
    (s.add x).toList = (if x ∈ s.toList then s.toList else s.toList ++ [x]) ∧
      (s.discard cfg x).toList = s.toList.erase x :=
  ⟨toList_add s h.toInvC x, (discard_spec cfg s h x).2⟩

/-- `pop()` returns the last item and drops it; IndexError on an empty set -/
theorem pop_default (cfg : Cfg) (s : ISet α) (h : Inv s) :
    (∀ hne : s.toList ≠ [], ∃ s', s.popLast cfg = .ok (s', s.toList.getLast hne) ∧ Inv s' ∧
        s'.toList = s.toList.dropLast) ∧
    (s.toList = [] → s.popLast cfg = .error .indexError) :=
  popLast_spec cfg s h

theorem cull_is_invisible (cfg : Cfg) (s : ISet α) (h : InvC s) :
    Inv (cull cfg s) ∧ (cull cfg s).toList = s.toList :=
  cull_spec cfg s h

theorem sort_reverse_clear (le : α → α → Bool) (rev : Bool) (s : ISet α) (h : Inv s) :
    (s.sort le rev).toList = ISet.sortedList le rev s.toList ∧ s.reverse.toList = s.toList.reverse ∧
      s.clear.toList = [] :=
  ⟨(sort_spec le rev s h).2, (reverse_spec s h).2, rfl⟩

/-- `sort(key=…, reverse=…)` with any comparison `lek`; `bad` = the items whose comparison raises.
    A sort that raises (a live item of `bad` and at least two items) reports the error and leaves
    the three structures exactly as they were; a sort that does not raise is the stable sort of the list. -/
theorem sort_failure_atomic (cfg : Cfg) (le lek : α → α → Bool) (rev : Bool) (bad : List α) (s : ISet α)
    (h : Inv s) :
    ((2 ≤ s.toList.length ∧ ∃ x ∈ s.toList, x ∈ bad) →
        step cfg le s (.sortBy lek rev bad) = (s, .err .cmpError)) ∧
    (¬ (2 ≤ s.toList.length ∧ ∃ x ∈ s.toList, x ∈ bad) →
        (step cfg le s (.sortBy lek rev bad)).2 = .unit ∧ Inv (step cfg le s (.sortBy lek rev bad)).1 ∧
        (step cfg le s (.sortBy lek rev bad)).1.toList = ISet.sortedList lek rev s.toList) := by
  have hc : s.sortRaises bad = true ↔ (2 ≤ s.toList.length ∧ ∃ x ∈ s.toList, x ∈ bad) := by
    simp [ISet.sortRaises, h.toInvC.len_eq]
  constructor
  · intro hb
    simp [step, ISet.sortBy, hc.2 hb]
  · intro hb
    have hb' : s.sortRaises bad = false := by
      cases hs : s.sortRaises bad
      · rfl
      · exact absurd (hc.1 hs) hb
    have := sort_spec lek rev s h
    simp [step, ISet.sortBy, hb', this.1, this.2]

/-! ### the set view: results contain exactly what Python sets would, ordered by first appearance -/

/-- union (any number of operands; also `update`, `|`, `|=`): the receiver's items in order, then
    the operands' new distinct items in order of first appearance; no duplicates; membership = ∪ -/
theorem union_exact (s : ISet α) (h : Inv s) (os : List (Operand α)) :
    (s.union os).toList = s.toList ++ (dedup (os.flatMap (opItems s.toList))).filter (notIn s.toList) ∧
    (s.union os).toList.Nodup ∧
    ∀ x, x ∈ (s.union os).toList ↔ x ∈ s.toList ∨ ∃ o ∈ os, x ∈ opItems s.toList o := by
  have hu := (union_spec s h os).2
  refine ⟨by rw [hu, addAll_eq_append_dedup], by rw [hu]; exact nodup_addAll _ _ h.toInvC.toList_nodup, fun x => ?_⟩
  rw [hu, mem_addAll]; simp [List.mem_flatMap]

/-- intersection (any number of operands; also `intersection_update`, `&`, `&=`): exactly the
    receiver's items that are in every operand, in the receiver's order -/
theorem intersection_exact (cfg : Cfg) (s : ISet α) (h : Inv s) (os : List (Operand α)) :
    (s.inter os).toList = s.toList.filter (Spec.inAll s.toList os) ∧
    (s.interUpdate cfg os).toList = s.toList.filter (Spec.inAll s.toList os) ∧
    ∀ x, x ∈ (s.inter os).toList ↔ x ∈ s.toList ∧ ∀ o ∈ os, x ∈ opItems s.toList o := by
  refine ⟨(inter_spec s h os).2, interUpdate_spec cfg s h os, fun x => ?_⟩
  rw [(inter_spec s h os).2]; simp [Spec.inAll, memOp]

/-- difference (any number of operands; also `difference_update`, `-`, `-=`): exactly the
    receiver's items that are in no operand, in the receiver's order -/
theorem difference_exact (cfg : Cfg) (s : ISet α) (h : Inv s) (os : List (Operand α)) :
    (s.diff os).toList = s.toList.filter (Spec.inNone s.toList os) ∧
    (s.diffUpdate cfg os).toList = s.toList.filter (Spec.inNone s.toList os) ∧
    ∀ x, x ∈ (s.diff os).toList ↔ x ∈ s.toList ∧ ∀ o ∈ os, x ∉ opItems s.toList o := by
  refine ⟨(diff_spec s h os).2, diffUpdate_spec cfg s h os, fun x => ?_⟩
  rw [(diff_spec s h os).2]; simp [Spec.inNone, memOp]

/-- symmetric difference with one operand (also `symmetric_difference_update`, `^`, `^=`): the
    receiver's items not in the operand, then the operand's distinct items not in the receiver;
    membership = exclusive or -/
theorem symmetric_difference_exact (cfg : Cfg) (s : ISet α) (h : Inv s) (o : Operand α) :
    (s.symdiff [o]).toList = symdiff1 s.toList o ∧ (s.symUpdate cfg o).toList = symdiff1 s.toList o ∧
    ∀ x, x ∈ symdiff1 s.toList o ↔ (x ∈ s.toList ∧ x ∉ opItems s.toList o) ∨
                                     (x ∈ opItems s.toList o ∧ x ∉ s.toList) := by
  refine ⟨(symdiff_spec s h o).2, symUpdate_spec cfg s h o, fun x => ?_⟩
  simp [symdiff1, mem_dedup]

theorem update_exact (s : ISet α) (h : Inv s) (os : List (Operand α)) :
    (s.update os).toList = (s.union os).toList := by
  rw [update_spec s h os, (union_spec s h os).2]

theorem predicates_exact (s : ISet α) (h : Inv s) (o : Operand α) :
    (s.issubset o = true ↔ ∀ x ∈ s.toList, x ∈ opItems s.toList o) ∧
    (s.issuperset o = true ↔ ∀ x ∈ opItems s.toList o, x ∈ s.toList) ∧
    (s.isdisjoint o = true ↔ ∀ x ∈ opItems s.toList o, x ∉ s.toList) := by
  rw [issubset_spec s h o, issuperset_spec s h o, isdisjoint_spec s h o]
  simp [memOp, List.all_eq_true]

/-- `other - s` keeps exactly the operand's items that are not in the receiver -/
theorem rsub_exact (s : ISet α) (h : Inv s) (o : Operand α) :
    ∀ x, x ∈ s.rsub o ↔ x ∈ opItems s.toList o ∧ x ∉ s.toList := by
  intro x; rw [rsub_spec s h o]; simp

/-! ### several sets at once: results and IndexedSet operands are sets of their own -/

/-- the receiver alone in register 0 -/
abbrev mstart (init : List α) : Mach α := ⟨[start init], 0⟩
abbrev mstartSpec (init : List α) : SMach α := ⟨[dedup init], 0⟩

/-- **refinement for any number of sets**: in every valid history over a register file - operations
    on whichever set is selected, results of union / intersection / difference / symmetric_difference /
    slicing kept as further sets and worked on later, operands taken from the other sets - every
    observation equals that of independent plain lists, one per set. -/
theorem machine_refines (cfg : Cfg) (le : α → α → Bool) (init : List α) (ops : List (MOp α))
    (hv : MValidRun le (mstartSpec init) ops) :
    mrunOuts cfg le (mstart init) ops = Spec.mrunOuts le (mstartSpec init) ops ∧
      (mrunState cfg le (mstart init) ops).views = (Spec.mrunState le (mstartSpec init) ops).regs ∧
      (mrunState cfg le (mstart init) ops).cur = (Spec.mrunState le (mstartSpec init) ops).cur := by
  have h0 : MRel (mstart init) (mstartSpec init) :=
    { cur := rfl, bound := by simp, views := by simp [Mach.views, (start_refines init).2],
      inv := by simp [(start_refines init).1] }
  have := mrun_refines cfg le ops _ _ h0 hv
  exact ⟨this.1, this.2.views, this.2.cur⟩

theorem machine_inv (cfg : Cfg) (le : α → α → Bool) (init : List α) (ops : List (MOp α)) :
    ∀ s ∈ (mrunState cfg le (mstart init) ops).regs, Inv s :=
  mrunState_keeps cfg le Inv (fun s op h => step_inv cfg le s h op) (fun o => (resultSet_spec o).1) ops _
    (by simp [(start_refines init).1]) (by simp)

/-- an operation on one set leaves every other set untouched (not only its iteration: its three
    structures), so nothing done to a result can be seen through the set it came from, or vice versa -/
theorem other_sets_untouched (cfg : Cfg) (le : α → α → Bool) (m : Mach α) (op : MOp α) (j : Nat)
    (hj : j < m.regs.length) (hne : j ≠ m.cur) : (mstep cfg le m op).1.regs[j]? = m.regs[j]? :=
  mstep_frame cfg le m op j hj hne

/-! ### `bisect_left` on the interval table -/

/-- **`bisect_left` is not an assumption**: in every state satisfying the invariant, the binary
    search of `Lib/bisect.py` (`bisectLeftPy`) run on `dead_indices` returns what the model's `bisectLeft`
    abstracts it to, so `_add_dead` written with the real search (`addDeadPy`) is the model's `addDead`. -/
theorem bisect_left_is_binary_search (s : ISet α) (h : Inv s) :
    (∀ c, bisectLeftPy s.dead c = bisectLeft s.dead c) ∧
    (∀ start, addDeadPy s.dead start = addDead s.dead start) :=
  ⟨fun c => bisectLeftPy_eq s.dead 0 _ h.chain c, fun st => addDeadPy_eq s.dead 0 _ h.chain st⟩

theorem bisect_left_reachable (cfg : Cfg) (le : α → α → Bool) (init : List α) (ops : List (Op α)) (c : Nat × Nat) :
    bisectLeftPy (runState cfg le (start init) ops).dead c = bisectLeft (runState cfg le (start init) ops).dead c :=
  (bisect_left_is_binary_search _ (inv_reachable cfg le init ops)).1 c

/-! ### the compaction thresholds -/

/-- **the thresholds bound the garbage**: after ANY history (any arguments, valid or not) the dead-interval
    table has at most `limit` (384) entries and the tombstones are at most a `1/factor` (1/8) share of the
    slots of `item_list` - for every value of the two thresholds.  (This is what keeps index translation
    cheap; the statement does not ask for it, the anchored mechanism "culled and compacted at thresholds" does.) -/
theorem garbage_bounded (cfg : Cfg) (le : α → α → Bool) (init : List α) (ops : List (Op α)) :
    (runState cfg le (start init) ops).dead.length ≤ cfg.limit ∧
    ((runState cfg le (start init) ops).items.length - (runState cfg le (start init) ops).idx.length) * cfg.factor
      ≤ (runState cfg le (start init) ops).items.length :=
  (runState_keeps cfg le (Good cfg) (step_good cfg le) ops _ (resultSet_good cfg (.list init))).bounded

theorem machine_garbage_bounded (cfg : Cfg) (le : α → α → Bool) (init : List α) (ops : List (MOp α)) :
    ∀ s ∈ (mrunState cfg le (mstart init) ops).regs,
      s.dead.length ≤ cfg.limit ∧ (s.items.length - s.idx.length) * cfg.factor ≤ s.items.length :=
  fun s hs => (mrunState_keeps cfg le (Good cfg) (step_good cfg le) (resultSet_good cfg) ops _
    (by simp only [List.mem_singleton, forall_eq]; exact resultSet_good cfg (.list init)) (by simp) s hs).bounded

theorem cull_restores_bounds (cfg : Cfg) (s : ISet α) (h : InvC s) :
    (cull cfg s).dead.length ≤ cfg.limit ∧
    ((cull cfg s).items.length - (cull cfg s).idx.length) * cfg.factor ≤ (cull cfg s).items.length :=
  cull_bounded cfg s h

/-! ### non-vacuity: concrete states and histories that satisfy the hypotheses -/

def natLe (a b : Nat) : Bool := a ≤ b
def cfgReal : Cfg := ⟨8, 384⟩

/-- a reachable state with a tombstone and a dead interval: 10 items, item 3 removed -/
example : (runState cfgReal natLe (start (List.range 10)) [.remove 3]).dead = [(3, 4)] ∧
    (runState cfgReal natLe (start (List.range 10)) [.remove 3]).items.length = 10 := by decide

/-- two adjacent unmerged intervals (the case the invariant has to tolerate) -/
example : (runState cfgReal natLe (start (List.range 40)) [.remove 0, .remove 5, .remove 4]).dead
    = [(0, 1), (4, 5), (5, 6)] := by decide +kernel

/-- index translation through them: s[3] is item 6; s[-1] is 39; index(6) = 3 -/
example : runOuts cfgReal natLe (start (List.range 40))
    [.remove 0, .remove 5, .remove 4, .get 3, .get (-1), .index 6, .slice (some 2) (some 5) none]
    = [.unit, .unit, .unit, .item 6, .item 39, .nat 3, .list [3, 6, 7]] := by decide +kernel

/-- a valid history in the sense of `refines_list` -/
example : ValidRun natLe (dedup (List.range 5))
    [Op.remove 1, .popAt (-2), .get 2, .slice none (some (-1)) (some 2), .symdiff [⟨.coll, [7, 0, 7]⟩]] := by
  simp [ValidRun, ValidOp, pyIndex, Spec.step, dedup, addAll, specAdd, List.range, List.range.loop]

/-- a sort that raises: items 0..5 without 2, the key of item 4 cannot be compared -/
example : runOuts cfgReal natLe (start (List.range 6))
      [.remove 2, .sortBy (fun a b => natLe b a) false [4], .iter, .get 2, .index 5]
    = [.unit, .err .cmpError, .list [0, 1, 3, 4, 5], .item 3, .nat 4] := by decide +kernel

/-- a valid machine history: the union of a set with a dead run is kept, the item after the run is
    removed from the result, and the receiver still indexes as before (the `fork` builds its operand
    from register 0's own iteration) -/
example : mrunOuts cfgReal natLe (mstart (List.range 40))
      [.run fun _ => .remove 10, .fork fun vs => .union [⟨.iset, (vs[0]?.getD []).take 2 ++ [100]⟩], .sel 1,
       .run fun _ => .remove 11, .run fun _ => .get 10, .sel 0, .run fun _ => .get 10, .run fun _ => .index 12]
    = [.unit, .list ((List.range 40).erase 10 ++ [100]), .unit, .unit, .item 12, .unit, .item 11, .nat 11] := by
  decide +kernel

example : MValidRun natLe (mstartSpec (List.range 4))
      [.run fun _ => .remove 1, .fork fun vs => .union [⟨.iset, vs[0]?.getD []⟩], .sel 1, .run fun _ => .get (-1)] := by
  simp [MValidRun, MValidOp, ValidOp, pyIndex, Spec.mstep, Spec.step, SMach.curList, dedup, addAll, specAdd,
    List.range, List.range.loop, resultList, opItems]

/-- the set algebra on a concrete case: {0,1,2,3} ^ [7,0,7] = [1,2,3,7] -/
example : (ISet.symdiff (start [0, 1, 2, 3]) [⟨.coll, [7, 0, 7]⟩]).toList = [1, 2, 3, 7] := by decide

/-- the binary search on a reachable interval table with three runs, against the abstraction -/
example : bisectLeftPy [(0, 1), (4, 5), (5, 6)] (5, 6) = 2 ∧ bisectLeft [(0, 1), (4, 5), (5, 6)] (5, 6) = 2 ∧
    bisectLeftPy [(0, 1), (4, 5), (5, 6)] (2, 3) = 1 ∧ Chain 0 [(0, 1), (4, 5), (5, 6)] 40 := by
  refine ⟨by decide, by decide, by decide, by simp [Chain]⟩

/-- on an UNSORTED table the binary search and the abstraction differ: the hypothesis is needed -/
example : bisectLeftPy [(7, 8), (0, 1), (3, 4)] (5, 6) ≠ bisectLeft [(7, 8), (0, 1), (3, 4)] (5, 6) := by decide

/-- a negative step: range(10) without 3, `s[2:4:-1]` = [7, 6] (= reversed [9,8,7,6,...][2:4]); a plain
    list gives `[]` for `l[2:4:-1]` - the two notions differ, which is why the statement excludes it -/
example : runOuts cfgReal natLe (start (List.range 10)) [.remove 3, .slice (some 2) (some 4) (some (-1))]
    = [.unit, .list [7, 6]] := by decide +kernel

/-- beyond the end with a tombstone inside: 9 live items in 10 slots, `s[9]` and `pop(9)` raise -/
example : runOuts cfgReal natLe (start (List.range 10)) [.remove 3, .get 9, .popAt 9, .get 8]
    = [.unit, .err .indexError, .err .indexError, .item 9] := by decide +kernel

/-- the threshold at work: 16 items, two removals leave 2 tombstones in 16 slots (2*8 = 16, not above),
    the third one (3*8 > 16) compacts: 13 slots, no interval -/
example : (runState cfgReal natLe (start (List.range 16)) [.remove 0, .remove 1]).items.length = 16 ∧
    (runState cfgReal natLe (start (List.range 16)) [.remove 0, .remove 1]).dead = [(0, 2)] ∧
    (runState cfgReal natLe (start (List.range 16)) [.remove 0, .remove 1, .remove 2]).items.length = 13 ∧
    (runState cfgReal natLe (start (List.range 16)) [.remove 0, .remove 1, .remove 2]).dead = [] := by
  decide +kernel

end C11
