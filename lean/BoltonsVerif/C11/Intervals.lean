import BoltonsVerif.C11.Basics
/-
C11 — the dead-interval table by itself (no item list): what a well-formed table is (`Chain`), what it covers (`DeadAt`),
`_add_dead` keeps it well formed and adds exactly one position, `bisect_left` as CPython's `Lib/bisect.py` writes it

    while lo < hi:
        mid = (lo + hi) // 2
        if a[mid] < x: lo = mid + 1
        else: hi = mid
    return lo

(the C accelerator `_bisect` is the same loop) returns on every `Chain` what the model's abstraction `bisectLeft` says: the
number of leading intervals lexicographically below the candidate; `addDeadPy` is `_add_dead` with that search, and
`addDeadPy_eq` shows the model loses nothing by the abstraction.
-/
namespace C11

def DeadAt (d : List (Nat × Nat)) (j : Nat) : Prop := ∃ p ∈ d, p.1 ≤ j ∧ j < p.2

/-- the intervals are non-empty, ordered, disjoint (adjacency allowed) and lie within `[lo, hi]` -/
def Chain : Nat → List (Nat × Nat) → Nat → Prop
  | lo, [], hi => lo ≤ hi
  | lo, (a, b) :: ds, hi => lo ≤ a ∧ a < b ∧ Chain b ds hi

namespace Chain
variable {lo hi a b : Nat} {ds : List (Nat × Nat)}

theorem lo_le_start (h : Chain lo ((a, b) :: ds) hi) : lo ≤ a := h.1
theorem start_lt_stop (h : Chain lo ((a, b) :: ds) hi) : a < b := h.2.1
theorem tail (h : Chain lo ((a, b) :: ds) hi) : Chain b ds hi := h.2.2

end Chain

@[simp] theorem deadAt_nil (j : Nat) : DeadAt [] j ↔ False := by simp [DeadAt]
@[simp] theorem deadAt_cons (p : Nat × Nat) (d : List (Nat × Nat)) (j : Nat) :
    DeadAt (p :: d) j ↔ (p.1 ≤ j ∧ j < p.2) ∨ DeadAt d j := by simp [DeadAt]
@[simp] theorem deadAt_append (d d' : List (Nat × Nat)) (j : Nat) :
    DeadAt (d ++ d') j ↔ DeadAt d j ∨ DeadAt d' j := by
  simp only [DeadAt, List.mem_append, or_and_right, exists_or]

theorem chain_le : ∀ (d : List (Nat × Nat)) (lo hi : Nat), Chain lo d hi → lo ≤ hi
  | [], lo, hi, h => h
  | (a, b) :: ds, lo, hi, h => by
    have := chain_le ds b hi h.tail
    have := h.lo_le_start; have := h.start_lt_stop; omega

theorem chain_weaken_lo : ∀ (d : List (Nat × Nat)) (lo lo' hi : Nat), lo' ≤ lo → Chain lo d hi → Chain lo' d hi
  | [], lo, lo', hi, h, hc => by simp only [Chain] at hc ⊢; omega
  | (a, b) :: ds, lo, lo', hi, h, hc => ⟨Nat.le_trans h hc.lo_le_start, hc.start_lt_stop, hc.tail⟩

theorem chain_weaken_hi : ∀ (d : List (Nat × Nat)) (lo hi hi' : Nat), hi ≤ hi' → Chain lo d hi → Chain lo d hi'
  | [], lo, hi, hi', h, hc => by simp only [Chain] at hc ⊢; omega
  | (a, b) :: ds, lo, hi, hi', h, hc => ⟨hc.lo_le_start, hc.start_lt_stop, chain_weaken_hi ds b hi hi' h hc.tail⟩

theorem chain_append : ∀ (p q : List (Nat × Nat)) (lo hi : Nat),
    Chain lo (p ++ q) hi ↔ ∃ m, Chain lo p m ∧ Chain m q hi
  | [], q, lo, hi => by
    simp only [List.nil_append, Chain]
    constructor
    · intro h; exact ⟨lo, Nat.le_refl _, h⟩
    · rintro ⟨m, h1, h2⟩; exact chain_weaken_lo q m lo hi h1 h2
  | (a, b) :: p, q, lo, hi => by
    simp only [List.cons_append, Chain]
    rw [chain_append p q b hi]
    constructor
    · rintro ⟨h1, h2, m, h3, h4⟩; exact ⟨m, ⟨h1, h2, h3⟩, h4⟩
    · rintro ⟨m, ⟨h1, h2, h3⟩, h4⟩; exact ⟨h1, h2, m, h3, h4⟩

theorem chain_raise_lo : ∀ (d : List (Nat × Nat)) (lo lo' hi : Nat), Chain lo d hi → lo' ≤ hi →
    (∀ q ∈ d.head?, lo' ≤ q.1) → Chain lo' d hi
  | [], _, _, _, _, h, _ => h
  | (a, b) :: _, _, _, _, hc, _, hq => ⟨hq (a, b) rfl, hc.start_lt_stop, hc.tail⟩

theorem chain_mem : ∀ (d : List (Nat × Nat)) (lo hi : Nat) (p : Nat × Nat), Chain lo d hi → p ∈ d →
    lo ≤ p.1 ∧ p.1 < p.2 ∧ p.2 ≤ hi
  | [], _, _, _, _, h => by simp at h
  | (a, b) :: ds, lo, hi, p, hc, h => by
    have hb := chain_le ds b hi hc.tail
    rcases List.mem_cons.1 h with h | h
    · subst h; exact ⟨hc.lo_le_start, hc.start_lt_stop, hb⟩
    · have := chain_mem ds b hi p hc.tail h
      have := hc.lo_le_start; have := hc.start_lt_stop; omega

theorem chain_deadAt (d : List (Nat × Nat)) (lo hi j : Nat) (hc : Chain lo d hi) : DeadAt d j → lo ≤ j ∧ j < hi := by
  rintro ⟨p, hp, h1, h2⟩
  have := chain_mem d lo hi p hc hp
  omega

theorem chain_around (P Q : List (Nat × Nat)) (q : Nat × Nat) (lo hi : Nat) (h : Chain lo (P ++ q :: Q) hi) :
    (∀ p ∈ P, p.2 ≤ q.1) ∧ q.1 < q.2 ∧ ∀ x ∈ Q, q.2 ≤ x.1 := by
  obtain ⟨m, hP, hmq, hq, hQ⟩ := (chain_append P (q :: Q) lo hi).1 h
  exact ⟨fun p hp => Nat.le_trans (chain_mem P lo m p hP hp).2.2 hmq, hq, fun x hx => (chain_mem Q q.2 hi x hQ hx).1⟩

theorem chain_tighten_hi : ∀ (d : List (Nat × Nat)) (lo hi n : Nat), Chain lo d hi → lo ≤ n →
    (∀ p ∈ d, p.2 ≤ n) → Chain lo d n
  | [], lo, hi, n, _, h, _ => h
  | (a, b) :: ds, lo, hi, n, hc, h, hp =>
    ⟨hc.lo_le_start, hc.start_lt_stop,
      chain_tighten_hi ds b hi n hc.tail (hp (a, b) (by simp)) (fun p hm => hp p (by simp [hm]))⟩

theorem deadAt_cons_new (d : List (Nat × Nat)) (x j : Nat) :
    DeadAt ((x, x + 1) :: d) j ↔ (DeadAt d j ∨ j = x) := by
  rw [deadAt_cons]
  have e : ((x, x + 1).1 ≤ j ∧ j < (x, x + 1).2) ↔ j = x := by simp; omega
  rw [e]; exact or_comm

theorem deadAt_insert_new (P Q : List (Nat × Nat)) (x j : Nat) :
    DeadAt (P ++ (x, x + 1) :: Q) j ↔ (DeadAt (P ++ Q) j ∨ j = x) := by
  simp only [deadAt_append, deadAt_cons_new]
  grind

theorem deadAt_extend (P Q : List (Nat × Nat)) (a x j : Nat) (h : a ≤ x) :
    DeadAt (P ++ (a, x + 1) :: Q) j ↔ (DeadAt (P ++ (a, x) :: Q) j ∨ j = x) := by
  simp only [deadAt_append, deadAt_cons]
  have e : (a ≤ j ∧ j < x + 1) ↔ ((a ≤ j ∧ j < x) ∨ j = x) := by omega
  simp only [e]
  grind

theorem lexLt_iff (c p : Nat × Nat) : lexLt c p = true ↔ p.1 < c.1 ∨ (p.1 = c.1 ∧ p.2 < c.2) := by
  simp [lexLt]

/-- `_add_dead` on a non-empty table, with the two indexes it computes given by equations so that a caller can put in the
    values it knows them to have.  `(ds, de)` is `dints[int_idx - 1]`; for `int_idx = 0` that is index -1, the LAST entry -/
theorem addDead_of_neighbour {d : List (Nat × Nat)} {x i j ds de : Nat} (hi : bisectLeft d (x, x + 1) = i)
    (hj : (if i = 0 then d.length - 1 else i - 1) = j) (hget : d[j]? = some (ds, de)) :
    addDead d x = if x ≤ ds ∧ ds ≤ x + 1 then d.set j (x, de)
      else if x ≤ de ∧ de ≤ x + 1 then d.set j (ds, x + 1) else d.insertIdx i (x, x + 1) := by
  have hne : d.isEmpty = false := by cases d with | nil => simp at hget | cons _ _ => rfl
  simp only [addDead, hne, hi, hj, hget, Bool.false_eq_true, if_false]

theorem addDead_length_le (d : List (Nat × Nat)) (i : Nat) : (addDead d i).length ≤ d.length + 1 := by
  cases hj : d[if bisectLeft d (i, i + 1) = 0 then d.length - 1 else bisectLeft d (i, i + 1) - 1]? with
  | none =>
    unfold addDead
    by_cases he : d.isEmpty = true
    · rw [if_pos he]; exact Nat.succ_le_succ (Nat.zero_le _)
    · rw [if_neg he]; simp only [hj]; exact Nat.le_succ _
  | some p =>
    obtain ⟨ds, de⟩ := p
    rw [addDead_of_neighbour rfl rfl hj]
    by_cases c1 : i ≤ ds ∧ ds ≤ i + 1
    · rw [if_pos c1, List.length_set]; exact Nat.le_succ _
    · rw [if_neg c1]
      by_cases c2 : i ≤ de ∧ de ≤ i + 1
      · rw [if_pos c2, List.length_set]; exact Nat.le_succ _
      · rw [if_neg c2, List.length_insertIdx]; split <;> omega

theorem addDead_spec (d : List (Nat × Nat)) (x len : Nat) (hc : Chain 0 d len) (hx : x < len)
    (hnd : ¬ DeadAt d x) :
    Chain 0 (addDead d x) len ∧ ∀ j, DeadAt (addDead d x) j ↔ (DeadAt d j ∨ j = x) := by
  obtain ⟨P, Q, hd, hP, hPall, hQ⟩ := takeWhile_split (lexLt (x, x + 1)) d
  -- `x` is not covered: the intervals below the candidate end at or before `x`, the next one starts behind it
  have hPlt : ∀ p ∈ P, p.1 < p.2 ∧ p.2 ≤ x := by
    intro p hp
    have h1 := (lexLt_iff _ _).1 (hPall p hp)
    have hmem : p ∈ d := by rw [hd]; exact List.mem_append_left _ hp
    have hcp := chain_mem d 0 len p hc hmem
    have hnd' : ¬ (p.1 ≤ x ∧ x < p.2) := fun h => hnd ⟨p, hmem, h⟩
    simp only at h1; omega
  have hQgt : ∀ q ∈ Q.head?, x < q.1 := by
    intro q h
    have h1 := mt (lexLt_iff (x, x + 1) q).2 (by rw [hQ q h]; exact Bool.false_ne_true)
    have hmem : q ∈ d := by rw [hd]; exact List.mem_append_right _ (List.mem_of_mem_head? h)
    have hcp := chain_mem d 0 len q hc hmem
    have hnd' : ¬ (q.1 ≤ x ∧ x < q.2) := fun h => hnd ⟨q, hmem, h⟩
    simp only at h1; omega
  have hi : bisectLeft d (x, x + 1) = P.length := by rw [bisectLeft, hP]
  rcases nil_or_snoc P with hPn | ⟨P', p, hPc⟩
  · -- nothing below the candidate: `int_idx = 0`, and the neighbour looked at is the last interval
    subst hPn
    rw [List.nil_append] at hd
    subst hd
    cases d with
    | nil => exact ⟨⟨Nat.zero_le _, Nat.lt_succ_self _, hx⟩, deadAt_cons_new [] x⟩
    | cons q Q' =>
      obtain ⟨q1, q2⟩ := q
      have hq : x < q1 := hQgt _ rfl
      obtain ⟨_, hq12, hcq⟩ := hc
      rcases nil_or_snoc Q' with hQn | ⟨Q'', z, hQc⟩
      · -- the only interval
        subst hQn
        rw [addDead_of_neighbour (j := 0) (ds := q1) (de := q2) hi rfl rfl]
        by_cases c1 : x ≤ q1 ∧ q1 ≤ x + 1
        · rw [if_pos c1]
          refine ⟨⟨Nat.zero_le _, by omega, hcq⟩, fun j => ?_⟩
          simp only [List.set_cons_zero, deadAt_cons, deadAt_nil, or_false]; omega
        · rw [if_neg c1, if_neg (by omega)]
          exact ⟨⟨Nat.zero_le _, Nat.lt_succ_self _, by omega, hq12, hcq⟩, deadAt_cons_new _ x⟩
      · -- the last interval is out of reach of `x`
        subst hQc
        obtain ⟨z1, z2⟩ := z
        have hz := chain_mem _ q2 len (z1, z2) hcq (by simp)
        simp only at hz
        rw [addDead_of_neighbour (ds := z1) (de := z2) hi rfl (by simp), if_neg (by omega), if_neg (by omega)]
        exact ⟨⟨Nat.zero_le _, Nat.lt_succ_self _, by omega, hq12, hcq⟩, deadAt_cons_new _ x⟩
  · -- the neighbour is the last interval below the candidate
    subst hPc
    obtain ⟨p1, p2⟩ := p
    have hp := hPlt (p1, p2) (by simp)
    simp only at hp
    have hget : d[P'.length]? = some (p1, p2) := by rw [hd]; simp
    rw [addDead_of_neighbour hi (by simp) hget, if_neg (by omega)]
    rw [hd, List.append_assoc, chain_append] at hc
    obtain ⟨m, hcP, hmp, _, hcQ⟩ := hc
    have hQlo : Chain (x + 1) Q len :=
      chain_raise_lo Q p2 (x + 1) len hcQ (by omega) hQgt
    by_cases c2 : x ≤ p2 ∧ p2 ≤ x + 1
    · have hp2 : p2 = x := by omega
      have hset : d.set P'.length (p1, x + 1) = P' ++ (p1, x + 1) :: Q := by rw [hd]; simp
      rw [if_pos c2, hset]
      refine ⟨(chain_append ..).2 ⟨m, hcP, hmp, by omega, hQlo⟩, fun j => ?_⟩
      rw [deadAt_extend P' Q p1 x j (by omega), hd, ← hp2, List.append_assoc]; rfl
    · have hins : d.insertIdx (P' ++ [(p1, p2)]).length (x, x + 1) = (P' ++ [(p1, p2)]) ++ (x, x + 1) :: Q := by
        rw [hd]; exact insertIdx_append_length _ _ _
      rw [if_neg c2, hins]
      refine ⟨?_, fun j => by rw [deadAt_insert_new, hd]⟩
      rw [List.append_assoc, chain_append]
      exact ⟨m, hcP, hmp, hp.1, by omega, Nat.lt_succ_self _, hQlo⟩

theorem bsearch_boundary (p : Nat → Bool) (t : Nat) :
    ∀ (fuel lo hi : Nat), lo ≤ t → t ≤ hi → hi - lo ≤ fuel →
      (∀ i, lo ≤ i → i < t → p i = true) → (∀ i, t ≤ i → i < hi → p i = false) →
      bsearch p fuel lo hi = t := by
  intro fuel
  induction fuel with
  | zero => intro lo hi h1 h2 h3 _ _; simp only [bsearch]; omega
  | succ n ih =>
    intro lo hi h1 h2 h3 hT hF
    simp only [bsearch]
    by_cases hlt : lo < hi
    · rw [if_pos hlt]
      have hm1 : lo ≤ (lo + hi) / 2 := by omega
      have hm2 : (lo + hi) / 2 < hi := by omega
      by_cases hp : p ((lo + hi) / 2) = true
      · rw [if_pos hp]
        have : (lo + hi) / 2 < t := by
          apply Classical.byContradiction
          intro hge
          have := hF ((lo + hi) / 2) (by omega) hm2
          rw [this] at hp; cases hp
        exact ih _ _ (by omega) h2 (by omega) (fun i hi1 hi2 => hT i (by omega) hi2) hF
      · rw [if_neg hp]
        have : t ≤ (lo + hi) / 2 := by
          apply Classical.byContradiction
          intro hge
          exact hp (hT ((lo + hi) / 2) hm1 (by omega))
        exact ih _ _ h1 this (by omega) hT (fun i hi1 hi2 => hF i hi1 (by omega))
    · rw [if_neg hlt]; omega

theorem bsearch_le (p : Nat → Bool) : ∀ (fuel lo hi : Nat), lo ≤ hi → bsearch p fuel lo hi ≤ hi := by
  intro fuel
  induction fuel with
  | zero => intro lo hi h; simpa [bsearch] using h
  | succ n ih =>
    intro lo hi h
    simp only [bsearch]
    split
    · split
      · exact ih _ _ (by omega)
      · exact Nat.le_trans (ih _ _ (by omega)) (by omega)
    · exact h

theorem bisectLeftPy_le (d : List (Nat × Nat)) (c : Nat × Nat) : bisectLeftPy d c ≤ d.length :=
  bsearch_le _ _ _ _ (Nat.zero_le _)

/-- in a `Chain` the starts increase strictly: behind an entry that is not below the candidate no entry is -/
theorem lexLt_false_behind (c : Nat × Nat) {P Q : List (Nat × Nat)} {q : Nat × Nat} {lo hi : Nat}
    (hc : Chain lo (P ++ q :: Q) hi) (hq : lexLt c q = false) : ∀ x ∈ Q, lexLt c x = false := by
  intro x hx
  obtain ⟨_, hq12, hQ⟩ := chain_around P Q q lo hi hc
  have := hQ x hx
  simp only [lexLt, Bool.or_eq_false_iff, Bool.and_eq_false_imp, decide_eq_false_iff_not,
    beq_iff_eq] at hq ⊢
  omega

theorem bisectLeftPy_eq (d : List (Nat × Nat)) (lo hi : Nat) (hc : Chain lo d hi) (c : Nat × Nat) :
    bisectLeftPy d c = bisectLeft d c := by
  obtain ⟨P, Q, hd, hP, hPall, hQ⟩ := takeWhile_split (lexLt c) d
  have ht : bisectLeft d c = P.length := by simp [bisectLeft, hP]
  rw [ht]
  unfold bisectLeftPy
  apply bsearch_boundary (ltAt d c) P.length d.length 0 d.length (Nat.zero_le _)
    (by rw [hd]; simp) (by omega)
  · intro i _ hi
    have : d[i]? = some P[i] := by rw [hd, List.getElem?_append_left hi, List.getElem?_eq_getElem hi]
    simp only [ltAt, this]
    exact hPall _ (List.getElem_mem hi)
  · intro i h1 h2
    cases Q with
    | nil => rw [hd] at h2; simp at h2; omega
    | cons q Q' =>
      have hq := hQ q rfl
      have hlen : d.length = P.length + (Q'.length + 1) := by rw [hd]; simp
      have hget : d[i]? = (q :: Q')[i - P.length]? := by
        rw [hd, List.getElem?_append_right h1]
      simp only [ltAt, hget]
      by_cases h0 : i - P.length = 0
      · rw [h0]; simpa using hq
      · obtain ⟨j, hj⟩ : ∃ j, i - P.length = j + 1 := ⟨i - P.length - 1, by omega⟩
        rw [hj, List.getElem?_cons_succ]
        have hjl : j < Q'.length := by omega
        rw [List.getElem?_eq_getElem hjl]
        exact lexLt_false_behind c (hd ▸ hc) hq _ (List.getElem_mem hjl)

theorem addDeadPy_eq (d : List (Nat × Nat)) (lo hi : Nat) (hc : Chain lo d hi) (start : Nat) :
    addDeadPy d start = addDead d start := by
  unfold addDeadPy addDead
  rw [bisectLeftPy_eq d lo hi hc]

theorem popDeadFrom_length_le (d : List (Nat × Nat)) (n : Nat) : (popDeadFrom d n).length ≤ d.length := by
  unfold popDeadFrom
  rw [List.length_reverse, ← List.length_reverse (as := d)]
  exact (List.dropWhile_sublist _).length_le

/-- the loop of `_cull` pops from the end: what stays is a prefix -/
theorem popDeadFrom_eq_take (d : List (Nat × Nat)) (n : Nat) : popDeadFrom d n = d.take (popDeadFrom d n).length :=
  List.prefix_iff_eq_take.1 (by
    unfold popDeadFrom
    conv => rhs; rw [← List.reverse_reverse d]
    exact List.reverse_prefix.2 (List.dropWhile_suffix _))

theorem popDeadFrom_snoc (d : List (Nat × Nat)) (p : Nat × Nat) (n : Nat) :
    popDeadFrom (d ++ [p]) n = if n ≤ p.1 then popDeadFrom d n else d ++ [p] := by
  simp only [popDeadFrom, List.reverse_append, List.reverse_cons, List.reverse_nil, List.nil_append,
    List.singleton_append, List.dropWhile_cons, startsAtOrAfter, decide_eq_true_eq]
  split <;> simp

end C11
