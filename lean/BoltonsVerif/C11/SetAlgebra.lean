import BoltonsVerif.C11.Ops
/-
C11 — the set-style methods: the model's views of an operand agree with the specification's, then each operation
against its list description.  An operation that returns a new set is stated with the validity of that set; for the in-place
ones (`update`, `*_update`) only the list is stated: that the new state is valid is `step_inv` (`Moves.lean`).
-/
namespace C11
variable {α : Type} [DecidableEq α]
open Spec

theorem opElems_eq (s : ISet α) (o : Operand α) : s.opElems o = opItems s.toList o := by
  unfold ISet.opElems opItems; cases o.kind <;> rfl

theorem opMem_eq (s : ISet α) (h : InvC s) (o : Operand α) (k : α) : s.opMem o k = memOp s.toList o k := by
  unfold ISet.opMem memOp opItems
  cases o.kind with
  | self => exact h.contains_eq k
  | iset => simp
  | coll => simp

theorem inAll_eq (s : ISet α) (h : InvC s) (os : List (Operand α)) (k : α) :
    s.inAll os k = Spec.inAll s.toList os k := by
  simp only [ISet.inAll, Spec.inAll, opMem_eq s h]

theorem inNone_eq (s : ISet α) (h : InvC s) (os : List (Operand α)) (k : α) :
    s.inNone os k = Spec.inNone s.toList os k := by
  simp only [ISet.inNone, Spec.inNone, opMem_eq s h]

theorem flatMap_opElems (s : ISet α) (os : List (Operand α)) :
    os.flatMap s.opElems = os.flatMap (opItems s.toList) :=
  congrArg (os.flatMap ·) (funext (opElems_eq s))

theorem union_spec (s : ISet α) (h : Inv s) (os : List (Operand α)) :
    Inv (s.union os) ∧ (s.union os).toList = addAll s.toList (os.flatMap (opItems s.toList)) := by
  unfold ISet.union
  refine ⟨(ofList_spec _).1, ?_⟩
  rw [(ofList_spec _).2, dedup_append, dedup_nodup_eq _ h.toInvC.toList_nodup, flatMap_opElems]

/-- `IndexedSet(item for item in self if …)`, with the test `p` of the model read as the test `q` of the specification -/
theorem ofList_filter (s : ISet α) (h : InvC s) (p q : α → Bool) (hpq : ∀ k, p k = q k) :
    Inv (ISet.ofList (s.toList.filter p)) ∧ (ISet.ofList (s.toList.filter p)).toList = s.toList.filter q :=
  ⟨(ofList_spec _).1, (ofList_nodup _ (h.toList_nodup.sublist List.filter_sublist)).trans (List.filter_congr fun k _ => hpq k)⟩

theorem inter_spec (s : ISet α) (h : Inv s) (os : List (Operand α)) :
    Inv (s.inter os) ∧ (s.inter os).toList = s.toList.filter (Spec.inAll s.toList os) :=
  ofList_filter s h.toInvC _ _ (inAll_eq s h.toInvC os)

theorem diff_spec (s : ISet α) (h : Inv s) (os : List (Operand α)) :
    Inv (s.diff os) ∧ (s.diff os).toList = s.toList.filter (Spec.inNone s.toList os) :=
  ofList_filter s h.toInvC _ _ (inNone_eq s h.toInvC os)

theorem diff_iset (s t : ISet α) (h : Inv s) :
    (s.diff [t.asOperand]).toList = s.toList.filter (notIn t.toList) := by
  rw [(diff_spec s h _).2]
  apply List.filter_congr
  intro k _
  by_cases hk : k ∈ t.toList <;> simp [Spec.inNone, memOp, opItems, ISet.asOperand, notIn, hk]

theorem update_spec (s : ISet α) (h : Inv s) (os : List (Operand α)) :
    (s.update os).toList = addAll s.toList (os.flatMap (opItems s.toList)) := by
  unfold ISet.update
  cases os with
  | nil => rfl
  | cons o os =>
    simp only [List.isEmpty_cons, Bool.false_eq_true, if_false]
    rw [← flatMap_opElems]
    exact (foldl_refines ISet.add specAdd add_spec _ s h).2

/-- `for item in self - kept: self.discard(item)`, `kept` = the items of `self` selected by `p` -/
theorem discard_unkept (cfg : Cfg) (t k : ISet α) (ht : Inv t) (p : α → Bool) (hk : k.toList = t.toList.filter p) :
    ((t.diff [k.asOperand]).toList.foldl (ISet.discard cfg) t).toList = t.toList.filter p := by
  rw [(foldl_refines (ISet.discard cfg) List.erase (discard_spec cfg) _ t ht).2, foldl_erase _ _ ht.toInvC.toList_nodup,
    diff_iset t _ ht, hk]
  apply List.filter_congr
  intro x hx
  cases hp : p x <;> simp [notIn, hx, hp]

theorem interUpdate_spec (cfg : Cfg) (s : ISet α) (h : Inv s) (os : List (Operand α)) :
    (s.interUpdate cfg os).toList = s.toList.filter (Spec.inAll s.toList os) :=
  discard_unkept cfg s _ h _ (inter_spec s h os).2

theorem eqOperand_imp (s : ISet α) (o : Operand α) (he : s.eqOperand o = true) :
    ∀ k ∈ s.toList, k ∈ opItems s.toList o := by
  unfold ISet.eqOperand at he
  unfold opItems
  intro k hk
  cases hkind : o.kind with
  | self => simpa using hk
  | iset =>
    rw [hkind] at he; simp at he
    simp only; rw [← he.2]; exact hk
  | coll =>
    rw [hkind] at he; simp at he
    simp only; exact he.1 k hk

theorem diffUpdate_spec (cfg : Cfg) (s : ISet α) (h : Inv s) (os : List (Operand α)) :
    (s.diffUpdate cfg os).toList = s.toList.filter (Spec.inNone s.toList os) := by
  unfold ISet.diffUpdate
  by_cases he : os.any s.eqOperand = true
  · simp only [he, if_true]
    refine (discard_unkept cfg s.clear _ inv_empty _ (diff_spec s.clear inv_empty os).2).trans ?_
    -- some operand contains every item of the receiver: nothing survives the difference
    obtain ⟨o, ho, heq⟩ := List.any_eq_true.1 he
    symm
    show List.filter (Spec.inNone s.toList os) s.toList = []
    rw [List.filter_eq_nil_iff]
    intro k hk hall
    have hm := eqOperand_imp s o heq k hk
    have := (List.all_eq_true.1 hall) o ho
    simp [memOp, hm] at this
  · simp only [he]
    exact discard_unkept cfg s _ h _ (diff_spec s h os).2

theorem symdiff_spec (s : ISet α) (h : Inv s) (o : Operand α) :
    Inv (s.symdiff [o]) ∧ (s.symdiff [o]).toList = symdiff1 s.toList o := by
  unfold ISet.symdiff
  have hU := union_spec s h [o]
  have hI := inter_spec s h [o]
  refine ⟨(diff_spec _ hU.1 _).1, ?_⟩
  rw [diff_iset _ _ hU.1, hU.2, hI.2]
  simp only [List.flatMap_cons, List.flatMap_nil, List.append_nil]
  rw [addAll_eq_append_dedup, List.filter_append]
  unfold symdiff1
  congr 1
  · apply List.filter_congr
    intro k hk
    by_cases hm : k ∈ opItems s.toList o <;> simp [notIn, Spec.inAll, memOp, hk, hm]
  · rw [List.filter_eq_self]
    intro k hk
    have hkl : k ∉ s.toList := by
      have := (List.mem_filter.1 hk).2
      simpa using this
    simp [notIn, hkl]

theorem toggle_spec (cfg : Cfg) (s : ISet α) (h : Inv s) (v : α) :
    Inv (s.toggle cfg v) ∧ (s.toggle cfg v).toList = specToggle s.toList v := by
  unfold ISet.toggle specToggle
  by_cases hv : v ∈ s.toList
  · simp only [h.toInvC.contains_eq, hv, decide_true, if_true]
    exact discard_spec cfg s h v
  · simp only [h.toInvC.contains_eq, hv, decide_false, Bool.false_eq_true, if_false]
    exact ⟨inv_add s h v, by rw [toList_add s h.toInvC v, if_neg hv]⟩

theorem symUpdate_spec (cfg : Cfg) (s : ISet α) (h : Inv s) (o : Operand α) :
    (s.symUpdate cfg o).toList = symdiff1 s.toList o := by
  unfold ISet.symUpdate symdiff1 opItems
  cases hk : o.kind with
  | self =>
    simp only
    have e1 : s.toList.filter (notIn s.toList) = [] := by
      rw [List.filter_eq_nil_iff]; intro k hk; simp [notIn, hk]
    have e2 : (dedup s.toList).filter (notIn s.toList) = [] := by
      rw [List.filter_eq_nil_iff]; intro k hk
      have := (mem_dedup s.toList k).1 hk
      simp [notIn, this]
    rw [e1, e2]; rfl
  | iset | coll =>
    simp only
    rw [(foldl_refines (ISet.toggle cfg) specToggle (toggle_spec cfg) _ s h).2, (ofList_spec o.elems).2,
      foldl_toggle _ _ (nodup_dedup _) h.toInvC.toList_nodup]
    congr 1
    apply List.filter_congr
    intro k _
    by_cases hm : k ∈ o.elems <;> simp [notIn, mem_dedup, hm]

theorem rsub_spec (s : ISet α) (h : Inv s) (o : Operand α) :
    s.rsub o = (opItems s.toList o).filter (notIn s.toList) := by
  unfold ISet.rsub
  rw [opElems_eq]
  apply List.filter_congr
  intro k _
  simp [h.toInvC.contains_eq, notIn]

theorem issuperset_spec (s : ISet α) (h : Inv s) (o : Operand α) :
    s.issuperset o = (opItems s.toList o).all fun x => decide (x ∈ s.toList) := by
  unfold ISet.issuperset
  rw [opElems_eq]
  congr 1
  funext k
  exact h.toInvC.contains_eq k

theorem isdisjoint_spec (s : ISet α) (h : Inv s) (o : Operand α) :
    s.isdisjoint o = (opItems s.toList o).all (notIn s.toList) := by
  unfold ISet.isdisjoint
  rw [opElems_eq]
  congr 1
  funext k
  simp [h.toInvC.contains_eq, notIn]

theorem issubset_spec (s : ISet α) (h : Inv s) (o : Operand α) :
    s.issubset o = s.toList.all (memOp s.toList o) := by
  unfold ISet.issubset
  have hall : (IMap.keys s.idx).all (s.opMem o) = s.toList.all (memOp s.toList o) := by
    rw [h.perm.all_eq]
    show s.toList.all (s.opMem o) = s.toList.all (memOp s.toList o)
    congr 1
    funext k
    exact opMem_eq s h.toInvC o k
  by_cases hlt : s.opLen o < s.len
  · simp only [hlt, if_true]
    symm
    cases hc : s.toList.all (memOp s.toList o) with
    | false => rfl
    | true =>
      exfalso
      have hsub : s.toList ⊆ opItems s.toList o := by
        intro k hk
        have := (List.all_eq_true.1 hc) k hk
        simpa [memOp] using this
      have hle := h.toInvC.toList_nodup.length_le_of_subset hsub
      rw [h.toInvC.len_eq] at hlt
      unfold ISet.opLen at hlt
      unfold opItems at hle
      cases hk : o.kind <;> simp only [hk] at hlt hle
      · rw [h.toInvC.len_eq] at hlt; omega
      · omega
      · omega
  · simp only [hlt, if_false]
    exact hall

end C11
