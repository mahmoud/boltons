import BoltonsVerif.C11.Inv
import BoltonsVerif.C11.SpecLists
/-
C11 — each list-style method against the operation on the plain list (`Inv s' ∧ s'.toList = f s.toList`), and slices
(negative steps included).
-/
namespace C11
variable {α : Type} [DecidableEq α]
open Spec

theorem count_eq (s : ISet α) (h : InvC s) (x : α) : s.count x = s.toList.count x := by
  rw [ISet.count, h.contains_eq, h.toList_nodup.count]
  by_cases hx : x ∈ s.toList <;> simp [hx]

theorem remove_spec (cfg : Cfg) (s : ISet α) (h : Inv s) (x : α) :
    (x ∈ s.toList → ∃ s', s.remove cfg x = .ok s' ∧ Inv s' ∧ s'.toList = s.toList.erase x) ∧
    (x ∉ s.toList → s.remove cfg x = .error .keyError) := by
  unfold ISet.remove
  constructor
  · intro hx
    obtain ⟨i, hl, hslot⟩ := h.toInvC.lookup_some x hx
    have hcull := cull_spec cfg _ (invC_kill s h.toInvC i x hslot)
    rw [hl]
    exact ⟨_, rfl, hcull.1, hcull.2.trans (live_set_none s.items i x hslot h.nodup)⟩
  · intro hx
    rw [h.toInvC.lookup_none x hx]

theorem discard_spec (cfg : Cfg) (s : ISet α) (h : Inv s) (x : α) :
    Inv (s.discard cfg x) ∧ (s.discard cfg x).toList = s.toList.erase x := by
  unfold ISet.discard
  by_cases hx : x ∈ s.toList
  · obtain ⟨s', h1, h2, h3⟩ := (remove_spec cfg s h x).1 hx
    rw [h1]; exact ⟨h2, h3⟩
  · rw [(remove_spec cfg s h x).2 hx]
    exact ⟨h, (List.erase_of_not_mem hx).symm⟩

theorem popLast_spec (cfg : Cfg) (s : ISet α) (h : Inv s) :
    (∀ hne : s.toList ≠ [], ∃ s', s.popLast cfg = .ok (s', s.toList.getLast hne) ∧ Inv s' ∧
        s'.toList = s.toList.dropLast) ∧
    (s.toList = [] → s.popLast cfg = .error .indexError) := by
  unfold ISet.popLast
  cases hl : s.items.getLast? with
  | none =>
    have : s.items = [] := by simpa using hl
    constructor
    · intro hne; exfalso; apply hne; simp [ISet.toList, this]
    · intro _; rfl
  | some o =>
    cases o with
    | none => exact absurd hl h.lastLive
    | some x =>
      have hlive := live_dropLast_some s.items x hl
      have hpre := invC_dropLast s h.toInvC x hl
      have hcull := cull_spec cfg _ hpre
      constructor
      · intro hne
        refine ⟨_, ?_, hcull.1, ?_⟩
        · have : s.toList.getLast hne = x := by
            have e : s.toList = live s.items.dropLast ++ [x] := hlive
            simp [e]
          rw [this]
        · rw [hcull.2]
          show live s.items.dropLast = (live s.items).dropLast
          rw [hlive]; simp
      · intro he
        exfalso
        have : live s.items = [] := he
        rw [hlive] at this; simp at this

theorem normIndex_nonneg (s : ISet α) (k : Nat) : s.normIndex (k : Int) = some k := by
  unfold ISet.normIndex
  have : ¬ ((k : Int) < 0) := by omega
  simp [this]

theorem normIndex_neg (s : ISet α) (k : Nat) (hk : k < s.len) :
    s.normIndex ((k : Int) - (s.len : Int)) = some k := by
  unfold ISet.normIndex
  have h1 : (k : Int) - (s.len : Int) < 0 := by omega
  have h2 : ¬ ((k : Int) - (s.len : Int) + (s.len : Int) < 0) := by omega
  simp only [h1, h2, if_true, if_false]
  congr 1
  omega

theorem normIndex_valid (s : ISet α) (h : InvC s) (k : Nat) (hk : k < s.toList.length) (i : Int)
    (hi : i = (k : Int) ∨ i = (k : Int) - (s.toList.length : Int)) : s.normIndex i = some k := by
  rcases hi with hi | hi
  · rw [hi]; exact normIndex_nonneg s k
  · rw [hi, ← h.len_eq]; exact normIndex_neg s k (by rw [h.len_eq]; exact hk)

theorem getItem_spec (s : ISet α) (h : Inv s) (k : Nat) (hk : k < s.toList.length) (i : Int)
    (hi : i = (k : Int) ∨ i = (k : Int) - (s.toList.length : Int)) :
    s.getItem i = .ok s.toList[k] := by
  unfold ISet.getItem
  rw [normIndex_valid s h.toInvC k hk i hi]
  simp only [slot_of_index s h.toInvC k hk]

theorem index_spec (s : ISet α) (h : Inv s) (x : α) :
    (x ∈ s.toList → s.index x = .ok (s.toList.idxOf x)) ∧
    (x ∉ s.toList → s.index x = .error .valueError) := by
  unfold ISet.index
  constructor
  · intro hx
    obtain ⟨r, hl, hslot⟩ := h.toInvC.lookup_some x hx
    rw [hl, ← index_of_slot s h.toInvC r x hslot]
  · intro hx
    rw [h.toInvC.lookup_none x hx]

theorem popAt_spec (cfg : Cfg) (s : ISet α) (h : Inv s) (k : Nat) (hk : k < s.toList.length) (i : Int)
    (hi : i = (k : Int) ∨ i = (k : Int) - (s.toList.length : Int)) :
    ∃ s', s.popAt cfg i = .ok (s', s.toList[k]) ∧ Inv s' ∧ s'.toList = s.toList.eraseIdx k := by
  have hlen := h.toInvC.len_eq
  unfold ISet.popAt
  by_cases hlast : i = -1 ∨ i = (s.len : Int) - 1
  · -- the last item: `item_list.pop()`
    simp only [hlast, if_true]
    have hkl : k = s.toList.length - 1 := by
      rw [hlen] at hlast
      rcases hi with hi | hi <;> rcases hlast with hl | hl <;> omega
    have hne : s.toList ≠ [] := by intro e; rw [e] at hk; simp at hk
    obtain ⟨s', h1, h2, h3⟩ := (popLast_spec cfg s h).1 hne
    refine ⟨s', ?_, h2, ?_⟩
    · rw [h1]
      have : s.toList.getLast hne = s.toList[k] := by
        rw [List.getLast_eq_getElem]; simp [hkl]
      rw [this]
    · rw [h3, hkl, List.dropLast_eq_take, List.eraseIdx_eq_take_drop_succ]
      have : s.toList.length - 1 + 1 = s.toList.length := by omega
      rw [this]; simp
  · simp only [hlast, if_false]
    rw [normIndex_valid s h.toInvC k hk i hi]
    simp only
    have hslot := slot_of_index s h.toInvC k hk
    simp only [hslot]
    have hcull := cull_spec cfg _ (invC_kill s h.toInvC _ _ hslot)
    refine ⟨_, rfl, hcull.1, ?_⟩
    rw [hcull.2]
    show live (s.items.set (realLoop k s.dead) none) = s.toList.eraseIdx k
    rw [live_set_none s.items _ _ hslot h.nodup]
    show s.toList.erase s.toList[k] = s.toList.eraseIdx k
    exact List.erase_eq_eraseIdx_of_idxOf (h.nodup.idxOf_getElem k hk)

/-! ### what a removal that succeeds returns: `_cull` of the state it leaves -/

theorem remove_ok {cfg : Cfg} {s r : ISet α} {x : α} (h : s.remove cfg x = .ok r) :
    ∃ i, IMap.lookup s.idx x = some i ∧ r = cull cfg ⟨s.items.set i none, s.idx.erase x, addDead s.dead i⟩ := by
  unfold ISet.remove at h
  cases hl : IMap.lookup s.idx x with
  | none => rw [hl] at h; cases h
  | some i => rw [hl] at h; cases h; exact ⟨i, rfl, rfl⟩

theorem popLast_ok {cfg : Cfg} {s s' : ISet α} {x : α} (h : s.popLast cfg = .ok (s', x)) :
    s.items.getLast? = some (some x) ∧ s' = cull cfg ⟨s.items.dropLast, s.idx.erase x, s.dead⟩ := by
  unfold ISet.popLast at h
  rcases hl : s.items.getLast? with _ | _ | y <;> rw [hl] at h <;> cases h
  exact ⟨rfl, rfl⟩

theorem popAt_ok {cfg : Cfg} {s s' : ISet α} {i : Int} {x : α} (h : s.popAt cfg i = .ok (s', x)) :
    ((i = -1 ∨ i = (s.len : Int) - 1) ∧ s.popLast cfg = .ok (s', x)) ∨
    (¬ (i = -1 ∨ i = (s.len : Int) - 1) ∧ ∃ k, s.normIndex i = some k ∧ s.items[realLoop k s.dead]? = some (some x) ∧
      s' = cull cfg ⟨s.items.set (realLoop k s.dead) none, s.idx.erase x, addDead s.dead (realLoop k s.dead)⟩) := by
  unfold ISet.popAt at h
  split at h
  · exact Or.inl ⟨‹_›, h⟩
  · rcases hn : s.normIndex i with _ | k <;> rw [hn] at h
    · cases h
    · rcases hs : s.items[realLoop k s.dead]? with _ | _ | y <;> simp only [hs] at h <;> cases h
      exact Or.inr ⟨‹_›, k, rfl, hs, rfl⟩

theorem reversed_eq (s : ISet α) : s.reversed = s.toList.reverse := live_reverse s.items

theorem reverse_spec (s : ISet α) (h : Inv s) : Inv s.reverse ∧ s.reverse.toList = s.toList.reverse := by
  unfold ISet.reverse
  have hp : s.reversed.Perm (live s.items) := by rw [reversed_eq]; exact List.reverse_perm _
  refine ⟨inv_rebuild s h.toInvC _ hp, ?_⟩
  show live (s.reversed.map some) = s.toList.reverse
  rw [live_map_some, reversed_eq]

theorem sort_spec (le : α → α → Bool) (rev : Bool) (s : ISet α) (h : Inv s) :
    Inv (s.sort le rev) ∧ (s.sort le rev).toList = ISet.sortedList le rev s.toList := by
  unfold ISet.sort
  by_cases he : (ISet.sortedList le rev s.toList).map some = s.items
  · simp only [he, if_true]
    refine ⟨h, ?_⟩
    conv => lhs; unfold ISet.toList; rw [← he, live_map_some]
  · simp only [he, if_false]
    exact ⟨inv_rebuild s h.toInvC _ (sortedList_perm le rev _), by simp [ISet.toList, live_map_some]⟩

theorem clear_spec (s : ISet α) : Inv s.clear ∧ s.clear.toList = [] := ⟨inv_empty, rfl⟩

theorem foldl_refines {β : Type} (f : ISet α → β → ISet α) (g : List α → β → List α)
    (hstep : ∀ s, Inv s → ∀ x, Inv (f s x) ∧ (f s x).toList = g s.toList x) :
    ∀ (xs : List β) (s : ISet α), Inv s → Inv (xs.foldl f s) ∧ (xs.foldl f s).toList = xs.foldl g s.toList
  | [], s, h => ⟨h, rfl⟩
  | x :: xs, s, h => by
    have := foldl_refines f g hstep xs _ (hstep s h x).1
    rw [(hstep s h x).2] at this
    exact this

theorem add_spec (s : ISet α) (h : Inv s) (x : α) : Inv (s.add x) ∧ (s.add x).toList = specAdd s.toList x :=
  ⟨inv_add s h x, toList_add s h.toInvC x⟩

theorem ofList_spec (l : List α) : Inv (ISet.ofList l) ∧ (ISet.ofList l).toList = dedup l :=
  foldl_refines ISet.add specAdd add_spec l ISet.empty inv_empty

theorem ofList_nodup (l : List α) (h : l.Nodup) : (ISet.ofList l).toList = l := by
  rw [(ofList_spec l).2, dedup_nodup_eq l h]

theorem ofList_islice (l : List α) (hn : l.Nodup) (a b : Option Int) (c : Nat) (hc : 0 < c) :
    Inv (ISet.ofList (islice l ((normBound l.length a).getD 0) (normBound l.length b) c)) ∧
      (ISet.ofList (islice l ((normBound l.length a).getD 0) (normBound l.length b) c)).toList = pySlice l a b c := by
  refine ⟨(ofList_spec _).1, ?_⟩
  rw [islice_eq_pickIdx _ _ _ _ hc, ofList_nodup _ (hn.sublist (pickIdx_sublist _ _ _))]
  unfold pySlice
  congr 2
  · cases a with
    | none => rfl
    | some v => rw [normBound_eq]; rfl
  · cases b with
    | none => rfl
    | some v => rw [normBound_eq]; rfl

theorem getSlice_none (s : ISet α) (a b : Option Int) : s.getSlice a b none = s.getSlice a b (some 1) := rfl

theorem getSlice_spec (s : ISet α) (h : Inv s) (a b : Option Int) (c : Nat) (hc : 0 < c) :
    ∃ t, s.getSlice a b (some (c : Int)) = .ok t ∧ Inv t ∧ t.toList = pySlice s.toList a b c := by
  have hiter : s.iterSlice a b (some (c : Int))
      = .ok (islice s.toList ((normBound s.len a).getD 0) (normBound s.len b) c) := by
    unfold ISet.iterSlice
    have hneg : ¬ ((c : Int) < 0) := by omega
    simp [hneg]; omega
  unfold ISet.getSlice
  rw [hiter, h.toInvC.len_eq]
  exact ⟨_, rfl, ofList_islice s.toList h.toInvC.toList_nodup a b c hc⟩

theorem getSlice_neg_spec (s : ISet α) (h : Inv s) (a b : Option Int) (c : Nat) (hc : 0 < c) :
    ∃ t, s.getSlice a b (some (-(c : Int))) = .ok t ∧ Inv t ∧ t.toList = pySlice s.toList.reverse a b c := by
  have hlen := h.toInvC.len_eq
  have hiter : s.iterSlice a b (some (-(c : Int)))
      = .ok (islice s.reversed ((normBound s.len a).getD 0) (normBound s.len b) c) := by
    unfold ISet.iterSlice
    have h0 : ¬ (-(c : Int) = 0) := by omega
    simp only [h0, if_false]
    have hneg : -(c : Int) < 0 := by omega
    simp only [if_pos hneg]
    congr 2
    omega
  unfold ISet.getSlice
  rw [hiter, reversed_eq, hlen, ← List.length_reverse]
  exact ⟨_, rfl, ofList_islice s.toList.reverse ((List.reverse_perm _).nodup_iff.2 h.toInvC.toList_nodup) a b c hc⟩

end C11
