import BoltonsVerif.C11.Intervals
/-
C11 — the item list against the interval table: the live items `live`, the number `liveBelow l r` of live slots below `r`,
`Tombs` (the tombstones are exactly the covered positions), and index translation: `realLoop` finds the slot of the `k`-th
live item, `appLoop` counts the live slots below a live slot.
-/
namespace C11
variable {α : Type} [DecidableEq α]

@[simp] theorem live_nil : live ([] : List (Option α)) = [] := rfl
@[simp] theorem live_cons_some (x : α) (l : List (Option α)) : live (some x :: l) = x :: live l := by
  simp [live]
@[simp] theorem live_cons_none (l : List (Option α)) : live (none :: l) = live l := by
  simp [live]
theorem live_append (l l' : List (Option α)) : live (l ++ l') = live l ++ live l' := by
  simp [live, List.filterMap_append]
theorem live_map_some (l : List α) : live (l.map some) = l := by
  induction l with
  | nil => rfl
  | cons x l ih => simp [ih]
theorem live_reverse (l : List (Option α)) : live l.reverse = (live l).reverse := by
  simp [live, List.filterMap_reverse]
theorem mem_live (l : List (Option α)) (x : α) : x ∈ live l ↔ some x ∈ l := by
  simp [live]

/-- number of live slots strictly below position `r` -/
def liveBelow (l : List (Option α)) (r : Nat) : Nat := (live (l.take r)).length

@[simp] theorem liveBelow_zero (l : List (Option α)) : liveBelow l 0 = 0 := by simp [liveBelow]

theorem liveBelow_succ (l : List (Option α)) (r : Nat) (h : r < l.length) :
    liveBelow l (r + 1) = liveBelow l r + (if l[r] = none then 0 else 1) := by
  unfold liveBelow
  rw [List.take_succ_eq_append_getElem h, live_append]
  cases hr : l[r] <;> simp [live]

theorem liveBelow_succ_tomb (l : List (Option α)) {r : Nat} (h : l[r]? = some none) :
    liveBelow l (r + 1) = liveBelow l r := by
  have hr := getElem?_lt h
  rw [liveBelow_succ l r hr, if_pos (by simpa [List.getElem?_eq_getElem hr] using h), Nat.add_zero]

theorem liveBelow_succ_live (l : List (Option α)) {r : Nat} (hr : r < l.length) (h : l[r]? ≠ some none) :
    liveBelow l (r + 1) = liveBelow l r + 1 := by
  rw [liveBelow_succ l r hr, if_neg fun e => h (by rw [List.getElem?_eq_getElem hr, e])]

theorem liveBelow_ge_length (l : List (Option α)) (r : Nat) (h : l.length ≤ r) : liveBelow l r = (live l).length := by
  simp [liveBelow, List.take_of_length_le h]

theorem liveBelow_length (l : List (Option α)) : liveBelow l l.length = (live l).length :=
  liveBelow_ge_length l _ (Nat.le_refl _)

theorem liveBelow_step_le (l : List (Option α)) (r : Nat) :
    liveBelow l r ≤ liveBelow l (r + 1) ∧ liveBelow l (r + 1) ≤ liveBelow l r + 1 := by
  by_cases h : r < l.length
  · rw [liveBelow_succ l r h]; split <;> omega
  · rw [liveBelow_ge_length l r (by omega), liveBelow_ge_length l (r + 1) (by omega)]; omega

theorem liveBelow_mono (l : List (Option α)) {p q : Nat} (h : p ≤ q) : liveBelow l p ≤ liveBelow l q := by
  induction h with
  | refl => exact Nat.le_refl _
  | step _ ih => exact Nat.le_trans ih (liveBelow_step_le l _).1

theorem liveBelow_le_add (l : List (Option α)) {p q : Nat} (h : p ≤ q) : liveBelow l q ≤ liveBelow l p + (q - p) := by
  induction h with
  | refl => omega
  | @step m hm ih =>
    show liveBelow l (m + 1) ≤ liveBelow l p + (m + 1 - p)
    have := (liveBelow_step_le l m).2; have : p ≤ m := hm; omega

theorem liveBelow_all_live (l : List (Option α)) (p q : Nat) (hpq : p ≤ q) (hq : q ≤ l.length)
    (h : ∀ j, p ≤ j → j < q → l[j]? ≠ some none) : liveBelow l q = liveBelow l p + (q - p) := by
  induction hpq with
  | refl => omega
  | @step q hpq ih =>
    have : p ≤ q := hpq
    rw [liveBelow_succ_live l (by omega) (h q hpq (by omega)), ih (by omega) fun j a b => h j a (by omega)]; omega

theorem liveBelow_all_dead (l : List (Option α)) (p q : Nat) (hpq : p ≤ q) (hq : q ≤ l.length)
    (h : ∀ j, p ≤ j → j < q → l[j]? = some none) : liveBelow l q = liveBelow l p := by
  induction hpq with
  | refl => rfl
  | @step q hpq ih => rw [liveBelow_succ_tomb l (h q hpq (by omega)), ih (by omega) fun j a b => h j a (by omega)]

theorem split_at_slot (l : List (Option α)) (r : Nat) (v : Option α) (h : l[r]? = some v) :
    l = l.take r ++ v :: l.drop (r + 1) := by
  have hr := getElem?_lt h
  rw [List.getElem?_eq_getElem hr] at h
  have : l[r] = v := by simpa using h
  rw [← this, ← List.drop_eq_getElem_cons hr, List.take_append_drop]

theorem live_at_slot (l : List (Option α)) (r : Nat) (x : α) (h : l[r]? = some (some x)) :
    live l = live (l.take r) ++ x :: live (l.drop (r + 1)) := by
  conv => lhs; rw [split_at_slot l r _ h]
  rw [live_append, live_cons_some]

theorem live_getElem?_liveBelow (l : List (Option α)) (r : Nat) (x : α) (h : l[r]? = some (some x)) :
    (live l)[liveBelow l r]? = some x := by
  rw [live_at_slot l r x h]
  unfold liveBelow
  rw [List.getElem?_append_right (Nat.le_refl _)]
  simp

def Tombs (l : List (Option α)) (d : List (Nat × Nat)) (lo : Nat) : Prop :=
  ∀ j, lo ≤ j → j < l.length → (l[j]? = some none ↔ DeadAt d j)

theorem tombs_nil {l : List (Option α)} {lo : Nat} (ht : Tombs l [] lo) (j : Nat) (h1 : lo ≤ j)
    (h2 : j < l.length) : l[j]? ≠ some none :=
  fun h3 => (deadAt_nil j).1 ((ht j h1 h2).1 h3)

theorem tombs_cons {l : List (Option α)} {a b lo : Nat} {ds : List (Nat × Nat)}
    (hc : Chain lo ((a, b) :: ds) l.length) (ht : Tombs l ((a, b) :: ds) lo) :
    (∀ j, lo ≤ j → j < a → l[j]? ≠ some none) ∧ (∀ j, a ≤ j → j < b → l[j]? = some none) ∧ Tombs l ds b := by
  obtain ⟨hloa, hab, hc'⟩ := hc
  have hb := chain_le ds b l.length hc'
  refine ⟨fun j h1 h2 h3 => ?_, fun j h1 h2 => ?_, fun j h1 h2 => ?_⟩
  · rcases (deadAt_cons _ _ _).1 ((ht j h1 (by omega)).1 h3) with h | h
    · exact absurd h.1 (Nat.not_le.2 h2)
    · have := chain_deadAt ds b l.length j hc' h; omega
  · exact (ht j (by omega) (by omega)).2 ((deadAt_cons _ _ _).2 (Or.inl ⟨h1, h2⟩))
  · rw [ht j (by omega) h2, deadAt_cons]
    exact ⟨fun h => h.resolve_left fun h' => Nat.not_le.2 h'.2 h1, Or.inr⟩

theorem realLoop_ge : ∀ (d : List (Nat × Nat)) (r : Nat), r ≤ realLoop r d
  | [], r => by simp [realLoop]
  | (a, b) :: ds, r => by
    simp only [realLoop]; split
    · omega
    · have := realLoop_ge ds (r + (b - a)); omega

/-- `T` = live slots before the slot looked for; loop invariant `r - lo = T - liveBelow l lo`, written without subtraction -/
theorem realLoop_spec (l : List (Option α)) : ∀ (d : List (Nat × Nat)) (lo r T : Nat),
    Chain lo d l.length → Tombs l d lo → lo ≤ r → r + liveBelow l lo = T + lo →
    (T < liveBelow l l.length →
      realLoop r d < l.length ∧ l[realLoop r d]? ≠ some none ∧ liveBelow l (realLoop r d) = T) ∧
    (liveBelow l l.length ≤ T → l.length ≤ realLoop r d)
  | [], lo, r, T, hc, ht, hlo, hT => by
    have hrun : ∀ q, lo ≤ q → q ≤ l.length → liveBelow l q = liveBelow l lo + (q - lo) := fun q h1 h2 =>
      liveBelow_all_live l lo q h1 h2 fun j x y => tombs_nil ht j x (by omega)
    have hlen := hrun l.length hc (Nat.le_refl _)
    simp only [realLoop]
    refine ⟨fun hk => ?_, fun hk => by omega⟩
    have hlt : r < l.length := by omega
    have := hrun r hlo (by omega)
    exact ⟨hlt, tombs_nil ht r hlo hlt, by omega⟩
  | (a, b) :: ds, lo, r, T, hc, ht, hlo, hT => by
    obtain ⟨hlive, hdead, ht'⟩ := tombs_cons hc ht
    obtain ⟨hloa, hab, hc'⟩ := hc
    have hb := chain_le ds b l.length hc'
    have hla := liveBelow_all_live l lo a hloa (by omega) hlive
    have hlb := liveBelow_all_dead l a b (by omega) hb hdead
    rw [realLoop]
    by_cases hlt : r < a
    · rw [if_pos hlt]
      have := liveBelow_all_live l lo r hlo (by omega) fun j x y => hlive j x (by omega)
      have hmono := liveBelow_mono l hb
      exact ⟨fun _ => ⟨by omega, hlive r hlo hlt, by omega⟩, fun hk => by omega⟩
    · rw [if_neg hlt]
      exact realLoop_spec l ds b (r + (b - a)) T hc' ht' (by omega) (by omega)

/-- loop invariant `app - liveBelow l lo = r - lo`, written without subtraction -/
theorem appLoop_spec (l : List (Option α)) : ∀ (d : List (Nat × Nat)) (lo r app : Nat),
    Chain lo d l.length → Tombs l d lo → lo ≤ r → r < l.length → l[r]? ≠ some none →
    app + lo = liveBelow l lo + r → appLoop r app d = liveBelow l r
  | [], lo, r, app, hc, ht, hlo, hr, _, happ => by
    have := liveBelow_all_live l lo r hlo (by omega) fun j x y => tombs_nil ht j x (by omega)
    simp only [appLoop]; omega
  | (a, b) :: ds, lo, r, app, hc, ht, hlo, hr, hlive, happ => by
    obtain ⟨hlv, hdead, ht'⟩ := tombs_cons hc ht
    obtain ⟨hloa, hab, hc'⟩ := hc
    have hb := chain_le ds b l.length hc'
    rw [appLoop]
    by_cases hlt : r < a
    · rw [if_pos hlt]
      have := liveBelow_all_live l lo r hlo (by omega) fun j x y => hlv j x (by omega)
      omega
    · rw [if_neg hlt]
      have hrb : b ≤ r := Nat.le_of_not_lt fun h => hlive (hdead r (by omega) h)
      have hla := liveBelow_all_live l lo a hloa (by omega) hlv
      have hlb := liveBelow_all_dead l a b (by omega) hb hdead
      exact appLoop_spec l ds b r (app - (b - a)) hc' ht' hrb hr hlive (by omega)

theorem realLoop_live (l : List (Option α)) (d : List (Nat × Nat)) (k : Nat) (hc : Chain 0 d l.length)
    (ht : Tombs l d 0) :
    (k < (live l).length → realLoop k d < l.length ∧ l[realLoop k d]? ≠ some none ∧ liveBelow l (realLoop k d) = k) ∧
    ((live l).length ≤ k → l.length ≤ realLoop k d) := by
  have := realLoop_spec l d 0 k k hc ht (Nat.zero_le _) (by rw [liveBelow_zero])
  rwa [liveBelow_length] at this

theorem live_slot_inj (l : List (Option α)) (hn : (live l).Nodup) (i j : Nat) (x : α)
    (hi : l[i]? = some (some x)) (hj : l[j]? = some (some x)) : i = j := by
  have h1 := live_getElem?_liveBelow l i x hi
  have h2 := live_getElem?_liveBelow l j x hj
  have hlt : liveBelow l i < (live l).length := getElem?_lt h1
  have heq : liveBelow l i = liveBelow l j := (List.getElem?_inj hlt hn).1 (h1.trans h2.symm)
  have key : ∀ a b : Nat, a < b → l[a]? = some (some x) → liveBelow l a < liveBelow l b := by
    intro a b hab ha
    have := liveBelow_succ_live l (getElem?_lt ha) (by rw [ha]; simp)
    have := liveBelow_mono l (show a + 1 ≤ b by omega)
    omega
  rcases Nat.lt_trichotomy i j with h | h | h
  · have := key i j h hi; omega
  · exact h
  · have := key j i h hj; omega

theorem live_set_none (l : List (Option α)) (r : Nat) (x : α) (h : l[r]? = some (some x))
    (hn : (live l).Nodup) : live (l.set r none) = (live l).erase x := by
  rw [List.set_eq_take_append_cons_drop, if_pos (getElem?_lt h), live_append, live_cons_none]
  rw [live_at_slot l r x h] at hn ⊢
  have hx : x ∉ live (l.take r) := not_mem_of_nodup_middle hn
  rw [List.erase_append_right _ hx]
  simp

theorem live_length_lt (l : List (Option α)) (a : Nat) (h : l[a]? = some none) : (live l).length < l.length := by
  have ha := getElem?_lt h
  have h1 := liveBelow_succ_tomb l h
  have h2 := liveBelow_le_add l (show a + 1 ≤ l.length from ha)
  have h3 := liveBelow_le_add l (Nat.zero_le a)
  rw [liveBelow_length] at h2
  rw [liveBelow_zero] at h3
  omega

theorem live_dropLast_some (l : List (Option α)) (x : α) (h : l.getLast? = some (some x)) :
    live l = live l.dropLast ++ [x] := by
  rcases nil_or_snoc l with hn | ⟨A, a, hc⟩
  · subst hn; simp at h
  · subst hc
    simp at h; subst h
    simp [live_append]

theorem trailingDead_lt (l : List (Option α)) (x : α) (hx : x ∈ live l) : trailingDead l < l.length := by
  unfold trailingDead
  rcases Nat.lt_or_ge (l.reverse.takeWhile isTomb).length l.length with h | h
  · exact h
  · exfalso
    have hp : l.reverse.takeWhile isTomb <+: l.reverse := List.takeWhile_prefix _
    have he : l.reverse.takeWhile isTomb = l.reverse := hp.eq_of_length_le (by simpa using h)
    have hall : l.reverse.all isTomb = true := he ▸ List.all_takeWhile
    have := (mem_live l x).1 hx
    have h2 := List.all_eq_true.1 hall (some x) (by simpa using this)
    simp [isTomb] at h2

end C11
