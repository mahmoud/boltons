/-
C11 — executable model of `boltons.setutils.IndexedSet` (core Lean only).

State (the three anchored structures):
  items : item_list, `none` = the `_MISSING` tombstone
  idx   : item_index_map, an insertion-ordered dict modelled as an association list
  dead  : dead_indices, sorted `[start, stop)` runs of tombstones

Every method is transliterated from the code as it is after the `fix:` commits of
branch c11-work (slice bounds, update(*others), n-ary *_update, _cull tail, issuperset,
symmetric_difference_update).  Abstractions (validated by the correspondence):
  * `bisect_left(dints, cand)` = number of leading intervals lexicographically below
    `cand` (what bisection returns on a sorted list);
  * a generator over `self` is the list it yields; one-operand fast paths of
    `intersection`/`difference` are the general loop;
  * thresholds come in through `Cfg` (`_COMPACTION_FACTOR`, the literal 384); the float test
    `dead > len(items) / factor` is `dead * factor > len(items)`;
  * index arguments below `-len` are outside the model (`Err.domain`);
  * `sort(key=…, reverse=…)` is `sort` with the comparison induced by the key; a comparison that
    raises is described by the list of items for which it does (`sortBy`, `Err.cmpError`);
  * several live sets (results kept and worked on, IndexedSet operands that are live sets) are a
    register file of independent `ISet`s (`Mach`); an operation sees another set only through what
    iterating it yields.
-/
namespace C11

/-! ### insertion-ordered dict -/

abbrev IMap (α : Type) := List (α × Nat)

namespace IMap
variable {α : Type} [DecidableEq α]

def lookup : IMap α → α → Option Nat
  | [], _ => none
  | (k, v) :: m, x => if k = x then some v else lookup m x

/-- `d[x] = v`: in place when present, appended when new -/
def set : IMap α → α → Nat → IMap α
  | [], x, v => [(x, v)]
  | (k, w) :: m, x, v => if k = x then (k, v) :: m else (k, w) :: set m x v

/-- `del d[x]` / `d.pop(x)` -/
def erase : IMap α → α → IMap α
  | [], _ => []
  | (k, w) :: m, x => if k = x then m else (k, w) :: erase m x

def keys (m : IMap α) : List α := m.map Prod.fst

end IMap

/-! ### state -/

structure Cfg where
  factor : Nat
  limit : Nat

structure ISet (α : Type) where
  items : List (Option α)
  idx : IMap α
  dead : List (Nat × Nat)

inductive Err | keyError | indexError | valueError | domain | cmpError
  deriving DecidableEq, Repr

/-- the live items of an item list, in order (`__iter__`) -/
def live {α : Type} (l : List (Option α)) : List α := l.filterMap id

def isTomb {α : Type} (o : Option α) : Bool := o.isNone

variable {α : Type} [DecidableEq α]

namespace ISet

def empty : ISet α := ⟨[], [], []⟩

def toList (s : ISet α) : List α := live s.items
def len (s : ISet α) : Nat := s.idx.length
def contains (s : ISet α) (x : α) : Bool := (s.idx.lookup x).isSome
def reversed (s : ISet α) : List α := live s.items.reverse
def count (s : ISet α) (x : α) : Nat := if s.contains x then 1 else 0

end ISet

/-! ### dead-interval bookkeeping -/

/-- Python's list comparison `[a, b] < [c, d]` -/
def lexLt (c : Nat × Nat) (p : Nat × Nat) : Bool := p.1 < c.1 || (p.1 == c.1 && p.2 < c.2)

def bisectLeft (d : List (Nat × Nat)) (c : Nat × Nat) : Nat := (d.takeWhile (lexLt c)).length

/-- `_add_dead(start)` (stop = start + 1) -/
def addDead (d : List (Nat × Nat)) (start : Nat) : List (Nat × Nat) :=
  if d.isEmpty then [(start, start + 1)] else
  let i := bisectLeft d (start, start + 1)
  let j := if i = 0 then d.length - 1 else i - 1     -- dints[int_idx - 1]; index -1 is the last one
  match d[j]? with
  | none => d
  | some (ds, de) =>
    if start ≤ ds ∧ ds ≤ start + 1 then d.set j (start, de)
    else if start ≤ de ∧ de ≤ start + 1 then d.set j (ds, start + 1)
    else d.insertIdx i (start, start + 1)

/-! ### `bisect_left` as the real algorithm (proved equal to `bisectLeft` on reachable tables: `Intervals.lean`) -/

/-- the `while lo < hi` loop over an abstract test `p mid` (= `a[mid] < x`); one unit of fuel per round -/
def bsearch (p : Nat → Bool) : Nat → Nat → Nat → Nat
  | 0, lo, _ => lo
  | fuel + 1, lo, hi =>
    if lo < hi then
      (if p ((lo + hi) / 2) then bsearch p fuel ((lo + hi) / 2 + 1) hi
       else bsearch p fuel lo ((lo + hi) / 2))
    else lo

/-- `a[mid] < x` for lists of `[start, stop]` pairs (Python compares them lexicographically) -/
def ltAt (d : List (Nat × Nat)) (c : Nat × Nat) (i : Nat) : Bool :=
  match d[i]? with
  | some q => lexLt c q
  | none => false

/-- `bisect_left(dints, cand)` with the default `lo=0, hi=len(dints)` -/
def bisectLeftPy (d : List (Nat × Nat)) (c : Nat × Nat) : Nat := bsearch (ltAt d c) d.length 0 d.length

/-- `_add_dead(start)` with the binary search in place of the abstraction (same text as `addDead`) -/
def addDeadPy (d : List (Nat × Nat)) (start : Nat) : List (Nat × Nat) :=
  if d.isEmpty then [(start, start + 1)] else
  let i := bisectLeftPy d (start, start + 1)
  let j := if i = 0 then d.length - 1 else i - 1
  match d[j]? with
  | none => d
  | some (ds, de) =>
    if start ≤ ds ∧ ds ≤ start + 1 then d.set j (start, de)
    else if start ≤ de ∧ de ≤ start + 1 then d.set j (ds, start + 1)
    else d.insertIdx i (start, start + 1)

/-- `for i, item in enumerate(xs, i0): index_map[item] = i` -/
def assignIdx : IMap α → List α → Nat → IMap α
  | m, [], _ => m
  | m, x :: xs, i => assignIdx (m.set x i) xs (i + 1)

/-- `_compact()` -/
def compact (s : ISet α) : ISet α :=
  if s.dead.isEmpty then s else
  let lv := live s.items
  let dc := s.items.length - s.idx.length
  let items1 := lv.map some ++ s.items.drop lv.length
  let items2 := if dc = 0 then [] else items1.take (items1.length - dc)   -- del items[-dc:]
  ⟨items2, assignIdx s.idx lv 0, []⟩

def trailingDead (l : List (Option α)) : Nat := (l.reverse.takeWhile isTomb).length

def startsAtOrAfter (n : Nat) (p : Nat × Nat) : Bool := n ≤ p.1

/-- `while ded and ded[-1][0] >= n: del ded[-1]` -/
def popDeadFrom (d : List (Nat × Nat)) (n : Nat) : List (Nat × Nat) :=
  (d.reverse.dropWhile (startsAtOrAfter n)).reverse

/-- `_cull()` -/
def cull (cfg : Cfg) (s : ISet α) : ISet α :=
  if s.dead.isEmpty then s
  else if s.idx.isEmpty then ⟨[], s.idx, []⟩
  else if s.dead.length > cfg.limit then compact s
  else if (s.items.length - s.idx.length) * cfg.factor > s.items.length then compact s
  else if s.items.getLast? = some none then
    let items' := s.items.take (s.items.length - trailingDead s.items)
    ⟨items', s.idx, popDeadFrom s.dead items'.length⟩
  else s

/-- loop of `_get_real_index` -/
def realLoop : Nat → List (Nat × Nat) → Nat
  | r, [] => r
  | r, (a, b) :: ds => if r < a then r else realLoop (r + (b - a)) ds

/-- loop of `_get_apparent_index` -/
def appLoop (index : Nat) : Nat → List (Nat × Nat) → Nat
  | app, [] => app
  | app, (a, b) :: ds => if index < a then app else appLoop index (app - (b - a)) ds

/-! ### set/list methods -/

namespace ISet

def add (s : ISet α) (x : α) : ISet α :=
  if s.contains x then s
  else ⟨s.items ++ [some x], s.idx.set x s.items.length, s.dead⟩

def remove (cfg : Cfg) (s : ISet α) (x : α) : Except Err (ISet α) :=
  match s.idx.lookup x with
  | none => .error .keyError
  | some i => .ok (cull cfg ⟨s.items.set i none, s.idx.erase x, addDead s.dead i⟩)

def discard (cfg : Cfg) (s : ISet α) (x : α) : ISet α :=
  match s.remove cfg x with
  | .ok s' => s'
  | .error _ => s

def clear (_s : ISet α) : ISet α := ⟨[], [], []⟩

/-- `IndexedSet(iterable)` / `from_iterable` -/
def ofList (l : List α) : ISet α := l.foldl add empty

/-- `index += len(self)` for a negative index; `none` = still negative (outside the model) -/
def normIndex (s : ISet α) (i : Int) : Option Nat :=
  if i < 0 then (if i + s.len < 0 then none else some (i + s.len).toNat) else some i.toNat

def getItem (s : ISet α) (i : Int) : Except Err α :=
  match s.normIndex i with
  | none => .error .domain
  | some k =>
    match s.items[realLoop k s.dead]? with
    | some (some x) => .ok x
    | some none => .error .domain      -- a tombstone would be returned: never under the invariant
    | none => .error .indexError

def index (s : ISet α) (x : α) : Except Err Nat :=
  match s.idx.lookup x with
  | none => .error .valueError
  | some r => .ok (appLoop r r s.dead)

def popLast (cfg : Cfg) (s : ISet α) : Except Err (ISet α × α) :=
  match s.items.getLast? with
  | none => .error .indexError
  | some none => .error .keyError
  | some (some x) => .ok (cull cfg ⟨s.items.dropLast, s.idx.erase x, s.dead⟩, x)

def popAt (cfg : Cfg) (s : ISet α) (i : Int) : Except Err (ISet α × α) :=
  if i = -1 ∨ i = (s.len : Int) - 1 then s.popLast cfg else
  match s.normIndex i with
  | none => .error .domain
  | some k =>
    let r := realLoop k s.dead
    match s.items[r]? with
    | none => .error .indexError
    | some none => .error .keyError
    | some (some x) => .ok (cull cfg ⟨s.items.set r none, s.idx.erase x, addDead s.dead r⟩, x)

def reverse (s : ISet α) : ISet α :=
  let l := s.reversed
  ⟨l.map some, assignIdx s.idx l 0, []⟩

/-- `sorted(self, reverse=rev)` -/
def sortedList (le : α → α → Bool) (rev : Bool) (l : List α) : List α :=
  if rev then (l.reverse.mergeSort le).reverse else l.mergeSort le

def sort (le : α → α → Bool) (rev : Bool) (s : ISet α) : ISet α :=
  let l := sortedList le rev s.toList
  if l.map some = s.items then s else ⟨l.map some, assignIdx s.idx l 0, []⟩

/-- does `sorted(self, **kwargs)` raise?  `bad` = the items whose comparison (their own `__lt__`, or
    that of their `key`) raises.  Any comparison sort looks at every element of a list of two or more
    items at least once, so it raises exactly when such an item is live and there is something to
    compare it with. -/
def sortRaises (bad : List α) (s : ISet α) : Bool :=
  decide (2 ≤ s.len) && s.toList.any fun x => bad.contains x

/-- `sort(key=…, reverse=rev)`: `sorted(self, **kwargs)` runs BEFORE anything is written, so a
    comparison that raises leaves the three structures exactly as they were -/
def sortBy (lek : α → α → Bool) (rev : Bool) (bad : List α) (s : ISet α) : Except Err (ISet α) :=
  if s.sortRaises bad then .error .cmpError else .ok (s.sort lek rev)

end ISet

/-! ### slicing -/

/-- every `step`-th element; the counter says how many to skip before the next pick -/
def everyNth (step : Nat) : Nat → List α → List α
  | _, [] => []
  | 0, x :: xs => x :: everyNth step (step - 1) xs
  | k + 1, _ :: xs => everyNth step k xs

/-- `itertools.islice(l, start, stop, step)` -/
def islice (l : List α) (start : Nat) (stop : Option Nat) (step : Nat) : List α :=
  everyNth step 0 ((match stop with | none => l | some e => l.take e).drop start)

/-- `if b < 0: b = max(b + n, 0)` -/
def normBound (n : Nat) : Option Int → Option Nat
  | none => none
  | some v => if v < 0 then some (v + n).toNat else some v.toNat

def ISet.iterSlice (s : ISet α) (a b c : Option Int) : Except Err (List α) :=
  let start := (normBound s.len a).getD 0
  let stop := normBound s.len b
  match c with
  | none => .ok (islice s.toList start stop 1)
  | some v =>
    if v = 0 then .error .valueError
    else if v < 0 then .ok (islice s.reversed start stop v.natAbs)
    else .ok (islice s.toList start stop v.natAbs)

/-- `s[a:b:c]` = `from_iterable(iter_slice(a, b, c))` -/
def ISet.getSlice (s : ISet α) (a b c : Option Int) : Except Err (ISet α) :=
  match s.iterSlice a b c with
  | .ok l => .ok (ISet.ofList l)
  | .error e => .error e

/-! ### set algebra -/

inductive OKind | self | iset | coll
  deriving DecidableEq, Repr

/-- an operand: the receiver itself, another IndexedSet, or a set/frozenset/list/tuple;
    `elems` is what iterating it yields (ignored for `self`) -/
structure Operand (α : Type) where
  kind : OKind
  elems : List α

namespace ISet

def opElems (s : ISet α) (o : Operand α) : List α :=
  match o.kind with
  | .self => s.toList
  | _ => o.elems

def opLen (s : ISet α) (o : Operand α) : Nat :=
  match o.kind with
  | .self => s.len
  | _ => o.elems.length

/-- `k in other` -/
def opMem (s : ISet α) (o : Operand α) (k : α) : Bool :=
  match o.kind with
  | .self => s.contains k
  | _ => o.elems.contains k

def inAll (s : ISet α) (os : List (Operand α)) (k : α) : Bool := os.all fun o => s.opMem o k
def inNone (s : ISet α) (os : List (Operand α)) (k : α) : Bool := os.all fun o => !s.opMem o k

def union (s : ISet α) (os : List (Operand α)) : ISet α :=
  ofList (s.toList ++ os.flatMap s.opElems)

def inter (s : ISet α) (os : List (Operand α)) : ISet α :=
  ofList (s.toList.filter (s.inAll os))

def diff (s : ISet α) (os : List (Operand α)) : ISet α :=
  ofList (s.toList.filter (s.inNone os))

def asOperand (t : ISet α) : Operand α := ⟨.iset, t.toList⟩

def symdiff (s : ISet α) (os : List (Operand α)) : ISet α :=
  (s.union os).diff [(s.inter os).asOperand]

/-- `other - self` (`__rsub__`): the kept values, in `other`'s order -/
def rsub (s : ISet α) (o : Operand α) : List α :=
  (s.opElems o).filter fun x => !s.contains x

def isdisjoint (s : ISet α) (o : Operand α) : Bool := (s.opElems o).all fun k => !s.contains k

def issubset (s : ISet α) (o : Operand α) : Bool :=
  if s.opLen o < s.len then false else s.idx.keys.all (s.opMem o)

def issuperset (s : ISet α) (o : Operand α) : Bool := (s.opElems o).all s.contains

def update (s : ISet α) (os : List (Operand α)) : ISet α :=
  if os.isEmpty then s else (os.flatMap s.opElems).foldl add s

def interUpdate (cfg : Cfg) (s : ISet α) (os : List (Operand α)) : ISet α :=
  (s.diff [(s.inter os).asOperand]).toList.foldl (discard cfg) s

/-- `self == other` as `self in others` evaluates it -/
def eqOperand (s : ISet α) (o : Operand α) : Bool :=
  match o.kind with
  | .self => true
  | .iset => s.len = o.elems.length && s.toList = o.elems
  | .coll => s.toList.all o.elems.contains && o.elems.all s.toList.contains

def diffUpdate (cfg : Cfg) (s : ISet α) (os : List (Operand α)) : ISet α :=
  let s1 := if os.any s.eqOperand then s.clear else s
  (s1.diff [(s1.diff os).asOperand]).toList.foldl (discard cfg) s1

def toggle (cfg : Cfg) (s : ISet α) (v : α) : ISet α :=
  if s.contains v then s.discard cfg v else s.add v

def symUpdate (cfg : Cfg) (s : ISet α) (o : Operand α) : ISet α :=
  match o.kind with
  | .self => s.clear            -- cleared, then iterates the (now empty) receiver
  | _ => (ofList o.elems).toList.foldl (toggle cfg) s

end ISet

/-! ### histories -/

inductive Op (α : Type)
  | add (x : α) | remove (x : α) | discard (x : α) | pop | popAt (i : Int) | clear
  | sort (rev : Bool) | reverse
  | sortBy (lek : α → α → Bool) (rev : Bool) (bad : List α)
  | update (os : List (Operand α)) | interUpdate (os : List (Operand α))
  | diffUpdate (os : List (Operand α)) | symUpdate (o : Operand α)
  | iter | len | contains (x : α) | get (i : Int) | slice (a b c : Option Int)
  | index (x : α) | count (x : α) | reversed
  | union (os : List (Operand α)) | inter (os : List (Operand α)) | diff (os : List (Operand α))
  | symdiff (os : List (Operand α)) | rsub (o : Operand α)
  | issubset (o : Operand α) | issuperset (o : Operand α) | isdisjoint (o : Operand α)

inductive Out (α : Type)
  | unit | nat (n : Nat) | bool (b : Bool) | item (x : α) | list (l : List α) | err (e : Err)
  deriving DecidableEq

open ISet in
def step (cfg : Cfg) (le : α → α → Bool) (s : ISet α) : Op α → ISet α × Out α
  | .add x => (s.add x, .unit)
  | .remove x => match s.remove cfg x with
    | .ok s' => (s', .unit)
    | .error e => (s, .err e)
  | .discard x => (s.discard cfg x, .unit)
  | .pop => match s.popLast cfg with
    | .ok (s', x) => (s', .item x)
    | .error e => (s, .err e)
  | .popAt i => match s.popAt cfg i with
    | .ok (s', x) => (s', .item x)
    | .error e => (s, .err e)
  | .clear => (s.clear, .unit)
  | .sort rev => (s.sort le rev, .unit)
  | .sortBy lek rev bad => match s.sortBy lek rev bad with
    | .ok s' => (s', .unit)
    | .error e => (s, .err e)
  | .reverse => (s.reverse, .unit)
  | .update os => (s.update os, .unit)
  | .interUpdate os => (s.interUpdate cfg os, .unit)
  | .diffUpdate os => (s.diffUpdate cfg os, .unit)
  | .symUpdate o => (s.symUpdate cfg o, .unit)
  | .iter => (s, .list s.toList)
  | .len => (s, .nat s.len)
  | .contains x => (s, .bool (s.contains x))
  | .get i => (s, match s.getItem i with | .ok x => .item x | .error e => .err e)
  | .slice a b c => (s, match s.getSlice a b c with | .ok t => .list t.toList | .error e => .err e)
  | .index x => (s, match s.index x with | .ok n => .nat n | .error e => .err e)
  | .count x => (s, .nat (s.count x))
  | .reversed => (s, .list s.reversed)
  | .union os => (s, .list (s.union os).toList)
  | .inter os => (s, .list (s.inter os).toList)
  | .diff os => (s, .list (s.diff os).toList)
  | .symdiff os => (s, .list (s.symdiff os).toList)
  | .rsub o => (s, .list (s.rsub o))
  | .issubset o => (s, .bool (s.issubset o))
  | .issuperset o => (s, .bool (s.issuperset o))
  | .isdisjoint o => (s, .bool (s.isdisjoint o))

/-- state after a history -/
def runState (cfg : Cfg) (le : α → α → Bool) : ISet α → List (Op α) → ISet α
  | s, [] => s
  | s, op :: ops => runState cfg le (step cfg le s op).1 ops

/-- observations of a history, one per operation -/
def runOuts (cfg : Cfg) (le : α → α → Bool) : ISet α → List (Op α) → List (Out α)
  | _, [] => []
  | s, op :: ops => (step cfg le s op).2 :: runOuts cfg le (step cfg le s op).1 ops

/-! ### several sets at once

Results of `union` / `intersection` / `difference` / `symmetric_difference` / slicing are sets of
their own, and an operand may be another live IndexedSet.  A machine holds a list of registers
(register 0 = the receiver, every `fork` appends the set it produced) and a cursor; an operation
acts on the register under the cursor and may build its operands from what iterating the other
registers yields (`views`).  Nothing else of another register is visible to an operation, and
no operation writes to a register other than the current one. -/

structure Mach (α : Type) where
  regs : List (ISet α)
  cur : Nat

inductive MOp (α : Type)
  /-- the following operations act on register `k` (ignored when there is no such register) -/
  | sel (k : Nat)
  /-- a public operation on the current register; its operands may come from the registers' iteration -/
  | run (f : List (List α) → Op α)
  /-- the same, and the set it returns becomes a new register -/
  | fork (f : List (List α) → Op α)

namespace Mach

def views (m : Mach α) : List (List α) := m.regs.map ISet.toList
def curSet (m : Mach α) : ISet α := (m.regs[m.cur]?).getD ISet.empty

end Mach

/-- the set object a result stands for: `from_iterable(...)` of the listed items -/
def resultSet : Out α → ISet α
  | .list l => ISet.ofList l
  | _ => ISet.empty

def mstep (cfg : Cfg) (le : α → α → Bool) (m : Mach α) : MOp α → Mach α × Out α
  | .sel k => (if k < m.regs.length then ⟨m.regs, k⟩ else m, .unit)
  | .run f => (⟨m.regs.set m.cur (step cfg le m.curSet (f m.views)).1, m.cur⟩,
               (step cfg le m.curSet (f m.views)).2)
  | .fork f => (⟨m.regs.set m.cur (step cfg le m.curSet (f m.views)).1 ++
                   [resultSet (step cfg le m.curSet (f m.views)).2], m.cur⟩,
                (step cfg le m.curSet (f m.views)).2)

def mrunState (cfg : Cfg) (le : α → α → Bool) : Mach α → List (MOp α) → Mach α
  | m, [] => m
  | m, op :: ops => mrunState cfg le (mstep cfg le m op).1 ops

def mrunOuts (cfg : Cfg) (le : α → α → Bool) : Mach α → List (MOp α) → List (Out α)
  | _, [] => []
  | m, op :: ops => (mstep cfg le m op).2 :: mrunOuts cfg le (mstep cfg le m op).1 ops

end C11
