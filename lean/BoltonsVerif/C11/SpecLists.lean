import BoltonsVerif.C11.Spec
import BoltonsVerif.C11.Basics
/-
C11 — the plain-list side alone: `addAll`/`dedup` (union order), batches of `erase` and of toggles as filters, and
`islice` over a list as Python's slicing `pickIdx`.  No `ISet` state appears here.
-/
namespace C11
variable {α : Type} [DecidableEq α]

namespace Spec

@[simp] theorem notIn_eq_true (l : List α) (x : α) : notIn l x = true ↔ x ∉ l := by simp [notIn]
@[simp] theorem notIn_eq_false (l : List α) (x : α) : notIn l x = false ↔ x ∈ l := by simp [notIn]

theorem mem_specAdd (l : List α) (x y : α) : y ∈ specAdd l x ↔ y ∈ l ∨ y = x := by
  unfold specAdd; split
  · constructor
    · exact Or.inl
    · rintro (h | h)
      · exact h
      · subst h; assumption
  · simp

theorem nodup_specAdd (l : List α) (x : α) (h : l.Nodup) : (specAdd l x).Nodup := by
  unfold specAdd; split
  · exact h
  · exact nodup_snoc.2 ⟨h, ‹_›⟩

theorem mem_addAll : ∀ (xs l : List α) (y : α), y ∈ addAll l xs ↔ y ∈ l ∨ y ∈ xs
  | [], l, y => by simp [addAll]
  | x :: xs, l, y => by
    have := mem_addAll xs (specAdd l x) y
    simp only [addAll, List.foldl_cons] at this ⊢
    rw [this, mem_specAdd, List.mem_cons, or_assoc]

theorem nodup_addAll : ∀ (xs l : List α), l.Nodup → (addAll l xs).Nodup
  | [], l, h => h
  | x :: xs, l, h => by
    have := nodup_addAll xs (specAdd l x) (nodup_specAdd l x h)
    simpa [addAll] using this

theorem addAll_prefix : ∀ (xs l : List α), l <+: addAll l xs
  | [], l => by simp [addAll]
  | x :: xs, l => by
    have h1 := addAll_prefix xs (specAdd l x)
    have h2 : l <+: specAdd l x := by unfold specAdd; split <;> simp
    simpa [addAll] using h2.trans h1

theorem addAll_eq_append : ∀ (xs l : List α), (l ++ xs).Nodup → addAll l xs = l ++ xs
  | [], l, _ => by simp [addAll]
  | x :: xs, l, h => by
    have hx : x ∉ l := not_mem_of_nodup_middle h
    have : specAdd l x = l ++ [x] := by simp [specAdd, hx]
    simp only [addAll, List.foldl_cons, this]
    have := addAll_eq_append xs (l ++ [x]) (by simpa using h)
    simpa [addAll] using this

theorem dedup_nodup_eq (l : List α) (h : l.Nodup) : dedup l = l := by
  have := addAll_eq_append l [] (by simpa using h)
  simpa [dedup] using this

theorem dedup_append (l xs : List α) : dedup (l ++ xs) = addAll (dedup l) xs := List.foldl_append

theorem specAdd_shift (l a : List α) (x : α) :
    specAdd (l ++ a.filter (notIn l)) x = l ++ (specAdd a x).filter (notIn l) := by
  unfold specAdd
  by_cases hl : x ∈ l
  · have h1 : x ∈ l ++ a.filter (notIn l) := List.mem_append_left _ hl
    simp only [h1, if_true]
    split
    · rfl
    · simp [List.filter_append, hl]
  · by_cases ha : x ∈ a
    · have h1 : x ∈ l ++ a.filter (notIn l) := List.mem_append_right _ (by simp [ha, hl])
      simp [h1, ha]
    · have h1 : x ∉ l ++ a.filter (notIn l) := by simp [hl, ha]
      simp [h1, ha, hl, List.filter_append]

theorem addAll_shift : ∀ (xs l a : List α),
    addAll (l ++ a.filter (notIn l)) xs = l ++ (addAll a xs).filter (notIn l)
  | [], l, a => by simp [addAll]
  | x :: xs, l, a => by
    simp only [addAll, List.foldl_cons]
    rw [specAdd_shift]
    exact addAll_shift xs l (specAdd a x)

theorem addAll_eq_append_dedup (l xs : List α) : addAll l xs = l ++ (dedup xs).filter (notIn l) := by
  have := addAll_shift xs l []
  simpa [dedup] using this

theorem mem_dedup (xs : List α) (y : α) : y ∈ dedup xs ↔ y ∈ xs := by
  simp [dedup, mem_addAll]

theorem nodup_dedup (xs : List α) : (dedup xs).Nodup := nodup_addAll xs [] (by simp)

theorem filter_notIn_nil (l : List α) : l.filter (notIn []) = l :=
  List.filter_eq_self.2 fun y _ => by simp [notIn]

theorem foldl_erase : ∀ (xs l : List α), l.Nodup → xs.foldl List.erase l = l.filter (notIn xs)
  | [], l, _ => by simp [filter_notIn_nil]
  | x :: xs, l, h => by
    simp only [List.foldl_cons]
    rw [foldl_erase xs (l.erase x) (h.erase x), h.erase_eq_filter x, List.filter_filter]
    apply List.filter_congr
    intro y _
    by_cases hyx : y = x <;> simp [notIn, hyx]

/-- the plain-list toggle of `symmetric_difference_update` -/
def specToggle (c : List α) (v : α) : List α := if v ∈ c then c.erase v else c ++ [v]

/-- needs `d.Nodup` (a repeated item would be toggled back): the source iterates `IndexedSet(other)`, not `other` -/
theorem foldl_toggle : ∀ (d c : List α), d.Nodup → c.Nodup →
    d.foldl specToggle c = c.filter (notIn d) ++ d.filter (notIn c)
  | [], c, _, _ => by simp [filter_notIn_nil]
  | v :: d, c, hd, hc => by
    rw [List.nodup_cons] at hd
    simp only [List.foldl_cons]
    by_cases hv : v ∈ c
    · have ht : specToggle c v = c.erase v := by simp [specToggle, hv]
      rw [ht, foldl_toggle d (c.erase v) hd.2 (hc.erase v), hc.erase_eq_filter v, List.filter_filter]
      have e1 : List.filter (fun a => notIn d a && (a != v)) c = c.filter (notIn (v :: d)) := by
        apply List.filter_congr; intro y _
        by_cases hyv : y = v <;> simp [notIn, hyv]
      have e2 : d.filter (notIn (List.filter (fun x => x != v) c)) = (v :: d).filter (notIn c) := by
        rw [List.filter_cons]
        have : notIn c v = false := by simp [hv]
        simp only [this, Bool.false_eq_true, if_false]
        apply List.filter_congr; intro y hy
        have hyv : y ≠ v := fun e => hd.1 (e ▸ hy)
        simp [notIn, hyv]
      rw [e1, e2]
    · have ht : specToggle c v = c ++ [v] := by simp [specToggle, hv]
      have hcn : (c ++ [v]).Nodup := nodup_snoc.2 ⟨hc, hv⟩
      rw [ht, foldl_toggle d (c ++ [v]) hd.2 hcn, List.filter_append]
      have e1 : c.filter (notIn d) = c.filter (notIn (v :: d)) := by
        apply List.filter_congr; intro y hy
        have hyv : y ≠ v := fun e => hv (e ▸ hy)
        simp [notIn, hyv]
      have e2 : [v].filter (notIn d) = [v] := by simp [hd.1]
      have e3 : d.filter (notIn (c ++ [v])) = d.filter (notIn c) := by
        apply List.filter_congr; intro y hy
        have hyv : y ≠ v := fun e => hd.1 (e ▸ hy)
        simp [notIn, hyv]
      have e4 : (v :: d).filter (notIn c) = v :: d.filter (notIn c) := by
        rw [List.filter_cons]; simp [hv]
      rw [e1, e2, e3, e4]; simp

end Spec

open Spec

theorem sortedList_perm (le : α → α → Bool) (rev : Bool) (l : List α) : (ISet.sortedList le rev l).Perm l := by
  unfold ISet.sortedList
  cases rev
  · simp; exact List.mergeSort_perm l le
  · simp
    exact (List.reverse_perm _).trans ((List.mergeSort_perm _ le).trans (List.reverse_perm l))

theorem pickIdx_sublist (sel : Nat → Bool) : ∀ (l : List α) (j : Nat), (pickIdx sel j l).Sublist l
  | [], _ => by simp [pickIdx]
  | x :: xs, j => by
    simp only [pickIdx]; split
    · exact (pickIdx_sublist sel xs (j + 1)).cons_cons x
    · exact (pickIdx_sublist sel xs (j + 1)).cons x

theorem pickIdx_append (sel : Nat → Bool) : ∀ (A B : List α) (j : Nat),
    pickIdx sel j (A ++ B) = pickIdx sel j A ++ pickIdx sel (j + A.length) B
  | [], B, j => by simp [pickIdx]
  | x :: A, B, j => by
    simp only [List.cons_append, pickIdx, pickIdx_append sel A B (j + 1), List.length_cons]
    rw [show j + 1 + A.length = j + (A.length + 1) by omega]
    split <;> rfl

theorem pickIdx_none (sel : Nat → Bool) : ∀ (l : List α) (j : Nat), (∀ i, j ≤ i → i < j + l.length → sel i = false) →
    pickIdx sel j l = []
  | [], _, _ => rfl
  | x :: xs, j, h => by
    simp only [pickIdx, h j (Nat.le_refl _) (by simp), Bool.false_eq_true, if_false]
    exact pickIdx_none sel xs (j + 1) fun i h1 h2 => h i (by omega) (by simp only [List.length_cons]; omega)

/-- within the bounds the selection is "every c-th"; `t` counts down to the next pick -/
theorem pickIdx_stride (start stop c : Nat) (hc : 0 < c) : ∀ (l : List α) (j t : Nat),
    start ≤ j → j + l.length ≤ stop → t < c → (j - start + t) % c = 0 →
    pickIdx (sliceSel start stop c) j l = everyNth c t l
  | [], j, t, _, _, _, _ => by cases t <;> simp [pickIdx, everyNth]
  | x :: xs, j, t, hj, hl, ht, hm => by
    simp only [List.length_cons] at hl
    cases t with
    | zero =>
      have hsel : sliceSel start stop c j = true := by
        simp [sliceSel]; refine ⟨hj, by omega, ?_⟩; simpa using hm
      simp only [pickIdx, hsel, if_true, everyNth]
      rw [pickIdx_stride start stop c hc xs (j + 1) (c - 1) (by omega) (by omega) (by omega) ?_]
      have e : j + 1 - start + (c - 1) = (j - start) + c := by omega
      rw [e, Nat.add_mod_right]; simpa using hm
    | succ k =>
      have hsel : sliceSel start stop c j = false := by
        simp only [sliceSel, decide_eq_false_iff_not]
        rintro ⟨_, _, h0⟩
        have : (j - start + (k + 1)) % c = k + 1 := by
          rw [Nat.add_mod, h0, Nat.zero_add, Nat.mod_mod, Nat.mod_eq_of_lt ht]
        omega
      simp only [pickIdx, hsel, Bool.false_eq_true, if_false, everyNth]
      apply pickIdx_stride start stop c hc xs (j + 1) k (by omega) (by omega) (by omega)
      have e : j + 1 - start + k = j - start + (k + 1) := by omega
      rw [e]; exact hm

theorem islice_eq_pickIdx (l : List α) (start : Nat) (stop : Option Nat) (c : Nat) (hc : 0 < c) :
    islice l start stop c = pickIdx (sliceSel start (stop.getD l.length) c) 0 l := by
  have key : ∀ e : Nat, pickIdx (sliceSel start e c) 0 l = everyNth c 0 ((l.take e).drop start) := by
    intro e
    -- nothing is selected behind `e`, nothing before `start`; in between the selection is "every c-th"
    conv => lhs; rw [← List.take_append_drop e l]
    rw [pickIdx_append, pickIdx_none _ (l.drop e), List.append_nil]
    · conv => lhs; rw [← List.take_append_drop start (l.take e)]
      rw [pickIdx_append, pickIdx_none _ ((l.take e).take start), List.nil_append]
      · by_cases hs : start ≤ (l.take e).length
        · rw [show 0 + ((l.take e).take start).length = start by simp only [List.length_take] at hs ⊢; omega]
          apply pickIdx_stride start e c hc _ start 0 (Nat.le_refl _) ?_ hc (by simp)
          simp only [List.length_take, List.length_drop] at hs ⊢; omega
        · rw [List.drop_eq_nil_of_le (by omega)]; rfl
      · intro i _ hi
        simp only [List.length_take] at hi
        simp [sliceSel]; omega
    · intro i h1 h2
      simp only [List.length_take, List.length_drop] at h1 h2
      simp [sliceSel]; omega
  unfold islice
  cases stop with
  | none => simp only [Option.getD_none]; rw [key l.length, List.take_length]
  | some e => simp only [Option.getD_some]; exact (key e).symm

theorem normBound_eq (n : Nat) (v : Int) : normBound n (some v) = some (sliceBound n v) := by
  simp only [normBound, sliceBound]; split <;> rfl

theorem pyIndex_some (n : Nat) (i : Int) (k : Nat) (h : pyIndex n i = some k) :
    k < n ∧ (i = (k : Int) ∨ i = (k : Int) - (n : Int)) := by
  unfold pyIndex at h
  split at h
  · simp at h; omega
  · split at h
    · simp at h; omega
    · cases h

end C11
