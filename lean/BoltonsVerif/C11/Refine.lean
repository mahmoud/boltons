import BoltonsVerif.C11.SetAlgebra
import BoltonsVerif.C11.Moves
/-
C11 — assembly: one `step` refines `Spec.step`; what every `step` keeps, histories and all sets of a machine keep;
histories and machines refine plain lists.
-/
namespace C11
variable {α : Type} [DecidableEq α]
open Spec

/-- the invariant of the new state is `step_inv`, for any argument; here: what a valid argument makes visible -/
theorem step_refines (cfg : Cfg) (le : α → α → Bool) (s : ISet α) (h : Inv s) (op : Op α)
    (hv : ValidOp s.toList op) :
    (step cfg le s op).1.toList = (Spec.step le s.toList op).1 ∧ (step cfg le s op).2 = (Spec.step le s.toList op).2 := by
  cases op with
  | add x => exact ⟨toList_add s h.toInvC x, rfl⟩
  | remove x =>
    by_cases hx : x ∈ s.toList
    · obtain ⟨s', h1, _, h3⟩ := (remove_spec cfg s h x).1 hx
      unfold step Spec.step; simp only [h1, if_pos hx]; exact ⟨h3, trivial⟩
    · unfold step Spec.step; simp only [(remove_spec cfg s h x).2 hx, if_neg hx]; exact ⟨trivial, trivial⟩
  | discard x => exact ⟨(discard_spec cfg s h x).2, rfl⟩
  | pop =>
    by_cases hne : s.toList = []
    · unfold step Spec.step; simp only [(popLast_spec cfg s h).2 hne, hne, List.getLast?_nil]; exact ⟨trivial, trivial⟩
    · obtain ⟨s', h1, _, h3⟩ := (popLast_spec cfg s h).1 hne
      unfold step Spec.step; simp only [h1, List.getLast?_eq_some_getLast hne]; exact ⟨h3, trivial⟩
  | popAt i =>
    cases hp : pyIndex s.toList.length i with
    | none => exact absurd (show (pyIndex s.toList.length i).isSome = true from hv) (by rw [hp]; exact Bool.false_ne_true)
    | some k =>
      obtain ⟨hk, hi⟩ := pyIndex_some _ _ _ hp
      obtain ⟨s', h1, _, h3⟩ := popAt_spec cfg s h k hk i hi
      unfold step Spec.step; simp only [h1, hp, List.getElem?_eq_getElem hk]; exact ⟨h3, trivial⟩
  | clear => exact ⟨rfl, rfl⟩
  | sort rev => exact ⟨(sort_spec le rev s h).2, rfl⟩
  | sortBy lek rev bad =>
    unfold step Spec.step; simp only [ISet.sortBy, ISet.sortRaises, h.toInvC.len_eq]
    by_cases hb : (decide (2 ≤ s.toList.length) && s.toList.any fun x => bad.contains x) = true
    · simp only [if_pos hb]; exact ⟨trivial, trivial⟩
    · simp only [if_neg hb]; exact ⟨(sort_spec lek rev s h).2, trivial⟩
  | reverse => exact ⟨(reverse_spec s h).2, rfl⟩
  | update os => exact ⟨update_spec s h os, rfl⟩
  | interUpdate os => exact ⟨interUpdate_spec cfg s h os, rfl⟩
  | diffUpdate os => exact ⟨diffUpdate_spec cfg s h os, rfl⟩
  | symUpdate o => exact ⟨symUpdate_spec cfg s h o, rfl⟩
  | iter => exact ⟨rfl, rfl⟩
  | len => exact ⟨rfl, congrArg Out.nat h.toInvC.len_eq⟩
  | contains x => exact ⟨rfl, congrArg Out.bool (h.toInvC.contains_eq x)⟩
  | get i =>
    refine ⟨rfl, ?_⟩
    cases hp : pyIndex s.toList.length i with
    | none => exact absurd (show (pyIndex s.toList.length i).isSome = true from hv) (by rw [hp]; exact Bool.false_ne_true)
    | some k =>
      obtain ⟨hk, hi⟩ := pyIndex_some _ _ _ hp
      unfold step Spec.step; simp only [getItem_spec s h k hk i hi, hp, List.getElem?_eq_getElem hk]
  | slice a b c =>
    refine ⟨rfl, ?_⟩
    rcases hv with hv | ⟨v, hv, hpos⟩
    · subst hv
      obtain ⟨t, h1, _, h3⟩ := getSlice_spec s h a b 1 (by omega)
      have h1 := (getSlice_none s a b).trans h1
      unfold step Spec.step; simp only [h1, h3]
    · subst hv
      obtain ⟨t, h1, _, h3⟩ := getSlice_spec s h a b v.toNat (by omega)
      rw [Int.toNat_of_nonneg (by omega)] at h1
      unfold step Spec.step; simp only [h1, h3, if_neg (show ¬ v = 0 by omega)]
  | index x =>
    refine ⟨rfl, ?_⟩
    by_cases hx : x ∈ s.toList
    · unfold step Spec.step; simp only [(index_spec s h x).1 hx, if_pos hx]
    · unfold step Spec.step; simp only [(index_spec s h x).2 hx, if_neg hx]
  | count x => exact ⟨rfl, congrArg Out.nat (count_eq s h.toInvC x)⟩
  | reversed => exact ⟨rfl, congrArg Out.list (reversed_eq s)⟩
  | union os => exact ⟨rfl, congrArg Out.list (union_spec s h os).2⟩
  | inter os => exact ⟨rfl, congrArg Out.list (inter_spec s h os).2⟩
  | diff os => exact ⟨rfl, congrArg Out.list (diff_spec s h os).2⟩
  | symdiff os =>
    match os, hv with
    | [o], _ => exact ⟨rfl, congrArg Out.list (symdiff_spec s h o).2⟩
  | rsub o => exact ⟨rfl, congrArg Out.list (rsub_spec s h o)⟩
  | issubset o => exact ⟨rfl, congrArg Out.bool (issubset_spec s h o)⟩
  | issuperset o => exact ⟨rfl, congrArg Out.bool (issuperset_spec s h o)⟩
  | isdisjoint o => exact ⟨rfl, congrArg Out.bool (isdisjoint_spec s h o)⟩

theorem Mach.curSet_mem {m : Mach α} (hb : m.cur < m.regs.length) : m.curSet ∈ m.regs := by
  unfold Mach.curSet
  rw [List.getElem?_eq_getElem hb]
  exact List.getElem_mem _

theorem runState_keeps (cfg : Cfg) (le : α → α → Bool) (P : ISet α → Prop)
    (hstep : ∀ s op, P s → P (step cfg le s op).1) : ∀ (ops : List (Op α)) (s : ISet α), P s → P (runState cfg le s ops)
  | [], _, h => h
  | op :: ops, s, h => runState_keeps cfg le P hstep ops _ (hstep s op h)

theorem mstep_keeps (cfg : Cfg) (le : α → α → Bool) (P : ISet α → Prop)
    (hstep : ∀ s op, P s → P (step cfg le s op).1) (hres : ∀ o : Out α, P (resultSet o)) (m : Mach α)
    (h : ∀ s ∈ m.regs, P s) (hb : m.cur < m.regs.length) (op : MOp α) :
    (∀ s ∈ (mstep cfg le m op).1.regs, P s) ∧ (mstep cfg le m op).1.cur < (mstep cfg le m op).1.regs.length := by
  have hc : P m.curSet := h _ (Mach.curSet_mem hb)
  cases op with
  | sel k =>
    simp only [mstep]
    by_cases hk : k < m.regs.length
    · rw [if_pos hk]; exact ⟨h, hk⟩
    · rw [if_neg hk]; exact ⟨h, hb⟩
  | run f =>
    simp only [mstep]
    refine ⟨fun s hs => ?_, by simpa using hb⟩
    rcases List.mem_or_eq_of_mem_set hs with hs | hs
    · exact h s hs
    · rw [hs]; exact hstep _ _ hc
  | fork f =>
    simp only [mstep]
    refine ⟨fun s hs => ?_, by simp; omega⟩
    rcases List.mem_append.1 hs with hs | hs
    · rcases List.mem_or_eq_of_mem_set hs with hs | hs
      · exact h s hs
      · rw [hs]; exact hstep _ _ hc
    · rw [List.mem_singleton.1 hs]; exact hres _

theorem mrunState_keeps (cfg : Cfg) (le : α → α → Bool) (P : ISet α → Prop)
    (hstep : ∀ s op, P s → P (step cfg le s op).1) (hres : ∀ o : Out α, P (resultSet o)) :
    ∀ (ops : List (MOp α)) (m : Mach α), (∀ s ∈ m.regs, P s) → m.cur < m.regs.length →
      ∀ s ∈ (mrunState cfg le m ops).regs, P s
  | [], _, h, _ => h
  | op :: ops, m, h, hb =>
    mrunState_keeps cfg le P hstep hres ops _ (mstep_keeps cfg le P hstep hres m h hb op).1
      (mstep_keeps cfg le P hstep hres m h hb op).2

theorem run_refines (cfg : Cfg) (le : α → α → Bool) : ∀ (ops : List (Op α)) (s : ISet α), Inv s →
    ValidRun le s.toList ops →
    runOuts cfg le s ops = Spec.runOuts le s.toList ops ∧
      (runState cfg le s ops).toList = Spec.runState le s.toList ops
  | [], s, h, _ => ⟨rfl, rfl⟩
  | op :: ops, s, h, hv => by
    obtain ⟨hv1, hv2⟩ := hv
    obtain ⟨h2, h3⟩ := step_refines cfg le s h op hv1
    rw [← h2] at hv2
    have ih := run_refines cfg le ops _ (step_inv cfg le s h op) hv2
    simp only [runOuts, runState, Spec.runOuts, Spec.runState]
    rw [h3, ih.1, ih.2, h2]
    exact ⟨rfl, rfl⟩

structure MRel (m : Mach α) (sm : SMach α) : Prop where
  cur : m.cur = sm.cur
  bound : m.cur < m.regs.length
  views : m.views = sm.regs
  inv : ∀ s ∈ m.regs, Inv s

theorem MRel.curSet_inv {m : Mach α} {sm : SMach α} (h : MRel m sm) : Inv m.curSet :=
  h.inv _ (Mach.curSet_mem h.bound)

theorem MRel.curSet_toList {m : Mach α} {sm : SMach α} (h : MRel m sm) : m.curSet.toList = sm.curList := by
  unfold Mach.curSet SMach.curList
  rw [← h.views, ← h.cur, Mach.views, List.getElem?_map, List.getElem?_eq_getElem h.bound]
  rfl

theorem resultSet_spec (o : Out α) : Inv (resultSet o) ∧ (resultSet o).toList = resultList o := by
  cases o with
  | list l => exact ofList_spec l
  | _ => exact ⟨inv_empty, rfl⟩

theorem mstep_refines (cfg : Cfg) (le : α → α → Bool) (m : Mach α) (sm : SMach α) (h : MRel m sm)
    (op : MOp α) (hv : MValidOp sm op) :
    MRel (mstep cfg le m op).1 (Spec.mstep le sm op).1 ∧ (mstep cfg le m op).2 = (Spec.mstep le sm op).2 := by
  have hlen : sm.regs.length = m.regs.length := by rw [← h.views]; simp [Mach.views]
  have hk := mstep_keeps cfg le Inv (fun s op h => step_inv cfg le s h op) (fun o => (resultSet_spec o).1) m h.inv
    h.bound op
  -- `run` and `fork` execute the same step on the selected set
  have hstep : ∀ f : List (List α) → Op α, ValidOp sm.curList (f sm.regs) →
      (step cfg le m.curSet (f m.views)).1.toList = (Spec.step le sm.curList (f sm.regs)).1 ∧
        (step cfg le m.curSet (f m.views)).2 = (Spec.step le sm.curList (f sm.regs)).2 := by
    intro f hv
    rw [← h.curSet_toList, ← h.views] at hv ⊢
    exact step_refines cfg le m.curSet h.curSet_inv (f m.views) hv
  cases op with
  | sel k =>
    simp only [mstep, Spec.mstep, hlen]
    by_cases hk : k < m.regs.length
    · simp only [if_pos hk]; exact ⟨{ cur := rfl, bound := hk, views := h.views, inv := h.inv }, trivial⟩
    · simp only [if_neg hk]; exact ⟨h, trivial⟩
  | run f =>
    obtain ⟨h2, h3⟩ := hstep f hv
    refine ⟨{ cur := h.cur, bound := hk.2, views := ?_, inv := hk.1 }, h3⟩
    show (m.regs.set m.cur _).map ISet.toList = (sm.regs.set sm.cur _)
    rw [List.map_set, h2, ← h.views, ← h.cur]; rfl
  | fork f =>
    obtain ⟨h2, h3⟩ := hstep f hv
    refine ⟨{ cur := h.cur, bound := hk.2, views := ?_, inv := hk.1 }, h3⟩
    show (m.regs.set m.cur _ ++ [_]).map ISet.toList = sm.regs.set sm.cur _ ++ [_]
    rw [List.map_append, List.map_set, h2, h3, ← h.views, ← h.cur]
    simp [Mach.views, (resultSet_spec _).2]

theorem mrun_refines (cfg : Cfg) (le : α → α → Bool) : ∀ (ops : List (MOp α)) (m : Mach α) (sm : SMach α),
    MRel m sm → MValidRun le sm ops →
    mrunOuts cfg le m ops = Spec.mrunOuts le sm ops ∧
      MRel (mrunState cfg le m ops) (Spec.mrunState le sm ops)
  | [], _, _, h, _ => ⟨rfl, h⟩
  | op :: ops, m, sm, h, hv => by
    obtain ⟨hv1, hv2⟩ := hv
    obtain ⟨h1, h2⟩ := mstep_refines cfg le m sm h op hv1
    have ih := mrun_refines cfg le ops _ _ h1 hv2
    simp only [mrunOuts, mrunState, Spec.mrunOuts, Spec.mrunState]
    exact ⟨by rw [h2, ih.1], ih.2⟩

theorem mstep_frame (cfg : Cfg) (le : α → α → Bool) (m : Mach α) (op : MOp α) (j : Nat)
    (hj : j < m.regs.length) (hne : j ≠ m.cur) : (mstep cfg le m op).1.regs[j]? = m.regs[j]? := by
  cases op with
  | sel k => simp only [mstep]; split <;> rfl
  | run f => simp only [mstep]; rw [List.getElem?_set_ne (Ne.symm hne)]
  | fork f =>
    simp only [mstep]
    rw [List.getElem?_append_left (by simpa using hj), List.getElem?_set_ne (Ne.symm hne)]

end C11
