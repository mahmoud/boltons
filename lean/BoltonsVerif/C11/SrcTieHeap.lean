/-
C11 — SOURCE TIE, heap part: the representation relation between the object store of the generated
`IndexedSet` methods (`Generated/Src_setutils_iset.lean`, translated by harness/py2lean_c11.py) and the hand model's
`dead : List (Nat × Nat)`, and specification lemmas for the runtime operations (`PyRtC11.lean`) on represented states.
Nothing here mentions a generated METHOD (only the generated state record), so a changed
source cannot break this file; the tie theorems themselves are in `C11/SrcTie.lean`.
-/
import BoltonsVerif.Generated.Src_setutils_iset
import BoltonsVerif.PyRtLemmas
import BoltonsVerif.C11.Intervals

namespace C11
open PyHeap PyRtC11 Src.setutils

variable {κ : Type}

/-- the cell of the dead interval `[start, stop]` -/
def ivCell (p : Nat × Nat) : List (Val κ Unit) := [.int (p.1 : Int), .int (p.2 : Int)]

/-- `refs` (the Python list `dead_indices`) holds references to pairwise DIFFERENT cells of the store `h` whose contents
    are the intervals `dead` of the model, in order -/
def RepDead (h : Heap κ Unit) (refs : List (Val κ Unit)) (dead : List (Nat × Nat)) : Prop :=
  ∃ addrs : List Nat, refs = addrs.map Val.ref ∧ addrs.Nodup ∧ addrs.map h.cell = dead.map ivCell

theorem lt_of_cell_ne_nil (h : Heap κ Unit) (a : Nat) (hne : h.cell a ≠ []) : a < h.cells.length := by
  apply Classical.byContradiction
  intro hge
  apply hne
  unfold Heap.cell
  rw [List.getD_eq_getElem?_getD, List.getElem?_eq_none (by omega)]; rfl

theorem cell_alloc_of_ne_nil (h : Heap κ Unit) (c : List (Val κ Unit)) (a : Nat) (hne : h.cell a ≠ []) :
    (h.alloc c).cell a = h.cell a := by
  unfold Heap.cell Heap.alloc
  rw [List.getD_eq_getElem?_getD, List.getD_eq_getElem?_getD, List.getElem?_append_left (lt_of_cell_ne_nil h a hne)]

theorem cell_alloc_next (h : Heap κ Unit) (c : List (Val κ Unit)) : (h.alloc c).cell h.cells.length = c := by
  unfold Heap.cell Heap.alloc
  simp [List.getD_eq_getElem?_getD]

theorem cell_set_same (h : Heap κ Unit) (a : Nat) (c : List (Val κ Unit)) (ha : a < h.cells.length) :
    (Heap.mk (h.cells.set a c)).cell a = c := by
  unfold Heap.cell
  simp [List.getD_eq_getElem?_getD, ha]

theorem cell_set_other (h : Heap κ Unit) (a b : Nat) (c : List (Val κ Unit)) (hab : b ≠ a) :
    (Heap.mk (h.cells.set a c)).cell b = h.cell b := by
  unfold Heap.cell
  simp [List.getD_eq_getElem?_getD, Ne.symm hab]

theorem map_insertIdx {α β : Type} (f : α → β) (x : α) : ∀ (l : List α) (i : Nat),
    (l.insertIdx i x).map f = (l.map f).insertIdx i (f x)
  | [], 0 => by simp
  | [], i + 1 => by simp
  | a :: l, 0 => by simp
  | a :: l, i + 1 => by simp [List.insertIdx_succ_cons, map_insertIdx f x l i]

theorem map_congr_set {α β : Type} (f g : α → β) (a : α) (v : β) (hg : g a = v) (hne : ∀ b, b ≠ a → g b = f b) :
    ∀ (l : List α) (j : Nat), l.Nodup → l[j]? = some a → l.map g = (l.map f).set j v
  | [], j, _, h => by simp at h
  | b :: l, 0, hnd, h => by
    simp only [List.getElem?_cons_zero, Option.some.injEq] at h
    subst h
    simp only [List.map_cons, List.set_cons_zero, hg, List.cons.injEq, true_and]
    apply List.map_congr_left
    intro c hc
    apply hne
    intro hcb; subst hcb
    exact (List.nodup_cons.1 hnd).1 hc
  | b :: l, j + 1, hnd, h => by
    simp only [List.getElem?_cons_succ] at h
    have hb : b ≠ a := by
      intro hba; subst hba
      exact (List.nodup_cons.1 hnd).1 (List.mem_of_getElem? h)
    simp only [List.map_cons, List.set_cons_succ, hne b hb, List.cons.injEq, true_and]
    exact map_congr_set f g a v hg hne l j (List.nodup_cons.1 hnd).2 h

theorem bsearch?_eq (lt : Nat → Except PyExc Bool) (p : Nat → Bool) (n : Nat) (h : ∀ i, i < n → lt i = .ok (p i)) :
    ∀ (fuel lo hi : Nat), hi ≤ n → bsearch? lt fuel lo hi = .ok (bsearch p fuel lo hi) := by
  intro fuel
  induction fuel with
  | zero => intro lo hi _; simp [bsearch?, bsearch]
  | succ m ih =>
    intro lo hi hhi
    simp only [bsearch?, bsearch]
    by_cases hlt : lo < hi
    · rw [if_pos hlt, if_pos hlt, h _ (by omega), bx_ok]
      by_cases hp : p ((lo + hi) / 2) = true
      · rw [if_pos hp, if_pos hp]; exact ih _ _ hhi
      · rw [if_neg hp, if_neg hp]; exact ih _ _ (by omega)
    · rw [if_neg hlt, if_neg hlt]

theorem cellLt?_ivCell (q c : Nat × Nat) : cellLt? (ivCell q : List (Val κ Unit)) (ivCell c) = .ok (lexLt c q) := by
  obtain ⟨q1, q2⟩ := q
  obtain ⟨c1, c2⟩ := c
  simp only [ivCell, cellLt?, lexLt]
  by_cases h1 : q1 = c1
  · subst h1
    by_cases h2 : q2 = c2
    · subst h2; simp
    · have : ¬ ((q2 : Int) = (c2 : Int)) := by omega
      simp [this]
  · have : ¬ ((q1 : Int) = (c1 : Int)) := by omega
    simp [this, h1]

theorem rep_cell (h : Heap κ Unit) (addrs : List Nat) (dead : List (Nat × Nat))
    (hcells : addrs.map h.cell = dead.map ivCell) (i : Nat) (hi : i < addrs.length) (hi2 : i < dead.length) :
    h.cell addrs[i] = ivCell dead[i] := by
  have := congrArg (fun l => l[i]?) hcells
  simpa [List.getElem?_map, List.getElem?_eq_getElem hi, List.getElem?_eq_getElem hi2] using this

/-- on a represented table, `bisect_left(dints, cand)` evaluated through the store (the candidate is a cell too) is the
    model's `bisectLeftPy` -/
theorem bisectLeft?_rep (h : Heap κ Unit) (addrs : List Nat) (dead : List (Nat × Nat)) (n : Nat) (c : Nat × Nat)
    (hcells : addrs.map h.cell = dead.map ivCell) (hn : h.cell n = ivCell c) :
    bisectLeft? h (addrs.map Val.ref) (.ref n) = .ok ((bisectLeftPy dead c : Nat) : Int) := by
  have hlen : addrs.length = dead.length := by simpa using congrArg List.length hcells
  unfold bisectLeft? bisectLeftPy
  rw [bsearch?_eq _ (ltAt dead c) dead.length _ _ _ _ (by simp [hlen])]
  · simp [hlen]
  · intro i hi
    have hi2 : i < addrs.length := by omega
    have hc := rep_cell h addrs dead hcells i hi2 hi
    simp only [List.getElem?_map, List.getElem?_eq_getElem hi2, Option.map_some, valLt?, hc, hn, cellLt?_ivCell,
      ltAt, List.getElem?_eq_getElem hi]

/-- `dint[k] = …` through the alias: the cell of entry `j` gets new contents, every other entry keeps its own (the
    references are pairwise different) -/
theorem RepDead.set_cell (h : Heap κ Unit) (addrs : List Nat) (dead : List (Nat × Nat)) (j : Nat) (p : Nat × Nat)
    (hnd : addrs.Nodup) (hcells : addrs.map h.cell = dead.map ivCell) (hj : j < addrs.length)
    (hlt : addrs[j] < h.cells.length) :
    RepDead ⟨h.cells.set addrs[j] (ivCell p)⟩ (addrs.map Val.ref) (dead.set j p) := by
  refine ⟨addrs, rfl, hnd, ?_⟩
  rw [map_congr_set h.cell _ addrs[j] (ivCell p) (cell_set_same h _ _ hlt) (fun b hb => cell_set_other h _ b _ hb)
    addrs j hnd (List.getElem?_eq_getElem hj), hcells, List.map_set]

/-- `dints.insert(int_idx, cand_int)` with a cell no entry refers to yet -/
theorem RepDead.insert_new (h : Heap κ Unit) (addrs : List Nat) (dead : List (Nat × Nat)) (i n : Nat) (p : Nat × Nat)
    (hnd : addrs.Nodup) (hcells : addrs.map h.cell = dead.map ivCell) (hi : i ≤ addrs.length) (hn : n ∉ addrs)
    (hc : h.cell n = ivCell p) :
    RepDead h (PyRtC11.insert (addrs.map Val.ref) (i : Int) (.ref n)) (dead.insertIdx i p) := by
  refine ⟨addrs.insertIdx i n, ?_, ?_, ?_⟩
  · unfold PyRtC11.insert PyRt.clampBound
    rw [map_insertIdx]
    congr 1
    simp only [List.length_map]
    split <;> omega
  · exact (List.perm_insertIdx n addrs hi).nodup_iff.2 (List.nodup_cons.2 ⟨hn, hnd⟩)
  · rw [map_insertIdx, map_insertIdx, hcells, hc]

theorem index?_refs (addrs : List Nat) (j : Nat) (i : Int) (a : Nat) (ha : addrs[j]? = some a)
    (hi : PyRt.normIdx (addrs.map (Val.ref (κ := κ) (ν := Unit))) i = (j : Int)) :
    PyRt.index? (addrs.map (Val.ref (κ := κ) (ν := Unit))) i = .ok (.ref a) := by
  unfold PyRt.index?
  rw [hi]
  simp [List.getElem?_map, ha]

section RepSec
variable {α : Type} [DecidableEq α]

/-- a slot of `item_list`: the `_MISSING` tombstone or the item -/
def ofItem : Option α → Val α Unit
  | none => .sentinel
  | some x => .key x

@[simp] theorem ofItem_some (x : α) : ofItem (some x) = Val.key x := rfl
@[simp] theorem ofItem_none : ofItem (none : Option α) = Val.sentinel := rfl

/-- `item_index_map` with Python ints as values -/
def castIdx (m : IMap α) : PyRt.Dict α Int := m.map (fun p => (p.1, (p.2 : Int)))

structure Rep (st : IndexedSet.St α) (s : ISet α) : Prop where
  items : st.item_list = s.items.map ofItem
  idx : st.item_index_map = castIdx s.idx
  dead : RepDead st.heap st.dead_indices s.dead

theorem Rep.cases {st : IndexedSet.St α} {s : ISet α} (h : Rep st s) :
    ∃ heap di cp cm, st = ⟨heap, castIdx s.idx, s.items.map ofItem, di, cp, cm⟩ ∧ RepDead heap di s.dead := by
  obtain ⟨heap, iim, il, di, cp, cm⟩ := st
  exact ⟨heap, di, cp, cm, by rw [← h.items, ← h.idx], h.dead⟩

/-- a tie in the form the callers of a method use it: the call as an equation -/
theorem Rep.run {ρ : Type} {p : ρ × IndexedSet.St α} {r : ρ} {s : ISet α} (h : p.1 = r ∧ Rep p.2 s) :
    ∃ st', p = (r, st') ∧ Rep st' s :=
  ⟨p.2, by rw [← h.1], h.2⟩

/-! The runtime's dict operations on a plain association list are the model's own, and `castIdx` re-codes the values. -/

theorem IMap.find_eq_lookup (m : IMap α) (x : α) : PyRt.Dict.find m x = IMap.lookup m x := by
  induction m with
  | nil => rfl
  | cons p m ih => rw [PyRt.Dict.find_cons, ih]; rfl

theorem IMap.set_eq (m : IMap α) (x : α) (n : Nat) : PyRt.Dict.set m x n = IMap.set m x n := by
  induction m with
  | nil => rfl
  | cons p m ih => obtain ⟨k, v⟩ := p; simp only [PyRt.Dict.set, IMap.set, ih]

/-- the runtime deletes every pair under the key, the model the first one -/
theorem IMap.erase_eq (m : IMap α) (x : α) (h : (IMap.keys m).Nodup) : PyRt.Dict.erase m x = IMap.erase m x := by
  induction m with
  | nil => rfl
  | cons p m ih =>
    obtain ⟨k, v⟩ := p
    rw [IMap.keys_cons, List.nodup_cons] at h
    simp only [PyRt.Dict.erase, List.filter_cons, IMap.erase] at ih ⊢
    by_cases hk : k = x
    · subst hk
      simp only [decide_true, Bool.not_true, Bool.false_eq_true, if_false, if_true]
      exact List.filter_eq_self.2 fun q hq => by
        have : q.1 ≠ k := fun e => h.1 (e ▸ List.mem_map_of_mem hq)
        simp [this]
    · simp [hk, ih h.2]

theorem castIdx_eq_mapVals (m : IMap α) : castIdx m = PyRt.Dict.mapVals (fun n : Nat => (n : Int)) m := rfl

theorem find_castIdx (m : IMap α) (x : α) :
    PyRt.Dict.find (castIdx m) x = (IMap.lookup m x).map (fun n : Nat => (n : Int)) := by
  rw [castIdx_eq_mapVals, PyRt.Dict.find_mapVals, IMap.find_eq_lookup]

theorem contains_castIdx (m : IMap α) (x : α) : PyRt.Dict.contains (castIdx m) x = (IMap.lookup m x).isSome := by
  simp only [PyRt.Dict.contains, find_castIdx]
  cases IMap.lookup m x <;> rfl

theorem set_castIdx (m : IMap α) (x : α) (n : Nat) :
    PyRt.Dict.set (castIdx m) x (n : Int) = castIdx (IMap.set m x n) := by
  rw [castIdx_eq_mapVals, PyRt.Dict.set_mapVals, IMap.set_eq]; rfl

theorem length_castIdx (m : IMap α) : (castIdx m).length = m.length := by simp [castIdx]

theorem erase_castIdx (m : IMap α) (x : α) (h : (IMap.keys m).Nodup) :
    PyRt.Dict.erase (castIdx m) x = castIdx (IMap.erase m x) := by
  rw [castIdx_eq_mapVals, PyRt.Dict.erase_mapVals, IMap.erase_eq m x h]; rfl

theorem pop?_castIdx (m : IMap α) (x : α) (hn : (IMap.keys m).Nodup) :
    PyRt.Dict.pop? (castIdx m) x = match IMap.lookup m x with
      | some n => .ok ((n : Int), castIdx (IMap.erase m x))
      | none => .error PyExc.KeyError := by
  unfold PyRt.Dict.pop?
  rw [find_castIdx, erase_castIdx m x hn]
  cases IMap.lookup m x <;> rfl

theorem del?_castIdx (m : IMap α) (x : α) (hn : (IMap.keys m).Nodup) (hx : (IMap.lookup m x).isSome) :
    PyRt.Dict.del? (castIdx m) x = .ok (castIdx (IMap.erase m x)) := by
  unfold PyRt.Dict.del?
  rw [contains_castIdx, hx, erase_castIdx m x hn]; rfl

theorem get?_castIdx (m : IMap α) (x : α) :
    PyRt.Dict.get? (castIdx m) x = match IMap.lookup m x with
      | some n => .ok (n : Int)
      | none => .error PyExc.KeyError := by
  unfold PyRt.Dict.get?
  rw [find_castIdx]
  cases IMap.lookup m x <;> rfl

theorem index?_items (items : List (Option α)) (r : Nat) (o : Option (Option α)) (h : items[r]? = o) :
    PyRt.index? (items.map ofItem) (r : Int) = match o with
      | some v => .ok (ofItem v)
      | none => .error PyExc.IndexError := by
  unfold PyRt.index? PyRt.normIdx
  have h0 : ¬ ((r : Int) < 0) := by omega
  cases o <;> simp [h0, h]

theorem index?_from_end (items : List (Option α)) (k : Nat) (hk : k < items.length) :
    PyRt.index? (items.map ofItem) (-((k : Int) + 1)) = .ok (ofItem (items.reverse[k]?.getD none)) := by
  unfold PyRt.index? PyRt.normIdx
  have h1 : (-((k : Int) + 1)) < 0 := by omega
  simp only [h1, if_true, List.length_map]
  have h2 : ¬ (-((k : Int) + 1) + (items.length : Int) < 0) := by omega
  have h3 : (-((k : Int) + 1) + (items.length : Int)).toNat = items.length - 1 - k := by omega
  rw [if_neg h2, h3, List.getElem?_map, List.getElem?_reverse hk]
  have : items.length - 1 - k < items.length := by omega
  simp [List.getElem?_eq_getElem this]

theorem delIdx?_last {β : Type} (L : List β) (x : β) : delIdx? (L ++ [x]) (-1) = .ok L := by
  unfold delIdx? PyRt.normIdx
  have h2 : (-1 + ((L ++ [x]).length : Int)).toNat = L.length := by simp; omega
  have h3 : 0 ≤ (-1 + ((L ++ [x]).length : Int)) ∧ (-1 + ((L ++ [x]).length : Int)) < ((L ++ [x]).length : Int) := by
    simp; omega
  simp only [show ((-1 : Int) < 0) from by omega, if_true, h2, if_pos h3]
  simp [List.eraseIdx_append_of_length_le]

theorem popLast?_items (items : List (Option α)) (o : Option α) (hl : items.getLast? = some o) :
    PyRt.popLast? (items.map ofItem) = .ok (ofItem o, (items.map ofItem).dropLast) := by
  unfold PyRt.popLast?
  rw [List.getLast?_map, hl]; rfl

theorem setIdx?_tomb (items : List (Option α)) (i : Nat) (hi : i < items.length) :
    setIdx? (items.map ofItem) (i : Int) Val.sentinel = .ok ((items.map ofItem).set i Val.sentinel) := by
  unfold setIdx? PyRt.normIdx
  have h0 : ¬ ((i : Int) < 0) := by omega
  simp only [h0, if_false, List.length_map]
  rw [if_pos (by omega)]
  simp

theorem delSlice_all {β : Type} (l : List β) : delSlice l none none = [] := by
  unfold delSlice
  cases l <;> simp

theorem delSlice_neg_tail {β : Type} (l : List β) (n : Nat) (hn : n ≤ l.length) :
    delSlice l (some (-(n : Int))) none = if n = 0 then [] else l.take (l.length - n) := by
  unfold delSlice PyRt.clampBound
  by_cases h0 : n = 0
  · subst h0; cases l <;> simp
  · have h1 : (-(n : Int)) < 0 := by omega
    have h2 : ((-(n : Int)) + (l.length : Int)).toNat = l.length - n := by omega
    simp only [h1, if_true, h2, h0, if_false]
    rw [if_pos (by omega)]
    simp

theorem RepDead.isEmpty_eq {h : Heap α Unit} {refs : List (Val α Unit)} {dead : List (Nat × Nat)} (hr : RepDead h refs dead) :
    refs.isEmpty = dead.isEmpty := by
  obtain ⟨addrs, rfl, _, hc⟩ := hr
  have := congrArg List.length hc
  simp at this
  cases addrs <;> cases dead <;> simp_all

theorem RepDead.nil (h : Heap α Unit) : RepDead h [] [] := ⟨[], rfl, by simp, rfl⟩

theorem RepDead.popDeadFrom {h : Heap α Unit} {addrs : List Nat} {dead : List (Nat × Nat)} (hnd : addrs.Nodup)
    (hc : addrs.map h.cell = dead.map ivCell) (n : Nat) :
    RepDead h ((addrs.take (popDeadFrom dead n).length).map Val.ref) (popDeadFrom dead n) := by
  refine ⟨addrs.take (C11.popDeadFrom dead n).length, rfl, hnd.sublist (List.take_sublist _ _), ?_⟩
  rw [List.map_take, hc, ← List.map_take, ← popDeadFrom_eq_take]

section CompactLoop
variable {σ ρ φ : Type} (proj : σ → IndexedSet.St α) (frame : σ → φ) (bind : Int → Val α Unit → σ → σ)
  (body : Stmt σ ρ) (keep : Val α Unit → Bool) (hk1 : keep .sentinel = false) (hk2 : ∀ x, keep (.key x) = true)
  (hbody : ∀ (t : σ) (i : Int) (x : α), 0 ≤ i → i < (proj t).item_list.length →
    ∃ t', body (bind i (.key x) t) = (.next, t') ∧
      proj t' = ⟨(proj t).heap, PyRt.Dict.set (proj t).item_index_map x i, (proj t).item_list.set i.toNat (.key x),
                 (proj t).dead_indices, (proj t).compactions, (proj t).c_max_size⟩ ∧ frame t' = frame t)
include hk1 hk2 hbody

/-- the loop of `_compact`, whatever its body looks like, as long as one iteration writes `items[i] = item` and
    `index_map[item] = i` (`hbody`): `W` = the slots written so far, `M` = stale slots already read, `rest` = the slots not
    yet read -/
theorem compact_loop :
    ∀ (rest : List (Option α)) (W M : List (Val α Unit)) (m : IMap α) (fuel : Nat) (t : σ),
      rest.length < fuel →
      (proj t).item_list = W ++ M ++ rest.map ofItem → (proj t).item_index_map = castIdx m →
      ∃ t', forLazy (fun s => (proj s).item_list) keep bind body fuel
            (W.length + M.length) (W.length : Int) t = (.next, t') ∧
        proj t' = ⟨(proj t).heap, castIdx (assignIdx m (live rest) W.length),
                   W ++ (live rest).map Val.key ++ (M ++ rest.map ofItem).drop (live rest).length,
                   (proj t).dead_indices, (proj t).compactions, (proj t).c_max_size⟩ ∧ frame t' = frame t := by
  intro rest
  induction rest with
  | nil =>
    intro W M m fuel t hf hl hi
    obtain ⟨n, rfl⟩ : ∃ n, fuel = n + 1 := ⟨fuel - 1, by simp at hf; omega⟩
    refine ⟨t, ?_, ?_, rfl⟩
    · simp [forLazy, hl]
    · have : (proj t).item_list = W ++ M := by simpa using hl
      simp only [live, assignIdx, List.filterMap_nil, List.map_nil, List.append_nil, List.length_nil, List.drop_zero,
        ← this, ← hi]
  | cons o rest ih =>
    intro W M m fuel t hf hl hi
    obtain ⟨n, rfl⟩ : ∃ n, fuel = n + 1 := ⟨fuel - 1, by simp at hf; omega⟩
    have hget : (proj t).item_list[W.length + M.length]? = some (ofItem o) := by
      rw [hl, List.append_assoc, List.getElem?_append_right (by omega),
        List.getElem?_append_right (by omega)]
      simp
    cases o with
    | none =>
      obtain ⟨t', h1, h2, h3⟩ := ih W (M ++ [Val.sentinel]) m n t (by simp at hf; omega)
        (by rw [hl]; simp [ofItem]) hi
      refine ⟨t', ?_, ?_, h3⟩
      · simp only [forLazy, hget, ofItem, hk1]
        simpa [Nat.add_assoc] using h1
      · rw [h2]; simp [live, ofItem]
    | some x =>
      have hlt : W.length + M.length < (proj t).item_list.length := by rw [hl]; simp
      obtain ⟨t1, hb1, hb2, hb3⟩ := hbody t (W.length : Int) x (by omega) (by omega)
      -- the list after `items[i] = item`
      have hset : (proj t).item_list.set W.length (Val.key x) =
          (W ++ [Val.key x]) ++ (M ++ [Val.key x]).tail ++ rest.map ofItem := by
        rw [hl]
        cases M with
        | nil => simp [ofItem]
        | cons m0 M2 => simp [ofItem]
      have hl1 : (proj t1).item_list = (W ++ [Val.key x]) ++ (M ++ [Val.key x]).tail ++ rest.map ofItem := by
        rw [hb2]; simpa using hset
      have hi1 : (proj t1).item_index_map = castIdx (IMap.set m x W.length) := by
        rw [hb2]; simp only; rw [hi, set_castIdx]
      obtain ⟨t', h1, h2, h3⟩ := ih (W ++ [Val.key x]) ((M ++ [Val.key x]).tail) (IMap.set m x W.length) n t1
        (by simp at hf; omega) hl1 hi1
      refine ⟨t', ?_, ?_, h3.trans hb3⟩
      · simp only [forLazy, hget, ofItem, hk2, if_true, hb1]
        have e1 : (W ++ [Val.key x]).length + (M ++ [Val.key x]).tail.length = W.length + M.length + 1 := by
          simp; omega
        have e2 : (((W ++ [Val.key x]).length : Nat) : Int) = (W.length : Int) + 1 := by simp
        rw [e1, e2] at h1
        exact h1
      · rw [h2, hb2]
        simp only [live, List.filterMap_cons, id, assignIdx, List.length_append, List.length_cons, List.length_nil]
        cases M with
        | nil => simp [ofItem]
        | cons m0 M2 => simp [ofItem]

/-- the whole loop: nothing written, nothing read yet -/
theorem compact_loop_start (items : List (Option α)) (m : IMap α) (fuel : Nat) (t : σ) (hf : items.length < fuel)
    (hl : (proj t).item_list = items.map ofItem) (hi : (proj t).item_index_map = castIdx m) :
    ∃ t', forLazy (fun s => (proj s).item_list) keep bind body fuel 0 0 t = (.next, t') ∧
      proj t' = ⟨(proj t).heap, castIdx (assignIdx m (live items) 0),
                 (live items).map Val.key ++ (items.map ofItem).drop (live items).length,
                 (proj t).dead_indices, (proj t).compactions, (proj t).c_max_size⟩ ∧ frame t' = frame t := by
  have := compact_loop proj frame bind body keep hk1 hk2 hbody items [] [] m fuel t hf (by simpa using hl) hi
  simpa using this

end CompactLoop

/-- the loop `while items[-(num_dead + 1)] is _MISSING: num_dead += 1`: the body writes one variable of the state, read by `n` and
    written by `setN` (`hL` … `hid` say so), and the loop leaves the state with `trailingDead items` in it -/
theorem tail_loop {σ ρ : Type} (L : σ → List (Val α Unit)) (n : σ → Int) (setN : σ → Int → σ)
    (c : σ → Except PyExc Bool) (body : Stmt σ ρ)
    (hc : ∀ t, c t = bx (PyRt.index? (L t) (-(n t + 1))) (fun v => .ok (Val.isSentinel v)))
    (hb : ∀ t, body t = (.next, setN t (n t + 1)))
    (hL : ∀ t v, L (setN t v) = L t) (hn : ∀ t v, n (setN t v) = v) (hss : ∀ t v w, setN (setN t v) w = setN t w)
    (hid : ∀ t, setN t (n t) = t)
    (items : List (Option α)) (htd : trailingDead items < items.length) :
    ∀ (fuel k : Nat) (t : σ), L t = items.map ofItem → n t = (k : Int) → k ≤ trailingDead items →
      trailingDead items - k < fuel → whileLoop c body fuel t = (.next, setN t (trailingDead items : Int)) := by
  intro fuel
  induction fuel with
  | zero => intro k t _ _ _ h; omega
  | succ f ih =>
    intro k t hL' hn' hk hf
    have hidx := index?_from_end items k (by omega)
    simp only [whileLoop, hc, hL', hn', hidx, bx_ok]
    by_cases hlt : k < trailingDead items
    · obtain ⟨x, hx1, hx2⟩ := takeWhile_pos isTomb items.reverse k hlt
      cases x with
      | some y => simp [isTomb] at hx2
      | none =>
        have := ih (k + 1) (setN t (n t + 1)) ((hL _ _).trans hL') (by rw [hn, hn']; simp) (by omega) (by omega)
        rw [hss] at this
        simp [hx1, ofItem, Val.isSentinel, hb, this]
    · have hk2 : k = trailingDead items := by omega
      obtain ⟨x, hx1, hx2⟩ := takeWhile_stop isTomb items.reverse (by simpa [trailingDead] using htd)
      subst hk2
      cases x with
      | none => simp [isTomb] at hx2
      | some y =>
        rw [← hn', hid]
        unfold trailingDead
        simp [hx1, ofItem, Val.isSentinel]

/-- the loop `while ded and ded[-1][0] >= len(items): del ded[-1]` (`D` reads and `setD` writes the list of references) leaves
    the references to the intervals of `popDeadFrom dead n` -/
theorem dead_loop {σ ρ : Type} (H : σ → Heap α Unit) (D : σ → List (Val α Unit)) (N : σ → Int)
    (setD : σ → List (Val α Unit) → σ) (c : σ → Except PyExc Bool) (body : Stmt σ ρ)
    (hc : ∀ t, c t = andE (.ok (!(D t).isEmpty)) (bx (bx (PyRt.index? (D t) (-1)) (fun v => Heap.get? (H t) v 0))
      (fun v7 => bx (asInt? v7) (fun v8 => .ok (decide (v8 ≥ N t))))))
    (hb : ∀ t L x, D t = L ++ [x] → body t = (.next, setD t L))
    (hD : ∀ t l, D (setD t l) = l) (hH : ∀ t l, H (setD t l) = H t) (hN : ∀ t l, N (setD t l) = N t)
    (hss : ∀ t l l', setD (setD t l) l' = setD t l') (hid : ∀ t, setD t (D t) = t) (n : Nat) :
    ∀ (fuel : Nat) (addrs : List Nat) (dead : List (Nat × Nat)) (t : σ), D t = addrs.map Val.ref →
      addrs.map (H t).cell = dead.map ivCell → N t = (n : Int) → dead.length < fuel →
      whileLoop c body fuel t = (.next, setD t ((addrs.take (popDeadFrom dead n).length).map Val.ref)) := by
  intro fuel
  induction fuel with
  | zero => intro _ _ _ _ _ _ h; omega
  | succ f ih =>
    intro addrs dead t hDt hcells hNt hf
    have hlen : addrs.length = dead.length := by simpa using congrArg List.length hcells
    rcases nil_or_snoc addrs with rfl | ⟨A, a, rfl⟩
    · have : dead = [] := by cases dead with | nil => rfl | cons _ _ => simp at hlen
      subst this
      have : setD t [] = t := by have := hid t; rwa [hDt] at this
      simp [whileLoop, hc, hDt, andE, popDeadFrom, this]
    · rcases nil_or_snoc dead with rfl | ⟨d', p, rfl⟩
      · simp at hlen
      · simp only [List.map_append, List.map_cons, List.map_nil] at hcells hDt
        have hl2 : (A.map (H t).cell).length = (d'.map (ivCell (κ := α))).length := by simp at hlen ⊢; omega
        obtain ⟨hc1, hc2⟩ := List.append_inj hcells hl2
        have hca : (H t).cell a = ivCell p := by simpa using hc2
        have hcond : c t = .ok (decide (n ≤ p.1)) := by
          rw [hc, hDt]
          have hne : (List.map (Val.ref (κ := α) (ν := Unit)) A ++ [Val.ref a]).isEmpty = false := by
            cases A <;> rfl
          have hi0 : PyRt.index? [Val.int (p.1 : Int), Val.int (p.2 : Int)] 0
              = .ok (Val.int (p.1 : Int) : Val α Unit) := rfl
          simp only [andE, hne, Bool.not_false, bx_ok, if_true, PyRt.index?_append_last, Heap.get?, hca, ivCell, hNt, hi0, asInt?]
          simp
        rw [popDeadFrom_snoc]
        by_cases hge : n ≤ p.1
        · have := ih A d' (setD t (A.map Val.ref)) (hD _ _) (by rw [hH]; exact hc1) (by rw [hN, hNt]) (by simp at hf; omega)
          rw [hss] at this
          rw [if_pos hge, List.take_append_of_le_length (by
            have := popDeadFrom_length_le d' n; simp at hlen; omega)]
          simp [whileLoop, hcond, hge, hb t _ _ hDt, this]
        · rw [if_neg hge, ← hlen, List.take_length, List.map_append, List.map_singleton, ← hDt, hid]
          simp [whileLoop, hcond, hge]

/-- the loop `for d_start, d_stop in self.dead_indices: if real_index < d_start: break; real_index += d_stop - d_start`
    read through the store, whatever its body looks like, as long as one iteration on the cell `[a, b]` either breaks
    (running value below `a`) or adds `b - a` -/
theorem cells_real_loop {σ ρ : Type} (H : σ → Heap α Unit) (D : σ → List (Val α Unit)) (K : σ → Int)
    (keep : Val α Unit → Bool) (bind : Int → Val α Unit → σ → σ) (body : Stmt σ ρ) (hkeep : ∀ v, keep v = true)
    (hbody : ∀ (t : σ) (a : Nat) (p : Nat × Nat) (iv : Int), (H t).cell a = ivCell p → p.1 ≤ p.2 → 0 ≤ K t →
      (K t < p.1 → ∃ t', body (bind iv (.ref a) t) = (.brk, t') ∧ K t' = K t ∧ H t' = H t ∧ D t' = D t) ∧
      (¬ K t < p.1 → ∃ t', body (bind iv (.ref a) t) = (.next, t') ∧ K t' = K t + ((p.2 : Int) - p.1) ∧ H t' = H t ∧
        D t' = D t)) :
    ∀ (dead : List (Nat × Nat)) (addrs : List Nat) (pre : List (Val α Unit)) (fuel : Nat) (iv : Int) (t : σ) (r : Nat),
      D t = pre ++ addrs.map Val.ref → addrs.map (H t).cell = dead.map ivCell → K t = (r : Int) →
      (∀ p ∈ dead, p.1 ≤ p.2) → dead.length < fuel →
      ∃ t', forLazy D keep bind body fuel pre.length iv t = (.next, t') ∧ K t' = (realLoop r dead : Int) := by
  intro dead
  induction dead with
  | nil =>
    intro addrs pre fuel iv t r hD hc hK _ hf
    obtain ⟨n, rfl⟩ : ∃ n, fuel = n + 1 := ⟨fuel - 1, by omega⟩
    have : addrs = [] := by cases addrs with | nil => rfl | cons _ _ => simp at hc
    subst this
    refine ⟨t, ?_, by simpa [realLoop] using hK⟩
    simp [forLazy, hD]
  | cons p ds ih =>
    intro addrs pre fuel iv t r hD hc hK hord hf
    obtain ⟨n, rfl⟩ : ∃ n, fuel = n + 1 := ⟨fuel - 1, by omega⟩
    cases addrs with
    | nil => simp at hc
    | cons a as =>
      simp only [List.map_cons, List.cons.injEq] at hc
      obtain ⟨hca, hcs⟩ := hc
      have hget : (D t)[pre.length]? = some (Val.ref a) := by rw [hD]; simp
      obtain ⟨a0, b0⟩ := p
      have hab : a0 ≤ b0 := hord (a0, b0) (by simp)
      have hb := hbody t a (a0, b0) iv hca hab (by rw [hK]; exact Int.natCast_nonneg r)
      simp only [forLazy, hget, hkeep, if_true, realLoop]
      by_cases hlt : r < a0
      · obtain ⟨t', h1, h2, h3, h4⟩ := hb.1 (by rw [hK]; exact Int.ofNat_lt.2 hlt)
        rw [h1, if_pos hlt]
        exact ⟨t', rfl, by rw [h2, hK]⟩
      · obtain ⟨t', h1, h2, h3, h4⟩ := hb.2 (by rw [hK]; exact fun h => hlt (Int.ofNat_lt.1 h))
        rw [h1, if_neg hlt]
        obtain ⟨t2, g1, g2⟩ := ih as (pre ++ [Val.ref a]) n (iv + 1) t' (r + (b0 - a0))
          (by rw [h4, hD]; simp) (by rw [h3]; exact hcs) (by rw [h2, hK, Int.natCast_add, Int.natCast_sub hab])
          (fun q hq => hord q (List.mem_cons_of_mem _ hq)) (by simp at hf; omega)
        refine ⟨t2, ?_, g2⟩
        simpa using g1

/-- one round of `_get_apparent_index`: the source's subtraction in ℤ is the model's in ℕ -/
theorem appLoop_round {r a b lo app : Nat} (hloa : lo ≤ a) (hab : a < b) (hnot : ¬ (a ≤ r ∧ r < b)) (hge : ¬ r < a)
    (hlo : r ≤ app + lo) (hle : app ≤ r) :
    r ≤ app - (b - a) + b ∧ app - (b - a) ≤ r ∧
      ((app - (b - a) : Nat) : Int) = (app : Int) - ((b : Int) - (a : Int)) := by
  omega

/-- the loop `for d_start, d_stop in self.dead_indices: if index < d_start: break; apparent_index -= d_stop - d_start`
    read through the store (`I` = the observed index, kept; `K` = the running value) -/
theorem cells_app_loop {σ ρ : Type} (H : σ → Heap α Unit) (D : σ → List (Val α Unit)) (K I : σ → Int)
    (keep : Val α Unit → Bool) (bind : Int → Val α Unit → σ → σ) (body : Stmt σ ρ) (hkeep : ∀ v, keep v = true) (r : Nat)
    (hbody : ∀ (t : σ) (a : Nat) (p : Nat × Nat) (iv : Int), (H t).cell a = ivCell p → p.1 ≤ p.2 → I t = (r : Int) →
      ((r : Int) < p.1 → ∃ t', body (bind iv (.ref a) t) = (.brk, t') ∧ K t' = K t ∧ I t' = I t ∧ H t' = H t ∧ D t' = D t) ∧
      (¬ (r : Int) < p.1 → ∃ t', body (bind iv (.ref a) t) = (.next, t') ∧ K t' = K t - ((p.2 : Int) - p.1) ∧ I t' = I t ∧
        H t' = H t ∧ D t' = D t)) :
    ∀ (dead : List (Nat × Nat)) (addrs : List Nat) (pre : List (Val α Unit)) (fuel : Nat) (iv : Int) (t : σ)
      (lo hi app : Nat),
      D t = pre ++ addrs.map Val.ref → addrs.map (H t).cell = dead.map ivCell → K t = (app : Int) → I t = (r : Int) →
      Chain lo dead hi → (∀ p ∈ dead, ¬ (p.1 ≤ r ∧ r < p.2)) → r ≤ app + lo → app ≤ r → dead.length < fuel →
      ∃ t', forLazy D keep bind body fuel pre.length iv t = (.next, t') ∧ K t' = (appLoop r app dead : Int) := by
  intro dead
  induction dead with
  | nil =>
    intro addrs pre fuel iv t lo hi app hD hc hK _ _ _ _ _ hf
    obtain ⟨n, rfl⟩ : ∃ n, fuel = n + 1 := ⟨fuel - 1, by omega⟩
    have : addrs = [] := by cases addrs with | nil => rfl | cons _ _ => simp at hc
    subst this
    refine ⟨t, ?_, by simpa [appLoop] using hK⟩
    simp [forLazy, hD]
  | cons p ds ih =>
    intro addrs pre fuel iv t lo hi app hD hc hK hI hch hl hlo hle hf
    obtain ⟨n, rfl⟩ : ∃ n, fuel = n + 1 := ⟨fuel - 1, by omega⟩
    cases addrs with
    | nil => simp at hc
    | cons a as =>
      simp only [List.map_cons, List.cons.injEq] at hc
      obtain ⟨hca, hcs⟩ := hc
      have hget : (D t)[pre.length]? = some (Val.ref a) := by rw [hD]; simp
      obtain ⟨a0, b0⟩ := p
      obtain ⟨hloa, hab, hch'⟩ := hch
      have hnot : ¬ (a0 ≤ r ∧ r < b0) := hl (a0, b0) (by simp)
      have hb := hbody t a (a0, b0) iv hca (Nat.le_of_lt hab) hI
      simp only [forLazy, hget, hkeep, if_true, appLoop]
      by_cases hlt : r < a0
      · obtain ⟨t', h1, h2, _, _, _⟩ := hb.1 (Int.ofNat_lt.2 hlt)
        rw [h1, if_pos hlt]
        exact ⟨t', rfl, by rw [h2, hK]⟩
      · obtain ⟨t', h1, h2, h3, h4, h5⟩ := hb.2 (fun h => hlt (Int.ofNat_lt.1 h))
        rw [h1, if_neg hlt]
        obtain ⟨hlo', hle', hcast⟩ := appLoop_round hloa hab hnot hlt hlo hle
        obtain ⟨t2, g1, g2⟩ := ih as (pre ++ [Val.ref a]) n (iv + 1) t' b0 hi (app - (b0 - a0))
          (by rw [h5, hD]; simp) (by rw [h4]; exact hcs) (by rw [h2, hK, hcast]) (h3.trans hI) hch'
          (fun q hq => hl q (List.mem_cons_of_mem _ hq)) hlo' hle' (by simp at hf; omega)
        refine ⟨t2, ?_, g2⟩
        simpa using g1

end RepSec

end C11
